import HqModel.Lemmas.SysPair
import Driver.CoreLib
/-!
Driver of the COMPOSED model `Sys` (job layer M4 + core M1, `HqModel/Sys/Model.lean`): the link check of notes/sys.md §8.
Input (stdin): the merged world-action trace built by checks/sys_link.py from the job view and the core view of the same
cases: `C <idx> reserve=R max=M` / `S <action…> X <expected callbacks | - | ?>` / `E`.
Per action it evaluates the side conditions `Sys.OpOk` of the `sys_*` theorems, runs `Sys.step`, compares the callbacks the
composed model delivers with the `cb.*` ops the real job layer received, and evaluates the conclusion of `sys_registry` on
the new state. Output: a trace (`case` / `op` / `mon FAIL sys.… ` / `end`).
-/
open HqModel HqModel.Sys

namespace Replay

def parseOptNat (s : String) : Option (Option Nat) := if s = "-" then some none else s.toNat?.map some

def parseRanges (s : String) : Option Job.IntArray :=
  if s = "-" then some [] else
  (s.splitOn ";").mapM fun r =>
    match r.splitOn ":" with
    | [a, b, c] => do
      let x ← a.toNat?; let y ← b.toNat?; let z ← c.toNat?
      pure ({ start := x, count := y, step := z } : Job.IntRange)
    | _ => none

def parseGraph (s : String) : Option (List (Nat × List Nat)) :=
  (s.splitOn ";").mapM fun item =>
    match item.splitOn ":" with
    | [a, b] => do
      let t ← a.toNat?
      let deps ← if b = "" then some [] else (b.splitOn ".").mapM String.toNat?
      pure (t, deps)
    | _ => none

def parseStatus : String → Option Job.Status
  | "waiting" => some .waiting | "running" => some .running | "finished" => some .finished
  | "failed" => some .failed | "canceled" => some .canceled | "aborted" => some .aborted
  | "opened" => some .opened | _ => none

def parseNts (s : String) : Option (List Core.NewTask) :=
  if s = "-" then some [] else (s.splitOn ",").mapM CoreDriver.parseNewTask

/-- one world action from the merged trace -/
def parseOp (s : State) (toks : List String) : Option Op :=
  match toks with
  | ["open", mf] => do pure (.openJob (← parseOptNat mf))
  | ["submit", job, mf, "array", a, b, nts] => do
    pure (.submit (← parseOptNat job) (← parseOptNat mf) (.array (← parseRanges a) (← parseOptNat b)) (← parseNts nts))
  | ["submit", job, mf, "graph", g, nts] => do
    pure (.submit (← parseOptNat job) (← parseOptNat mf) (.graph (← parseGraph g)) (← parseNts nts))
  | ["close", j] => do pure (.close (← j.toNat?))
  | ["cancel", j, ids] => do pure (.cancel (← j.toNat?) (← CoreDriver.parseTidsSep "," ids))
  | ["forget", j, sts] => do
    let allowed ← if sts = "-" then some [] else (sts.splitOn ",").mapM parseStatus
    pure (.forget (← j.toNat?) allowed)
  | "core" :: rets :: sub => do
    let rets ← CoreDriver.parseRets rets
    let (cop, _) ← CoreDriver.subOp s.core rets sub
    match cop with
    | .newWorker w => pure (.newWorker w)
    | .removeWorker w reason f order rets => pure (.removeWorker w reason f order rets)
    | .newRq rqv => pure (.newRq rqv)
    | .update w us rets => pure (.update w us rets)
    | .retracted w ids => pure (.retracted w ids)
    | .schedule sol => pure (.schedule sol)
    | _ => none
  | _ => none

def showTid (t : TaskId) : String := s!"{t.1}.{t.2}"
def showCb : Core.Cb → String
  | .started t _ _ _ => s!"started:{showTid t}"
  | .finished t => s!"finished:{showTid t}"
  | .error t _ => s!"error:{showTid t}"
  | .workerNew w => s!"wnew:{w}"
  | .workerLost w _ _ => s!"wlost:{w}"


def tidLt (a b : TaskId) : Bool := a.1 < b.1 || (a.1 == b.1 && a.2 < b.2)

partial def loop (h : IO.FS.Stream) (s : State) (dead : Bool) (pendingCbs : List String) : IO Unit := do
  let line ← h.getLine
  if line.isEmpty then return ()
  let toks := (line.trimAscii.toString.splitOn " ").filter (· ≠ "")
  match toks with
  | "C" :: idx :: params =>
    let get (key : String) (d : Nat) : Nat :=
      match params.findSome? (fun t => CoreDriver.dropPrefix (key ++ "=") t) with
      | some v => v.toNat?.getD d
      | none => d
    IO.println s!"case {idx} 0 sys {" ".intercalate params}"
    loop h (initState (get "reserve" 1) (get "max" 1)) false []
  | ["E"] =>
    IO.println "end"
    loop h s dead []
  | "S" :: rest =>
    if dead then loop h s dead [] else
    let body := rest.takeWhile (· ≠ "X")
    let exp := (rest.dropWhile (· ≠ "X")).drop 1 |>.headD "-"
    IO.println s!"op {" ".intercalate body}"
    match parseOp s body with
    | none =>
      IO.println "mon FAIL sys.parse bad-action the merged action could not be parsed"
      loop h s true []
    | some op =>
      if !decide (OpOk s op) then
        IO.println "mon FAIL sys.hyp opok-false a side condition of the sys_* theorems (Sys.OpOk) is false on the pre-state of this real action"
      match step s op with
      | .error e =>
        let sig := match e with
          | .job _ => "stop-job" | .core _ => "stop-core" | .badRets => "bad-rets" | .badSubmit => "bad-submit" | .badCancel => "bad-cancel"
        IO.println s!"mon FAIL sys.step {sig} the composed model stops on an action the real server performed without panic: {repr e}"
        loop h s true []
      | .ok (s', o) =>
        let cbs := pendingCbs ++ o.core.cbs.map showCb
        let pend ← if exp = "?" then pure cbs else do
          let got := if cbs.isEmpty then "-" else ",".intercalate cbs
          if got ≠ exp then
            IO.println s!"mon FAIL sys.callbacks callbacks-differ the composed model delivers [{got}] to the job layer, the real job layer received [{exp}]"
          pure []
        let ids := (s'.core.tasks.map (·.id))
        let reg := ids.all s'.job.sent.contains && s'.job.sent.all ids.contains
        if !reg then
          IO.println "mon FAIL sys.registry registry-differs in the composed state the core task map and the job layer's set of unfinished sent tasks differ (conclusion of sys_registry)"
        loop h s' false pend
  | _ => loop h s dead pendingCbs

end Replay

def main : IO Unit := do
  let stdin ← IO.getStdin
  Replay.loop stdin {} false []
