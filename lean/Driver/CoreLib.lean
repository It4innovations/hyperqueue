import HqModel.Base.Proto
import HqModel.Core.Run
import HqModel.Lemmas.CoreInvStep
import Driver.CoreNpLib
/-! Driver of the tako core model (component `core`), see /verif/FRAMEWORK.md and harness/src/coreview.rs. -/
open HqModel HqModel.Proto HqModel.Core

namespace CoreDriver

def showTid (t : TaskId) : String := s!"{t.1}.{t.2}"
def sortTids (ts : List TaskId) : List TaskId := sortBy tidLt ts
def showTids (ts : List TaskId) : String := showList showTid ts

def parseTid (s : String) : Option TaskId :=
  match s.splitOn "." with
  | [a, b] => do let x ← a.toNat?; let y ← b.toNat?; pure (x, y)
  | _ => none

def parseTidsSep (sep : String) (s : String) : Option (List TaskId) :=
  if s = "-" || s = "" then some [] else (s.splitOn sep).mapM parseTid

def parseNatsSep (sep : String) (s : String) : Option (List Nat) :=
  if s = "-" || s = "" then some [] else (s.splitOn sep).mapM String.toNat?

def dropPrefix (pre s : String) : Option String :=
  if s.startsWith pre then some (s.drop pre.length).toString else none

def parseRqEntry (e : String) : Option RqEntry :=
  match e.splitOn ":" with
  | [r, a] => do
    let r ← r.toNat?
    let pol ← if a = "all" then some Policy.all else a.toNat?.map Policy.amount
    pure ({ res := r, pol := pol } : RqEntry)
  | _ => none

def parseRq (s : String) : Option Rq := do
  -- n<nodes>t<ms>e<entries>
  let s ← dropPrefix "n" s
  match s.splitOn "t" with
  | [n, rest] =>
    match rest.splitOn "e" with
    | [t, es] =>
      let nodes ← n.toNat?
      let mt ← t.toNat?
      let entries ← (if es = "-" then some [] else (es.splitOn "+").mapM parseRqEntry)
      pure { nNodes := nodes, entries := entries, minTime := mt }
    | _ => none
  | _ => none

def parseCrash (s : String) : Option CrashLimit :=
  if s = "N" then some .never else if s = "U" then some .unlimited else s.toNat?.map .max

def parseNewTask (s : String) : Option NewTask :=
  match s.splitOn ":" with
  | [t, r, p, c, i, k, d] => do
    let id ← parseTid t
    let rq ← dropPrefix "r" r >>= String.toNat?
    let prio ← dropPrefix "p" p >>= String.toInt?
    let cl ← dropPrefix "c" c >>= parseCrash
    let inst ← dropPrefix "i" i >>= String.toNat?
    let cr ← dropPrefix "k" k >>= String.toNat?
    let deps ← dropPrefix "d" d >>= parseTidsSep "+"
    pure { id := id, rq := rq, prio := prio, crashLimit := cl, deps := deps, inst := inst, crashes := cr }
  | _ => none

def parseUpdate (s : String) : Option Update :=
  match s.splitOn ":" with
  | ["F", t] => parseTid t |>.map .finished
  | ["X", t] => parseTid t |>.map .failed
  | ["R", t, v] => do pure (.running (← parseTid t) (← v.toNat?))
  | ["P", t, v] => do pure (.runningPrefilled (← parseTid t) (← v.toNat?))
  | ["J", t, v] => do
    let t ← parseTid t
    let v ← if v = "-" then some none else v.toNat?.map some
    pure (.reject t v)
  | ["E", r, v] => do pure (.enable (← r.toNat?) (← v.toNat?))
  | _ => none

def parseSn (s : String) : Option (List SnEntry) :=
  if s = "-" then some [] else (s.splitOn ";").mapM fun e =>
    match e.splitOn ":" with
    | [rq, v, counts, taken] => do
      let rq ← rq.toNat?
      let v ← v.toNat?
      let counts ← (counts.splitOn "+").mapM fun c =>
        match c.splitOn "x" with
        | [w, n] => do pure ((← w.toNat?), (← n.toNat?))
        | _ => none
      let taken ← parseTidsSep "+" taken
      pure { rq := rq, v := v, counts := counts, taken := taken }
    | _ => none

def parseMn (s : String) : Option (List MnEntry) :=
  if s = "-" then some [] else (s.splitOn ";").mapM fun e =>
    match e.splitOn ":" with
    | [rq, sets] => do
      let rq ← rq.toNat?
      let sets ← (sets.splitOn "/").mapM (parseNatsSep "+")
      pure { rq := rq, sets := sets }
    | _ => none

def parsePf (s : String) : Option (List (Nat × List Nat)) :=
  if s = "-" then some [] else (s.splitOn ";").mapM fun e =>
    match e.splitOn ":" with
    | [rq, ws] => do pure ((← rq.toNat?), (← parseNatsSep "+" ws))
    | _ => none

def parseRets (s : String) : Option (List (List TaskId)) :=
  if s = "-" then some [] else (s.splitOn "/").mapM fun l => if l = "0" then some [] else parseTidsSep "+" l

/-- split a token list at the `|` tokens -/
def splitOps (toks : List String) : List (List String) :=
  let r := toks.foldl (fun (acc : List (List String) × List String) t =>
    if t = "|" then (acc.1 ++ [acc.2], []) else (acc.1, acc.2 ++ [t])) ([], [])
  r.1 ++ [r.2]

/-- one sub-operation as a `Core.Op`; `rets` is threaded through (consumed by failures) -/
def subOp (s : State) (rets : List (List TaskId)) (toks : List String) : Option (Op × List (List TaskId)) :=
  match toks with
  | ["wnew", id, tot, g, term] => do
    let id ← id.toNat?
    let tot ← dropPrefix "tot=" tot >>= parseNatsSep ","
    let g ← dropPrefix "g=" g
    let term ← dropPrefix "term=" term
    let term ← if term = "-" then some none else term.toNat?.map some
    let w : Worker := { id := id, assign := .sn [] tot [], total := tot, group := g, termination := term }
    pure (.newWorker w, rets)
  | ["wlost", id, reason, fail, order] => do
    let id ← id.toNat?
    let order ← parseTidsSep "," order
    pure (.removeWorker id reason (fail = "1") order rets, [])
  | ["newrq", id, vs] => do
    let id ← id.toNat?
    let rqv ← (vs.splitOn "/").mapM parseRq
    if id ≠ s.rqs.length then none else pure (.newRq rqv, rets)
  | ["newtasks", items] => do
    let nts ← (items.splitOn ",").mapM parseNewTask
    pure (.newTasks nts, rets)
  | ["cancel", ids] => do
    let ids ← parseTidsSep "," ids
    pure (.cancel ids, rets)
  | ["update", w, items] => do
    let w ← w.toNat?
    let us ← if items = "-" then some [] else (items.splitOn ",").mapM parseUpdate
    pure (.update w us rets, [])
  | ["retracted", w, ids] => do
    let w ← w.toNat?
    let ids ← parseTidsSep "," ids
    pure (.retracted w ids, rets)
  | ["sched", now, sn, mn, pf] => do
    let now ← dropPrefix "now=" now >>= String.toNat?
    let sn ← dropPrefix "sn=" sn >>= parseSn
    let mn ← dropPrefix "mn=" mn >>= parseMn
    let pf ← dropPrefix "pf=" pf >>= parsePf
    pure (.schedule { now := now, sn := sn, mn := mn, prefillOrders := pf }, rets)
  | _ => none

/-- the side conditions of the history theorems (`C05.c05_inv_partial`, `c05_resinv_reachable`,
`C01/C08.c0x_core_forgets_reachable`), evaluated by the model on the pre-state of every operation of a real trace:
which of them fail (as monitor lines; `no-saturation` is the mechanism of finding F29) -/
def hypFails (s : State) (op : Op) : List String :=
  let f (clause : String) (b : Bool) (sig : String) : List String :=
    if b then [] else [s!"mon FAIL {clause} {sig} a side condition of the history theorems is false on the pre-state of this operation of a real trace"]
  (match op with
   | .newWorker w => f "core.hyp" (decide (FreshWorker w)) "fresh-worker"
   | .newRq rqv => f "core.hyp" (decide (RqvOk rqv)) "request-names-resource-twice"
   | .update w us rets => f "core.hyp" (decide (UpdatesOk UpdProto s w us rets)) "reject-protocol"
   | .schedule sol => f "core.hyp" (decide (QueueOkD s)) "queue-ok" ++ f "core.hyp" (decide (SolMnOk s sol)) "mn-placement-for-sn-request" ++
       f "core.hyp" (decide (RdIn s)) "redirect-target-holds-task"
   | _ => []) ++ f "c05.hyp" (decide (NoSaturation s op)) "no-saturation"

/-- `NoIdReuse` (hypothesis of the message-level theorems): the ids a `newTasks` op submits were never submitted
before in this case and are pairwise distinct -/
def reuseFails (seen : List TaskId) : Op → List TaskId × List String
  | .newTasks nts =>
    let ids := nts.map (·.id)
    let dup := ids.any (fun i => seen.contains i) || !ids.eraseDups.length == ids.length
    (seen ++ ids, if dup then ["mon FAIL core.hyp task-id-submitted-twice a side condition of the history theorems is false on this operation of a real trace"] else [])
  | _ => (seen, [])

def runOps (s : State) (seen : List TaskId) (rets : List (List TaskId)) : List (List String) → Out → List String →
    Option (M (State × Out) × List TaskId × List String)
  | [], out, mons => some (.ok (s, out), seen, mons)
  | toks :: rest, out, mons =>
    match subOp s rets toks with
    | none => none
    | some (op, rets1) =>
      let (seen1, m2) := reuseFails seen op
      let mons := mons ++ hypFails s op ++ m2 ++ npMons s seen op
      match Core.step s op with
      | .error e => some (.error e, seen1, mons)
      | .ok (s1, o) => runOps s1 seen1 rets1 rest (out.add o) mons

/-! printing (must match harness/src/coreview.rs) -/

def showState : TS → String
  | .waiting n => s!"W{n}"
  | .assigned w v => s!"A{w}.{v}"
  | .prefilled w => s!"P{w}"
  | .retracting w => s!"S{w}"
  | .running w v => s!"R{w}.{v}"
  | .runningMN ws => "M" ++ "+".intercalate (ws.map toString)
  | .finished => "F"

def showMsgs (msgs : List Msg) : List String :=
  let workers := sortBy (· < ·) ((msgs.map fun m => match m with
    | .compute w _ => w | .retract w _ => w | .cancel w _ => w).eraseDups)
  let computeLines := workers.filterMap fun w =>
    let items := (msgs.filterMap fun m => match m with
      | .compute w' l => if w' = w then some l else none
      | _ => none).flatten
    if items.isEmpty then none else
    let items := sortBy (fun (a b : TaskId × Nat × Option Nat × List Nat) => tidLt a.1 b.1) items
    some s!"out msg {w} compute {",".intercalate (items.map fun (t, i, rv, nodes) =>
      s!"{showTid t}:{i}:{match rv with | some v => toString v | none => "p"}:{if nodes.isEmpty then "-" else "+".intercalate (nodes.map toString)}")}"
  let idLines (kind : String) (sel : Msg → Option (Nat × List TaskId)) := workers.filterMap fun w =>
    let ids := (msgs.filterMap fun m => match sel m with
      | some (w', l) => if w' = w then some l else none
      | none => none).flatten
    if ids.isEmpty then none else some s!"out msg {w} {kind} {showTids (sortTids ids)}"
  computeLines ++ idLines "retract" (fun m => match m with | .retract w l => some (w, l) | _ => none)
    ++ idLines "cancel" (fun m => match m with | .cancel w l => some (w, l) | _ => none)

def showCb : Cb → String
  | .started t i ws rv => s!"out cb started {showTid t} {i} {showNatList ws} {rv}"
  | .finished t => s!"out cb finished {showTid t}"
  | .error t cons => s!"out cb error {showTid t} {showTids (sortTids cons)}"
  | .workerNew w => s!"out cb wnew {w}"
  | .workerLost w running reason => s!"out cb wlost {w} {showTids running} {reason}"

def showQueueEntry (p : Int × List TaskId) : String := s!"{p.1}={"+".intercalate (p.2.map showTid)}"

def snapshot (s : State) : List String :=
  let tasks := sortBy (fun (a b : Task) => tidLt a.id b.id) s.tasks
  let tl := tasks.map fun t =>
    s!"out t {showTid t.id} {showState t.state} c={showTids (sortTids t.consumers)} d={showTids (sortTids t.deps)} rq={t.rq} i={t.inst} k={t.crashes}"
  let workers := sortBy (fun (a b : Worker) => a.id < b.id) s.workers
  let wl := workers.map fun w =>
    let a := match w.assign with
      | .sn assigned free pre => s!"sn a={showTids (sortTids assigned)} f={showNatList free} p={showTids (sortTids pre)}"
      | .mn t root st => s!"mn {showTid t} {if root then 1 else 0} {if st then 1 else 0}"
    let blocked := sortBy (fun (a b : Nat × Nat) => a.1 < b.1 || (a.1 == b.1 && a.2 < b.2)) w.blocked
    s!"out w {w.id} {a} tot={showNatList w.total} b={showList (fun (p : Nat × Nat) => s!"{p.1}.{p.2}") blocked} g={w.group} s={if w.stopping then 1 else 0}"
  let ql := (List.range s.queues.length).filterMap fun i =>
    match s.queues[i]? with
    | none => none
    | some q =>
      let ready := if q.ready.isEmpty then "-" else ";".intercalate (q.ready.map showQueueEntry)
      let pf := match q.prefill with
        | some (p, ids) => showQueueEntry (p, sortTids ids)
        | none => "-"
      some s!"out q {i} {ready} pf={pf}"
  let rd := sortBy (fun (a b : TaskId × Nat × Nat) => tidLt a.1 b.1) s.redirects
  tl ++ wl ++ ql ++ [s!"out rd {showList (fun (r : TaskId × Nat × Nat) => s!"{showTid r.1}>{r.2.1}.{r.2.2}") rd}"]

structure DState where
  s : State := {}
  /-- every task id submitted so far in this case -/
  seen : List TaskId := []

def step (d : DState) (toks : List String) : DState × List String :=
  match toks with
  | "multi" :: rets :: rest =>
    match dropPrefix "rets=" rets >>= parseRets with
    | none => (d, ["out !bad-op"])
    | some rets =>
      match runOps d.s d.seen rets (splitOps rest) {} [] with
      | none => (d, ["out !bad-op"])
      | some (.error (.panic site), _, mons) =>
        (d, [if site.startsWith "!bad-choice" then s!"out {site}" else "out !panic core"] ++ mons)
      | some (.ok (s', out), seen, mons) =>
        ({ s := s', seen := seen },
         showMsgs out.msgs ++ out.cbs.map showCb ++ [s!"out flag {if s'.needSched then 1 else 0}"] ++ snapshot s' ++ mons)
  | _ => (d, ["out !bad-op"])

def reset (toks : List String) : DState :=
  let get (key : String) (d : Nat) : Nat :=
    match toks.findSome? (fun t => dropPrefix (key ++ "=") t) with
    | some v => v.toNat?.getD d
    | none => d
  { s := { prefillReserve := get "reserve" 1, prefillMax := get "max" 1 } }

def driver : Driver DState := { reset := reset, step := step }

end CoreDriver
