import HqModel.Lemmas.AllocBasic
/-!
Every claim procedure of `pool.rs` is a composition of the primitive steps (`Claims`), whatever the policy, the group
set and the fraction pick are. Consequently (`Claims.inv`) each of them preserves the pool invariant.
-/
namespace HqModel.Alloc

theorem takeIndices_claims {gid n : Nat} {g g' : Group} {acc acc' : List AIdx} {gs : List Group}
    (h : takeIndices gid n g acc = .ok (g', acc')) (hg : gs[gid]? = some g) :
    Claims gs acc (gs.set gid g') acc' ∧ g'.fracs = g.fracs := by
  induction n generalizing g acc gs with
  | zero =>
    simp only [takeIndices, Except.ok.injEq, Prod.mk.injEq] at h
    obtain ⟨rfl, rfl⟩ := h
    rw [set_self_of_get hg]
    exact ⟨.refl, rfl⟩
  | succ n ih =>
    simp only [takeIndices] at h
    split at h
    · cases h
    · rename_i i rest hfree
      have hp : Prim gs acc (gs.set gid { g with free := rest }) (acc ++ [⟨i, gid, 0⟩]) := .whole hg hfree
      have := ih h (get_set_same _ hg)
      rw [List.set_set] at this
      exact ⟨.step hp this.1, this.2⟩

theorem takeFracOrSplit_cases {gid fr : Nat} {pick : Option Nat} {g g' : Group} {acc acc' : List AIdx}
    (h : takeFracOrSplit gid fr pick g acc = .ok (g', acc')) :
    (fr = 0 ∧ g' = g ∧ acc' = acc) ∨
    (0 < fr ∧ ∃ i f, fget g.fracs i = some f ∧ fr ≤ f ∧ g' = { g with fracs := fset g.fracs i (f - fr) } ∧
      acc' = acc ++ [⟨i, gid, fr⟩]) ∨
    (0 < fr ∧ ∃ i rest, g.free = i :: rest ∧ g' = { free := rest, fracs := fset g.fracs i (FPU - fr) } ∧
      acc' = acc ++ [⟨i, gid, fr⟩]) := by
  unfold takeFracOrSplit at h
  split at h
  · rename_i h0
    simp only [Except.ok.injEq, Prod.mk.injEq] at h
    exact .inl ⟨h0, h.1.symm, h.2.symm⟩
  · rename_i hne
    split at h
    · cases h
    · rename_i i f hb
      simp only [Except.ok.injEq, Prod.mk.injEq] at h
      obtain ⟨hget, hle⟩ := bestMatch_some hb
      exact .inr (.inl ⟨Nat.pos_of_ne_zero hne, i, f, hget, hle, h.1.symm, h.2.symm⟩)
    · split at h
      · cases h
      · rename_i i rest hfree
        simp only [Except.ok.injEq, Prod.mk.injEq] at h
        exact .inr (.inr ⟨Nat.pos_of_ne_zero hne, i, rest, hfree, h.1.symm, h.2.symm⟩)

theorem takeFracOrSplit_claims {gid fr : Nat} {pick : Option Nat} {g g' : Group} {acc acc' : List AIdx}
    {gs : List Group} (h : takeFracOrSplit gid fr pick g acc = .ok (g', acc')) (hg : gs[gid]? = some g)
    (hfr : fr < FPU) : Claims gs acc (gs.set gid g') acc' := by
  rcases takeFracOrSplit_cases h with ⟨-, rfl, rfl⟩ | ⟨hpos, i, f, hget, hle, rfl, rfl⟩ |
    ⟨hpos, i, rest, hfree, rfl, rfl⟩
  · rw [set_self_of_get hg]
    exact .refl
  · exact .single (.frac hg hget hle hpos)
  · exact .single (.split hg hfree hpos hfr)

theorem bestVal_none_of_bestMatch {m : FMap} {fr : Nat} {pick : Option Nat} (hb : bestMatch m fr pick = .ok none) :
    bestVal m fr = none := by
  unfold bestMatch at hb
  split at hb
  · assumption
  · split at hb
    · split at hb
      · split at hb <;> cases hb
      · cases hb
    · split at hb <;> cases hb

theorem tryTakeFrac_cases {gid fr : Nat} {pick : Option Nat} {g g' : Group} {acc acc' : List AIdx} {b : Bool}
    (h : tryTakeFrac gid fr pick g acc = .ok (g', acc', b)) :
    (b = false ∧ g' = g ∧ acc' = acc ∧ (fr ≠ 0 → bestVal g.fracs fr = none)) ∨
    (b = true ∧ 0 < fr ∧ ∃ i f, fget g.fracs i = some f ∧ fr ≤ f ∧
      g' = { g with fracs := fset g.fracs i (f - fr) } ∧ acc' = acc ++ [⟨i, gid, fr⟩]) := by
  unfold tryTakeFrac at h
  split at h
  · rename_i h0
    simp only [Except.ok.injEq, Prod.mk.injEq] at h
    exact .inl ⟨h.2.2.symm, h.1.symm, h.2.1.symm, fun hne => absurd h0 hne⟩
  · rename_i hne
    split at h
    · cases h
    · rename_i i f hb
      simp only [Except.ok.injEq, Prod.mk.injEq] at h
      obtain ⟨hget, hle⟩ := bestMatch_some hb
      exact .inr ⟨h.2.2.symm, Nat.pos_of_ne_zero hne, i, f, hget, hle, h.1.symm, h.2.1.symm⟩
    · rename_i hb
      simp only [Except.ok.injEq, Prod.mk.injEq] at h
      exact .inl ⟨h.2.2.symm, h.1.symm, h.2.1.symm, fun _ => bestVal_none_of_bestMatch hb⟩

theorem tryTakeFrac_claims {gid fr : Nat} {pick : Option Nat} {g g' : Group} {acc acc' : List AIdx} {b : Bool}
    {gs : List Group} (h : tryTakeFrac gid fr pick g acc = .ok (g', acc', b)) (hg : gs[gid]? = some g) :
    Claims gs acc (gs.set gid g') acc' := by
  rcases tryTakeFrac_cases h with ⟨-, rfl, rfl, -⟩ | ⟨-, hpos, i, f, hget, hle, rfl, rfl⟩
  · rw [set_self_of_get hg]
    exact .refl
  · exact .single (.frac hg hget hle hpos)

/-- One iteration of the round-robin loop, for any property `Q` of its result: one case per way the body ends or goes
on. Runs that succeed (`scatterLoop_induct`) and runs that must not stop (`scatter_iter`) are both read off here. -/
theorem scatterLoop_iter {set : Option (List Nat)} {pick : Option Nat}
    {Q : Except Stop (List Group × List AIdx) → Prop} {fuel : Nat} {gs : List Group} {units fr index : Nat}
    {acc : List AIdx}
    (done : units = 0 → fr = 0 → Q (.ok (gs, acc)))
    (oob : (∀ gidx, setGet set index = some gidx → gs[gidx]? = none) → Q (.error (.panic .oob)))
    (whole : ∀ {gidx g i rest}, setGet set index = some gidx → gs[gidx]? = some g → 0 < units → g.free = i :: rest →
      Q (scatterLoop set pick fuel (gs.set gidx { g with free := rest }) (units - 1) fr
        ((index + 1) % setLen set gs.length) (acc ++ [⟨i, gidx, 0⟩])))
    (skip : ∀ {gidx g}, setGet set index = some gidx → gs[gidx]? = some g → g.free = [] →
      (units = 0 → 0 < fr ∧ bestVal g.fracs fr = none) →
      Q (scatterLoop set pick fuel gs units fr ((index + 1) % setLen set gs.length) acc))
    (bad : ∀ {gidx g e}, setGet set index = some gidx → gs[gidx]? = some g → units = 0 → 0 < fr →
      bestMatch g.fracs fr pick = .error e → Q (.error e))
    (frac : ∀ {gidx g i f}, setGet set index = some gidx → gs[gidx]? = some g → units = 0 → 0 < fr →
      bestMatch g.fracs fr pick = .ok (some (i, f)) →
      Q (scatterLoop set pick fuel (gs.set gidx { g with fracs := fset g.fracs i (f - fr) }) 0 0
        ((index + 1) % setLen set gs.length) (acc ++ [⟨i, gidx, fr⟩])))
    (split : ∀ {gidx g i rest}, setGet set index = some gidx → gs[gidx]? = some g → units = 0 → 0 < fr →
      bestVal g.fracs fr = none → g.free = i :: rest →
      Q (scatterLoop set pick fuel (gs.set gidx { free := rest, fracs := fset g.fracs i (FPU - fr) }) 0 0
        ((index + 1) % setLen set gs.length) (acc ++ [⟨i, gidx, fr⟩]))) :
    Q (scatterLoop set pick (fuel + 1) gs units fr index acc) := by
  rw [scatterLoop]
  by_cases hd : units = 0 ∧ fr = 0
  · rw [if_pos hd]
    exact done hd.1 hd.2
  rw [if_neg hd]
  cases hidx : setGet set index with
  | none => exact oob fun gidx h => by rw [hidx] at h; cases h
  | some gidx =>
    dsimp only
    cases hg : gs[gidx]? with
    | none => exact oob fun gidx' h => by rw [hidx] at h; cases h; exact hg
    | some g =>
      dsimp only
      rcases Nat.eq_zero_or_pos units with rfl | hu
      · have hfr : 0 < fr := Nat.pos_of_ne_zero fun h0 => hd ⟨rfl, h0⟩
        rw [if_neg (Nat.lt_irrefl 0)]
        cases hb : bestMatch g.fracs fr pick with
        | error e => exact bad hidx hg rfl hfr hb
        | ok v =>
          cases v with
          | some kv => exact frac hidx hg rfl hfr hb
          | none =>
            dsimp only
            cases hfree : g.free with
            | cons i rest => exact split hidx hg rfl hfr (bestVal_none_of_bestMatch hb) hfree
            | nil => exact skip hidx hg hfree fun _ => ⟨hfr, bestVal_none_of_bestMatch hb⟩
      · rw [if_pos hu]
        cases hfree : g.free with
        | cons i rest => exact whole hidx hg hu hfree
        | nil => exact skip hidx hg hfree fun h0 => absurd h0 (Nat.ne_of_gt hu)

/-- induction along a successful run of the round-robin loop, one case per kind of iteration -/
theorem scatterLoop_induct {set : Option (List Nat)} {pick : Option Nat} {gs' : List Group} {acc' : List AIdx}
    {motive : List Group → Nat → Nat → Nat → List AIdx → Prop}
    (done : ∀ index, motive gs' 0 0 index acc')
    (whole : ∀ {gs units fr index acc gidx g i rest}, setGet set index = some gidx → gs[gidx]? = some g →
      0 < units → g.free = i :: rest →
      motive (gs.set gidx { g with free := rest }) (units - 1) fr ((index + 1) % setLen set gs.length)
        (acc ++ [⟨i, gidx, 0⟩]) → motive gs units fr index acc)
    (skip : ∀ {gs units fr index acc gidx g}, setGet set index = some gidx → gs[gidx]? = some g → g.free = [] →
      (units = 0 → 0 < fr ∧ bestVal g.fracs fr = none) →
      motive gs units fr ((index + 1) % setLen set gs.length) acc → motive gs units fr index acc)
    (frac : ∀ {gs fr index acc gidx g i f}, setGet set index = some gidx → gs[gidx]? = some g → 0 < fr →
      fget g.fracs i = some f → fr ≤ f → gs' = gs.set gidx { g with fracs := fset g.fracs i (f - fr) } →
      acc' = acc ++ [⟨i, gidx, fr⟩] → motive gs 0 fr index acc)
    (split : ∀ {gs fr index acc gidx g i rest}, setGet set index = some gidx → gs[gidx]? = some g → 0 < fr →
      bestVal g.fracs fr = none → g.free = i :: rest →
      gs' = gs.set gidx { free := rest, fracs := fset g.fracs i (FPU - fr) } → acc' = acc ++ [⟨i, gidx, fr⟩] →
      motive gs 0 fr index acc)
    {fuel : Nat} {gs : List Group} {units fr index : Nat} {acc : List AIdx}
    (h : scatterLoop set pick fuel gs units fr index acc = .ok (gs', acc')) : motive gs units fr index acc := by
  -- after the fraction has been taken nothing is left to do
  have hret : ∀ {fuel gs index acc}, scatterLoop set pick fuel gs 0 0 index acc = .ok (gs', acc') →
      gs' = gs ∧ acc' = acc := by
    intro fuel gs index acc h
    cases fuel with
    | zero => simp [scatterLoop] at h
    | succ fuel =>
      simp only [scatterLoop, and_self, if_true, Except.ok.injEq, Prod.mk.injEq] at h
      exact ⟨h.1.symm, h.2.symm⟩
  induction fuel generalizing gs units fr index acc with
  | zero => simp [scatterLoop] at h
  | succ fuel ih =>
    revert h
    refine scatterLoop_iter (Q := fun r => r = .ok (gs', acc') → motive gs units fr index acc) ?_ (fun _ h => nomatch h)
      (fun hidx hg hu hfree h => whole hidx hg hu hfree (ih h))
      (fun hidx hg hfree hu h => skip hidx hg hfree hu (ih h)) (fun _ _ _ _ _ h => nomatch h) ?_ ?_
    · rintro rfl rfl h
      cases h
      exact done index
    · rintro gidx g i f hidx hg rfl hfr hb h
      obtain ⟨hget, hle⟩ := bestMatch_some hb
      exact frac hidx hg hfr hget hle (hret h).1 (hret h).2
    · rintro gidx g i rest hidx hg rfl hfr hb hfree h
      exact split hidx hg hfr hb hfree (hret h).1 (hret h).2

theorem scatterLoop_claims {set : Option (List Nat)} {pick : Option Nat} {fuel : Nat} {gs gs' : List Group}
    {units fr index : Nat} {acc acc' : List AIdx}
    (h : scatterLoop set pick fuel gs units fr index acc = .ok (gs', acc')) (hfr : fr < FPU) :
    Claims gs acc gs' acc' := by
  refine scatterLoop_induct (motive := fun gs _ fr _ acc => fr < FPU → Claims gs acc gs' acc')
    (fun _ _ => .refl) ?_ (fun _ _ _ _ ih => ih) ?_ ?_ h hfr
  · intro _ _ _ _ _ _ _ _ _ _ hg _ hfree ih hfr
    exact .step (.whole hg hfree) (ih hfr)
  · rintro _ _ _ _ _ _ _ _ _ hg hpos hget hle rfl rfl _
    exact .single (.frac hg hget hle hpos)
  · rintro _ _ _ _ _ _ _ _ _ hg hpos _ hfree rfl rfl hfr
    exact .single (.split hg hfree hpos hfr)

theorem insertIdx_perm (x : AIdx) (l : List AIdx) : (insertIdx x l).Perm (x :: l) := by
  induction l with
  | nil => exact .refl _
  | cons y ys ih =>
    simp only [insertIdx]
    split
    · exact .refl _
    · exact (List.Perm.cons y ih).trans (List.Perm.swap x y ys)

theorem sortIdx_perm (l : List AIdx) : (sortIdx l).Perm l := by
  induction l with
  | nil => exact .refl _
  | cons x xs ih =>
    show (insertIdx x (sortIdx xs)).Perm (x :: xs)
    exact (insertIdx_perm x _).trans (List.Perm.cons x ih)

theorem claimScatter_claims {amount : Nat} {gs gs' : List Group} {set : Option (List Nat)} {pick : Option Nat}
    {acc' : List AIdx} (h : claimScatter amount gs set pick = .ok (gs', acc')) : Claims gs [] gs' acc' := by
  unfold claimScatter at h
  split at h
  · cases h
  · rename_i gs₁ acc₁ hl
    simp only [Except.ok.injEq, Prod.mk.injEq] at h
    obtain ⟨rfl, rfl⟩ := h
    exact (scatterLoop_claims hl (Nat.mod_lt _ FPU_pos)).permLast (sortIdx_perm _).symm

theorem swapToLast_perm (acc : List AIdx) (k : Nat) : (swapToLast acc k).Perm acc := by
  unfold swapToLast
  split
  · exact .refl _
  · rename_i f post hd
    split
    · exact .refl _
    · rename_i l rpost hr
      have hpost : post = rpost.reverse ++ [l] := by
        have := congrArg List.reverse hr
        simpa using this
      have hacc : acc = acc.take k ++ f :: post := by rw [← hd, List.take_append_drop]
      conv => rhs; rw [hacc, hpost]
      apply List.Perm.append_left
      have h1 : (l :: (rpost.reverse ++ [f])).Perm (l :: f :: rpost.reverse) :=
        List.Perm.cons l (List.perm_append_comm)
      have h2 : (f :: (rpost.reverse ++ [l])).Perm (f :: l :: rpost.reverse) :=
        List.Perm.cons f (List.perm_append_comm)
      exact h1.trans ((List.Perm.swap f l _).trans h2.symm)

/-- induction along a successful run of the `loop` of `claim_compact_from_groups`: the iteration that finds a group
containing the rest returns; otherwise the largest group is drained, with or without the fraction -/
theorem tightLoop_induct {set : Option (List Nat)} {pick : Option Nat} {gs' : List Group} {acc' : List AIdx}
    {fidx' : Option Nat} {motive : List Group → List Nat → Nat → List AIdx → Option Nat → Prop}
    (fit : ∀ {gs amounts remaining acc fidx gidx a g g1 acc1 g2},
      findMinFit set remaining amounts 0 none = some (gidx, a) → gs[gidx]? = some g →
      takeIndices gidx (remaining / FPU) g acc = .ok (g1, acc1) →
      takeFracOrSplit gidx (remaining % FPU) pick g1 acc1 = .ok (g2, acc') → gs' = gs.set gidx g2 → fidx' = fidx →
      motive gs amounts remaining acc fidx)
    (drainFrac : ∀ {gs amounts remaining acc fidx gidx a g g1 acc1 g2 acc2},
      findMaxLast set amounts 0 none = some (gidx, a) → gs[gidx]? = some g → g.free.length ≤ remaining / FPU →
      takeIndices gidx g.free.length g acc = .ok (g1, acc1) →
      tryTakeFrac gidx (remaining % FPU) pick g1 acc1 = .ok (g2, acc2, true) →
      motive (gs.set gidx g2) (amounts.set gidx 0) ((remaining / FPU - g.free.length) * FPU) acc2
        (some (acc2.length - 1)) → motive gs amounts remaining acc fidx)
    (drain : ∀ {gs amounts remaining acc fidx gidx a g g1 acc1 g2 acc2},
      findMaxLast set amounts 0 none = some (gidx, a) → gs[gidx]? = some g → g.free.length ≤ remaining / FPU →
      takeIndices gidx g.free.length g acc = .ok (g1, acc1) →
      tryTakeFrac gidx (remaining % FPU) pick g1 acc1 = .ok (g2, acc2, false) →
      motive (gs.set gidx g2) (amounts.set gidx 0) ((remaining / FPU - g.free.length) * FPU + remaining % FPU) acc2
        fidx → motive gs amounts remaining acc fidx)
    {fuel : Nat} {gs : List Group} {amounts : List Nat} {remaining : Nat} {acc : List AIdx} {fidx : Option Nat}
    (h : tightLoop set pick fuel gs amounts remaining acc fidx = .ok (gs', acc', fidx')) :
    motive gs amounts remaining acc fidx := by
  induction fuel generalizing gs amounts remaining acc fidx with
  | zero => simp [tightLoop] at h
  | succ fuel ih =>
    simp only [tightLoop] at h
    split at h
    · rename_i gidx a hfit
      split at h
      · cases h
      · rename_i g hg
        split at h
        · cases h
        · rename_i g1 acc1 h1
          split at h
          · cases h
          · rename_i g2 acc2 h2
            simp only [Except.ok.injEq, Prod.mk.injEq] at h
            obtain ⟨rfl, rfl, rfl⟩ := h
            exact fit hfit hg h1 h2 rfl rfl
    · split at h
      · cases h
      · rename_i gidx a hmax
        split at h
        · cases h
        · rename_i g hg
          split at h
          · cases h
          · rename_i hsz
            split at h
            · cases h
            · rename_i g1 acc1 h1
              split at h
              · cases h
              · rename_i g2 acc2 h2
                exact drainFrac hmax hg (Nat.le_of_not_lt hsz) h1 h2 (ih h)
              · rename_i g2 acc2 h2
                exact drain hmax hg (Nat.le_of_not_lt hsz) h1 h2 (ih h)

theorem tightLoop_claims {set : Option (List Nat)} {pick : Option Nat} {fuel : Nat} {gs gs' : List Group}
    {amounts : List Nat} {remaining : Nat} {acc acc' : List AIdx} {fidx fidx' : Option Nat}
    (h : tightLoop set pick fuel gs amounts remaining acc fidx = .ok (gs', acc', fidx')) :
    Claims gs acc gs' acc' := by
  have hstep : ∀ {gs : List Group} {gidx : Nat} {g1 g2 : Group} {acc acc1 acc2 : List AIdx},
      Claims gs acc (gs.set gidx g1) acc1 → Claims (gs.set gidx g1) acc1 (((gs.set gidx g1)).set gidx g2) acc2 →
      Claims gs acc (gs.set gidx g2) acc2 := by
    intro gs gidx g1 g2 acc acc1 acc2 c1 c2
    rw [List.set_set] at c2
    exact c1.trans c2
  refine tightLoop_induct (motive := fun gs _ _ acc _ => Claims gs acc gs' acc') ?_ ?_ ?_ h
  · rintro _ _ _ _ _ _ _ _ _ _ _ - hg h1 h2 rfl -
    exact hstep (takeIndices_claims h1 hg).1
      (takeFracOrSplit_claims h2 (get_set_same _ hg) (Nat.mod_lt _ FPU_pos))
  -- the group is drained, with or without the fraction
  all_goals
    intro _ _ _ _ _ _ _ _ _ _ _ _ _ hg _ h1 h2 ih
    exact (hstep (takeIndices_claims h1 hg).1 (tryTakeFrac_claims h2 (get_set_same _ hg))).trans ih

theorem claimTight_claims {amount : Nat} {gs gs' : List Group} {set : Option (List Nat)} {pick : Option Nat}
    {acc' : List AIdx} (h : claimTight amount gs set pick = .ok (gs', acc')) : Claims gs [] gs' acc' := by
  unfold claimTight at h
  split at h
  · cases h
  · rename_i gs₁ acc₁ hl
    simp only [Except.ok.injEq, Prod.mk.injEq] at h
    obtain ⟨rfl, rfl⟩ := h
    exact tightLoop_claims hl
  · rename_i gs₁ acc₁ k hl
    simp only [Except.ok.injEq, Prod.mk.injEq] at h
    obtain ⟨rfl, rfl⟩ := h
    exact (tightLoop_claims hl).permLast (swapToLast_perm _ _).symm

theorem popAll_claims (gs : List Group) (gid : Nat) (g : Group) (acc : List AIdx) (hg : gs[gid]? = some g) :
    Claims gs acc (gs.set gid { g with free := [] }) (acc ++ g.free.map (fun i => ⟨i, gid, 0⟩)) := by
  obtain ⟨free, fracs⟩ := g
  induction free generalizing gs acc with
  | nil =>
    simp only [List.map_nil, List.append_nil]
    rw [set_self_of_get hg]
    exact .refl
  | cons i rest ih =>
    have hp : Prim gs acc (gs.set gid ⟨rest, fracs⟩) (acc ++ [⟨i, gid, 0⟩]) := .whole (g := ⟨i :: rest, fracs⟩) hg rfl
    have := ih (gs.set gid ⟨rest, fracs⟩) (acc ++ [⟨i, gid, 0⟩]) (get_set_same _ hg)
    rw [List.set_set] at this
    simp only [List.map_cons]
    have e : acc ++ (⟨i, gid, 0⟩ :: rest.map (fun i => (⟨i, gid, 0⟩ : AIdx))) =
        acc ++ [⟨i, gid, 0⟩] ++ rest.map (fun i => (⟨i, gid, 0⟩ : AIdx)) := by simp
    rw [e]
    exact .step hp this

theorem claimAllAux_claims (pre gs : List Group) (acc : List AIdx) :
    Claims (pre ++ gs) acc (pre ++ (claimAllAux pre.length gs).1) (acc ++ (claimAllAux pre.length gs).2) := by
  induction gs generalizing pre acc with
  | nil => simp [claimAllAux]; exact .refl
  | cons g rest ih =>
    simp only [claimAllAux]
    have hg : (pre ++ g :: rest)[pre.length]? = some g := by simp
    have c1 := popAll_claims (pre ++ g :: rest) pre.length g acc hg
    have hset : (pre ++ g :: rest).set pre.length { g with free := [] } =
        (pre ++ [{ g with free := [] }]) ++ rest := by simp
    rw [hset] at c1
    have c2 := ih (pre ++ [{ g with free := [] }])
      (acc ++ g.free.reverse.map (fun i => (⟨i, pre.length, 0⟩ : AIdx)))
    simp only [List.length_append, List.length_cons, List.length_nil, Nat.zero_add] at c2
    have p : (acc ++ g.free.map (fun i => (⟨i, pre.length, 0⟩ : AIdx))).Perm
        (acc ++ g.free.reverse.map (fun i => (⟨i, pre.length, 0⟩ : AIdx))) :=
      List.Perm.append_left _ ((List.reverse_perm _).symm.map _)
    have c := (c1.permLast p).trans c2
    simpa [List.append_assoc] using c

end HqModel.Alloc
