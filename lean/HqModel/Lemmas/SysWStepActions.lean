import HqModel.Lemmas.SysWPipeX
import HqModel.Lemmas.SysProj
import HqModel.Lemmas.SysStep
import HqModel.Lemmas.SysWRetractResponse
import HqModel.Lemmas.SysWRemoveWorker
import HqModel.Lemmas.SysWClientOps
import HqModel.Lemmas.SysWSchedule
/-!
The invariant `WInv2` of the composed system is inductive over `SysW.step`. `step_cases`: a world action is refused, a
`Sys` action on some worker records (the one `sysOpOf` names), or an M2 step of one record. The invariant through an M2
step (`workerStep_inv`), the generic form of a server action (`sysStep_inv`, `recs_srv`), and the worker records through
the server actions that are not a `TaskUpdate` (`srv_recs`, `addWorker_recs`, `loseWorker_recs`, `retracted_recs`).
-/
namespace HqModel.SysW
open HqModel HqModel.Core HqModel.SysW.NPP

/-- the `Sys` action `SysW.step s op` performs (mirrors `SysW.step`) -/
def sysOpOf (s : State) : Op → Option Sys.Op
  | .srv op => if srvAllowed op = true then some op else none
  | .addWorker wk _ _ => if (findW s.workers wk.id).isSome = true then none else some (.newWorker wk)
  | .loseWorker w reason f order rets =>
    match findW s.workers w with
    | none => none
    | some _ => some (.removeWorker w reason f order rets)
  | .deliverW2S w rets =>
    match findW s.workers w with
    | none => none
    | some x =>
      match x.w2s with
      | [] => none
      | .updates us :: _ => some (.update w us rets)
      | .retracted ids :: _ => some (.retracted w ids)
  | .deliverS2W _ _ => none
  | .wlocal _ _ => none

/-- the world actions that perform the `Sys` action `sop`, leaving the worker records `ws` -/
inductive SysArm (s : State) : Op → Sys.Op → List WState → Prop
  | srv {sop : Sys.Op} (hal : srvAllowed sop = true) : SysArm s (.srv sop) sop s.workers
  | addWorker {wk : Core.Worker} {rqs : List (List Nat)} {rem : Option Nat} (hf : findW s.workers wk.id = none) :
      SysArm s (.addWorker wk rqs rem) (.newWorker wk) (s.workers ++ [{ id := wk.id, w := Worker.init rqs rem }])
  | loseWorker {w : Nat} {reason : String} {f : Bool} {order : List TaskId} {rets : List (List TaskId)} {x : WState}
      (hf : findW s.workers w = some x) :
      SysArm s (.loseWorker w reason f order rets) (.removeWorker w reason f order rets) (s.workers.filter fun x => x.id ≠ w)
  | updates {w : Nat} {rets : List (List TaskId)} {x : WState} {us : List Core.Update} {rest : List W2S}
      (hf : findW s.workers w = some x) (hq : x.w2s = .updates us :: rest) :
      SysArm s (.deliverW2S w rets) (.update w us rets) (setW s.workers { x with w2s := rest })
  | retracted {w : Nat} {rets : List (List TaskId)} {x : WState} {ids : List TaskId} {rest : List W2S}
      (hf : findW s.workers w = some x) (hq : x.w2s = .retracted ids :: rest) :
      SysArm s (.deliverW2S w rets) (.retracted w ids) (setW s.workers { x with w2s := rest })

/-- the world actions that are the M2 step `wop` of the record `x0`, run on `x` (= `x0` without the delivered message) -/
inductive WorkerArm (s : State) : Op → WState → WState → Worker.Op → Prop
  | deliver {w : Nat} {extras : List Extra} {x0 : WState} {m : S2W} {rest : List S2W} {wop : Worker.Op}
      (hf : findW s.workers w = some x0) (hq : x0.s2w = m :: rest) (hop : toWorkerOp m extras = some wop) :
      WorkerArm s (.deliverS2W w extras) x0 { x0 with s2w := rest } wop
  | wlocal {w : Nat} {wop : Worker.Op} {x : WState} (hal : localAllowed wop = true) (hf : findW s.workers w = some x) :
      WorkerArm s (.wlocal w wop) x x wop

theorem SysArm.sysOpOf_eq {s : State} {op : Op} {sop : Sys.Op} {ws : List WState} (h : SysArm s op sop ws) :
    sysOpOf s op = some sop := by
  cases h with
  | srv h => exact if_pos h
  | addWorker hf => simp only [sysOpOf, hf]; rfl
  | loseWorker hf => simp only [sysOpOf, hf]
  | updates hf hq => simp only [sysOpOf, hf, hq]
  | retracted hf hq => simp only [sysOpOf, hf, hq]

/-- `SysW.step` is refused (not by `Sys`), a `Sys` action (the one `sysOpOf` names), or a step of one worker -/
theorem step_cases (s : State) (op : Op) :
    (∃ e, step s op = .error e ∧ (∀ e', e ≠ .sys e') ∧ sysOpOf s op = none) ∨
    (∃ sop ws, SysArm s op sop ws ∧ step s op = sysStep s sop ws) ∨
    (∃ x0 x wop, WorkerArm s op x0 x wop ∧ step s op = workerStep s x wop ∧ sysOpOf s op = none) := by
  cases op with
  | srv sop =>
    by_cases hal : srvAllowed sop = true
    · exact .inr (.inl ⟨_, _, .srv hal, by simp only [step, hal, if_true]⟩)
    · exact .inl ⟨.notAllowed, if_neg hal, fun _ e => (by cases e), if_neg hal⟩
  | addWorker wk rqs rem =>
    cases hf : findW s.workers wk.id with
    | some x => exact .inl ⟨.badInput, by simp [step, hf], fun _ e => (by cases e), by simp [sysOpOf, hf]⟩
    | none => exact .inr (.inl ⟨_, _, .addWorker hf, by simp [step, hf]⟩)
  | loseWorker w reason f order rets =>
    cases hf : findW s.workers w with
    | none => exact .inl ⟨.noWorker, by simp only [step, hf], fun _ e => (by cases e), by simp only [sysOpOf, hf]⟩
    | some x => exact .inr (.inl ⟨_, _, .loseWorker hf, by simp only [step, hf]⟩)
  | deliverW2S w rets =>
    cases hf : findW s.workers w with
    | none => exact .inl ⟨.noWorker, by simp only [step, hf], fun _ e => (by cases e), by simp only [sysOpOf, hf]⟩
    | some x =>
      cases hq : x.w2s with
      | nil =>
        exact .inl ⟨.emptyQueue, by simp only [step, hf, hq], fun _ e => (by cases e), by simp only [sysOpOf, hf, hq]⟩
      | cons m rest =>
        cases m with
        | updates us => exact .inr (.inl ⟨_, _, .updates hf hq, by simp only [step, hf, hq]⟩)
        | retracted ids => exact .inr (.inl ⟨_, _, .retracted hf hq, by simp only [step, hf, hq]⟩)
  | deliverS2W w extras =>
    cases hf : findW s.workers w with
    | none => exact .inl ⟨.noWorker, by simp only [step, hf], fun _ e => (by cases e), rfl⟩
    | some x =>
      cases hq : x.s2w with
      | nil => exact .inl ⟨.emptyQueue, by simp only [step, hf, hq], fun _ e => (by cases e), rfl⟩
      | cons m rest =>
        cases hop : toWorkerOp m extras with
        | none => exact .inl ⟨.badInput, by simp only [step, hf, hq, hop], fun _ e => (by cases e), rfl⟩
        | some wop => exact .inr (.inr ⟨_, _, _, .deliver hf hq hop, by simp only [step, hf, hq, hop], rfl⟩)
  | wlocal w wop =>
    by_cases hal : localAllowed wop = true
    · cases hf : findW s.workers w with
      | none => exact .inl ⟨.noWorker, by simp only [step, hal, if_true, hf], fun _ e => (by cases e), rfl⟩
      | some x => exact .inr (.inr ⟨_, _, _, .wlocal hal hf, by simp only [step, hal, if_true, hf], rfl⟩)
    · exact .inl ⟨.notAllowed, if_neg hal, fun _ e => (by cases e), rfl⟩

theorem mem_setW_rec {c : Core.State} {U : List TaskId} {ws : List WState} {x' : WState}
    (hall : ∀ y ∈ ws, Rec2 c U y) (hx' : Rec2 c U x') : ∀ y ∈ setW ws x', Rec2 c U y := by
  intro y hy
  rcases mem_setW hy with rfl | ⟨hm, _⟩
  · exact hx'
  · exact hall y hm

/-- the invariant from its parts: the records in the form in which the step lemmas deliver them -/
theorem NPP.WInv2.mk' {s : State} (hc : Sys.Coupled s.sys) (hs : ∀ t ∈ Core.taskIds s.sys.core.tasks, t ∈ s.submitted)
    (hn : (s.workers.map (·.id)).Nodup) (hb : ∀ x ∈ s.workers, x.w.bkeys.Nodup)
    (hr : ∀ x ∈ s.workers, Rec2 s.sys.core s.submitted x) : WInv2 s :=
  ⟨⟨hc, hs, hn, hb, fun x hx t => ((hr x hx).pipe t).ok⟩, fun x hx => (hr x hx).known, fun x hx t => ((hr x hx).pipe t).x⟩

/-- `workerStep` on the record `x0` of `s.workers` whose queue lost the delivered message (if any) -/
theorem workerStep_inv {s s' : State} {x0 x : WState} {op : Worker.Op} {o : Out} (hi : WInv2 s) (hx0 : x0 ∈ s.workers)
    (hid : x.id = x0.id) (hw : x.w = x0.w) (hw2s : x.w2s = x0.w2s)
    (hcm : ∀ t, ∃ cm, comps t x0.s2w = cm ++ comps t x.s2w ∧
      match op with
      | .compute es => itemsW (enc t) es = cm
      | _ => cm = [])
    (h : workerStep s x op = .ok (s', o)) : WInv2 s' := by
  simp only [workerStep] at h
  split at h
  · cases h
  · rename_i w' outs hs
    cases h
    have hk : x.w.bkeys.Nodup := by rw [hw]; exact hi.winv.bkeys x0 hx0
    refine .mk' hi.winv.coupled hi.winv.sub ?_ ?_ (mem_setW_rec (fun y hy => hi.rec2 hy) ?_)
    · show ((setW s.workers (emit x w' outs)).map (·.id)).Nodup
      rw [setW_ids]; exact hi.winv.nodup
    · intro y hy
      rcases mem_setW hy with rfl | ⟨hm, _⟩
      · exact step_bkeys hk hs
      · exact hi.winv.bkeys y hm
    · refine ⟨by show (s.sys.core.worker? x.id).isSome = true; rw [hid]; exact hi.xinv.known x0 hx0, fun t => ?_⟩
      obtain ⟨cm, hc1, hc2⟩ := hcm t
      refine ((hi.rec2 hx0).pipe t).worker (x' := emit x w' outs) (cm := cm) (outs := outs) hid hc1
        (by show x.w2s ++ _ = _; rw [hw2s]) ?_
      show WStep cm _ x0.w w' (enc t) ∧ WStep2 cm _ x0.w w' (enc t)
      rw [← hw]
      exact wsteps_of_step hk hc2 hs

/-- the generic form of a server action: `ws` = the worker records the action leaves, `U'` = the ids submitted
afterwards; `hrec` = every record survives -/
theorem sysStep_inv {s s' : State} {sop : Sys.Op} {ws : List WState} {o : Out} (hi : WInv2 s)
    (hok : Sys.OpOk s.sys sop) (hnd : (ws.map (·.id)).Nodup) (hbk : ∀ x ∈ ws, x.w.bkeys.Nodup)
    (hrec : ∀ sys' so, Sys.step s.sys sop = .ok (sys', so) → Sys.Coupled sys' →
      (∀ t ∈ Core.taskIds sys'.core.tasks, t ∈ s.submitted ++ newIds sop so) ∧
      ∀ x ∈ ws, Rec2 sys'.core (s.submitted ++ newIds sop so) (route1 x so.core.msgs))
    (h : sysStep s sop ws = .ok (s', o)) : WInv2 s' := by
  simp only [sysStep] at h
  split at h
  · cases h
  · rename_i sys' so hs
    cases h
    have hg := Sys.step_good hi.winv.coupled sop hok
    rw [hs] at hg
    obtain ⟨h1, h2⟩ := hrec sys' so hs hg
    refine .mk' hg h1 ?_ ?_ ?_
    · show ((routeMsgs ws so.core.msgs).map (·.id)).Nodup
      rw [routeMsgs_ids]; exact hnd
    · intro y hy
      obtain ⟨x, hx, rfl⟩ := mem_routeMsgs hy
      exact hbk x hx
    · intro y hy
      obtain ⟨x, hx, rfl⟩ := mem_routeMsgs hy
      exact h2 x hx

theorem sysStep_no_job {s : State} {sop : Sys.Op} {ws : List WState} (hi : WInv s) (hok : Sys.OpOk s.sys sop)
    (site : String) : sysStep s sop ws ≠ .error (.sys (.job site)) := by
  intro h
  simp only [sysStep] at h
  have hg := Sys.step_good hi.coupled sop hok
  split at h
  · rename_i e he
    rw [he] at hg
    cases h
    exact hg
  · cases h

/-- the records through a server action that is foreign to every pair -/
theorem recs_srv {c c' : Core.State} {U U' : List TaskId} {ws : List WState} {msgs : List Core.Msg}
    (hall : ∀ x ∈ ws, Rec2 c U x) (hsub : ∀ t ∈ Core.taskIds c.tasks, t ∈ U) (hsubU : ∀ u ∈ U, u ∈ U')
    (hkeep : ∀ x ∈ ws, (c.worker? x.id).isSome = true → (c'.worker? x.id).isSome = true)
    (hf : ∀ x ∈ ws, ∀ t, Fgn c c' msgs x.id t) : ∀ x ∈ ws, Rec2 c' U' (route1 x msgs) :=
  fun x hx => ⟨hkeep x hx (hall x hx).known,
    fun t => ((hall x hx).pipe t).srv hsubU (fun hne => hsub t (mem_ids_iff_stOf.mpr hne)) (hf x hx t)⟩

theorem OpOk.sys {s : State} {sop : Sys.Op} (h : OpOk s (.srv sop)) : Sys.OpOk s.sys sop := by
  cases sop <;> first | exact h.1 | exact h

/-- a submit either leaves the core alone or hands exactly `nts` to it (and then the ghost records their ids) -/
theorem step_submit_cases {s s' : Sys.State} {job mf : Option Nat} {desc : Job.TaskDesc} {nts : List Core.NewTask}
    {o : Sys.Out} (h : Sys.step s (.submit job mf desc nts) = .ok (s', o)) :
    (s'.core = s.core ∧ o.core.msgs = []) ∨
    (Core.step s.core (.newTasks nts) = .ok (s'.core, o.core) ∧ newIds (.submit job mf desc nts) o = nts.map (·.id)) := by
  simp only [Sys.step] at h
  split at h
  · cases h
  · rename_i j' evs resp core hj
    split at h
    · split at h
      · split at h
        · cases h; exact .inl ⟨rfl, rfl⟩
        · right
          simp only [Sys.coreStep] at h
          split at h
          · cases h
          · rename_i c' out hs
            split at h
            · cases h
            · split at h
              · cases h; exact ⟨hs, rfl⟩
              · cases h
      · cases h
    all_goals (cases h; exact .inl ⟨rfl, rfl⟩)

theorem recs_same {s : State} (hi : WInv2 s) {c' : Core.State} (e : c' = s.sys.core) {msgs : List Core.Msg}
    (em : msgs = []) {U' : List TaskId} (hsubU : ∀ u ∈ s.submitted, u ∈ U') :
    (∀ t ∈ taskIds c'.tasks, t ∈ U') ∧ ∀ x ∈ s.workers, Rec2 c' U' (route1 x msgs) := by
  subst e em
  exact ⟨fun t ht => hsubU t (hi.winv.sub t ht),
    recs_srv (fun x hx => hi.rec2 hx) hi.winv.sub hsubU (fun _ _ h => h) fun x _ t => Fgn.same _ _ _⟩

theorem srv_recs {s : State} {sop : Sys.Op} (hi : WInv2 s) (hal : srvAllowed sop = true) (hok : OpOk s (.srv sop))
    {sys' : Sys.State} {so : Sys.Out} (hs : Sys.step s.sys sop = .ok (sys', so)) (hc' : Sys.Coupled sys') :
    (∀ t ∈ taskIds sys'.core.tasks, t ∈ s.submitted ++ newIds sop so) ∧
    ∀ x ∈ s.workers, Rec2 sys'.core (s.submitted ++ newIds sop so) (route1 x so.core.msgs) := by
  have hn : (taskIds s.sys.core.tasks).Nodup := hi.winv.coupled.c0.nd
  have hm' : MnOk sys'.core := MnOk.of_invF hc'.inv
  have hsubU : ∀ u ∈ s.submitted, u ∈ s.submitted ++ newIds sop so := fun u hu => List.mem_append_left _ hu
  have same : sys'.core = s.sys.core → so.core.msgs = [] → _ := fun e em => recs_same hi e em hsubU
  -- a core operation that keeps every worker record and is foreign to every pair
  have fgn : ∀ {cop : Core.Op}, Core.step s.sys.core cop = .ok (sys'.core, so.core) →
      (∀ w r f ord rets, cop ≠ .removeWorker w r f ord rets) → (∀ t ∈ taskIds sys'.core.tasks, t ∈ taskIds s.sys.core.tasks) →
      (∀ w t, Fgn s.sys.core sys'.core so.core.msgs w t) →
      (∀ t ∈ taskIds sys'.core.tasks, t ∈ s.submitted ++ newIds sop so) ∧
      ∀ x ∈ s.workers, Rec2 sys'.core (s.submitted ++ newIds sop so) (route1 x so.core.msgs) :=
    fun hcs hne hids hf => ⟨fun t ht => hsubU t (hi.winv.sub t (hids t ht)),
      recs_srv (fun x hx => hi.rec2 hx) hi.winv.sub hsubU
        (fun x _ hk => step_worker_keep hcs x.id hk fun w r f ord rets e => (hne w r f ord rets e).elim)
        fun x _ t => hf x.id t⟩
  rcases Sys.step_core_step hs with ⟨e, _, em⟩ | ⟨cop, hcop, hcs⟩
  · exact same e em
  cases sop with
  | submit job mf desc nts =>
    cases hcop
    rcases step_submit_cases hs with ⟨e, em⟩ | ⟨_, hnew⟩
    · exact same e em
    rw [hnew]
    have hfr : ∀ nt ∈ nts, nt.id ∉ s.submitted := hok.2
    have hcs' : s.sys.core.newTasks nts = .ok (sys'.core, so.core) := by simpa only [Core.step] using hcs
    obtain ⟨v1, v2, nc, v3⟩ := newTasks_views hn hm' hcs'
    constructor
    · intro t ht
      cases hst : stOf sys'.core.tasks t with
      | none => exact absurd hst (mem_ids_iff_stOf.mp ht)
      | some st' =>
        rcases v3 t st' hst with a | a
        · exact List.mem_append_left _ (hi.winv.sub t (mem_ids_iff_stOf.mpr a))
        · exact List.mem_append_right _ a
    · intro x hx
      refine ⟨step_worker_keep hcs x.id (hi.xinv.known x hx) fun _ _ _ _ _ e => (by cases e), fun t => ?_⟩
      refine ((hi.rec2 hx).pipe t).srv' (fun u hu => List.mem_append_left _ hu)
        (fun hne => hi.winv.sub t (mem_ids_iff_stOf.mpr hne)) (fun hu => ?_)
        (fun hnone => ⟨v2 x.id t hnone, cfor_noCompute nc⟩) (newTasks_runkeep hn hcs' x.id t)
      rw [cfor_noCompute nc]
      refine v1 x.id t fun hm => ?_
      obtain ⟨nt, hnt, e⟩ := List.mem_map.mp hm
      exact hfr nt hnt (e ▸ hu)
  | cancel j ids =>
    cases hcop
    have hcs' : s.sys.core.cancelTasks ids = .ok (sys'.core, so.core) := by simpa only [Core.step] using hcs
    exact fgn hcs (fun _ _ _ _ _ e => by cases e) (fun _ => ((cancelTasks_sub hcs').subset ·))
      (cancelTasks_fgn hn hm' hcs')
  | newRq rqv =>
    cases hcop
    refine fgn hcs (fun _ _ _ _ _ e => by cases e) ?_ ?_ <;>
      simp only [Core.step, Except.ok.injEq, Prod.mk.injEq] at hcs <;> obtain ⟨e1, e2⟩ := hcs <;> rw [← e1]
    · exact fun t ht => ht
    · rw [← e2]; exact fun w t => .of_same (newRq_views _ _ _ _) rfl
  | schedule sol =>
    cases hcop
    have hcs' : s.sys.core.schedule sol = .ok (sys'.core, so.core) := by simpa only [Core.step] using hcs
    refine fgn hcs (fun _ _ _ _ _ e => by cases e) (fun t ht => ?_) (schedule_fgn hi.winv.coupled.inv.inv hm' hcs')
    have := schedule_stable hcs'
    unfold IdsStable at this
    rw [← this]; exact ht
  | openJob | close | forget => cases hcop
  | newWorker | removeWorker | update | retracted => cases hal

theorem view_unowned {c : Core.State} {w : Nat} (h : ∀ task ∈ c.tasks, owner task.state ≠ some w) (t : TaskId) :
    view c w t = .quiet ∨ view c w t = .hot := by
  cases hs : stOf c.tasks t with
  | none => exact .inr (view_none hs)
  | some st =>
    obtain ⟨task, hf, rfl⟩ := stOf_some hs
    exact .inl (view_quiet_of_owner hs (h task (findTask_some_mem hf)))

theorem addWorker_recs {s : State} {wk : Core.Worker} {rqs : List (List Nat)} {rem : Option Nat} (hi : WInv2 s)
    (hok : OpOk s (.addWorker wk rqs rem)) {sys' : Sys.State} {so : Sys.Out} (hs : Sys.step s.sys (.newWorker wk) = .ok (sys', so)) :
    (∀ t ∈ taskIds sys'.core.tasks, t ∈ s.submitted ++ newIds (.newWorker wk) so) ∧
    ∀ x ∈ s.workers ++ [{ id := wk.id, w := Worker.init rqs rem }],
      Rec2 sys'.core (s.submitted ++ newIds (.newWorker wk) so) (route1 x so.core.msgs) := by
  have hU : s.submitted ++ newIds (.newWorker wk) so = s.submitted := by simp [newIds]
  rw [hU]
  have hcs : Core.step s.sys.core (.newWorker wk) = .ok (sys'.core, so.core) :=
    Sys.coreStep_core (by simpa only [Sys.step] using hs)
  obtain ⟨hv, em⟩ := newWorker_views hok.1.1 (by simpa only [Core.step] using hcs)
  have htasks : sys'.core.tasks = s.sys.core.tasks := by
    have := hcs
    simp only [Core.step, State.newWorker, Except.ok.injEq, Prod.mk.injEq] at this
    rw [← this.1]; rfl
  refine ⟨fun t ht => hi.winv.sub t (htasks ▸ ht), fun x hx => ?_⟩
  rw [em]
  rcases List.mem_append.mp hx with hx | hx
  · exact recs_srv (fun x hx => hi.rec2 hx) hi.winv.sub (fun u hu => hu)
      (fun x _ hk => step_worker_keep hcs x.id hk fun _ _ _ _ _ e => by cases e)
      (fun x _ t => .of_same (hv x.id t) htasks) x hx
  · simp only [List.mem_singleton] at hx
    subst hx
    refine ⟨newWorker_worker_new hcs, fun t => ?_⟩
    show Pipe2 sys'.core s.submitted { id := wk.id, w := Worker.init rqs rem } t
    refine Pipe2.init ?_
    rw [hv]; exact view_unowned hok.2 t

theorem loseWorker_recs {s : State} {w0 : Nat} {reason : String} {f : Bool} {order : List TaskId}
    {rets : List (List TaskId)} (hi : WInv2 s) {sys' : Sys.State} {so : Sys.Out}
    (hs : Sys.step s.sys (.removeWorker w0 reason f order rets) = .ok (sys', so)) (hc' : Sys.Coupled sys') :
    (∀ t ∈ taskIds sys'.core.tasks, t ∈ s.submitted ++ newIds (.removeWorker w0 reason f order rets) so) ∧
    ∀ x ∈ s.workers.filter (fun x => x.id ≠ w0),
      Rec2 sys'.core (s.submitted ++ newIds (.removeWorker w0 reason f order rets) so) (route1 x so.core.msgs) := by
  have hU : s.submitted ++ newIds (.removeWorker w0 reason f order rets) so = s.submitted := by simp [newIds]
  rw [hU]
  have hcs : Core.step s.sys.core (.removeWorker w0 reason f order rets) = .ok (sys'.core, so.core) :=
    Sys.coreStep_core (by simpa only [Sys.step] using hs)
  have hcs' : s.sys.core.removeWorker w0 reason f order rets = .ok (sys'.core, so.core) := by
    simpa only [Core.step] using hcs
  have hne : ∀ x ∈ s.workers.filter (fun x => x.id ≠ w0), x.id ≠ w0 := fun x hx => by
    simpa using (List.mem_filter.mp hx).2
  refine ⟨fun t ht => hi.winv.sub t ((removeWorker_sub hcs').subset ht), ?_⟩
  exact recs_srv (fun x hx => hi.rec2 (List.mem_filter.mp hx).1) hi.winv.sub (fun u hu => hu)
    (fun x hx hk => step_worker_keep hcs x.id hk fun _ _ _ _ _ e => by cases e; exact hne x hx)
    fun x hx t => removeWorker_fgn hi.winv.coupled.inv.inv (MnOk.of_invF hc'.inv) hcs' x.id (hne x hx) t

theorem retracted_recs {s : State} {w : Nat} {ids : List TaskId} {x : WState} {rest : List W2S} (hi : WInv2 s)
    (hx : x ∈ s.workers) (hxid : x.id = w) (hq : x.w2s = .retracted ids :: rest) {sys' : Sys.State} {so : Sys.Out}
    (hs : Sys.step s.sys (.retracted w ids) = .ok (sys', so)) :
    (∀ t ∈ taskIds sys'.core.tasks, t ∈ s.submitted ++ newIds (.retracted w ids) so) ∧
    ∀ y ∈ setW s.workers { x with w2s := rest },
      Rec2 sys'.core (s.submitted ++ newIds (.retracted w ids) so) (route1 y so.core.msgs) := by
  have hU : s.submitted ++ newIds (.retracted w ids) so = s.submitted := by simp [newIds]
  rw [hU]
  have hcs : Core.step s.sys.core (.retracted w ids) = .ok (sys'.core, so.core) :=
    Sys.coreStep_core (by simpa only [Sys.step] using hs)
  have hcs' : s.sys.core.retractResponse w ids = .ok (sys'.core, so.core) := by simpa only [Core.step] using hcs
  obtain ⟨v1, v2⟩ := retractResponse_pairs hi.winv.coupled.c0.nd hcs'
  have keep : ∀ y ∈ s.workers, (sys'.core.worker? y.id).isSome = true := fun y hy =>
    step_worker_keep hcs y.id (hi.xinv.known y hy) (fun _ _ _ _ _ e => by cases e)
  have hknown : ∀ t, stOf s.sys.core.tasks t ≠ none → t ∈ s.submitted := fun t hne => hi.winv.sub t (mem_ids_iff_stOf.mpr hne)
  refine ⟨fun t ht => hi.winv.sub t ?_, fun y hy => ?_⟩
  · have := retractResponse_stable hcs'
    unfold IdsStable at this
    rw [← this]; exact ht
  · rcases mem_setW hy with rfl | ⟨hm, hne⟩
    · refine ⟨keep x hx, fun t => ?_⟩
      by_cases ht : t ∈ ids
      · refine Pipe2.own (x := x) (e := .resp) ((hi.rec2 hx).pipe t) rfl rfl rfl ?_ (hxid ▸ v2 t)
        rw [hq, pend_cons]; simp [evsOfMsg, ht]
      · exact (((hi.rec2 hx).pipe t).requeue (q := rest) (by rw [hq, pend_cons]; simp [evsOfMsg, ht])).srv
          (fun u hu => hu) (hknown t) (v1 x.id t (.inr ht))
    · have hne' : y.id ≠ w := by rw [← hxid]; exact hne
      exact ⟨keep y hm, fun t => ((hi.rec2 hm).pipe t).srv (fun u hu => hu) (hknown t) (v1 y.id t (.inl hne'))⟩

end HqModel.SysW
