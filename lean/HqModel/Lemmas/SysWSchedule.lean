import HqModel.Lemmas.SysWViews
/-!
One scheduling round is foreign to every pair (`schedule_fgn`): the `ComputeTasks` items `send_messages` builds from the
update list and the multi-node list are exactly one item for every task the round took from Waiting to Assigned /
Prefilled / RunningMultiNode — addressed to the new owner (the root), with the assigned variant — and none for any
other task; every other task keeps its owner (`SI`, `Lemmas/CoreSchedItems.lean`) and its place (`schedule_frz`).
-/
namespace HqModel.Core
open HqModel HqModel.SysW

/-- the selection of one update record that becomes `ComputeTasks` items for `t` -/
def selC (t : TaskId) (u : WUpdate) : List (Option Nat) :=
  (selP t u).map (fun _ => none) ++ (selA t u).map some

theorem msgsOfAll_cfor (s : State) (w : Nat) (t : TaskId) : ∀ (m : List WUpdate) (msgs : List Msg),
    msgsOfAll s m = .ok msgs → cfor w t msgs = items (selC t) m w
  | [], msgs, h => by simp only [msgsOfAll] at h; cases h; rfl
  | u :: rest, msgs, h => by
    obtain ⟨l, ms, hl, hms, rfl⟩ := msgsOfAll_cons_ok h
    have ih := msgsOfAll_cfor s w t rest ms hms
    have hl' := computeList_items s t _ _ hl
    have hsel : (l.filter fun it => it.1 = t).map (·.2.2.1) = selC t u := by
      rw [hl']
      simp only [selC, selP, selA, List.filter_append, List.map_append, List.filter_map, List.map_map]
      congr 1
    rw [items_cons, cfor_append, cfor_append, ih]
    congr 1
    have hr : cfor w t (if u.retracts.isEmpty = true then [] else [Msg.retract u.w u.retracts]) = [] := by
      apply cfor_noCompute
      intro x hx
      split at hx
      · cases hx
      · simp only [List.mem_singleton] at hx; subst hx; rfl
    rw [hr, List.nil_append]
    by_cases hem : l.isEmpty = true
    · rw [if_pos hem, cfor_nil]
      have : l = [] := by simpa using hem
      rw [this] at hsel
      simp only [List.filter_nil, List.map_nil] at hsel
      rw [← hsel]
      split <;> rfl
    · rw [if_neg hem, cfor_compute, hsel]

theorem flatMap_count {β : Type} (t : TaskId) (X : List β) : ∀ (l : List TaskId),
    (l.flatMap fun id => if id = t then X else []) = (List.replicate (l.count t) X).flatten
  | [] => rfl
  | id :: rest => by
    simp only [List.flatMap_cons, flatMap_count t X rest, List.count_cons]
    by_cases h : id = t
    · simp [h, List.replicate_succ]
    · simp [h]

/-- what `t` contributes to the multi-node messages for worker `w` in state `s` -/
def mnItem (s : State) (w : Nat) (t : TaskId) : List (Option Nat) :=
  match stOf s.tasks t with
  | some (.runningMN (root :: _)) => if root = w then [some 0] else []
  | _ => []

theorem mnMsgs_cfor (s : State) (w : Nat) (t : TaskId) : ∀ (l : List TaskId) (msgs : List Msg),
    mnMsgs s l = .ok msgs →
    (∀ id ∈ l, ∃ root ws, stOf s.tasks id = some (.runningMN (root :: ws))) ∧
    cfor w t msgs = l.flatMap fun id => if id = t then mnItem s w t else []
  | [], msgs, h => by simp only [mnMsgs] at h; cases h; exact ⟨fun _ h => (by cases h), rfl⟩
  | id :: rest, msgs, h => by
    obtain ⟨task, root, ws, ms, hg, hs, hms, rfl⟩ := mnMsgs_cons_ok h
    obtain ⟨a, b⟩ := mnMsgs_cfor s w t rest ms hms
    have hf := getTask_spec hg
    have hid : task.id = id := findTask_some_id hf
    have hst : stOf s.tasks id = some (.runningMN (root :: ws)) := by rw [stOf_of_find hf, hs]
    refine ⟨fun x hx => ?_, ?_⟩
    · rcases List.mem_cons.mp hx with rfl | hx
      · exact ⟨root, ws, hst⟩
      · exact a x hx
    · rw [cfor_cons, b, List.flatMap_cons]
      congr 1
      simp only [computeOne, hid]
      rw [cfor_single]
      by_cases ht : id = t
      · subst ht
        simp only [mnItem, hst, and_true, if_true]
      · simp [ht]

theorem schedule_fgn {c c' : State} {sol : Solution} {o : Out} (hi : Inv c) (hm' : MnOk c')
    (h : c.schedule sol = .ok (c', o)) (w : Nat) (t : TaskId) : NPP.Fgn c c' o.msgs w t := by
  have hfr := schedule_frz h
  have hn : (taskIds c.tasks).Nodup := hi.nd
  obtain ⟨s3, m3, mnTasks, msgs, mm, i3, hmsgs, hmm, ec, eo⟩ := schedule_si h
  have est : ∀ t, stOf c'.tasks t = stOf s3.tasks t := by intro t; rw [ec]
  obtain ⟨hmn1, hmn2⟩ : (∀ id ∈ mnTasks, ∃ root ws, stOf s3.tasks id = some (.runningMN (root :: ws))) ∧
      ∀ w t, cfor w t mm = mnTasks.flatMap fun id => if id = t then mnItem s3 w t else [] :=
    ⟨(mnMsgs_cfor s3 0 (0, 0) _ _ hmm).1, fun w t => (mnMsgs_cfor s3 w t _ _ hmm).2⟩
  have hitems : ∀ w t, cfor w t o.msgs =
      (pItems m3 w t).map (fun _ => none) ++ (aItems m3 w t).map some ++
      (List.replicate (mnTasks.count t) (mnItem s3 w t)).flatten := by
    intro w t
    rw [eo]
    show cfor w t (msgs ++ mm) = _
    rw [cfor_append, msgsOfAll_cfor s3 w t _ _ hmsgs, hmn2, flatMap_count]
    congr 1
    show items (fun u => (selP t u).map (fun _ => none) ++ (selA t u).map some) m3 w = _
    rw [items_split _ _ i3.nd, items_map, items_map]
    rfl
  have key : Foreign (view c w t) (cfor w t o.msgs) (view c' w t) ∧
      (stOf c.tasks t = none → cfor w t o.msgs = []) ∧
      (∀ rv, stOf c.tasks t = some (.running w rv) → cfor w t o.msgs = []) := by
    have hT := i3.t t
    rw [hitems]
    have noit : NoIt (fun w => aItems m3 w t) (fun w => pItems m3 w t) (mnTasks.count t) →
        (pItems m3 w t).map (fun _ => (none : Option Nat)) ++ (aItems m3 w t).map some ++
          (List.replicate (mnTasks.count t) (mnItem s3 w t)).flatten = [] := by
      rintro ⟨a, b, k⟩
      have a' : aItems m3 w t = [] := a w
      have b' : pItems m3 w t = [] := b w
      rw [a', b', k]; rfl
    have hrun : ∀ rv, stOf c.tasks t = some (.running w rv) →
        (pItems m3 w t).map (fun _ => (none : Option Nat)) ++ (aItems m3 w t).map some ++
          (List.replicate (mnTasks.count t) (mnItem s3 w t)).flatten = [] :=
      fun rv hs => by rw [hs] at hT; exact noit hT.1
    cases ha : stOf c.tasks t with
    | none =>
      rw [ha] at hT
      obtain ⟨e, hno⟩ := hT
      rw [noit hno, view_none ha, view_none (by rw [est]; exact e)]
      exact ⟨Foreign.same _, fun _ => rfl, fun _ _ => rfl⟩
    | some st0 =>
      rw [ha] at hT
      refine ⟨?_, fun e => (by cases e), fun rv e => hrun rv (ha.trans e)⟩
      -- a task that was not Waiting: it keeps its owner and nothing is sent
      have other : (NoIt (fun w => aItems m3 w t) (fun w => pItems m3 w t) (mnTasks.count t) ∧
          ∃ st, stOf s3.tasks t = some st ∧ owner st = owner st0 ∧ ¬ isWaiting st) →
          Foreign (view c w t) ((pItems m3 w t).map (fun _ => (none : Option Nat)) ++
            (aItems m3 w t).map some ++ (List.replicate (mnTasks.count t) (mnItem s3 w t)).flatten)
            (view c' w t) := by
        rintro ⟨hno, st, e, ho, _⟩
        rw [noit hno]
        by_cases hv : view c w t = .quiet
        · rw [hv]
          have : owner st0 ≠ some w := viewSt_quiet_iff.mp (view_some ha ▸ hv)
          rw [view_quiet_of_owner (by rw [est]; exact e) (by rw [ho]; exact this)]
          exact Foreign.same _
        · exact hfr.keepView hn hm' w t (fun e => e) hv
      cases st0 with
      | waiting n =>
        have hq : view c w t = .quiet := view_quiet_of_owner ha (by intro e; cases e)
        rw [hq]
        rcases hT with ⟨e, hno⟩ | ⟨w0, rv, e, h1, h2, h3, h4⟩ | ⟨w0, e, h1, h2, h3, h4⟩ | ⟨ws, e, h1, h2, h3⟩
        · rw [noit hno, view_quiet_of_owner (by rw [est]; exact e) (by intro e; cases e)]
          exact Foreign.same _
        · have eP : pItems m3 w t = [] := h3 w
          rw [eP, h4, view_some (by rw [est]; exact e)]
          by_cases hw : w0 = w
          · subst hw
            have eA : aItems m3 w0 t = [rv] := h1
            rw [eA]
            simp only [viewSt, if_true]
            exact Foreign.asg rv
          · have eA : aItems m3 w t = [] := h2 w (Ne.symm hw)
            rw [eA]
            simp only [viewSt, hw, if_false]
            exact Foreign.same _
        · have eA : aItems m3 w t = [] := h3 w
          rw [eA, h4, view_some (by rw [est]; exact e)]
          by_cases hw : w0 = w
          · subst hw
            have eP : pItems m3 w0 t = [t] := h1
            rw [eP]
            simp only [viewSt, if_true]
            exact Foreign.pre
          · have eP : pItems m3 w t = [] := h2 w (Ne.symm hw)
            rw [eP]
            simp only [viewSt, hw, if_false]
            exact Foreign.same _
        · have eA : aItems m3 w t = [] := h1 w
          have eP : pItems m3 w t = [] := h2 w
          have hmem : t ∈ mnTasks := List.count_pos_iff.mp (by rw [h3]; exact Nat.one_pos)
          obtain ⟨root, ws', hs3⟩ := hmn1 t hmem
          rw [e] at hs3
          cases hs3
          rw [eA, eP, h3, view_some (by rw [est]; exact e)]
          simp only [mnItem, e, List.map_nil, List.nil_append, List.replicate_one, List.flatten_cons,
            List.flatten_nil, List.append_nil]
          by_cases hw : root = w
          · subst hw
            simp only [viewSt, if_true]
            split
            · exact Foreign.hot _ _
            · exact Foreign.asg 0
          · simp only [viewSt, hw, if_false]
            exact Foreign.same _
      | _ => exact other hT
  exact ⟨key.1, NPP.runKeep_of_fr (schedule_frs h) hn key.2.2, key.2.1⟩

end HqModel.Core
