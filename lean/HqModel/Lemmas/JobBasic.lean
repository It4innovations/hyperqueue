import HqModel.Job.Run
import HqModel.Lemmas.JournalAL
/-!
The task table of a job (`lookup` / `setState`) and the job list (`findJob` / `replaceJob`) as finite maps, the
per-state task counts, and the invariants `JobWF` / `StateWF` stated over them.
-/
namespace HqModel.Job

def countS (ts : List (Nat × TState)) (x : TState) : Nat := ts.countP (fun p => p.2 = x)

def keys (ts : List (Nat × TState)) : List Nat := ts.map (·.1)

structure JobWF (job : Job) : Prop where
  nodup : (keys job.tasks).Nodup
  running : job.cnt.running = countS job.tasks .running
  finished : job.cnt.finished = countS job.tasks .finished
  failed : job.cnt.failed = countS job.tasks .failed
  canceled : job.cnt.canceled = countS job.tasks .canceled
  aborted : job.cnt.aborted = countS job.tasks .aborted

structure StateWF (s : State) : Prop where
  jobs : ∀ job ∈ s.jobs, JobWF job
  ids : (s.jobs.map (·.id)).Nodup
  below : ∀ job ∈ s.jobs, job.id < s.jobCtr

/-- The task table is an association list of the journal's kind: `lookup` is `alGet`, so what holds of `alGet` holds of it. -/
theorem lookup_eq_alGet (ts : List (Nat × TState)) (t : Nat) : lookup ts t = HqModel.Journal.alGet ts t := by
  induction ts with
  | nil => rfl
  | cons p ps ih => obtain ⟨k, v⟩ := p; simp only [lookup, HqModel.Journal.alGet, ih]

theorem lookup_eq_none_iff {ts : List (Nat × TState)} {t : Nat} : lookup ts t = none ↔ t ∉ keys ts := by
  rw [lookup_eq_alGet, ← Option.not_isSome_iff_eq_none, HqModel.Journal.alGet_isSome_iff]; rfl

theorem mem_keys_of_lookup {ts : List (Nat × TState)} {t : Nat} {a : TState}
    (h : lookup ts t = some a) : t ∈ keys ts :=
  Classical.not_not.mp fun hm => by rw [lookup_eq_none_iff.mpr hm] at h; cases h

theorem lookup_mem {ts : List (Nat × TState)} {t : Nat} {a : TState} (h : lookup ts t = some a) :
    (t, a) ∈ ts :=
  HqModel.Journal.alGet_mem (lookup_eq_alGet ts t ▸ h)

theorem lookup_of_mem {ts : List (Nat × TState)} {t : Nat} {a : TState} (hnd : (keys ts).Nodup)
    (h : (t, a) ∈ ts) : lookup ts t = some a :=
  (lookup_eq_alGet ts t).trans (HqModel.Journal.alGet_of_mem hnd h)

theorem lookup_append (l m : List (Nat × TState)) (k : Nat) :
    lookup (l ++ m) k = (lookup l k).or (lookup m k) := by
  rw [lookup_eq_alGet, lookup_eq_alGet, lookup_eq_alGet, HqModel.Journal.alGet_append]
  cases HqModel.Journal.alGet l k <;> rfl

theorem lookup_map_const (ids : List Nat) (v : TState) (k : Nat) :
    lookup (ids.map (·, v)) k = if k ∈ ids then some v else none :=
  (lookup_eq_alGet _ k).trans (HqModel.Journal.alGet_mapKey (fun _ => v) ids k)

theorem keys_setState (ts : List (Nat × TState)) (t : Nat) (b : TState) :
    keys (setState ts t b) = keys ts := by
  induction ts with
  | nil => rfl
  | cons p ps ih =>
    obtain ⟨k, v⟩ := p
    simp only [keys] at ih
    by_cases hk : k = t <;> simp [setState, keys, hk, ih]

theorem length_setState (ts : List (Nat × TState)) (t : Nat) (b : TState) :
    (setState ts t b).length = ts.length := by
  have := congrArg List.length (keys_setState ts t b)
  simpa [keys] using this

theorem lookup_setState (ts : List (Nat × TState)) (t k : Nat) (b : TState) :
    lookup (setState ts t b) k = if k = t then (lookup ts t).map (fun _ => b) else lookup ts k := by
  induction ts with
  | nil => simp [setState, lookup]
  | cons p ps ih =>
    obtain ⟨q, v⟩ := p
    by_cases hq : q = t
    · subst hq
      by_cases hk : k = q
      · subst hk; simp [setState, lookup]
      · have : ¬ q = k := fun e => hk e.symm
        simp only [setState, if_true, lookup, this, if_false, hk, ih]
    · by_cases hk : k = t
      · subst hk
        simp only [setState, hq, if_false, lookup, if_true, ih]
      · by_cases hqk : q = k
        · simp [setState, lookup, hqk, hk]
        · simp only [setState, hq, if_false, lookup, hqk, hk, ih]

theorem lookup_setState_of {ts : List (Nat × TState)} {t : Nat} {a : TState} (h : lookup ts t = some a)
    (b : TState) (k : Nat) : lookup (setState ts t b) k = if k = t then some b else lookup ts k := by
  rw [lookup_setState, h]; rfl

theorem setState_of_not_mem {ts : List (Nat × TState)} {t : Nat} {b : TState} (h : t ∉ keys ts) :
    setState ts t b = ts := by
  induction ts with
  | nil => rfl
  | cons p ps ih =>
    obtain ⟨k, v⟩ := p
    simp only [keys, List.map_cons, List.mem_cons, not_or] at h
    have hk : ¬ k = t := fun e => h.1 e.symm
    simp only [setState, hk, if_false]
    rw [ih h.2]

theorem mem_setState {ts : List (Nat × TState)} {t : Nat} {b : TState} {p : Nat × TState}
    (h : p ∈ setState ts t b) : (p.1 = t ∧ p.2 = b) ∨ (p.1 ≠ t ∧ p ∈ ts) := by
  induction ts with
  | nil => cases h
  | cons q qs ih =>
    obtain ⟨k, v⟩ := q
    by_cases hk : k = t
    · simp only [setState, hk, if_true, List.mem_cons] at h
      rcases h with h | h
      · subst h; exact .inl ⟨rfl, rfl⟩
      · exact (ih h).imp_right fun h => ⟨h.1, List.mem_cons_of_mem _ h.2⟩
    · simp only [setState, hk, if_false, List.mem_cons] at h
      rcases h with h | h
      · subst h; exact .inr ⟨hk, List.mem_cons_self⟩
      · exact (ih h).imp_right fun h => ⟨h.1, List.mem_cons_of_mem _ h.2⟩

theorem countS_setState {ts : List (Nat × TState)} {t : Nat} {a b : TState} (x : TState)
    (hnd : (keys ts).Nodup) (h : lookup ts t = some a) :
    countS (setState ts t b) x + (if a = x then 1 else 0) = countS ts x + (if b = x then 1 else 0) := by
  induction ts with
  | nil => cases h
  | cons p ps ih =>
    obtain ⟨k, v⟩ := p
    simp only [keys, List.map_cons, List.nodup_cons] at hnd
    by_cases hk : k = t
    · subst hk
      have hv : v = a := by simpa [lookup] using h
      subst hv
      simp only [setState, if_true, setState_of_not_mem hnd.1, countS, List.countP_cons, decide_eq_true_eq]
      omega
    · have hl : lookup ps t = some a := by simpa [lookup, hk] using h
      have := ih hnd.2 hl
      simp only [setState, hk, if_false, countS, List.countP_cons] at this ⊢
      omega

theorem countS_pos {ts : List (Nat × TState)} {t : Nat} {a : TState} (h : lookup ts t = some a) :
    0 < countS ts a :=
  List.countP_pos_iff.mpr ⟨_, lookup_mem h, by simp⟩

theorem countS_append (l m : List (Nat × TState)) (x : TState) : countS (l ++ m) x = countS l x + countS m x :=
  List.countP_append

theorem countS_map_waiting (ids : List Nat) (x : TState) :
    countS (ids.map (·, .waiting)) x = if x = .waiting then ids.length else 0 := by
  simp only [countS, List.countP_map]
  by_cases h : x = .waiting
  · subst h; simp
  · have : ¬ TState.waiting = x := fun e => h e.symm
    simp [h, this, Function.comp_def]

theorem countS_sum (ts : List (Nat × TState)) :
    countS ts .running + countS ts .finished + countS ts .failed + countS ts .canceled + countS ts .aborted
      + countS ts .waiting = ts.length := by
  induction ts with
  | nil => rfl
  | cons p ps ih =>
    have one : ∀ v : TState, (if v = .running then 1 else 0) + (if v = .finished then 1 else 0) +
        (if v = .failed then 1 else 0) + (if v = .canceled then 1 else 0) + (if v = .aborted then 1 else 0) +
        (if v = .waiting then 1 else 0) = 1 := by intro v; cases v <;> rfl
    simp only [countS, List.countP_cons, List.length_cons, decide_eq_true_eq] at ih ⊢
    have := one p.2
    omega

theorem findJob_some {jobs : List Job} {j : Nat} {job : Job} (h : findJob jobs j = some job) :
    job ∈ jobs ∧ job.id = j := by
  induction jobs with
  | nil => cases h
  | cons x rest ih =>
    simp only [findJob] at h
    split at h
    · cases h; rename_i hx; exact ⟨List.mem_cons_self, hx⟩
    · exact ⟨List.mem_cons_of_mem _ (ih h).1, (ih h).2⟩

theorem findJob_none_of_not_mem {jobs : List Job} {j : Nat} (h : j ∉ jobs.map (·.id)) :
    findJob jobs j = none := by
  induction jobs with
  | nil => rfl
  | cons x rest ih =>
    simp only [List.map_cons, List.mem_cons, not_or] at h
    have : ¬ x.id = j := fun e => h.1 e.symm
    simp only [findJob, this, if_false]
    exact ih h.2

theorem findJob_of_mem {jobs : List Job} {job : Job} (hnd : (jobs.map (·.id)).Nodup) (h : job ∈ jobs) :
    findJob jobs job.id = some job := by
  induction jobs with
  | nil => cases h
  | cons x rest ih =>
    simp only [List.map_cons, List.nodup_cons] at hnd
    rcases List.mem_cons.mp h with rfl | h
    · simp [findJob]
    · have : ¬ x.id = job.id := fun e => hnd.1 (List.mem_map.mpr ⟨job, h, e.symm⟩)
      simp only [findJob, this, if_false]
      exact ih hnd.2 h

theorem replaceJob_ids (jobs : List Job) (job : Job) :
    (replaceJob jobs job).map (·.id) = jobs.map (·.id) := by
  induction jobs with
  | nil => rfl
  | cons x rest ih =>
    simp only [replaceJob]
    split
    · rename_i hx; simp [ih, hx]
    · simp [ih]

theorem mem_replaceJob {jobs : List Job} {job x : Job} (h : x ∈ replaceJob jobs job) :
    x = job ∨ x ∈ jobs := by
  induction jobs with
  | nil => cases h
  | cons y rest ih =>
    simp only [replaceJob] at h
    split at h <;> rcases List.mem_cons.mp h with h | h
    · exact .inl h
    · exact (ih h).imp_right (List.mem_cons_of_mem _)
    · exact .inr (h ▸ List.mem_cons_self)
    · exact (ih h).imp_right (List.mem_cons_of_mem _)

theorem findJob_replaceJob (jobs : List Job) (b : Job) (j : Nat) :
    findJob (replaceJob jobs b) j =
      if j = b.id then (findJob jobs j).map (fun _ => b) else findJob jobs j := by
  induction jobs with
  | nil => simp [replaceJob, findJob]
  | cons x rest ih =>
    by_cases hx : x.id = b.id
    · by_cases hj : j = b.id
      · subst hj; simp [replaceJob, findJob, hx]
      · have h1 : ¬ b.id = j := fun e => hj e.symm
        have h2 : ¬ x.id = j := by rw [hx]; exact h1
        simp only [replaceJob, hx, if_true, findJob, h1, if_false, ih, hj]
    · by_cases hj : x.id = j
      · have h1 : ¬ j = b.id := by rw [← hj]; exact hx
        simp only [replaceJob, if_false, findJob, hj, if_true, h1]
      · simp only [replaceJob, hx, if_false, findJob, hj, ih]

theorem findJob_replaceJob_some {jobs : List Job} {a b x : Job} {j : Nat} (hj : findJob jobs a.id = some a)
    (hid : b.id = a.id) (hx : findJob (replaceJob jobs b) j = some x) :
    (j = a.id ∧ x = b) ∨ (j ≠ a.id ∧ findJob jobs j = some x) := by
  rw [findJob_replaceJob, hid] at hx
  by_cases hja : j = a.id
  · subst hja
    rw [if_pos rfl, hj] at hx
    exact .inl ⟨rfl, (Option.some.inj hx).symm⟩
  · rw [if_neg hja] at hx; exact .inr ⟨hja, hx⟩

theorem findJob_append (jobs : List Job) (b : Job) (j : Nat) :
    findJob (jobs ++ [b]) j =
      match findJob jobs j with
      | some a => some a
      | none => if b.id = j then some b else none := by
  induction jobs with
  | nil => simp [findJob]
  | cons x rest ih =>
    by_cases hj : x.id = j
    · simp [findJob, hj]
    · simp only [List.cons_append, findJob, hj, if_false, ih]

theorem findJob_append_some {jobs : List Job} {b x : Job} {j : Nat} (hx : findJob (jobs ++ [b]) j = some x) :
    findJob jobs j = some x ∨ (j = b.id ∧ x = b) := by
  rw [findJob_append] at hx
  cases hf : findJob jobs j with
  | some y => rw [hf] at hx; exact .inl hx
  | none =>
    rw [hf] at hx
    simp only at hx
    split at hx
    · rename_i hb; exact .inr ⟨hb.symm, (Option.some.inj hx).symm⟩
    · cases hx

theorem findJob_filter (jobs : List Job) (j k : Nat) :
    findJob (jobs.filter (·.id != j)) k = if k = j then none else findJob jobs k := by
  induction jobs with
  | nil => simp [findJob]
  | cons x rest ih =>
    by_cases hx : x.id = j
    · have : (x.id != j) = false := by simp [hx]
      rw [List.filter_cons_of_neg (by simp [this]), ih]
      by_cases hk : k = j
      · simp [hk]
      · have : ¬ x.id = k := by rw [hx]; exact fun e => hk e.symm
        simp [findJob, hk, this]
    · have : (x.id != j) = true := by simp [hx]
      rw [List.filter_cons_of_pos (by simp [this])]
      by_cases hk : x.id = k
      · have : ¬ k = j := by rw [← hk]; exact hx
        simp [findJob, hk, this]
      · simp only [findJob, hk, if_false, ih]

theorem findJob_filter_some {jobs : List Job} {x : Job} {j k : Nat}
    (hx : findJob (jobs.filter (·.id != j)) k = some x) : findJob jobs k = some x := by
  rw [findJob_filter] at hx
  split at hx
  · cases hx
  · exact hx

theorem replaceJob_replaceJob (jobs : List Job) (a b : Job) (h : a.id = b.id) :
    replaceJob (replaceJob jobs a) b = replaceJob jobs b := by
  induction jobs with
  | nil => rfl
  | cons x rest ih =>
    by_cases hx : x.id = a.id
    · have hx' : x.id = b.id := hx.trans h
      simp only [replaceJob, hx, if_true, h, ih]
    · have hx' : ¬ x.id = b.id := by rw [← h]; exact hx
      simp only [replaceJob, hx, hx', if_false, ih]

theorem firstSome_none {f : α → Option β} {l : List α} (h : firstSome f l = none) : ∀ x ∈ l, f x = none := by
  induction l with
  | nil => intro x hx; cases hx
  | cons y ys ih =>
    intro x hx
    simp only [firstSome] at h
    cases hy : f y with
    | some z => rw [hy] at h; cases h
    | none =>
      rw [hy] at h
      simp only [List.mem_cons] at hx
      rcases hx with rfl | hx
      · exact hy
      · exact ih h x hx

end HqModel.Job
