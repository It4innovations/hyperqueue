import HqModel.Lemmas.CoreDescOps
import HqModel.Lemmas.CoreInvIds
/-!
The `running` list of `on_remove_worker` — the tasks reported in the `on_worker_lost` callback and charged a crash by
the crash loop: distinct tasks that were Running on the lost worker (or the multi-node task whose started root it
was) when the operation began, and that part 1 has put back to `Waiting 0` (`lossPart1_running`; `LossKeep` is what
no step of the operation does to a record). Read from the descent of the operation and unique ids alone, so that both
the message level (`CoreMsgLoss`) and the composition with the job layer (`SysCoreSpec*`) stand on it.
-/
namespace HqModel.Core

/-- what the loss of a worker never does to a task record: make it Running, or take it out of `Waiting 0` -/
structure LossKeep (t t' : Task) : Prop where
  id : t'.id = t.id
  run : ∀ w v, t'.state = .running w v → t.state = .running w v
  w0 : t.state = .waiting 0 → t'.state = .waiting 0

theorem LossKeep.trans {a b c : Task} (h1 : LossKeep a b) (h2 : LossKeep b c) : LossKeep a c :=
  ⟨h2.id.trans h1.id, fun w v h => h1.run w v (h2.run w v h), fun h => h2.w0 (h1.w0 h)⟩

theorem TLoss.lossKeep {w : Nat} {fail : Prop} {L : TaskId → Prop} {t t' : Task} (h : TLoss w fail L t t') :
    LossKeep t t' := by
  cases h with
  | calm h => cases h <;> exact ⟨rfl, fun _ _ e => by simp_all, fun e => by simp_all⟩
  | bump => exact ⟨rfl, fun _ _ e => e, fun e => e⟩
  | crash => exact ⟨rfl, fun _ _ e => e, fun e => e⟩
  | _ => exact ⟨rfl, fun _ _ e => by simp_all, fun e => by simp_all⟩

theorem Desc.lossKeep {RW : Worker → Worker → Prop} {er : Prop} {w : Nat} {fail : Prop} {L : TaskId → Prop}
    {s s' : State} (h : Desc (TLoss w fail L) RW er s s') : GFr LossKeep (fun _ _ => True) s s' :=
  h.lift (fun _ => ⟨rfl, fun _ _ e => e, fun e => e⟩) LossKeep.trans TLoss.lossKeep (fun _ => trivial)
    (fun _ _ => trivial) fun _ => trivial

/-- **the loop over the lost worker's assigned tasks**: the ids it appends to the `running` list are distinct ids of
the list; their tasks were Running when the loop began and are `Waiting 0` when it ends. (A task named twice is
Running at its first visit only.) -/
theorem lostAssigned_running : ∀ (ids : List TaskId) {s s' : State} {ru ru' re re' : List TaskId},
    (taskIds s.tasks).Nodup → s.lostAssigned ids ru re = .ok (s', ru', re') →
    ∃ new, ru' = ru ++ new ∧ new.Nodup ∧ ∀ x ∈ new, x ∈ ids ∧ (∃ t w v, s.task? x = some t ∧ t.state = .running w v) ∧
      ∃ t', s'.task? x = some t' ∧ t'.state = .waiting 0
  | [], _, _, _, _, _, _, _, h => by
    simp only [State.lostAssigned] at h; cases h
    exact ⟨[], (List.append_nil _).symm, List.nodup_nil, fun _ hx => nomatch hx⟩
  | id :: rest, s, s', ru, ru', re, re', hn, h => by
    obtain ⟨task, s0, t', ru0, s2, r, ht, hc, hq, h'⟩ := lostAssigned_cons_ok h
    obtain ⟨hts, ht'⟩ := hc.writes
    have hid : task.id = id := findTask_some_id ht
    -- the record written by this iteration: `Waiting 0`, or (Retracting) in the state it had
    have e2 : s2.tasks = putTask s.tasks { t' with inst := t'.inst + 1 } := by
      rw [addReady_tasks hq]; show putTask s0.tasks _ = _; rw [hts]
    have hid2 : ({ t' with inst := t'.inst + 1 } : Task).id = id := by rcases ht' with e | e <;> rw [e] <;> exact hid
    have hf2 : ∀ x, s2.task? x = if x = id then some { t' with inst := t'.inst + 1 } else s.task? x := by
      intro x
      show findTask s2.tasks x = _
      rw [e2, findTask_putTask, hid2]
      split
      · rename_i e; subst e; rw [show findTask s.tasks x = some task from ht]; rfl
      · rfl
    have hn2 : (taskIds s2.tasks).Nodup := by rw [e2, taskIds_putTask]; exact hn
    obtain ⟨new, e, nd, hall⟩ := lostAssigned_running rest hn2 h'
    -- a task that is Running after the iteration is another task, and was Running before it
    have back : ∀ x ∈ new, x ≠ id ∧ x ∈ id :: rest ∧ (∃ t w v, s.task? x = some t ∧ t.state = .running w v) ∧
        ∃ t', s'.task? x = some t' ∧ t'.state = .waiting 0 := by
      intro x hx
      obtain ⟨hm, ⟨t, w, v, hf, hs⟩, h3⟩ := hall x hx
      have hne : x ≠ id := by
        intro e
        rw [hf2, if_pos e] at hf
        cases hf
        cases hc with
        | retracting hr => rw [hr] at hs; cases hs
        | _ => cases hs
      rw [hf2, if_neg hne] at hf
      exact ⟨hne, List.mem_cons_of_mem _ hm, ⟨t, w, v, hf, hs⟩, h3⟩
    cases hc with
    | running hs =>
      refine ⟨id :: new, by rw [e, List.append_assoc]; rfl,
        List.nodup_cons.mpr ⟨fun hm => (back id hm).1 rfl, nd⟩, fun x hx => ?_⟩
      rcases List.mem_cons.mp hx with rfl | hx
      · refine ⟨List.mem_cons_self, ⟨task, _, _, ht, hs⟩, ?_⟩
        -- `Waiting 0` now, and the rest of the loop keeps it so
        have hd := lostAssigned_desc (w := 0) (fail := False) (L := fun _ => True) (RW := WCalm) rest
          (fun _ _ => trivial) h'
        have d := hd.lossKeep
        have hk := hd.frame.keep
        cases hf' : s'.task? x with
        | none =>
          exfalso
          have h1 := not_mem_of_findTask_none hf'
          rw [hk] at h1
          have h2 := (hf2 x).trans (if_pos rfl)
          exact h1 (by rw [← findTask_some_id h2]; exact List.mem_map_of_mem (findTask_some_mem h2))
        | some t1 =>
          obtain ⟨t2, h2, k⟩ := d.find (fun r => r.id) hn2 hf'
          rw [hf2, if_pos rfl] at h2
          cases h2
          exact ⟨t1, rfl, k.w0 rfl⟩
      · exact (back x hx).2
    | _ => exact ⟨new, e, nd, fun x hx => (back x hx).2⟩

open NPL in
/-- **the `running` list of part 1 of `on_remove_worker`**: distinct tasks, each Running and in the lost worker's
`assigned_tasks`, or the multi-node task whose root the worker was and that it had started; all are `Waiting 0` after
part 1 -/
theorem lossPart1_running {s0 s1 : State} {w : Nat} {a : Assign} {order running retracted : List TaskId}
    (hn : (taskIds s0.tasks).Nodup) (h : lossPart1 s0 w a order = .ok (s1, running, retracted)) :
    running.Nodup ∧ ∀ x ∈ running,
      (∃ t, s0.task? x = some t ∧ ((∃ w' v A F P, t.state = .running w' v ∧ a = .sn A F P ∧ x ∈ A) ∨
        ∃ others r, t.state = .runningMN (w :: others) ∧ a = .mn x r true)) ∧
      ∃ t', s1.task? x = some t' ∧ t'.state = .waiting 0 := by
  rcases lossPart1_cases h with ⟨A, F, P, s01, rfl, hperm, hlp, hla⟩ |
    ⟨tid, isRoot, started, task, root, others, rfl, ht, hs, ⟨rfl, s01, hr, hq, rfl⟩ | ⟨_, _, rfl, _⟩⟩
  · have dp := lostPrefilled_desc (w := 0) (fail := False) (L := fun _ => True) (RW := WCalm) P (fun _ _ => trivial) hlp
    obtain ⟨new, e, nd, hall⟩ := lostAssigned_running order (dp.frame.nodup hn) hla
    rw [List.nil_append] at e
    subst e
    refine ⟨nd, fun x hx => ?_⟩
    obtain ⟨hm, ⟨t, w', v, hf, hst⟩, h3⟩ := hall x hx
    obtain ⟨t0, hf0, k⟩ := dp.lossKeep.find (fun r => r.id) hn hf
    simp only [Bool.and_eq_true, List.all_eq_true, List.contains_iff_mem] at hperm
    exact ⟨⟨t0, hf0, .inl ⟨w', v, A, F, P, k.run w' v hst, rfl, hperm.1.1 x hm⟩⟩, h3⟩
  · have hid : task.id = tid := findTask_some_id ht
    have h1 : s1.task? tid = some { task with state := .waiting 0, inst := task.inst + 1 } := by
      show findTask s1.tasks tid = _
      rw [addReady_tasks hq]
      show findTask (putTask s01.tasks _) tid = _
      rw [findTask_putTask, congrArg State.tasks (resetMnAll_eq _ hr), if_pos hid.symm,
        show findTask s0.tasks tid = some task from ht]
      rfl
    cases started with
    | false => exact ⟨List.nodup_nil, fun _ hx => nomatch hx⟩
    | true =>
      refine ⟨List.nodup_cons.mpr ⟨(fun hx => nomatch hx), List.nodup_nil⟩, fun x hx => ?_⟩
      cases List.mem_singleton.mp hx
      exact ⟨⟨task, ht, .inr ⟨others, isRoot, hs, rfl⟩⟩, _, h1, rfl⟩
  · exact ⟨List.nodup_nil, fun _ hx => nomatch hx⟩

end HqModel.Core
