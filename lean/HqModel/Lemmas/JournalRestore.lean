import HqModel.Lemmas.JournalStep
/-!
`restore_job` on a restorer job related (`JobRel`, `CrashRel`) to an abstract job does not stop and returns what the
abstract job describes (`restoreJob_ok`). The loop over the submits is computed in closed form: after the submits with
task ids `pre` the accumulator is `⟨finalTasks rt pre, …⟩`, so one pass is an equation (`restoreSubmit_ok`); `passTasks`,
`addCounts`, `effOf` / `adjOf` are the closed forms of the other components.
-/
namespace HqModel.Journal

/-- the state `restore_job` leaves in the job's task table -/
def stateOf (rt : List (Nat × RTask)) (i : Nat) : TState :=
  match alGet rt i with
  | some ti => if ti.state.isCompleted then ti.state else .waiting
  | none => .waiting

theorem stateOf_isWaiting {rt : List (Nat × RTask)} {i : Nat} (h : (stateOf rt i).isWaiting = true) :
    outcomeOpt (alGet rt i) = .waiting := by
  revert h
  unfold stateOf outcomeOpt
  cases alGet rt i with
  | none => intro _; rfl
  | some ti => obtain ⟨st, ii, cc⟩ := ti; cases st <;> intro h <;> first | rfl | cases h

theorem stateOf_outcome (rt : List (Nat × RTask)) (i : Nat) : (stateOf rt i).outcome = outcomeOpt (alGet rt i) := by
  unfold stateOf outcomeOpt
  cases alGet rt i with
  | none => rfl
  | some ti => obtain ⟨st, i, c⟩ := ti; cases st <;> rfl

theorem isTaskCompleted_eq (rt : List (Nat × RTask)) (t : Nat) :
    isTaskCompleted rt t = (outcomeOpt (alGet rt t) != .waiting) := by
  unfold isTaskCompleted outcomeOpt
  cases alGet rt t with
  | none => rfl
  | some ti => obtain ⟨st, i, c⟩ := ti; cases st <;> rfl

def finalTasks (rt : List (Nat × RTask)) (ids : List Nat) : List (Nat × TState) := ids.map fun i => (i, stateOf rt i)

theorem attachIds_ok : ∀ (ids : List Nat) (T : List (Nat × TState)), (∀ i ∈ ids, alGet T i = none) → ids.Nodup →
    attachIds T ids = .ok (T ++ ids.map (·, .waiting)) := by
  intro ids
  induction ids with
  | nil => intro T _ _; simp [attachIds]
  | cons i is ih =>
    intro T hT hn
    have hi := hT i (List.mem_cons_self)
    simp only [attachIds, hi]
    rw [alSet_absent T i _ hi]
    have hn' := List.nodup_cons.1 hn
    rw [ih _ ?_ hn'.2]
    · simp
    · intro i' hi'
      have hne : i ≠ i' := fun e => hn'.1 (e ▸ hi')
      rw [alGet_append, hT i' (List.mem_cons_of_mem _ hi')]
      simp [alGet, hne]

theorem applyStates_final (rt : List (Nat × RTask)) (a b : List Nat) :
    applyStates rt (finalTasks rt a ++ b.map (·, .waiting)) = finalTasks rt (a ++ b) := by
  simp only [applyStates, finalTasks, List.map_append, List.map_map]
  congr 1
  · apply List.map_congr_left
    intro i _
    simp only [Function.comp_def, stateOf]
    cases alGet rt i with
    | none => simp [TState.isWaiting]
    | some ti =>
      by_cases hc : ti.state.isCompleted = true
      · simp only [hc, if_true]
        split <;> rfl
      · simp [hc, TState.isWaiting]
  · apply List.map_congr_left
    intro i _
    simp only [Function.comp_def, stateOf, TState.isWaiting, if_true]
    cases alGet rt i with
    | none => rfl
    | some ti => by_cases hc : ti.state.isCompleted = true <;> simp [hc]

theorem validateGraphExisting_ok (jobHas : Nat → Bool) (have_ : List Nat) (hh : ∀ i, jobHas i = have_.contains i) :
    ∀ ts : List GraphTask, ts.all (fun t => !have_.contains t.id && t.rqOk) = true →
      validateGraphExisting jobHas ts = .ok none := by
  intro ts
  induction ts with
  | nil => intro _; rfl
  | cons t ts ih =>
    intro h
    simp only [List.all_cons, Bool.and_eq_true, Bool.not_eq_true'] at h
    simp only [validateGraphExisting, hh, h.1.1, h.1.2]
    exact ih h.2

theorem validateGraphDeps_ok (jobHas : Nat → Bool) (have_ : List Nat) (hh : ∀ i, jobHas i = have_.contains i) :
    ∀ (ts : List GraphTask) (seen : List Nat), (∀ t ∈ ts, t.id ∉ seen) → (ts.map (·.id)).Nodup →
      graphDepsOk have_ seen ts = true → validateGraphDeps jobHas seen ts = none := by
  intro ts
  induction ts with
  | nil => intro _ _ _ _; rfl
  | cons t ts ih =>
    intro seen hs hn hg
    simp only [graphDepsOk, Bool.and_eq_true, List.all_eq_true] at hg
    have hnot : seen.contains t.id = false := by
      have := hs t (List.mem_cons_self)
      simpa using this
    simp only [validateGraphDeps, hnot]
    have hfind : t.deps.find? (fun d => d == t.id || (!(t.id :: seen).contains d && !jobHas d)) = none := by
      rw [List.find?_eq_none]
      intro d hd
      have := hg.1 d hd
      simp only [bne_iff_ne, ne_eq, Bool.or_eq_true] at this
      simp only [Bool.or_eq_true, beq_iff_eq, Bool.and_eq_true, Bool.not_eq_true', not_or, not_and,
        Bool.not_eq_false]
      refine ⟨this.1, ?_⟩
      intro hc
      rcases this.2 with h1 | h1
      · have : (t.id :: seen).contains d = true := by
          simp only [List.contains_cons, Bool.or_eq_true]; exact Or.inr h1
        rw [this] at hc; cases hc
      · rw [hh]; exact h1
    simp only [Bool.false_eq_true, if_false, hfind]
    simp only [List.map_cons, List.nodup_cons] at hn
    refine ih (t.id :: seen) ?_ hn.2 hg.2
    intro t' ht' hmem
    rcases List.mem_cons.1 hmem with e | hmem
    · exact hn.1 (List.mem_map.2 ⟨t', ht', e⟩)
    · exact hs t' (List.mem_cons_of_mem _ ht') hmem

theorem validate_ok {have_ : List Nat} {d : TaskDesc} (h : submitOk have_ d = true) (T : List (Nat × TState))
    (hT : ∀ i, (alGet T i).isSome = have_.contains i) : validateSubmit T d = .ok none := by
  cases d with
  | array ids e =>
    simp only [submitOk, Bool.and_eq_true, List.all_eq_true] at h
    have : ids.iter.find? (fun i => (alGet T i).isSome) = none := by
      rw [List.find?_eq_none]
      intro i hi
      have := h.1.1.2 i hi
      rw [hT]; simpa using this
    simp only [validateSubmit, this]
  | graph ts =>
    simp only [submitOk, Bool.and_eq_true, decide_eq_true_eq] at h
    simp only [validateSubmit, validateGraphExisting_ok _ have_ hT ts h.1.1,
      validateGraphDeps_ok _ have_ hT ts [] (by simp) h.1.2 h.2]

theorem finalTasks_get (rt : List (Nat × RTask)) (ids : List Nat) (i : Nat) :
    (alGet (finalTasks rt ids) i).isSome = ids.contains i := by
  simp only [finalTasks, alGet_mapKey]
  by_cases h : i ∈ ids <;> simp [h]

/-- the job tasks one pass of the loop looks at: the tasks of this submit (all still `Waiting` in the job table) and
the earlier ones that restore left `Waiting` -/
def passTasks (rt : List (Nat × RTask)) (pre : List Nat) (d : TaskDesc) : List (Nat × TState) :=
  stillWaiting (finalTasks rt pre ++ d.ids.map (·, .waiting))

theorem restoreSubmit_ok (job : Nat) (rt : List (Nat × RTask)) (pre : List Nat) (c : JCounters) (bs : List Batch)
    (n : Nat) (d : TaskDesc) (h : submitOk pre d = true) :
    restoreSubmit job rt ⟨finalTasks rt pre, c, bs, n⟩ d =
      .ok ⟨finalTasks rt (pre ++ d.ids),
           bumpCounters rt (passTasks rt pre d) c,
           if (retainTasks rt d.tasks).isEmpty then bs
           else bs ++ [⟨job, retainTasks rt d.tasks, adjustOf rt (passTasks rt pre d)⟩],
           n + 1⟩ := by
  have hv := validate_ok h (finalTasks rt pre) (finalTasks_get rt pre)
  have hfresh := submitOk_fresh h
  have ha := attachIds_ok d.ids (finalTasks rt pre) (fun i hi => by
    have := finalTasks_get rt pre i
    have hc : pre.contains i = false := by simpa using hfresh i hi
    rw [hc] at this
    cases hg : alGet (finalTasks rt pre) i with
    | none => rfl
    | some _ => simp [hg] at this) (submitOk_nodup h)
  simp only [restoreSubmit, hv, ha, applyStates_final, passTasks]

/-- what `handle_new_tasks` makes of the restorer entry of a task: (instance id, crash counter) -/
def effOf (rt : List (Nat × RTask)) (t : Nat) : Nat × Nat :=
  match alGet rt t with
  | some ti => ((match ti.inst with | some x => x + 1 | none => 0), ti.crash)
  | none => (0, 0)

/-- the adjust entry `restore_job` inserts for task `k`, if any -/
def adjOf (rt : List (Nat × RTask)) (k : Nat) : Option (Nat × Nat) :=
  match alGet rt k with
  | some ti =>
    if ti.crash > 0 || ti.inst.isSome then some ((match ti.inst with | some x => x + 1 | none => 0), ti.crash) else none
  | none => none

theorem adjustOf_eq (rt : List (Nat × RTask)) (L : List (Nat × TState)) :
    adjustOf rt L = L.filterMap fun jt => (adjOf rt jt.1).map fun v => (jt.1, v) := by
  unfold adjustOf adjOf
  congr 1
  funext jt
  cases alGet rt jt.1 with
  | none => rfl
  | some ti => simp only; split <;> rfl

theorem adjusted_eq (rt : List (Nat × RTask)) (L : List (Nat × TState)) (t : Nat) (hmem : t ∈ L.map (·.1)) :
    (match alGet (adjustOf rt L) t with | some ic => ic | none => (0, 0)) = effOf rt t := by
  rw [adjustOf_eq, alGet_filterMap_key, if_pos hmem]
  unfold adjOf effOf
  cases alGet rt t with
  | none => rfl
  | some ti =>
    obtain ⟨st, i, c⟩ := ti
    cases i with
    | some x => simp only [Option.isSome_some, Bool.or_true, if_true]
    | none => cases c <;> rfl

theorem desc_tasks_ids (d : TaskDesc) : ∀ t ∈ d.tasks, t.1 ∈ d.ids := by
  intro t ht
  cases d with
  | array ids e =>
    cases e with
    | none =>
      simp only [TaskDesc.tasks, List.mem_map] at ht
      obtain ⟨i, hi, rfl⟩ := ht
      simpa [TaskDesc.ids] using hi
    | some n =>
      simp only [TaskDesc.tasks, List.mem_map] at ht
      obtain ⟨i, hi, rfl⟩ := ht
      simpa [TaskDesc.ids] using List.mem_of_mem_take hi
  | graph ts =>
    simp only [TaskDesc.tasks, List.mem_map] at ht
    obtain ⟨g, hg, rfl⟩ := ht
    simp only [TaskDesc.ids, List.mem_map]
    exact ⟨g, hg, rfl⟩

theorem passTasks_mem (rt : List (Nat × RTask)) (pre : List Nat) (d : TaskDesc) (i : Nat) (hi : i ∈ d.ids) :
    i ∈ (passTasks rt pre d).map (·.1) := by
  simp only [passTasks, stillWaiting, List.mem_map, List.mem_filter, List.mem_append]
  exact ⟨(i, .waiting), ⟨Or.inr ⟨i, hi, rfl⟩, rfl⟩, rfl⟩

theorem countOutcome_append (rt : List (Nat × RTask)) (a b : List (Nat × TState)) (o : Outcome) :
    countOutcome rt (a ++ b) o = countOutcome rt a o + countOutcome rt b o := by
  simp [countOutcome, List.filter_append]

/-- the counts one pass adds: only the tasks of this submit can have a completed restorer state -/
theorem pass_count (rt : List (Nat × RTask)) (pre : List Nat) (d : TaskDesc) (o : Outcome) (ho : o ≠ .waiting) :
    countOutcome rt (passTasks rt pre d) o = countOutcome rt (d.ids.map (·, TState.waiting)) o := by
  have h1 : stillWaiting (d.ids.map (·, TState.waiting)) = d.ids.map (·, TState.waiting) := by
    simp only [stillWaiting, List.filter_eq_self, List.mem_map]
    rintro _ ⟨i, _, rfl⟩; rfl
  have h2 : countOutcome rt (stillWaiting (finalTasks rt pre)) o = 0 := by
    simp only [countOutcome, stillWaiting, List.length_eq_zero_iff, List.filter_eq_nil_iff, List.mem_filter,
      finalTasks, List.mem_map]
    rintro _ ⟨⟨i, _, rfl⟩, hw⟩
    have := stateOf_isWaiting hw
    unfold outcomeOpt at this
    cases hg : alGet rt i with
    | none => simp
    | some ti => rw [hg] at this; simp only [this]; cases o <;> first | exact absurd rfl ho | decide
  rw [passTasks, stillWaiting, List.filter_append, ← stillWaiting, ← stillWaiting, h1, countOutcome_append, h2,
    Nat.zero_add]

def addCounts (rt : List (Nat × RTask)) (ids : List Nat) (c : JCounters) : JCounters :=
  { c with
    finished := c.finished + countOutcome rt (ids.map (·, TState.waiting)) .finished
    failed := c.failed + countOutcome rt (ids.map (·, TState.waiting)) .failed
    canceled := c.canceled + countOutcome rt (ids.map (·, TState.waiting)) .canceled
    aborted := c.aborted + countOutcome rt (ids.map (·, TState.waiting)) .aborted }

theorem addCounts_append (rt : List (Nat × RTask)) (a b : List Nat) (c : JCounters) :
    addCounts rt (a ++ b) c = addCounts rt b (addCounts rt a c) := by
  simp only [addCounts, List.map_append, countOutcome_append, Nat.add_assoc]

theorem bump_pass (rt : List (Nat × RTask)) (pre : List Nat) (d : TaskDesc) (c : JCounters) :
    bumpCounters rt (passTasks rt pre d) c = addCounts rt d.ids c := by
  simp only [bumpCounters, addCounts, pass_count rt pre d _ (by decide : Outcome.finished ≠ .waiting),
    pass_count rt pre d _ (by decide : Outcome.failed ≠ .waiting),
    pass_count rt pre d _ (by decide : Outcome.canceled ≠ .waiting),
    pass_count rt pre d _ (by decide : Outcome.aborted ≠ .waiting)]

theorem retainTasks_append (rt : List (Nat × RTask)) (a b : List (Nat × List Nat)) :
    retainTasks rt (a ++ b) = retainTasks rt a ++ retainTasks rt b := by
  simp only [retainTasks, List.filter_append, List.map_append]

theorem restoreSubmits_ok (job : Nat) (rt : List (Nat × RTask)) :
    ∀ (ds : List TaskDesc) (pre : List Nat) (c : JCounters) (bs : List Batch) (n : Nat),
      submitsOk pre ds = true →
      ∃ nb, restoreSubmits job rt ⟨finalTasks rt pre, c, bs, n⟩ ds =
          .ok ⟨finalTasks rt (pre ++ ds.flatMap (·.ids)), addCounts rt (ds.flatMap (·.ids)) c, bs ++ nb,
            n + ds.length⟩ ∧
        nb.flatMap (·.tasks) = retainTasks rt (ds.flatMap (·.tasks)) ∧ (∀ b ∈ nb, b.job = job) ∧
        (∀ b ∈ nb, ∀ t ∈ b.tasks, b.adjusted t.1 = effOf rt t.1) := by
  intro ds
  induction ds with
  | nil =>
    intro pre c bs n _
    exact ⟨[], by simp [restoreSubmits, addCounts, countOutcome], by simp [retainTasks], by simp, by simp⟩
  | cons d ds ih =>
    intro pre c bs n h
    simp only [submitsOk, Bool.and_eq_true] at h
    obtain ⟨B, e1, e2, e3⟩ : ∃ B : List Batch,
        (if (retainTasks rt d.tasks).isEmpty then bs
          else bs ++ [⟨job, retainTasks rt d.tasks, adjustOf rt (passTasks rt pre d)⟩]) = bs ++ B ∧
        B.flatMap (·.tasks) = retainTasks rt d.tasks ∧
        ∀ b ∈ B, b = ⟨job, retainTasks rt d.tasks, adjustOf rt (passTasks rt pre d)⟩ := by
      cases hr : retainTasks rt d.tasks with
      | nil => exact ⟨[], (List.append_nil bs).symm, rfl, fun _ hb => nomatch hb⟩
      | cons t ts => exact ⟨[_], rfl, List.append_nil _, fun _ hb => List.mem_singleton.1 hb⟩
    obtain ⟨nb, h1, h2, h3, h4⟩ := ih (pre ++ d.ids) (addCounts rt d.ids c) (bs ++ B) (n + 1) h.2
    refine ⟨B ++ nb, ?_, ?_, ?_, ?_⟩
    · simp only [restoreSubmits, restoreSubmit_ok job rt pre c bs n d h.1, bump_pass, e1, h1, List.flatMap_cons,
        List.append_assoc, addCounts_append, List.length_cons, Nat.add_right_comm n 1]
      rfl
    · rw [List.flatMap_append, e2, h2, List.flatMap_cons, retainTasks_append]
    · intro b hb
      rcases List.mem_append.1 hb with hb | hb
      · rw [e3 b hb]
      · exact h3 b hb
    · intro b hb t ht
      rcases List.mem_append.1 hb with hb | hb
      · rw [e3 b hb] at ht ⊢
        simp only [retainTasks, List.mem_map, List.mem_filter] at ht
        obtain ⟨t0, ⟨ht0, _⟩, rfl⟩ := ht
        exact adjusted_eq _ _ _ (passTasks_mem rt pre d _ (desc_tasks_ids d t0 ht0))
      · exact h4 b hb t ht

theorem tasks_eq_spec {have_ : List Nat} {d : TaskDesc} (h : submitOk have_ d = true) :
    d.tasks = d.specTasks.map pairOf := by
  cases d with
  | array ids e =>
    simp only [submitOk, Bool.and_eq_true] at h
    cases e with
    | none => simp [TaskDesc.tasks, TaskDesc.specTasks, List.map_map, Function.comp_def, pairOf]
    | some n =>
      have hn : n = ids.iter.length := by simpa using h.2
      simp [TaskDesc.tasks, TaskDesc.specTasks, List.map_map, Function.comp_def, pairOf, hn]
  | graph ts => simp [TaskDesc.tasks, TaskDesc.specTasks, List.map_map, Function.comp_def, pairOf]

theorem submitsOk_tasks : ∀ (ds : List TaskDesc) (pre : List Nat), submitsOk pre ds = true →
    ds.flatMap (·.tasks) = ds.flatMap (fun d => d.specTasks.map pairOf) := by
  intro ds
  induction ds with
  | nil => intro _ _; rfl
  | cons d ds ih =>
    intro pre h
    simp only [submitsOk, Bool.and_eq_true] at h
    simp only [List.flatMap_cons, tasks_eq_spec h.1, ih _ h.2]

theorem JobRel.isTerminal_eq {rj : RJob} {aj : AJob} (h : JobRel rj aj) (d : Nat) :
    aj.isTerminal d = isTaskCompleted rj.tasks d := by
  rw [isTaskCompleted_eq]
  unfold AJob.isTerminal
  by_cases hm : d ∈ aj.tasks.map (·.id)
  · obtain ⟨a, ha⟩ := find_of_mem hm
    rw [ha]
    have := find_some ha
    simp only [h.outcome a this.1, this.2]
  · rw [find_none_of_not_mem hm]
    cases hg : alGet rj.tasks d with
    | none => rfl
    | some ti => exact absurd (h.known d (by simp [hg])) hm

theorem JobRel.pending_eq {rj : RJob} {aj : AJob} (h : JobRel rj aj) :
    retainTasks rj.tasks (aj.tasks.map pairOf) = aj.pending.map (fun p => (p.task, p.deps)) := by
  simp only [retainTasks, AJob.pending, List.filter_map, List.map_map]
  have hf : aj.tasks.filter ((fun t : Nat × List Nat => !isTaskCompleted rj.tasks t.1) ∘ pairOf) =
      aj.tasks.filter (·.st == .waiting) := by
    apply List.filter_congr
    intro a ha
    simp only [Function.comp_def, pairOf, isTaskCompleted_eq, h.outcome a ha]
    cases outcomeOpt (alGet rj.tasks a.id) <;> rfl
  rw [hf]
  apply List.map_congr_left
  intro a _
  simp only [Function.comp_def, pairOf, Prod.mk.injEq, true_and]
  apply List.filter_congr
  intro d _
  rw [h.isTerminal_eq]

theorem JobRel.count_eq {rj : RJob} {aj : AJob} (h : JobRel rj aj) (o : Outcome) (ho : o ≠ .waiting) :
    countOutcome rj.tasks ((aj.tasks.map (·.id)).map (·, TState.waiting)) o = aj.count o := by
  simp only [countOutcome, AJob.count, List.filter_map, List.length_map]
  congr 1
  apply List.filter_congr
  intro a ha
  simp only [Function.comp_def, h.outcome a ha, outcomeOpt]
  cases alGet rj.tasks a.id with
  | none => cases o <;> simp_all
  | some ti => rfl

theorem eff_eq {conn : List Nat} {mw : Nat} {rj : RJob} {aj : AJob} (h : JobRel rj aj) (hc : CrashRel conn mw rj aj)
    (a : ATask) (ha : a ∈ aj.tasks) :
    effOf rj.tasks a.id = ((match a.inst with | some i => i + 1 | none => 0), a.crashes) := by
  have h1 := h.inst a ha
  have h2 := hc.crash a ha
  unfold effOf
  cases hg : alGet rj.tasks a.id with
  | none => rw [hg] at h1 h2; simp [h1, h2]
  | some ti => rw [hg] at h1 h2; simp only [Option.bind_some, Option.map_some, Option.getD_some] at h1 h2; rw [h1, h2]

theorem restoreJob_ok (id : Nat) {conn : List Nat} {mw : Nat} {rj : RJob} {aj : AJob} (h : JobRel rj aj)
    (hc : CrashRel conn mw rj aj) :
    ∃ rjob bs, restoreJob id rj = .ok (rjob, bs) ∧ rjob.view = aj.view id ∧
      batchPending bs = aj.pending.map (fun p => (id, p.task, p.deps, p.inst, p.crashes)) := by
  obtain ⟨nb, h1, h2, h3, h4⟩ := restoreSubmits_ok id rj.tasks rj.submits [] {} [] 0 h.valid
  have h1' : restoreSubmits id rj.tasks {} rj.submits =
      .ok ⟨finalTasks rj.tasks (rj.submits.flatMap (·.ids)), addCounts rj.tasks (rj.submits.flatMap (·.ids)) {}, nb,
        rj.submits.length⟩ := by
    simpa [finalTasks] using h1
  refine ⟨⟨id, rj.isOpen, rj.maxFails, finalTasks rj.tasks (rj.submits.flatMap (·.ids)),
    addCounts rj.tasks (rj.submits.flatMap (·.ids)) {}, rj.submits.length⟩, nb,
    by simp only [restoreJob, h1'], ?_, ?_⟩
  · simp only [RestoredJob.view, AJob.view, h.isOpen, h.maxFails, h.nSubmits, Prod.mk.injEq, true_and]
    refine ⟨?_, ?_⟩
    · simp only [finalTasks, List.map_map, Function.comp_def, stateOf_outcome, ← h.ids]
      apply List.map_congr_left
      intro a ha
      rw [h.outcome a ha]
    · simp only [addCounts, AJob.counters, ← h.ids, h.count_eq _ (by decide : Outcome.finished ≠ .waiting),
        h.count_eq _ (by decide : Outcome.failed ≠ .waiting), h.count_eq _ (by decide : Outcome.canceled ≠ .waiting),
        h.count_eq _ (by decide : Outcome.aborted ≠ .waiting), Nat.zero_add]
  · have hb : batchPending nb = (nb.flatMap (·.tasks)).map fun t => (id, t.1, t.2, (effOf rj.tasks t.1).1,
        (effOf rj.tasks t.1).2) := by
      clear h1 h1' h2
      induction nb with
      | nil => rfl
      | cons b bs ih =>
        have hj := h3 b (List.mem_cons_self)
        have ha := h4 b (List.mem_cons_self)
        have := ih (fun b' hb' => h3 b' (List.mem_cons_of_mem _ hb')) (fun b' hb' => h4 b' (List.mem_cons_of_mem _ hb'))
        simp only [batchPending, List.flatMap_cons, List.map_append] at this ⊢
        rw [this, hj]
        congr 1
        apply List.map_congr_left
        intro t ht
        rw [ha t ht]
    rw [hb, h2, submitsOk_tasks _ _ h.valid, ← h.tasks]
    rw [h.pending_eq, List.map_map]
    apply List.map_congr_left
    intro p hp
    obtain ⟨a, ha, rfl⟩ := List.mem_map.1 hp
    simp only [Function.comp_def, eff_eq h hc a (List.mem_filter.1 ha).1]
    rfl

theorem restoreJobsFrom_ok {conn : List Nat} {mw : Nat} {rjobs : List (Nat × RJob)} {ajobs : List (Nat × AJob)}
    (h : AlRel (JR conn mw) rjobs ajobs) :
    ∀ acc : Restored, ∃ js bs, restoreJobsFrom rjobs acc =
        .ok { acc with jobs := acc.jobs ++ js, batches := acc.batches ++ bs } ∧
      js.map RestoredJob.view = ajobs.map (fun ja => ja.2.view ja.1) ∧
      batchPending bs = ajobs.flatMap (fun ja => ja.2.pending.map fun p => (ja.1, p.task, p.deps, p.inst, p.crashes)) := by
  induction h with
  | nil => intro acc; exact ⟨[], [], by simp [restoreJobsFrom], rfl, rfl⟩
  | @cons k rj aj l m hrel _ ih =>
    intro acc
    obtain ⟨rjob, bs, h1, h2, h3⟩ := restoreJob_ok k hrel.1 hrel.2
    obtain ⟨js, bs', g1, g2, g3⟩ := ih { acc with jobs := acc.jobs ++ [rjob], batches := acc.batches ++ bs }
    refine ⟨rjob :: js, bs ++ bs', ?_, ?_, ?_⟩
    · simp only [restoreJobsFrom, h1, g1]; simp [List.append_assoc]
    · simp only [List.map_cons, g2, h2]
    · have : batchPending (bs ++ bs') = batchPending bs ++ batchPending bs' := by simp [batchPending]
      rw [this, g3, h3]
      simp

theorem restore_inv {J : List Record} (hp : Producible J) :
    ∃ R X, restore J = .ok (R, X) ∧ Inv R (meaning J) ∧
      X.jobs.map RestoredJob.view = (meaning J).jobs.map (fun ja => ja.2.view ja.1) ∧
      batchPending X.batches = (meaning J).pending ∧
      X.queues = R.queues.map fun q => (q.1, (alGet R.queueRes q.1).isSome) := by
  obtain ⟨R, hR, hinv⟩ := fold_inv J {} {} inv_init hp
  obtain ⟨js, bs, h1, h2, h3⟩ := restoreJobsFrom_ok hinv.jobs
    { queues := R.queues.map fun q => (q.1, (alGet R.queueRes q.1).isSome) }
  have hA : List.foldl meaningStep {} J = meaning J := rfl
  rw [hA] at hinv h2 h3
  exact ⟨R, ⟨js, bs, R.queues.map fun q => (q.1, (alGet R.queueRes q.1).isSome)⟩,
    by simp only [restore, restorerFold, hR, restoreJobs, h1]; rfl, hinv, by simpa using h2,
    by simpa [AState.pending] using h3, rfl⟩

end HqModel.Journal
