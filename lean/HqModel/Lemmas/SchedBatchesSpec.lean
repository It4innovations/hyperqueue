import HqModel.Lemmas.SchedLink
/-!
The specification predicates that are structures made decidable (`Instance.WF`, `ValidPlacement`; `BatchesSpec` through its
Boolean form, `batchesSpec_of_B`), and `batches_spec`: `batches inst` satisfies `BatchesSpec` whenever there are at most 32
priority levels (then no batch has more than 32 cuts and `prune_progressive` is the identity).
-/
namespace HqModel.Sched

instance (inst : Instance) : Decidable inst.WF :=
  decidable_of_iff (_ ∧ _ ∧ _ ∧ _ ∧ _ ∧ _ ∧ _ ∧ _)
    ⟨fun ⟨a, b, c, d, e, f, g, h⟩ => ⟨a, b, c, d, e, f, g, h⟩, fun h => ⟨h.1, h.2, h.3, h.4, h.5, h.6, h.7, h.8⟩⟩

/-- the ids of `taken` are those `takeIds` computes, so the field is a statement about that `Option` -/
instance (inst : Instance) (x : Assign) (pl : Placement) : Decidable (ValidPlacement inst x pl) :=
  decidable_of_iff (_ ∧ _ ∧
      (∀ c < inst.queues.length, ∃ ids ∈ takeIds (inst.queue c) (placedCount inst x c),
        ∀ t ∈ flatten c (inst.queue c), pl.dispatched t.id = true ↔ t.id ∈ ids) ∧ _ ∧ _)
    ⟨fun ⟨a, b, c, d, e⟩ => ⟨a, b, c, d, e⟩, fun h => ⟨h.1, h.2, h.3, h.4, h.5⟩⟩

theorem batchesSpec_of_B {inst : Instance} {bs : List Batch} (h : batchesSpecB inst bs = true) :
    BatchesSpec inst bs := by
  simp only [batchesSpecB, Bool.and_eq_true, decide_eq_true_eq, List.all_eq_true, List.any_eq_true,
    Bool.or_eq_true, Bool.not_eq_true', decide_eq_false_iff_not] at h
  obtain ⟨hcl, hall⟩ := h
  refine ⟨hcl, fun b hb => (hall b hb).1.1.1.1, ?_, ?_, ?_, ?_, fun b hb => (hall b hb).2⟩
  · intro b hb hre
    have := (hall b hb).1.1.1.2
    rw [if_pos hre] at this
    exact of_decide_eq_true this
  · intro b hb hre
    have := (hall b hb).1.1.1.2
    rw [if_neg (ne_true_of_eq_false hre)] at this
    exact of_decide_eq_true this
  · intro b hb cut hcut
    obtain ⟨t, ht, ⟨⟨h1, h2⟩, h3⟩, h4⟩ := (hall b hb).1.1.2 cut hcut
    exact ⟨t, ht, h1, h2, h3, h4⟩
  · intro b hb t ht hc hle hne
    rcases (hall b hb).1.2 t ht with ((h1 | h1) | h1) | h1
    · exact absurd hc h1
    · exact absurd hle h1
    · exact absurd (List.isEmpty_iff.mp h1) hne
    · obtain ⟨cut, hcut, h2, h3⟩ := h1
      exact ⟨cut, hcut, h2, h3⟩

theorem init_inv (inst : Instance) : Inv inst [] { bs := inst.initBatches } := by
  refine ⟨?_, List.forall_mem_map.mpr fun c _ => rfl, List.forall_mem_map.mpr fun c _ _ => ⟨rfl, Nat.zero_le _⟩,
    List.forall_mem_map.mpr fun c _ => nofun, List.forall_mem_map.mpr fun c _ => nofun,
    fun b _ pre p post h => (by cases pre <;> cases h),
    List.forall_mem_map.mpr fun c _ => ⟨nofun, List.Pairwise.nil, Nat.le_refl _⟩, nofun⟩
  rw [Instance.initBatches, List.map_map]
  exact List.map_id'' (fun _ => rfl) _

theorem total_pos {inst : Instance} (hne : ∀ q ∈ inst.queues, ∀ e ∈ q, e.2 ≠ []) {c : Nat}
    (hc : c ∈ inst.readyClasses) : 0 < total inst c := by
  simp only [Instance.readyClasses, List.mem_filter, List.mem_range, Bool.not_eq_true'] at hc
  obtain ⟨hlt, hq⟩ := hc
  have hmem := queue_mem hlt
  rw [total_eq]
  cases hqc : inst.queue c with
  | nil => rw [hqc] at hq; cases hq
  | cons e rest =>
    rw [hqc] at hmem
    rw [flatten, List.flatMap_cons, List.length_append, List.length_map]
    exact Nat.lt_of_lt_of_le (List.length_pos_iff.mpr (hne _ hmem e List.mem_cons_self)) (Nat.le_add_right _ _)

/-- the loop of `create_task_batches` meets the closed-form specification, whatever the number of levels: what is left
for `batches` is the pruning of the cuts -/
theorem loop_spec {inst : Instance} (hne : ∀ q ∈ inst.queues, ∀ e ∈ q, e.2 ≠ []) :
    BatchesSpec inst
      ((inst.prios.foldl (stepLevel inst) { bs := inst.initBatches }).bs.filter fun b => decide (b.size > 0)) := by
  have hinv := foldl_inv inst.prios [] _ (init_inv inst)
  rw [List.nil_append] at hinv
  generalize inst.prios.foldl (stepLevel inst) { bs := inst.initBatches } = fin at hinv
  have hmem : ∀ {b : Batch}, b ∈ fin.bs.filter (fun b => decide (b.size > 0)) → b ∈ fin.bs :=
    fun hb => (List.mem_filter.mp hb).1
  refine ⟨?_, fun b hb => hinv.limit b (hmem hb), fun b hb hre => ?_, fun b hb hre => ?_, fun b hb cut hcut => ?_,
    fun b hb t ht htc hle hbl => ?_, fun b hb => (hinv.sizes b (hmem hb)).2.1⟩
  · -- classes: a ready class has tasks, so its batch is empty iff its limit is 0
    rw [← hinv.rqs, List.filter_map]
    refine congrArg _ (List.filter_congr fun b hb => ?_)
    have htot := total_pos hne (hinv.rqs ▸ List.mem_map_of_mem hb)
    show decide (b.size > 0) = decide (inst.limitOf b.rq > 0)
    rw [← hinv.limit b hb]
    cases hre : b.reached with
    | true => rw [(hinv.closed b hb hre).1]
    | false =>
      obtain ⟨h1, h2⟩ := hinv.open_ b hb hre
      rw [N_total] at h1
      rw [decide_eq_true (h1 ▸ htot), decide_eq_true (Nat.lt_of_lt_of_le (h1 ▸ htot) h2)]
  · rw [← N_total]
    exact hinv.closed b (hmem hb) hre
  · rw [← N_total]
    exact hinv.open_ b (hmem hb) hre
  · obtain ⟨pre, p, post, hsplit, hcnt, h1, h2, h3⟩ := hinv.sound b (hmem hb) cut hcut
    obtain ⟨t, ht, htc, rfl⟩ := exists_task_of_cnt hcnt
    exact ⟨t, ht, htc, h1.trans (N_above _ hsplit), h2, h3.trans (blockersAtN_eq _ hsplit)⟩
  · obtain ⟨pre, post, hsplit⟩ := List.append_of_mem (task_prio_mem ht)
    rw [← N_above _ hsplit] at hle ⊢
    rw [← blockersAtN_eq _ hsplit] at hbl ⊢
    exact hinv.exists_ b (hmem hb) pre t.prio post hsplit (htc ▸ cnt_pos_of_task ht) hle hbl

theorem batches_spec {inst : Instance} (hne : ∀ q ∈ inst.queues, ∀ e ∈ q, e.2 ≠ [])
    (hlv : inst.prios.length ≤ 32) : BatchesSpec inst (batches inst) := by
  have hinv := foldl_inv inst.prios [] _ (init_inv inst)
  have hprune : ∀ b ∈ (inst.prios.foldl (stepLevel inst) { bs := inst.initBatches }).bs,
      ({ b with cuts := pruneProgressive b.cuts } : Batch) = b := by
    intro b hb
    rw [pruneProgressive, if_pos (Nat.le_trans (hinv.sizes b hb).2.2 hlv)]
  rw [batches, List.map_congr_left hprune, List.map_id']
  exact loop_spec hne

/-! `pruneProgressive` against the two vectors of the Rust unit test `test_prune_progressive` -/

/-- pruning `0 .. n-1` keeps the indices themselves; evaluating this form does not walk the list once per index -/
theorem pruneProgressive_range {n : Nat} (h : 32 < n) :
    pruneProgressive (List.range n) = (pruneIndices n).filter (· < n) := by
  rw [pruneProgressive, List.length_range, if_neg (Nat.not_le.mpr h), ← List.filterMap_eq_filter]
  congr 1
  funext i
  by_cases hi : i < n <;> simp [Option.guard, hi]

example : pruneProgressive (List.range 1000) =
    [0, 1, 2, 3, 4, 5, 9, 16, 26, 38, 53, 71, 91, 115, 140, 169, 201, 235, 272, 311, 353, 398, 446, 497, 550, 606,
     665, 726, 790, 857, 927, 999] := (pruneProgressive_range (by decide)).trans (by decide +kernel)

example : pruneProgressive (List.range 40) =
    [0, 1, 2, 3, 4, 5, 6, 7, 8, 9, 10, 11, 12, 13, 14, 15, 16, 17, 18, 19, 20, 21, 22, 23, 24, 25, 27, 29, 32, 34,
     36, 39] := (pruneProgressive_range (by decide)).trans (by decide +kernel)

end HqModel.Sched
