import HqModel.Lemmas.AllocClaim
import HqModel.Lemmas.AllocRelease
/-!
The conservation invariant of the whole allocator (`Inv`): what one claim adds to an allocation under construction
(`Building`); `release` of a live allocation never panics, preserves it, the kinds of the pools (`SameKinds`) and the
distinctness of the map keys (`PKeys`); it holds in the initial state.
-/
namespace HqModel.Alloc

def Pool.groupsOf : Pool → List Group
  | .indices _ g => [g]
  | .groups _ gs => gs
  | _ => []

/-- The kind of a pool as a number: 0 `empty`, 1 `indices` (list / range), 2 `groups`, 3 `sum`. Statements name the
kinds by it (`tag = 3`, `tag = 1 ∨ tag = 2`); no operation changes it. -/
def Pool.tag : Pool → Nat
  | .empty => 0
  | .indices _ _ => 1
  | .groups _ _ => 2
  | .sum _ _ => 3

def Pool.ngroups (p : Pool) : Nat := p.groupsOf.length

def Pool.sumFree : Pool → Nat
  | .sum _ free => free
  | _ => 0

theorem Pool.tag_ne_zero {p : Pool} (h : p ≠ .empty) : p.tag ≠ 0 := by
  cases p <;> simp [Pool.tag] at h ⊢

theorem Pool.groupsOf_of_tag3 {p : Pool} (h : p.tag = 3) : p.groupsOf = [] := by
  cases p <;> simp [Pool.tag] at h <;> rfl

theorem sumFree_of_tag {p : Pool} (h : p.tag ≠ 3) : p.sumFree = 0 := by
  cases p <;> simp [Pool.tag] at h <;> rfl

def SameKinds (a b : List Pool) : Prop :=
  a.length = b.length ∧ ∀ (rid : Nat) (p q : Pool), a[rid]? = some p → b[rid]? = some q →
    q.tag = p.tag ∧ q.fullSize = p.fullSize ∧ q.ngroups = p.ngroups

theorem SameKinds.refl (a : List Pool) : SameKinds a a :=
  ⟨rfl, fun _ p q hp hq => by rw [hp] at hq; cases hq; exact ⟨rfl, rfl, rfl⟩⟩

theorem SameKinds.set {a b : List Pool} {rid : Nat} {p p' : Pool} (h : SameKinds a b) (hp : b[rid]? = some p)
    (ht : p'.tag = p.tag) (hf : p'.fullSize = p.fullSize) (hn : p'.ngroups = p.ngroups) :
    SameKinds a (b.set rid p') := by
  refine ⟨by simp [h.1], fun r x y hx hy => ?_⟩
  rcases getElem?_set_cases hy with ⟨rfl, rfl⟩ | ⟨-, hy⟩
  · obtain ⟨t, f, n⟩ := h.2 r x p hx hp
    exact ⟨by rw [ht, t], by rw [hf, f], by rw [hn, n]⟩
  · exact h.2 r x y hx hy

theorem SameKinds.trans {a b c : List Pool} (h1 : SameKinds a b) (h2 : SameKinds b c) : SameKinds a c := by
  refine ⟨h1.1.trans h2.1, fun rid p r hp hr => ?_⟩
  have hlt : rid < b.length := by rw [← h1.1]; exact lt_length_of_getElem? hp
  obtain ⟨q, hq⟩ := exists_get hlt
  obtain ⟨t1, f1, n1⟩ := h1.2 rid p q hp hq
  obtain ⟨t2, f2, n2⟩ := h2.2 rid q r hq hr
  exact ⟨by rw [t2, t1], by rw [f2, f1], by rw [n2, n1]⟩

theorem SameKinds.ne_empty {a b : List Pool} (h : SameKinds a b) {rid : Nat} {p : Pool} (hp : a[rid]? = some p)
    (hne : p ≠ .empty) : ∃ q, b[rid]? = some q ∧ q ≠ .empty := by
  obtain ⟨q, hq⟩ := exists_get (h.1 ▸ lt_length_of_getElem? hp : rid < b.length)
  refine ⟨q, hq, fun he => Pool.tag_ne_zero hne ?_⟩
  rw [← (h.2 rid p q hp hq).1, he]
  rfl

def PKeys (pools : List Pool) : Prop := ∀ p ∈ pools, GKeys p.groupsOf

theorem PKeys.set {pools : List Pool} {rid : Nat} {p' : Pool} (h : PKeys pools) (hp' : GKeys p'.groupsOf) :
    PKeys (pools.set rid p') := by
  intro p hp
  rcases List.mem_or_eq_of_mem_set hp with h1 | rfl
  · exact h p h1
  · exact hp'

def raEntries (rid : Nat) (al : Allocation) : List AIdx :=
  al.flatMap (fun ra => if ra.rid = rid then ra.indices else [])

def raAmount (rid : Nat) (al : Allocation) : Nat :=
  (al.map (fun ra => if ra.rid = rid then ra.amount else 0)).sum

def heldOf (live : List (Nat × Allocation)) (rid : Nat) : List AIdx := live.flatMap (fun x => raEntries rid x.2)

def heldAmount (live : List (Nat × Allocation)) (rid : Nat) : Nat := (live.map (fun x => raAmount rid x.2)).sum

/-- conservation for all pools w.r.t. held entries `H rid` and held amounts `A rid` -/
structure PoolsInv (U : Nat → Nat → List Nat) (pools : List Pool) (H : Nat → List AIdx) (A : Nat → Nat) : Prop where
  pool : ∀ (rid : Nat) (p : Pool), pools[rid]? = some p → PoolInv p.groupsOf (U rid) (H rid)
  sum : ∀ (rid full free : Nat), pools[rid]? = some (.sum full free) → free + A rid = full

/-- **Conserve** (C04): `U rid gid` are the indices group `gid` of resource `rid` was created with. -/
structure Inv (U : Nat → Nat → List Nat) (s : State) : Prop where
  pools : PoolsInv U s.pools (heldOf s.live) (heldAmount s.live)
  rids : ∀ x ∈ s.live, ∀ ra ∈ x.2, ∃ p, s.pools[ra.rid]? = some p ∧ p ≠ .empty

theorem PoolsInv.congr {U pools H H' A A'} (h : PoolsInv U pools H A) (hH : ∀ r, (H r).Perm (H' r))
    (hA : ∀ r, A r = A' r) : PoolsInv U pools H' A' where
  pool := fun rid p hp => (h.pool rid p hp).perm (hH rid)
  sum := fun rid full free hp => by rw [← hA]; exact h.sum rid full free hp

@[simp] theorem raEntries_nil (rid : Nat) : raEntries rid [] = [] := rfl
@[simp] theorem raAmount_nil (rid : Nat) : raAmount rid [] = 0 := rfl

theorem raEntries_cons (rid : Nat) (ra : RAlloc) (al : Allocation) :
    raEntries rid (ra :: al) = (if ra.rid = rid then ra.indices else []) ++ raEntries rid al := by
  simp [raEntries]

theorem raAmount_cons (rid : Nat) (ra : RAlloc) (al : Allocation) :
    raAmount rid (ra :: al) = (if ra.rid = rid then ra.amount else 0) + raAmount rid al := by
  simp [raAmount]

theorem raEntries_append (rid : Nat) (al₁ al₂ : Allocation) :
    raEntries rid (al₁ ++ al₂) = raEntries rid al₁ ++ raEntries rid al₂ := by
  simp [raEntries]

theorem raAmount_append (rid : Nat) (al₁ al₂ : Allocation) :
    raAmount rid (al₁ ++ al₂) = raAmount rid al₁ + raAmount rid al₂ := by
  simp [raAmount, List.sum_append]

theorem raEntries_perm {al₁ al₂ : Allocation} (p : al₁.Perm al₂) (rid : Nat) :
    (raEntries rid al₁).Perm (raEntries rid al₂) := by
  unfold raEntries
  exact p.flatMap_right _

theorem raAmount_perm {al₁ al₂ : Allocation} (p : al₁.Perm al₂) (rid : Nat) : raAmount rid al₁ = raAmount rid al₂ := by
  unfold raAmount
  exact (p.map _).sum_nat

theorem Pool.release_inv {p : Pool} {ra : RAlloc} {U : Nat → List Nat} {O : List AIdx} {A : Nat}
    (hne : p ≠ .empty) (hinv : PoolInv p.groupsOf U (ra.indices ++ O))
    (hsum : ∀ full free, p = .sum full free → free + (ra.amount + A) = full) :
    ∃ p', p.release ra = .ok p' ∧ PoolInv p'.groupsOf U O ∧
      (∀ full free', p' = .sum full free' → free' + A = full) ∧
      (p'.tag = p.tag ∧ p'.fullSize = p.fullSize ∧ p'.ngroups = p.ngroups) ∧ (GKeys p.groupsOf → GKeys p'.groupsOf) := by
  have hperm : (ra.indices ++ O).Perm (ra.indices.reverse ++ O) :=
    List.Perm.append_right _ (List.reverse_perm _).symm
  cases p with
  | empty => exact absurd rfl hne
  | indices full g =>
    have hall : ra.indices.any (fun e => decide (e.group ≠ 0)) = false := by
      rw [List.any_eq_false]
      intro e he
      have := (hinv.keys e (List.mem_append_left _ he)).1
      simp [Pool.groupsOf] at this
      simp [this]
    obtain ⟨gs', hrel, inv', len', keys'⟩ := releaseList_inv (hinv.perm hperm)
    simp only [Pool.groupsOf, List.length_cons, List.length_nil] at len'
    obtain ⟨g', rfl⟩ : ∃ g', gs' = [g'] := by
      match gs', len' with
      | [g'], _ => exact ⟨g', rfl⟩
    refine ⟨.indices full g', ?_, inv', nofun, ⟨rfl, rfl, rfl⟩, keys'⟩
    simp only [Pool.release, hall, Pool.groupsOf] at hrel ⊢
    simp [hrel]
  | groups full gs =>
    obtain ⟨gs', hrel, inv', len', keys'⟩ := releaseList_inv (hinv.perm hperm)
    refine ⟨.groups full gs', ?_, inv', nofun, ⟨rfl, rfl, len'⟩, keys'⟩
    simp only [Pool.groupsOf] at hrel
    simp [Pool.release, hrel]
  | sum full free =>
    have hs := hsum full free rfl
    have hidx : ra.indices = [] := by
      match hra : ra.indices with
      | [] => rfl
      | e :: es =>
        have := (hinv.keys e (by rw [hra]; simp)).1
        simp [Pool.groupsOf] at this
    have hO : PoolInv ([] : List Group) U O := by
      have := hinv
      rw [hidx] at this
      simpa [Pool.groupsOf] using this
    refine ⟨.sum full (free + ra.amount), ?_, hO, ?_, ⟨rfl, rfl, rfl⟩, id⟩
    · have h1 : ¬ full < free + ra.amount := by omega
      simp [Pool.release, h1, hidx]
    · intro full' free' heq
      simp only [Pool.sum.injEq] at heq
      obtain ⟨rfl, rfl⟩ := heq
      omega

theorem PoolsInv.set {U pools H A} {rid : Nat} {p p' : Pool} {H' : Nat → List AIdx} {A' : Nat → Nat}
    (h : PoolsInv U pools H A) (hp : pools[rid]? = some p)
    (hpool : PoolInv p'.groupsOf (U rid) (H' rid))
    (hsum : ∀ full free', p' = .sum full free' → free' + A' rid = full)
    (hH : ∀ r, r ≠ rid → H' r = H r) (hA : ∀ r, r ≠ rid → A' r = A r) :
    PoolsInv U (pools.set rid p') H' A' where
  pool := fun r q hq => by
    rcases getElem?_set_cases hq with ⟨rfl, rfl⟩ | ⟨hr, hq⟩
    · exact hpool
    · exact hH r hr ▸ h.pool r q hq
  sum := fun r full free hq => by
    rcases getElem?_set_cases hq with ⟨rfl, he⟩ | ⟨hr, hq⟩
    · exact hsum full free he.symm
    · exact hA r hr ▸ h.sum r full free hq

theorem ne_empty_set {pools : List Pool} {r rid : Nat} {p' : Pool} (hne : p' ≠ .empty)
    (h : ∃ q, pools[r]? = some q ∧ q ≠ .empty) : ∃ q, (pools.set rid p')[r]? = some q ∧ q ≠ .empty := by
  obtain ⟨q, hq, hqne⟩ := h
  by_cases hr : r = rid
  · subst hr
    exact ⟨p', by simp [lt_length_of_getElem? hq], hne⟩
  · exact ⟨q, by rw [List.getElem?_set_ne (by omega)]; exact hq, hqne⟩

/-- shape of the invariant while an allocation `al` is being built on top of held `H`, `A` -/
abbrev Building (U : Nat → Nat → List Nat) (pools : List Pool) (H : Nat → List AIdx) (A : Nat → Nat)
    (al : Allocation) : Prop :=
  PoolsInv U pools (fun r => H r ++ raEntries r al) (fun r => A r + raAmount r al) ∧
    ∀ ra ∈ al, ∃ p, pools[ra.rid]? = some p ∧ p ≠ .empty

theorem building_step {U pools H A al} {rid : Nat} {p p' : Pool} {ra : RAlloc}
    (hb : Building U pools H A al) (hp : pools[rid]? = some p) (hrid : ra.rid = rid)
    (hpool : PoolInv p'.groupsOf (U rid) ((H rid ++ raEntries rid al) ++ ra.indices))
    (hne : p' ≠ .empty)
    (hsum : ∀ full free', p' = .sum full free' → ∃ free, p = .sum full free ∧ free' + ra.amount = free) :
    Building U (pools.set rid p') H A (al ++ [ra]) := by
  refine ⟨?_, ?_⟩
  · refine hb.1.set hp ?_ ?_ ?_ ?_
    · simp only [raEntries_append, raEntries_cons, hrid, if_true, raEntries_nil, List.append_nil]
      simpa [List.append_assoc] using hpool
    · intro full free' heq
      obtain ⟨free, hpf, hfree⟩ := hsum full free' heq
      have := hb.1.sum rid full free (hpf ▸ hp)
      simp only [raAmount_append, raAmount_cons, hrid, if_true, raAmount_nil] at this ⊢
      omega
    · intro r hr
      have : ¬ ra.rid = r := fun h => hr (by rw [← h, hrid])
      simp [raEntries_append, raEntries_cons, this]
    · intro r hr
      have : ¬ ra.rid = r := fun h => hr (by rw [← h, hrid])
      simp [raAmount_append, raAmount_cons, this]
  · intro ra' hra'
    rcases List.mem_append.mp hra' with h | h
    · exact ne_empty_set hne (hb.2 ra' h)
    · simp at h; subst h
      exact ⟨p', by rw [hrid]; simp [lt_length_of_getElem? hp], hne⟩

theorem insertRa_perm (x : RAlloc) (l : Allocation) : (insertRa x l).Perm (x :: l) := by
  induction l with
  | nil => exact .refl _
  | cons y ys ih =>
    simp only [insertRa]
    split
    · exact .refl _
    · exact (List.Perm.cons y ih).trans (List.Perm.swap x y ys)

theorem normalize_perm (al : Allocation) : (normalize al).Perm al := by
  induction al with
  | nil => exact .refl _
  | cons x xs ih =>
    show (insertRa x (normalize xs)).Perm (x :: xs)
    exact (insertRa_perm x _).trans (List.Perm.cons x ih)

theorem heldOf_cons (h : Nat) (al : Allocation) (live : List (Nat × Allocation)) (rid : Nat) :
    heldOf ((h, al) :: live) rid = raEntries rid al ++ heldOf live rid := by
  simp [heldOf]

theorem heldAmount_cons (h : Nat) (al : Allocation) (live : List (Nat × Allocation)) (rid : Nat) :
    heldAmount ((h, al) :: live) rid = raAmount rid al + heldAmount live rid := by
  simp [heldAmount]

theorem liveGet_mem {live : List (Nat × Allocation)} {h : Nat} {al : Allocation} (hg : liveGet live h = some al) :
    (h, al) ∈ live := by
  induction live with
  | nil => simp [liveGet] at hg
  | cons x xs ih =>
    obtain ⟨k, v⟩ := x
    simp only [liveGet] at hg
    split at hg
    · rename_i hk; cases hg; subst hk; simp
    · exact List.mem_cons_of_mem _ (ih hg)

theorem liveErase_perm {live : List (Nat × Allocation)} {h : Nat} {al : Allocation}
    (hg : liveGet live h = some al) : live.Perm ((h, al) :: liveErase live h) := by
  induction live with
  | nil => simp [liveGet] at hg
  | cons x xs ih =>
    obtain ⟨k, v⟩ := x
    simp only [liveGet] at hg
    simp only [liveErase]
    split at hg
    · rename_i hk; cases hg; subst hk; simp
    · rename_i hk
      simp only [hk, if_false]
      exact (List.Perm.cons _ (ih hg)).trans (List.Perm.swap _ _ _)

theorem heldOf_perm {l₁ l₂ : List (Nat × Allocation)} (p : l₁.Perm l₂) (rid : Nat) :
    (heldOf l₁ rid).Perm (heldOf l₂ rid) := by
  unfold heldOf
  exact p.flatMap_right _

theorem heldAmount_perm {l₁ l₂ : List (Nat × Allocation)} (p : l₁.Perm l₂) (rid : Nat) :
    heldAmount l₁ rid = heldAmount l₂ rid := by
  unfold heldAmount
  exact (p.map _).sum_nat

theorem releasePools_inv {U} {pools : List Pool} {al : Allocation} {O : Nat → List AIdx} {A : Nat → Nat}
    (hinv : PoolsInv U pools (fun r => raEntries r al ++ O r) (fun r => raAmount r al + A r))
    (hrids : ∀ ra ∈ al, ∃ p, pools[ra.rid]? = some p ∧ p ≠ .empty) :
    ∃ pools', releasePools pools al = .ok pools' ∧ PoolsInv U pools' O A ∧ SameKinds pools pools' ∧
      (PKeys pools → PKeys pools') := by
  induction al generalizing pools with
  | nil =>
    exact ⟨pools, rfl, hinv.congr (fun r => by simp) (fun r => by simp), SameKinds.refl _, id⟩
  | cons ra ras ih =>
    obtain ⟨p, hp, hne⟩ := hrids ra (by simp)
    have hpool := hinv.pool ra.rid p hp
    simp only [raEntries_cons, if_true, List.append_assoc] at hpool
    have hsum : ∀ full free, p = .sum full free → free + (ra.amount + (raAmount ra.rid ras + A ra.rid)) = full := by
      intro full free heq
      have := hinv.sum ra.rid full free (heq ▸ hp)
      simp only [raAmount_cons, if_true] at this
      omega
    obtain ⟨p', hrel, hpool', hsum', ⟨ht, hf, hn⟩, hkeys⟩ := Pool.release_inv hne hpool hsum
    have hne' : p' ≠ .empty := fun he => Pool.tag_ne_zero hne (by rw [← ht, he]; rfl)
    have hinv' : PoolsInv U (pools.set ra.rid p') (fun r => raEntries r ras ++ O r)
        (fun r => raAmount r ras + A r) := by
      refine hinv.set hp hpool' hsum' ?_ ?_
      · intro r hr
        have : ¬ ra.rid = r := fun h => hr h.symm
        simp [raEntries_cons, this]
      · intro r hr
        have : ¬ ra.rid = r := fun h => hr h.symm
        simp [raAmount_cons, this]
    obtain ⟨pools', hrel', hinv'', kinds', keys'⟩ :=
      ih hinv' (fun ra' hra' => ne_empty_set hne' (hrids ra' (List.mem_cons_of_mem _ hra')))
    refine ⟨pools', by simp [releasePools, hp, hrel, setPool, hrel'], hinv'',
      ((SameKinds.refl pools).set hp ht hf hn).trans kinds',
      fun hK => keys' (hK.set (hkeys (hK p (List.mem_of_getElem? hp))))⟩

theorem releasePools_live {U} {s : State} {h : Nat} {al : Allocation} (hinv : Inv U s)
    (hg : liveGet s.live h = some al) :
    ∃ pools', releasePools s.pools al = .ok pools' ∧ SameKinds s.pools pools' ∧ (PKeys s.pools → PKeys pools') ∧
      ∀ concise, Inv U { s with pools := pools', concise := concise, live := liveErase s.live h } := by
  have hperm := liveErase_perm hg
  have hinv0 : PoolsInv U s.pools (fun r => raEntries r al ++ heldOf (liveErase s.live h) r)
      (fun r => raAmount r al + heldAmount (liveErase s.live h) r) := by
    refine hinv.pools.congr (fun r => ?_) (fun r => ?_)
    · rw [← heldOf_cons h]; exact heldOf_perm hperm r
    · rw [← heldAmount_cons h]; exact heldAmount_perm hperm r
  obtain ⟨pools', hrel, hinv', kinds, keys⟩ := releasePools_inv hinv0 (hinv.rids _ (liveGet_mem hg))
  refine ⟨pools', hrel, kinds, keys, fun concise => ⟨hinv', fun x hx ra hra => ?_⟩⟩
  obtain ⟨p, hp, hne⟩ := hinv.rids x (hperm.mem_iff.mpr (List.mem_cons_of_mem _ hx)) ra hra
  exact kinds.ne_empty hp hne

/-- a pool as `ResourcePool::new` builds it: everything free, no fractions -/
def Pool.Fresh (p : Pool) : Prop :=
  (∀ g ∈ p.groupsOf, g.fracs = [] ∧ g.free.Nodup) ∧ (∀ full free, p = .sum full free → free = full)

/-- the indices each group was created with, read off a (fresh) pool vector -/
def univOf (pools : List Pool) : Nat → Nat → List Nat := fun rid gid =>
  match pools[rid]? with
  | some p => (p.groupsOf[gid]?.map (·.free)).getD []
  | none => []

theorem inv_fresh (s : State) (hfresh : ∀ p ∈ s.pools, p.Fresh) (hlive : s.live = []) :
    Inv (univOf s.pools) s := by
  refine ⟨⟨?_, ?_⟩, by simp [hlive]⟩
  · intro rid p hp
    have hf := hfresh p (List.mem_of_getElem? hp)
    have hheld : heldOf s.live rid = [] := by simp [hlive, heldOf]
    rw [hheld]
    refine ⟨?_, ?_, ?_, by simp, ?_⟩
    rotate_right
    · intro gid g hg j
      have := hf.1 g (List.mem_of_getElem? hg)
      simp [this.1, fracOf, FPU_pos]
    · intro gid
      simp only [univOf, hp]
      cases hg : p.groupsOf[gid]? with
      | none => simp
      | some g => simpa using (hf.1 g (List.mem_of_getElem? hg)).2
    · intro gid g hg
      have := hf.1 g (List.mem_of_getElem? hg)
      exact ⟨this.2, fun j _ => by simp [this.1, fracOf]⟩
    · intro gid i
      simp only [univOf, hp, freeAmt, heldBy_nil, Nat.add_zero]
      cases hg : p.groupsOf[gid]? with
      | none => simp
      | some g =>
        have := hf.1 g (List.mem_of_getElem? hg)
        simp [Group.freeAmt, this.1, fracOf]
  · intro rid full free hp
    have hf := hfresh _ (List.mem_of_getElem? hp)
    have := hf.2 full free rfl
    simp [hlive, heldAmount, this]

theorem stackRange_nodup (a n : Nat) : (stackRange a n).Nodup := by
  unfold stackRange
  exact (List.reverse_perm _).nodup_iff.mpr (List.nodup_range' 1)

theorem groupsFrom_fresh (off : Nat) (sizes : List Nat) :
    ∀ g ∈ groupsFrom off sizes, g.fracs = [] ∧ g.free.Nodup := by
  induction sizes generalizing off with
  | nil => simp [groupsFrom]
  | cons n ns ih =>
    intro g hg
    simp only [groupsFrom, List.mem_cons] at hg
    rcases hg with rfl | hg
    · exact ⟨rfl, stackRange_nodup _ _⟩
    · exact ih _ g hg

theorem Pool.new_fresh (k : Kind) : (Pool.new k).Fresh := by
  cases k with
  | list n => exact ⟨by simp [Pool.new, Pool.groupsOf, stackRange_nodup], by simp [Pool.new]⟩
  | range s e => exact ⟨by simp [Pool.new, Pool.groupsOf, stackRange_nodup], by simp [Pool.new]⟩
  | groups sizes => exact ⟨by simpa [Pool.new, Pool.groupsOf] using groupsFrom_fresh 0 sizes, by simp [Pool.new]⟩
  | sum size =>
    refine ⟨by simp [Pool.new, Pool.groupsOf], ?_⟩
    intro full free h
    simp only [Pool.new, Pool.sum.injEq] at h
    omega

theorem Pool.empty_fresh : Pool.empty.Fresh := ⟨by simp [Pool.groupsOf], by simp⟩

theorem placeItems_created (ps : List Pool) (items : List (Nat × Kind))
    (h : ∀ p ∈ ps, p = .empty ∨ ∃ k, p = Pool.new k) :
    ∀ p ∈ placeItems ps items, p = .empty ∨ ∃ k, p = Pool.new k := by
  induction items generalizing ps with
  | nil => simpa [placeItems] using h
  | cons it rest ih =>
    obtain ⟨rid, k⟩ := it
    simp only [placeItems]
    apply ih
    intro p hp
    rcases List.mem_or_eq_of_mem_set hp with hp | rfl
    · exact h p hp
    · exact .inr ⟨k, rfl⟩

theorem init_spec {d : Descriptor} {s : State} (h : State.init d = some s) :
    (∀ p ∈ s.pools, p = .empty ∨ ∃ k, p = Pool.new k) ∧ s.live = [] ∧
      s.concise = s.pools.map Pool.conciseState ∧ s.allFree = s.pools.map Pool.conciseState := by
  unfold State.init at h
  split at h
  · cases h
  · dsimp only at h
    split at h
    · cases h
    · obtain rfl := Option.some.inj h
      exact ⟨placeItems_created _ _ (fun p hp => .inl (List.eq_of_mem_replicate hp)), rfl, rfl, rfl⟩

theorem init_fresh {d : Descriptor} {s : State} (h : State.init d = some s) : ∀ p ∈ s.pools, p.Fresh := by
  intro p hp
  rcases (init_spec h).1 p hp with rfl | ⟨k, rfl⟩
  · exact Pool.empty_fresh
  · exact Pool.new_fresh k

theorem init_inv {d : Descriptor} {s : State} (h : State.init d = some s) : Inv (univOf s.pools) s :=
  inv_fresh s (init_fresh h) (init_spec h).2.1

end HqModel.Alloc
