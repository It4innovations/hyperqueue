import HqModel.Lemmas.CoreOpsRegister
import HqModel.Lemmas.CoreOpsSched
import HqModel.Lemmas.CoreSteps
/-!
Record descent: every operation of the core model rewrites task and worker records one at a time and may erase some, so
every record of the state after it descends from a record of the state before it. `GFr` says it with one step of
arbitrary relations (no unique ids needed), `GFrS` with their chains (`Star`, also the carrier of `Acts`); `Desc` adds
`Frame` and `Look` and is what the `…_desc` lemmas of the operations conclude. Those are built with `Desc.refl / trans /
sub / weaken / of_eq / put / putSame / setWorker / withWorker / eraseTask` and read through `.frame`, `.lift`, `.tasks`,
`GFr.find`, `.find_kept`, `.find_fwd`; the other lemmas here serve these.
-/
namespace HqModel.Core

inductive Star {α : Type} (R : α → α → Prop) : α → α → Prop
  | refl (a : α) : Star R a a
  | tail {a b c : α} : Star R a b → R b c → Star R a c

namespace Star
variable {α : Type} {R R' : α → α → Prop}

theorem single {a b : α} (h : R a b) : Star R a b := .tail (.refl a) h

theorem trans {a b c : α} (h1 : Star R a b) (h2 : Star R b c) : Star R a c := by
  induction h2 with
  | refl => exact h1
  | tail _ r ih => exact .tail ih r

theorem lift (hr : ∀ a, R' a a) (ht : ∀ {a b c}, R' a b → R' b c → R' a c) (hi : ∀ {a b}, R a b → R' a b)
    {a b : α} (h : Star R a b) : R' a b := by
  induction h with
  | refl => exact hr _
  | tail _ r ih => exact ht ih (hi r)

theorem mono (hi : ∀ {a b}, R a b → R' a b) {a b : α} (h : Star R a b) : Star R' a b :=
  h.lift Star.refl Star.trans fun r => single (hi r)

end Star

/-- every task record of `s'` descends (`RT`) from a task record of `s`, every worker record of `s'` from the worker
record of `s` with the same key (`RW`) -/
structure GFr (RT : Task → Task → Prop) (RW : Worker → Worker → Prop) (s s' : State) : Prop where
  t : ∀ t' ∈ s'.tasks, ∃ t ∈ s.tasks, RT t t'
  w : ∀ x wk', findWorker s'.workers x = some wk' → ∃ wk, findWorker s.workers x = some wk ∧ RW wk wk'

/-- a pointwise descent of task lists read through `findTask` (ids unique before) -/
theorem find_of_desc {R : Task → Task → Prop} {ts ts' : List Task} (h : ∀ t' ∈ ts', ∃ t ∈ ts, R t t')
    (hid : ∀ {t t'}, R t t' → t'.id = t.id) (hn : (taskIds ts).Nodup) {id : TaskId} {t' : Task}
    (hf : findTask ts' id = some t') : ∃ t, findTask ts id = some t ∧ R t t' := by
  obtain ⟨t, ht, r⟩ := h t' (findTask_some_mem hf)
  refine ⟨t, ?_, r⟩
  have := mem_find_of_nodup hn ht
  rwa [← hid r, findTask_some_id hf] at this

theorem findTask_some_of_ids {ts ts' : List Task} (h : taskIds ts' = taskIds ts) {id : TaskId} {t : Task}
    (hf : findTask ts id = some t) : ∃ t', findTask ts' id = some t' := by
  cases hf' : findTask ts' id with
  | some t' => exact ⟨t', rfl⟩
  | none =>
    exfalso
    have h1 := not_mem_of_findTask_none hf'
    rw [h] at h1
    exact h1 (by rw [← findTask_some_id hf]; exact List.mem_map_of_mem (findTask_some_mem hf))

namespace GFr
variable {RT RT' : Task → Task → Prop} {RW RW' : Worker → Worker → Prop} {s s' a b c : State}

theorem mono (h : GFr RT RW s s') (ht : ∀ {t t'}, RT t t' → RT' t t') (hw : ∀ {wk wk'}, RW wk wk' → RW' wk wk') :
    GFr RT' RW' s s' :=
  ⟨fun t' ht' => by obtain ⟨t, hm, r⟩ := h.t t' ht'; exact ⟨t, hm, ht r⟩,
   fun x wk' hx => by obtain ⟨wk, hf, r⟩ := h.w x wk' hx; exact ⟨wk, hf, hw r⟩⟩

section preorder
variable (tr : ∀ t, RT t t) (wr : ∀ w, RW w w)
include tr wr

theorem refl (s : State) : GFr RT RW s s :=
  ⟨fun t ht => ⟨t, ht, tr t⟩, fun _ wk h => ⟨wk, h, wr wk⟩⟩

theorem of_eq (ht : s'.tasks = s.tasks) (hw : s'.workers = s.workers) : GFr RT RW s s' := by
  constructor
  · rw [ht]; exact fun t h => ⟨t, h, tr t⟩
  · rw [hw]; exact fun _ wk h => ⟨wk, h, wr wk⟩

theorem setTask {told t' : Task} (hf : s.task? t'.id = some told) (hr : RT told t') : GFr RT RW s (s.setTask t') := by
  refine ⟨fun x hx => ?_, fun _ wk h => ⟨wk, h, wr wk⟩⟩
  rcases mem_putTask hx with e | e
  · subst e; exact ⟨told, findTask_some_mem hf, hr⟩
  · exact ⟨x, e, tr x⟩

theorem setWorker {wk wk' : Worker} (hf : s.worker? wk'.id = some wk) (hr : RW wk wk') :
    GFr RT RW s (s.setWorker wk') := by
  refine ⟨fun t h => ⟨t, h, tr t⟩, fun x w' hx => ?_⟩
  change findWorker (putWorker s.workers wk') x = some w' at hx
  rw [findWorker_putWorker] at hx
  split at hx
  · rename_i e
    subst e
    rw [show findWorker s.workers wk'.id = some wk from hf] at hx
    cases hx
    exact ⟨wk, hf, hr⟩
  · exact ⟨w', hx, wr w'⟩

theorem withWorker {w : Nat} {f : Worker → M Worker} (hf : ∀ wk wk', f wk = .ok wk' → wk'.id = wk.id ∧ RW wk wk')
    (h : s.withWorker w f = .ok s') : GFr RT RW s s' := by
  obtain ⟨wk, wk', h1, h2, rfl⟩ := withWorker_spec h
  obtain ⟨hid, hr⟩ := hf wk wk' h2
  refine setWorker tr wr (wk := wk) ?_ hr
  rw [hid, findWorker_some_id h1]; exact h1

theorem dropWorker (w : Nat) : GFr RT RW s { s with workers := s.workers.filter (·.id ≠ w) } := by
  refine ⟨fun t h => ⟨t, h, tr t⟩, fun x wk' hx => ?_⟩
  change findWorker (s.workers.filter (·.id ≠ w)) x = some wk' at hx
  rw [findWorker_filter] at hx
  split at hx
  · cases hx
  · exact ⟨wk', hx, wr wk'⟩

end preorder

section trans
variable (tt : ∀ {x y z}, RT x y → RT y z → RT x z) (wt : ∀ {x y z}, RW x y → RW y z → RW x z)
include tt wt

theorem trans (h1 : GFr RT RW a b) (h2 : GFr RT RW b c) : GFr RT RW a c := by
  constructor
  · intro t'' ht''
    obtain ⟨t', ht', r2⟩ := h2.t t'' ht''
    obtain ⟨t, ht, r1⟩ := h1.t t' ht'
    exact ⟨t, ht, tt r1 r2⟩
  · intro x wk'' h
    obtain ⟨wk', h', r2⟩ := h2.w x wk'' h
    obtain ⟨wk, h0, r1⟩ := h1.w x wk' h'
    exact ⟨wk, h0, wt r1 r2⟩

end trans

theorem find (h : GFr RT RW s s') (hid : ∀ {t t'}, RT t t' → t'.id = t.id) (hn : (taskIds s.tasks).Nodup)
    {id : TaskId} {t' : Task} (hf : s'.task? id = some t') : ∃ t, s.task? id = some t ∧ RT t t' :=
  find_of_desc h.t hid hn hf

end GFr

abbrev GFrS (RT : Task → Task → Prop) (RW : Worker → Worker → Prop) (s s' : State) : Prop :=
  GFr (Star RT) (Star RW) s s'

namespace GFrS
variable {RT RT' : Task → Task → Prop} {RW RW' : Worker → Worker → Prop} {s s' a b c : State}

theorem trans (h1 : GFrS RT RW a b) (h2 : GFrS RT RW b c) : GFrS RT RW a c := GFr.trans Star.trans Star.trans h1 h2

theorem of_eq (ht : s'.tasks = s.tasks) (hw : s'.workers = s.workers) : GFrS RT RW s s' :=
  GFr.of_eq Star.refl Star.refl ht hw

theorem dropWorker (w : Nat) : GFrS RT RW s { s with workers := s.workers.filter (·.id ≠ w) } :=
  GFr.dropWorker Star.refl Star.refl w

theorem sub (h : GFrS RT RW s s') (ht : ∀ {t t'}, RT t t' → RT' t t') (hw : ∀ {wk wk'}, RW wk wk' → RW' wk wk') :
    GFrS RT' RW' s s' :=
  h.mono (Star.mono ht) (Star.mono hw)

end GFrS

/-- requests, number of queues and worker keys are the same; no task id is new (`er`: task
records may be erased) -/
structure Frame (er : Prop) (s s' : State) : Prop where
  rqs : s'.rqs = s.rqs
  ql : s'.queues.length = s.queues.length
  wids : s'.workers.map (·.id) = s.workers.map (·.id)
  tids : (taskIds s'.tasks).Sublist (taskIds s.tasks)
  tkeep : ¬ er → taskIds s'.tasks = taskIds s.tasks

namespace Frame
variable {er er' : Prop} {s s' a b c : State}

theorem refl (er : Prop) (s : State) : Frame er s s := ⟨rfl, rfl, rfl, List.Sublist.refl _, fun _ => rfl⟩

theorem trans (h1 : Frame er a b) (h2 : Frame er b c) : Frame er a c :=
  ⟨h2.rqs.trans h1.rqs, h2.ql.trans h1.ql, h2.wids.trans h1.wids,
   h2.tids.trans h1.tids, fun n => (h2.tkeep n).trans (h1.tkeep n)⟩

theorem mono (h : Frame er s s') (he : er → er') : Frame er' s s' :=
  { h with tkeep := fun n => h.tkeep fun e => n (he e) }

theorem keep (h : Frame False s s') : taskIds s'.tasks = taskIds s.tasks := h.tkeep id

theorem of_eq (hr : s'.rqs = s.rqs) (hq : s'.queues.length = s.queues.length)
    (hw : s'.workers.map (·.id) = s.workers.map (·.id)) (ht : taskIds s'.tasks = taskIds s.tasks) : Frame er s s' :=
  ⟨hr, hq, hw, ht ▸ List.Sublist.refl _, fun _ => ht⟩

theorem setTask (s : State) (t : Task) : Frame er s (s.setTask t) :=
  of_eq rfl rfl rfl (taskIds_putTask _ _)

theorem setWorker (s : State) (wk : Worker) : Frame er s (s.setWorker wk) :=
  of_eq rfl rfl (putWorker_ids _ _) rfl

theorem nodup (h : Frame er s s') (hn : (taskIds s.tasks).Nodup) : (taskIds s'.tasks).Nodup := h.tids.nodup hn

end Frame

/-- what of a task record describes the dependency graph -/
def Task.skel (t : Task) : TaskId × List TaskId × List TaskId := (t.id, t.consumers, t.deps)

/-- unless `er`, the record found under a key in `s'` has the skeleton of the record found under the same key in `s`,
and every record of `s'` has the skeleton of a record of `s`; `putTask` rewrites what a lookup finds, so this needs no
uniqueness of ids -/
def Look (er : Prop) (s s' : State) : Prop :=
  ¬ er → (∀ x t', s'.task? x = some t' → ∃ t, s.task? x = some t ∧ t'.skel = t.skel) ∧
    ∀ t' ∈ s'.tasks, ∃ t ∈ s.tasks, t'.skel = t.skel

namespace Look
variable {er er' : Prop} {s s' a b c : State}

theorem of_eq (ht : s'.tasks = s.tasks) : Look er s s' := fun _ =>
  ⟨fun x t' h => ⟨t', by rw [State.task?, ← ht]; exact h, rfl⟩, fun t' h => ⟨t', ht ▸ h, rfl⟩⟩

theorem trans (h1 : Look er a b) (h2 : Look er b c) : Look er a c := fun n => by
  refine ⟨fun x t'' h => ?_, fun t'' h => ?_⟩
  · obtain ⟨t', h', e2⟩ := (h2 n).1 x t'' h
    obtain ⟨t, h0, e1⟩ := (h1 n).1 x t' h'
    exact ⟨t, h0, e2.trans e1⟩
  · obtain ⟨t', h', e2⟩ := (h2 n).2 t'' h
    obtain ⟨t, h0, e1⟩ := (h1 n).2 t' h'
    exact ⟨t, h0, e2.trans e1⟩

theorem mono (h : Look er s s') (he : er → er') : Look er' s s' := fun n => h fun e => n (he e)

theorem setTask {told t' : Task} (hf : s.task? t'.id = some told) (hs : er ∨ t'.skel = told.skel) :
    Look er s (s.setTask t') := fun n => by
  refine ⟨fun x t'' hx => ?_, fun x hx => ?_⟩
  · rw [task?_setTask] at hx
    split at hx
    · rename_i e
      rw [e, hf] at hx
      cases hx
      exact ⟨told, e ▸ hf, hs.resolve_left n⟩
    · exact ⟨t'', hx, rfl⟩
  · rcases mem_putTask hx with e | e
    · exact ⟨told, findTask_some_mem hf, e ▸ hs.resolve_left n⟩
    · exact ⟨x, e, rfl⟩

end Look

/-- `er`: the operation may erase task records or rewrite the dependency skeleton of one (`remove_task`, the
registration of a new task with its dependencies) -/
structure Desc (RT : Task → Task → Prop) (RW : Worker → Worker → Prop) (er : Prop) (s s' : State) : Prop where
  fr : GFrS RT RW s s'
  frame : Frame er s s'
  look : Look er s s'

namespace Desc
variable {RT RT' : Task → Task → Prop} {RW RW' : Worker → Worker → Prop} {er er' : Prop} {s s' a b c : State}

theorem refl (s : State) : Desc RT RW er s s := ⟨GFr.refl Star.refl Star.refl s, .refl er s, .of_eq rfl⟩

theorem trans (h1 : Desc RT RW er a b) (h2 : Desc RT RW er b c) : Desc RT RW er a c :=
  ⟨h1.fr.trans h2.fr, h1.frame.trans h2.frame, h1.look.trans h2.look⟩

theorem sub (h : Desc RT RW er s s') (ht : ∀ {t t'}, RT t t' → RT' t t') (hw : ∀ {wk wk'}, RW wk wk' → RW' wk wk')
    (he : er → er') : Desc RT' RW' er' s s' :=
  ⟨h.fr.sub ht hw, h.frame.mono he, h.look.mono he⟩

theorem weaken (h : Desc RT RW False s s') : Desc RT RW er s s' := h.sub id id False.elim

theorem lift (h : Desc RT RW er s s')
    (tr : ∀ t, RT' t t) (tt : ∀ {x y z}, RT' x y → RT' y z → RT' x z) (ti : ∀ {t t'}, RT t t' → RT' t t')
    (wr : ∀ w, RW' w w) (wt : ∀ {x y z}, RW' x y → RW' y z → RW' x z) (wi : ∀ {w w'}, RW w w' → RW' w w') :
    GFr RT' RW' s s' :=
  h.fr.mono (Star.lift tr tt ti) (Star.lift wr wt wi)

theorem tasks (h : Desc RT RW er s s') (tr : ∀ t, RT' t t) (tt : ∀ {x y z}, RT' x y → RT' y z → RT' x z)
    (ti : ∀ {t t'}, RT t t' → RT' t t') : ∀ t' ∈ s'.tasks, ∃ t ∈ s.tasks, RT' t t' :=
  (h.fr.mono (RW' := fun _ _ => True) (Star.lift tr tt ti) fun _ => trivial).t

theorem of_eq (ht : s'.tasks = s.tasks) (hw : s'.workers = s.workers) (hr : s'.rqs = s.rqs)
    (hq : s'.queues.length = s.queues.length) : Desc RT RW er s s' :=
  ⟨.of_eq ht hw, .of_eq hr hq (by rw [hw]) (by rw [ht]), .of_eq ht⟩

/-- `hs`: by default the rewrite keeps the skeleton, which `rfl` shows for a record update of other fields -/
theorem put {id : TaskId} {told t' : Task} (hf : s.task? id = some told) (hid : t'.id = told.id) (hr : RT told t')
    (hs : er ∨ t'.skel = told.skel := by exact .inr rfl) : Desc RT RW er s (s.setTask t') :=
  have hf' : s.task? t'.id = some told := by rw [hid, findTask_some_id hf]; exact hf
  ⟨GFr.setTask Star.refl Star.refl hf' (.single hr), .setTask s t', .setTask hf' hs⟩

theorem putSame {id : TaskId} {told : Task} (hf : s.task? id = some told) : Desc RT RW er s (s.setTask told) :=
  have hf' : s.task? told.id = some told := by rw [findTask_some_id hf]; exact hf
  ⟨GFr.setTask Star.refl Star.refl hf' (.refl _), .setTask s told, .setTask hf' (.inr rfl)⟩

theorem eraseTask (id : TaskId) : Desc RT RW True s { s with tasks := eraseTask s.tasks id } :=
  ⟨⟨fun x hx => ⟨x, mem_eraseTask hx, .refl _⟩, fun _ wk h => ⟨wk, h, .refl _⟩⟩,
   ⟨rfl, rfl, rfl, taskIds_eraseTask_sublist _ _, fun n => (n trivial).elim⟩, fun n => (n trivial).elim⟩

theorem setWorker {wk wk' : Worker} (hf : s.worker? wk'.id = some wk) (hr : RW wk wk') :
    Desc RT RW er s (s.setWorker wk') :=
  ⟨GFr.setWorker Star.refl Star.refl hf (.single hr), .setWorker s wk', .of_eq rfl⟩

theorem withWorker {w : Nat} {f : Worker → M Worker} (hf : ∀ wk wk', f wk = .ok wk' → wk'.id = wk.id ∧ RW wk wk')
    (h : s.withWorker w f = .ok s') : Desc RT RW er s s' := by
  obtain ⟨wk, wk', h1, h2, rfl⟩ := withWorker_spec h
  obtain ⟨hid, hr⟩ := hf wk wk' h2
  exact setWorker (by rw [hid, findWorker_some_id h1]; exact h1) hr

/-- a class `P` of records that every rewrite of the operation keeps, read by key: the record found in `s'` descends
from the record `s` has under the same key -/
theorem find_kept {P : Task → Prop} (d : Desc RT RW er s s') (hr : ∀ {t t'}, RT t t' → t'.id = t.id ∧ (P t → P t'))
    (hn : (taskIds s.tasks).Nodup) {id : TaskId} {t' : Task} (hf : s'.task? id = some t') :
    ∃ t, s.task? id = some t ∧ (P t → P t') :=
  have ⟨t, a, b⟩ := find_of_desc
    (d.tasks (RT' := fun t t' => t'.id = t.id ∧ (P t → P t')) (fun _ => ⟨rfl, fun h => h⟩)
      (fun a b => ⟨b.1.trans a.1, b.2 ∘ a.2⟩) hr) (·.1) hn hf
  ⟨t, a, b.2⟩

/-- the same read forwards, for an operation that keeps the set of ids -/
theorem find_fwd {P : Task → Prop} (d : Desc RT RW False s s') (hr : ∀ {t t'}, RT t t' → t'.id = t.id ∧ (P t → P t'))
    (hn : (taskIds s.tasks).Nodup) {id : TaskId} {t : Task} (hf : s.task? id = some t) (hp : P t) :
    ∃ t', s'.task? id = some t' ∧ P t' := by
  obtain ⟨t', hf'⟩ := findTask_some_of_ids d.frame.keep hf
  obtain ⟨t0, h0, k⟩ := d.find_kept hr hn hf'
  rw [hf] at h0
  cases h0
  exact ⟨t', hf', k hp⟩

end Desc

end HqModel.Core
