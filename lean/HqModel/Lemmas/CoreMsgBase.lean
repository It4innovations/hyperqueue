import HqModel.Lemmas.CoreInvSound
import HqModel.Lemmas.CoreDescOps
import HqModel.Lemmas.CoreOut
/-!
Message-level facts about the core model (M1): the vocabulary. `sends` / `starts`: the `(task id, instance id)` pairs of
the compute messages / `started` callbacks of an output, in order. `TRel nw cr`: how one task record may change inside
one operation (`nw`: no task is placed — every function except a scheduling round; `cr`: no crash is charged — every
function except the crash loop); `Evo`: every task of `s'` descends by `TRel` from a task of `s` — in membership form,
which needs no uniqueness of ids and so composes through every intermediate state of an operation. `Tr`: what a function
guarantees about the sends it emitted.
-/
namespace HqModel.Core

def sendsOf : Msg → List (TaskId × Nat)
  | .compute _ items => items.map fun it => (it.1, it.2.1)
  | _ => []

def sends (ms : List Msg) : List (TaskId × Nat) := (ms.map sendsOf).flatten

@[simp] theorem sends_nil : sends [] = [] := rfl
@[simp] theorem sends_cons (m : Msg) (ms : List Msg) : sends (m :: ms) = sendsOf m ++ sends ms := by simp [sends]
@[simp] theorem sends_append (a b : List Msg) : sends (a ++ b) = sends a ++ sends b := by simp [sends]
@[simp] theorem sendsOf_retract (w : Nat) (l : List TaskId) : sendsOf (.retract w l) = [] := rfl
@[simp] theorem sendsOf_cancel (w : Nat) (l : List TaskId) : sendsOf (.cancel w l) = [] := rfl
@[simp] theorem sendsOf_compute (w : Nat) (l : List (TaskId × Nat × Option Nat × List Nat)) :
    sendsOf (.compute w l) = l.map fun it => (it.1, it.2.1) := rfl

theorem sends_of_noCompute {ms : List Msg} (h : SysW.NoCompute ms) : sends ms = [] := by
  induction ms with
  | nil => rfl
  | cons m rest ih =>
    rw [sends_cons, ih fun x hx => h x (List.mem_cons_of_mem _ hx), List.append_nil]
    have := h m List.mem_cons_self
    cases m <;> first | rfl | cases this

theorem mem_sends {ms : List Msg} {p : TaskId × Nat} :
    p ∈ sends ms ↔ ∃ w items it, Msg.compute w items ∈ ms ∧ it ∈ items ∧ p = (it.1, it.2.1) := by
  induction ms with
  | nil => simp
  | cons m rest ih =>
    simp only [sends_cons, List.mem_append, ih, List.mem_cons]
    constructor
    · rintro (h | ⟨w, items, it, h1, h2, h3⟩)
      · cases m with
        | compute w items =>
          simp only [sendsOf_compute, List.mem_map] at h
          obtain ⟨it, h1, h2⟩ := h
          exact ⟨w, items, it, Or.inl rfl, h1, h2.symm⟩
        | retract w l => simp at h
        | cancel w l => simp at h
      · exact ⟨w, items, it, Or.inr h1, h2, h3⟩
    · rintro ⟨w, items, it, h1 | h1, h2, h3⟩
      · left; subst h1; simp only [sendsOf_compute, List.mem_map]; exact ⟨it, h2, h3.symm⟩
      · exact Or.inr ⟨w, items, it, h1, h2, h3⟩

def startsOf : Cb → List (TaskId × Nat)
  | .started t i _ _ => [(t, i)]
  | _ => []

def starts (cbs : List Cb) : List (TaskId × Nat) := (cbs.map startsOf).flatten

@[simp] theorem starts_nil : starts [] = [] := rfl
@[simp] theorem starts_cons (c : Cb) (cs : List Cb) : starts (c :: cs) = startsOf c ++ starts cs := by simp [starts]
@[simp] theorem starts_append (a b : List Cb) : starts (a ++ b) = starts a ++ starts b := by simp [starts]

theorem starts_of_errors {cbs : List Cb} (h : ∀ cb ∈ cbs, ∃ id cons, cb = .error id cons) : starts cbs = [] := by
  induction cbs with
  | nil => rfl
  | cons c rest ih =>
    obtain ⟨id, cons, rfl⟩ := h c List.mem_cons_self
    exact ih fun x hx => h x (List.mem_cons_of_mem _ hx)

theorem mem_starts {cbs : List Cb} {p : TaskId × Nat} :
    p ∈ starts cbs ↔ ∃ ws rv, Cb.started p.1 p.2 ws rv ∈ cbs := by
  induction cbs with
  | nil => simp
  | cons c rest ih =>
    simp only [starts_cons, List.mem_append, ih, List.mem_cons]
    constructor
    · rintro (h | ⟨ws, rv, h⟩)
      · cases c <;> simp only [startsOf, List.mem_singleton, List.not_mem_nil] at h
        subst h; exact ⟨_, _, Or.inl rfl⟩
      · exact ⟨ws, rv, Or.inr h⟩
    · rintro ⟨ws, rv, h | h⟩
      · left; rw [← h]; simp [startsOf]
      · exact Or.inr ⟨ws, rv, h⟩

@[simp] theorem empty_msgs : ({} : Out).msgs = [] := rfl
@[simp] theorem empty_cbs : ({} : Out).cbs = [] := rfl

/-- a task that is (or was) executing: Running, RunningMultiNode, Finished -/
def locked : TS → Prop
  | .running .. => True
  | .runningMN _ => True
  | .finished => True
  | _ => False

instance : DecidablePred locked := fun st => by cases st <;> simp only [locked] <;> infer_instance

@[simp] theorem locked_waiting (n : Nat) : locked (.waiting n) ↔ False := Iff.rfl
@[simp] theorem locked_assigned (w v : Nat) : locked (.assigned w v) ↔ False := Iff.rfl
@[simp] theorem locked_prefilled (w : Nat) : locked (.prefilled w) ↔ False := Iff.rfl
@[simp] theorem locked_retracting (w : Nat) : locked (.retracting w) ↔ False := Iff.rfl
@[simp] theorem locked_running (w v : Nat) : locked (.running w v) ↔ True := Iff.rfl
@[simp] theorem locked_runningMN (l : List Nat) : locked (.runningMN l) ↔ True := Iff.rfl
@[simp] theorem locked_finished : locked .finished ↔ True := Iff.rfl

@[simp] theorem isWaiting_waiting (n : Nat) : isWaiting (.waiting n) ↔ True := Iff.rfl
@[simp] theorem isWaiting_assigned (w v : Nat) : isWaiting (.assigned w v) ↔ False := Iff.rfl
@[simp] theorem isWaiting_prefilled (w : Nat) : isWaiting (.prefilled w) ↔ False := Iff.rfl
@[simp] theorem isWaiting_retracting (w : Nat) : isWaiting (.retracting w) ↔ False := Iff.rfl
@[simp] theorem isWaiting_running (w v : Nat) : isWaiting (.running w v) ↔ False := Iff.rfl
@[simp] theorem isWaiting_runningMN (l : List Nat) : isWaiting (.runningMN l) ↔ False := Iff.rfl
@[simp] theorem isWaiting_finished : isWaiting .finished ↔ False := Iff.rfl

theorem locked_not_waiting {st : TS} (h : locked st) : ¬ isWaiting st := by cases st <;> simp_all

/-- executing on ONE worker, or done: Running, Finished (the server has heard that the task started) -/
def slocked : TS → Prop
  | .running .. => True
  | .finished => True
  | _ => False

/-- placed on a set of workers: RunningMultiNode (started or not: the `started` flag is in the root's record) -/
def isMN : TS → Prop
  | .runningMN _ => True
  | _ => False

@[simp] theorem slocked_waiting (n : Nat) : slocked (.waiting n) ↔ False := Iff.rfl
@[simp] theorem slocked_assigned (w v : Nat) : slocked (.assigned w v) ↔ False := Iff.rfl
@[simp] theorem slocked_prefilled (w : Nat) : slocked (.prefilled w) ↔ False := Iff.rfl
@[simp] theorem slocked_retracting (w : Nat) : slocked (.retracting w) ↔ False := Iff.rfl
@[simp] theorem slocked_running (w v : Nat) : slocked (.running w v) ↔ True := Iff.rfl
@[simp] theorem slocked_runningMN (l : List Nat) : slocked (.runningMN l) ↔ False := Iff.rfl
@[simp] theorem slocked_finished : slocked .finished ↔ True := Iff.rfl

@[simp] theorem isMN_waiting (n : Nat) : isMN (.waiting n) ↔ False := Iff.rfl
@[simp] theorem isMN_assigned (w v : Nat) : isMN (.assigned w v) ↔ False := Iff.rfl
@[simp] theorem isMN_prefilled (w : Nat) : isMN (.prefilled w) ↔ False := Iff.rfl
@[simp] theorem isMN_retracting (w : Nat) : isMN (.retracting w) ↔ False := Iff.rfl
@[simp] theorem isMN_running (w v : Nat) : isMN (.running w v) ↔ False := Iff.rfl
@[simp] theorem isMN_runningMN (l : List Nat) : isMN (.runningMN l) ↔ True := Iff.rfl
@[simp] theorem isMN_finished : isMN .finished ↔ False := Iff.rfl

theorem locked_iff (st : TS) : locked st ↔ slocked st ∨ isMN st := by cases st <;> simp

theorem locked_of_slocked {st : TS} (h : slocked st) : locked st := (locked_iff st).mpr (.inl h)
theorem locked_of_isMN {st : TS} (h : isMN st) : locked st := (locked_iff st).mpr (.inr h)

/-- `l'` = what is left of the worker list `l` of a multi-node task: workers only leave (loss of a non-root worker),
the root stays -/
def KeepL (l l' : List Nat) : Prop := l'.Sublist l ∧ l'.head? = l.head?

theorem KeepL.refl (l : List Nat) : KeepL l l := ⟨List.Sublist.refl _, rfl⟩

theorem KeepL.trans {a b c : List Nat} (h1 : KeepL a b) (h2 : KeepL b c) : KeepL a c :=
  ⟨h2.1.trans h1.1, h2.2.trans h1.2⟩

theorem KeepL.shape {l l' : List Nat} (h : KeepL l l') (hl : l ≠ [] ∧ l.Nodup) : l' ≠ [] ∧ l'.Nodup := by
  refine ⟨?_, h.1.nodup hl.2⟩
  intro e
  subst e
  cases l with
  | nil => exact hl.1 rfl
  | cons x xs => have := h.2; simp at this

theorem KeepL.filter {root w : Nat} (others : List Nat) (h : ¬ root = w) :
    KeepL (root :: others) ((root :: others).filter (· ≠ w)) := by
  refine ⟨List.filter_sublist, ?_⟩
  simp [List.filter, h]

/-- how one task record may change inside one operation -/
structure TRel (nw cr : Prop) (t t' : Task) : Prop where
  id : t'.id = t.id
  inst : t.inst ≤ t'.inst
  crashes : t.crashes ≤ t'.crashes
  wait : nw → isWaiting t.state → isWaiting t'.state
  /-- Running / Finished stays so unless the instance id grows -/
  lock : slocked t.state → slocked t'.state ∨ t.inst < t'.inst
  /-- RunningMultiNode stays, or becomes Running / Finished, unless the instance id grows — or the task goes back to
  Waiting with the SAME instance id (`task_reject` by a root that has not started it; stated under `nw`, where a
  Waiting task stays Waiting: that is what the composition of sends needs) -/
  lockM : isMN t.state → isMN t'.state ∨ slocked t'.state ∨ t.inst < t'.inst ∨ (nw → isWaiting t'.state)
  /-- outside a scheduling round (`nw`) a task is RunningMultiNode only if it was, and its worker list only shrinks,
  keeping the root -/
  mnl : nw → ∀ l', t'.state = .runningMN l' → ∃ l, t.state = .runningMN l ∧ KeepL l l'
  creq : cr → t'.crashes = t.crashes

theorem TRel.refl (nw cr : Prop) (t : Task) : TRel nw cr t t :=
  ⟨rfl, Nat.le_refl _, Nat.le_refl _, fun _ h => h, fun h => Or.inl h, fun h => Or.inl h,
    fun _ l' h => ⟨l', h, KeepL.refl _⟩, fun _ => rfl⟩

theorem TRel.trans {nw cr : Prop} {a b c : Task} (h1 : TRel nw cr a b) (h2 : TRel nw cr b c) : TRel nw cr a c := by
  have hs : slocked b.state → slocked c.state ∨ a.inst < c.inst := fun h => by
    rcases h2.lock h with h' | h'
    · exact Or.inl h'
    · exact Or.inr (Nat.lt_of_le_of_lt h1.inst h')
  refine ⟨h2.id.trans h1.id, Nat.le_trans h1.inst h2.inst, Nat.le_trans h1.crashes h2.crashes,
    fun n h => h2.wait n (h1.wait n h), ?_, ?_, ?_, fun c => (h2.creq c).trans (h1.creq c)⟩
  · intro hl
    rcases h1.lock hl with h | h
    · exact hs h
    · exact Or.inr (Nat.lt_of_lt_of_le h h2.inst)
  · intro hm
    rcases h1.lockM hm with h | h | h | h
    · rcases h2.lockM h with h' | h' | h' | h'
      · exact Or.inl h'
      · exact Or.inr (Or.inl h')
      · exact Or.inr (Or.inr (Or.inl (Nat.lt_of_le_of_lt h1.inst h')))
      · exact Or.inr (Or.inr (Or.inr h'))
    · rcases hs h with h' | h'
      · exact Or.inr (Or.inl h')
      · exact Or.inr (Or.inr (Or.inl h'))
    · exact Or.inr (Or.inr (Or.inl (Nat.lt_of_lt_of_le h h2.inst)))
    · exact Or.inr (Or.inr (Or.inr (fun n => h2.wait n (h n))))
  · intro n l'' hc
    obtain ⟨l', hb, k2⟩ := h2.mnl n l'' hc
    obtain ⟨l, ha, k1⟩ := h1.mnl n l' hb
    exact ⟨l, ha, k1.trans k2⟩

theorem TRel.mono {nw cr nw' cr' : Prop} {a b : Task} (h : TRel nw cr a b) (h1 : nw' → nw) (h2 : cr' → cr) :
    TRel nw' cr' a b :=
  ⟨h.id, h.inst, h.crashes, fun n => h.wait (h1 n), h.lock,
    fun hm => (h.lockM hm).imp (fun x => x) (Or.imp (fun x => x) (Or.imp (fun x => x) (fun f n => f (h1 n)))),
    fun n => h.mnl (h1 n), fun c => h.creq (h2 c)⟩

theorem TRel.locked {nw cr : Prop} {a b : Task} (h : TRel nw cr a b) (hl : locked a.state) :
    locked b.state ∨ a.inst < b.inst ∨ (nw → isWaiting b.state) := by
  rcases (locked_iff _).mp hl with hs | hm
  · rcases h.lock hs with h' | h'
    · exact Or.inl (locked_of_slocked h')
    · exact Or.inr (Or.inl h')
  · rcases h.lockM hm with h' | h' | h' | h'
    · exact Or.inl (locked_of_isMN h')
    · exact Or.inl (locked_of_slocked h')
    · exact Or.inr (Or.inl h')
    · exact Or.inr (Or.inr h')

def EvoL (nw cr : Prop) (ts ts' : List Task) : Prop :=
  ∀ t' ∈ ts', ∃ t ∈ ts, TRel nw cr t t'

def Evo (nw cr : Prop) (s s' : State) : Prop := EvoL nw cr s.tasks s'.tasks

theorem EvoL.refl (nw cr : Prop) (ts : List Task) : EvoL nw cr ts ts := fun t ht => ⟨t, ht, TRel.refl _ _ t⟩

theorem EvoL.trans {nw cr : Prop} {a b c : List Task} (h1 : EvoL nw cr a b) (h2 : EvoL nw cr b c) : EvoL nw cr a c := by
  intro t'' ht''
  obtain ⟨t', ht', r2⟩ := h2 t'' ht''
  obtain ⟨t, ht, r1⟩ := h1 t' ht'
  exact ⟨t, ht, r1.trans r2⟩

theorem Evo.refl (nw cr : Prop) (s : State) : Evo nw cr s s := EvoL.refl _ _ _

theorem Evo.trans {nw cr : Prop} {a b c : State} (h1 : Evo nw cr a b) (h2 : Evo nw cr b c) : Evo nw cr a c :=
  EvoL.trans h1 h2

theorem Evo.mono {nw cr nw' cr' : Prop} {a b : State} (h : Evo nw cr a b) (h1 : nw' → nw) (h2 : cr' → cr) :
    Evo nw' cr' a b := fun t' ht' => by
  obtain ⟨t, ht, r⟩ := h t' ht'
  exact ⟨t, ht, r.mono h1 h2⟩

theorem Evo.of_tasks {nw cr : Prop} {a b : State} (h : b.tasks = a.tasks) : Evo nw cr a b := by
  intro t ht; rw [h] at ht; exact ⟨t, ht, TRel.refl _ _ t⟩

theorem mem_putTask_id {ts : List Task} {t x : Task} (h : x ∈ putTask ts t) (hid : x.id = t.id) : x = t :=
  (mem_putTask' h).elim id fun a => absurd hid a.2

theorem findTask_putTask_same {ts : List Task} {id : TaskId} {told t' : Task} (hf : findTask ts id = some told)
    (hid : t'.id = id) : findTask (putTask ts t') id = some t' := by
  rw [findTask_putTask]; simp [hid, hf]

theorem findTask_putTask_cases {ts : List Task} {t' t : Task} {x : TaskId} (h : findTask (putTask ts t') x = some t) :
    (x = t'.id ∧ t = t' ∧ ∃ told, findTask ts x = some told) ∨ (x ≠ t'.id ∧ findTask ts x = some t) := by
  rw [findTask_putTask] at h
  split at h
  · rename_i e
    cases hx : findTask ts x with
    | none => rw [hx] at h; cases h
    | some told => rw [hx] at h; cases h; exact .inl ⟨e, rfl, told, rfl⟩
  · rename_i e; exact .inr ⟨e, h⟩

theorem EvoL.put {nw cr : Prop} {ts : List Task} {id : TaskId} {t' told : Task} (hf : findTask ts id = some told)
    (hr : TRel nw cr told t') : EvoL nw cr ts (putTask ts t') := by
  intro x hx
  rcases mem_putTask hx with h | h
  · subst h; exact ⟨told, findTask_some_mem hf, hr⟩
  · exact ⟨x, h, TRel.refl _ _ x⟩

theorem Evo.set {nw cr : Prop} {a s : State} {id : TaskId} {told t' : Task} (hts : s.tasks = a.tasks)
    (hf : a.task? id = some told) (hr : TRel nw cr told t') : Evo nw cr a (s.setTask t') := by
  show EvoL nw cr a.tasks (putTask s.tasks t')
  rw [hts]; exact EvoL.put hf hr

/-- only the state changes. The conditions on `st` come as one conjunction: a caller who knows `told.state` closes them
all by one `simp` -/
theorem TRel.state {nw cr : Prop} (told : Task) (st : TS) (hw : nw → isWaiting told.state → isWaiting st)
    (hl : (slocked told.state → slocked st) ∧ (isMN told.state → isMN st ∨ slocked st ∨ (nw → isWaiting st)) ∧
      (nw → ∀ l', st = .runningMN l' → ∃ l, told.state = .runningMN l ∧ KeepL l l')) :
    TRel nw cr told { told with state := st } :=
  ⟨rfl, Nat.le_refl _, Nat.le_refl _, hw, fun h => Or.inl (hl.1 h),
    fun h => (hl.2.1 h).imp (fun x => x) (Or.imp (fun x => x) Or.inr), hl.2.2, fun _ => rfl⟩

theorem TRel.bump {nw cr : Prop} (told : Task) (st : TS) (hw : nw → isWaiting told.state → isWaiting st)
    (hm : nw → ∀ l', st = .runningMN l' → ∃ l, told.state = .runningMN l ∧ KeepL l l') :
    TRel nw cr told { told with inst := told.inst + 1, state := st } :=
  ⟨rfl, Nat.le_succ _, Nat.le_refl _, hw, fun _ => Or.inr (Nat.lt_succ_self _),
    fun _ => Or.inr (Or.inr (Or.inl (Nat.lt_succ_self _))), hm, fun _ => rfl⟩

theorem TRel.cons {nw cr : Prop} (told : Task) (c : List TaskId) : TRel nw cr told { told with consumers := c } :=
  ⟨rfl, Nat.le_refl _, Nat.le_refl _, fun _ h => h, fun h => Or.inl h, fun h => Or.inl h,
    fun _ l' h => ⟨l', h, KeepL.refl _⟩, fun _ => rfl⟩

theorem TRel.filterMN {nw cr : Prop} (told : Task) {root w : Nat} {others : List Nat}
    (hs : told.state = .runningMN (root :: others)) (hr : ¬ root = w) :
    TRel nw cr told { told with state := .runningMN ((root :: others).filter (· ≠ w)) } :=
  TRel.state told _ (by simp [hs]) ⟨by simp [hs], by simp [hs], fun _ l' e => by
    cases e
    exact ⟨_, hs, KeepL.filter others hr⟩⟩

theorem TRel.ofState {nw cr : Prop} (t : Task) {st : TS}
    (h : ¬ isWaiting t.state ∧ (slocked t.state → slocked st) ∧ (isMN t.state → slocked st ∨ isWaiting st) ∧
      ∀ l, st ≠ .runningMN l) : TRel nw cr t { t with state := st } :=
  TRel.state t st (fun _ hw => absurd hw h.1)
    ⟨h.2.1, fun hm => (h.2.2.1 hm).elim (fun x => .inr (.inl x)) (fun x => .inr (.inr fun _ => x)),
      fun _ l e => absurd e (h.2.2.2 l)⟩

theorem TCalm.trel {nw cr : Prop} {t t' : Task} (h : TCalm t t') : TRel nw cr t t' := by
  cases h with
  | retract hs => exact TRel.state _ _ (by simp [hs]) (by simp [hs])
  | unconsume => exact TRel.cons _ _
  | wake hs => exact TRel.state _ _ (fun _ _ => trivial) (by simp [hs])

theorem TOwn.trel {run : Prop} {o : TaskId → Prop} {nw cr : Prop} {t t' : Task} (h : TOwn run o t t') :
    TRel nw cr t t' := by
  cases h with
  | calm h => exact h.trel
  | own _ ha h => exact TRel.ofState t (by rw [ha]; cases h <;> simp)
  | start _ _ ha h => exact TRel.ofState t (by rw [ha]; cases h <;> simp)

theorem TReg.trel {nw cr k : Prop} {R : TaskId → TaskId → Prop} {t t' : Task} (h : TReg k R t t') : TRel nw cr t t' := by
  cases h with
  | calm _ h => exact h.trel
  | consume => exact TRel.cons _ _

theorem TLoss.trel {w : Nat} {fail : Prop} {L : TaskId → Prop} {nw : Prop} {t t' : Task} (h : TLoss w fail L t t') :
    TRel nw (¬ fail) t t' := by
  cases h with
  | calm h => exact h.trel
  | back => exact TRel.bump t _ (by simp) (by simp)
  | bump => exact TRel.bump t t.state (fun _ h => h) (fun _ l' h => ⟨l', h, KeepL.refl _⟩)
  | redirect _ _ hs => exact TRel.bump t _ (by simp [hs]) (by simp)
  | unretract => exact TRel.bump t _ (by simp) (by simp)
  | shrink hs hr => exact TRel.filterMN t hs hr
  | crash hf =>
    exact ⟨rfl, Nat.le_refl _, Nat.le_succ _, fun _ h => h, fun h => .inl h, fun h => .inl h,
      fun _ l' h => ⟨l', h, KeepL.refl _⟩, fun c => absurd hf c⟩

theorem Desc.evo {RT : Task → Task → Prop} {RW : Worker → Worker → Prop} {er nw cr : Prop} {s s' : State}
    (h : Desc RT RW er s s') (hi : ∀ {t t'}, RT t t' → TRel nw cr t t') : Evo nw cr s s' :=
  h.tasks (TRel.refl _ _) TRel.trans hi

theorem Desc.evo_loss {RW : Worker → Worker → Prop} {er nw cr : Prop} {w : Nat} {L : TaskId → Prop} {s s' : State}
    (h : Desc (TLoss w False L) RW er s s') : Evo nw cr s s' :=
  (h.evo (nw := nw) TLoss.trel).mono id fun _ => not_false

theorem Evo.find {nw cr : Prop} {s s' : State} (h : Evo nw cr s s') (hn : (taskIds s.tasks).Nodup)
    {id : TaskId} {t' : Task} (hf : findTask s'.tasks id = some t') :
    ∃ t, findTask s.tasks id = some t ∧ TRel nw cr t t' :=
  find_of_desc h (fun r => r.id) hn hf

/-- same task ⇒ instance ids do not decrease along the list -/
def Mono (l : List (TaskId × Nat)) : Prop := l.Pairwise fun p q => p.1 = q.1 → p.2 ≤ q.2

/-- `l` = the sends emitted on the way from `s` to `s'`:
* `lo` — the named task is in the map of `s`, its instance id there is not larger than the sent one; flag `nw` (no
  task is placed on the way): it is not Waiting in `s`, and the sent instance id is strictly larger if the task was
  locked (Running / RunningMultiNode / Finished) in `s`;
* `hi` — if the task is still in the map of `s'`, its instance id there is at least the sent one;
* `mono` — instance ids do not decrease inside `l`. -/
structure Tr (nw : Prop) (s : State) (l : List (TaskId × Nat)) (s' : State) : Prop where
  lo : ∀ p ∈ l, ∃ t ∈ s.tasks, t.id = p.1 ∧ t.inst ≤ p.2 ∧ (nw → locked t.state → t.inst < p.2) ∧ (nw → ¬ isWaiting t.state)
  hi : ∀ p ∈ l, ∀ t' ∈ s'.tasks, t'.id = p.1 → p.2 ≤ t'.inst
  mono : Mono l

/-- sends `l2` that follow sends `l1`: the tasks of `ts` are at least at the instance ids of `l1`, and `l2` starts there -/
theorem Mono.append {l1 l2 : List (TaskId × Nat)} {ts : List Task} (m1 : Mono l1) (m2 : Mono l2)
    (hi : ∀ p ∈ l1, ∀ t ∈ ts, t.id = p.1 → p.2 ≤ t.inst) (lo : ∀ q ∈ l2, ∃ t ∈ ts, t.id = q.1 ∧ t.inst ≤ q.2) :
    Mono (l1 ++ l2) := by
  refine List.pairwise_append.mpr ⟨m1, m2, fun p hp q hq hpq => ?_⟩
  obtain ⟨t, ht, a, b⟩ := lo q hq
  exact Nat.le_trans (hi p hp t ht (a.trans hpq.symm)) b

theorem Tr.nil (nw : Prop) (s s' : State) : Tr nw s [] s' :=
  ⟨fun _ h => (by cases h), fun _ h => (by cases h), List.Pairwise.nil⟩

theorem Tr.weaken {nw : Prop} {s s' : State} {l} (h : Tr nw s l s') : Tr False s l s' :=
  ⟨fun p hp => by
    obtain ⟨t, a, b, c, d, _⟩ := h.lo p hp
    exact ⟨t, a, b, c, fun f => f.elim, fun f => f.elim⟩, h.hi, h.mono⟩

theorem Tr.comp {nw cr : Prop} {s s1 s2 : State} {l1 l2 : List (TaskId × Nat)}
    (e1 : Evo nw cr s s1) (t1 : Tr nw s l1 s1) (e2 : Evo nw cr s1 s2) (t2 : Tr nw s1 l2 s2) :
    Tr nw s (l1 ++ l2) s2 := by
  refine ⟨?_, ?_, ?_⟩
  · intro p hp
    rcases List.mem_append.mp hp with h | h
    · exact t1.lo p h
    · obtain ⟨x1, hx1, a, b, c, d⟩ := t2.lo p h
      obtain ⟨x, hx, r⟩ := e1 x1 hx1
      refine ⟨x, hx, r.id ▸ a, Nat.le_trans r.inst b, ?_, ?_⟩
      · intro n hl
        rcases r.locked hl with h' | h' | h'
        · exact Nat.lt_of_le_of_lt r.inst (c n h')
        · exact Nat.lt_of_lt_of_le h' b
        · exact absurd (h' n) (d n)
      · intro n hw; exact d n (r.wait n hw)
  · intro p hp t' ht' hid
    rcases List.mem_append.mp hp with h | h
    · obtain ⟨x1, hx1, r⟩ := e2 t' ht'
      exact Nat.le_trans (t1.hi p h x1 hx1 (r.id ▸ hid)) r.inst
    · exact t2.hi p h t' ht' hid
  · exact t1.mono.append t2.mono t1.hi fun q hq => (t2.lo q hq).imp fun _ h => ⟨h.1, h.2.1, h.2.2.1⟩

theorem Tr.then_silent {nw cr : Prop} {s s1 s2 : State} {l : List (TaskId × Nat)}
    (e1 : Evo nw cr s s1) (t1 : Tr nw s l s1) (e2 : Evo nw cr s1 s2) : Tr nw s l s2 := by
  have := Tr.comp e1 t1 e2 (Tr.nil nw s1 s2)
  simpa using this

theorem Tr.after_silent {nw cr : Prop} {s s1 s2 : State} {l : List (TaskId × Nat)}
    (e1 : Evo nw cr s s1) (e2 : Evo nw cr s1 s2) (t2 : Tr nw s1 l s2) : Tr nw s l s2 := by
  have := Tr.comp e1 (Tr.nil nw s s1) e2 t2
  simpa using this

theorem Tr.of_current {nw : Prop} {s s' : State} {l : List (TaskId × Nat)} (hn : (taskIds s'.tasks).Nodup)
    (hp : ∀ p ∈ l, ∃ t', findTask s'.tasks p.1 = some t' ∧ t'.inst = p.2)
    (lo : ∀ p ∈ l, ∃ t ∈ s.tasks, t.id = p.1 ∧ t.inst ≤ p.2 ∧ (nw → locked t.state → t.inst < p.2) ∧
      (nw → ¬ isWaiting t.state)) : Tr nw s l s' := by
  refine ⟨lo, ?_, List.pairwise_of_forall_mem_list ?_⟩
  · intro p hpl t'' ht'' hid
    obtain ⟨t', hf, hi⟩ := hp p hpl
    cases eq_of_mem_of_find hn ht'' hid hf
    exact Nat.le_of_eq hi.symm
  · intro p hp1 q hq1 hpq
    obtain ⟨t1, hf1, hi1⟩ := hp p hp1
    obtain ⟨t2, hf2, hi2⟩ := hp q hq1
    rw [hpq, hf2] at hf1
    cases hf1
    omega

theorem Tr.of_post {nw cr : Prop} {s s' : State} {l : List (TaskId × Nat)} (e : Evo nw cr s s')
    (hn : (taskIds s'.tasks).Nodup)
    (hp : ∀ p ∈ l, ∃ t', findTask s'.tasks p.1 = some t' ∧ t'.inst = p.2 ∧ ¬ isWaiting t'.state ∧ ¬ locked t'.state) :
    Tr nw s l s' := by
  refine Tr.of_current hn (fun p hpl => (hp p hpl).imp fun _ h => ⟨h.1, h.2.1⟩) ?_
  intro p hpl
  obtain ⟨t', hf, hi, hw, hl⟩ := hp p hpl
  obtain ⟨t, ht, r⟩ := e t' (findTask_some_mem hf)
  refine ⟨t, ht, r.id.symm.trans (findTask_some_id hf), hi ▸ r.inst, ?_, fun n hw' => hw (r.wait n hw')⟩
  intro n hlk
  rcases r.locked hlk with h | h | h
  · exact absurd h hl
  · exact hi ▸ h
  · exact absurd (h n) hw

end HqModel.Core
