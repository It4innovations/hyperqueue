import HqModel.Alloc.Run
/-!
The admission decision (`has_resources_for_request`) depends on the recorded solver answers only through the
objective value of the first one (the answer for the current free state) and, when the strict-policy cache has no
entry yet, of the second one (the answer for the empty worker): `admitWith`.
-/
namespace HqModel.Alloc

/-- objective value of the first recorded answer (`none`: no record, or the solver found the problem infeasible) -/
def curObj : List (Option SolRec) → Option Int
  | some r :: _ => some r.obj
  | _ => none

/-- objective value of the second recorded answer -/
def bestObj : List (Option SolRec) → Option Int
  | _ :: some r :: _ => some r.obj
  | _ => none

/-- the admission decision and the resulting strict-policy cache as a function of the objective value `cur` the solver
reported for the current free state and `best` it reported for the empty worker -/
def admitWith (s : State) (rq : Request) (cur best : Option Int) : Bool × List (Request × Int) :=
  if !rq.all (entryHasResources s.pools s.concise) then (false, s.cache) else
  let coupled := coupledEntries s.pools rq
  if coupled.all (fun e => !e.policy.forced) then (true, s.cache) else
  match cur with
  | none => (false, s.cache)
  | some cur =>
    match cacheGet s.cache rq with
    | some cost => (decide (cost ≤ cur), s.cache)
    | none =>
      -- (`best = none` cannot happen here: the real code unwraps the answer for the empty worker)
      let best := best.getD 0
      (decide (best - strictMargin ≤ cur), (rq, best - strictMargin) :: s.cache)

theorem groupSolver_some {free : List CState} {coupled : List Entry} {ws : List Weight} {r : Option SolRec}
    {x : SolRec} (h : groupSolver free coupled ws r = .ok (some x)) :
    r = some x ∧ (mkLp free coupled ws).feasible x.sets = true ∧ x.obj = (mkLp free coupled ws).objective x.sets ∧
      ∃ opt, (mkLp free coupled ws).optimum = some opt ∧ withinGap opt x.obj = true := by
  unfold groupSolver at h
  dsimp only at h
  split at h
  · cases h
  · split at h
    · rename_i hall
      simp only [Except.ok.injEq] at h
      subst h
      simp only [solverAllowed, Bool.and_eq_true, beq_iff_eq] at hall
      obtain ⟨⟨hf, ho⟩, hg⟩ := hall
      refine ⟨rfl, hf, ho, ?_⟩
      split at hg
      · rename_i opt hopt
        exact ⟨opt, hopt, hg⟩
      · cases hg
    · cases h

theorem groupSolver_none {free : List CState} {coupled : List Entry} {ws : List Weight} {r : Option SolRec}
    (h : groupSolver free coupled ws r = .ok none) : r = none ∧ (mkLp free coupled ws).optimum = none := by
  unfold groupSolver at h
  dsimp only at h
  split at h
  · cases h
  · split at h
    · rename_i hall
      simp only [Except.ok.injEq] at h
      subst h
      exact ⟨rfl, by simpa [solverAllowed] using hall⟩
    · cases h

theorem hasResources_with {s : State} {rq : Request} {sols rest : List (Option SolRec)} {b : Bool}
    {cache : List (Request × Int)} (h : hasResources s rq sols = .ok (b, cache, rest)) :
    admitWith s rq (curObj sols) (bestObj sols) = (b, cache) := by
  unfold hasResources at h
  unfold admitWith
  split at h
  · rename_i h1
    simp only [Except.ok.injEq, Prod.mk.injEq] at h
    obtain ⟨rfl, rfl, -⟩ := h
    rw [if_pos h1]
  · rename_i h1
    rw [if_neg h1]
    dsimp only at h ⊢
    split at h
    · rename_i h2
      simp only [Except.ok.injEq, Prod.mk.injEq] at h
      obtain ⟨rfl, rfl, -⟩ := h
      rw [if_pos h2]
    · rename_i h2
      rw [if_neg h2]
      split at h
      · cases h
      · rename_i r1 sols1
        split at h
        · cases h
        · rename_i hs
          simp only [Except.ok.injEq, Prod.mk.injEq] at h
          obtain ⟨rfl, rfl, -⟩ := h
          obtain ⟨rfl, -⟩ := groupSolver_none hs
          simp [curObj]
        · rename_i cur hs
          obtain ⟨rfl, -, -, -⟩ := groupSolver_some hs
          simp only [curObj]
          split at h
          · rename_i cost hc
            simp only [Except.ok.injEq, Prod.mk.injEq] at h
            obtain ⟨rfl, rfl, -⟩ := h
            rw [hc]
          · rename_i hc
            rw [hc]
            dsimp only
            split at h
            · cases h
            · rename_i r2 sols2
              split at h
              · cases h
              · cases h
              · rename_i best hs2
                obtain ⟨rfl, -, -, -⟩ := groupSolver_some hs2
                simp only [Except.ok.injEq, Prod.mk.injEq] at h
                obtain ⟨rfl, rfl, -⟩ := h
                simp only [bestObj, Option.getD_some]
                rfl

theorem cacheGet_cons_self (rq : Request) (v : Int) (m : List (Request × Int)) :
    cacheGet ((rq, v) :: m) rq = some v := by
  simp [cacheGet]

theorem admitWith_idem (s : State) (rq : Request) (cur best best' : Option Int) :
    (admitWith { s with cache := (admitWith s rq cur best).2 } rq cur best').1 = (admitWith s rq cur best).1 := by
  by_cases h1 : (!rq.all (entryHasResources s.pools s.concise)) = true
  · simp [admitWith, h1]
  by_cases h2 : (coupledEntries s.pools rq).all (fun e => !e.policy.forced) = true
  · simp [admitWith, h1, h2]
  cases cur with
  | none => simp [admitWith, h1, h2]
  | some cur =>
    cases hc : cacheGet s.cache rq with
    | some cost => simp [admitWith, h1, h2, hc]
    | none => simp [admitWith, h1, h2, hc, cacheGet_cons_self]

theorem admitWith_nonforced (s : State) (rq : Request) (cur cur' best best' : Option Int)
    (h : (!rq.all (entryHasResources s.pools s.concise)) = true ∨
      (coupledEntries s.pools rq).all (fun e => !e.policy.forced) = true) :
    admitWith s rq cur best = admitWith s rq cur' best' := by
  by_cases h1 : (!rq.all (entryHasResources s.pools s.concise)) = true
  · simp [admitWith, h1]
  · rcases h with h | h
    · exact absurd h h1
    · simp [admitWith, h1, h]

end HqModel.Alloc
