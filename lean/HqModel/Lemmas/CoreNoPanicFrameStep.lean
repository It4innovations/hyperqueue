import HqModel.Lemmas.CoreNoPanicFrameReactor
import HqModel.Lemmas.CoreNoPanicFrameSched
/-!
Preservation of `NpW` / `NpIdx` / `NpMn` by the operations that do not fit the frame relation (`newWorker`, `newRq`,
`addNewTasks` / `newTasks`), and by `step`.
-/
namespace HqModel.Core.NPA

open HqModel.Core.NP

theorem newWorker_npw {s s' : State} {w : Worker} {o : Out} (hn : NpW s) (hf : FreshWorker w)
    (hnew : s.worker? w.id = none) (h : s.newWorker w = .ok (s', o)) : NpW s' := by
  simp only [State.newWorker] at h
  cases h
  refine ⟨?_, ?_⟩
  · show ((s.workers ++ [w]).map (·.id)).Nodup
    rw [List.map_append, List.nodup_append]
    refine ⟨hn.nd, by simp, ?_⟩
    intro a ha b hb
    simp only [List.map_cons, List.map_nil, List.mem_singleton] at hb
    subst hb
    intro e; subst e
    exact not_mem_of_findWorker_none hnew ha
  · intro wk hwk A F P ha
    have hwk' : wk ∈ s.workers ++ [w] := hwk
    rcases List.mem_append.mp hwk' with h1 | h1
    · exact hn.free wk h1 A F P ha
    · simp only [List.mem_singleton] at h1
      subst h1
      rw [hf] at ha
      simp only [Assign.sn.injEq] at ha
      rw [← ha.2.1]

/-- a held (worker, variant) names a worker of the map (`TW3.t1`, `TW3.d1`) -/
theorem held_worker {s : State} (hi : InvF s) {t : Task} (ht : t ∈ s.tasks) {w v : Nat}
    (hh : HeldT s.redirects t w v) : ∃ wk, findWorker s.workers w = some wk := by
  have hf := mem_find_of_nodup hi.inv.nd ht
  have hst := stOf_of_find hf
  have hm : t.id ∈ asgW s.workers w := by
    rcases hh with hh | hh | ⟨_, hm⟩
    · exact hi.tw.tw.t1 t.id w v (fun e => e) (Or.inl (by rw [hst, hh]))
    · exact hi.tw.tw.t1 t.id w v (fun e => e) (Or.inr (by rw [hst, hh]))
    · exact hi.tw.tw.d1 t.id w v (fun e => e) hm
  unfold asgW at hm
  split at hm
  · rename_i wk hw; exact ⟨wk, hw⟩
  · cases hm

theorem newWorker_npidx {s s' : State} {w : Worker} {o : Out} (hi : InvF s) (hn : NpIdx s)
    (h : s.newWorker w = .ok (s', o)) : NpIdx s' := by
  simp only [State.newWorker] at h
  cases h
  refine ⟨hn.ql, hn.rq, ?_⟩
  intro t ht w0 v hh
  have ht' : t ∈ s.tasks := ht
  have hh' : HeldT s.redirects t w0 v := hh
  obtain ⟨r, hr, hidx⟩ := (hn.held t ht' w0 v hh').elim
  obtain ⟨wk0, hwk0⟩ := held_worker hi ht' hh'
  refine IdxOk.intro (r := r) hr ?_
  intro wk hwk
  have : findWorker (s.workers ++ [w]) w0 = some wk := hwk
  rw [findWorker_append, hwk0] at this
  simp only [Option.some.injEq] at this
  subst this
  exact hidx wk0 hwk0

theorem newWorker_npmn {s s' : State} {w : Worker} {o : Out} (hn : NpMn s)
    (h : s.newWorker w = .ok (s', o)) : NpMn s' := by
  simp only [State.newWorker] at h
  cases h
  exact ⟨hn.ne, hn.sn⟩

theorem newRq_npw {s : State} (rqv : Rqv) (hn : NpW s) : NpW (s.newRq rqv) := ⟨hn.nd, hn.free⟩

theorem rq_newRq {s : State} (rqv : Rqv) {rq : Nat} (h : rq < s.rqs.length) (v : Nat) :
    (s.newRq rqv).rq rq v = s.rq rq v := by
  simp only [State.rq, State.newRq, List.getElem?_append_left h]

theorem isMultiNode_newRq {s : State} (rqv : Rqv) {rq : Nat} (h : rq < s.rqs.length) :
    (s.newRq rqv).isMultiNode rq = s.isMultiNode rq := by
  simp only [State.isMultiNode, State.newRq, List.getElem?_append_left h]

theorem newRq_npidx {s : State} (rqv : Rqv) (hn : NpIdx s) : NpIdx (s.newRq rqv) := by
  refine ⟨?_, ?_, ?_⟩
  · simp only [State.newRq, List.length_append, List.length_cons, List.length_nil, hn.ql]
  · intro t ht
    have := hn.rq t ht
    simp only [State.newRq, List.length_append, List.length_cons, List.length_nil]
    omega
  · intro t ht w v hh
    have ht' : t ∈ s.tasks := ht
    obtain ⟨r, hr, hidx⟩ := (hn.held t ht' w v hh).elim
    exact IdxOk.intro (r := r) (by rw [rq_newRq rqv (hn.rq t ht')]; exact hr) hidx

theorem newRq_npmn {s : State} (rqv : Rqv) (hi : NpIdx s) (hn : NpMn s) : NpMn (s.newRq rqv) := by
  refine ⟨hn.ne, ?_⟩
  intro t ht hs
  have ht' : t ∈ s.tasks := ht
  rw [isMultiNode_newRq rqv (hi.rq t ht')]
  exact hn.sn t ht' hs

theorem np3_append {s : State} {task : Task} (hn : Np3 s) (hs : ∃ n, task.state = .waiting n)
    (hrq : task.rq < s.rqs.length) : Np3 { s with tasks := s.tasks ++ [task] } := by
  obtain ⟨n, hs⟩ := hs
  obtain ⟨hw, hi, hm⟩ := hn
  refine ⟨⟨hw.nd, hw.free⟩, ⟨hi.ql, ?_, ?_⟩, ⟨?_, ?_⟩⟩
  · intro t ht
    rcases List.mem_append.mp ht with h1 | h1
    · exact hi.rq t h1
    · simp only [List.mem_singleton] at h1; subst h1; exact hrq
  · intro t ht w v hh
    rcases List.mem_append.mp ht with h1 | h1
    · exact hi.held t h1 w v hh
    · simp only [List.mem_singleton] at h1; subst h1
      rcases hh with hh | hh | ⟨⟨_, hh⟩, _⟩ <;> rw [hs] at hh <;> cases hh
  · intro t ht ws hws
    rcases List.mem_append.mp ht with h1 | h1
    · exact hm.ne t h1 ws hws
    · simp only [List.mem_singleton] at h1; subst h1
      rw [hs] at hws; cases hws
  · intro t ht hsn
    rcases List.mem_append.mp ht with h1 | h1
    · exact hm.sn t h1 hsn
    · simp only [List.mem_singleton] at h1; subst h1
      rw [hs] at hsn; exact hsn.elim

theorem addNewTasks_np3 (nts : List NewTask) (s s' : State) (r r' : List TaskId) (hn : Np3 s)
    (hrq : ∀ nt ∈ nts, nt.rq < s.rqs.length) (h : s.addNewTasks nts r = .ok (s', r')) :
    Np3 s' := by
  induction nts generalizing s r with
  | nil => cases h; exact hn
  | cons nt rest ih =>
    obtain ⟨ts, kept, n, hreg, -, hstep⟩ := addNewTasks_cons_ok h
    have hrel := NPC.mem_of_krel (NPC.registerDeps_krel nt.deps s.tasks nt.id)
    rw [hreg] at hrel
    have f1 : Fr False s { s with tasks := ts } := Fr.of_tasks rfl rfl (WFr.refl _) (fun _ h => h) hrel
    have hnt := hrq nt (by simp)
    rcases hstep with ⟨-, s2, r2, ha, h2⟩ | ⟨-, h2⟩
    · have f2 := f1.trans (addReady_fr ha)
      have e2 : s2.rqs = s.rqs := f2.rqs
      exact ih { s2 with tasks := s2.tasks ++ [mkTask nt n kept] } _
        (np3_append (f2.np3 hn) ⟨n, rfl⟩ (by rw [e2]; exact hnt))
        (fun x hx => by show x.rq < s2.rqs.length; rw [e2]; exact hrq x (by simp [hx])) h2
    · exact ih { s with tasks := ts ++ [mkTask nt n kept] } _
        (np3_append (s := { s with tasks := ts }) (f1.np3 hn) ⟨n, rfl⟩ hnt) (fun x hx => hrq x (by simp [hx])) h2

/-- `on_new_tasks` (`Inv s` gives `RdRet` of the state after `addNewTasks`, where `retract` runs) -/
theorem newTasks_np3 {s s' : State} {nts : List NewTask} {o : Out} (hi : Inv s) (hn : Np3 s)
    (hok : NewTasksOk s nts) (h : s.newTasks nts = .ok (s', o)) : Np3 s' := by
  obtain ⟨-, s1, retracted, s2, h1, h2, rfl⟩ := newTasks_path h
  exact ((retract_fr h2).trans (Fr.ask s2)).np3' (addNewTasks_inv _ _ _ _ _ hi h1).rdRet
    (addNewTasks_np3 _ _ _ _ _ hn (fun nt hnt => (hok.2 nt hnt).1) h1)

theorem step_np3 {U : List TaskId} {s s' : State} {op : Op} {out : Out} (hi : InvF s) (hq : QInv U none [] s)
    (hn : NpInv U [] s) (hok : OpOk2q s op) (hnp : OpNP s op) (h : step s op = .ok (s', out)) : Np3 s' := by
  have hn3 : Np3 s := ⟨hn.w, hn.idx, hn.mn⟩
  cases op with
  | newWorker w => exact ⟨newWorker_npw hn.w hok hnp h, newWorker_npidx hi hn.idx h, newWorker_npmn hn.mn h⟩
  | removeWorker w reason f order rets => exact (removeWorker_fr h).np3' hi.inv.rdRet hn3
  | newRq rqv =>
    simp only [step] at h
    cases h
    exact ⟨newRq_npw rqv hn.w, newRq_npidx rqv hn.idx, newRq_npmn rqv hn.idx hn.mn⟩
  | newTasks nts => exact newTasks_np3 hi.inv hn3 hnp h
  | cancel ids => exact (cancelTasks_fr h).np3 hn3
  | update w us rets => exact (taskUpdate_fr hnp.1 h).np3' hi.inv.rdRet hn3
  | retracted w ids => exact (retractResponse_fr h).np3 hn3
  | schedule sol =>
    exact (schedule_fr (QRq.of_queueOk hi.inv.nd hq.queueOk) hn.w hn.mn hnp h).np3 hn3

theorem step_npw {U : List TaskId} {s s' : State} {op : Op} {out : Out} (hi : InvF s) (hq : QInv U none [] s)
    (hn : NpInv U [] s) (hok : OpOk2q s op) (hnp : OpNP s op) (h : step s op = .ok (s', out)) : NpW s' :=
  (step_np3 hi hq hn hok hnp h).1

theorem step_npidx {U : List TaskId} {s s' : State} {op : Op} {out : Out} (hi : InvF s) (hq : QInv U none [] s)
    (hn : NpInv U [] s) (hok : OpOk2q s op) (hnp : OpNP s op) (h : step s op = .ok (s', out)) : NpIdx s' :=
  (step_np3 hi hq hn hok hnp h).2.1

theorem step_npmn {U : List TaskId} {s s' : State} {op : Op} {out : Out} (hi : InvF s) (hq : QInv U none [] s)
    (hn : NpInv U [] s) (hok : OpOk2q s op) (hnp : OpNP s op) (h : step s op = .ok (s', out)) : NpMn s' :=
  (step_np3 hi hq hn hok hnp h).2.2

end HqModel.Core.NPA
