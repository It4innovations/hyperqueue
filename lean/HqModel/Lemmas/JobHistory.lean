import HqModel.Lemmas.JobSteps
/-!
History-level facts about runs of the job layer, over the step decomposition of `JobState.lean`.

The invariant `Hist`: the number of terminal reports of every task in the event list of a run equals what the
task's state says, and every `finished` report is preceded by a `started` report. Basis of `c01_outcome_once` (C01).
-/
namespace HqModel.Job

/-- how often event `e` reports a terminal outcome of task `t` -/
def mentions (t : TaskId) : Ev → Nat
  | .finished x => if x = t then 1 else 0
  | .failed x => if x = t then 1 else 0
  | .canceled xs => xs.count t
  | .aborted xs => xs.count t
  | _ => 0

def termCount (t : TaskId) (evs : List Ev) : Nat := (evs.map (mentions t)).sum

theorem termCount_append (t : TaskId) (a b : List Ev) : termCount t (a ++ b) = termCount t a + termCount t b := by
  simp [termCount, List.map_append, List.sum_append]

theorem termCount_cons (t : TaskId) (x : Ev) (l : List Ev) : termCount t (x :: l) = mentions t x + termCount t l := by
  simp [termCount]

theorem termCount_nil (t : TaskId) : termCount t [] = 0 := rfl

theorem mem_checkTermination {job : Job} {x : Ev} (h : x ∈ job.checkTermination) :
    x = .jobIdle job.id ∨ x = .jobCompleted job.id := by
  unfold Job.checkTermination at h
  split at h
  · split at h
    · exact .inl (List.mem_singleton.mp h)
    · exact .inr (List.mem_singleton.mp h)
  · cases h

theorem termCount_checkTermination (t : TaskId) (job : Job) : termCount t job.checkTermination = 0 := by
  unfold Job.checkTermination
  split
  · split <;> rfl
  · rfl

theorem finished_not_mem_checkTermination {job : Job} {x : TaskId} : Ev.finished x ∉ job.checkTermination := by
  intro h; rcases mem_checkTermination h with h | h <;> cases h

theorem finished_not_mem_append_check {x : TaskId} {pre : List Ev} (job : Job) (h : Ev.finished x ∉ pre) :
    Ev.finished x ∉ pre ++ job.checkTermination :=
  fun hm => (List.mem_append.mp hm).elim h finished_not_mem_checkTermination

/-- expected number of terminal reports of a task whose state is `o` (`none` = the job has no such task) -/
def ew : Option TState → Nat
  | some st => if st.terminal then 1 else 0
  | none => 0

theorem ew_le_one (o : Option TState) : ew o ≤ 1 := by
  cases o with
  | none => exact Nat.zero_le _
  | some st => simp only [ew]; split <;> omega

/-- the effect of one elementary transition `a → b` with events `e` on reports, starts and finishes -/
structure JT (a b : Job) (e : List Ev) : Prop where
  /-- only tasks of this job are reported -/
  other : ∀ t : TaskId, t.1 ≠ a.id → termCount t e = 0
  /-- a task is reported exactly when it turns from non-terminal to terminal; terminal states stay -/
  cnt : ∀ k, ew (lookup a.tasks k) + termCount (a.id, k) e = ew (lookup b.tasks k)
  /-- a task becomes Running only together with a `started` event -/
  run : ∀ k, lookup b.tasks k = some .running →
    lookup a.tasks k = some .running ∨ ∃ i ws rv, Ev.started (a.id, k) i ws rv ∈ e
  /-- a `finished` event is emitted only for a task that was Running -/
  fin : ∀ t : TaskId, Ev.finished t ∈ e → t.1 = a.id ∧ lookup a.tasks t.2 = some .running

theorem JT.of_same {a b : Job} {e : List Ev} (h : ∀ k, lookup b.tasks k = lookup a.tasks k)
    (h0 : ∀ t, termCount t e = 0) (hf : ∀ t, Ev.finished t ∉ e) : JT a b e :=
  ⟨fun t _ => h0 t, fun k => by rw [h0, h k]; rfl, fun k hk => .inl (by rw [← h k]; exact hk),
   fun t ht => absurd ht (hf t)⟩

theorem JT.move {a b : Job} {t : Nat} {st tgt : TState} {e : List Ev}
    (hl : lookup a.tasks t = some st) (hst : st.terminal = false) (htgt : tgt.terminal = false)
    (htasks : b.tasks = setState a.tasks t tgt) (h0 : ∀ x, termCount x e = 0) (hf : ∀ x, Ev.finished x ∉ e)
    (hrun : tgt = .running → ∃ i ws rv, Ev.started (a.id, t) i ws rv ∈ e) : JT a b e := by
  have hlk : ∀ k, lookup b.tasks k = if k = t then some tgt else lookup a.tasks k := by
    rw [htasks]; exact lookup_setState_of hl tgt
  refine ⟨fun x _ => h0 x, ?_, ?_, fun x hx => absurd hx (hf x)⟩
  · intro k
    rw [h0, hlk]
    by_cases hk : k = t
    · subst hk; rw [if_pos rfl, hl]; simp [ew, hst, htgt]
    · rw [if_neg hk]; rfl
  · intro k hk
    rw [hlk] at hk
    by_cases hkt : k = t
    · rw [if_pos hkt] at hk
      exact .inr (hkt ▸ hrun (Option.some.inj hk))
    · rw [if_neg hkt] at hk; exact .inl hk

theorem JT.single {a b : Job} {t : Nat} {st tgt : TState} {e : List Ev}
    (hl : lookup a.tasks t = some st) (hst : st.terminal = false) (htgt : tgt.terminal = true)
    (htasks : b.tasks = setState a.tasks t tgt)
    (hcount : ∀ x, termCount x e = if x = (a.id, t) then 1 else 0)
    (hfin : ∀ x, Ev.finished x ∈ e → x = (a.id, t) ∧ st = .running) : JT a b e := by
  have hlk : ∀ k, lookup b.tasks k = if k = t then some tgt else lookup a.tasks k := by
    rw [htasks]; exact lookup_setState_of hl tgt
  refine ⟨?_, ?_, ?_, ?_⟩
  · intro x hx
    rw [hcount, if_neg fun e => hx (by rw [e])]
  · intro k
    rw [hcount, hlk]
    by_cases hk : k = t
    · subst hk; simp [hl, ew, hst, htgt]
    · have : ¬ (a.id, k) = (a.id, t) := fun e => hk (Prod.mk.inj e).2
      simp [hk, this]
  · intro k hk
    rw [hlk] at hk
    by_cases hkt : k = t
    · simp only [hkt, if_true] at hk
      cases hk; cases htgt
    · simp only [hkt, if_false] at hk; exact .inl hk
  · intro x hx
    obtain ⟨rfl, rfl⟩ := hfin x hx
    exact ⟨rfl, hl⟩

theorem JT.mark {a b' b : Job} {ids : List TaskId} {tgt : TState} {e : List Ev}
    (h : MarkHist tgt a b' ids) (hb : b.tasks = b'.tasks) (htgt : tgt.terminal = true)
    (hcount : ∀ x, termCount x e = ids.count x) (hfin : ∀ x, Ev.finished x ∉ e) : JT a b e := by
  refine ⟨?_, ?_, ?_, fun x hx => absurd hx (hfin x)⟩
  · intro x hx
    rw [hcount]
    exact List.count_eq_zero_of_not_mem fun hm => hx (h.own x hm)
  · intro k
    rw [hcount, hb, h.nodup.count]
    by_cases hm : (a.id, k) ∈ ids
    · obtain ⟨st, hl, hst⟩ := h.before _ hm
      have := h.after _ hm
      simp only at hl this
      simp [hm, hl, this, ew, hst, htgt]
    · simp [hm, h.other k hm]
  · intro k hk
    rw [hb] at hk
    by_cases hm : (a.id, k) ∈ ids
    · have := h.after _ hm
      simp only at this
      rw [this] at hk; cases hk; cases htgt
    · rw [h.other k hm] at hk; exact .inl hk

theorem termCount_outcome {ev : Ev} {p : TaskId} (job : Job) (q : TaskId)
    (h : mentions q ev = if p = q then 1 else 0) :
    termCount q ([ev] ++ job.checkTermination) = if q = p then 1 else 0 := by
  rw [List.singleton_append, termCount_cons, termCount_checkTermination, h, Nat.add_zero]
  simp only [eq_comm]

theorem JobOp.jt {a b : Job} {e : List Ev} (h : JobOp a b e) : JT a b e := by
  cases h with
  | @running _ t i ws rv hr =>
    rcases setRunning_eq_ok hr with ⟨hl, rfl⟩ | ⟨_, -, -, rfl⟩
    · exact JT.move hl rfl rfl rfl (fun _ => rfl) (fun _ h => by cases List.mem_singleton.mp h)
        fun _ => ⟨i, ws, rv, List.mem_singleton.mpr rfl⟩
    · exact JT.of_same (fun _ => rfl) (fun _ => rfl) (fun _ h => by cases List.mem_singleton.mp h)
  | @finished _ t _ hr =>
    obtain ⟨hl, rfl, rfl⟩ := setFinished_eq_ok hr
    refine JT.single hl rfl (tgt := .finished) rfl rfl (fun x => termCount_outcome _ x rfl) ?_
    intro x hx
    rcases List.mem_cons.mp hx with hx | hx
    · cases hx; exact ⟨rfl, rfl⟩
    · exact absurd hx finished_not_mem_checkTermination
  | @failed _ t _ hr =>
    obtain ⟨st, hst, hl, rfl, rfl⟩ := setFailed_eq_ok hr
    exact JT.single hl (by rcases hst with rfl | rfl <;> rfl) (tgt := .failed) rfl rfl
      (fun x => termCount_outcome _ x rfl) fun x hx => absurd hx (finished_not_mem_append_check _ (by simp))
  | @waiting _ t hr =>
    obtain ⟨hl, rfl⟩ := setWaiting_eq_ok hr
    exact JT.move hl rfl rfl rfl (fun _ => rfl) (fun _ => List.not_mem_nil) TState.noConfusion
  | cancel hr =>
    rcases setCancel_eq_ok hr with ⟨-, rfl, rfl⟩ | ⟨-, job1, hm, rfl, rfl⟩
    · exact JT.of_same (fun _ => rfl) (fun _ => rfl) fun _ => List.not_mem_nil
    · refine JT.mark (markAll_hist .canceled _ rfl _ _ _ hm) rfl rfl ?_ ?_
      · intro x
        simp [termCount_cons, termCount_checkTermination, mentions]
      · exact fun x => finished_not_mem_append_check _ (by simp)
  | abort hr =>
    rcases abortTasks_eq_ok hr with ⟨-, rfl, rfl⟩ | ⟨-, job1, hm, rfl, rfl⟩
    · exact JT.of_same (fun _ => rfl) (fun _ => rfl) fun _ => List.not_mem_nil
    · refine JT.mark (markAll_hist .aborted _ rfl _ _ _ hm) rfl rfl ?_ ?_
      · intro x
        simp [termCount_cons, termCount_checkTermination, mentions]
      · exact fun x => finished_not_mem_append_check _ (by simp)
  | attach _ hr =>
    have hl := attach_lookup _ hr
    refine ⟨fun _ _ => rfl, ?_, ?_, fun _ h => by cases List.mem_singleton.mp h⟩
    · intro k
      rw [show termCount (a.id, k) [Ev.submit a.id false] = 0 from rfl]
      rcases hl k with h | h
      · rw [h]; rfl
      · rw [h.1, h.2]; rfl
    · intro k hk
      rcases hl k with h | h
      · exact .inl (by rw [← h]; exact hk)
      · rw [h.2] at hk; cases hk
  | close _ =>
    refine JT.of_same (fun _ => rfl) ?_ ?_
    · intro t
      rw [List.singleton_append, termCount_cons, termCount_checkTermination]; rfl
    · exact fun t => finished_not_mem_append_check _ (by simp)

/-- every `finished` report in `evs` has a `started` report of the same task before it -/
def Ordered (evs : List Ev) : Prop :=
  ∀ t pre post, evs = pre ++ Ev.finished t :: post → ∃ i ws rv, Ev.started t i ws rv ∈ pre

theorem Ordered.append {evs e : List Ev} (h : Ordered evs)
    (hf : ∀ t, Ev.finished t ∈ e → ∃ i ws rv, Ev.started t i ws rv ∈ evs) : Ordered (evs ++ e) := by
  intro t pre post heq
  rcases List.append_eq_append_iff.mp heq with ⟨a', hpre, he⟩ | ⟨c', hevs, hpost⟩
  · obtain ⟨i, ws, rv, hm⟩ := hf t (by rw [he]; simp)
    exact ⟨i, ws, rv, by rw [hpre]; exact List.mem_append_left _ hm⟩
  · cases c' with
    | nil =>
      simp only [List.nil_append] at hpost
      simp only [List.append_nil] at hevs
      obtain ⟨i, ws, rv, hm⟩ := hf t (by rw [← hpost]; simp)
      exact ⟨i, ws, rv, by rw [← hevs]; exact hm⟩
    | cons y c'' =>
      simp only [List.cons_append, List.cons.injEq] at hpost
      obtain ⟨rfl, _⟩ := hpost
      exact h t pre c'' hevs

/-- The invariant, over the job list, the job-id counter and ALL events emitted so far. -/
structure Hist (jobs : List Job) (ctr : Nat) (evs : List Ev) : Prop where
  /-- ids of stored jobs were handed out by the counter -/
  below : ∀ j a, findJob jobs j = some a → j < ctr
  /-- stored jobs: a task (or a free task id) has exactly the reports its state says -/
  cnt : ∀ j a, findJob jobs j = some a → ∀ k, termCount (j, k) evs = ew (lookup a.tasks k)
  /-- job ids not yet handed out: never reported -/
  fresh : ∀ t : TaskId, ctr ≤ t.1 → termCount t evs = 0
  /-- **at most one terminal report per task**, also for the tasks of forgotten jobs -/
  once : ∀ t : TaskId, termCount t evs ≤ 1
  /-- a Running task has been reported as started -/
  started : ∀ j a k, findJob jobs j = some a → lookup a.tasks k = some .running →
    ∃ i ws rv, Ev.started (j, k) i ws rv ∈ evs
  /-- every finish is preceded by a start -/
  order : Ordered evs

theorem Hist.init : Hist [] 1 [] :=
  ⟨fun _ _ h => (by cases h), fun _ _ h => (by cases h), fun _ _ => rfl, fun _ => Nat.zero_le _,
    fun _ _ _ h => (by cases h), fun t pre post h => by simp at h⟩

theorem termCount_quiet {e : List Ev} (hq : ∀ x ∈ e, x.quiet = true) (t : TaskId) : termCount t e = 0 := by
  induction e with
  | nil => rfl
  | cons x xs ih =>
    rw [termCount_cons, ih fun y hy => hq y (List.mem_cons_of_mem _ hy)]
    have := hq x List.mem_cons_self
    cases x <;> first | rfl | cases this

theorem Hist.quiet {jobs : List Job} {ctr : Nat} {evs e : List Ev} (h : Hist jobs ctr evs)
    (hq : ∀ x ∈ e, x.quiet = true) : Hist jobs ctr (evs ++ e) := by
  have h0 := termCount_quiet hq
  refine ⟨h.below, ?_, ?_, ?_, ?_, ?_⟩
  · intro j a hj k; rw [termCount_append, h0, h.cnt j a hj k]; rfl
  · intro t ht; rw [termCount_append, h0, h.fresh t ht]
  · intro t; rw [termCount_append, h0]; exact h.once t
  · intro j a k hj hl
    obtain ⟨i, ws, rv, hm⟩ := h.started j a k hj hl
    exact ⟨i, ws, rv, List.mem_append_left _ hm⟩
  · exact h.order.append fun t ht => nomatch hq _ ht

theorem Hist.put {jobs : List Job} {ctr : Nat} {evs e : List Ev} {a b : Job} (h : Hist jobs ctr evs)
    (hj : findJob jobs a.id = some a) (hop : JobOp a b e) : Hist (replaceJob jobs b) ctr (evs ++ e) := by
  have jt := hop.jt
  have hlt := h.below _ _ hj
  have hfind := fun {j x} => findJob_replaceJob_some (j := j) (x := x) hj hop.id_eq
  refine ⟨?_, ?_, ?_, ?_, ?_, ?_⟩
  · intro j x hx
    rcases hfind hx with ⟨rfl, _⟩ | ⟨_, hx⟩
    · exact hlt
    · exact h.below j x hx
  · intro j x hx k
    rw [termCount_append]
    rcases hfind hx with ⟨rfl, rfl⟩ | ⟨hne, hx⟩
    · rw [h.cnt _ _ hj k]; exact jt.cnt k
    · rw [h.cnt j x hx k, jt.other (j, k) hne]; rfl
  · intro t ht
    rw [termCount_append, h.fresh t ht, jt.other t (by omega)]
  · intro t
    rw [termCount_append]
    by_cases hta : t.1 = a.id
    · obtain ⟨tj, tk⟩ := t
      simp only at hta
      subst hta
      rw [h.cnt _ _ hj tk, jt.cnt tk]
      exact ew_le_one _
    · rw [jt.other t hta]; exact h.once t
  · intro j x k hx hl
    rcases hfind hx with ⟨rfl, rfl⟩ | ⟨_, hx⟩
    · rcases jt.run k hl with hr | ⟨i, ws, rv, hm⟩
      · obtain ⟨i, ws, rv, hm⟩ := h.started _ _ k hj hr
        exact ⟨i, ws, rv, List.mem_append_left _ hm⟩
      · exact ⟨i, ws, rv, List.mem_append_right _ hm⟩
    · obtain ⟨i, ws, rv, hm⟩ := h.started j x k hx hl
      exact ⟨i, ws, rv, List.mem_append_left _ hm⟩
  · refine h.order.append ?_
    intro t ht
    obtain ⟨h1, h2⟩ := jt.fin t ht
    obtain ⟨tj, tk⟩ := t
    simp only at h1 h2
    subst h1
    exact h.started _ _ tk hj h2

theorem Hist.puts {jobs jobs' : List Job} {ctr : Nat} {evs e : List Ev} (hp : Puts jobs jobs' e) :
    Hist jobs ctr evs → Hist jobs' ctr (evs ++ e) :=
  Puts.ind (fun h => h.put) hp

theorem Hist.add {jobs : List Job} {ctr : Nat} {evs : List Ev} {job : Job} (h : Hist jobs ctr evs)
    (hid : job.id = ctr) (hw : ∀ k, lookup job.tasks k = none ∨ lookup job.tasks k = some .waiting) :
    Hist (jobs ++ [job]) (ctr + 1) evs := by
  subst hid
  refine ⟨?_, ?_, ?_, h.once, ?_, h.order⟩
  · intro j x hx
    rcases findJob_append_some hx with hx | ⟨rfl, _⟩
    · exact Nat.lt_succ_of_lt (h.below j x hx)
    · exact Nat.lt_succ_self _
  · intro j x hx k
    rcases findJob_append_some hx with hx | ⟨rfl, rfl⟩
    · exact h.cnt j x hx k
    · rw [h.fresh (x.id, k) (Nat.le_refl _)]
      rcases hw k with hk | hk <;> rw [hk] <;> rfl
  · intro t ht; exact h.fresh t (Nat.le_of_succ_le ht)
  · intro j x k hx hl
    rcases findJob_append_some hx with hx | ⟨rfl, rfl⟩
    · exact h.started j x k hx hl
    · rcases hw k with hk | hk <;> rw [hk] at hl <;> cases hl

/-- dropping a job: only "at most once" survives for its tasks -/
theorem Hist.forget {jobs : List Job} {ctr : Nat} {evs : List Ev} (h : Hist jobs ctr evs) (j : Nat) :
    Hist (jobs.filter (·.id != j)) ctr evs :=
  ⟨fun k x hx => h.below k x (findJob_filter_some hx), fun k x hx => h.cnt k x (findJob_filter_some hx), h.fresh,
    h.once, fun k x t hx => h.started k x t (findJob_filter_some hx), h.order⟩

theorem Hist.step {s s' : State} {op : Op} {acc e : List Ev} (h : Hist s.jobs s.jobCtr acc)
    (hs : step s op = .ok (s', e)) : Hist s'.jobs s'.jobCtr (acc ++ e) := by
  cases step_shape hs with
  | same hj hc hq => rw [hj, hc]; exact h.quiet (Ev.quiet_of_worker hq)
  | add o mf ids job ha hj hc he ho =>
    rw [hj, hc, he]
    exact (h.add (attach_id _ ha) fun k => (attach_lookup _ ha k).imp_right (·.2)).quiet Shape.add_quiet
  | puts e1 tail hp hc he hq =>
    rw [hc, he, ← List.append_assoc]
    exact (h.puts hp).quiet (Ev.quiet_of_worker hq)
  | forget j job hj ht hjobs hc he =>
    rw [hjobs, hc, he, List.append_nil]
    exact h.forget j

theorem run_invariant (I : List Job → Nat → List Ev → Prop) (P : Op → Prop)
    (hstep : ∀ (s s' : State) (op : Op) (acc e : List Ev), P op → StateWF s → step s op = .ok (s', e) →
      I s.jobs s.jobCtr acc → I s'.jobs s'.jobCtr (acc ++ e)) :
    ∀ (ops : List Op) (s s' : State) (acc evs : List Ev), (∀ op ∈ ops, P op) → StateWF s →
      run s ops = .ok (s', evs) → I s.jobs s.jobCtr acc → I s'.jobs s'.jobCtr (acc ++ evs)
  | [], s, s', acc, evs, _, _, e, h => by
    simp only [run] at e; cases e; rwa [List.append_nil]
  | op :: ops, s, s', acc, evs, hP, hw, e, h => by
    obtain ⟨s1, ev1, ev2, hs, hr, rfl⟩ := run_cons_eq_ok e
    rw [← List.append_assoc]
    exact run_invariant I P hstep ops s1 _ _ _ (fun o ho => hP o (List.mem_cons_of_mem _ ho)) (step_wf hw hs) hr
      (hstep s s1 op acc ev1 (hP op List.mem_cons_self) hw hs h)

theorem run_hist {ops : List Op} {s : State} {evs : List Ev} (h : run {} ops = .ok (s, evs)) :
    Hist s.jobs s.jobCtr evs :=
  run_invariant Hist (fun _ => True) (fun _ _ _ _ _ _ _ hs hi => hi.step hs) ops {} s [] evs
    (fun _ _ => trivial) init_wf h Hist.init

end HqModel.Job
