import HqModel.Core.Run
import HqModel.Lemmas.CoreOpsReactor
import HqModel.Lemmas.CoreSteps
import HqModel.Lemmas.CoreOpsSched
import HqModel.Lemmas.CoreDescStep
/-!
Task ids are unique in every reachable state of the core model (`step_nodup`, `run_nodup`): every operation keeps the
list of ids (`IdsStable`) or erases some (`IdsSub`) — read off `Frame.keep` / `Frame.tids` of its descent lemma — except
`on_new_tasks`, which appends ids it has checked to be absent. At the end the induction over runs (`run_induction`).
-/
namespace HqModel.Core

/-- the `…_stable` lemmas conclude `IdsStable s s'`, the `…_ids` lemmas the equation it unfolds to -/
def IdsStable (s s' : State) : Prop := taskIds s'.tasks = taskIds s.tasks
def IdsSub (s s' : State) : Prop := (taskIds s'.tasks).Sublist (taskIds s.tasks)

theorem IdsStable.refl (s : State) : IdsStable s s := rfl
theorem IdsStable.sub {a b : State} (h : IdsStable a b) : IdsSub a b := by
  unfold IdsSub; rw [h]; exact List.Sublist.refl _
theorem IdsSub.nodup {a b : State} (h : IdsSub a b) (hn : (taskIds a.tasks).Nodup) : (taskIds b.tasks).Nodup :=
  List.Sublist.nodup h hn
theorem IdsStable.of_tasks {a b : State} (h : b.tasks = a.tasks) : IdsStable a b := by
  unfold IdsStable; rw [h]

theorem setTask_ids (s : State) (t : Task) : taskIds (s.setTask t).tasks = taskIds s.tasks :=
  taskIds_putTask _ _

theorem addReady_tasks {s s' : State} {t : Task} {r : List TaskId}
    (h : s.addReady t = .ok (s', r)) : s'.tasks = s.tasks := by
  obtain ⟨_, _, rfl⟩ := addReady_ok_iff.mp h; rfl

theorem queueRemove_tasks {s s' : State} {rq : Nat} {t : TaskId} {p : Int}
    (h : s.queueRemove rq t p = .ok s') : s'.tasks = s.tasks := by
  obtain ⟨_, rfl⟩ := queueRemove_ok_iff.mp h; rfl

theorem removePrefilled_tasks {s s' : State} {rq : Nat} {t : TaskId}
    (h : s.removePrefilled rq t = .ok s') : s'.tasks = s.tasks := by
  obtain ⟨_, _, _, _, _, _, rfl⟩ := removePrefilled_ok_iff.mp h; rfl

theorem movePrefilledToReady_tasks {s s' : State} {rq : Nat} {t : TaskId}
    (h : s.movePrefilledToReady rq t = .ok s') : s'.tasks = s.tasks := by
  obtain ⟨_, _, _, _, _, _, rfl⟩ := movePrefilledToReady_ok_iff.mp h; rfl

theorem retract_stable {s s' : State} {l : List TaskId} {o : Out}
    (h : s.retract l = .ok (s', o)) : IdsStable s s' := (retract_desc (er := False) h).frame.keep

theorem tryRemoveRedirection_tasks {s s' : State} {t : TaskId} {rq : Nat}
    (h : s.tryRemoveRedirection t rq = .ok s') : s'.tasks = s.tasks :=
  (congrArg State.tasks (tryRemoveRedirection_eq h) :)

theorem removeTask_sub {s s' : State} {id : TaskId} {st : TS}
    (h : s.removeTask id = .ok (s', st)) : IdsSub s s' := (removeTask_desc (RW := WCalm) h).frame.tids

theorem nodup_append_singleton {l : List TaskId} {t : TaskId} (hl : l.Nodup) (ht : t ∉ l) : (l ++ [t]).Nodup := by
  rw [List.nodup_append]
  refine ⟨hl, by simp, ?_⟩
  intro a ha b hb
  simp only [List.mem_singleton] at hb
  subst hb; intro e; subst e; exact ht ha

theorem addNewTasks_nodup (nts : List NewTask) (s s' : State) (r r' : List TaskId)
    (hn : (taskIds s.tasks).Nodup) (h : s.addNewTasks nts r = .ok (s', r')) : (taskIds s'.tasks).Nodup := by
  induction nts generalizing s r with
  | nil => cases h; exact hn
  | cons nt rest ih =>
    obtain ⟨ts, kept, n, hreg, hnone, hc⟩ := addNewTasks_cons_ok h
    -- the id was checked to be absent after the dependencies were registered
    have hnd : (taskIds (ts ++ [mkTask nt n kept])).Nodup := by
      have e : taskIds ts = taskIds s.tasks := by rw [← registerDeps_ids nt.deps s.tasks nt.id, hreg]
      rw [show taskIds (ts ++ [mkTask nt n kept]) = taskIds ts ++ [nt.id] from List.map_append]
      exact nodup_append_singleton (e ▸ hn) (not_mem_of_findTask_none hnone)
    rcases hc with ⟨_, s2, r2, ha, h'⟩ | ⟨_, h'⟩
    · exact ih _ _ (by rw [addReady_tasks ha]; exact hnd) h'
    · exact ih _ _ hnd h'

theorem newTasks_nodup {s s' : State} {nts : List NewTask} {o : Out}
    (hn : (taskIds s.tasks).Nodup) (h : s.newTasks nts = .ok (s', o)) : (taskIds s'.tasks).Nodup := by
  obtain ⟨_, s1, retracted, s2, h1, h2, rfl⟩ := newTasks_path h
  exact (retract_stable h2).sub.nodup (addNewTasks_nodup _ _ _ _ _ hn h1)

theorem resetMnAll_tasks (ws : List Nat) (s s' : State) (h : resetMnAll s ws = .ok s') : s'.tasks = s.tasks :=
  (congrArg State.tasks (resetMnAll_eq ws h) :)

theorem resetMnChecked_tasks (ws : List Nat) (s s' : State) (id : TaskId)
    (h : resetMnChecked s id ws = .ok s') : s'.tasks = s.tasks :=
  resetMnAll_tasks ws s s' (resetMnChecked_resetMnAll ws h)

theorem cancelLoop_tasks (ids : List TaskId) (s s' : State) (u u' : List TaskId) (r r' : List (Nat × List TaskId))
    (h : s.cancelLoop ids u r = .ok (s', u', r')) : s'.tasks = s.tasks := by
  induction ids generalizing s u r with
  | nil => cases h; rfl
  | cons id rest ih =>
    rcases cancelLoop_cons_ok h with ⟨_, h'⟩ | ⟨task, cons, s1, r1, _, _, harm, h'⟩
    · exact ih _ _ _ h'
    · obtain ⟨s0, hrel, hs1⟩ := harm.release
      rw [ih _ _ _ h', ← hrel.tasks]
      rcases hs1 with rfl | rfl <;> rfl

theorem cancelTasks_sub {s s' : State} {ids : List TaskId} {o : Out}
    (h : s.cancelTasks ids = .ok (s', o)) : IdsSub s s' := (cancelTasks_desc h).frame.tids

theorem removeWaitingAll_sub (ids : List TaskId) (s s' : State)
    (h : s.removeWaitingAll ids = .ok s') : IdsSub s s' := (removeWaitingAll_desc (RW := WCalm) h).frame.tids

theorem taskFailed_sub {s s' : State} {worker : Option Nat} {id : TaskId} {ret : List TaskId} {o : Out}
    (h : s.taskFailed worker id ret = .ok (s', o)) : IdsSub s s' := (taskFailed_desc h).frame.tids

theorem taskRunning_stable {s s' : State} {w : Nat} {id : TaskId} {rv : Nat} {o : Out}
    (h : s.taskRunning w id rv = .ok (s', o)) : IdsStable s s' := (taskRunning_desc h).frame.keep

theorem wakeConsumers_ids (cs : List TaskId) (s s' : State) (r r' : List TaskId)
    (h : s.wakeConsumers cs r = .ok (s', r')) : taskIds s'.tasks = taskIds s.tasks :=
  (wakeConsumers_desc (RW := WCalm) (er := False) cs h).frame.keep

theorem taskFinished_sub {s s' : State} {w : Nat} {id : TaskId} {o : Out} {b : Bool}
    (h : s.taskFinished w id = .ok (s', o, b)) : IdsSub s s' := (taskFinished_desc h).frame.tids

theorem taskReject_stable {s s' : State} {w : Nat} {id : TaskId} {rv : Option Nat} {o : Out} {b : Bool}
    (h : s.taskReject w id rv = .ok (s', o, b)) : IdsStable s s' := (taskReject_desc h).frame.keep

theorem requestEnabled_tasks {s s' : State} {w rq rv : Nat}
    (h : s.requestEnabled w rq rv = .ok s') : s'.tasks = s.tasks := withWorker_tasks h

theorem retractResponse_stable {s s' : State} {w : Nat} {ids : List TaskId} {o : Out}
    (h : s.retractResponse w ids = .ok (s', o)) : IdsStable s s' :=
  (retractResponse_desc (RW := WCalm) h).frame.keep

theorem lostRetracting_ids (ts : List Task) (s s' : State) (w : Nat) (o o' : Out)
    (h : s.lostRetracting w ts o = .ok (s', o')) : taskIds s'.tasks = taskIds s.tasks :=
  (lostRetracting_desc (fail := True) (L := fun _ => True) (RW := WCalm) ts h).frame.keep

theorem removeWorker_sub {s s' : State} {w : Nat} {reason : String} {f : Bool} {order : List TaskId}
    {rets : List (List TaskId)} {o : Out}
    (h : s.removeWorker w reason f order rets = .ok (s', o)) : IdsSub s s' :=
  have ⟨_, _, hd⟩ := removeWorker_desc h
  hd.frame.tids

theorem placeSn_stable {s s' : State} {m m' : List WUpdate} {v : Nat} {r : Rq} {id : TaskId} {w : Nat}
    (h : s.placeSn m v r id w = .ok (s', m')) : IdsStable s s' := (placeSn_desc h).frame.keep

theorem placeAll_ids (l : List (TaskId × Nat)) (s s' : State) (m m' : List WUpdate) (v : Nat) (r : Rq)
    (h : s.placeAll m v r l = .ok (s', m')) : taskIds s'.tasks = taskIds s.tasks := (placeAll_desc h).frame.keep

theorem mapSn_ids (es : List SnEntry) (s s' : State) (now : Nat) (m m' : List WUpdate)
    (h : s.mapSn now m es = .ok (s', m')) : taskIds s'.tasks = taskIds s.tasks := (mapSn_desc es h).frame.keep

theorem setMnAll_tasks (ws : List Nat) (s s' : State) (id : TaskId) (first : Bool)
    (h : setMnAll s id ws first = .ok s') : s'.tasks = s.tasks :=
  setMnAll_ind (P := fun s1 => s1.tasks = s.tasks) (fun _ _ _ _ h0 h1 => (withWorker_tasks h1).trans h0) rfl h

theorem mapMnSets_ids (sets : List (List Nat)) (s s' : State) (rq : Nat) (acc acc' : List TaskId)
    (h : s.mapMnSets rq sets acc = .ok (s', acc')) : taskIds s'.tasks = taskIds s.tasks :=
  (mapMnSets_desc sets h).frame.keep

theorem mapMn_ids (es : List MnEntry) (s s' : State) (acc acc' : List TaskId)
    (h : s.mapMn es acc = .ok (s', acc')) : taskIds s'.tasks = taskIds s.tasks := (mapMn_desc h).frame.keep

theorem prefillWorker_stable {s s' : State} {m m' : List WUpdate} {rq size w : Nat}
    (h : s.prefillWorker m rq size w = .ok (s', m')) : IdsStable s s' := (prefillWorker_desc h).frame.keep

theorem prefillWorkers_ids (ws : List Nat) (s s' : State) (m m' : List WUpdate) (rq size : Nat)
    (h : s.prefillWorkers m rq size ws = .ok (s', m')) : taskIds s'.tasks = taskIds s.tasks :=
  (prefillWorkers_desc h).frame.keep

theorem proactive_ids (n : Nat) (s s' : State) (m m' : List WUpdate) (orders : List (Nat × List Nat)) (top : Int)
    (rq : Nat) (h : s.proactive m orders top n rq = .ok (s', m')) : taskIds s'.tasks = taskIds s.tasks :=
  (proactive_desc h).frame.keep

theorem schedule_stable {s s' : State} {sol : Solution} {o : Out}
    (h : s.schedule sol = .ok (s', o)) : IdsStable s s' := (schedule_desc h).frame.keep

theorem step_nodup {s s' : State} {op : Op} {out : Out} (hn : (taskIds s.tasks).Nodup)
    (h : step s op = .ok (s', out)) : (taskIds s'.tasks).Nodup := by
  cases op with
  | newTasks nts => exact newTasks_nodup hn h
  | _ => exact ((step_desc h).tsub rfl).nodup hn

theorem run_cons_ok {s s' : State} {op : Op} {ops : List Op} {out : Out} (h : run s (op :: ops) = .ok (s', out)) :
    ∃ s1 o1 o2, step s op = .ok (s1, o1) ∧ run s1 ops = .ok (s', o2) ∧ out = o1.add o2 := by
  rw [run] at h
  cases h1 : step s op with
  | error e => rw [h1] at h; cases h
  | ok x =>
    obtain ⟨s1, o1⟩ := x
    rw [h1] at h
    dsimp only at h
    cases h2 : run s1 ops with
    | error e => rw [h2] at h; cases h
    | ok y => obtain ⟨s2, o2⟩ := y; rw [h2] at h; cases h; exact ⟨s1, o1, o2, rfl, h2, rfl⟩

theorem run_induction {P : State → Prop} (hstep : ∀ s s' op out, P s → step s op = .ok (s', out) → P s')
    (ops : List Op) : ∀ (s s' : State) (out : Out), P s → run s ops = .ok (s', out) → P s' := by
  induction ops with
  | nil => intro s s' out hp h; cases h; exact hp
  | cons op rest ih =>
    intro s s' out hp h
    obtain ⟨s1, o1, o2, h1, h2, _⟩ := run_cons_ok h
    exact ih _ _ _ (hstep _ _ _ _ hp h1) h2

/-- in every state reachable from the empty core no two tasks have the same id -/
theorem run_nodup {s' : State} {ops : List Op} {out : Out}
    (h : run {} ops = .ok (s', out)) : (taskIds s'.tasks).Nodup :=
  run_induction (P := fun s => (taskIds s.tasks).Nodup) (fun _ _ _ _ hp hs => step_nodup hp hs) ops {} _ _
    List.nodup_nil h

end HqModel.Core
