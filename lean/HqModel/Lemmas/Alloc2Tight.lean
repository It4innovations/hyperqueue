import HqModel.Lemmas.AllocScatter
/-!
`claim_compact_from_groups` (the `tight` / `tight!` claim inside the group set chosen by the solver) never stops.
Termination measure: the number of non-zero entries of the local `amounts` vector. Every iteration that does not
`break` drains the group with the largest remaining amount and zeroes its entry; as long as the chosen group set
contains the remaining amount (`ScatterOk`, an invariant of the loop) that largest amount is positive, so the measure
drops by one; `#groups + 2` units of fuel are never exhausted.
-/
namespace HqModel.Alloc

theorem findMinFit_some {set : Option (List Nat)} {rem : Nat} {as : List Nat} {i : Nat} {best : Option (Nat × Nat)}
    {g a : Nat} (h : findMinFit set rem as i best = some (g, a)) :
    best = some (g, a) ∨ ∃ j, g = i + j ∧ as[j]? = some a ∧ rem ≤ a ∧ inSet set g = true := by
  induction as generalizing i best with
  | nil => exact .inl (by simpa [findMinFit] using h)
  | cons x xs ih =>
    simp only [findMinFit] at h
    rcases ih h with h1 | ⟨j, hg, hj, hle, hin⟩
    · by_cases hc : rem ≤ x ∧ inSet set i = true
      · rw [if_pos hc] at h1
        cases best with
        | none =>
          simp only [Option.some.injEq, Prod.mk.injEq] at h1
          obtain ⟨rfl, rfl⟩ := h1
          exact .inr ⟨0, rfl, rfl, hc.1, hc.2⟩
        | some b =>
          obtain ⟨bi, bv⟩ := b
          dsimp only at h1
          by_cases hlt : x < bv
          · rw [if_pos hlt] at h1
            simp only [Option.some.injEq, Prod.mk.injEq] at h1
            obtain ⟨rfl, rfl⟩ := h1
            exact .inr ⟨0, rfl, rfl, hc.1, hc.2⟩
          · rw [if_neg hlt] at h1
            exact .inl h1
      · rw [if_neg hc] at h1
        exact .inl h1
    · exact .inr ⟨j + 1, by omega, by simpa using hj, hle, hin⟩

theorem findMinFit_none {set : Option (List Nat)} {rem : Nat} {as : List Nat} {i : Nat} {best : Option (Nat × Nat)}
    (h : findMinFit set rem as i best = none) :
    best = none ∧ ∀ j a, as[j]? = some a → inSet set (i + j) = true → a < rem := by
  induction as generalizing i best with
  | nil => exact ⟨by simpa [findMinFit] using h, fun j a hj => by simp at hj⟩
  | cons x xs ih =>
    simp only [findMinFit] at h
    obtain ⟨h1, h2⟩ := ih h
    by_cases hc : rem ≤ x ∧ inSet set i = true
    · rw [if_pos hc] at h1
      cases best with
      | none => simp at h1
      | some b =>
        obtain ⟨bi, bv⟩ := b
        dsimp only at h1
        split at h1 <;> simp at h1
    · rw [if_neg hc] at h1
      refine ⟨h1, fun j a hj hin => ?_⟩
      cases j with
      | zero =>
        simp only [List.getElem?_cons_zero, Option.some.injEq] at hj
        subst hj
        rcases Nat.lt_or_ge x rem with hlt | hge
        · exact hlt
        · exact absurd ⟨hge, by simpa using hin⟩ hc
      | succ j =>
        simp only [List.getElem?_cons_succ] at hj
        exact h2 j a hj (by rw [show i + 1 + j = i + (j + 1) by omega]; exact hin)

theorem findMaxLast_some {set : Option (List Nat)} {as : List Nat} {i : Nat} {best : Option (Nat × Nat)}
    {g a : Nat} (h : findMaxLast set as i best = some (g, a)) :
    (best = some (g, a) ∨ ∃ j, g = i + j ∧ as[j]? = some a ∧ inSet set g = true) ∧
      (∀ j a', as[j]? = some a' → inSet set (i + j) = true → a' ≤ a) ∧
      (∀ g' b, best = some (g', b) → b ≤ a) := by
  induction as generalizing i best with
  | nil =>
    have : best = some (g, a) := by simpa [findMaxLast] using h
    exact ⟨.inl this, fun j a' hj => by simp at hj, fun g' b hb => by rw [this] at hb; cases hb; exact Nat.le_refl _⟩
  | cons x xs ih =>
    simp only [findMaxLast] at h
    obtain ⟨h1, h2, h3⟩ := ih h
    by_cases hc : inSet set i = true
    · rw [if_pos hc] at h1 h3
      -- the running best after this element has a value `≥ x`
      have hx : x ≤ a := by
        cases best with
        | none => exact h3 i x rfl
        | some b =>
          obtain ⟨bi, bv⟩ := b
          dsimp only at h3
          by_cases hle : bv ≤ x
          · rw [if_pos hle] at h3
            exact h3 i x rfl
          · rw [if_neg hle] at h3
            have := h3 bi bv rfl
            omega
      refine ⟨?_, ?_, ?_⟩
      · rcases h1 with h1 | ⟨j, hg, hj, hin⟩
        · cases best with
          | none =>
            simp only [Option.some.injEq, Prod.mk.injEq] at h1
            obtain ⟨rfl, rfl⟩ := h1
            exact .inr ⟨0, rfl, rfl, hc⟩
          | some b =>
            obtain ⟨bi, bv⟩ := b
            dsimp only at h1
            by_cases hle : bv ≤ x
            · rw [if_pos hle] at h1
              simp only [Option.some.injEq, Prod.mk.injEq] at h1
              obtain ⟨rfl, rfl⟩ := h1
              exact .inr ⟨0, rfl, rfl, hc⟩
            · rw [if_neg hle] at h1
              exact .inl h1
        · exact .inr ⟨j + 1, by omega, by simpa using hj, hin⟩
      · intro j a' hj hin
        cases j with
        | zero =>
          simp only [List.getElem?_cons_zero, Option.some.injEq] at hj
          subst hj
          exact hx
        | succ j =>
          simp only [List.getElem?_cons_succ] at hj
          exact h2 j a' hj (by rw [show i + 1 + j = i + (j + 1) by omega]; exact hin)
      · intro g' b hb
        subst hb
        dsimp only at h3
        by_cases hle : b ≤ x
        · omega
        · rw [if_neg hle] at h3
          exact h3 g' b rfl
    · rw [if_neg hc] at h1 h3
      refine ⟨?_, ?_, h3⟩
      · rcases h1 with h1 | ⟨j, hg, hj, hin⟩
        · exact .inl h1
        · exact .inr ⟨j + 1, by omega, by simpa using hj, hin⟩
      · intro j a' hj hin
        cases j with
        | zero => exact absurd (by simpa using hin) hc
        | succ j =>
          simp only [List.getElem?_cons_succ] at hj
          exact h2 j a' hj (by rw [show i + 1 + j = i + (j + 1) by omega]; exact hin)

theorem findMaxLast_none {set : Option (List Nat)} {as : List Nat} {i : Nat} {best : Option (Nat × Nat)}
    (h : findMaxLast set as i best = none) :
    best = none ∧ ∀ j, j < as.length → inSet set (i + j) = false := by
  induction as generalizing i best with
  | nil => exact ⟨by simpa [findMaxLast] using h, fun j hj => by simp at hj⟩
  | cons x xs ih =>
    simp only [findMaxLast] at h
    obtain ⟨h1, h2⟩ := ih h
    by_cases hc : inSet set i = true
    · rw [if_pos hc] at h1
      cases best with
      | none => simp at h1
      | some b =>
        obtain ⟨bi, bv⟩ := b
        dsimp only at h1
        split at h1 <;> simp at h1
    · rw [if_neg hc] at h1
      refine ⟨h1, fun j hj => ?_⟩
      cases j with
      | zero => simpa using hc
      | succ j =>
        rw [show i + (j + 1) = i + 1 + j by omega]
        exact h2 j (by simpa using hj)

theorem bestVal_ne_none_of_fmax {m : FMap} {fr : Nat} (hpos : 0 < fr) (hle : fr ≤ fmax m) : bestVal m fr ≠ none := by
  rcases fmax_mem m with h0 | ⟨kv, hkv, he⟩
  · omega
  · exact bestVal_ne_none_of_mem hkv (by omega)

/-- number of non-zero entries of the `amounts` vector -/
def nz (as : List Nat) : Nat := (as.filter (fun a => a != 0)).length

theorem nz_le_length (as : List Nat) : nz as ≤ as.length := List.length_filter_le _ _

theorem nz_cons (x : Nat) (xs : List Nat) : nz (x :: xs) = (if x = 0 then 0 else 1) + nz xs := by
  unfold nz
  rw [List.filter_cons]
  by_cases hx : x = 0
  · simp [hx]
  · simp [hx]; omega

theorem nz_set_zero {as : List Nat} {p a : Nat} (h : as[p]? = some a) (hpos : 0 < a) :
    nz (as.set p 0) + 1 = nz as := by
  induction as generalizing p with
  | nil => simp at h
  | cons x xs ih =>
    cases p with
    | zero =>
      simp only [List.getElem?_cons_zero, Option.some.injEq] at h
      subst h
      have : ¬ x = 0 := by omega
      simp only [List.set_cons_zero, nz_cons, this, if_false, if_true]
      omega
    | succ p =>
      simp only [List.getElem?_cons_succ] at h
      have := ih h
      simp only [List.set_cons_succ, nz_cons]
      omega

/-- the local `amounts` vector against the groups: an entry is the amount of its group, or it was zeroed, and then the
group has no free whole index left and cannot serve the fractional part still wanted -/
def AmtOk (gs : List Group) (amounts : List Nat) (fr : Nat) : Prop :=
  amounts.length = gs.length ∧ ∀ (p : Nat) (g : Group), gs[p]? = some g →
    amounts[p]? = some g.amount ∨ (amounts[p]? = some 0 ∧ g.free = [] ∧ (fr ≠ 0 → bestVal g.fracs fr = none))

def GVals (gs : List Group) : Prop := ∀ (p : Nat) (g : Group), gs[p]? = some g → ∀ kv ∈ g.fracs, kv.2 < FPU

theorem totalFreeP_drain {gs : List Group} {P : List Nat} (hnd : P.Nodup) {p : Nat} (hp : p ∈ P) {g g' : Group}
    (hg : gs[p]? = some g) (hfree : g'.free = []) :
    totalFreeP (gs.set p g') P + g.free.length = totalFreeP gs P := by
  have := sum_map_update hnd hp (f := freeLen gs) (f' := freeLen (gs.set p g')) (by
    intro q hq
    unfold freeLen
    rw [List.getElem?_set_ne (fun h => hq h.symm)])
  unfold totalFreeP
  have h1 : freeLen gs p = g.free.length := by simp [freeLen, hg]
  have h2 : freeLen (gs.set p g') p = 0 := by
    simp [freeLen, get_set_same _ hg, hfree]
  omega

theorem amount_lt_imp_len_le {g : Group} {units fr : Nat} (hfr : fr < FPU) (h : g.amount < units * FPU + fr) :
    g.free.length ≤ units := by
  unfold Group.amount at h
  rcases Nat.lt_or_ge units g.free.length with hlt | hge
  · exfalso
    have : (units + 1) * FPU ≤ g.free.length * FPU := Nat.mul_le_mul_right _ hlt
    rw [Nat.add_mul] at this
    omega
  · exact hge

theorem amount_ge_imp {g : Group} {units fr : Nat} (hmax : fmax g.fracs < FPU)
    (h : units * FPU + fr ≤ g.amount) : units < g.free.length ∨ (units = g.free.length ∧ fr ≤ fmax g.fracs) := by
  unfold Group.amount at h
  rcases Nat.lt_trichotomy units g.free.length with hlt | heq | hgt
  · exact .inl hlt
  · right
    refine ⟨heq, ?_⟩
    rw [heq] at h
    omega
  · exfalso
    have : (g.free.length + 1) * FPU ≤ units * FPU := Nat.mul_le_mul_right _ hgt
    rw [Nat.add_mul] at this
    omega

theorem bestVal_none_of_fmax_lt {m : FMap} {fr : Nat} (h : fmax m < fr) : bestVal m fr = none := by
  induction m with
  | nil => rfl
  | cons y m ih =>
    obtain ⟨k, w⟩ := y
    simp only [fmax] at h
    simp [bestVal, ih (by omega), show ¬ fr ≤ w by omega]

theorem Group.amount_pos_of_free {g : Group} (h : g.free ≠ []) : 0 < g.amount := by
  have h1 : 0 < g.free.length := List.length_pos_iff.mpr h
  have := Nat.mul_le_mul_right FPU h1
  have := FPU_pos
  unfold Group.amount
  omega

theorem AmtOk.fit {gs : List Group} {amounts : List Nat} {fr p a units : Nat} {g : Group}
    (hamt : AmtOk gs amounts fr) (hg : gs[p]? = some g) (ha : amounts[p]? = some a) (hmax : fmax g.fracs < FPU)
    (hle : units * FPU + fr ≤ a) :
    units ≤ g.free.length ∧ (fr = 0 ∨ units < g.free.length ∨ bestVal g.fracs fr ≠ none) := by
  rcases hamt.2 p g hg with ha' | ⟨ha', -, -⟩
  · obtain rfl : g.amount = a := Option.some.inj (ha'.symm.trans ha)
    rcases amount_ge_imp hmax hle with h1 | ⟨h1, h2⟩
    · exact ⟨Nat.le_of_lt h1, .inr (.inl h1)⟩
    · refine ⟨Nat.le_of_eq h1, ?_⟩
      rcases Nat.eq_zero_or_pos fr with hz | hpos
      · exact .inl hz
      · exact .inr (.inr (bestVal_ne_none_of_fmax hpos h2))
  · obtain rfl : 0 = a := Option.some.inj (ha'.symm.trans ha)
    have hu : units * FPU = 0 := by omega
    rcases Nat.mul_eq_zero.mp hu with hu | hu
    · exact ⟨by omega, .inl (by omega)⟩
    · exact absurd hu (Nat.ne_of_gt FPU_pos)

theorem AmtOk.exists_pos {gs : List Group} {amounts S : List Nat} {fr units : Nat} (hamt : AmtOk gs amounts fr)
    (hok : ScatterOk gs S units fr) (hpos : 0 < units * FPU + fr) :
    ∃ p ∈ S, ∃ a, amounts[p]? = some a ∧ 0 < a := by
  have hfree : 0 < totalFreeP gs S → ∃ p ∈ S, ∃ a, amounts[p]? = some a ∧ 0 < a := by
    intro ht
    obtain ⟨p, hp, g, hg, hne⟩ := pos_of_totalFree ht
    rcases hamt.2 p g hg with ha | ⟨-, hf, -⟩
    · exact ⟨p, hp, _, ha, g.amount_pos_of_free hne⟩
    · exact absurd hf hne
  rcases Nat.eq_zero_or_pos units with hu | hu
  · have hfrpos : 0 < fr := by rw [hu] at hpos; omega
    rcases hok.2 with h | h | ⟨p, hp, g, hg, hb⟩
    · omega
    · exact hfree (by omega)
    · rcases hamt.2 p g hg with ha | ⟨-, -, hbn⟩
      · refine ⟨p, hp, _, ha, ?_⟩
        have : fr ≤ fmax g.fracs := Nat.le_of_not_lt fun hlt => hb (bestVal_none_of_fmax_lt hlt)
        unfold Group.amount
        omega
      · exact absurd (hbn (by omega)) hb
  · exact hfree (by have := hok.1; omega)

theorem tryTakeFrac_vals {gid fr : Nat} {pick : Option Nat} {g g2 : Group} {acc acc2 : List AIdx} {b : Bool}
    (h : tryTakeFrac gid fr pick g acc = .ok (g2, acc2, b)) (hv : ∀ kv ∈ g.fracs, kv.2 < FPU) :
    ∀ kv ∈ g2.fracs, kv.2 < FPU := by
  rcases tryTakeFrac_cases h with ⟨-, rfl, -⟩ | ⟨-, -, i, f, hget, hle, rfl, -⟩
  · exact hv
  · intro kv hkv
    rcases mem_fset hkv with h | h
    · have := hv (i, f) (mem_of_fget hget)
      simp only at this
      omega
    · exact hv kv h

theorem AmtOk.drain {gs : List Group} {amounts : List Nat} {fr fr' p : Nat} {g2 : Group}
    (hamt : AmtOk gs amounts fr) (hp : p < gs.length) (hfree : g2.free = [])
    (hfr : fr' ≠ 0 → fr' = fr ∧ bestVal g2.fracs fr = none) : AmtOk (gs.set p g2) (amounts.set p 0) fr' := by
  refine ⟨by simp [hamt.1], fun q g' hg' => ?_⟩
  rcases getElem?_set_cases hg' with ⟨rfl, rfl⟩ | ⟨hq, hg'⟩
  · rw [List.getElem?_set_self (hamt.1 ▸ hp)]
    exact .inr ⟨rfl, hfree, fun hne => by obtain ⟨rfl, h⟩ := hfr hne; exact h⟩
  · rw [List.getElem?_set_ne (Ne.symm hq)]
    rcases hamt.2 q g' hg' with ha | ⟨ha, hf, hbn⟩
    · exact .inl ha
    · exact .inr ⟨ha, hf, fun hne => by obtain ⟨rfl, -⟩ := hfr hne; exact hbn hne⟩

theorem tightLoop_nostop (S : List Nat) (pick : Option Nat) :
    ∀ (fuel : Nat) (gs : List Group) (amounts : List Nat) (units fr : Nat) (acc : List AIdx) (fidx : Option Nat),
      fr < FPU → AmtOk gs amounts fr → GVals gs → (∀ p ∈ S, p < gs.length) → S.Nodup → S ≠ [] →
      ScatterOk gs S units fr → nz amounts + 1 ≤ fuel →
      NoStop (tightLoop (some S) pick fuel gs amounts (units * FPU + fr) acc fidx) := by
  intro fuel
  induction fuel with
  | zero => intro gs amounts units fr acc fidx _ _ _ _ _ _ _ hfuel; omega
  | succ fuel ih =>
    intro gs amounts units fr acc fidx hfr hamt hvals hS hnd hne hok hfuel
    obtain ⟨hdiv, hmod⟩ := div_mod_FPU units fr hfr
    simp only [tightLoop, hdiv, hmod]
    cases hfit : findMinFit (some S) (units * FPU + fr) amounts 0 none with
    | some ga =>
      -- a group that contains the rest: whole indices, then the fraction, and the loop ends
      obtain ⟨gidx, a⟩ := ga
      dsimp only
      rcases findMinFit_some hfit with h0 | ⟨j, hj0, hj, hle, hin⟩
      · cases h0
      · obtain rfl : gidx = j := by omega
        obtain ⟨g, hg⟩ := exists_get (hamt.1 ▸ lt_length_of_getElem? hj : gidx < gs.length)
        obtain ⟨hu, hhas⟩ := hamt.fit hg hj (fmax_of_forall (P := (· < FPU)) FPU_pos (hvals gidx g hg)) hle
        obtain ⟨g1, acc1, h1, h2⟩ := take_nostop gidx pick acc hu hhas
        simp only [hg, h1]
        intro er herr
        split at herr
        · rename_i er' h2'
          simp only [Except.error.injEq] at herr
          subst herr
          exact h2 _ h2'
        · cases herr
    | none =>
      dsimp only
      obtain ⟨-, hnofit⟩ := findMinFit_none hfit
      cases hmaxr : findMaxLast (some S) amounts 0 none with
      | none =>
        -- impossible: the set has an element, and it is in range
        exfalso
        obtain ⟨-, hall⟩ := findMaxLast_none hmaxr
        obtain ⟨p, hp⟩ := List.exists_mem_of_ne_nil S hne
        have := hall p (by rw [hamt.1]; exact hS p hp)
        simp [inSet, hp] at this
      | some ga =>
        -- the largest group of the set is drained
        obtain ⟨gidx, a⟩ := ga
        dsimp only
        obtain ⟨hsel, hmaxall, -⟩ := findMaxLast_some hmaxr
        rcases hsel with h0 | ⟨j, hj0, hj, hin⟩
        · cases h0
        · obtain rfl : gidx = j := by omega
          have hinS : gidx ∈ S := by simpa [inSet] using hin
          have hlt : gidx < gs.length := hS gidx hinS
          obtain ⟨g, hg⟩ := exists_get hlt
          simp only [hg]
          have halt : a < units * FPU + fr := hnofit gidx a hj (by simpa using hin)
          -- it is no larger than what is still wanted
          have hsize : g.free.length ≤ units := by
            rcases hamt.2 gidx g hg with ha | ⟨-, hfree, -⟩
            · obtain rfl : g.amount = a := Option.some.inj (ha.symm.trans hj)
              exact amount_lt_imp_len_le hfr halt
            · rw [hfree]; exact Nat.zero_le _
          rw [if_neg (Nat.not_lt.mpr hsize)]
          obtain ⟨g1, acc1, h1, hf1, hl1⟩ := takeIndices_ok gidx g.free.length g acc (Nat.le_refl _)
          rw [h1]
          dsimp only
          have hg1free : g1.free = [] := List.eq_nil_of_length_eq_zero (by omega)
          -- its amount is positive, so the measure decreases
          have hnz : nz (amounts.set gidx 0) + 1 ≤ fuel := by
            obtain ⟨p, hp, a', hpa, hpos'⟩ := hamt.exists_pos hok (Nat.zero_lt_of_lt halt)
            have := hmaxall p a' (by simpa using hpa) (by simp [inSet, hp])
            have := nz_set_zero hj (by omega : 0 < a)
            omega
          cases htf : tryTakeFrac gidx fr pick g1 acc1 with
          | error er =>
            dsimp only
            intro er' herr
            simp only [Except.error.injEq] at herr
            subst herr
            exact tryTakeFrac_nostop _ _ _ _ _ _ htf
          | ok v =>
            obtain ⟨g2, acc2, b⟩ := v
            have hg2free : g2.free = [] := by
              rcases tryTakeFrac_cases htf with ⟨-, rfl, -⟩ | ⟨-, -, _, _, -, -, rfl, -⟩ <;> exact hg1free
            have hS' : ∀ p ∈ S, p < (gs.set gidx g2).length := by rw [List.length_set]; exact hS
            have htot := totalFreeP_drain hnd hinS hg hg2free
            have hu' : units - g.free.length ≤ totalFreeP (gs.set gidx g2) S :=
              Nat.sub_le_of_le_add (by rw [htot]; exact hok.1)
            have hvals' : GVals (gs.set gidx g2) :=
              forall_getElem?_set hvals (tryTakeFrac_vals htf (hf1 ▸ hvals gidx g hg))
            cases b with
            | true =>
              dsimp only
              have := ih (gs.set gidx g2) (amounts.set gidx 0) (units - g.free.length) 0 acc2
                (some (acc2.length - 1)) FPU_pos (hamt.drain hlt hg2free (fun h => absurd rfl h)) hvals' hS' hnd hne
                ⟨hu', .inl rfl⟩ hnz
              simpa using this
            | false =>
              dsimp only
              obtain ⟨-, rfl, -, hbn⟩ := (tryTakeFrac_cases htf).resolve_right (fun h => by cases h.1)
              apply ih (gs.set gidx g2) (amounts.set gidx 0) (units - g.free.length) fr acc2 fidx hfr
                (hamt.drain hlt hg2free (fun hne' => ⟨rfl, hbn hne'⟩)) hvals' hS' hnd hne _ hnz
              refine ⟨hu', ?_⟩
              rcases hok.2 with h | h | ⟨p, hp, g', hg', hb⟩
              · exact .inl h
              · exact .inr (.inl (Nat.sub_lt_right_of_lt_add hsize (by rw [htot]; exact h)))
              · rcases Nat.eq_zero_or_pos fr with hz | hfrpos
                · exact .inl hz
                · right; right
                  have hpne : p ≠ gidx := by
                    rintro rfl
                    obtain rfl : g = g' := Option.some.inj (hg.symm.trans hg')
                    exact hb (hf1 ▸ hbn (by omega))
                  exact ⟨p, hp, g', by rw [List.getElem?_set_ne (fun h => hpne h.symm)]; exact hg', hb⟩

theorem claimTight_nostop {amount : Nat} {gs : List Group} {S : List Nat} {pick : Option Nat}
    (hpos : 0 < amount) (hvals : GVals gs) (hS : ∀ p ∈ S, p < gs.length) (hnd : S.Nodup)
    (hok : ScatterOk gs S (amount / FPU) (amount % FPU)) : NoStop (claimTight amount gs (some S) pick) := by
  have hne : S ≠ [] := by
    intro hnil
    subst hnil
    obtain ⟨hu, hf⟩ := hok.nil
    have := Nat.div_add_mod amount FPU
    rw [hu, hf] at this
    omega
  have hamt : AmtOk gs (gs.map Group.amount) (amount % FPU) :=
    ⟨by simp, fun p g hg => .inl (by simp [hg])⟩
  have hloop := tightLoop_nostop S pick (gs.length + 2) gs (gs.map Group.amount) (amount / FPU) (amount % FPU) []
    none (Nat.mod_lt _ FPU_pos) hamt hvals hS hnd hne hok (by
      have := nz_le_length (gs.map Group.amount)
      simp at this
      omega)
  have harith : amount / FPU * FPU + amount % FPU = amount := by
    have := Nat.div_add_mod amount FPU
    rw [Nat.mul_comm] at this
    exact this
  rw [harith] at hloop
  intro er herr
  unfold claimTight at herr
  split at herr
  · rename_i er' hl
    simp only [Except.error.injEq] at herr
    subst herr
    exact hloop _ hl
  · cases herr
  · cases herr

end HqModel.Alloc
