import HqModel.Lemmas.SysWPipeOk
import HqModel.Lemmas.SysLock
import HqModel.Lemmas.CoreSchedItems
import HqModel.Lemmas.CoreDescOps
/-!
Frame facts about the core model (M1) for the composition with the workers: what a reactor / scheduler function may do to
the PLACE of a task (the worker that owns it and in which capacity). `FrW m s s'`: every task / worker record of `s'`
descends from one of `s` by rewrites that the mode `m` allows; it is `GFr` (`Lemmas/CoreDesc.lean`) for the preorders
`TRelW m` / `WRelW m.sch` (`FrW.toG`, `GFr.frw`), so an operation is framed by `m` as soon as the rewrites of its record
descent (`Lemmas/CoreDescOps.lean`) lie in them (`Desc.frw`). The first part of `on_remove_worker` needs more than its
descent — that a task listed in the lost worker's record is at that worker (`Inv`) — so its loops are followed step by step
(`lostPrefilled_frw`, `lostAssigned_frw`).
-/
namespace HqModel.Core

/-- the task stays where it is: Running stays Running, Assigned stays Assigned (same variant), Prefilled stays Prefilled
or becomes Retracting, Retracting stays, RunningMultiNode keeps its root -/
def stays (a b : TS) : Prop :=
  match a with
  | .running w v => b = .running w v
  | .assigned w v => b = .assigned w v
  | .prefilled w => b = .prefilled w ∨ b = .retracting w
  | .retracting w => b = .retracting w
  | .runningMN (w :: _) => ∃ l', b = .runningMN (w :: l')
  | _ => True

theorem stays.refl (a : TS) : stays a a := by
  cases a with
  | runningMN l => cases l <;> simp [stays]
  | _ => simp [stays]

theorem stays.owner {a b : TS} {x : Nat} (h : stays a b) (ho : owner a = some x) : owner b = some x := by
  cases a with
  | runningMN l =>
    cases l with
    | nil => cases ho
    | cons y ys => obtain ⟨l', rfl⟩ := h; exact ho
  | prefilled w => rcases h with rfl | rfl <;> exact ho
  | waiting n => cases ho
  | finished => cases ho
  | assigned w v => cases h; exact ho
  | retracting w => cases h; exact ho
  | running w v => cases h; exact ho

theorem stays.trans {a b c : TS} (h1 : stays a b) (h2 : stays b c) : stays a c := by
  cases a with
  | runningMN l =>
    cases l with
    | nil => trivial
    | cons y ys => obtain ⟨l', rfl⟩ := h1; exact h2
  | prefilled w =>
    rcases h1 with rfl | rfl
    · exact h2
    · exact .inr h2
  | waiting n => trivial
  | finished => trivial
  | assigned w v => cases h1; exact h2
  | retracting w => cases h1; exact h2
  | running w v => cases h1; exact h2

/-- how the state of ONE task record may change (`a` old, `b` new): (`keep`) if its owner (`owner`,
`Lemmas/CoreSchedItems.lean`) does not release it (`rel`), it keeps its place; (`own`) unless the task may be acquired
(`acq`), a new owner is the old owner -/
structure SOk (rel : Nat → Prop) (acq : Prop) (a b : TS) : Prop where
  keep : ∀ x, owner a = some x → ¬ rel x → stays a b
  own : ¬ acq → ∀ y, owner b = some y → owner a = some y

theorem SOk.refl (rel : Nat → Prop) (acq : Prop) (a : TS) : SOk rel acq a a :=
  ⟨fun _ _ _ => stays.refl a, fun _ _ h => h⟩

theorem SOk.trans {rel : Nat → Prop} {acq : Prop} {a b c : TS} (h1 : SOk rel acq a b) (h2 : SOk rel acq b c) :
    SOk rel acq a c :=
  ⟨fun x ho hr => (h1.keep x ho hr).trans (h2.keep x ((h1.keep x ho hr).owner ho) hr),
   fun ha y ho => h1.own ha y (h2.own ha y ho)⟩

theorem SOk.mono {rel rel' : Nat → Prop} {acq acq' : Prop} {a b : TS} (h : SOk rel acq a b)
    (hr : ∀ x, rel x → rel' x) (ha : acq → acq') : SOk rel' acq' a b :=
  ⟨fun x ho hn => h.keep x ho (fun e => hn (hr x e)), fun hn => h.own (fun e => hn (ha e))⟩

theorem SOk.free {rel : Nat → Prop} {acq : Prop} {a b : TS} (hr : ∀ x, owner a = some x → rel x) (ha : acq) :
    SOk rel acq a b :=
  ⟨fun x ho hn => (hn (hr x ho)).elim, fun hn => (hn ha).elim⟩

theorem SOk.of_keep {rel : Nat → Prop} {acq : Prop} {a b : TS} (hk : stays a b) (ho : owner b = owner a) :
    SOk rel acq a b :=
  ⟨fun _ _ _ => hk, fun _ _ h => ho ▸ h⟩

theorem SOk.release {rel : Nat → Prop} {acq : Prop} {a b : TS} (hr : ∀ x, owner a = some x → rel x)
    (hb : owner b = none) : SOk rel acq a b :=
  ⟨fun x ho hn => (hn (hr x ho)).elim, fun _ y h => by rw [hb] at h; cases h⟩

structure Mode where
  /-- worker `x` gives up task `id` in this operation -/
  rel : Nat → TaskId → Prop := fun _ _ => False
  /-- task `id` may get a new owner in this operation -/
  acq : TaskId → Prop := fun _ => False
  /-- a scheduling round -/
  sch : Prop := False

def Mode.le (m m' : Mode) : Prop := (∀ x id, m.rel x id → m'.rel x id) ∧ (∀ id, m.acq id → m'.acq id) ∧ (m.sch → m'.sch)

/-- no task is released or acquired, the `started` flags are kept: `retract`, `on_cancel_tasks`, `task_failed`, the crash
loop -/
def calm : Mode := {}

theorem calm_le (m : Mode) : calm.le m := ⟨fun _ _ h => h.elim, fun _ h => h.elim, fun h => h.elim⟩

structure TRelW (m : Mode) (t t' : Task) : Prop where
  id : t'.id = t.id
  st : SOk (fun x => m.rel x t.id) (m.acq t.id) t.state t'.state

theorem TRelW.refl (m : Mode) (t : Task) : TRelW m t t := ⟨rfl, SOk.refl _ _ _⟩

theorem TRelW.trans {m : Mode} {a b c : Task} (h1 : TRelW m a b) (h2 : TRelW m b c) : TRelW m a c :=
  ⟨h2.id.trans h1.id, h1.st.trans (h1.id ▸ h2.st)⟩

theorem TRelW.mono {m m' : Mode} (hm : m.le m') {a b : Task} (h : TRelW m a b) : TRelW m' a b :=
  ⟨h.id, h.st.mono (fun x => hm.1 x _) (hm.2.1 _)⟩

def TFrW (m : Mode) (ts ts' : List Task) : Prop := ∀ t' ∈ ts', ∃ t ∈ ts, TRelW m t t'

/-- a worker record: a multi-node assignment of `w'` is the one of `w` and the `started` flag is not reset — or (`sch`, a
scheduling round) `w` had a single-node assignment -/
structure WRelW (sch : Prop) (w w' : Worker) : Prop where
  id : w'.id = w.id
  mn : ∀ t r f', w'.assign = .mn t r f' →
    (∃ f'', w.assign = .mn t r f'' ∧ (f'' = true → f' = true)) ∨ (sch ∧ ∃ A F P, w.assign = .sn A F P)
  sn : sch → ∀ A F P, w'.assign = .sn A F P → ∃ A' F' P', w.assign = .sn A' F' P'

theorem WRelW.refl (sch : Prop) (w : Worker) : WRelW sch w w :=
  ⟨rfl, fun _ _ f' h => .inl ⟨f', h, fun e => e⟩, fun _ A F P h => ⟨A, F, P, h⟩⟩

theorem WRelW.trans {sch : Prop} {a b c : Worker} (h1 : WRelW sch a b) (h2 : WRelW sch b c) : WRelW sch a c := by
  refine ⟨h2.id.trans h1.id, fun t r f' hc => ?_, fun hs A F P hc => ?_⟩
  · rcases h2.mn t r f' hc with ⟨f'', hb, hf⟩ | ⟨hs, A, F, P, hb⟩
    · rcases h1.mn t r f'' hb with ⟨f3, ha, hf3⟩ | hx
      · exact .inl ⟨f3, ha, fun e => hf (hf3 e)⟩
      · exact .inr hx
    · obtain ⟨A', F', P', ha⟩ := h1.sn hs A F P hb
      exact .inr ⟨hs, A', F', P', ha⟩
  · obtain ⟨A', F', P', hb⟩ := h2.sn hs A F P hc
    exact h1.sn hs A' F' P' hb

theorem WRelW.mono {sch sch' : Prop} (hs : sch → sch') {a b : Worker} (h : WRelW sch a b) (hsn : sch' → sch) :
    WRelW sch' a b :=
  ⟨h.id, fun t r f' hb => (h.mn t r f' hb).imp (fun x => x) (fun ⟨x, y⟩ => ⟨hs x, y⟩), fun e => h.sn (hsn e)⟩

def WFrW (sch : Prop) (ws ws' : List Worker) : Prop :=
  ∀ x wk', findWorker ws' x = some wk' → ∃ wk, findWorker ws x = some wk ∧ WRelW sch wk wk'

structure FrW (m : Mode) (s s' : State) : Prop where
  t : TFrW m s.tasks s'.tasks
  w : WFrW m.sch s.workers s'.workers

theorem FrW.toG {m : Mode} {s s' : State} (h : FrW m s s') : GFr (TRelW m) (WRelW m.sch) s s' := ⟨h.t, h.w⟩

theorem GFr.frw {m : Mode} {s s' : State} (g : GFr (TRelW m) (WRelW m.sch) s s') : FrW m s s' := ⟨g.t, g.w⟩

theorem FrW.refl (m : Mode) (s : State) : FrW m s s := (GFr.refl (TRelW.refl m) (WRelW.refl _) s).frw

theorem FrW.trans {m : Mode} {a b c : State} (h1 : FrW m a b) (h2 : FrW m b c) : FrW m a c :=
  (GFr.trans (RT := TRelW m) (RW := WRelW m.sch) TRelW.trans WRelW.trans h1.toG h2.toG).frw

/-- a mode with the same `sch` flag and more releases / acquisitions -/
theorem FrW.mono {m m' : Mode} (hm : m.le m') (hs : m'.sch → m.sch) {a b : State} (h : FrW m a b) : FrW m' a b :=
  (h.toG.mono (TRelW.mono hm) (fun r => r.mono hm.2.2 hs)).frw

theorem FrW.of_eq {m : Mode} {s s' : State} (ht : s'.tasks = s.tasks) (hw : s'.workers = s.workers) : FrW m s s' :=
  (GFr.of_eq (TRelW.refl m) (WRelW.refl _) ht hw).frw

theorem CoreEq.frw {m : Mode} {s s' : State} (h : CoreEq s s') : FrW m s s' := FrW.of_eq h.t h.w

theorem FrW.setState {m : Mode} {s : State} {task t' : Task} {id : TaskId} (hf : s.task? id = some task)
    (hid : t'.id = task.id) (hs : SOk (fun x => m.rel x task.id) (m.acq task.id) task.state t'.state) :
    FrW m s (s.setTask t') :=
  (GFr.setTask (TRelW.refl m) (WRelW.refl _) (told := task) (by rw [hid, findTask_some_id hf]; exact hf) ⟨hid, hs⟩).frw

theorem FrW.setSame {m : Mode} {s : State} {task t' : Task} {id : TaskId} (hf : s.task? id = some task)
    (hid : t'.id = task.id) (hs : t'.state = task.state) : FrW m s (s.setTask t') :=
  FrW.setState hf hid (hs ▸ SOk.refl _ _ _)

theorem WRelW.of_sn {sch : Prop} {wk wk' : Worker} (hid : wk'.id = wk.id) (h0 : ∃ A F P, wk.assign = .sn A F P)
    (h1 : ∃ A F P, wk'.assign = .sn A F P) : WRelW sch wk wk' := by
  obtain ⟨A, F, P, h1⟩ := h1
  exact ⟨hid, fun t r f' e => (by rw [h1] at e; cases e), fun _ _ _ _ _ => h0⟩

theorem WRelW.emptySn (wk : Worker) : WRelW False wk wk.emptySn :=
  ⟨rfl, fun _ _ _ e => (by cases e), fun e => e.elim⟩

theorem WRelW.of_same {sch : Prop} {wk wk' : Worker} (hid : wk'.id = wk.id) (ha : wk'.assign = wk.assign) :
    WRelW sch wk wk' :=
  ⟨hid, fun _ _ f' e => .inl ⟨f', ha ▸ e, fun x => x⟩, fun _ A F P e => ⟨A, F, P, ha ▸ e⟩⟩

abbrev Frq (s s' : State) : Prop := FrW calm s s'

theorem Frq.refl (s : State) : Frq s s := FrW.refl _ _
theorem Frq.ask (s : State) : Frq s (ask s) := FrW.of_eq rfl rfl

theorem TCalm.trelW {m : Mode} {t t' : Task} (h : TCalm t t') : TRelW m t t' := by
  cases h with
  | retract hs => exact ⟨rfl, .of_keep (by rw [hs]; exact .inr rfl) (by rw [hs]; rfl)⟩
  | unconsume hc => exact ⟨rfl, .refl _ _ _⟩
  | wake hs => exact ⟨rfl, .of_keep (by rw [hs]; trivial) (by rw [hs]; rfl)⟩

theorem TOwn.trelW {run : Prop} {o : TaskId → Prop} {m : Mode} (hr : ∀ x id, o id → m.rel x id) (ha : ∀ id, o id → m.acq id)
    {t t' : Task} (h : TOwn run o t t') : TRelW m t t' := by
  cases h with
  | calm h => exact h.trelW
  | own ho _ _ => exact ⟨rfl, .free (fun x _ => hr x _ ho) (ha _ ho)⟩
  | start _ ho _ _ => exact ⟨rfl, .free (fun x _ => hr x _ ho) (ha _ ho)⟩

theorem WCalm.wrelW {wk wk' : Worker} (h : WCalm wk wk') : WRelW False wk wk' := by
  cases h with
  | removeSn t r ha => exact .of_sn rfl ⟨_, _, _, ha⟩ ⟨_, _, _, rfl⟩
  | removePrefill t ha => exact .of_sn rfl ⟨_, _, _, ha⟩ ⟨_, _, _, rfl⟩
  | reset => exact .emptySn _
  | blocked b => exact .of_same rfl rfl

/-- `task_running` sets the `started` flag, never resets it -/
theorem WOwn.wrelW {wk wk' : Worker} (h : WOwn wk wk') : WRelW False wk wk' := by
  cases h with
  | calm h => exact h.wrelW
  | insertSn t r ha => exact .of_sn rfl ⟨_, _, _, ha⟩ ⟨_, _, _, rfl⟩
  | start t r ha => exact .of_sn rfl ⟨_, _, _, ha⟩ ⟨_, _, _, rfl⟩
  | started ha => exact ⟨rfl, fun _ _ _ e => by cases e; exact .inl ⟨_, ha, fun _ => rfl⟩, fun e => e.elim⟩

theorem Desc.frw {RT : Task → Task → Prop} {RW : Worker → Worker → Prop} {er : Prop} {m : Mode} {s s' : State}
    (h : Desc RT RW er s s') (ti : ∀ {t t'}, RT t t' → TRelW m t t') (wi : ∀ {w w'}, RW w w' → WRelW m.sch w w') :
    FrW m s s' :=
  (h.lift (TRelW.refl m) TRelW.trans ti (WRelW.refl m.sch) WRelW.trans wi).frw

theorem Desc.frq {er : Prop} {s s' : State} (h : Desc TCalm WCalm er s s') : Frq s s' :=
  h.frw TCalm.trelW WCalm.wrelW

theorem retract_frq {s s' : State} {l : List TaskId} {o : Out} (h : s.retract l = .ok (s', o)) : Frq s s' :=
  (retract_desc (er := False) h).frq

theorem cancelTasks_frq {s s' : State} {ids : List TaskId} {o : Out} (h : s.cancelTasks ids = .ok (s', o)) :
    Frq s s' :=
  (cancelTasks_desc h).frq

/-- the reported task `t0` is released by everybody and may be acquired (its own transition: `Lemmas/SysWUpdate.lean`),
every other task is calm; `ownL ids`: the same for the ids of a retract response -/
def ownM (t0 : TaskId) : Mode := { rel := fun _ id => id = t0, acq := fun id => id = t0 }
def ownL (ids : List TaskId) : Mode := { rel := fun _ id => id ∈ ids, acq := fun id => id ∈ ids }
/-- worker `w` releases everything, nothing is acquired (the first part of `on_remove_worker`); `lostA w`: … and tasks may
be acquired (`lostRetracting`: redirect targets) -/
def lostM (w : Nat) : Mode := { rel := fun x _ => x = w }
def lostA (w : Nat) : Mode := { rel := fun x _ => x = w, acq := fun _ => True }

theorem Frq.to {m : Mode} (hs : m.sch → False) {s s' : State} (h : Frq s s') : FrW m s s' :=
  FrW.mono (calm_le m) hs h

theorem Frq.ownL {ids : List TaskId} {s s' : State} (h : Frq s s') : FrW (ownL ids) s s' := h.to (fun e => e)
theorem Frq.lost {w : Nat} {s s' : State} (h : Frq s s') : FrW (lostM w) s s' := h.to (fun e => e)
theorem Frq.lostA {w : Nat} {s s' : State} (h : Frq s s') : FrW (lostA w) s s' := h.to (fun e => e)
theorem FrW.lostA {w : Nat} {s s' : State} (h : FrW (lostM w) s s') : FrW (Core.lostA w) s s' :=
  FrW.mono (show (lostM w).le (Core.lostA w) from ⟨fun _ _ e => e, fun _ e => False.elim e, fun e => e⟩) (fun e => e) h

theorem TOwn.ownM {run : Prop} {id : TaskId} {t t' : Task} (h : TOwn run (· = id) t t') : TRelW (ownM id) t t' :=
  h.trelW (fun _ _ e => e) (fun _ e => e)

theorem taskFailed_frq {s s' : State} {worker : Option Nat} {id : TaskId} {ret : List TaskId} {o : Out}
    (h : s.taskFailed worker id ret = .ok (s', o)) : Frq s s' :=
  (taskFailed_desc h).frq

theorem taskFinished_frw {s s' : State} {w : Nat} {id : TaskId} {o : Out} {b : Bool}
    (h : s.taskFinished w id = .ok (s', o, b)) : FrW (ownM id) s s' :=
  (taskFinished_desc h).frw TOwn.ownM WCalm.wrelW

theorem requestEnabled_frq {s s' : State} {w rq rv : Nat} (h : s.requestEnabled w rq rv = .ok s') : Frq s s' :=
  (requestEnabled_desc (er := False) h).frq

theorem taskReject_frw {s s' : State} {w : Nat} {id : TaskId} {rv : Option Nat} {o : Out} {b : Bool}
    (h : s.taskReject w id rv = .ok (s', o, b)) : FrW (ownM id) s s' :=
  (taskReject_desc h).frw TOwn.ownM WCalm.wrelW

theorem taskRunning_frw {s s' : State} {w : Nat} {id : TaskId} {rv : Nat} {o : Out}
    (h : s.taskRunning w id rv = .ok (s', o)) : FrW (ownM id) s s' :=
  (taskRunning_desc h).frw TOwn.ownM WOwn.wrelW

theorem retractResponse_frw {s s' : State} {w : Nat} {ids : List TaskId} {o : Out}
    (h : s.retractResponse w ids = .ok (s', o)) : FrW (ownL ids) s s' :=
  (retractResponse_desc h).frw (TOwn.trelW (m := ownL ids) (fun _ _ e => e) (fun _ e => e)) WCalm.wrelW

/-- the task (if known) is at `w` or ownerless -/
def AtW (w : Nat) (s : State) (id : TaskId) : Prop :=
  ∀ task, findTask s.tasks id = some task → owner task.state = some w ∨ owner task.state = none

/-- the task (if known) is at `w`, ownerless, or Retracting (from any worker) -/
def AtOr (w : Nat) (s : State) (id : TaskId) : Prop :=
  ∀ task, findTask s.tasks id = some task →
    owner task.state = some w ∨ owner task.state = none ∨ ∃ x, task.state = .retracting x

theorem AtW.atOr {w : Nat} {s : State} {id : TaskId} (h : AtW w s id) : AtOr w s id :=
  fun task hf => (h task hf).imp (fun x => x) .inl

theorem at_of_step {P : TS → Prop} {s s2 : State} {t' : Task} (h2 : s2.tasks = putTask s.tasks t') (hs : P t'.state)
    {x : TaskId} (hx : ∀ task, findTask s.tasks x = some task → P task.state) :
    ∀ task, findTask s2.tasks x = some task → P task.state := by
  intro task hf
  rw [h2, findTask_putTask] at hf
  split at hf
  · cases hfx : findTask s.tasks x with
    | none => rw [hfx] at hf; cases hf
    | some y =>
      rw [hfx] at hf
      simp only [Option.map_some, Option.some.injEq] at hf
      rw [← hf]; exact hs
  · exact hx task hf

theorem AtOr.of_step {w : Nat} {s s2 : State} {t' : Task} (h2 : s2.tasks = putTask s.tasks t')
    (hs : owner t'.state = none ∨ ∃ x, t'.state = .retracting x) : ∀ x, AtOr w s x → AtOr w s2 x :=
  fun _ hx => at_of_step (P := fun st => owner st = some w ∨ owner st = none ∨ ∃ x, st = .retracting x) h2 (.inr hs) hx

theorem AtW.of_step {w : Nat} {s s2 : State} {t' : Task} (h2 : s2.tasks = putTask s.tasks t')
    (hs : owner t'.state = none) : ∀ x, AtW w s x → AtW w s2 x :=
  fun _ hx => at_of_step (P := fun st => owner st = some w ∨ owner st = none) h2 (.inr hs) hx

theorem sok_lost_release {w : Nat} {id : TaskId} {a b : TS} (ha : owner a = some w ∨ owner a = none)
    (hb : owner b = none) : SOk (fun x => (lostM w).rel x id) ((lostM w).acq id) a b := by
  refine SOk.release (fun x hx => ?_) hb
  rcases ha with e | e
  · rw [e] at hx; cases hx; rfl
  · rw [e] at hx; cases hx

theorem Requeued.frw {m : Mode} {s s2 : State} {t' task : Task} {r : List TaskId} {id : TaskId} (h : Requeued s t' s2 r)
    (ht : s.task? id = some task) (hid : t'.id = task.id)
    (hs : SOk (fun x => m.rel x task.id) (m.acq task.id) task.state t'.state) : FrW m s s2 :=
  (FrW.setState ht hid hs).trans (addReady_core h).frw

theorem lostPrefilled_frw {w : Nat} {ids : List TaskId} {s s' : State} (hp : ∀ id ∈ ids, AtW w s id)
    (h : s.lostPrefilled ids = .ok s') : FrW (lostM w) s s' ∧ ∀ x, AtOr w s x → AtOr w s' x := by
  induction ids generalizing s with
  | nil => simp only [State.lostPrefilled] at h; cases h; exact ⟨FrW.refl _ _, fun _ h => h⟩
  | cons id rest ih =>
    obtain ⟨task, s2, ht, hm, h2⟩ := lostPrefilled_cons_ok h
    have f1 : FrW (lostM w) s (s.setTask { task with inst := task.inst + 1, state := .waiting 0 }) :=
      FrW.setState ht rfl (sok_lost_release (hp id List.mem_cons_self task ht) rfl)
    have e2 : s2.tasks = putTask s.tasks { task with inst := task.inst + 1, state := .waiting 0 } :=
      movePrefilledToReady_tasks hm
    obtain ⟨a, b⟩ := ih (fun x hx => AtW.of_step e2 rfl x (hp x (List.mem_cons_of_mem _ hx))) h2
    exact ⟨(f1.trans (movePrefilledToReady_core hm).frw).trans a, fun x hx => b x (AtOr.of_step e2 (.inl rfl) x hx)⟩

theorem lostAssigned_frw {w : Nat} {ids : List TaskId} {s s' : State} {ru ru' re re' : List TaskId}
    (hp : ∀ id ∈ ids, AtOr w s id) (h : s.lostAssigned ids ru re = .ok (s', ru', re')) : FrW (lostM w) s s' := by
  induction ids generalizing s ru re with
  | nil => simp only [State.lostAssigned] at h; cases h; exact FrW.refl _ _
  | cons id rest ih =>
    obtain ⟨task, s0, t', ru0, s2, r, ht, hc, hq, h2⟩ := lostAssigned_cons_ok h
    have hat := hp id List.mem_cons_self task ht
    -- the record written back is ownerless or still Retracting (then only its redirect went)
    have step : s0.tasks = s.tasks ∧ s0.workers = s.workers ∧ t'.id = task.id ∧
        SOk (fun x => (lostM w).rel x task.id) ((lostM w).acq task.id) task.state t'.state ∧
        (owner t'.state = none ∨ ∃ x, t'.state = .retracting x) := by
      cases hc with
      | running hs =>
        refine ⟨rfl, rfl, rfl, sok_lost_release ?_ rfl, .inl rfl⟩
        rcases hat with e | e | ⟨y, e⟩
        · exact .inl e
        · exact .inr e
        · rw [hs] at e; cases e
      | retracting hs => exact ⟨rfl, rfl, rfl, SOk.refl _ _ _, .inr ⟨_, hs⟩⟩
      | other _ hnt =>
        refine ⟨rfl, rfl, rfl, sok_lost_release ?_ rfl, .inl rfl⟩
        rcases hat with e | e | ⟨y, e⟩
        · exact .inl e
        · exact .inr e
        · exact (hnt y e).elim
    obtain ⟨e0, ew, hid, hs, hown⟩ := step
    have f1 : FrW (lostM w) s s2 :=
      (FrW.of_eq e0 ew).trans (hq.frw (id := id) (task?_congr e0 ht) hid hs)
    have e2 : s2.tasks = putTask s.tasks { t' with inst := t'.inst + 1 } := by
      rw [hq.eq.2.2, ← e0]
    exact f1.trans (ih (fun x hx => AtOr.of_step e2 hown x (hp x (List.mem_cons_of_mem _ hx))) h2)

/-- a multi-node task that loses a non-root worker stays at its root -/
theorem SOk.shrink {rel : Nat → Prop} {acq : Prop} {root w : Nat} {others : List Nat} (h : root ≠ w) :
    SOk rel acq (.runningMN (root :: others)) (.runningMN ((root :: others).filter (· ≠ w))) := by
  have e : (root :: others).filter (· ≠ w) = root :: others.filter (· ≠ w) := by simp [h]
  rw [e]; exact .of_keep ⟨_, rfl⟩ rfl

/-- `lostRetracting` rewrites only tasks that are being retracted from the lost worker -/
theorem TLoss.lostA {w : Nat} {t t' : Task} (h : TLoss w False (fun _ => False) t t') : TRelW (lostA w) t t' := by
  cases h with
  | calm h => exact h.trelW
  | back hl => exact hl.elim
  | bump hl _ => exact hl.elim
  | redirect _ _ hs => exact ⟨rfl, .free (fun x hx => by rw [hs] at hx; cases hx; rfl) trivial⟩
  | unretract hs => exact ⟨rfl, .free (fun x hx => by rw [hs] at hx; cases hx; rfl) trivial⟩
  | shrink hs hr => exact ⟨rfl, by rw [hs]; exact .shrink hr⟩
  | crash => exact ⟨rfl, .refl _ _ _⟩

theorem lostRetracting_frw {l : List Task} {s s' : State} {w : Nat} {o o' : Out}
    (h : s.lostRetracting w l o = .ok (s', o')) : FrW (lostA w) s s' :=
  (lostRetracting_desc (fail := False) (L := fun _ => False) (RW := WCalm) l h).frw TLoss.lostA WCalm.wrelW

theorem crashLoop_frq {ids : List TaskId} {s s' : State} {f : Bool} {rets : List (List TaskId)} {o o' : Out}
    (h : s.crashLoop f ids rets o = .ok (s', o')) : Frq s s' := by
  induction ids generalizing s rets o with
  | nil => simp only [State.crashLoop] at h; cases h; exact Frq.refl _
  | cons id rest ih =>
    rcases crashLoop_cons_ok h with ⟨_, h1⟩ | ⟨task, ht, h1⟩
    · exact ih h1
    · have f1 : Frq s (s.setTask { task with crashes := (crashOutcome task.crashLimit f task.crashes).1 }) :=
        FrW.setSame ht rfl rfl
      rcases h1 with ⟨_, s2, o2, hf, h2⟩ | ⟨_, h2⟩
      · exact (f1.trans (taskFailed_frq hf)).trans (ih h2)
      · exact f1.trans (ih h2)

/-- `on_remove_worker`, split where the composition needs it: up to `lostRetracting` nothing is acquired (`lostM`),
`lostRetracting` hands redirected tasks to their targets, the rest (`retract`, the crash loop) is calm -/
theorem removeWorker_parts {s s' : State} {w : Nat} {reason : String} {f : Bool} {order : List TaskId}
    {rets : List (List TaskId)} {o : Out} (hi : Inv s)
    (h : s.removeWorker w reason f order rets = .ok (s', o)) :
    ∃ s1 s2 s3 s4 running retracted out1 out2,
      FrW (lostM w) s s1 ∧ s1.lostRetracting w s1.tasks {} = .ok (s2, out1) ∧
      s2.retract retracted = .ok (s3, out2) ∧
      s3.crashLoop f running rets ((out1.add out2).add { cbs := [.workerLost w running reason] }) = .ok (s4, o) ∧
      s' = ask s4 ∧ taskIds s1.tasks = taskIds s.tasks := by
  obtain ⟨wk, s1, s2, s3, s4, running, retracted, out1, out2, hfw, h1, g1, g2, g3, rfl⟩ := removeWorker_phases h
  refine ⟨s1, s2, s3, s4, running, retracted, out1, out2, (GFr.dropWorker (TRelW.refl _) (WRelW.refl _) w).frw.trans ?_, g1, g2, g3, rfl,
    (lossPart1_desc (fail := True) h1).frame.keep⟩
  rcases lossPart1_cases h1 with ⟨A, F, P, s01, ha, hperm, hlp, hla⟩ |
    ⟨tid, isRoot, started, task, root, others, _, ht, hs, hc⟩
  · -- single-node: the listed tasks are at the lost worker (`Inv`)
    have hP : preW s.workers w = P := by rw [preW_of_find hfw]; simp [wPre, ha]
    have hA : asgW s.workers w = A := by rw [asgW_of_find hfw]; simp [wAsg, ha]
    have hpP : ∀ id ∈ P, AtW w { s with workers := s.workers.filter (·.id ≠ w) } id := by
      intro id hid task hft
      have hs := hi.ls.a2 w id (by rw [hP]; exact hid)
      rw [stOf_of_find hft] at hs
      simp only [Option.some.injEq] at hs
      rw [hs]; exact .inl rfl
    have hpA : ∀ id ∈ order, AtOr w { s with workers := s.workers.filter (·.id ≠ w) } id := by
      intro id hid task hft
      have hidA : id ∈ A := by
        simp only [Bool.and_eq_true] at hperm
        exact mem_of_all_contains hperm.1.1 id hid
      obtain ⟨st, h1, h2⟩ := hi.ls.a1 w id (by rw [hA]; exact hidA)
      rw [stOf_of_find hft] at h1
      simp only [Option.some.injEq] at h1
      rw [h1]
      cases st <;> simp only [Holds_assigned, Holds_running, Holds_retracting, Holds_waiting, Holds_prefilled,
        Holds_runningMN, Holds_finished] at h2
      · subst h2; exact .inl rfl
      · exact .inr (.inr ⟨_, rfl⟩)
      · subst h2; exact .inl rfl
    obtain ⟨a, b⟩ := lostPrefilled_frw hpP hlp
    exact a.trans (lostAssigned_frw (fun id hid => b id (hpA id hid)) hla)
  · rcases hc with ⟨hroot, s01, hr, hq, _⟩ | ⟨hroot, rfl, _, _⟩
    · exact (resetMnAll_desc (RT := TCalm) (er := False) _ hr).frq.lost.trans
        (hq.frw (id := tid) (task?_congr (resetMnAll_tasks _ _ _ hr) ht) rfl
          (sok_lost_release (.inl (by rw [hs, hroot]; rfl)) rfl))
    · exact FrW.setState ht rfl (by rw [hs]; exact .shrink hroot)

/-- one scheduling round: nothing is released, anything may be acquired -/
def schedM : Mode := { acq := fun _ => True, sch := True }

abbrev Frz (s s' : State) : Prop := FrW schedM s s'

theorem sok_sched_of_none {id : TaskId} {a b : TS} (h : owner a = none) :
    SOk (fun x => schedM.rel x id) (schedM.acq id) a b :=
  ⟨fun x hx => (by rw [h] at hx; cases hx), fun hn => (hn trivial).elim⟩

/-- the round gives a worker only to Waiting tasks; a Prefilled task it takes back stays where it is -/
theorem TSched.trelW {t t' : Task} (h : TSched t t') : TRelW schedM t t' := by
  cases h with
  | retract hs => exact ⟨rfl, .of_keep (by rw [hs]; exact .inr rfl) (by rw [hs]; rfl)⟩
  | place w v hs => exact ⟨rfl, sok_sched_of_none (by rw [hs]; rfl)⟩
  | placeMn ws hs _ => exact ⟨rfl, sok_sched_of_none (by rw [hs]; rfl)⟩
  | prefill w hs => exact ⟨rfl, sok_sched_of_none (by rw [hs]; rfl)⟩

/-- `set_mn_task` only on a worker with an empty single-node assignment -/
theorem WSched.wrelW {wk wk' : Worker} (h : WSched wk wk') : WRelW True wk wk' := by
  cases h with
  | setMn t root ha => exact ⟨rfl, fun _ _ _ _ => .inr ⟨trivial, _, _, _, ha⟩, fun _ _ _ _ e => by cases e⟩
  | removeSn t r ha => exact .of_sn rfl ⟨_, _, _, ha⟩ ⟨_, _, _, rfl⟩
  | removePrefill t ha => exact .of_sn rfl ⟨_, _, _, ha⟩ ⟨_, _, _, rfl⟩
  | insertSn t r ha => exact .of_sn rfl ⟨_, _, _, ha⟩ ⟨_, _, _, rfl⟩
  | insertPrefill t ha => exact .of_sn rfl ⟨_, _, _, ha⟩ ⟨_, _, _, rfl⟩

theorem schedule_frz {s s' : State} {sol : Solution} {o : Out} (h : s.schedule sol = .ok (s', o)) : Frz s s' :=
  (schedule_desc h).frw TSched.trelW WSched.wrelW

end HqModel.Core
