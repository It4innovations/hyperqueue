import HqModel.Journal.Prune2
import HqModel.Lemmas.JournalPrune
/-!
Syntactic laws of the patched (stateful) pruner `prune2`: it distributes over `++` (carrying `task_worker_ids`),
pruning a pruned journal again = pruning the original with the intersections of the live sets (provided no worker that
ran a task of a live job is live at the second prune without having been live at the first one), idempotence.
-/
namespace HqModel.Journal

theorem prune2From_cons (lj lw acc : List Nat) (x : Record) (xs : List Record) :
    prune2From lj lw acc (x :: xs) =
      (prune2Record lj lw acc x).toList ++ prune2From lj lw (taskWorkersStep lj acc x) xs := by
  simp only [prune2From]
  cases prune2Record lj lw acc x <;> rfl

theorem prune2From_append (lj lw : List Nat) (J K : List Record) : ∀ acc : List Nat,
    prune2From lj lw acc (J ++ K) = prune2From lj lw acc J ++ prune2From lj lw (taskWorkersFrom lj acc J) K := by
  induction J with
  | nil => intro acc; rfl
  | cons x xs ih =>
    intro acc
    simp only [List.cons_append, prune2From_cons, taskWorkersFrom, ih, List.append_assoc]

theorem taskWorkersFrom_append (lj : List Nat) (J K : List Record) : ∀ acc : List Nat,
    taskWorkersFrom lj acc (J ++ K) = taskWorkersFrom lj (taskWorkersFrom lj acc J) K := by
  induction J with
  | nil => intro acc; rfl
  | cons x xs ih => intro acc; simp only [List.cons_append, taskWorkersFrom, ih]

theorem taskWorkersStep_mono (lj acc : List Nat) (x : Record) : ∀ w, w ∈ acc → w ∈ taskWorkersStep lj acc x := by
  intro w hw
  cases x <;> simp only [taskWorkersStep] <;> try exact hw
  split
  · exact List.mem_append_left _ hw
  · exact hw

theorem taskWorkersFrom_mono (lj : List Nat) (J : List Record) : ∀ acc w, w ∈ acc → w ∈ taskWorkersFrom lj acc J := by
  induction J with
  | nil => intro acc w hw; exact hw
  | cons x xs ih => intro acc w hw; exact ih _ w (taskWorkersStep_mono lj acc x w hw)

theorem prune2From_toList (lj lw acc : List Nat) (o : Option Record) :
    prune2From lj lw acc o.toList = (o.bind (prune2Record lj lw acc)).toList := by
  cases o with
  | none => rfl
  | some y =>
    simp only [Option.toList_some, prune2From_cons, prune2From, List.append_nil, Option.bind_some]

theorem prune2Record_eq (lj lw acc : List Nat) (x : Record) :
    prune2Record lj lw acc x = match lostOf x with
      | some (w, _) => if lw.contains w || acc.contains w then some x else none
      | none => pruneRecord lj lw x := by
  cases x <;> rfl

theorem prune2Record_of_notWL (lj lw acc : List Nat) {x : Record} (h : lostOf x = none) :
    prune2Record lj lw acc x = pruneRecord lj lw x := by
  rw [prune2Record_eq, h]

theorem pruneRecord_some {lj lw : List Nat} {x y : Record} (hp : pruneRecord lj lw x = some y) :
    y = x ∨ (jobOf y = none ∧ lostOf y = none) := by
  rw [pruneRecord_eq] at hp
  cases hb : batchOf x with
  | none =>
    rw [hb] at hp
    cases hk : keeps lj lw x <;> rw [hk] at hp
    · cases hp
    · exact Or.inl (Option.some.inj hp).symm
  | some p =>
    obtain ⟨mk, con, ids⟩ := p
    simp only [hb] at hp
    cases hf : (ids.filter fun i => lj.contains i.1).isEmpty <;> simp only [hf] at hp
    · exact Or.inr (Option.some.inj hp ▸ ((batchOf_con hb).2.2 _).2)
    · cases hp

theorem prune2Record_prune2Record_notWL (lj lw lj2 lw2 a1 a2 : List Nat) {x : Record} (h : lostOf x = none) :
    (prune2Record lj lw a1 x).bind (prune2Record lj2 lw2 a2) =
      prune2Record (inter lj lj2) (inter lw lw2) a2 x := by
  rw [prune2Record_of_notWL _ _ _ h, prune2Record_of_notWL _ _ _ h, ← pruneRecord_pruneRecord]
  cases hp : pruneRecord lj lw x with
  | none => rfl
  | some y =>
    rcases pruneRecord_some hp with rfl | ⟨_, hl⟩
    · exact prune2Record_of_notWL _ _ _ h
    · exact prune2Record_of_notWL _ _ _ hl

theorem prune2Record_prune2Record (lj lw lj2 lw2 a1 a2 : List Nat) (x : Record)
    (hsub : ∀ w, w ∈ a2 → w ∈ a1)
    (hmono : ∀ w, lw2.contains w = true → w ∈ a1 → lw.contains w = true) :
    (prune2Record lj lw a1 x).bind (prune2Record lj2 lw2 a2) =
      prune2Record (inter lj lj2) (inter lw lw2) a2 x := by
  cases hl : lostOf x with
  | none => exact prune2Record_prune2Record_notWL lj lw lj2 lw2 a1 a2 hl
  | some p =>
    obtain ⟨w, r⟩ := p
    obtain rfl := lostOf_eq hl
    -- composed: kept iff `(w ∈ lw ∨ w ∈ a1) ∧ (w ∈ lw2 ∨ w ∈ a2)`; with the intersections: iff `(w ∈ lw ∧ w ∈ lw2) ∨ w ∈ a2`.
    -- Given `a2 ⊆ a1` they differ only for `w ∈ a1`, `w ∉ a2`, `w ∈ lw2`, `w ∉ lw`, which `hmono` excludes.
    simp only [prune2Record, contains_inter]
    by_cases h2 : w ∈ a2
    · have h1 := hsub w h2
      simp [h1, h2, prune2Record]
    · by_cases h1 : w ∈ a1
      · by_cases hl2 : lw2.contains w = true
        · have hl := hmono w hl2 h1
          simp only [List.contains_eq_mem, decide_eq_true_eq] at hl hl2
          simp [h1, h2, hl, hl2, prune2Record]
        · simp only [List.contains_eq_mem, decide_eq_true_eq] at hl2
          simp [h1, h2, hl2, prune2Record]
      · by_cases hl : w ∈ lw <;> by_cases hl2 : w ∈ lw2 <;> simp [h1, h2, hl, hl2, prune2Record]

theorem taskWorkersStep_of_notTS (lj acc : List Nat) (x : Record) (h : ∀ j t i ws, x ≠ .taskStarted j t i ws) :
    taskWorkersStep lj acc x = acc := by
  cases x <;> first | rfl | exact absurd rfl (h _ _ _ _)

theorem taskWorkersStep_of_jobOf_none (lj acc : List Nat) {x : Record} (h : jobOf x = none) :
    taskWorkersStep lj acc x = acc :=
  taskWorkersStep_of_notTS lj acc x fun _ _ _ _ e => by subst e; cases h

theorem taskWorkersFrom_prune2Record (lj lw lj2 a1 a2 : List Nat) (x : Record) :
    taskWorkersFrom lj2 a2 (prune2Record lj lw a1 x).toList = taskWorkersStep (inter lj lj2) a2 x := by
  have other : lostOf x = none → (∀ j t i ws, x ≠ .taskStarted j t i ws) →
      taskWorkersFrom lj2 a2 (prune2Record lj lw a1 x).toList = taskWorkersStep (inter lj lj2) a2 x := by
    intro hwl hts
    rw [prune2Record_of_notWL _ _ _ hwl, taskWorkersStep_of_notTS _ _ _ hts]
    cases hp : pruneRecord lj lw x with
    | none => rfl
    | some y =>
      rcases pruneRecord_some hp with rfl | ⟨hj, _⟩
      · exact taskWorkersStep_of_notTS _ _ _ hts
      · exact taskWorkersStep_of_jobOf_none _ _ hj
  cases x
  case workerLost w r =>
    simp only [prune2Record]
    cases (lw.contains w || a1.contains w) <;> rfl
  case taskStarted j t i ws =>
    simp only [prune2Record, pruneRecord, taskWorkersStep, contains_inter]
    cases lj.contains j <;> rfl
  all_goals exact other rfl (by intro j t i ws h; cases h)

theorem taskWorkersStep_sub (lj lj2 a1 a2 : List Nat) (x : Record) (hsub : ∀ w, w ∈ a2 → w ∈ a1) :
    ∀ w, w ∈ taskWorkersStep (inter lj lj2) a2 x → w ∈ taskWorkersStep lj a1 x := by
  intro w hw
  cases x <;> simp only [taskWorkersStep] at hw ⊢ <;> try exact hsub w hw
  rename_i j t i ws
  rw [contains_inter] at hw
  by_cases h1 : lj.contains j = true
  · simp only [h1, if_true, Bool.true_and] at hw ⊢
    split at hw
    · rcases List.mem_append.1 hw with h | h
      · exact List.mem_append_left _ (hsub w h)
      · exact List.mem_append_right _ h
    · exact List.mem_append_left _ (hsub w hw)
  · have h1' : lj.contains j = false := by simpa using h1
    simp only [h1', Bool.false_eq_true, if_false, Bool.false_and] at hw ⊢
    exact hsub w hw

theorem prune2From_prune2From (lj lw lj2 lw2 : List Nat) : ∀ (J : List Record) (a1 a2 : List Nat),
    (∀ w, w ∈ a2 → w ∈ a1) →
    (∀ w, lw2.contains w = true → w ∈ taskWorkersFrom lj a1 J → lw.contains w = true) →
    prune2From lj2 lw2 a2 (prune2From lj lw a1 J) = prune2From (inter lj lj2) (inter lw lw2) a2 J ∧
    taskWorkersFrom lj2 a2 (prune2From lj lw a1 J) = taskWorkersFrom (inter lj lj2) a2 J := by
  intro J
  induction J with
  | nil => intro a1 a2 _ _; exact ⟨rfl, rfl⟩
  | cons x xs ih =>
    intro a1 a2 hsub hmono
    have hm1 : ∀ w, lw2.contains w = true → w ∈ a1 → lw.contains w = true :=
      fun w h2 h1 => hmono w h2 (taskWorkersFrom_mono lj (x :: xs) a1 w h1)
    obtain ⟨ih1, ih2⟩ := ih (taskWorkersStep lj a1 x) (taskWorkersStep (inter lj lj2) a2 x)
      (taskWorkersStep_sub lj lj2 a1 a2 x hsub) (fun w h2 h1 => hmono w h2 h1)
    refine ⟨?_, ?_⟩
    · rw [prune2From_cons, prune2From_append, prune2From_toList, taskWorkersFrom_prune2Record,
        prune2Record_prune2Record lj lw lj2 lw2 a1 a2 x hsub hm1, ih1, prune2From_cons]
    · rw [prune2From_cons, taskWorkersFrom_append, taskWorkersFrom_prune2Record, ih2]
      rfl

theorem inter_self (a : List Nat) : inter a a = a := by
  unfold inter
  rw [List.filter_eq_self]
  intro x hx
  simpa using hx

theorem prune2_prune2 (lj lw lj2 lw2 : List Nat) (J : List Record)
    (hmono : ∀ w, lw2.contains w = true → w ∈ taskWorkersFrom lj [] J → lw.contains w = true) :
    prune2 lj2 lw2 (prune2 lj lw J) = prune2 (inter lj lj2) (inter lw lw2) J :=
  (prune2From_prune2From lj lw lj2 lw2 J [] [] (fun _ h => h) hmono).1

end HqModel.Journal
