import HqModel.Lemmas.CoreDescOps
/-!
The descent of one scheduling round (`Sched.lean`): every function places, retracts or prefills, nothing else; and
the closed form of what the round as a whole does to a record (`TRound`, `Desc.round`). A family that needs a fact about
the records after a round, or after any function with a `Desc TSched` lemma, reads it off `Desc.round` by `cases`, one
case per way a record can have changed; it needs no transitive relation of its own for the round.
-/
namespace HqModel.Core

variable {RT : Task → Task → Prop} {er : Prop} {s s' : State}

theorem insertSn_sdesc {w : Nat} {t : TaskId} {r : Rq} (h : s.withWorker w (·.insertSn t r) = .ok s') :
    Desc RT WSched er s s' :=
  .withWorker (fun _ _ e => ⟨(insertSn_wsched e).id, insertSn_wsched e⟩) h

theorem removeSn_sdesc {w : Nat} {t : TaskId} {r : Rq} (h : s.withWorker w (·.removeSn t r) = .ok s') :
    Desc RT WSched er s s' :=
  .withWorker (fun _ _ e => ⟨(removeSn_wsched e).id, removeSn_wsched e⟩) h

theorem removePrefill_sdesc {w : Nat} {t : TaskId} (h : s.withWorker w (·.removePrefill t) = .ok s') :
    Desc RT WSched er s s' :=
  .withWorker (fun _ _ e => ⟨(removePrefill_wsched e).id, removePrefill_wsched e⟩) h

theorem insertPrefill_sdesc {w : Nat} {t : TaskId} (h : s.withWorker w (·.insertPrefill t) = .ok s') :
    Desc RT WSched er s s' :=
  .withWorker (fun _ _ e => ⟨(insertPrefill_wsched e).id, insertPrefill_wsched e⟩) h

theorem setMn_sdesc {w : Nat} {t : TaskId} {root : Bool} (h : s.withWorker w (·.setMn t root) = .ok s') :
    Desc RT WSched er s s' :=
  .withWorker (fun _ _ e => by
    obtain ⟨⟨F, ha⟩, rfl⟩ := setMn_spec e
    exact ⟨rfl, .setMn t root ha⟩) h

theorem Placed.desc {m m' : List WUpdate} {v : Nat} {r : Rq} {id : TaskId} {w : Nat} (h : Placed s m v r id w s' m') :
    Desc TSched WSched False s s' := by
  cases h with
  | waiting s1 task n hw ht hs =>
    exact (insertSn_sdesc hw).trans (.put (getTask_spec ht) rfl (.place w v hs))
  | redirect s1 task old hw ht hs hf =>
    exact (insertSn_sdesc hw).trans (.of_eq rfl rfl rfl rfl)
  | reredirect s1 task old oldTarget ov r' s3 hw ht hs hf hr hw3 =>
    have f2 : Desc TSched WSched False s1
        { s1 with redirects := (s1.redirects.filter (·.1 ≠ id)) ++ [(id, w, v)] } := .of_eq rfl rfl rfl rfl
    have ht3 : s3.task? id = some task := by rw [State.task?, withWorker_tasks hw3]; exact getTask_spec ht
    have e : ({ task with state := .retracting old } : Task) = task := by rw [← hs]
    rw [e]
    exact (((insertSn_sdesc hw).trans f2).trans (removeSn_sdesc hw3)).trans (.putSame ht3)
  | prefilled s1 task old s2 hw ht hs hw2 hn =>
    have ht2 : s2.task? id = some task := by rw [State.task?, withWorker_tasks hw2]; exact getTask_spec ht
    have f3 : Desc TSched WSched False s2 { s2 with redirects := s2.redirects ++ [(id, w, v)] } :=
      .of_eq rfl rfl rfl rfl
    exact (((insertSn_sdesc hw).trans (removePrefill_sdesc hw2)).trans f3).trans
      (.put (s := { s2 with redirects := s2.redirects ++ [(id, w, v)] }) ht2 rfl (.retract hs))

theorem placeSn_desc {m m' : List WUpdate} {v : Nat} {r : Rq} {id : TaskId} {w : Nat}
    (h : s.placeSn m v r id w = .ok (s', m')) : Desc TSched WSched False s s' :=
  (placeSn_cases h).2.desc

theorem placeAll_desc {m m' : List WUpdate} {v : Nat} {r : Rq} {l : List (TaskId × Nat)}
    (h : s.placeAll m v r l = .ok (s', m')) : Desc TSched WSched False s s' :=
  placeAll_ind (P := fun _ s1 _ => Desc TSched WSched False s s1)
    (fun _ _ _ _ _ _ _ h0 h1 => h0.trans (placeSn_desc h1)) (.refl s) h

theorem mapSn_desc {now : Nat} : ∀ (es : List SnEntry) {s : State} {m : List WUpdate} {x : State × List WUpdate},
    s.mapSn now m es = .ok x → Desc TSched WSched False s x.1
  | [], _, _, _, h => by simp only [State.mapSn] at h; cases h; exact .refl _
  | e :: rest, s, m, x, h => by
    obtain ⟨r, q, q', s2, m2, _, _, _, _, hp, h2⟩ := mapSn_cons_ok h
    have f1 : Desc TSched WSched False s { s with queues := s.queues.set e.rq q' } :=
      .of_eq rfl rfl rfl (List.length_set ..)
    exact (f1.trans (placeAll_desc hp)).trans (mapSn_desc rest h2)

theorem setMnAll_desc {id : TaskId} {ws : List Nat} {first : Bool} (h : setMnAll s id ws first = .ok s') :
    Desc RT WSched er s s' :=
  setMnAll_ind (P := fun s1 => Desc RT WSched er s s1) (fun _ _ _ _ h0 h1 => h0.trans (setMn_sdesc h1)) (.refl s) h

/-- a worker that already holds a multi-node task is not free: a set that names it again stops the round -/
theorem setMnAll_nodup {id : TaskId} : ∀ {ws : List Nat} {s s' : State} {first : Bool},
    setMnAll s id ws first = .ok s' → ws.Nodup
  | [], _, _, _, _ => List.nodup_nil
  | w :: rest, s, s', first, h => by
    obtain ⟨s1, hw, h'⟩ := setMnAll_cons_ok h
    refine List.nodup_cons.mpr ⟨fun hm => ?_, setMnAll_nodup h'⟩
    obtain ⟨wk, wk', hf, he, rfl⟩ := withWorker_spec hw
    obtain ⟨_, rfl⟩ := setMn_spec he
    -- `w` keeps its multi-node assignment until the loop comes to it again
    have key : ∀ {l : List Nat} {a : State} {fl : Bool}, w ∈ l → (∃ x r f, a.worker? w = some x ∧ x.assign = .mn id r f) →
        setMnAll a id l fl = .ok s' → False := by
      intro l
      induction l with
      | nil => intro _ _ hm; cases hm
      | cons y ys ih =>
        intro a fl hm ⟨x, r, f, hx, ha⟩ hl
        obtain ⟨a1, hy, hl'⟩ := setMnAll_cons_ok hl
        obtain ⟨yk, yk', hfy, hey, rfl⟩ := withWorker_spec hy
        obtain ⟨⟨F, hsn⟩, rfl⟩ := setMn_spec hey
        by_cases e : y = w
        · subst e
          cases (show some yk = some x from hfy.symm.trans hx)
          rw [hsn] at ha; cases ha
        · refine ih ((List.mem_cons.mp hm).resolve_left fun e' => e e'.symm) ⟨x, r, f, ?_, ha⟩ hl'
          rw [worker?_setWorker, if_neg]
          · exact hx
          · show ¬ w = yk.id
            rw [findWorker_some_id hfy]; exact fun e' => e e'.symm
    refine key hm ⟨{ wk with assign := .mn id first false }, first, false, ?_, rfl⟩ h'
    rw [worker?_setWorker, if_pos (findWorker_some_id hf).symm]
    show (findWorker s.workers w).map _ = _
    rw [hf]; rfl

theorem mapMnSets_desc {rq : Nat} : ∀ (sets : List (List Nat)) {s : State} {acc : List TaskId}
    {x : State × List TaskId}, s.mapMnSets rq sets acc = .ok x → Desc TSched WSched False s x.1
  | [], _, _, _, h => by simp only [State.mapMnSets] at h; cases h; exact .refl _
  | ws :: rest, s, acc, x, h => by
    obtain ⟨q, p, id, ids', more, s2, task, _, _, hm, ht, hs, h2⟩ := mapMnSets_cons_ok h
    have f1 : Desc TSched WSched False s
        { s with queues := s.queues.set rq { q with ready := if ids'.isEmpty then more else (p, ids') :: more } } :=
      .of_eq rfl rfl rfl (List.length_set ..)
    have f3 : Desc TSched WSched False s2 (s2.setTask { task with state := .runningMN ws }) :=
      .put (getTask_spec ht) rfl (.placeMn ws hs (setMnAll_nodup hm))
    exact ((f1.trans (setMnAll_desc hm)).trans f3).trans (mapMnSets_desc rest h2)

theorem mapMn_desc {es : List MnEntry} {acc acc' : List TaskId} (h : s.mapMn es acc = .ok (s', acc')) :
    Desc TSched WSched False s s' :=
  mapMn_ind (P := fun _ s1 _ => Desc TSched WSched False s s1)
    (fun _ _ _ _ _ _ h0 h1 => h0.trans (mapMnSets_desc _ h1)) (.refl s) h

theorem prefillBack_desc {rq : Nat} {l keep keep' : List TaskId}
    (h : State.prefillWorker.back rq s l keep = .ok (s', keep')) : Desc RT WSched er s s' :=
  prefillBack_ind (P := fun _ s1 _ => Desc RT WSched er s s1)
    (fun _ _ _ _ _ _ _ h0 _ _ hm => h0.trans (movePrefilledToReady_desc hm)) (fun _ _ _ _ _ h0 _ _ => h0) (.refl s) h

theorem prefillMark_desc {w : Nat} {l : List TaskId} (h : State.prefillWorker.mark w s l = .ok s') :
    Desc TSched WSched False s s' :=
  prefillMark_ind (P := fun _ s1 => Desc TSched WSched False s s1)
    (fun _ _ _ t _ _ h0 ht hs hw =>
      (h0.trans (.put (t' := { t with state := .prefilled w }) (getTask_spec ht) rfl (.prefill w hs))).trans
        (insertPrefill_sdesc hw)) (.refl s) h

theorem prefillWorker_desc {m m' : List WUpdate} {rq size w : Nat} (h : s.prefillWorker m rq size w = .ok (s', m')) :
    Desc TSched WSched False s s' := by
  obtain ⟨q, p, ids, more, pf, s2, keep, _, _, _, hb, hm, _⟩ := prefillWorker_path h
  have f1 : Desc TSched WSched False s
      { s with queues := s.queues.set rq { ready := (takeFromFirst q.ready size).1, prefill := some pf } } :=
    .of_eq rfl rfl rfl (List.length_set ..)
  exact (f1.trans (prefillBack_desc hb)).trans (prefillMark_desc hm)

theorem prefillWorkers_desc {m m' : List WUpdate} {rq size : Nat} {ws : List Nat}
    (h : s.prefillWorkers m rq size ws = .ok (s', m')) : Desc TSched WSched False s s' :=
  prefillWorkers_ind (P := fun _ s1 _ => Desc TSched WSched False s s1)
    (fun _ _ _ _ _ _ h0 h1 => h0.trans (prefillWorker_desc h1)) (.refl s) h

theorem proactive_desc {m m' : List WUpdate} {orders : List (Nat × List Nat)} {top : Int} {n rq : Nat}
    (h : s.proactive m orders top n rq = .ok (s', m')) : Desc TSched WSched False s s' :=
  proactive_ind (P := fun s1 _ => Desc TSched WSched False s s1)
    (fun _ _ _ _ _ _ _ _ h0 _ _ h1 => h0.trans (prefillWorkers_desc h1)) (.refl s) h

theorem schedule_desc {sol : Solution} {o : Out} (h : s.schedule sol = .ok (s', o)) :
    Desc TSched WSched False s s' := by
  obtain ⟨s1, m1, s2, mnTasks, s3, m3, msgs, mm, top, n, h1, h2, _, h3, _, _, rfl, _⟩ := schedule_path h
  exact (((mapSn_desc _ h1).trans (mapMn_desc h2)).trans (proactive_desc h3)).trans
    (.of_eq rfl rfl rfl rfl)

/-- What a scheduling round does to one task record, start to end. The rewrites `TSched` only start from a Waiting or a
Prefilled record and never write a Waiting one, so a chain of them is at most two long (prefill, then retract): the
chains of `TSched` are `TSched` itself and two more cases. -/
inductive TRound : Task → Task → Prop
  | same (t : Task) : TRound t t
  | place {t : Task} {n : Nat} (w v : Nat) (hs : t.state = .waiting n) : TRound t { t with state := .assigned w v }
  | prefill {t : Task} {n : Nat} (w : Nat) (hs : t.state = .waiting n) : TRound t { t with state := .prefilled w }
  /-- prefilled and retracted again by the same round -/
  | prefillRetract {t : Task} {n : Nat} (w : Nat) (hs : t.state = .waiting n) : TRound t { t with state := .retracting w }
  | retract {t : Task} {w : Nat} (hs : t.state = .prefilled w) : TRound t { t with state := .retracting w }
  | placeMn {t : Task} (ws : List Nat) (hs : t.state = .waiting 0) (hnd : ws.Nodup) :
      TRound t { t with state := .runningMN ws }

theorem TSched.tround {t t' : Task} (h : TSched t t') : TRound t t' := by
  cases h with
  | place w v hs => exact .place w v hs
  | retract hs => exact .retract hs
  | placeMn ws hs hnd => exact .placeMn ws hs hnd
  | prefill w hs => exact .prefill w hs

theorem TRound.step {t b c : Task} (h : TRound t b) (r : TSched b c) : TRound t c := by
  cases h with
  | same => exact r.tround
  | prefill w hs =>
    -- a second rewrite meets the state the first one wrote: only Prefilled can go on
    cases r with
    | retract hs' => cases hs'; exact .prefillRetract w hs
    | place _ _ hs' | placeMn _ hs' _ | prefill _ hs' => cases hs'
  | place | prefillRetract | retract | placeMn =>
    cases r with
    | place _ _ hs' | retract hs' | placeMn _ hs' _ | prefill _ hs' => cases hs'

theorem TSched.round {t t' : Task} (h : Star TSched t t') : TRound t t' := by
  induction h with
  | refl => exact .same _
  | tail _ r ih => exact ih.step r

theorem TRound.id {t t' : Task} (h : TRound t t') : t'.id = t.id := by cases h <;> rfl

theorem Desc.round {RW : Worker → Worker → Prop} (h : Desc TSched RW er s s')
    (hn : (taskIds s.tasks).Nodup) {id : TaskId} {t' : Task} (hf : findTask s'.tasks id = some t') :
    ∃ t, findTask s.tasks id = some t ∧ TRound t t' :=
  find_of_desc (fun t' ht' => (h.fr.t t' ht').imp fun _ r => ⟨r.1, TSched.round r.2⟩) TRound.id hn hf

end HqModel.Core
