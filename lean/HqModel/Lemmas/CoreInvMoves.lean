import HqModel.Lemmas.CoreInvViews
/-!
The catalogue of *moves* — the combined updates of (task map, worker map, redirect table) that the reactor and the
mapping perform for one task — each shown to preserve `LS3`: as instances of `LS3.mv_task` (one task record is replaced)
or `LS3.mv_at` (together with the record of the one worker the task occurs at) where a task changes its state, of
`LS3.shrink` where worker sets only lose members (`Shr`: worker sets and redirects only shrink).
-/
namespace HqModel.Core

theorem findWorker_of_id {ws : List Worker} {w : Nat} {wk wk' : Worker} (hfw : findWorker ws w = some wk)
    (hid : wk'.id = wk.id) : findWorker ws wk'.id = some wk := by
  rw [hid, findWorker_some_id hfw]; exact hfw

theorem insertSn_views {wk wk' : Worker} {t : TaskId} {r : Rq} (h : wk.insertSn t r = .ok wk') :
    wk'.id = wk.id ∧ t ∉ wAsg wk ∧ wAsg wk' = wAsg wk ++ [t] ∧ wPre wk' = wPre wk ∧ wMn wk' = wMn wk := by
  obtain ⟨A, F, P, F', ha, _, hm, rfl⟩ := insertSn_spec h
  unfold wAsg wPre wMn
  rw [ha]
  exact ⟨rfl, hm, rfl, rfl, rfl⟩

theorem removeSn_views {wk wk' : Worker} {t : TaskId} {r : Rq} (h : wk.removeSn t r = .ok wk') :
    wk'.id = wk.id ∧ t ∈ wAsg wk ∧ wAsg wk' = (wAsg wk).erase t ∧ wPre wk' = wPre wk ∧ wMn wk' = wMn wk := by
  obtain ⟨A, F, P, F', ha, _, hm, rfl⟩ := removeSn_spec h
  unfold wAsg wPre wMn
  rw [ha]
  exact ⟨rfl, hm, rfl, rfl, rfl⟩

theorem removePrefill_views {wk wk' : Worker} {t : TaskId} (h : wk.removePrefill t = .ok wk') :
    wk'.id = wk.id ∧ t ∈ wPre wk ∧ wAsg wk' = wAsg wk ∧ wPre wk' = (wPre wk).erase t ∧ wMn wk' = wMn wk := by
  obtain ⟨A, F, P, ha, hm, rfl⟩ := removePrefill_spec h
  unfold wAsg wPre wMn
  rw [ha]
  exact ⟨rfl, hm, rfl, rfl, rfl⟩

/-- lists only shrink, redirects only shrink: the relation that keeps detached tasks detached -/
structure Shr (ws : List Worker) (rd : List (TaskId × Nat × Nat)) (ws' : List Worker) (rd' : List (TaskId × Nat × Nat)) :
    Prop where
  a : ∀ x u, u ∈ asgW ws' x → u ∈ asgW ws x
  p : ∀ x u, u ∈ preW ws' x → u ∈ preW ws x
  m : ∀ x u, mnW ws' x = some u → mnW ws x = some u
  r : ∀ x, x ∈ rd' → x ∈ rd

theorem Shr.refl (ws rd) : Shr ws rd ws rd := ⟨fun _ _ h => h, fun _ _ h => h, fun _ _ h => h, fun _ h => h⟩
theorem Shr.trans {ws rd ws' rd' ws'' rd''} (h1 : Shr ws rd ws' rd') (h2 : Shr ws' rd' ws'' rd'') : Shr ws rd ws'' rd'' :=
  ⟨fun x u h => h1.a x u (h2.a x u h), fun x u h => h1.p x u (h2.p x u h), fun x u h => h1.m x u (h2.m x u h),
   fun x h => h1.r x (h2.r x h)⟩
theorem Shr.free {ws rd ws' rd' t} (h : Shr ws rd ws' rd') (hf : Free3 ws rd t) : Free3 ws' rd' t :=
  ⟨fun w hm => hf.na w (h.a w t hm), fun w hm => hf.np w (h.p w t hm), fun w hm => hf.nm w (h.m w t hm),
   fun w v hm => hf.nr w v (h.r _ hm)⟩

theorem LS3.mv_worker_shrink {ts ws rd} (h : LS3 ts ws rd) {wk wk' : Worker}
    (hw : findWorker ws wk'.id = some wk)
    (hA : (wAsg wk').Sublist (wAsg wk)) (hP : (wPre wk').Sublist (wPre wk))
    (hM : ∀ u, wMn wk' = some u → wMn wk = some u) :
    LS3 ts (putWorker ws wk') rd ∧ Shr ws rd (putWorker ws wk') rd := by
  have hA' : ∀ x, (asgW (putWorker ws wk') x).Sublist (asgW ws x) := fun x => by
    rw [asgW_put hw]; split
    · rename_i e; rw [e, asgW_of_find hw]; exact hA
    · exact List.Sublist.refl _
  have hP' : ∀ x, (preW (putWorker ws wk') x).Sublist (preW ws x) := fun x => by
    rw [preW_put hw]; split
    · rename_i e; rw [e, preW_of_find hw]; exact hP
    · exact List.Sublist.refl _
  have hM' : ∀ x u, mnW (putWorker ws wk') x = some u → mnW ws x = some u := fun x u => by
    rw [mnW_put hw]; split
    · rename_i e; rw [e, mnW_of_find hw]; exact hM u
    · exact id
  exact ⟨h.shrink (fun _ => rfl) hA' hP' hM',
    fun x u hu => (hA' x).subset hu, fun x u hu => (hP' x).subset hu, hM', fun _ hx => hx⟩

theorem LS3.congr_workers {ts ws ws' rd} (h : LS3 ts ws rd) (e1 : ∀ x, asgW ws' x = asgW ws x)
    (e2 : ∀ x, preW ws' x = preW ws x) (e3 : ∀ x, mnW ws' x = mnW ws x) : LS3 ts ws' rd :=
  h.shrink (fun _ => rfl) (fun x => e1 x ▸ List.Sublist.refl _) (fun x => e2 x ▸ List.Sublist.refl _)
    (fun x u => e3 x ▸ id)

theorem LS3.mv_drop_worker {ts ws rd} (h : LS3 ts ws rd) (w : Nat) : LS3 ts (ws.filter (·.id ≠ w)) rd := by
  refine h.shrink (fun _ => rfl) ?_ ?_ ?_
  · intro x; rw [asgW_filter]; split
    · exact List.nil_sublist _
    · exact List.Sublist.refl _
  · intro x; rw [preW_filter]; split
    · exact List.nil_sublist _
    · exact List.Sublist.refl _
  · intro x u; rw [mnW_filter]; split
    · intro e; cases e
    · exact id

/-- the four clauses of `LS3` for one task `t`, in terms of its state `st` -/
structure LS1 (ws : List Worker) (rd : List (TaskId × Nat × Nat)) (t : TaskId) (st : TS) : Prop where
  a : ∀ w, t ∈ asgW ws w → Holds rd w t st
  p : ∀ w, t ∈ preW ws w → st = .prefilled w
  m : ∀ w, mnW ws w = some t → ∃ l, st = .runningMN l ∧ w ∈ l
  r : ∀ w v, (t, w, v) ∈ rd → ∃ w0, st = .retracting w0

theorem LS3.at {ts ws rd} (h : LS3 ts ws rd) {t : TaskId} {st : TS} (hs : stOf ts t = some st) : LS1 ws rd t st := by
  refine ⟨fun w hx => ?_, fun w hx => ?_, fun w hx => ?_, fun w v hx => ?_⟩
  · obtain ⟨st', h1, h2⟩ := h.a1 w t hx; cases hs.symm.trans h1; exact h2
  · cases hs.symm.trans (h.a2 w t hx); rfl
  · obtain ⟨l, h1, h2⟩ := h.m1 w t hx; cases hs.symm.trans h1; exact ⟨l, rfl, h2⟩
  · obtain ⟨w0, h1⟩ := h.d1 t w v hx; cases hs.symm.trans h1; exact ⟨w0, rfl⟩

theorem LS3.not_asg_of_state {ts ws rd} (h : LS3 ts ws rd) {t : TaskId} {st : TS} (hs : stOf ts t = some st)
    (hn : ∀ x, ¬ Holds rd x t st) : ∀ x, t ∉ asgW ws x := by
  intro x hx
  obtain ⟨st', h1, h2⟩ := h.a1 x t hx
  rw [hs] at h1; cases h1
  exact hn x h2

/-- **the record of one task is replaced** and its redirects change: the clauses are to be shown for this task only -/
theorem LS3.mv_task {ts ws rd rd'} (h : LS3 ts ws rd) {t' told : Task} (ht : findTask ts t'.id = some told)
    (hrd : ∀ u x v, u ≠ t'.id → ((u, x, v) ∈ rd' ↔ (u, x, v) ∈ rd))
    (h1 : LS1 ws rd' t'.id t'.state) (hd2 : (rd'.map (·.1)).Nodup) : LS3 (putTask ts t') ws rd' := by
  have hself : stOf (putTask ts t') t'.id = some t'.state := by rw [stOf_put ht, if_pos rfl]
  refine h.frame t'.id (fun u hu => by rw [stOf_put ht, if_neg hu]) (fun _ _ _ => Iff.rfl) (fun _ _ _ => Iff.rfl)
    (fun _ _ _ => Iff.rfl) hrd ?_ ?_ ?_ ?_ hd2 h.nda h.ndp
  · intro w hx; exact ⟨_, hself, h1.a w hx⟩
  · intro w hx; rw [hself, h1.p w hx]
  · intro w hx; obtain ⟨l, e, hl⟩ := h1.m w hx; exact ⟨l, by rw [hself, e], hl⟩
  · intro w v hx; obtain ⟨w0, e⟩ := h1.r w v hx; exact ⟨w0, by rw [hself, e]⟩

theorem LS3.mv_listfree {ts ws rd rd'} (h : LS3 ts ws rd) {t' told : Task}
    (ht : findTask ts t'.id = some told)
    (hna : ∀ w, t'.id ∉ asgW ws w) (hnp : ∀ w, t'.id ∉ preW ws w) (hnm : ∀ w, mnW ws w ≠ some t'.id)
    (hrd : ∀ u x v, u ≠ t'.id → ((u, x, v) ∈ rd' ↔ (u, x, v) ∈ rd))
    (hr : ∀ x v, (t'.id, x, v) ∈ rd' → ∃ w0, t'.state = .retracting w0)
    (hd2 : (rd'.map (·.1)).Nodup) :
    LS3 (putTask ts t') ws rd' :=
  h.mv_task ht hrd ⟨fun w hx => absurd hx (hna w), fun w hx => absurd hx (hnp w), fun w hx => absurd hx (hnm w), hr⟩ hd2

theorem LS3.mv_same {ts ws rd} (h : LS3 ts ws rd) {t' told : Task}
    (ht : findTask ts t'.id = some told) (hs : t'.state = told.state) : LS3 (putTask ts t') ws rd :=
  h.mv_task ht (fun _ _ _ _ => Iff.rfl) (hs ▸ h.at (stOf_of_find ht)) h.d2

theorem LS3.mv_started {ts ws rd} (h : LS3 ts ws rd) {t' told : Task} {w v v' : Nat}
    (ht : findTask ts t'.id = some told) (hs : told.state = .assigned w v) (hs' : t'.state = .running w v') :
    LS3 (putTask ts t') ws rd := by
  have c := h.at ((stOf_of_find ht).trans (congrArg some hs))
  refine h.mv_task ht (fun _ _ _ _ => Iff.rfl) ?_ h.d2
  rw [hs']
  refine ⟨c.a, fun x hx => (nomatch c.p x hx), fun x hx => ?_, fun x v hx => ?_⟩
  · obtain ⟨_, e, _⟩ := c.m x hx; cases e
  · obtain ⟨_, e⟩ := c.r x v hx; cases e

theorem LS3.mv_mn_state {ts ws rd} (h : LS3 ts ws rd) {t' told : Task} {l l' : List Nat}
    (ht : findTask ts t'.id = some told) (hs : told.state = .runningMN l) (hs' : t'.state = .runningMN l')
    (hc : ∀ x, mnW ws x = some t'.id → x ∈ l') : LS3 (putTask ts t') ws rd := by
  have c := h.at ((stOf_of_find ht).trans (congrArg some hs))
  refine h.mv_task ht (fun _ _ _ _ => Iff.rfl) ?_ h.d2
  rw [hs']
  refine ⟨c.a, fun x hx => (nomatch c.p x hx), fun x hx => ⟨l', rfl, hc x hx⟩, fun x v hx => ?_⟩
  obtain ⟨_, e⟩ := c.r x v hx; cases e

theorem LS3.mv_resolve_redirect {ts ws rd} (h : LS3 ts ws rd) {t' told : Task} {w0 target rv : Nat}
    (ht : findTask ts t'.id = some told) (hs : told.state = .retracting w0)
    (hr : (t'.id, target, rv) ∈ rd) (hs' : t'.state = .assigned target rv) :
    LS3 (putTask ts t') ws (rd.filter (·.1 ≠ t'.id)) := by
  have c := h.at ((stOf_of_find ht).trans (congrArg some hs))
  refine h.mv_task ht (fun u x v hu => by rw [rd_filter_mem]; exact and_iff_left hu) ?_ (rd_filter_nodup h.d2 _)
  rw [hs']
  refine ⟨fun x hx => ?_, fun x hx => (nomatch c.p x hx), fun x hx => ?_, fun x v hx => absurd rfl (rd_filter_mem.mp hx).2⟩
  · obtain ⟨v', hv'⟩ := c.a x hx
    exact (rd_unique h.d2 hv' hr).1.symm
  · obtain ⟨_, e, _⟩ := c.m x hx; cases e

theorem LS3.extend {ts ts' ws rd} (h : LS3 ts ws rd) (hm : ∀ u st, stOf ts u = some st → stOf ts' u = some st) :
    LS3 ts' ws rd := by
  refine ⟨?_, ?_, ?_, ?_, h.d2, h.nda, h.ndp⟩
  · intro w u hu; obtain ⟨st, h1, h2⟩ := h.a1 w u hu; exact ⟨st, hm _ _ h1, h2⟩
  · intro w u hu; exact hm _ _ (h.a2 w u hu)
  · intro w u hu; obtain ⟨l, h1, h2⟩ := h.m1 w u hu; exact ⟨l, hm _ _ h1, h2⟩
  · intro u w v hu; obtain ⟨w0, h1⟩ := h.d1 u w v hu; exact ⟨w0, hm _ _ h1⟩

theorem LS3.mv_erase {ts ws rd} (h : LS3 ts ws rd) (hn : (taskIds ts).Nodup) {t : TaskId} (hf : Free3 ws rd t) :
    LS3 (eraseTask ts t) ws rd := by
  have hst := stOf_eraseTask hn t
  refine ⟨?_, ?_, ?_, ?_, h.d2, h.nda, h.ndp⟩
  · intro w u hu
    have : u ≠ t := fun e => hf.na w (e ▸ hu)
    rw [hst, if_neg this]; exact h.a1 w u hu
  · intro w u hu
    have : u ≠ t := fun e => hf.np w (e ▸ hu)
    rw [hst, if_neg this]; exact h.a2 w u hu
  · intro w u hu
    have : u ≠ t := fun e => hf.nm w (e ▸ hu)
    rw [hst, if_neg this]; exact h.m1 w u hu
  · intro u w v hu
    have : u ≠ t := fun e => hf.nr w v (e ▸ hu)
    rw [hst, if_neg this]; exact h.d1 u w v hu

theorem LS3.drop_redirects {ts ws rd} (h : LS3 ts ws rd) {t : TaskId} (hna : ∀ w, t ∉ asgW ws w) :
    LS3 ts ws (rd.filter (·.1 ≠ t)) := by
  refine ⟨fun w u hu => ?_, h.a2, h.m1, fun u w v hu => h.d1 u w v (rd_filter_mem.mp hu).1, rd_filter_nodup h.d2 t,
    h.nda, h.ndp⟩
  obtain ⟨st, h1, h2⟩ := h.a1 w u hu
  refine ⟨st, h1, ?_⟩
  cases st <;> try exact h2
  obtain ⟨v, hv⟩ := h2
  exact ⟨v, rd_filter_mem.mpr ⟨hv, fun e => hna w (e ▸ hu)⟩⟩

/-- `t` occurs in the sets of no worker but `w` -/
structure OnlyAt (ws : List Worker) (t : TaskId) (w : Nat) : Prop where
  a : ∀ x, t ∈ asgW ws x → x = w
  p : ∀ x, t ∈ preW ws x → x = w
  m : ∀ x, mnW ws x = some t → x = w

theorem Free3.onlyAt {ws rd t} (hf : Free3 ws rd t) (w : Nat) : OnlyAt ws t w :=
  ⟨fun x hx => absurd hx (hf.na x), fun x hx => absurd hx (hf.np x), fun x hx => absurd hx (hf.nm x)⟩

theorem LS1.onlyAt {ws rd t st} (c : LS1 ws rd t st) {w : Nat} (ha : ∀ x, Holds rd x t st → x = w)
    (hp : ∀ x, st = .prefilled x → x = w) (hm : ∀ l, st ≠ .runningMN l) : OnlyAt ws t w :=
  ⟨fun x hx => ha x (c.a x hx), fun x hx => hp x (c.p x hx), fun x hx => (c.m x hx).elim fun l e => absurd e.1 (hm l)⟩

theorem OnlyAt.free_put {ws rd t} {wk wk' : Worker} (ho : OnlyAt ws t wk'.id) (hw : findWorker ws wk'.id = some wk)
    (hA : t ∉ wAsg wk') (hP : t ∉ wPre wk') (hM : wMn wk' ≠ some t) (hr : ∀ x v, (t, x, v) ∉ rd) :
    Free3 (putWorker ws wk') rd t := by
  refine ⟨fun x hx => ?_, fun x hx => ?_, fun x hx => ?_, hr⟩
  · rw [asgW_put hw] at hx; split at hx
    · exact hA hx
    · rename_i e; exact e (ho.a x hx)
  · rw [preW_put hw] at hx; split at hx
    · exact hP hx
    · rename_i e; exact e (ho.p x hx)
  · rw [mnW_put hw] at hx; split at hx
    · exact hM hx
    · rename_i e; exact e (ho.m x hx)

/-- **the record of one task and the record of the one worker it occurs at are replaced**: the other tasks keep their
memberships in the sets of the worker, the clauses are to be shown for this task and this worker only -/
theorem LS3.mv_at {ts ws rd rd'} (h : LS3 ts ws rd) {t' told : Task} {wk wk' : Worker}
    (ht : findTask ts t'.id = some told) (hw : findWorker ws wk'.id = some wk) (ho : OnlyAt ws t'.id wk'.id)
    (hA : ∀ u, u ≠ t'.id → (u ∈ wAsg wk' ↔ u ∈ wAsg wk)) (hP : ∀ u, u ≠ t'.id → (u ∈ wPre wk' ↔ u ∈ wPre wk))
    (hM : ∀ u, u ≠ t'.id → (wMn wk' = some u ↔ wMn wk = some u))
    (hrd : ∀ u x v, u ≠ t'.id → ((u, x, v) ∈ rd' ↔ (u, x, v) ∈ rd))
    (h1 : t'.id ∈ wAsg wk' → Holds rd' wk'.id t'.id t'.state)
    (h2 : t'.id ∈ wPre wk' → t'.state = .prefilled wk'.id)
    (h3 : wMn wk' = some t'.id → ∃ l, t'.state = .runningMN l ∧ wk'.id ∈ l)
    (h4 : ∀ w v, (t'.id, w, v) ∈ rd' → ∃ w0, t'.state = .retracting w0)
    (hd2 : (rd'.map (·.1)).Nodup) (hndA : (wAsg wk').Nodup) (hndP : (wPre wk').Nodup) :
    LS3 (putTask ts t') (putWorker ws wk') rd' := by
  have hself : stOf (putTask ts t') t'.id = some t'.state := by rw [stOf_put ht, if_pos rfl]
  have hA0 := asgW_of_find hw
  have hP0 := preW_of_find hw
  have hM0 := mnW_of_find hw
  refine h.frame t'.id (fun u hu => by rw [stOf_put ht, if_neg hu]) ?_ ?_ ?_ hrd ?_ ?_ ?_ ?_ hd2 ?_ ?_
  · intro x u hu; rw [asgW_put hw]; split
    · rename_i e; rw [e, hA0]; exact hA u hu
    · exact Iff.rfl
  · intro x u hu; rw [preW_put hw]; split
    · rename_i e; rw [e, hP0]; exact hP u hu
    · exact Iff.rfl
  · intro x u hu; rw [mnW_put hw]; split
    · rename_i e; rw [e, hM0]; exact hM u hu
    · exact Iff.rfl
  · intro x hx; rw [asgW_put hw] at hx; split at hx
    · rename_i e; exact ⟨_, hself, e ▸ h1 hx⟩
    · rename_i e; exact absurd (ho.a x hx) e
  · intro x hx; rw [preW_put hw] at hx; split at hx
    · rename_i e; rw [hself, h2 hx, e]
    · rename_i e; exact absurd (ho.p x hx) e
  · intro x hx; rw [mnW_put hw] at hx; split at hx
    · rename_i e; obtain ⟨l, e1, hl⟩ := h3 hx; exact ⟨l, by rw [hself, e1], e ▸ hl⟩
    · rename_i e; exact absurd (ho.m x hx) e
  · intro x v hx; obtain ⟨w0, e⟩ := h4 x v hx; exact ⟨w0, by rw [hself, e]⟩
  · intro x; rw [asgW_put hw]; split
    · exact hndA
    · exact h.nda x
  · intro x; rw [preW_put hw]; split
    · exact hndP
    · exact h.ndp x

theorem LS3.free_of_retracting {ts ws rd} (h : LS3 ts ws rd) {t : TaskId} {w0 : Nat}
    (hs : stOf ts t = some (.retracting w0)) (hn : ∀ x v, (t, x, v) ∉ rd) : Free3 ws rd t :=
  have c := h.at hs
  ⟨fun x hx => (c.a x hx).elim fun v hv => hn x v hv, fun x hx => (nomatch c.p x hx),
   fun x hx => (c.m x hx).elim fun _ e => (nomatch e.1), hn⟩

theorem LS3.free_after_unredirect {ts ws rd} (h : LS3 ts ws rd) {t : TaskId} {v w0 : Nat} {wk wk' : Worker}
    (hs : stOf ts t = some (.retracting w0))
    (hr : (t, wk'.id, v) ∈ rd) (hw : findWorker ws wk'.id = some wk)
    (hA : wAsg wk' = (wAsg wk).erase t) (hP : wPre wk' = wPre wk) (hM : wMn wk' = wMn wk) :
    Free3 (putWorker ws wk') (rd.filter (·.1 ≠ t)) t := by
  have c := h.at hs
  have hndA : (wAsg wk).Nodup := asgW_of_find hw ▸ h.nda wk'.id
  refine (c.onlyAt (fun x hx => hx.elim fun v' hv' => (rd_unique h.d2 hv' hr).1) (fun x e => nomatch e)
    (fun l e => nomatch e)).free_put hw (hA ▸ hndA.not_mem_erase) ?_ ?_ (fun x v hx => (rd_filter_mem.mp hx).2 rfl)
  · rw [hP, ← preW_of_find hw]; exact fun hx => nomatch c.p _ hx
  · rw [hM, ← mnW_of_find hw]; exact fun hx => (c.m _ hx).elim fun _ e => nomatch e.1

theorem LS3.mv_unredirect {ts ws rd} (h : LS3 ts ws rd) {t : TaskId} {v : Nat} {wk wk' : Worker}
    (hr : (t, wk'.id, v) ∈ rd) (hw : findWorker ws wk'.id = some wk)
    (hA : wAsg wk' = (wAsg wk).erase t) (hP : wPre wk' = wPre wk) (hM : wMn wk' = wMn wk) :
    LS3 ts (putWorker ws wk') (rd.filter (·.1 ≠ t)) := by
  obtain ⟨w0, hs⟩ := h.d1 t _ v hr
  exact (h.mv_worker_shrink hw (hA ▸ List.erase_sublist) (hP ▸ List.Sublist.refl _) (fun _ e => hM ▸ e)).1.drop_redirects
    (h.free_after_unredirect hs hr hw hA hP hM).na

theorem LS3.free_after_removeSn {ts ws rd} (h : LS3 ts ws rd) {t : TaskId} {st : TS} {wk wk' : Worker}
    (hs : stOf ts t = some st) (hst : (∃ v, st = .assigned wk'.id v) ∨ (∃ v, st = .running wk'.id v))
    (hw : findWorker ws wk'.id = some wk)
    (hA : wAsg wk' = (wAsg wk).erase t) (hP : wPre wk' = wPre wk) (hM : wMn wk' = wMn wk) :
    Free3 (putWorker ws wk') rd t := by
  have c := h.at hs
  have hndA : (wAsg wk).Nodup := asgW_of_find hw ▸ h.nda wk'.id
  have loc : (∀ x, t ∈ asgW ws x → x = wk'.id) ∧ (∀ x, t ∉ preW ws x) ∧ (∀ x, mnW ws x ≠ some t) ∧
      ∀ x v, (t, x, v) ∉ rd := by
    rcases hst with ⟨v, rfl⟩ | ⟨v, rfl⟩ <;>
      exact ⟨fun x hx => (c.a x hx).symm, fun x hx => (nomatch c.p x hx),
        fun x hx => (c.m x hx).elim fun _ e => (nomatch e.1), fun x v hx => (c.r x v hx).elim fun _ e => nomatch e⟩
  obtain ⟨la, lp, lm, lr⟩ := loc
  exact OnlyAt.free_put ⟨la, fun x hx => absurd hx (lp x), fun x hx => absurd hx (lm x)⟩ hw (hA ▸ hndA.not_mem_erase)
    (by rw [hP, ← preW_of_find hw]; exact lp _) (by rw [hM, ← mnW_of_find hw]; exact lm _) lr

theorem LS3.free_after_removePrefill {ts ws rd} (h : LS3 ts ws rd) {t : TaskId} {wk wk' : Worker}
    (hs : stOf ts t = some (.prefilled wk'.id)) (hw : findWorker ws wk'.id = some wk)
    (hA : wAsg wk' = wAsg wk) (hP : wPre wk' = (wPre wk).erase t) (hM : wMn wk' = wMn wk) :
    Free3 (putWorker ws wk') rd t := by
  have c := h.at hs
  have hndP : (wPre wk).Nodup := preW_of_find hw ▸ h.ndp wk'.id
  refine (c.onlyAt (fun x hx => hx.elim) (fun x e => by cases e; rfl) (fun l e => nomatch e)).free_put hw ?_
    (hP ▸ hndP.not_mem_erase) ?_ (fun x v hx => (c.r x v hx).elim fun _ e => nomatch e)
  · rw [hA, ← asgW_of_find hw]; exact fun hx => (c.a _ hx).elim
  · rw [hM, ← mnW_of_find hw]; exact fun hx => (c.m _ hx).elim fun _ e => nomatch e.1

/-- a free task gets a reservation on `w` (Waiting → Assigned, Retracting with a new redirect, Retracting → Running) -/
theorem LS3.mv_assign {ts ws rd rd'} (h : LS3 ts ws rd) {t' told : Task} {wk wk' : Worker}
    (ht : findTask ts t'.id = some told) (hf : Free3 ws rd t'.id)
    (hw : findWorker ws wk'.id = some wk) (hni : t'.id ∉ wAsg wk)
    (hA : wAsg wk' = wAsg wk ++ [t'.id]) (hP : wPre wk' = wPre wk) (hM : wMn wk' = wMn wk)
    (hrd : ∀ u x v, u ≠ t'.id → ((u, x, v) ∈ rd' ↔ (u, x, v) ∈ rd))
    (hr : ∀ x v, (t'.id, x, v) ∈ rd' → ∃ w0, t'.state = .retracting w0)
    (hh : Holds rd' wk'.id t'.id t'.state)
    (hd2 : (rd'.map (·.1)).Nodup) :
    LS3 (putTask ts t') (putWorker ws wk') rd' := by
  have hndA : (wAsg wk).Nodup := asgW_of_find hw ▸ h.nda wk'.id
  refine h.mv_at ht hw (hf.onlyAt _) (fun u hu => hA ▸ mem_append_singleton_of_ne hu) (fun u _ => hP ▸ Iff.rfl)
    (fun u _ => hM ▸ Iff.rfl) hrd (fun _ => hh) ?_ ?_ hr hd2 (hA ▸ nodup_append_singleton hndA hni)
    (hP ▸ preW_of_find hw ▸ h.ndp wk'.id)
  · rw [hP, ← preW_of_find hw]; exact fun hx => absurd hx (hf.np _)
  · rw [hM, ← mnW_of_find hw]; exact fun hx => absurd hx (hf.nm _)

theorem LS3.mv_prefill {ts ws rd} (h : LS3 ts ws rd) {t' told : Task} {wk wk' : Worker}
    (ht : findTask ts t'.id = some told) (hf : Free3 ws rd t'.id) (hs' : t'.state = .prefilled wk'.id)
    (hw : findWorker ws wk'.id = some wk)
    (hA : wAsg wk' = wAsg wk) (hP : wPre wk' = wPre wk ++ [t'.id]) (hM : wMn wk' = wMn wk) :
    LS3 (putTask ts t') (putWorker ws wk') rd := by
  have hndP : (wPre wk).Nodup := preW_of_find hw ▸ h.ndp wk'.id
  have hnp : t'.id ∉ wPre wk := preW_of_find hw ▸ hf.np wk'.id
  refine h.mv_at ht hw (hf.onlyAt _) (fun u _ => hA ▸ Iff.rfl) (fun u hu => hP ▸ mem_append_singleton_of_ne hu)
    (fun u _ => hM ▸ Iff.rfl) (fun _ _ _ _ => Iff.rfl) ?_ (fun _ => hs') ?_ (fun x v hx => absurd hx (hf.nr x v)) h.d2
    (hA ▸ asgW_of_find hw ▸ h.nda wk'.id) (hP ▸ nodup_append_singleton hndP hnp)
  · rw [hA, ← asgW_of_find hw]; exact fun hx => absurd hx (hf.na _)
  · rw [hM, ← mnW_of_find hw]; exact fun hx => absurd hx (hf.nm _)

end HqModel.Core
