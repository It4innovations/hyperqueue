import HqModel.Props.C09Core
import HqModel.Props.Sys
import HqModel.Lemmas.SysJobGrow
/-!
The progress theorem of the core (`Props/C09Core.lean`) lifted to the composed system `Sys`. `OpNPc` / `RunNPc` — the
input conditions of that theorem (`Core.OpNP`) and the exclusion of finding F27 (`Core.OpExcl`), judged on the core
operation the step hands over (`coreOpOf`), in the core state it is applied to: hypotheses of the composed theorems,
decidable. `NPX.GoodU U s` — the invariant of the composed run: `Core.CoreGood U s.core` for the ghost list `U` of all task
ids handed to the core so far, `StateWF s.job`, and every id of `U` still `Known` to the job layer; the last clause makes
`NoIdReuse` a theorem here (`submit_fresh`). `good_step`, `good_no_core_panic`, `run_good`.
-/
namespace HqModel.Sys
open HqModel

def NPcOf (c : Core.State) : Option Core.Op → Prop
  | some cop => Core.OpNP c cop ∧ Core.OpExcl c cop
  | none => True

instance (c : Core.State) (o : Option Core.Op) : Decidable (NPcOf c o) := by
  cases o <;> simp only [NPcOf] <;> infer_instance

/-- the core operation the step hands to the core (if any) satisfies the input conditions `Core.OpNP` of the core's progress
theorem (fresh worker id, known lost worker, `RetsOk`, `NewTasksOk`, duplicate-free cancel list, the worker protocol
`UpdNP` on every update, `SolOk`) and the exclusion `Core.OpExcl` (finding F27), judged in the core state the operation is
applied to -/
def OpNPc (s : State) (op : Op) : Prop := NPcOf s.core (coreOpOf s op)

instance (s : State) (op : Op) : Decidable (OpNPc s op) := by unfold OpNPc; infer_instance

/-- `OpNPc` holds for every action of a run, each evaluated in the state it is applied to (as `RunOk`) -/
def RunNPc (s : State) : List Op → Prop
  | [] => True
  | op :: ops =>
    OpNPc s op ∧
    match step s op with
    | .ok (s1, _) => RunNPc s1 ops
    | .error _ => True

instance RunNPc.decidable : ∀ (ops : List Op) (s : State), Decidable (RunNPc s ops)
  | [], _ => isTrue trivial
  | op :: ops, s => by
    simp only [RunNPc]
    cases h : step s op with
    | error e => simp only; infer_instance
    | ok r =>
      obtain ⟨s1, o⟩ := r
      simp only
      have := RunNPc.decidable ops s1
      infer_instance

namespace NPX
open HqModel.Job (StateWF)

theorem cbStep_not_core {js : Job.State} {rets : List (List TaskId)} {cb : Core.Cb} {site : String} :
    cbStep js rets cb ≠ .error (.core site) := by
  fun_cases cbStep js rets cb <;> intro h <;> cases h

theorem route_not_core : ∀ (cbs : List Core.Cb) (js : Job.State) (rets : List (List TaskId)) (site : String),
    route js rets cbs ≠ .error (.core site) := by
  intro cbs
  induction cbs with
  | nil => intro js rets site h; simp only [route] at h; cases h
  | cons cb rest ih =>
    intro js rets site h
    simp only [route] at h
    split at h
    · rename_i e he
      cases h
      exact cbStep_not_core he
    · split at h
      · rename_i e he
        cases h
        exact ih _ _ _ he
      · cases h

theorem coreStep_core_err {s : State} {cop : Core.Op} {rets : List (List TaskId)} {evs0 : List Job.Ev} {resp : Resp}
    {site : String} (h : coreStep s cop rets evs0 resp = .error (.core site)) :
    Core.step s.core cop = .error (.panic site) := by
  simp only [coreStep] at h
  split at h
  · rename_i site' hs
    cases h
    exact hs
  · split at h
    · rename_i e he
      cases h
      exact absurd he (route_not_core _ _ _ _)
    · split at h <;> cases h

/-- **`Stop.core` arises only from a panic / refusal of `Core.step` on the operation handed over** -/
theorem step_core_err {s : State} {op : Op} {site : String} (h : step s op = .error (.core site)) :
    ∃ cop, coreOpOf s op = some cop ∧ Core.step s.core cop = .error (.panic site) := by
  rcases step_cases s op with ⟨cop, js, rets, evs0, resp, hc, -, -, hs, -⟩ | ⟨-, ⟨e, he, hn⟩ | ⟨_, _, _, -, hs⟩⟩
  · exact ⟨cop, hc, coreStep_core_err (s := { s with job := js }) (hs ▸ h)⟩
  · rw [he] at h; cases h; exact absurd rfl (hn site)
  · rw [hs] at h; cases h

/-- an action that hands nothing to the core neither stops in the core nor changes it -/
theorem step_noreach {s : State} {op : Op} (hc : coreOpOf s op = none) :
    (∀ site, step s op ≠ .error (.core site)) ∧ ∀ s' o, step s op = .ok (s', o) → s'.core = s.core := by
  rcases step_cases s op with ⟨_, _, _, _, _, hc', -⟩ | ⟨-, ⟨e, he, hn⟩ | ⟨js, _, _, -, hs⟩⟩
  · rw [hc] at hc'; cases hc'
  · exact ⟨fun site h => (by rw [he] at h; cases h; exact hn site rfl), fun _ _ h => (by rw [he] at h; cases h)⟩
  · exact ⟨fun _ h => (by rw [hs] at h; cases h), fun _ _ h => (by rw [hs] at h; cases h; rfl)⟩

/-- what `coreOpOf` hands over is the core operation `Sys.coreOp` reads off the action -/
theorem coreOpOf_coreOp {s : State} {op : Op} {cop : Core.Op} (hc : coreOpOf s op = some cop) : coreOp op = some cop := by
  rcases step_cases s op with ⟨_, _, _, _, _, hc', hco, -⟩ | ⟨hn, -⟩
  · rw [hc] at hc'; cases hc'; exact hco
  · rw [hn] at hc; cases hc

structure GoodU (U : List TaskId) (s : State) : Prop where
  core : Core.CoreGood U s.core
  wf : StateWF s.job
  known : ∀ x ∈ U, Known s.job x

theorem goodU_initState (reserve max : Nat) : GoodU [] (initState reserve max) := by
  refine ⟨⟨(coupled_initState reserve max).inv, ?_, Core.npInv_initState reserve max⟩, Job.init_wf, fun x hx => by cases hx⟩
  exact Core.qinv_init

/-- what `Core.coreGood_step` / `c09_core_step_no_panic` ask of the operation handed over: the input conditions, and its new
ids are pairwise distinct, unknown to the job layer before the submit (hence not in `U`) and known after it -/
theorem reach_ok {U : List TaskId} {s : State} {op : Op} {cop : Core.Op} {js : Job.State} {evs0 : List Job.Ev}
    (hg : GoodU U s) (hok : OpOk s op) (hnp : OpNPc s op) (hc : coreOpOf s op = some cop) (hco : coreOp op = some cop)
    (hcase : (∀ nts, cop ≠ .newTasks nts) ∨ ∃ job mf desc j nts, cop = .newTasks nts ∧
      s.job.submit job mf desc = .ok (js, evs0, .ok j, nts.map (·.id))) :
    Core.OpOk2q s.core cop ∧ Core.OpNP s.core cop ∧ Core.OpExcl s.core cop ∧ (∀ x ∈ cop.newIds, x ∉ U) ∧
      cop.newIds.Nodup ∧ ∀ x ∈ cop.newIds, Known js x := by
  have hnp' : Core.OpNP s.core cop ∧ Core.OpExcl s.core cop := by
    unfold OpNPc at hnp; rw [hc] at hnp; exact hnp
  refine ⟨(opOk2_of_opOk hok hco).ok2q, hnp'.1, hnp'.2, ?_⟩
  rcases hcase with h0 | ⟨job, mf, desc, j, nts, rfl, hj⟩
  · have : cop.newIds = [] := by cases cop <;> first | rfl | exact absurd rfl (h0 _)
    rw [this]
    exact ⟨fun x hx => (by cases hx), List.nodup_nil, fun x hx => (by cases hx)⟩
  · obtain ⟨hnd, hfr, hkn⟩ := submit_fresh hg.wf hj
    exact ⟨fun x hx hu => hfr x hx (hg.known x hu), hnd, hkn⟩

/-- a stop `Stop.core site` is a `!…` refusal of an invalid recorded input -/
theorem good_no_core_panic {U : List TaskId} {s : State} {op : Op} (hg : GoodU U s) (hok : OpOk s op)
    (hnp : OpNPc s op) (site : String) (h : step s op = .error (.core site)) : site.startsWith "!" = true := by
  rcases step_cases s op with ⟨cop, js, rets, evs0, resp, hc, hco, _, hs, hcase⟩ | ⟨_, ⟨e, he, hne⟩ | ⟨_, _, _, _, hs⟩⟩
  · obtain ⟨h1, h2, h3, hf, hnd, -⟩ := reach_ok hg hok hnp hc hco hcase
    rw [hs] at h
    exact C09.c09_core_step_no_panic hg.core h1 h2 h3 hf hnd site (coreStep_core_err (s := { s with job := js }) h)
  · rw [he] at h; cases h; exact absurd rfl (hne site)
  · rw [hs] at h; cases h

theorem good_step {U : List TaskId} {s s' : State} {op : Op} {o : Out} (hg : GoodU U s) (hok : OpOk s op)
    (hnp : OpNPc s op) (h : step s op = .ok (s', o)) : ∃ U', GoodU U' s' := by
  have hjr := step_job_run h
  have hwf' : StateWF s'.job := Job.run_wf _ hg.wf hjr
  have hgrow := run_jgrow _ hjr
  rcases step_cases s op with ⟨cop, js, rets, evs0, resp, hc, hco, _, hs, hcase⟩ | ⟨hc, ⟨e, he, _⟩ | ⟨_, _, _, _, hs⟩⟩
  · obtain ⟨h1, h2, h3, hf, hnd, hkn⟩ := reach_ok hg hok hnp hc hco hcase
    rw [hs] at h
    have hcs : Core.step s.core cop = .ok (s'.core, o.core) := coreStep_core (s := { s with job := js }) h
    refine ⟨_, Core.coreGood_step hg.core h1 h2 h3 hf hnd hcs, hwf', fun x hx => ?_⟩
    rcases List.mem_append.mp hx with hx | hx
    · exact hgrow.known (hg.known x hx)
    · obtain ⟨evs2, _, hr2⟩ := coreStep_job_run h
      exact (run_jgrow _ hr2).known (hkn x hx)
  · rw [he] at h; cases h
  · rw [hs] at h; cases h
    exact ⟨U, hg.core, hwf', fun x hx => hgrow.known (hg.known x hx)⟩

theorem run_good (ops : List Op) : ∀ {s : State}, (∃ U, GoodU U s) → RunOk s ops → RunNPc s ops →
    (∀ s' outs, run s ops = .ok (s', outs) → ∃ U, GoodU U s') ∧
    ∀ site, run s ops = .error (.core site) → site.startsWith "!" = true := by
  induction ops with
  | nil => intro s hg _ _; exact ⟨fun s' outs h => by cases h; exact hg, nofun⟩
  | cons op rest ih =>
    intro s ⟨U, hg⟩ hok hnp
    simp only [run]
    cases hs : step s op with
    | error e => exact ⟨nofun, fun site h => by cases h; exact good_no_core_panic hg hok.1 hnp.1 site hs⟩
    | ok r =>
      obtain ⟨s1, o1⟩ := r
      simp only [RunOk, hs] at hok
      simp only [RunNPc, hs] at hnp
      obtain ⟨ih1, ih2⟩ := ih (good_step hg hok.1 hnp.1 hs) hok.2 hnp.2
      simp only
      cases hr : run s1 rest with
      | error e => exact ⟨nofun, fun site h => by cases h; exact ih2 site hr⟩
      | ok r2 => exact ⟨fun s' outs h => by cases h; exact ih1 _ _ hr, nofun⟩

end NPX

end HqModel.Sys
