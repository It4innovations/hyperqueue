import HqModel.Lemmas.CoreNoPanicFrame
import HqModel.Lemmas.CoreActUpd
/-!
The frame relation `Fr` for the handlers of `Core/Reactor.lean`, except `newWorker`, `newRq`, `addNewTasks`, `newTasks`,
which do not fit the frame relation (`CoreNoPanicFrameStep.lean`). Every act of the reactor but those is a frame
(`Act.fr`). `process_retracted` and the update handlers that call it are read off their chain of acts (`Fr True` only);
the functions whose frame holds for every `all`, and `removeWorker_fr` (its chain of acts would ask for duplicate-free
worker lists), are the chain of the frames of the steps their path lemma lists.
-/
namespace HqModel.Core.NPA

open HqModel.Core.NP

theorem resetMnAll_fr {all : Prop} : ∀ (ws : List Nat) (s s' : State), resetMnAll s ws = .ok s' → Fr all s s'
  | [], s, _, h => by cases h; exact Fr.refl _ s
  | w :: rest, s, s', h => by
    obtain ⟨wk, hw, h1⟩ := resetMnAll_cons_ok h
    exact (setWorker_fr (wk' := wk.emptySn) hw rfl rfl (fun _ => freeOk_emptySn wk)).trans (resetMnAll_fr rest _ _ h1)

theorem resetMnChecked_fr {all : Prop} (ws : List Nat) (s s' : State) (id : TaskId)
    (h : resetMnChecked s id ws = .ok s') : Fr all s s' :=
  resetMnAll_fr ws s s' (resetMnChecked_resetMnAll ws h)

theorem release_fr {all : Prop} {s s1 : State} {id : TaskId} {task : Task} (h : Release s id task s1) :
    Fr all s s1 := by
  cases h with
  | keep => exact Fr.refl _ _
  | sn _ _ h => exact withWorker_fr (wop_removeSn _ _) h
  | pre _ h1 h2 => exact (removePrefilled_fr h1).trans (withWorker_fr (wop_removePrefill _) h2)
  | retr _ h => exact tryRemoveRedirection_fr h
  | mn _ h => exact resetMnAll_fr _ _ _ h

/-- a record goes back to Waiting and into its ready queue: nothing is held afterwards -/
theorem requeued_fr {all : Prop} {s s2 : State} {told t' : Task} {id : TaskId} {n : Nat} {r : List TaskId}
    (ht : findTask s.tasks id = some told) (h : Requeued s t' s2 r) (hid : t'.id = told.id) (hrq : t'.rq = told.rq)
    (hst : t'.state = .waiting n) : Fr all s s2 :=
  (Fr.setFree ht hid hrq (Or.inl ⟨n, hst⟩)).trans (addReady_fr h)

/-- a Retracting task whose redirect is resolved: the redirect is removed, the task is Assigned to the target -/
theorem resolve_fr {all : Prop} {s : State} {task tn : Task} {id t0 : TaskId} {w' target trv : Nat}
    (ht : findTask s.tasks id = some task) (hs : task.state = .retracting w')
    (hfind : s.redirects.find? (·.1 = id) = some (t0, target, trv))
    (hid : tn.id = task.id) (hrq : tn.rq = task.rq) (hst : tn.state = .assigned target trv) :
    Fr all s (State.setTask { s with redirects := s.redirects.filter (·.1 ≠ id) } tn) := by
  have hmem := rd_mem_of_find hfind
  have ht0 : t0 = id := by simpa using hmem.2
  subst ht0
  have hidt : task.id = t0 := findTask_some_id ht
  refine Fr.of_put (told := task) rfl rfl (WFr.refl _) rfl (fun x hx => (List.mem_filter.mp hx).1)
    (findTask_some_mem ht) hid hrq (mnOkS_of_not_mn (by rw [hst]; intro ws e; cases e))
    (fun _ => Or.inl (by rw [hs]; trivial)) ?_
  intro w v hh
  rw [hst] at hh
  rcases hh with hh | hh | ⟨⟨_, hh⟩, _⟩
  · cases hh
    exact Or.inl (Or.inl (Or.inr (Or.inr ⟨⟨w', hs⟩, by rw [hidt]; exact hmem.1⟩)))
  · cases hh
  · cases hh

theorem cancelLoop_fr {all : Prop} : ∀ (ids : List TaskId) (s s' : State) (u u' : List TaskId)
    (r r' : List (Nat × List TaskId)), s.cancelLoop ids u r = .ok (s', u', r') → Fr all s s'
  | [], s, _, _, _, _, _, h => by cases h; exact Fr.refl _ s
  | id :: rest, s, s', u, u', r, r', h => by
    rcases cancelLoop_cons_ok h with ⟨-, h1⟩ | ⟨task, cons, s1, r1, -, -, harm, h1⟩
    · exact cancelLoop_fr rest _ _ _ _ _ _ h1
    · obtain ⟨s0, hr, rfl | rfl⟩ := harm.release
      · exact ((release_fr hr).trans (Fr.ask s0)).trans (cancelLoop_fr rest _ _ _ _ _ _ h1)
      · exact (release_fr hr).trans (cancelLoop_fr rest _ _ _ _ _ _ h1)

theorem removeTasksBatched_fr {all : Prop} : ∀ (ids : List TaskId) (s s' : State),
    s.removeTasksBatched ids = .ok s' → Fr all s s'
  | [], s, _, h => by cases h; exact Fr.refl _ s
  | id :: rest, s, s', h => by
    obtain ⟨s1, st, h1, h2⟩ := removeTasksBatched_cons_ok h
    exact (removeTask_fr h1).trans (removeTasksBatched_fr rest _ _ h2)

theorem cancelTasks_fr {all : Prop} {s s' : State} {ids : List TaskId} {o : Out}
    (h : s.cancelTasks ids = .ok (s', o)) : Fr all s s' := by
  obtain ⟨s1, unreg, running, h1, h2, -⟩ := cancelTasks_path h
  exact (cancelLoop_fr _ _ _ _ _ _ _ h1).trans (removeTasksBatched_fr _ _ _ h2)

theorem removeWaitingAll_fr {all : Prop} (ids : List TaskId) (s s' : State)
    (h : s.removeWaitingAll ids = .ok s') : Fr all s s' :=
  removeTasksBatched_fr ids s s' (removeWaitingAll_batched ids h)

theorem taskFailed_fr {all : Prop} {s s' : State} {worker : Option Nat} {id : TaskId} {ret : List TaskId} {o : Out}
    (h : s.taskFailed worker id ret = .ok (s', o)) : Fr all s s' := by
  rcases taskFailed_path h with ⟨-, rfl, -⟩ | ⟨task, s1, cons, s2, s3, st, -, hp, -, h2, h3, h4⟩
  · exact Fr.refl _ _
  · have a : Fr all s s3 := ((release_fr hp).trans (removeWaitingAll_fr _ _ _ h2)).trans (removeTask_fr h3)
    rcases h4 with ⟨-, rfl, -⟩ | ⟨o2, -, h4, -⟩
    · exact a
    · exact a.trans (cancelTasks_fr h4)

theorem idxOk_of_runIdx {s : State} {w rq rv : Nat} (h : RunIdx s w rq rv) : IdxOk s w rq rv := by
  obtain ⟨r, wk, hr, hw, hidx⟩ := h.elim
  refine IdxOk.intro hr ?_
  intro wk' hw' e he
  rw [hw] at hw'; cases hw'
  exact hidx e he

/-- a single-node task starts running: the worker held it with this variant, or the variant is index-correct -/
theorem Fr.setRunning {all : Prop} {s : State} {task : Task} {id : TaskId} {w rv : Nat}
    (ht : findTask s.tasks id = some task) (hsn : snState task.state)
    (hh : task.state = .assigned w rv ∨ IdxOk s w task.rq rv) :
    Fr all s (s.setTask { task with state := .running w rv }) := by
  refine Fr.setTask ht rfl rfl (mnOkS_of_not_mn (by intro ws e; cases e)) (fun _ => Or.inl hsn) ?_
  rintro w0 v0 (h0 | h0 | ⟨⟨_, h0⟩, _⟩)
  · cases h0
  · cases h0
    exact hh.imp (fun hs => Or.inl (Or.inl hs)) (fun hi => hi)
  · cases h0

/-- a Running message about a Prefilled / Retracting task names a variant the reporting worker has the slots for -/
def RunFits (s : State) (w : Nat) (id : TaskId) (rv : Nat) : Prop :=
  ∀ task, s.task? id = some task → ((∃ x, task.state = .prefilled x) ∨ ∃ x, task.state = .retracting x) →
    IdxOk s w task.rq rv

theorem RunFits.of_updNP {s : State} {w : Nat} {id : TaskId} {rv : Nat}
    (hnp : UpdNP s w (.running id rv) ∨ UpdNP s w (.runningPrefilled id rv)) : RunFits s w id rv := by
  intro task ht hs
  rcases hnp with ⟨-, h2⟩ | ⟨-, h2⟩ <;> simp only [ht] at h2 <;>
    rcases hs with ⟨x, e⟩ | ⟨x, e⟩ <;> rw [e] at h2 <;> exact idxOk_of_runIdx h2.2

theorem _root_.HqModel.Core.RunningArm.fr {all : Prop} {s s' : State} {w : Nat} {id : TaskId} {rv : Nat} {task : Task}
    {ws : List Nat} (harm : RunningArm s w id rv task s' ws) (ht : s.task? id = some task) (hS : RunFits s w id rv) :
    Fr all s s' := by
  cases harm with
  | assigned hs => exact Fr.setRunning ht (by rw [hs]; trivial) (Or.inl hs)
  | prefilled hs _ h1 hq =>
    exact ((Fr.setRunning ht (by rw [hs]; trivial) (Or.inr (hS task ht (.inl ⟨_, hs⟩)))).trans
      (withWorker_fr (wop_prefilledToStarted _ _) h1)).trans (queueRemove_fr hq)
  | retracting hs hq hr _ hw =>
    exact (((((Fr.setRunning ht (by rw [hs]; trivial) (Or.inr (hS task ht (.inr ⟨_, hs⟩)))).trans (Fr.ask _)).trans
      (queueRemove_fr hq)).trans (tryRemoveRedirection_fr hr)).trans (withWorker_fr (wop_insertSn _ _) hw))
  | mn _ hw hk =>
    rcases hk with ⟨t, r, st, ha, rfl⟩ | ⟨-, rfl⟩
    · exact setWorker_fr hw rfl rfl (fun _ A F P e => by cases e)
    · exact setWorker_fr hw rfl rfl (fun h => h)

/-- `task_running`; `UpdNP` is used for a Prefilled / Retracting task, whose variant the worker chooses -/
theorem taskRunning_fr {all : Prop} {s s' : State} {w : Nat} {id : TaskId} {rv : Nat} {o : Out}
    (hnp : UpdNP s w (.running id rv)) (h : s.taskRunning w id rv = .ok (s', o)) : Fr all s s' := by
  rcases taskRunning_cases h with ⟨-, rfl, -⟩ | ⟨task, ws, ht, harm, -⟩
  · exact Fr.refl _ _
  · exact harm.fr ht (.of_updNP (.inl hnp))

theorem wakeConsumers_fr {all : Prop} : ∀ (cs : List TaskId) (s s' : State) (r r' : List TaskId),
    s.wakeConsumers cs r = .ok (s', r') → Fr all s s'
  | [], s, _, _, _, h => by cases h; exact Fr.refl _ s
  | c :: rest, s, s', r, r', h => by
    obtain ⟨t, n, ht, -, hstep⟩ := wakeConsumers_cons_ok h
    rcases hstep with ⟨-, s2, r2, hq, h2⟩ | ⟨-, h2⟩
    · exact (requeued_fr ht hq rfl rfl rfl).trans (wakeConsumers_fr rest _ _ _ _ h2)
    · exact (Fr.setFree (tn := { t with state := .waiting n }) ht rfl rfl (Or.inl ⟨n, rfl⟩)).trans
        (wakeConsumers_fr rest _ _ _ _ h2)

theorem requestEnabled_fr {all : Prop} {s s' : State} {w rq rv : Nat} (h : s.requestEnabled w rq rv = .ok s') :
    Fr all s s' := withWorker_fr (wop_unblock rq rv) h

theorem retractLoop_fr {all : Prop} : ∀ (ids : List TaskId) (s s' : State) (w : Nat)
    (acc acc' : List (Nat × TaskId × Nat)), s.retractLoop w ids acc = .ok (s', acc') → Fr all s s'
  | [], s, _, _, _, _, h => by cases h; exact Fr.refl _ s
  | id :: rest, s, s', w, acc, acc', h => by
    rcases retractLoop_cons_ok h with ⟨-, h1⟩ | ⟨task, ht, hs, ⟨target, trv, hfind, h1⟩ | ⟨-, h1⟩⟩
    · exact retractLoop_fr rest _ _ _ _ _ h1
    · exact (resolve_fr (tn := { task with state := .assigned target trv }) ht hs hfind rfl rfl rfl).trans
        (retractLoop_fr rest _ _ _ _ _ h1)
    · exact (Fr.setFree (tn := { task with state := .waiting 0 }) ht rfl rfl (Or.inl ⟨0, rfl⟩)).trans
        (retractLoop_fr rest _ _ _ _ _ h1)

theorem retractResponse_fr {all : Prop} {s s' : State} {w : Nat} {ids : List TaskId} {o : Out}
    (h : s.retractResponse w ids = .ok (s', o)) : Fr all s s' := by
  obtain ⟨items, msgs, h1, -, -⟩ := retractResponse_path h
  exact retractLoop_fr _ _ _ _ _ _ h1

theorem lostPrefilled_fr {all : Prop} : ∀ (ids : List TaskId) (s s' : State), s.lostPrefilled ids = .ok s' →
    Fr all s s'
  | [], s, _, h => by cases h; exact Fr.refl _ s
  | id :: rest, s, s', h => by
    obtain ⟨task, s2, ht, hm, h2⟩ := lostPrefilled_cons_ok h
    exact ((Fr.setFree (tn := { task with inst := task.inst + 1, state := .waiting 0 }) ht rfl rfl
      (Or.inl ⟨0, rfl⟩)).trans (movePrefilledToReady_fr hm)).trans (lostPrefilled_fr rest _ _ h2)

/-- a Retracting task with a redirect to the lost worker: the redirect is dropped, the state is kept, the id is queued -/
theorem lostRedirect_fr {all : Prop} {s s2 : State} {id : TaskId} {task : Task} {r : List TaskId}
    (ht : s.task? id = some task)
    (hq : Requeued { s with redirects := s.redirects.filter (·.1 ≠ id) } { task with inst := task.inst + 1 } s2 r) :
    Fr all s s2 :=
  Fr.trans (b := { s with redirects := s.redirects.filter (·.1 ≠ id) })
    (Fr.of_same rfl rfl (WFr.refl _) (fun _ hx => (List.mem_filter.mp hx).1) rfl)
    ((Fr.setSame (s := { s with redirects := s.redirects.filter (·.1 ≠ id) }) (tn := { task with inst := task.inst + 1 })
      (id := id) ht rfl rfl rfl).trans (addReady_fr hq))

theorem lostAssigned_fr {all : Prop} : ∀ (ids : List TaskId) (s s' : State) (ru ru' re re' : List TaskId),
    s.lostAssigned ids ru re = .ok (s', ru', re') → Fr all s s'
  | [], s, _, _, _, _, _, h => by cases h; exact Fr.refl _ s
  | id :: rest, s, s', ru, ru', re, re', h => by
    obtain ⟨task, s0, t', running', s2, r, ht, hcase, hq, h2⟩ := lostAssigned_cons_ok h
    refine Fr.trans ?_ (lostAssigned_fr rest _ _ _ _ _ _ h2)
    cases hcase with
    | retracting => exact lostRedirect_fr ht hq
    | _ => exact requeued_fr ht hq rfl rfl rfl

theorem lostRetracting_fr {all : Prop} : ∀ (l : List Task) (s s' : State) (w : Nat) (o o' : Out),
    s.lostRetracting w l o = .ok (s', o') → Fr all s s'
  | [], s, _, _, _, _, h => by cases h; exact Fr.refl _ s
  | t0 :: rest, s, s', w, o, o', h => by
    rcases lostRetracting_cons_ok h with ⟨-, h1⟩ | ⟨task, ht, hs, ⟨target, trv, hfind, h1⟩ | ⟨-, h1⟩⟩
    · exact lostRetracting_fr rest _ _ _ _ _ h1
    · exact (resolve_fr (tn := { task with inst := task.inst + 1, state := .assigned target trv })
        (findTask_some_id ht ▸ ht : s.task? task.id = some task) hs hfind rfl rfl rfl).trans
        (lostRetracting_fr rest _ _ _ _ _ h1)
    · exact (Fr.setFree (tn := { task with inst := task.inst + 1, state := .waiting 0 }) ht rfl rfl
        (Or.inl ⟨0, rfl⟩)).trans (lostRetracting_fr rest _ _ _ _ _ h1)

theorem crashLoop_fr {all : Prop} : ∀ (ids : List TaskId) (s s' : State) (f : Bool) (rets : List (List TaskId))
    (o o' : Out), s.crashLoop f ids rets o = .ok (s', o') → Fr all s s'
  | [], s, _, _, _, _, _, h => by cases h; exact Fr.refl _ s
  | id :: rest, s, s', f, rets, o, o', h => by
    rcases crashLoop_cons_ok h with ⟨-, h1⟩ | ⟨task, ht, hstep⟩
    · exact crashLoop_fr rest _ _ _ _ _ _ h1
    · have f1 : Fr all s (s.setTask { task with crashes := (crashOutcome task.crashLimit f task.crashes).1 }) :=
        Fr.setSame ht rfl rfl rfl
      rcases hstep with ⟨-, s2, o2, hf, h3⟩ | ⟨-, h3⟩
      · exact (f1.trans (taskFailed_fr hf)).trans (crashLoop_fr rest _ _ _ _ _ _ h3)
      · exact f1.trans (crashLoop_fr rest _ _ _ _ _ _ h3)

/-- a multi-node task loses a worker that is not its root -/
theorem shrinkMn_fr {all : Prop} {s : State} {w : Nat} {id : TaskId} {task : Task} {root : Nat} {others : List Nat}
    (ht : s.task? id = some task) (hs : task.state = .runningMN (root :: others)) (hroot : root ≠ w) :
    Fr all s (s.setTask { task with state := .runningMN ((root :: others).filter (· ≠ w)) }) := by
  refine Fr.setTask (tn := { task with state := .runningMN ((root :: others).filter (· ≠ w)) }) ht rfl rfl
    ?_ (fun h => h.elim) ?_
  · intro hm ws' e
    cases e
    refine ⟨fun e => ?_, (hm _ hs).2.filter _⟩
    have : root ∈ (root :: others).filter (· ≠ w) := by
      simp only [List.mem_filter, List.mem_cons, true_or, ne_eq, decide_eq_true_eq, true_and]
      exact hroot
    rw [e] at this
    cases this
  · rintro w0 v0 (hh | hh | ⟨⟨_, hh⟩, _⟩) <;> cases hh

theorem dropWorker_fr {all : Prop} (s : State) (w : Nat) :
    Fr all s { s with workers := s.workers.filter (·.id ≠ w) } :=
  Fr.of_same rfl rfl (WFr.filter _ _) (fun _ h => h) rfl

/-- the tasks of the lost worker go back to their queues; a multi-node task whose root is another worker only
loses the worker from its list -/
theorem lossPart1_fr {all : Prop} {s0 s1 : State} {w : Nat} {a : Assign} {order running retracted : List TaskId}
    (h : NPL.lossPart1 s0 w a order = .ok (s1, running, retracted)) : Fr all s0 s1 := by
  rcases lossPart1_cases h with ⟨A, F, P, s01, -, -, hlp, hla⟩ |
    ⟨tid, isRoot, started, task, root, others, -, ht, hs, hcase⟩
  · exact (lostPrefilled_fr _ _ _ hlp).trans (lostAssigned_fr _ _ _ _ _ _ _ hla)
  · rcases hcase with ⟨-, s01, hr, hq, -⟩ | ⟨hroot, rfl, -, -⟩
    · exact (resetMnAll_fr _ _ _ hr).trans
        (requeued_fr (id := tid) (told := task) (by rw [resetMnAll_tasks _ _ _ hr]; exact ht) hq rfl rfl rfl)
    · exact shrinkMn_fr ht hs hroot

/-- what the frame is told: a `task_running` that books names a variant the worker has the slots for; the acts that add
a record, a worker or a request are not frames (`CoreNoPanicFrameStep.lean`) -/
def frSide : Side :=
  { Side.any with run := RunFits, fresh := fun _ _ => False, worker := fun _ _ => False, rq := fun _ => False }

theorem _root_.HqModel.Core.Act.fr {a b : Gh × State} (h : Act frSide a b) : Fr True a.2 b.2 := by
  cases h with
  | release _ h => exact release_fr h
  | finish ht => exact Fr.setFree ht rfl rfl (Or.inr rfl)
  | @wake _ _ _ _ _ _ _ _ _ n ht => exact Fr.setFree ht rfl rfl (Or.inl ⟨n, rfl⟩)
  | wakeReady ht _ h => exact requeued_fr ht h rfl rfl rfl
  | requeue _ ht _ _ h => exact requeued_fr ht h rfl rfl rfl
  | stale _ ht _ h => exact requeued_fr ht h rfl rfl rfl
  | @retract _ _ _ _ _ _ s s1 t task w ht hs hw' =>
    refine (withWorker_fr (wop_removePrefill t) hw').trans ?_
    have ht1 : findTask s1.tasks t = some task := by rw [withWorker_tasks hw']; exact ht
    refine Fr.setTask (tn := { task with state := .retracting w }) ht1 rfl rfl
      (mnOkS_of_not_mn (by intro ws e; cases e)) (fun _ => Or.inl (by rw [hs]; trivial)) ?_
    rintro w' v (hh | hh | ⟨-, hm⟩)
    · cases hh
    · cases hh
    · exact Or.inl (Or.inr ⟨trivial, hm⟩)
  | doom => exact Fr.refl _ _
  | erase h => exact removeTask_fr h
  | eraseW h => exact removeTask_fr h
  | eraseFin h => exact removeTask_fr h
  | resolve _ ht hs hf => exact resolve_fr ht hs hf rfl rfl rfl
  | unretract _ ht => exact Fr.setFree ht rfl rfl (Or.inl ⟨0, rfl⟩)
  | run ht h hS => exact h.fr ht hS
  | block _ hw' => exact setWorker_fr hw' rfl rfl (fun h => h)
  | ask => exact Fr.ask _
  | dropSn => exact dropWorker_fr _ _
  | dropMnRoot _ _ _ _ _ h => exact (dropWorker_fr _ _).trans (resetMnAll_fr _ _ _ h)
  | dropMnOther _ _ _ ht hs hr => exact (dropWorker_fr _ _).trans (shrinkMn_fr ht hs hr)
  | @lostPrefilled _ _ _ _ _ _ _ _ _ task ht _ _ h =>
    exact (Fr.setFree (tn := { task with inst := task.inst + 1, state := .waiting 0 }) ht rfl rfl
      (Or.inl ⟨0, rfl⟩)).trans (movePrefilledToReady_fr h)
  | lostRequeue ht _ _ _ h => exact requeued_fr ht h rfl rfl rfl
  | lostRedirect ht _ _ _ h => exact lostRedirect_fr ht h
  | crash _ ht => exact Fr.setSame ht rfl rfl rfl
  | newWaiting _ _ _ hU => exact hU.elim
  | newReady _ _ hU => exact hU.elim
  | newWorker _ hW => exact hW.elim
  | newRq _ hq => exact hq.elim

theorem _root_.HqModel.Core.Acts.fr {a b : Gh × State} (h : Acts frSide a b) : Fr True a.2 b.2 := by
  induction h with
  | refl => exact Fr.refl _ _
  | tail _ r ih => exact ih.trans r.fr

/-- `process_retracted` turns Prefilled into Retracting without looking at the redirect table: only `Fr True` -/
theorem processRetracted_fr (l : List TaskId) (s s' : State) (acc acc' : List (Nat × TaskId))
    (h : s.processRetracted l acc = .ok (s', acc')) : Fr True s s' :=
  (processRetracted_acts (sd := frSide) (D := []) (f := none) (p := []) (U := []) (L := []) l h).fr

theorem retract_fr {s s' : State} {l : List TaskId} {o : Out} (h : s.retract l = .ok (s', o)) : Fr True s s' :=
  (retract_acts (sd := frSide) (D := []) (f := none) (p := []) (U := []) (L := []) h).fr

theorem removeWorker_fr {s s' : State} {w : Nat} {reason : String} {f : Bool} {order : List TaskId}
    {rets : List (List TaskId)} {o : Out} (h : s.removeWorker w reason f order rets = .ok (s', o)) : Fr True s s' := by
  obtain ⟨wk, s1, s2, s3, s4, running, retracted, out1, out2, -, h1, h3, h4, h5, rfl⟩ := removeWorker_phases h
  exact (((((dropWorker_fr s w).trans (lossPart1_fr h1)).trans (lostRetracting_fr _ _ _ _ _ _ h3)).trans (retract_fr h4)).trans
    (crashLoop_fr _ _ _ _ _ _ _ h5)).trans (Fr.ask s4)

theorem taskFinished_fr {s s' : State} {w : Nat} {id : TaskId} {o : Out} {b : Bool}
    (h : s.taskFinished w id = .ok (s', o, b)) : Fr True s s' :=
  (taskFinished_acts (U := []) (fun _ _ => trivial) h).fr

theorem taskReject_fr {s s' : State} {w : Nat} {id : TaskId} {rv : Option Nat} {o : Out} {b : Bool}
    (h : s.taskReject w id rv = .ok (s', o, b)) : Fr True s s' :=
  (taskReject_acts (U := []) (.inl trivial) h).fr

theorem updNP_frSide {s : State} {w : Nat} {u : Update} (hnp : UpdNP s w u) : UpdSide frSide s w u := by
  cases u with
  | reject => exact .inl trivial
  | finished => exact fun _ _ => trivial
  | running => exact .of_updNP (.inl hnp)
  | runningPrefilled => exact .of_updNP (.inr hnp)
  | _ => trivial

theorem updateState_fr {s s1 : State} {w : Nat} {u : Update} {rets rets' : List (List TaskId)}
    (hnp : UpdNP s w u) (h : s.updateState w u rets = .ok (s1, rets')) : Fr True s s1 :=
  (updateState_acts (U := []) (updNP_frSide hnp) h).fr

theorem updateLoop_fr (us : List Update) (s s' : State) (w : Nat) (rets rets' : List (List TaskId)) (o o' : Out)
    (n n' : Bool) (hok : UpdatesOk UpdNP s w us rets) (h : s.updateLoop w us rets o n = .ok (s', o', n', rets')) :
    Fr True s s' :=
  (updateLoop_acts (U := []) us (UpdatesOk.mono (fun _ _ _ => updNP_frSide) _ _ _ hok) h).fr

theorem taskUpdate_fr {s s' : State} {w : Nat} {us : List Update} {rets : List (List TaskId)} {o : Out}
    (hok : UpdatesOk UpdNP s w us rets) (h : s.taskUpdate w us rets = .ok (s', o)) : Fr True s s' :=
  (taskUpdate_acts (U := []) (UpdatesOk.mono (fun _ _ _ => updNP_frSide) _ _ _ hok) h).fr

end HqModel.Core.NPA
