import HqModel.Lemmas.JobJournalInst
import HqModel.Lemmas.JobJournalStep
/-!
# The journal the job layer writes never creates a job id after a task of that id started

`journalOf_noStartBeforeCreate`: the hypothesis `NoStartBeforeCreate` of `C06.c06_restart` holds of every emitted
journal (job ids come from `job_id_counter`; a started task belongs to a stored job, whose id is below the counter).
No side condition is needed.
-/
namespace HqModel.Emit
open HqModel.Job HqModel.Journal

/-- events that neither create a job nor report a start -/
def evPlain : Ev → Bool
  | .jobOpen _ | .submit _ true | .started _ _ _ _ => false
  | _ => true

theorem plain_checkTermination (job : Job) : ∀ ev ∈ job.checkTermination, evPlain ev = true := by
  intro ev h
  rcases mem_checkTermination h with rfl | rfl <;> rfl

theorem plain_cons_check {ev : Ev} (h : evPlain ev = true) (job : Job) :
    ∀ x ∈ [ev] ++ job.checkTermination, evPlain x = true := by
  intro x hm
  rcases List.mem_cons.mp hm with rfl | hm
  · exact h
  · exact plain_checkTermination _ x hm

theorem plain_of_worker {ev : Ev} (h : ev.worker = true) : evPlain ev = true := by
  cases ev <;> first | rfl | cases h

theorem jobOp_plain {a b : Job} {e : List Ev} (h : JobOp a b e) :
    ∀ ev ∈ e, evPlain ev = true ∨ ∃ t i ws rv, ev = .started (a.id, t) i ws rv := by
  have nil : ∀ ev ∈ ([] : List Ev), evPlain ev = true ∨ ∃ t i ws rv, ev = .started (a.id, t) i ws rv :=
    fun _ hm => absurd hm List.not_mem_nil
  cases h with
  | @running _ t i ws rv _ => exact fun ev hm => .inr ⟨t, i, ws, rv, List.mem_singleton.mp hm⟩
  | finished hr =>
    obtain ⟨-, -, rfl⟩ := setFinished_eq_ok hr
    exact fun ev hm => .inl (plain_cons_check rfl _ ev hm)
  | failed hr =>
    obtain ⟨_, -, -, -, rfl⟩ := setFailed_eq_ok hr
    exact fun ev hm => .inl (plain_cons_check rfl _ ev hm)
  | waiting _ => exact nil
  | cancel hr =>
    rcases setCancel_eq_ok hr with ⟨-, -, rfl⟩ | ⟨-, _, -, -, rfl⟩
    · exact nil
    · intro ev hm
      rcases List.mem_cons.mp hm with rfl | hm
      · exact .inl rfl
      · exact .inl (plain_cons_check rfl _ ev hm)
  | abort hr =>
    rcases abortTasks_eq_ok hr with ⟨-, -, rfl⟩ | ⟨-, _, -, -, rfl⟩
    · exact nil
    · exact fun ev hm => .inl (plain_cons_check rfl _ ev hm)
  | attach _ _ => exact fun ev hm => .inl (by rw [List.mem_singleton.mp hm]; rfl)
  | close _ => exact fun ev hm => .inl (plain_cons_check rfl _ ev hm)

theorem rec_plain (s : State) (op : Op) (ev : Ev) (h : evPlain ev = true) :
    ∀ r ∈ recOfEv s op ev, createdJob r = none ∧ startedJob r = none := by
  intro r hr
  cases ev with
  | jobOpen _ => cases h
  | started _ _ _ _ => cases h
  | submit j closed =>
    cases closed with
    | true => cases h
    | false =>
      cases op <;> simp only [recOfEv, List.mem_singleton, List.mem_nil_iff] at hr
      subst hr; exact ⟨rfl, rfl⟩
  | jobIdle _ => simp [recOfEv] at hr
  | _ =>
    simp only [recOfEv, List.mem_singleton] at hr
    subst hr; exact ⟨rfl, rfl⟩

theorem puts_recs (s : State) (op : Op) {jobs jobs' : List Job} {e : List Ev} (hp : Puts jobs jobs' e) :
    ∀ ev ∈ e, ∀ r ∈ recOfEv s op ev, createdJob r = none ∧ ∀ j, startedJob r = some j → j ∈ jobs.map (·.id) := by
  induction hp with
  | nil _ => exact fun _ hm => absurd hm List.not_mem_nil
  | @cons jobs _ a b e₁ _ hj hop _ ih =>
    intro ev hm r hr
    rcases List.mem_append.mp hm with hm | hm
    · rcases jobOp_plain hop ev hm with hpl | ⟨t, i, ws, rv, rfl⟩
      · obtain ⟨h1, h2⟩ := rec_plain s op ev hpl r hr
        exact ⟨h1, fun j hs => by rw [h2] at hs; cases hs⟩
      · cases List.mem_singleton.mp hr
        exact ⟨rfl, fun j hs => by cases hs; exact List.mem_map.mpr ⟨a, (findJob_some hj).1, rfl⟩⟩
    · have := ih ev hm r hr
      rwa [replaceJob_ids] at this

theorem nsbc_skip (c : Nat) (M : List Record)
    (hM : ∀ seen : List Nat, (∀ j ∈ seen, j < c) → noStartBeforeCreate seen M = true) :
    ∀ (L : List Record) (seen : List Nat), (∀ r ∈ L, createdJob r = none ∧ ∀ j, startedJob r = some j → j < c) →
      (∀ j ∈ seen, j < c) → noStartBeforeCreate seen (L ++ M) = true
  | [], seen, _, hs => hM seen hs
  | r :: L, seen, h, hs => by
    obtain ⟨h1, h2⟩ := h r List.mem_cons_self
    simp only [List.cons_append, noStartBeforeCreate, h1, Bool.true_and]
    refine nsbc_skip c M hM L _ (fun r' hr' => h r' (List.mem_cons_of_mem _ hr')) ?_
    intro j hj
    cases hst : startedJob r with
    | none => rw [hst] at hj; exact hs j hj
    | some k =>
      rw [hst] at hj
      rcases List.mem_cons.mp hj with rfl | hj
      · exact h2 _ hst
      · exact hs j hj

theorem nsbc_mono : ∀ (J : List Record) {seen seen' : List Nat}, (∀ j ∈ seen', j ∈ seen) →
    noStartBeforeCreate seen J = true → noStartBeforeCreate seen' J = true
  | [], _, _, _, _ => rfl
  | r :: J, seen, seen', hs, h => by
    simp only [noStartBeforeCreate, Bool.and_eq_true] at h ⊢
    refine ⟨?_, nsbc_mono J ?_ h.2⟩
    · cases hc : createdJob r with
      | none => rfl
      | some j =>
        have := h.1
        rw [hc] at this
        simp only [Bool.not_eq_true', List.contains_eq_mem, decide_eq_false_iff_not] at this ⊢
        exact fun hm => this (hs j hm)
    · intro j hj
      cases hst : startedJob r with
      | none => rw [hst] at hj; simpa [hst] using hs j hj
      | some k =>
        rw [hst] at hj
        simp only [List.mem_cons] at hj ⊢
        rcases hj with rfl | hj
        · exact .inl rfl
        · exact .inr (hs j hj)

theorem nsbc_prefix : ∀ (K M : List Record) (seen : List Nat),
    noStartBeforeCreate seen (K ++ M) = true → noStartBeforeCreate seen K = true
  | [], _, _, _ => rfl
  | r :: K, M, seen, h => by
    simp only [List.cons_append, noStartBeforeCreate, Bool.and_eq_true] at h ⊢
    exact ⟨h.1, nsbc_prefix K M _ h.2⟩

theorem journalFrom_nsbc : ∀ (ops : List Op) {s : State} {seen : List Nat}, StateWF s →
    (∀ j ∈ seen, j < s.jobCtr) → noStartBeforeCreate seen (journalFrom s ops) = true
  | [], _, _, _, _ => rfl
  | op :: ops, s, seen, wf, hs => by
    simp only [journalFrom]
    cases he : step s op with
    | error x => rfl
    | ok r =>
      obtain ⟨s', evs⟩ := r
      simp only
      have next : ∀ seen' : List Nat, (∀ j ∈ seen', j < s'.jobCtr) →
          noStartBeforeCreate seen' (journalFrom s' ops) = true := fun _ h' => journalFrom_nsbc ops (step_wf wf he) h'
      have plain : ∀ {ev}, evPlain ev = true → ∀ r ∈ recOfEv s op ev,
          createdJob r = none ∧ ∀ j, startedJob r = some j → j < s.jobCtr := fun hpl r hr =>
        ⟨(rec_plain s op _ hpl r hr).1, fun j hj => by rw [(rec_plain s op _ hpl r hr).2] at hj; cases hj⟩
      cases step_shape he with
      | same _ hc hq =>
        refine nsbc_skip s.jobCtr _ (hc ▸ next) _ _ ?_ hs
        intro r hr
        obtain ⟨ev, hev, hr'⟩ := List.mem_flatMap.mp hr
        exact plain (plain_of_worker (hq ev hev)) r hr'
      | add o mf ids job ha _ hc hev ho =>
        -- one creating event with the current counter
        have ih := next seen (fun j hj => by have := hs j hj; omega)
        have hfresh : (!seen.contains s.jobCtr) = true := by
          simp only [Bool.not_eq_true', List.contains_eq_mem, decide_eq_false_iff_not]
          intro hm; exact absurd (hs _ hm) (Nat.lt_irrefl _)
        subst hev
        rcases ho with rfl | ⟨mf', d, rfl, -⟩
        · simp only [recordsOf, if_true, List.flatMap_cons, List.flatMap_nil, recOfEv, List.append_nil,
            List.singleton_append, noStartBeforeCreate, createdJob, startedJob, hfresh, Bool.true_and]
          exact ih
        · cases o <;>
            simp only [recordsOf, if_true, Bool.false_eq_true, if_false, List.flatMap_cons, List.flatMap_nil, recOfEv,
              List.append_nil, List.singleton_append, noStartBeforeCreate, createdJob, startedJob, hfresh,
              Bool.true_and] <;> exact ih
      | puts e tail hp hc hev hq =>
        refine nsbc_skip s.jobCtr _ (hc ▸ next) _ _ ?_ hs
        intro r hr
        obtain ⟨ev, hev', hr'⟩ := List.mem_flatMap.mp hr
        rcases List.mem_append.mp (hev ▸ hev') with hm | hm
        · obtain ⟨h1, h2⟩ := puts_recs s op hp ev hm r hr'
          refine ⟨h1, fun j hj => ?_⟩
          obtain ⟨x, hx, rfl⟩ := List.mem_map.mp (h2 j hj)
          exact wf.below x hx
        · exact plain (plain_of_worker (hq ev hm)) r hr'
      | forget _ _ _ _ _ hc hev => subst hev; exact next seen (hc ▸ hs)

theorem journalOf_noStartBeforeCreate (uid : String) (ops : List Op) : NoStartBeforeCreate (journalOf uid ops) := by
  unfold NoStartBeforeCreate journalOf
  simp only [noStartBeforeCreate, createdJob, startedJob, Bool.true_and]
  exact journalFrom_nsbc ops init_wf (fun j hj => by cases hj)

end HqModel.Emit
