import HqModel.Lemmas.JournalPrune
import HqModel.Lemmas.JournalFactor
/-!
The simulation between the restorer run on a journal and on its pruned version. A record about job `j` reads and
writes only the restorer entry of `j` (`jobStep`), so the entries of the live jobs evolve alike on both sides and the
other jobs never get an entry on the pruned side. Stated over an entry relation `E` (`EntryRel`): equal up to crash
counters (`optEq`, the stateless pruner) or `Eq` (the stateful one); only a dropped `WorkerLost` needs a side condition.
-/
namespace HqModel.Journal

/-- forget the crash counter -/
def nc (t : RTask) : RTask := { t with crash := 0 }
def RJob.noCrash (j : RJob) : RJob := { j with tasks := alMap nc j.tasks }
/-- equal up to crash counters -/
def optEq (o o' : Option RJob) : Prop := o.map RJob.noCrash = o'.map RJob.noCrash

def ResEq (E : Option RJob → Option RJob → Prop) : Except Stop (Option RJob) → Except Stop (Option RJob) → Prop
  | .ok a, .ok b => E a b
  | .error e, .error e' => e = e'
  | _, _ => False

/-- a relation between the entries of one job on the two sides that every record preserves -/
structure EntryRel (E : Option RJob → Option RJob → Prop) : Prop where
  refl : ∀ o, E o o
  trans : ∀ {a b c}, E a b → E b c → E a c
  step : ∀ x {o o'}, E o o' → ResEq E (jobStep x o) (jobStep x o')
  batch : ∀ mk t {o o'}, E o o' →
    E (o.map fun rj => { rj with tasks := termTask mk rj.tasks t })
      (o'.map fun rj => { rj with tasks := termTask mk rj.tasks t })
  incr : ∀ w {o o'}, E o o' → E (o.map (·.increaseCrash w)) (o'.map (·.increaseCrash w))

theorem entryRel_eq : EntryRel Eq where
  refl _ := rfl
  trans := Eq.trans
  step x o o' h := by
    subst h
    cases jobStep x o <;> rfl
  batch _ _ _ _ h := h ▸ rfl
  incr _ _ _ h := h ▸ rfl

theorem optEq_some_left {rj : RJob} {o' : Option RJob} (h : optEq (some rj) o') :
    ∃ rj', o' = some rj' ∧ rj.noCrash = rj'.noCrash := by
  cases o' with
  | none => cases h
  | some rj' => exact ⟨rj', rfl, Option.some.inj h⟩

theorem optEq_none_left {o' : Option RJob} (h : optEq none o') : o' = none := by
  cases o' with
  | none => rfl
  | some _ => cases h

theorem noCrash_eq_iff {rj rj' : RJob} : rj.noCrash = rj'.noCrash ↔
    rj.maxFails = rj'.maxFails ∧ rj.submits = rj'.submits ∧ rj.isOpen = rj'.isOpen ∧
    alMap nc rj.tasks = alMap nc rj'.tasks := by
  simp only [RJob.noCrash, RJob.mk.injEq]
  exact ⟨fun h => ⟨h.1, h.2.1, h.2.2.2, h.2.2.1⟩, fun h => ⟨h.1, h.2.1, h.2.2.2, h.2.2.1⟩⟩

theorem nc_eq_iff {a b : RTask} : nc a = nc b ↔ a.state = b.state ∧ a.inst = b.inst := by
  simp [nc, RTask.mk.injEq]

theorem noCrash_get {rj rj' : RJob} (h : rj.noCrash = rj'.noCrash) (t : Nat) :
    (alGet rj.tasks t = none ∧ alGet rj'.tasks t = none) ∨
      ∃ ti ti', alGet rj.tasks t = some ti ∧ alGet rj'.tasks t = some ti' ∧ ti'.state = ti.state ∧ ti'.inst = ti.inst := by
  have hg : (alGet rj.tasks t).map nc = (alGet rj'.tasks t).map nc := by
    rw [← alGet_map, ← alGet_map, (noCrash_eq_iff.1 h).2.2.2]
  cases h1 : alGet rj.tasks t with
  | none => rw [h1] at hg; exact Or.inl ⟨rfl, Option.map_eq_none_iff.1 hg.symm⟩
  | some ti =>
    rw [h1] at hg
    obtain ⟨ti', h2, hti⟩ := Option.map_eq_some_iff.1 hg.symm
    exact Or.inr ⟨ti, ti', rfl, h2, nc_eq_iff.1 hti⟩

theorem noCrash_setTask {rj rj' : RJob} (h : rj.noCrash = rj'.noCrash) (t : Nat) {v v' : RTask} (hv : nc v = nc v') :
    ({ rj with tasks := alSet rj.tasks t v } : RJob).noCrash = ({ rj' with tasks := alSet rj'.tasks t v' } : RJob).noCrash := by
  obtain ⟨h1, h2, h3, h4⟩ := noCrash_eq_iff.1 h
  exact noCrash_eq_iff.2 ⟨h1, h2, h3, by simp only [alMap_alSet, h4, hv]⟩

theorem jobStep_optEq (x : Record) {o o' : Option RJob} (h : optEq o o') : ResEq optEq (jobStep x o) (jobStep x o') := by
  cases o with
  | none => rw [optEq_none_left h]; cases jobStep x none <;> rfl
  | some rj =>
    obtain ⟨rj', rfl, hn⟩ := optEq_some_left h
    obtain ⟨f1, f2, f3, f4⟩ := noCrash_eq_iff.1 hn
    cases x
    case submit j c mf d =>
      cases c with
      | true => rfl
      | false => exact congrArg some (noCrash_eq_iff.2 ⟨f1, by simp only [f2], f3, f4⟩)
    case jobOpen j mf => rfl
    case jobClose j => exact congrArg some (noCrash_eq_iff.2 ⟨f1, f2, rfl, f4⟩)
    case jobCompleted j => rfl
    case taskStarted j t i ws => exact congrArg some (noCrash_setTask hn t (nc_eq_iff.2 ⟨rfl, rfl⟩))
    case taskFinished j t =>
      rcases noCrash_get hn t with ⟨h1, h2⟩ | ⟨ti, ti', h1, h2, e1, e2⟩ <;> simp only [jobStep, h1, h2]
      · rfl
      · rw [e1]
        cases h3 : ti.state <;> simp only [ResEq]
        exact congrArg some (noCrash_setTask hn t (nc_eq_iff.2 ⟨rfl, e2.symm⟩))
    case taskFailed j t =>
      rcases noCrash_get hn t with ⟨h1, h2⟩ | ⟨ti, ti', h1, h2, e1, e2⟩ <;> simp only [jobStep, h1, h2]
      · exact congrArg some (noCrash_setTask hn t rfl)
      · rw [e1]
        cases h3 : ti.state <;> simp only [ResEq] <;> exact congrArg some (noCrash_setTask hn t (nc_eq_iff.2 ⟨rfl, e2.symm⟩))
    all_goals exact h

theorem increaseCrash_noCrash (rj : RJob) (w : Nat) : (rj.increaseCrash w).noCrash = rj.noCrash := by
  refine noCrash_eq_iff.2 ⟨rfl, rfl, rfl, ?_⟩
  simp only [increaseCrash_eq, alMap, List.map_map]
  exact List.map_congr_left fun kv _ => congrArg (kv.1, ·) (nc_eq_iff.2 (bump_state w true kv.2))

theorem optEq_increaseCrash (o : Option RJob) (w : Nat) : optEq (o.map (·.increaseCrash w)) o := by
  cases o with
  | none => rfl
  | some rj => exact congrArg some (increaseCrash_noCrash rj w)

theorem termTask_nc (mk : Option Started → TState) (ts : List (Nat × RTask)) (t : Nat) :
    alMap nc (termTask mk ts t) = termTask mk (alMap nc ts) t := by
  unfold termTask
  rw [alGet_map]
  cases alGet ts t with
  | none => simp only [Option.map_none, alMap_alSet]; rfl
  | some ti => simp only [Option.map_some, alMap_alSet]; rfl

theorem entryRel_optEq : EntryRel optEq where
  refl _ := rfl
  trans := Eq.trans
  step := jobStep_optEq
  batch := by
    intro mk t o o' h
    cases o with
    | none => rw [optEq_none_left h]; rfl
    | some rj =>
      obtain ⟨rj', rfl, hn⟩ := optEq_some_left h
      obtain ⟨g1, g2, g3, g4⟩ := noCrash_eq_iff.1 hn
      exact congrArg some (noCrash_eq_iff.2 ⟨g1, g2, g3, by rw [termTask_nc mk rj.tasks t, termTask_nc mk rj'.tasks t, g4]⟩)
  incr w _ _ h := (optEq_increaseCrash _ w).trans (h.trans (optEq_increaseCrash _ w).symm)

/-- live jobs have related entries, the other jobs have no entry on the pruned side -/
def JRel (E : Option RJob → Option RJob → Prop) (live : Nat → Bool) (jobs jobs' : List (Nat × RJob)) : Prop :=
  (∀ j, live j = true → E (alGet jobs j) (alGet jobs' j)) ∧ (∀ j, live j = false → alGet jobs' j = none)

variable {E : Option RJob → Option RJob → Prop} {live : Nat → Bool}

theorem jrel_step_job (hE : EntryRel E) {jobs jobs' jobs1 : List (Nat × RJob)} (h : JRel E live jobs jobs') {x : Record}
    {j : Nat} (hj : jobOf x = some j) (hl : live j = true) (hs : jobsStep jobs x = .ok jobs1) :
    ∃ jobs1', jobsStep jobs' x = .ok jobs1' ∧ JRel E live jobs1 jobs1' := by
  obtain ⟨o1, e1, rfl⟩ := jobsStep_single_ok hj hs
  rw [jobsStep_single hj]
  have hres := hE.step x (h.1 j hl)
  rw [e1] at hres
  cases e1' : jobStep x (alGet jobs' j) with
  | error e => rw [e1'] at hres; exact hres.elim
  | ok o1' =>
    rw [e1'] at hres
    refine ⟨_, rfl, fun j' hl' => ?_, fun j' hl' => ?_⟩
    · rw [alGet_put, alGet_put]
      split
      · exact hres
      · exact h.1 j' hl'
    · rw [alGet_put, if_neg (fun e => by rw [e, hl'] at hl; cases hl)]
      exact h.2 j' hl'

theorem jrel_skip_job {jobs jobs' jobs1 : List (Nat × RJob)} (h : JRel E live jobs jobs') {x : Record}
    {j : Nat} (hj : jobOf x = some j) (hl : live j = false) (hs : jobsStep jobs x = .ok jobs1) :
    JRel E live jobs1 jobs' := by
  obtain ⟨o1, _, rfl⟩ := jobsStep_single_ok hj hs
  refine ⟨fun j' hl' => ?_, h.2⟩
  rw [alGet_put, if_neg (fun e => by rw [e, hl'] at hl; cases hl)]
  exact h.1 j' hl'

theorem batchStep_get (f : List (Nat × RTask) → Nat → List (Nat × RTask)) (jobs : List (Nat × RJob)) (id : Nat × Nat)
    (j : Nat) : alGet (batchStep f jobs id) j =
      if id.1 = j then (alGet jobs j).map (fun rj => { rj with tasks := f rj.tasks id.2 }) else alGet jobs j := by
  unfold batchStep
  by_cases h : id.1 = j
  · subst h
    cases hg : alGet jobs id.1 with
    | none => simp [hg]
    | some rj => simp [alGet_set_self]
  · cases hg : alGet jobs id.1 with
    | none => simp [h]
    | some rj => simp [h, alGet_set_ne _ _ h]

theorem batch_jrel (hE : EntryRel E) (mk : Option Started → TState) :
    ∀ (ids : List (Nat × Nat)) (jobs jobs' : List (Nat × RJob)), JRel E live jobs jobs' →
      JRel E live (ids.foldl (batchStep (termTask mk)) jobs)
        ((ids.filter fun i => live i.1).foldl (batchStep (termTask mk)) jobs') := by
  intro ids
  induction ids with
  | nil => intro jobs jobs' h; exact h
  | cons id ids ih =>
    intro jobs jobs' h
    simp only [List.foldl_cons, List.filter_cons]
    by_cases hl : live id.1 = true
    · simp only [hl, if_true, List.foldl_cons]
      refine ih _ _ ⟨fun j hj => ?_, fun j hj => ?_⟩
      · rw [batchStep_get, batchStep_get]
        split
        · exact hE.batch mk id.2 (h.1 j hj)
        · exact h.1 j hj
      · rw [batchStep_get, if_neg (fun e => by rw [e, hj] at hl; cases hl)]
        exact h.2 j hj
    · simp only [hl]
      refine ih _ _ ⟨fun j hj => ?_, h.2⟩
      rw [batchStep_get, if_neg (fun (e : id.1 = j) => hl (e ▸ hj))]
      exact h.1 j hj

theorem ite_some_or (b : Bool) (y : α) :
    (if b = true then some y else none) = some y ∨ (if b = true then some y else none) = none := by
  cases b
  · exact Or.inr rfl
  · exact Or.inl rfl

/-- `x'` is what the pruned side sees of record `x` (`none` = dropped): a batch is filtered to the live jobs, a record
of one job is kept iff the job is live, a worker record may be dropped, any other record is kept -/
def Pruned (live : Nat → Bool) (x : Record) (x' : Option Record) : Prop :=
  match batchOf x with
  | some (_, con, ids) =>
    x' = some (con (ids.filter fun i => live i.1)) ∨ ((ids.filter fun i => live i.1) = [] ∧ x' = none)
  | none =>
    match jobOf x with
    | some j => x' = if live j then some x else none
    | none =>
      match workerOf x with
      | some _ => x' = some x ∨ x' = none
      | none => x' = some x

theorem Pruned.plain {x : Record} {x' : Option Record} (hb : batchOf x = none) (hx : Pruned live x x') :
    x' = some x ∨ x' = none := by
  unfold Pruned at hx
  simp only [hb] at hx
  revert hx
  cases jobOf x with
  | some j => intro hx; rw [hx]; exact ite_some_or _ _
  | none =>
    cases workerOf x with
    | some w => exact id
    | none => exact Or.inl

theorem jrel_step (hE : EntryRel E) {jobs jobs' jobs1 : List (Nat × RJob)} (h : JRel E live jobs jobs') (x : Record)
    (x' : Option Record) (hx : Pruned live x x')
    (hdrop : ∀ w r, x = .workerLost w r → x' = none → ∀ j, live j = true →
      E ((alGet jobs j).map (·.increaseCrash w)) (alGet jobs j))
    (hs : jobsStep jobs x = .ok jobs1) :
    x'.elim (JRel E live jobs1 jobs') fun y => ∃ jobs1', jobsStep jobs' y = .ok jobs1' ∧ JRel E live jobs1 jobs1' := by
  have hp := hx
  unfold Pruned at hx
  cases hb : batchOf x with
  | some p =>
    obtain ⟨mk, con, ids⟩ := p
    simp only [hb] at hx
    rw [jobsStep_batch hb] at hs
    cases hs
    have hj := batch_jrel hE mk ids jobs jobs' h
    rcases hx with rfl | ⟨he, rfl⟩
    · exact ⟨_, jobsStep_batch ((batchOf_con hb).2.2 _).1 jobs', hj⟩
    · rw [he] at hj; exact hj
  | none =>
    cases hj : jobOf x with
    | some j =>
      simp only [hb, hj] at hx
      by_cases hl : live j = true
      · rw [hx, if_pos hl]; exact jrel_step_job hE h hj hl hs
      · rw [hx, if_neg hl]; exact jrel_skip_job h hj (by simpa using hl) hs
    | none =>
      cases hl : lostOf x with
      | some p =>
        obtain ⟨w, reason⟩ := p
        obtain rfl := lostOf_eq hl
        have hx' : x' = some (.workerLost w reason) ∨ x' = none := hx
        have hy := jobsStep_lost w reason
        rw [hy] at hs
        cases hs
        generalize reason.isFailure = b at hy ⊢
        cases b
        · rcases hx' with rfl | rfl
          · exact ⟨_, hy _, h⟩
          · exact h
        · rcases hx' with rfl | rfl
          · refine ⟨_, hy _, fun j hj => ?_, fun j hj => ?_⟩
            · simp only [if_true, alGet_map]; exact hE.incr w (h.1 j hj)
            · simp only [if_true, alGet_map, h.2 j hj]; rfl
          · refine ⟨fun j hj => ?_, h.2⟩
            simp only [if_true, alGet_map]
            exact hE.trans (hdrop w reason rfl rfl j hj) (h.1 j hj)
      | none =>
        cases (jobsStep_inert hj hb hl jobs).symm.trans hs
        rcases hp.plain hb with rfl | rfl
        · exact ⟨_, jobsStep_inert hj hb hl _, h⟩
        · exact h

/-- `y` acts on the allocation queues, their high-water mark and the uid as `x` does -/
def SameEffect (y x : Record) : Prop :=
  (∀ qs, queuesStep qs y = queuesStep qs x) ∧ createsQueue y = createsQueue x ∧ startOf y = startOf x

def NoEffect (x : Record) : Prop := (∀ qs, queuesStep qs x = .ok qs) ∧ createsQueue x = none ∧ startOf x = none

theorem noEffect_or (x : Record) : NoEffect x ∨ (batchOf x = none ∧ jobOf x = none ∧ workerOf x = none) := by
  cases x
  case serverStart u => exact Or.inr ⟨rfl, rfl, rfl⟩
  case queueCreated q => exact Or.inr ⟨rfl, rfl, rfl⟩
  case queueRemoved q => exact Or.inr ⟨rfl, rfl, rfl⟩
  all_goals exact Or.inl ⟨fun _ => rfl, rfl, rfl⟩

theorem Pruned.effect {x : Record} {x' : Option Record} (hx : Pruned live x x') :
    x'.elim (NoEffect x) fun y => SameEffect y x := by
  rcases noEffect_or x with hn | ⟨hb, hj, hw⟩
  · -- what is left of `x`, if anything, is `x` or a batch of the same kind
    have same : ∀ y, NoEffect y → SameEffect y x := fun y hy =>
      ⟨fun qs => (hy.1 qs).trans (hn.1 qs).symm, hy.2.1.trans hn.2.1.symm, hy.2.2.trans hn.2.2.symm⟩
    cases hb : batchOf x with
    | some p =>
      obtain ⟨mk, con, ids⟩ := p
      unfold Pruned at hx
      simp only [hb] at hx
      rcases hx with rfl | ⟨_, rfl⟩
      · exact same _ ((noEffect_or _).resolve_right fun h => by rw [((batchOf_con hb).2.2 _).1] at h; cases h.1)
      · exact hn
    | none =>
      rcases hx.plain hb with rfl | rfl
      · exact same x hn
      · exact hn
  · unfold Pruned at hx
    simp only [hb, hj, hw] at hx
    rw [hx]
    exact ⟨fun _ => rfl, rfl, rfl⟩

def SameFrame (R R' : Restorer) : Prop := R'.queues = R.queues ∧ R'.maxQueue = R.maxQueue ∧ R'.uid = R.uid

theorem SameFrame.both {R R' R1 : Restorer} {x y : Record} {jobs1' : List (Nat × RJob)} (h : SameFrame R R')
    (hs : restorerStep R x = .ok R1) (he : SameEffect y x) (hj' : jobsStep R'.jobs y = .ok jobs1') :
    ∃ R1', restorerStep R' y = .ok R1' ∧ R1'.jobs = jobs1' ∧ SameFrame R1 R1' := by
  obtain ⟨_, sq, sr⟩ := restorerStep_ok hs
  refine ⟨{ restStep R' y with jobs := jobs1', queues := R1.queues },
    by rw [restorerStep_eq, hj', he.1, h.1, sq]; rfl, rfl, rfl, ?_, ?_⟩
  · show (createsQueue y).elim R'.maxQueue (max R'.maxQueue) = _
    rw [he.2.1, h.2.1, sr]; rfl
  · show (startOf y).getD R'.uid = _
    rw [he.2.2, h.2.2, sr]; rfl

theorem SameFrame.skip {R R' R1 : Restorer} {x : Record} (h : SameFrame R R') (hs : restorerStep R x = .ok R1)
    (he : NoEffect x) : SameFrame R1 R' := by
  obtain ⟨_, sq, sr⟩ := restorerStep_ok hs
  refine ⟨?_, ?_, ?_⟩
  · rw [h.1]; exact Except.ok.inj ((he.1 R.queues).symm.trans sq)
  · rw [h.2.1, sr]; show _ = (createsQueue x).elim _ _; rw [he.2.1]; rfl
  · rw [h.2.2, sr]; show _ = (startOf x).getD _; rw [he.2.2]; rfl

/-- restorer on the journal (`R`) vs. restorer on the pruned journal (`R'`): the job tables are related; queues, queue
high-water mark and uid agree. (`maxJob`, `maxWorker`, `queueRes` are NOT related: pruning lowers the id marks,
`c11_prune_lowers_marks`, and loses `queue_to_worker_resources`, finding F25.) -/
def Sim (E : Option RJob → Option RJob → Prop) (live : Nat → Bool) (R R' : Restorer) : Prop :=
  JRel E live R.jobs R'.jobs ∧ SameFrame R R'

/-- what C12 compares at the level of the restorer: every job entry (submits, open flag, per-task state and last
instance) up to crash counters, the allocation queues, the queue high-water mark, the uid -/
structure SameView (R R' : Restorer) : Prop where
  jobs : ∀ j, optEq (alGet R.jobs j) (alGet R'.jobs j)
  queues : R'.queues = R.queues
  maxQueue : R'.maxQueue = R.maxQueue
  uid : R'.uid = R.uid

/-- `Sim optEq live` as a structure: live jobs have entries equal up to crash counters, non-live jobs have no entry in
`R'`; queues, queue high-water mark and uid agree. (`PRel2` of JournalPrune2Eq is `Sim Eq live` in the same form.) -/
structure PRel (live : Nat → Bool) (R R' : Restorer) : Prop where
  jobs : ∀ j, live j = true → optEq (alGet R.jobs j) (alGet R'.jobs j)
  dead : ∀ j, live j = false → alGet R'.jobs j = none
  queues : R'.queues = R.queues
  maxQueue : R'.maxQueue = R.maxQueue
  uid : R'.uid = R.uid

/-- `R1` agrees with `R` on every job entry but that of `j` (which is `o1` in `R1`), on the queues, their high-water
mark and the uid: what one record of job `j` does to the restorer, as a relation. The proofs use the equation
`restorerStep_eq` instead. -/
structure Local (R R1 : Restorer) (j : Nat) (o1 : Option RJob) : Prop where
  here : alGet R1.jobs j = o1
  other : ∀ j', j' ≠ j → alGet R1.jobs j' = alGet R.jobs j'
  queues : R1.queues = R.queues
  maxQueue : R1.maxQueue = R.maxQueue
  uid : R1.uid = R.uid

def StepConcl (E : Option RJob → Option RJob → Prop) (live : Nat → Bool) (R' R1 : Restorer) : Option Record → Prop
  | some y => ∃ R1', restorerStep R' y = .ok R1' ∧ Sim E live R1 R1'
  | none => Sim E live R1 R'

theorem sim_step (hE : EntryRel E) {R R' R1 : Restorer} (h : Sim E live R R') (x : Record) (x' : Option Record)
    (hx : Pruned live x x')
    (hdrop : ∀ w r, x = .workerLost w r → x' = none → ∀ j, live j = true →
      E ((alGet R.jobs j).map (·.increaseCrash w)) (alGet R.jobs j))
    (hs : restorerStep R x = .ok R1) : StepConcl E live R' R1 x' := by
  have hj := jrel_step hE h.1 x x' hx hdrop (restorerStep_ok hs).1
  have he := hx.effect
  cases x' with
  | none => exact ⟨hj, h.2.skip hs he⟩
  | some y =>
    obtain ⟨jobs1', hj', hrel⟩ := hj
    obtain ⟨R1', hs', rfl, hf⟩ := h.2.both hs he hj'
    exact ⟨R1', hs', hrel, hf⟩

theorem pruneRecord_pruned (lj lw : List Nat) (x : Record) :
    Pruned (fun j => lj.contains j) x (pruneRecord lj lw x) := by
  rw [pruneRecord_eq]
  unfold Pruned keeps
  cases batchOf x with
  | some p =>
    dsimp only
    cases p.2.2.filter fun i => lj.contains i.1
    · exact Or.inr ⟨rfl, rfl⟩
    · exact Or.inl rfl
  | none =>
    cases jobOf x with
    | some j => rfl
    | none =>
      cases workerOf x with
      | some w => exact ite_some_or _ _
      | none => rfl

theorem some_pruned (x : Record) : Pruned (fun _ => true) x (some x) := by
  unfold Pruned
  cases hb : batchOf x with
  | some p => exact Or.inl (by rw [List.filter_eq_self.2 fun _ _ => rfl, ← (batchOf_con hb).1])
  | none =>
    cases jobOf x with
    | some j => rfl
    | none =>
      cases workerOf x with
      | some w => exact Or.inl rfl
      | none => rfl

theorem StepConcl.fold {R' R1 R2 : Restorer} {x' : Option Record} {K' : List Record} (hstep : StepConcl E live R' R2 x')
    (ih : ∀ R2', Sim E live R2 R2' → ∃ R1', restorerFoldFrom R2' K' = .ok R1' ∧ Sim E live R1 R1') :
    ∃ R1', restorerFoldFrom R' (x'.toList ++ K') = .ok R1' ∧ Sim E live R1 R1' := by
  cases x' with
  | none => exact ih R' hstep
  | some y =>
    obtain ⟨R2', hs', hrel⟩ := hstep
    obtain ⟨R1', hf, hr⟩ := ih R2' hrel
    exact ⟨R1', restorerFoldFrom_cons_ok.2 ⟨R2', hs', hf⟩, hr⟩

/-- one fold for every pass that writes `f x` for each record `x`: a pruner (`f = pruneRecord lj lw`) or the identity
(`f = some`) -/
theorem sim_fold_filterMap (hE : EntryRel E) (f : Record → Option Record) (hf : ∀ x, Pruned live x (f x))
    (hdrop : ∀ w r, f (.workerLost w r) = none → ∀ o : Option RJob, E (o.map (·.increaseCrash w)) o) :
    ∀ (J : List Record) (R R' R1 : Restorer), Sim E live R R' → restorerFoldFrom R J = .ok R1 →
      ∃ R1', restorerFoldFrom R' (J.filterMap f) = .ok R1' ∧ Sim E live R1 R1' := by
  intro J
  induction J with
  | nil => intro R R' R1 h hs; cases hs; exact ⟨R', rfl, h⟩
  | cons x xs ih =>
    intro R R' R1 h hs
    obtain ⟨R2, hx, hs⟩ := restorerFoldFrom_cons_ok.1 hs
    have e : (x :: xs).filterMap f = (f x).toList ++ xs.filterMap f := by
      simp only [List.filterMap_cons]; cases f x <;> rfl
    rw [e]
    exact (sim_step hE h x _ (hf x) (fun w r e hn _ _ => hdrop w r (e ▸ hn) _) hx).fold
      fun R2' hrel => ih R2 R2' R1 hrel hs

theorem sim_fold_common (hE : EntryRel E) (K : List Record) (R R' R1 : Restorer) (h : Sim E (fun _ => true) R R')
    (hs : restorerFoldFrom R K = .ok R1) : ∃ R1', restorerFoldFrom R' K = .ok R1' ∧ Sim E (fun _ => true) R1 R1' := by
  have := sim_fold_filterMap hE some some_pruned (fun _ _ e => nomatch e) K R R' R1 h hs
  rwa [List.filterMap_some] at this

theorem Sim.covers (hE : EntryRel E) {R R' : Restorer} (h : Sim E live R R')
    (hl : ∀ j, (alGet R.jobs j).isSome = true → live j = true) (j : Nat) : E (alGet R.jobs j) (alGet R'.jobs j) := by
  by_cases hj : live j = true
  · exact h.1.1 j hj
  · have h1 : alGet R.jobs j = none := by
      cases hg : alGet R.jobs j with
      | none => rfl
      | some _ => exact absurd (hl j (by rw [hg]; rfl)) hj
    rw [h1, h.1.2 j (by simpa using hj)]
    exact hE.refl _

end HqModel.Journal
