import HqModel.Lemmas.CoreNoPanicSys
import HqModel.Lemmas.SysWRun
/-!
The progress theorem of the core lifted to the composed system WITH the workers: hypothesis `OpNPc` (`Sys.OpNPc` of the
`Sys` action `sysOpOf` names), invariant `NPX.WGood = WInv2 ∧ ∃ U, Sys.NPX.GoodU U`, `NPX.run_wgood`. Under `WInv2` the
weakened hypothesis `OpNPc2` (the worker protocol reduced to its `RunIdx` part) implies `OpNPc`.
-/
namespace HqModel.SysW
open HqModel

/-- `Sys.OpNPc` for an optional `Sys` action -/
def NPcOfSys (s : Sys.State) : Option Sys.Op → Prop
  | some sop => Sys.OpNPc s sop
  | none => True

instance (s : Sys.State) (o : Option Sys.Op) : Decidable (NPcOfSys s o) := by
  cases o <;> simp only [NPcOfSys] <;> infer_instance

/-- **the lifted hypothesis of one world action of `SysW`**: `Sys.OpNPc` of the `Sys` action it performs — the new
input conditions of the core (`Core.OpNP`) and the exclusion of F27 (`Core.OpExcl`) for the core operation that
action hands to the core. For `deliverW2S` the `update` is the batch at the head of the worker's queue: its
`UpdNP` / `NoF27` part is a statement about what the worker model sent (not derived here). -/
def OpNPc (s : State) (op : Op) : Prop := NPcOfSys s.sys (sysOpOf s op)

instance (s : State) (op : Op) : Decidable (OpNPc s op) := by unfold OpNPc; infer_instance

theorem OpNPc.sys {s : State} {op : Op} {sop : Sys.Op} (h : OpNPc s op) (hop : sysOpOf s op = some sop) :
    Sys.OpNPc s.sys sop := by
  unfold OpNPc at h; rw [hop] at h; exact h

/-- `OpNPc` on the pre-state of every action of a run: the recursion of `RunOk` (`Lemmas/SysWRun.lean`) with `OpNPc` for
`OpOk`, as is `RunNPc2` below; `run_all` is the one induction over all three, through their `.cons` -/
def RunNPc (s : State) : List Op → Prop
  | [] => True
  | op :: ops =>
    OpNPc s op ∧
    match step s op with
    | .ok (s1, _) => RunNPc s1 ops
    | .error _ => True

instance RunNPc.decidable : ∀ (ops : List Op) (s : State), Decidable (RunNPc s ops)
  | [], _ => isTrue trivial
  | op :: ops, s => by
    simp only [RunNPc]
    cases h : step s op with
    | error e => simp only; infer_instance
    | ok r =>
      obtain ⟨s1, o⟩ := r
      simp only
      have := RunNPc.decidable ops s1
      infer_instance

namespace NPX

theorem sysStep_err {s : State} {sop : Sys.Op} {ws : List WState} {e : Sys.Stop}
    (h : sysStep s sop ws = .error (.sys e)) : Sys.step s.sys sop = .error e := by
  simp only [sysStep] at h
  split at h
  · rename_i e' he
    cases h
    exact he
  · cases h

theorem workerStep_not_sys {s : State} {x : WState} {op : Worker.Op} {e : Sys.Stop} :
    workerStep s x op ≠ .error (.sys e) := by
  intro h
  simp only [workerStep] at h
  split at h <;> cases h

/-- **`Stop.sys e` is a stop of the `Sys` action the world action performs** -/
theorem step_sys_err {s : State} {op : Op} {e : Sys.Stop} (h : step s op = .error (.sys e)) :
    ∃ sop, sysOpOf s op = some sop ∧ Sys.step s.sys sop = .error e := by
  rcases step_cases s op with ⟨e', hs, he, -⟩ | ⟨sop, ws, ha, hs⟩ | ⟨_, x, wop, -, hs, -⟩
  · rw [hs] at h; cases h; exact absurd rfl (he _)
  · exact ⟨sop, ha.sysOpOf_eq, sysStep_err (hs ▸ h)⟩
  · exact absurd (hs ▸ h) workerStep_not_sys

/-- a world action either leaves the `Sys` part alone or performs the `Sys` action `sysOpOf` names on it -/
theorem step_sys_ok {s s' : State} {op : Op} {o : Out} (h : step s op = .ok (s', o)) :
    (sysOpOf s op = none ∧ s'.sys = s.sys) ∨
    ∃ sop so, sysOpOf s op = some sop ∧ Sys.step s.sys sop = .ok (s'.sys, so) := by
  rcases step_cases s op with ⟨e', hs, -⟩ | ⟨sop, ws, ha, hs⟩ | ⟨_, x, wop, -, hs, hn⟩
  · rw [hs] at h; cases h
  · obtain ⟨so, _, _, c⟩ := sysStep_sys (hs ▸ h)
    exact .inr ⟨sop, so, ha.sysOpOf_eq, c⟩
  · exact .inl ⟨hn, (workerStep_sys (hs ▸ h)).2.2⟩

/-- the invariant of the composed run: the pipeline invariants `WInv2` and the progress invariant of `Sys` -/
structure WGood (s : State) : Prop where
  winv : NPP.WInv2 s
  good : ∃ U, Sys.NPX.GoodU U s.sys

theorem wgood_init (reserve max : Nat) : WGood (initState reserve max) :=
  ⟨winv2_init reserve max, [], Sys.NPX.goodU_initState reserve max⟩

theorem sysOpOf_ok {s : State} {op : Op} {sop : Sys.Op} (h : sysOpOf s op = some sop) (hi : NPP.WInv2 s)
    (hok : OpOk s op) : Sys.OpOk s.sys sop := by
  rcases step_cases s op with ⟨_, _, _, hn⟩ | ⟨_, _, ha, _⟩ | ⟨_, _, _, _, _, hn⟩
  · rw [hn] at h; cases h
  · cases ha.sysOpOf_eq.symm.trans h; exact ha.ok hi hok
  · rw [hn] at h; cases h

theorem wgood_no_core_panic {s : State} {op : Op} (hg : WGood s) (hok : OpOk s op) (hnp : OpNPc s op) (site : String)
    (h : step s op = .error (.sys (.core site))) : site.startsWith "!" = true := by
  obtain ⟨U, hgu⟩ := hg.good
  obtain ⟨sop, hop, he⟩ := step_sys_err h
  exact Sys.NPX.good_no_core_panic hgu (sysOpOf_ok hop hg.winv hok) (hnp.sys hop) site he

theorem wgood_step {s s' : State} {op : Op} {o : Out} (hg : WGood s) (hok : OpOk s op) (hnp : OpNPc s op)
    (h : step s op = .ok (s', o)) : WGood s' := by
  refine ⟨step_inv hg.winv hok h, ?_⟩
  obtain ⟨U, hgu⟩ := hg.good
  rcases step_sys_ok h with ⟨_, e⟩ | ⟨sop, so, hop, hss⟩
  · exact ⟨U, e ▸ hgu⟩
  · exact Sys.NPX.good_step hgu (sysOpOf_ok hop hg.winv hok) (hnp.sys hop) hss

theorem RunNPc.cons {s : State} {op : Op} {ops : List Op} (h : RunNPc s (op :: ops)) :
    OpNPc s op ∧ ∀ {s1 o}, step s op = .ok (s1, o) → RunNPc s1 ops :=
  ⟨h.1, fun h1 => by simpa only [RunNPc, h1] using h.2⟩

theorem run_wgood (ops : List Op) {s : State} (hg : WGood s) (hok : RunOk s ops) (hnp : RunNPc s ops) :
    (∀ {s' outs}, run s ops = .ok (s', outs) → WGood s') ∧
    ∀ site, run s ops = .error (.sys (.core site)) → site.startsWith "!" = true := by
  obtain ⟨a, b⟩ := run_all (I := WGood) (C := fun s op => OpOk s op ∧ OpNPc s op)
    (R := fun s ops => RunOk s ops ∧ RunNPc s ops)
    (fun h => ⟨⟨(RunOk.cons h.1).1, (RunNPc.cons h.2).1⟩, fun h1 => ⟨(RunOk.cons h.1).2 h1, (RunNPc.cons h.2).2 h1⟩⟩)
    (fun hg hc h1 => wgood_step hg hc.1 hc.2 h1) ops hg ⟨hok, hnp⟩
  exact ⟨a, fun site h => let ⟨_, _, hg1, hc, he⟩ := b h; wgood_no_core_panic hg1 hc.1 hc.2 site he⟩

end NPX

/-- **the lifted hypothesis of one world action, WEAKENED for the delivery of a `TaskUpdate` batch**: of the worker
protocol `UpdatesOk UpdNP` only the `RunIdx` part (`UpdatesOk UpdRunIdx`: a `Running` about a Prefilled / Retracting
task names a variant the worker can host — M2 does not model resource vectors) remains, plus `RetsOk` (what the
client's `on_task_error` returned) and the exclusion of F27; every other action: `OpNPc` unchanged. -/
def OpNPc2 (s : State) (op : Op) : Prop :=
  match sysOpOf s op with
  | some (.update w us rets) =>
    Core.UpdatesOk Core.UpdRunIdx s.sys.core w us rets ∧ Core.RetsOk rets ∧ Core.UpdatesOk Core.NoF27 s.sys.core w us rets
  | o => NPcOfSys s.sys o

instance (s : State) (op : Op) : Decidable (OpNPc2 s op) := by
  unfold OpNPc2
  split <;> infer_instance

def RunNPc2 (s : State) : List Op → Prop
  | [] => True
  | op :: ops =>
    OpNPc2 s op ∧
    match step s op with
    | .ok (s1, _) => RunNPc2 s1 ops
    | .error _ => True

instance RunNPc2.decidable : ∀ (ops : List Op) (s : State), Decidable (RunNPc2 s ops)
  | [], _ => isTrue trivial
  | op :: ops, s => by
    simp only [RunNPc2]
    cases h : step s op with
    | error e => simp only; infer_instance
    | ok r =>
      obtain ⟨s1, o⟩ := r
      simp only
      have := RunNPc2.decidable ops s1
      infer_instance

namespace NPP
open HqModel.Core

/-- an `update` is only performed by the delivery of the batch at the head of that worker's queue -/
theorem sysOpOf_update {s : State} {op : Op} {w : Nat} {us : List Core.Update} {rets : List (List TaskId)}
    (h : sysOpOf s op = some (.update w us rets)) :
    ∃ x rest, findW s.workers w = some x ∧ x.w2s = .updates us :: rest := by
  rcases step_cases s op with ⟨_, _, _, hn⟩ | ⟨sop, ws, ha, _⟩ | ⟨_, _, _, _, _, hn⟩
  · rw [hn] at h; cases h
  · cases ha.sysOpOf_eq.symm.trans h
    cases ha with
    | srv hal => cases hal
    | updates hf hq => exact ⟨_, _, hf, hq⟩
  · rw [hn] at h; cases h

theorem opNPc_of_opNPc2 {s : State} {op : Op} (hi : WInv2 s) (h : OpNPc2 s op) : OpNPc s op := by
  unfold OpNPc2 at h
  unfold OpNPc
  split at h
  · rename_i w us rets hc
    rw [hc]
    obtain ⟨x, rest, hf, hq⟩ := sysOpOf_update hc
    have hnpw := (deliver_upd hi hf hq rets).2
    show (Core.UpdatesOk Core.UpdNP s.sys.core w us rets ∧ Core.RetsOk rets) ∧ Core.UpdatesOk Core.NoF27 s.sys.core w us rets
    exact ⟨⟨(updatesOk_updNP_iff _ _ _ _).mpr ⟨hnpw, h.1⟩, h.2.1⟩, h.2.2⟩
  · exact h

theorem opNPc2_of_opNPc {s : State} {op : Op} (h : OpNPc s op) : OpNPc2 s op := by
  unfold OpNPc at h
  unfold OpNPc2
  split
  · rename_i w us rets hc
    rw [hc] at h
    have h : (Core.UpdatesOk Core.UpdNP s.sys.core w us rets ∧ Core.RetsOk rets) ∧
        Core.UpdatesOk Core.NoF27 s.sys.core w us rets := h
    exact ⟨((updatesOk_updNP_iff _ _ _ _).mp h.1.1).2, h.1.2, h.2⟩
  · exact h

theorem runNPc_of_runNPc2 : ∀ (ops : List Op) {s : State}, WInv2 s → RunOk s ops → RunNPc2 s ops → RunNPc s ops := by
  intro ops
  induction ops with
  | nil => intro _ _ _ _; trivial
  | cons op rest ih =>
    intro s hi hok hnp
    simp only [RunNPc2] at hnp
    simp only [RunNPc]
    refine ⟨opNPc_of_opNPc2 hi hnp.1, ?_⟩
    cases h1 : step s op with
    | error e => trivial
    | ok r =>
      obtain ⟨s1, o1⟩ := r
      simp only [RunOk, h1] at hok
      simp only [h1] at hnp
      exact ih (step_inv hi hok.1 h1) hok.2 hnp.2

theorem runNPc2_of_runNPc : ∀ (ops : List Op) {s : State}, RunNPc s ops → RunNPc2 s ops
  | [], _, _ => trivial
  | op :: rest, s, h => by
    simp only [RunNPc] at h
    simp only [RunNPc2]
    refine ⟨opNPc2_of_opNPc h.1, ?_⟩
    cases h1 : step s op with
    | error e => trivial
    | ok r =>
      simp only [h1] at h
      exact runNPc2_of_runNPc rest h.2

end NPP

end HqModel.SysW
