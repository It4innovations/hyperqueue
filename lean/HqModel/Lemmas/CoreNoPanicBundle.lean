import HqModel.Lemmas.CoreNoPanicOkModel
import HqModel.Lemmas.CoreNoPanicFramePerFunction
import HqModel.Lemmas.CoreNoPanicDepsAct
import HqModel.Lemmas.CoreNoPanicQueueAct
/-!
C09 progress: the bundle `Bd U D R s` of everything the progress proofs of the reactor read of a state (at `D = noD`,
`R = []` it is `CoreGood`), and its preservation. Between two acts the bundle lives on the pair of accumulators and
state (`BdA`), and every chain of acts keeps it there (`Acts.bdA`, one call per family of invariants). A handler starts
and ends with nothing in repair (`Acts.bdG`, `Acts.bd`); a loop that runs with tasks in repair enters by `Bd.toA` and
leaves by `Bd.ofA`. Only the state → list clause `TWI`, which `Bd` states at an exempt predicate where `Kept.tw` has
the accumulators, comes from a lemma of its own for three of the loops (`…_tw`).
-/
namespace HqModel.Core.NPR

/-- everything the progress proofs read of a state: `D` = tasks in repair (exempt from the state → list clauses of
`TWI` and from `NpQ.pin`), `R` = ids disposed from a prefill set and not yet retracted -/
structure Bd (U : List TaskId) (D : TaskId → Prop) (R : List TaskId) (s : State) : Prop where
  inv : Inv s
  tw : TWI D s
  q : QInv U none [] s
  w : NpW s
  idx : NpIdx s
  mn : NpMn s
  deps : NpDeps U s
  nq : NpQ D R s

section
variable {U : List TaskId} {s s' : State}

theorem Bd.of (hi : InvF s) (hq : QInv U none [] s) (hn : NpInv U [] s) : Bd U noD [] s :=
  ⟨hi.inv, hi.tw, hq, hn.w, hn.idx, hn.mn, hn.deps, hn.q⟩

theorem Bd.invF {R} (hb : Bd U noD R s) : InvF s := ⟨hb.inv, hb.tw⟩

theorem Bd.npinv {R} (hb : Bd U noD R s) : NpInv U R s := ⟨hb.w, hb.idx, hb.mn, hb.deps, hb.nq⟩

theorem Bd.mono {D D' : TaskId → Prop} {R} (hb : Bd U D R s) (hd : ∀ x, D x → D' x) : Bd U D' R s :=
  ⟨hb.inv, hb.tw.mono hd, hb.q, hb.w, hb.idx, hb.mn, hb.deps, hb.nq.mono hd⟩

theorem Bd.nd {D R} (hb : Bd U D R s) : (taskIds s.tasks).Nodup := hb.inv.nd

/-- what the bundle is told of the acts of a handler: a Reject comes from the worker and for the variant the task is
assigned with, no Finished for a Retracting task, a Running message names a variant the worker has the slots for,
nothing new is added; the prefilled tasks of a lost worker are Prefilled, its assigned ones are not and have no
unfinished dependency -/
def bdSide : Side :=
  { Side.any with
    stale := False, fin := fun st => ∀ w0, st ≠ .retracting w0, run := NPA.RunFits, fresh := fun _ _ => False
    worker := fun _ _ => False, rq := fun _ => False, lostP := fun st => ∃ x, st = .prefilled x
    lostA := fun st => slack st = 0 ∧ ∀ w0, st ≠ .prefilled w0, newTask := fun _ => False }

theorem bdSide_le_sideI : bdSide.le sideI :=
  { stale := id, fin := fun _ _ => trivial, run := fun _ _ _ _ _ => trivial, fresh := fun _ _ _ => trivial,
    worker := fun _ _ h => h.elim, rq := fun _ _ => trivial, lost := fun _ _ _ => trivial, lostP := fun _ h => h,
    lostA := fun _ _ => trivial, newTask := fun _ _ => trivial }

theorem bdSide_le_dSide : bdSide.le NPB.dSide :=
  { stale := fun _ => trivial, fin := fun _ _ => trivial, run := fun _ _ _ _ _ => trivial, fresh := fun _ _ h => h.elim,
    worker := fun _ _ _ => trivial, rq := fun _ _ => trivial, lost := fun _ _ _ => trivial,
    lostP := fun _ ⟨_, e⟩ => e ▸ rfl, lostA := fun _ h => h.1, newTask := fun _ h => h.elim }

theorem bdSide_le_npSide : bdSide.le NPC.npSide :=
  { stale := id, fin := fun _ h => h, run := fun _ _ _ _ _ => trivial, fresh := fun _ _ _ => trivial,
    worker := fun _ _ h => h.elim, rq := fun _ _ => trivial, lost := fun _ _ _ => trivial, lostP := fun _ h => h,
    lostA := fun _ h => h.2, newTask := fun _ _ => trivial }

theorem bdSide_le_frSide : bdSide.le NPA.frSide :=
  { stale := fun _ => trivial, fin := fun _ _ => trivial, run := fun _ _ _ _ h => h, fresh := fun _ _ h => h,
    worker := fun _ _ h => h, rq := fun _ h => h, lost := fun _ _ _ => trivial, lostP := fun _ _ => trivial,
    lostA := fun _ _ => trivial, newTask := fun _ _ => trivial }

/-- the bundle between two acts of a handler, without the state → list clause: `Inv` with the released tasks `g.D`
free and the tasks of a dropped worker `g.L` detached (`PairInv`), `QInv` for the task being finished (`QG`), `NpQ`
with `g.D` and `D0` exempt (`D0` throughout) -/
structure BdA (D0 : TaskId → Prop) (a : Gh × State) : Prop where
  pair : PairInv a
  qg : QG a
  w : NpW a.2
  idx : NpIdx a.2
  mn : NpMn a.2
  deps : NpDeps a.1.U a.2
  np : NPC.NpG D0 a

/-- with nothing released, `D0` alone is exempt -/
theorem BdA.nq {D0 : TaskId → Prop} {g : Gh} (hb : BdA D0 (g, s)) (eD : g.D = []) : NpQ D0 g.R s :=
  hb.np.q.mono fun _ hx => hx.resolve_left (eD ▸ List.not_mem_nil)

/-- every chain of acts keeps the bundle; the state → list clause goes from the tasks in repair before to those
after -/
theorem _root_.HqModel.Core.Acts.bdA {D0 : TaskId → Prop} {a b : Gh × State} (h : Acts bdSide a b) (hb : BdA D0 a) :
    BdA D0 b ∧ (TWI a.1.rep a.2 → TWI b.1.rep b.2) :=
  -- `Acts.kept` asks of the side: no stale Reject, new workers fresh, lost prefilled tasks Prefilled (`sideI` says so)
  have k := (h.weaken bdSide_le_sideI).kept (fun h => h) (fun _ _ h => h) (fun _ h => h) hb.pair
  have f := (h.weaken bdSide_le_frSide).fr
  have d := (h.weaken bdSide_le_dSide).npdeps hb.qg hb.deps
  ⟨⟨k.1, d.1, f.npw hb.w, f.npidx' hb.pair.inv.rdRet hb.idx, f.npmn hb.mn, d.2,
    ((h.weaken bdSide_le_npSide).npg hb.pair hb.np).2⟩, k.2.tw⟩

/-- where nothing is being finished and no worker is dropped, `BdA` is `Bd` without `tw`, with the two promises about
the released tasks `u` -/
theorem Bd.toA {D0 : TaskId → Prop} {R u : List TaskId} (hb : Bd U (fun x => x ∈ u ∨ D0 x) R s)
    (hpf : NPC.PfD R s u) (hfr : ∀ x ∈ u, Free s x) : BdA D0 (⟨u, R, none, [], U, []⟩, s) :=
  ⟨⟨hb.inv, hfr, nofun⟩, ⟨hb.q, .nil⟩, hb.w, hb.idx, hb.mn, hb.deps, hb.nq, hpf⟩

theorem Bd.ofA {D0 : TaskId → Prop} {R u : List TaskId} (hb : BdA D0 (⟨u, R, none, [], U, []⟩, s))
    (htw : TWI (fun x => x ∈ u ∨ D0 x) s) : Bd U (fun x => x ∈ u ∨ D0 x) R s :=
  ⟨hb.pair.inv, htw, hb.qg.q, hb.w, hb.idx, hb.mn, hb.deps, hb.np.q⟩

/-- the invariants at the end of a chain of acts that starts (`R` = what is still to be retracted) and ends with nothing
in repair; `qg` is `QInv` for the task being finished and its consumers still to be woken, if any -/
theorem _root_.HqModel.Core.Acts.bdG {R : List TaskId} {g : Gh}
    (h : Acts bdSide (⟨[], R, none, [], U, []⟩, s) (g, s')) (hb : Bd U noD R s) (eD : g.D = []) (eL : g.L = []) :
    BdA noD (g, s') ∧ TWI noD s' :=
  have ⟨e, tw⟩ := h.bdA (D0 := noD) (Bd.toA (hb.mono fun _ => .inr) nofun nofun)
  ⟨e, (tw (hb.tw.mono fun _ h => h.elim)).mono fun _ hu => by
    unfold Gh.rep at hu; rw [eD, eL] at hu; exact hu.elim (nomatch ·) (nomatch ·)⟩

theorem _root_.HqModel.Core.Acts.bd {R R' : List TaskId}
    (h : Acts bdSide (⟨[], R, none, [], U, []⟩, s) (⟨[], R', none, [], U, []⟩, s')) (hb : Bd U noD R s) :
    Bd U noD R' s' :=
  have ⟨e, tw⟩ := h.bdG hb rfl rfl
  (Bd.ofA e (tw.mono fun _ => .inr)).mono fun _ hx => hx.elim (nomatch ·) id

theorem updSide_bd {w : Nat} {u : Update} (h1 : UpdProto s w u) (h2 : UpdNP s w u) : UpdSide bdSide s w u := by
  cases u with
  | reject => exact .inr h1
  | finished => exact fun _ ht w0 => NPC.updNP_fin_not_retracting h2 ht w0
  | running => exact .of_updNP (.inl h2)
  | runningPrefilled => exact .of_updNP (.inr h2)
  | _ => trivial

theorem updatesSide_bd {w : Nat} {us : List Update} {rets : List (List TaskId)} (h1 : UpdatesOk UpdProto s w us rets)
    (h2 : UpdatesOk UpdNP s w us rets) : UpdatesOk (UpdSide bdSide) s w us rets :=
  UpdatesOk.mono (fun _ _ _ h => updSide_bd h.1 h.2) _ _ _ (UpdatesOk.and us s rets h1 h2)

theorem Bd.cancelLoop {ids u u' : List TaskId} {r r' : List (Nat × List TaskId)}
    (hb : Bd U (· ∈ u) [] s) (hpf : NPC.PfD [] s u) (hfr : ∀ x ∈ u, Free s x) (hnd : u.Nodup)
    (h : s.cancelLoop ids u r = .ok (s', u', r')) :
    Bd U (· ∈ u') [] s' ∧ NPC.PfD [] s' u' ∧ ∀ x ∈ u', Free s' x := by
  obtain ⟨D', a, b, _⟩ := cancelLoop_acts (sd := bdSide) (R := []) (f := none) (p := []) (U := U) (L := []) ids (D := u)
    h (fun _ => Iff.rfl) hnd
  obtain ⟨e, tw⟩ := a.bdA (D0 := noD) (Bd.toA (hb.mono fun _ => .inl) hpf hfr)
  exact ⟨(Bd.ofA e ((tw (hb.tw.mono fun _ => .inl)).mono fun _ hx => .inl (hx.elim id (nomatch ·)))).mono
      fun x hx => hx.elim (b x).mp (nomatch ·),
    e.np.pfd.mono (fun x hx => (b x).mpr hx) fun _ hx => hx, fun x hx => e.pair.free x ((b x).mpr hx)⟩

/-- `D0` = what stays in repair -/
theorem Bd.removeTasksBatched {D0 : TaskId → Prop} {ids : List TaskId}
    (hb : Bd U (fun x => x ∈ ids ∨ D0 x) [] s) (hpf : NPC.PfD [] s ids) (hfr : ∀ x ∈ ids, Free s x)
    (h : s.removeTasksBatched ids = .ok s') : Bd U D0 [] s' := by
  have a := removeTasksBatched_acts (sd := bdSide) (R := []) (p := []) (U := U) (L := []) ids (D := ids) h
    (NPC.removeTasksBatched_nodup hb.inv.nd h).1 fun _ hx => hx
  have e := (a.bdA (Bd.toA hb hpf hfr)).1
  exact (Bd.ofA e ((removeTasksBatched_tw _ _ _ hb.tw hb.inv.nd hfr h).mono fun _ => .inr)).mono
    fun x hx => hx.resolve_left fun hm => by simpa using (List.mem_filter.mp hm)

theorem Bd.cancelTasks {ids : List TaskId} {o : Out} (hb : Bd U noD [] s) (h : s.cancelTasks ids = .ok (s', o)) :
    Bd U noD [] s' :=
  (cancelTasks_acts h).bd hb

theorem Bd.removeWaitingAll {D R} {ids : List TaskId} (hb : Bd U D R s) (h : s.removeWaitingAll ids = .ok s') :
    Bd U D R s' :=
  have e := ((removeWaitingAll_acts (sd := bdSide) rfl ids h).bdA
    (Bd.toA (u := []) (hb.mono fun _ => .inr) nofun nofun)).1
  (Bd.ofA e ((removeWaitingAll_tw _ _ _ hb.tw hb.inv h).mono fun _ => .inr)).mono fun _ hx => hx.elim (nomatch ·) id

theorem Bd.taskFailed {worker : Option Nat} {id : TaskId} {ret : List TaskId} {o : Out} (hb : Bd U noD [] s)
    (h : s.taskFailed worker id ret = .ok (s', o)) : Bd U noD [] s' :=
  (taskFailed_acts h).bd hb

theorem Bd.taskRunning {w : Nat} {id : TaskId} {rv : Nat} {o : Out} (hb : Bd U noD [] s)
    (hp : UpdNP s w (.running id rv)) (h : s.taskRunning w id rv = .ok (s', o)) : Bd U noD [] s' :=
  (taskRunning_acts (sd := bdSide) (NPA.RunFits.of_updNP (.inl hp)) h).bd hb

theorem Bd.taskFinished {w : Nat} {id : TaskId} {o : Out} {b : Bool} (hb : Bd U noD [] s)
    (hp : UpdNP s w (.finished id)) (h : s.taskFinished w id = .ok (s', o, b)) : Bd U noD [] s' :=
  (taskFinished_acts (sd := bdSide) (fun _ ht w0 => NPC.updNP_fin_not_retracting hp ht w0) h).bd hb

theorem Bd.taskReject {w : Nat} {id : TaskId} {rv : Option Nat} {o : Out} {b : Bool} (hb : Bd U noD [] s)
    (hr : RejectOk s w id rv) (h : s.taskReject w id rv = .ok (s', o, b)) : Bd U noD [] s' :=
  (taskReject_acts (.inr hr) h).bd hb

theorem Bd.requestEnabled {w rq rv : Nat} (hb : Bd U noD [] s) (h : s.requestEnabled w rq rv = .ok s') :
    Bd U noD [] s' :=
  (requestEnabled_acts h).bd hb

theorem Bd.updateState {w : Nat} {u : Update} {rets rets' : List (List TaskId)} (hb : Bd U noD [] s)
    (h1 : UpdProto s w u) (h2 : UpdNP s w u) (h : s.updateState w u rets = .ok (s', rets')) : Bd U noD [] s' :=
  (updateState_acts (updSide_bd h1 h2) h).bd hb

theorem Bd.updateLoop {w : Nat} {us : List Update} {rets rets' : List (List TaskId)} {o o' : Out} {n n' : Bool}
    (hb : Bd U noD [] s) (h1 : UpdatesOk UpdProto s w us rets) (h2 : UpdatesOk UpdNP s w us rets)
    (h : s.updateLoop w us rets o n = .ok (s', o', n', rets')) : Bd U noD [] s' :=
  (updateLoop_acts us (updatesSide_bd h1 h2) h).bd hb

theorem Bd.taskUpdate {w : Nat} {us : List Update} {rets : List (List TaskId)} {o : Out}
    (hb : Bd U noD [] s) (h1 : UpdatesOk UpdProto s w us rets) (h2 : UpdatesOk UpdNP s w us rets)
    (h : s.taskUpdate w us rets = .ok (s', o)) : Bd U noD [] s' :=
  (taskUpdate_acts (updatesSide_bd h1 h2) h).bd hb

theorem Bd.retract {D R} {o : Out} (hb : Bd U D R s) (h : s.retract R = .ok (s', o)) : Bd U D [] s' :=
  have e := ((retract_acts (sd := bdSide) h).bdA (Bd.toA (u := []) (hb.mono fun _ => .inr) nofun nofun)).1
  (Bd.ofA e ((retract_tw hb.tw h).mono fun _ => .inr)).mono fun _ hx => hx.elim (nomatch ·) id

end

end HqModel.Core.NPR
