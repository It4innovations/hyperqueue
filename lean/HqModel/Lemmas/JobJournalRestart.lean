import HqModel.Lemmas.JobJournalRestartDefs
import HqModel.Lemmas.JobJournalIds
import HqModel.Lemmas.JournalRestore
/-!
# What `restore` and `meaning` give the restart proofs

`restore_clean`: every task `restore` hands to the job layer is Waiting or carries an outcome. `meaning_keysLe`: in the
meaning of a producible journal every job id, and the job of every recorded start, is at most `maxJob` — the job
counter the restored server continues from.
-/
namespace HqModel.Emit
open HqModel.Job HqModel.Journal

/-- every task is Waiting or carries an outcome -/
def Clean (ts : List (Nat × Journal.TState)) : Prop := ∀ p ∈ ts, p.2 = .waiting ∨ p.2.isCompleted = true

theorem attachIds_clean : ∀ (ids : List Nat) {ts ts' : List (Nat × Journal.TState)}, Clean ts →
    attachIds ts ids = .ok ts' → Clean ts'
  | [], _, _, h, e => by simp only [attachIds] at e; cases e; exact h
  | i :: is, ts, ts', h, e => by
    simp only [attachIds] at e
    split at e
    · cases e
    · refine attachIds_clean is ?_ e
      intro p hp
      rcases mem_alSet hp with hp | rfl
      · exact h p hp
      · exact .inl rfl

theorem applyStates_clean (rt : List (Nat × RTask)) {ts : List (Nat × Journal.TState)} (h : Clean ts) :
    Clean (applyStates rt ts) := by
  intro p hp
  simp only [applyStates, List.mem_map] at hp
  obtain ⟨jt, hjt, rfl⟩ := hp
  split
  · split
    · split
      · rename_i hc; exact .inr hc
      · exact h jt hjt
    · exact h jt hjt
  · exact h jt hjt

theorem restoreSubmit_clean {job : Nat} {rt : List (Nat × RTask)} {acc acc' : JobAcc} {d : Journal.TaskDesc}
    (h : Clean acc.tasks) (e : restoreSubmit job rt acc d = .ok acc') : Clean acc'.tasks := by
  simp only [restoreSubmit] at e
  split at e
  · cases e
  · cases e
  · split at e
    · cases e
    · rename_i tasks ha
      cases e
      exact applyStates_clean rt (attachIds_clean _ h ha)

theorem restoreSubmits_clean {job : Nat} {rt : List (Nat × RTask)} : ∀ (ds : List Journal.TaskDesc) {acc acc' : JobAcc},
    Clean acc.tasks → restoreSubmits job rt acc ds = .ok acc' → Clean acc'.tasks
  | [], _, _, h, e => by simp only [restoreSubmits] at e; cases e; exact h
  | d :: ds, acc, acc', h, e => by
    simp only [restoreSubmits] at e
    split at e
    · rename_i acc1 h1
      exact restoreSubmits_clean ds (restoreSubmit_clean h h1) e
    · cases e

theorem restoreJob_clean {id : Nat} {j : RJob} {rj : RestoredJob} {bs : List Batch}
    (e : restoreJob id j = .ok (rj, bs)) : Clean rj.tasks ∧ rj.id = id := by
  simp only [restoreJob] at e
  split at e
  · rename_i acc h1
    cases e
    exact ⟨restoreSubmits_clean _ (show Clean ([] : List (Nat × Journal.TState)) from fun p hp => by cases hp) h1, rfl⟩
  · cases e

theorem restoreJobsFrom_clean : ∀ (l : List (Nat × RJob)) {acc X : Restored},
    (∀ rj ∈ acc.jobs, Clean rj.tasks) → restoreJobsFrom l acc = .ok X → ∀ rj ∈ X.jobs, Clean rj.tasks
  | [], _, _, h, e => by simp only [restoreJobsFrom] at e; cases e; exact h
  | (id, j) :: rest, acc, X, h, e => by
    simp only [restoreJobsFrom] at e
    split at e
    · rename_i rj bs h1
      refine restoreJobsFrom_clean rest ?_ e
      intro rj' hm
      simp only [List.mem_append, List.mem_singleton] at hm
      rcases hm with hm | rfl
      · exact h rj' hm
      · exact (restoreJob_clean h1).1
    · cases e

theorem restore_clean {J : List Record} {R : Restorer} {X : Restored} (e : restore J = .ok (R, X)) :
    ∀ rj ∈ X.jobs, Clean rj.tasks := by
  simp only [restore] at e
  split at e
  · cases e
  · split at e
    · cases e
    · rename_i r hr x hx
      cases e
      exact restoreJobsFrom_clean _ (fun rj hm => by cases hm) hx

theorem restore_fold {J : List Record} {R : Restorer} {X : Restored} (e : restore J = .ok (R, X)) :
    restorerFold J = .ok R :=
  (restore_ok_iff.1 e).1

theorem submitsOk_nodup : ∀ (ds : List Journal.TaskDesc) (have_ : List Nat), have_.Nodup → submitsOk have_ ds = true →
    (have_ ++ ds.flatMap (·.ids)).Nodup
  | [], have_, h, _ => by simpa using h
  | d :: ds, have_, h, hok => by
    simp only [submitsOk, Bool.and_eq_true] at hok
    have hnd : (have_ ++ d.ids).Nodup := by
      rw [List.nodup_append]
      refine ⟨h, submitOk_nodup hok.1, ?_⟩
      intro a ha b hb e
      subst e
      exact submitOk_fresh hok.1 a hb ha
    have := submitsOk_nodup ds _ hnd hok.2
    simpa [List.append_assoc] using this

theorem JobRel.ids_nodup {rj : RJob} {aj : AJob} (h : JobRel rj aj) : (aj.tasks.map (·.id)).Nodup := by
  rw [h.ids]
  simpa using submitsOk_nodup rj.submits [] (by simp) h.valid

def KeysLe (A : AState) : Prop := ∀ j aj, alGet A.jobs j = some aj → j ≤ A.maxJob

theorem maxJob_step (A : AState) (r : Record) :
    (meaningStep A r).maxJob = match createdJob r with | some j => max A.maxJob j | none => A.maxJob := by
  cases r with
  | submit j closed mf d =>
    cases closed with
    | true => rfl
    | false =>
      simp only [meaningStep, createdJob, Bool.false_eq_true, if_false]
      split <;> rfl
  | jobClose j => simp only [meaningStep, createdJob]; split <;> rfl
  -- `(· :)`: against the expected type the `match` reduces to `A.maxJob`, and `congrArg` would ask for `meaningStep A r = A`
  | taskStarted j t i ws => exact (congrArg AState.maxJob (updTask_frame ..) :)
  | taskFinished j t => exact (congrArg AState.maxJob (setOutcome_frame ..) :)
  | taskFailed j t => exact (congrArg AState.maxJob (setOutcome_frame ..) :)
  | tasksCanceled ids => exact (congrArg AState.maxJob (foldl_setOutcome_frame ..) :)
  | tasksAborted ids => exact (congrArg AState.maxJob (foldl_setOutcome_frame ..) :)
  | _ => rfl

theorem entryStep_isSome {job : Nat} {o : Option AJob} {r : Record} (h : (entryStep job o r).isSome = true) :
    o.isSome = true ∨ createdJob r = some job := by
  cases r with
  | submit j closed mf d =>
    simp only [entryStep] at h
    split at h
    · rename_i hj
      cases closed with
      | true => exact .inr (by simp [createdJob, hj])
      | false => simp at h; exact .inl (by simpa using h)
    · exact .inl h
  | jobOpen j mf =>
    simp only [entryStep] at h
    split at h
    · rename_i hj; exact .inr (by simp [createdJob, hj])
    · exact .inl h
  | jobClose j =>
    simp only [entryStep] at h
    split at h
    · exact .inl (by simpa using h)
    · exact .inl h
  | jobCompleted j =>
    simp only [entryStep] at h
    split at h
    · cases h
    · exact .inl h
  | taskStarted j t i ws =>
    simp only [entryStep] at h
    split at h
    · exact .inl (by simpa using h)
    · exact .inl h
  | taskFinished j t =>
    simp only [entryStep] at h
    split at h
    · exact .inl (by simpa using h)
    · exact .inl h
  | taskFailed j t =>
    simp only [entryStep] at h
    split at h
    · exact .inl (by simpa using h)
    · exact .inl h
  | tasksCanceled ids => simp only [entryStep] at h; exact .inl (by simpa using h)
  | tasksAborted ids => simp only [entryStep] at h; exact .inl (by simpa using h)
  | workerLost w reason => simp only [entryStep] at h; exact .inl (by simpa using h)
  | _ => exact .inl h

theorem KeysLe.step {A : AState} (h : KeysLe A) (r : Record) :
    KeysLe (meaningStep A r) ∧ A.maxJob ≤ (meaningStep A r).maxJob := by
  have hm := maxJob_step A r
  have hge : A.maxJob ≤ (meaningStep A r).maxJob := by
    rw [hm]; split
    · exact Nat.le_max_left _ _
    · exact Nat.le_refl _
  refine ⟨?_, hge⟩
  intro j aj hj
  rw [entry_eq] at hj
  rcases entryStep_isSome (by rw [hj]; rfl) with h1 | h1
  · obtain ⟨aj0, h0⟩ := Option.isSome_iff_exists.mp h1
    exact Nat.le_trans (h j aj0 h0) hge
  · rw [hm, h1]; exact Nat.le_max_right _ _

theorem started_le : ∀ (J : List Record) {A : AState}, KeysLe A → producibleFrom A J = true →
    KeysLe (J.foldl meaningStep A) ∧ A.maxJob ≤ (J.foldl meaningStep A).maxJob ∧
    ∀ r ∈ J, ∀ j, startedJob r = some j → j ≤ (J.foldl meaningStep A).maxJob
  | [], _, h, _ => ⟨h, Nat.le_refl _, fun r hr => by cases hr⟩
  | r :: rs, A, h, hp => by
    simp only [producibleFrom, Bool.and_eq_true] at hp
    obtain ⟨h1, h2⟩ := h.step r
    obtain ⟨g1, g2, g3⟩ := started_le rs h1 hp.2
    simp only [List.foldl_cons]
    refine ⟨g1, by omega, ?_⟩
    intro r' hr' j hj
    simp only [List.mem_cons] at hr'
    rcases hr' with rfl | hr'
    · obtain ⟨t, i, ws, rfl⟩ := startedJob_eq_some hj
      have hok := hp.1
      simp only [recordOk, Bool.and_eq_true] at hok
      obtain ⟨aj, -, hg, -⟩ := taskIs_elim hok.1
      have := h j aj hg
      omega
    · exact g3 r' hr' j hj

theorem meaning_keysLe (J : List Record) (hp : Producible J) :
    KeysLe (meaning J) ∧ ∀ r ∈ J, ∀ j, startedJob r = some j → j ≤ (meaning J).maxJob := by
  have := started_le J (A := {}) (fun j aj h => by simp [alGet] at h) hp
  exact ⟨this.1, this.2.2⟩

end HqModel.Emit
