import HqModel.Lemmas.WorkerBasic
/-!
The message loop of the worker (`compute_tasks`, and the tail of `handle_task_future`) as a small-step system:
what is in hand (`Mode`) and the eight things the loop can do next (`Mv`). `computeEntries` and `prefillLoop` are paths
of such moves, so an invariant of the loop is proved by looking at each move once (`Path.preserves`).
-/
namespace HqModel.Worker

/-- what the loop holds between two moves: the entries still to come and, while an allocation `h` (for variant `rv`,
to be offered to the backlog of class `rq`) is in flight, possibly the task `x` about to be tried with it -/
inductive Mode where
  | idle (es : List Entry)
  | hand (es : List Entry) (rq rv h : Nat) (p : Bool) (x : Task)
  | flight (es : List Entry) (rq rv h : Nat)

/-- one move of the loop: an entry is pushed to its backlog, soft-rejected, or granted an allocation (`idle`); the task
in hand is hard-rejected, fails to launch, or starts (`hand`); with nobody started yet the next waiting task is popped,
or the allocation is released because none is left (`flight`) -/
inductive Mv : Mode → Acc → Mode → Acc → Prop
  | push {a : Acc} {e : Entry} {es : List Entry} (hrv : e.rv = none) :
      Mv (.idle (e :: es)) a (.idle es) { a with s := pushed a.s e.task }
  | block {a : Acc} {e : Entry} {es : List Entry} {rv : Nat} (hrv : e.rv = some rv) (hal : e.alloc = none) :
      Mv (.idle (e :: es)) a (.idle es)
        { a with s := insertBlocked a.s (e.task.rq, rv), upd := a.upd ++ [.reject e.task.id (some rv)] }
  | alloc {a : Acc} {e : Entry} {es : List Entry} {rv h : Nat} (hrv : e.rv = some rv) (hal : e.alloc = some h)
      (hlive : h ∉ a.s.live) :
      Mv (.idle (e :: es)) a (.hand es e.task.rq rv h false e.task) { a with s := { a.s with live := h :: a.s.live } }
  | reject {a : Acc} {es : List Entry} {rq rv h : Nat} {p : Bool} {x : Task} :
      Mv (.hand es rq rv h p x) a (.flight es rq rv h) { a with upd := a.upd ++ [.reject x.id (some rv)] }
  | fail {a : Acc} {es : List Entry} {rq rv h : Nat} {p : Bool} {x : Task} :
      Mv (.hand es rq rv h p x) a (.flight es rq rv h)
        { a with ev := a.ev ++ [.launch x.id x.inst rv h false], upd := a.upd ++ [.failed x.id .launch] }
  | start {a : Acc} {es : List Entry} {rq rv h : Nat} {p : Bool} {x : Task} (hrun : isRunning a.s x.id = false) :
      Mv (.hand es rq rv h p x) a (.idle es)
        { s := started a.s x rv h, ev := a.ev ++ [.launch x.id x.inst rv h true],
          upd := a.upd ++ [if p then .runningPrefilled x.id rv else .running x.id rv] }
  | pop {a : Acc} {es : List Entry} {rq rv h : Nat} {x : Task} {rest : List Task} (hbl : a.s.backlog rq = x :: rest) :
      Mv (.flight es rq rv h) a (.hand es rq rv h true x) { a with s := setBacklog a.s rq rest }
  | release {a : Acc} {es : List Entry} {rq rv h : Nat} (hbl : a.s.backlog rq = []) :
      Mv (.flight es rq rv h) a (.idle es) { a with s := released a.s rq h, ev := a.ev ++ [.release h] }

inductive Path : Mode → Acc → Mode → Acc → Prop
  | nil {m : Mode} {a : Acc} : Path m a m a
  | cons {m m1 m' : Mode} {a a1 a' : Acc} : Mv m a m1 a1 → Path m1 a1 m' a' → Path m a m' a'

theorem Path.one {m m' : Mode} {a a' : Acc} (h : Mv m a m' a') : Path m a m' a' := .cons h .nil

theorem Path.trans {m m1 m' : Mode} {a a1 a' : Acc} (h1 : Path m a m1 a1) (h2 : Path m1 a1 m' a') : Path m a m' a' := by
  induction h1 with
  | nil => exact h2
  | cons hm _ ih => exact .cons hm (ih h2)

theorem Path.preserves {I : Mode → Acc → Prop} (hI : ∀ {m a m' a'}, Mv m a m' a' → I m a → I m' a')
    {m m' : Mode} {a a' : Acc} (hp : Path m a m' a') (h : I m a) : I m' a' := by
  induction hp with
  | nil => exact h
  | cons hm _ ih => exact ih (hI hm h)

theorem tryStart_mv {es : List Entry} {rq : Nat} {a a' : Acc} {x : Task} {rv h : Nat} {p c : Bool}
    (hs : tryStart a x rv p h = .ok (a', c)) :
    Mv (.hand es rq rv h p x) a (if c then .idle es else .flight es rq rv h) a' := by
  rcases tryStart_cases hs with ⟨_, _, e⟩ | ⟨_, _, e | e | ⟨_, e⟩ | ⟨hr, e⟩⟩ <;> cases e
  · exact .reject
  · exact .fail
  · exact .start hr

theorem prefillLoop_path {es : List Entry} {rq rv h : Nat} : ∀ (bl : List Task) {a a' : Acc} {c : Bool},
    a.s.backlog rq = bl → prefillLoop rq rv h bl a = .ok (a', c) → Path (.flight es rq rv h) a (.idle es) a'
  | [], a, a', c, hbl, hs => by
    simp only [prefillLoop] at hs
    cases hs
    exact .one (.release hbl)
  | x :: rest, a, a', c, hbl, hs => by
    simp only [prefillLoop] at hs
    split at hs
    · cases hs
    · rename_i a1 hts
      cases hs
      exact .cons (.pop hbl) (.one (tryStart_mv hts))
    · rename_i a1 hts
      refine .cons (.pop hbl) (.cons (tryStart_mv hts) (prefillLoop_path rest ?_ hs))
      rw [tryStart_false hts]
      exact setBacklog_backlog_same ..

theorem computeEntry_path {es : List Entry} {a a' : Acc} {e : Entry} (hs : computeEntry a e = .ok a') :
    Path (.idle (e :: es)) a (.idle es) a' := by
  rcases computeEntry_ok hs with ⟨hrv, rfl⟩ | ⟨rv, hrv, -, ⟨hal, rfl⟩ | ⟨h, hal, hlive, hts | ⟨a1, c, hts, hpl⟩⟩⟩
  · exact .one (.push hrv)
  · exact .one (.block hrv hal)
  · exact .cons (.alloc hrv hal hlive) (.one (tryStart_mv hts))
  · exact .cons (.alloc hrv hal hlive) (.cons (tryStart_mv hts) (prefillLoop_path _ rfl hpl))

theorem computeEntries_path : ∀ (es : List Entry) {a a' : Acc},
    computeEntries es a = .ok a' → Path (.idle es) a (.idle []) a'
  | [], a, a', hs => by simp only [computeEntries] at hs; cases hs; exact .nil
  | e :: es, a, a', hs => by
    simp only [computeEntries] at hs
    split at hs
    · cases hs
    · rename_i a1 h1
      exact (computeEntry_path h1).trans (computeEntries_path es hs)

theorem computeEntries_error : ∀ (es : List Entry) {a : Acc} {err : Stop}, computeEntries es a = .error err →
    ∃ e es' a1, Path (.idle es) a (.idle (e :: es')) a1 ∧ computeEntry a1 e = .error err
  | [], a, err, hs => by simp only [computeEntries] at hs; cases hs
  | e :: es, a, err, hs => by
    simp only [computeEntries] at hs
    split at hs
    · rename_i err' he
      cases hs
      exact ⟨e, es, a, .nil, he⟩
    · rename_i a1 h1
      obtain ⟨e', es', a2, hp, he⟩ := computeEntries_error es hs
      exact ⟨e', es', a2, (computeEntry_path h1).trans hp, he⟩

theorem compute_path {s s' : State} {es : List Entry} {outs : List Out} (hs : compute s es = .ok (s', outs)) :
    ∃ a, Path (.idle es) { s := s } (.idle []) a ∧ s' = a.s ∧ outs = (finish a).2 := by
  obtain ⟨a, ha, rfl, rfl⟩ := compute_ok hs
  exact ⟨a, computeEntries_path es ha, rfl, rfl⟩

theorem taskEnd_path {s s' : State} {t : Nat} {res : TaskResult} {en : List ((Nat × Nat) × Bool)} {outs : List Out}
    (hs : taskEnd s t res en = .ok (s', outs)) :
    ∃ r a bl' upd', s.running.find? (fun r => r.task.id == t) = some r ∧
      Path (.flight [] r.task.rq r.rv r.h)
        { s := { s with running := s.running.filter (fun x => x.task.id != t) }, upd := resultUpdates t res }
        (.idle []) a ∧
      s' = { a.s with blocked := bl' } ∧ outs = (finish { a with upd := upd' }).2 ∧
      ∃ ks : List (Nat × Nat), upd' = a.upd ++ ks.map fun k => .enable k.1 k.2 := by
  obtain ⟨r, a, used, bl', upd', hr, hpl, rfl, rfl, hupd⟩ := taskEnd_ok hs
  refine ⟨r, a, bl', upd', hr, prefillLoop_path _ rfl hpl, rfl, rfl, ?_⟩
  rcases hupd with ⟨_, _, _, _, rfl⟩ | ⟨_, _, rfl⟩
  · exact ⟨_, rfl⟩
  · exact ⟨[], (List.append_nil _).symm⟩

end HqModel.Worker
