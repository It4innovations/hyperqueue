import HqModel.Lemmas.CoreInvKeep
import HqModel.Lemmas.CoreInvSched
/-!
One scheduling round keeps the structural invariant in both directions and the resource equation: one statement per
function of `Sched.lean` (`Placed.kept`, `mapSn_kept`, `mapMn_kept`, `proactive_kept`, `schedule_kept`). A single-node
placement books a free task, after the old redirect target or the worker that had the task prefilled has given it up; a
multi-node placement and the proactive filling move tasks that hold no reservation. The round reads the queues through
`QueueOk` of the state it starts from (`Trk`).
-/
namespace HqModel.Core

variable {Q : Prop} {s s' s0 : State}

theorem putTask_self {ts : List Task} (hn : (taskIds ts).Nodup) {t : Task} (hf : findTask ts t.id = some t) :
    putTask ts t = ts := by
  induction ts with
  | nil => rfl
  | cons y ys ih =>
    simp only [taskIds, List.map_cons, List.nodup_cons] at hn
    simp only [findTask] at hf
    simp only [putTask]
    by_cases hy : y.id = t.id
    · rw [if_pos hy] at hf ⊢
      have e : y = t := Option.some.inj hf
      subst e
      have hnf : findTask ys y.id = none := findTask_none_of_not_mem hn.1
      have : ∀ l : List Task, findTask l y.id = none → putTask l y = l := fun l => by
        induction l with
        | nil => exact fun _ => rfl
        | cons z zs ih2 =>
          intro hz
          simp only [findTask] at hz
          simp only [putTask]
          by_cases hzy : z.id = y.id
          · rw [if_pos hzy] at hz; cases hz
          · rw [if_neg hzy] at hz ⊢; rw [ih2 hz]
      rw [this ys hnf]
    · rw [if_neg hy] at hf ⊢
      rw [ih hn.2 hf]

theorem Placed.kept {m m' : List WUpdate} {v : Nat} {r : Rq} {id : TaskId} {w i : Nat}
    (h : Placed s m v r id w s' m') (hi : Inv s) (hg : Good s i id) :
    Kept (s.rq i v = .ok r ∧
        ∀ wk A F P, findWorker s.workers w = some wk → wk.assign = .sn A F P → NoSat wk.total F r.entries)
      noD noD s s' := by
  have hent : ∀ {task}, s.rq i v = .ok r → findTask s.tasks id = some task →
      rqEntries s.rqs task.rq v = some r.entries := fun hrq ht => by
    rw [(hg _ ht).1]; exact rqEntries_of_rq hrq
  cases h with
  | waiting s1 task n hw hgt hs =>
    obtain ⟨wk, wk', hfw, hf, rfl⟩ := withWorker_spec hw
    obtain ⟨A, F, P, F', ha, hfr, hnm, rfl⟩ := insertSn_spec hf
    have ht : findTask s.tasks id = some task := getTask_spec hgt
    cases findTask_some_id ht
    have hfree : Free s task.id := hi.free_of_state (.inr (.inl ⟨n, by rw [stOf_of_find ht, hs]⟩))
    exact (Mv.book hi (D := noD) (t' := { task with state := .assigned w v }) (told := task) (es := r.entries) (F' := F')
      (rd' := s.redirects) (fun _ hu => hu.elim) ht hfree (by rw [hs]; exact fun l e => nomatch e) hfw ha hnm hfr rfl rfl
      (hg task ht).2 (.same hfree.nr hi.ls.d2 rfl)).imp fun hq => ⟨hq.2 wk A F P hfw ha, hent (task := task) hq.1 ht⟩
  | redirect s1 task old hw hgt hs hnone =>
    obtain ⟨wk, wk', hfw, hf, rfl⟩ := withWorker_spec hw
    obtain ⟨A, F, P, F', ha, hfr, hnm, rfl⟩ := insertSn_spec hf
    have ht : findTask s.tasks id = some task := getTask_spec hgt
    cases findTask_some_id ht
    have hnr : ∀ x v', (task.id, x, v') ∉ s.redirects := rd_find_none hnone
    have hfree : Free s task.id := hi.ls.free_of_retracting (w0 := old) (by rw [stOf_of_find ht, hs]) hnr
    have f5 := find_append_self_of_none (w := w) (v := v) hnr
    refine ((Mv.book hi (D := noD) (t' := task) (told := task) (es := r.entries) (F' := F') (rd' := s.redirects ++ [(task.id, w, v)])
      (fun _ hu => hu.elim) ht hfree (by rw [hs]; exact fun l e => nomatch e) hfw ha hnm hfr rfl rfl
      (hi.not_consumer ht (by rw [hs]; exact id)) (hs ▸ .append w v hnr hi.ls.d2)).imp fun hq => ⟨hq.2 wk A F P hfw ha, ?_⟩).coreEq ⟨?_, rfl, ?_, rfl⟩
    · rw [hs]; simp only [variantOf, f5, Option.map_some, Option.bind_some]; exact hent hq.1 ht
    · exact (putTask_self hi.nd ht).symm
    · show s.redirects.filter _ ++ _ = _; rw [rd_filter_self hnr]
  | reredirect s1 task old ot ov r' s3 hw hgt hs hfind hr' hw3 =>
    obtain ⟨wk, wk', hfw, hf, rfl⟩ := withWorker_spec hw
    obtain ⟨hwid1, hnm1, hA, hP, hM⟩ := insertSn_views hf
    obtain ⟨A, F, P, F', ha, hfr, hnm, rfl⟩ := insertSn_spec hf
    have ht : findTask s.tasks id = some task := getTask_spec hgt
    cases findTask_some_id ht
    obtain rfl : wk.id = w := findWorker_some_id hfw
    have hfind' : s.redirects.find? (·.1 = task.id) = some (task.id, ot, ov) := hfind
    obtain ⟨wk2, wk2', hfw2, hf2, rfl⟩ := withWorker_spec hw3
    change findWorker (putWorker s.workers _) ot = some wk2 at hfw2
    obtain ⟨hwid2, _, hA2, hP2, hM2⟩ := removeSn_views hf2
    have hid2 : wk2'.id = ot := hwid2.trans (findWorker_some_id hfw2)
    refine Kept.of_tw ?_ fun htw => ?_
    · -- `Inv` alone does not say that the old target holds the task: the two records are replaced in the code's order
      refine hi.put (t' := { task with state := .retracting old }) ht rfl rfl (by simp [hs, isWaiting]) (by simp) ?_
      have hl := hi.ls.mv_reredirect (v := v) (by rw [stOf_of_find ht, hs]) (hid2 ▸ (rd_mem_of_find hfind').1)
        (findWorker_of_id hfw hwid1) hnm1 hA hP hM (findWorker_of_id hfw2 hwid2) hA2 hP2 hM2
      exact hl.mv_same (t' := { task with state := .retracting old }) ht (by simp [hs])
    -- the old target holds the task, `w` does not: they differ
    have hne : ot ≠ wk.id := fun e => by
      have := htw.tw.d1 _ _ _ (not_noD _) (rd_mem_of_find hfind').1
      rw [e, asgW_of_sn hfw ha] at this
      exact hnm this
    rw [findWorker_putWorker, if_neg (fun e => hne e)] at hfw2
    -- the same state is reached by withdrawing the old redirect first and booking on `w` then
    have hmid : s.tryRemoveRedirection task.id task.rq =
        .ok (({ s with redirects := s.redirects.filter (·.1 ≠ task.id) } : State).setWorker wk2') := by
      simp only [State.tryRemoveRedirection, hfind', show ({ s with redirects := s.redirects.filter (·.1 ≠ task.id) } :
        State).rq task.rq ov = .ok r' from rq_ok_iff.mpr (rq_ok_iff.mp hr')]
      exact NP.withWorker_ok (s := { s with redirects := s.redirects.filter (·.1 ≠ task.id) }) hfw2 hf2
    have k1 := Mv.unredirect (Q := True) (D := noD) hi ht hs hmid
    have f5 := find_append_self_of_none (rd := s.redirects.filter (·.1 ≠ task.id)) (w := wk.id) (v := v) k1.2.nr
    have k2 := Mv.book k1.1.inv (D := noD) (t' := { task with state := .retracting old }) (told := task)
      (es := r.entries) (wk := wk)
      (F' := F') (rd' := s.redirects.filter (·.1 ≠ task.id) ++ [(task.id, wk.id, v)]) (fun _ hu => hu.elim) ht k1.2
      (by rw [hs]; exact fun l e => nomatch e)
      (by show findWorker (putWorker s.workers wk2') wk.id = _
          rw [findWorker_putWorker, if_neg (fun e => hne (hid2 ▸ e.symm))]; exact hfw) ha hnm hfr rfl rfl
      (hi.not_consumer ht (by rw [hs]; exact id))
      (.append (rd := s.redirects.filter (·.1 ≠ task.id)) wk.id v k1.2.nr k1.1.inv.ls.d2)
    refine ((Mv.unredirect hi ht hs hmid).1.toKept.trans (k2.imp fun hq => ⟨hq.2 wk A F P hfw ha, ?_⟩)).coreEq
      ⟨rfl, ?_, rfl, rfl⟩
    · simp only [variantOf, f5, Option.map_some, Option.bind_some]; exact hent (task := task) hq.1 ht
    · show putWorker (putWorker s.workers _) wk2' = putWorker (putWorker s.workers wk2') _
      exact putWorker_comm _ (fun e => hne (hid2.symm.trans e.symm))
  | prefilled s1 task old s2 hw hgt hs hw2 hany =>
    obtain ⟨wk, wk', hfw, hf, rfl⟩ := withWorker_spec hw
    obtain ⟨A, F, P, F', ha, hfr, hnm, rfl⟩ := insertSn_spec hf
    have ht : findTask s.tasks id = some task := getTask_spec hgt
    cases findTask_some_id ht
    have hwid : wk.id = w := findWorker_some_id hfw
    obtain ⟨wk2, wk2', hfw2, hf2, rfl⟩ := withWorker_spec hw2
    obtain ⟨A2, F2, P2, ha2, hm2, rfl⟩ := removePrefill_spec hf2
    change findWorker (putWorker s.workers _) old = some wk2 at hfw2
    have hnr : ∀ x v', (task.id, x, v') ∉ s.redirects := fun x v' hmem =>
      List.any_eq_false.mp hany _ hmem (decide_eq_true rfl)
    have f5 := find_append_self_of_none (w := w) (v := v) hnr
    have hq2 : s.rq i v = .ok r →
        (variantOf (s.redirects ++ [(task.id, w, v)]) task.id (.retracting old)).bind (rqEntries s.rqs task.rq) =
        some r.entries := fun hrq => by
      simp only [variantOf, f5, Option.map_some, Option.bind_some]; exact hent (task := task) hrq ht
    rw [findWorker_putWorker] at hfw2
    -- the same state is reached by leaving the prefilled set of `old` first and booking on `w` then
    by_cases how : old = wk.id
    · rw [if_pos how, how, show findWorker s.workers wk.id = some wk from hwid.symm ▸ hfw] at hfw2
      cases Option.some.inj hfw2
      cases ha2
      obtain ⟨k1, hfree⟩ := Mv.unprefill' (Q := s.rq i v = .ok r ∧ ∀ wk A F P, findWorker s.workers w = some wk →
        wk.assign = .sn A F P → NoSat wk.total F r.entries) (D := noD) (t := task.id) hi hfw ha hm2
      have k2 := Mv.book k1.inv (D := fun u => noD u ∨ u = task.id) (t' := { task with state := .retracting old }) (told := task) (es := r.entries)
        (wk := { wk with assign := .sn A F (P.erase task.id) }) (F' := F') (rd' := s.redirects ++ [(task.id, w, v)])
        (fun u hu => hu.resolve_left id) ht hfree (by rw [hs]; exact fun l e => nomatch e)
        (by show findWorker (putWorker s.workers _) w = _
            rw [findWorker_putWorker, if_pos hwid.symm, hfw]; rfl) rfl hnm hfr rfl rfl
        (hi.not_consumer ht (by rw [hs]; exact id)) (.append w v hnr hi.ls.d2)
      refine (k1.toKept.trans (k2.imp fun hq => ⟨hq.2 wk A F P hfw ha, hq2 hq.1⟩)).coreEq ⟨rfl, ?_, rfl, rfl⟩
      exact (putWorker_putWorker (a := { wk with assign := .sn (A ++ [task.id]) F' P })
          (b := { wk with assign := .sn (A ++ [task.id]) F' (P.erase task.id) }) s.workers rfl).trans
        (putWorker_putWorker (a := { wk with assign := .sn A F (P.erase task.id) })
          (b := { wk with assign := .sn (A ++ [task.id]) F' (P.erase task.id) }) s.workers rfl).symm
    · rw [if_neg how] at hfw2
      obtain ⟨k1, hfree⟩ := Mv.unprefill' (Q := s.rq i v = .ok r ∧ ∀ wk A F P, findWorker s.workers w = some wk →
        wk.assign = .sn A F P → NoSat wk.total F r.entries) (D := noD) (t := task.id) hi hfw2 ha2 hm2
      have hne : wk2.id ≠ wk.id := fun e => how ((findWorker_some_id hfw2).symm.trans e)
      have k2 := Mv.book k1.inv (D := fun u => noD u ∨ u = task.id) (t' := { task with state := .retracting old }) (told := task) (es := r.entries) (wk := wk)
        (F' := F') (rd' := s.redirects ++ [(task.id, w, v)])
        (fun u hu => hu.resolve_left id) ht hfree (by rw [hs]; exact fun l e => nomatch e)
        (by show findWorker (putWorker s.workers _) w = _
            rw [findWorker_putWorker, if_neg (fun e => hne (hwid.trans e).symm)]; exact hfw) ha hnm hfr rfl rfl
        (hi.not_consumer ht (by rw [hs]; exact id)) (.append w v hnr hi.ls.d2)
      refine (k1.toKept.trans (k2.imp fun hq => ⟨hq.2 wk A F P hfw ha, hq2 hq.1⟩)).coreEq ⟨rfl, ?_, rfl, rfl⟩
      show putWorker (putWorker s.workers _) _ = putWorker (putWorker s.workers _) _
      exact putWorker_comm _ (fun e => hne e.symm)

theorem Placed.trk {m m' : List WUpdate} {v : Nat} {r : Rq} {id : TaskId} {w : Nat} (h : Placed s m v r id w s' m') :
    Trk s s' := by
  have put : ∀ {s1 : State} {task : Task} {st : TS}, s1.getTask id = .ok task → s1.rqs = s.rqs → s1.queues = s.queues →
      s1.tasks = s.tasks → Trk s (s1.setTask { task with state := st }) := by
    intro s1 task st hgt e1 e2 e3
    have ht := getTask_spec hgt
    rw [e3] at ht
    exact Trk.of_put (t' := { task with state := st }) (told := task) (by rw [← findTask_some_id ht] at ht; exact ht) rfl rfl
      (by rw [← e3]; rfl) e2 e1
  cases h with
  | waiting s1 task n hw hgt hs =>
    obtain ⟨_, _, _, _, rfl⟩ := withWorker_spec hw; exact put hgt rfl rfl rfl
  | redirect s1 task old hw hgt hs hnone =>
    obtain ⟨_, _, _, _, rfl⟩ := withWorker_spec hw; exact Trk.of_eq rfl rfl rfl
  | reredirect s1 task old ot ov r' s3 hw hgt hs hfind hr' hw3 =>
    obtain ⟨_, _, _, _, rfl⟩ := withWorker_spec hw
    obtain ⟨_, _, _, _, rfl⟩ := withWorker_spec hw3
    exact put (s1 := State.setWorker _ _) hgt rfl rfl rfl
  | prefilled s1 task old s2 hw hgt hs hw2 hany =>
    obtain ⟨_, _, _, _, rfl⟩ := withWorker_spec hw
    obtain ⟨_, _, _, _, rfl⟩ := withWorker_spec hw2
    exact put (s1 := { State.setWorker _ _ with redirects := _ }) hgt rfl rfl rfl

/-- the model has checked that the placement fits (`fitsNow`); with requests that name every resource once this is
non-saturation -/
theorem placeSn_kept {m m' : List WUpdate} {v : Nat} {r : Rq} {id : TaskId} {w i : Nat} (hi : Inv s)
    (hg : Good s i id) (h : s.placeSn m v r id w = .ok (s', m')) :
    Kept (s.rq i v = .ok r ∧ RqsOk s.rqs) noD noD s s' ∧ Trk s s' := by
  obtain ⟨hfit, hp⟩ := placeSn_cases h
  exact ⟨(hp.kept hi hg).imp fun hq => ⟨hq.1, fun wk A F P hfw ha =>
    fitsNow_noSat wk.total r.entries F (hfit wk A F P hfw ha) (hq.2.of_rq hq.1)⟩, hp.trk⟩

theorem placeAll_kept (l : List (TaskId × Nat)) {m m' : List WUpdate} {v : Nat} {r : Rq} {i : Nat} (hi : Inv s)
    (ht : Trk s0 s) (hg : ∀ p ∈ l, Good s0 i p.1) (h : s.placeAll m v r l = .ok (s', m')) :
    Kept (s0.rq i v = .ok r ∧ RqsOk s0.rqs) noD noD s s' ∧ Trk s0 s' :=
  (placeAll_ind (P := fun l s1 _ => (Kept (s0.rq i v = .ok r ∧ RqsOk s0.rqs) noD noD s s1 ∧ Trk s0 s1) ∧
      ∀ p ∈ l, Good s0 i p.1)
    (fun id w rest s1 _ s2 _ hp h1 =>
      have ⟨a, b⟩ := placeSn_kept hp.1.1.inv (hp.1.2.good (hp.2 (id, w) (by simp))) h1
      ⟨⟨hp.1.1.trans (a.imp fun q => ⟨rq_ok_iff.mpr (hp.1.2.rqs ▸ rq_ok_iff.mp q.1), by rw [hp.1.2.rqs]; exact q.2⟩),
        hp.1.2.trans b⟩, fun p hp' => hp.2 p (by simp [hp'])⟩) ⟨⟨.refl hi, ht⟩, hg⟩ h).1

theorem mapSn_kept {es : List SnEntry} {now : Nat} {m m' : List WUpdate} (hq0 : QueueOk s0) (hi : Inv s)
    (ht : Trk s0 s) (h : s.mapSn now m es = .ok (s', m')) : Kept (RqsOk s0.rqs) noD noD s s' ∧ Trk s0 s' := by
  refine mapSn_ind (P := fun _ s1 _ => Kept (RqsOk s0.rqs) noD noD s s1 ∧ Trk s0 s1) (fun e rest s1 m s2 m1 hp h1 => ?_)
    ⟨.refl hi, ht⟩ h
  obtain ⟨r, q, q', hrq, _, hq, htk, hpl⟩ := mapSn1_ok h1
  obtain ⟨ht1, hgood⟩ := dealt_good hq0 hp.2 hq htk
  -- the ids leave the queue: nothing the invariant reads
  have k : Kept (RqsOk s0.rqs) noD noD s { s1 with queues := s1.queues.set e.rq q' } := hp.1.coreEq ⟨rfl, rfl, rfl, rfl⟩
  obtain ⟨a, b⟩ := placeAll_kept (r := r) _ k.inv ht1 hgood hpl
  exact ⟨k.trans (a.imp fun q => ⟨rq_ok_iff.mpr (hp.2.rqs ▸ rq_ok_iff.mp hrq), q⟩), b⟩

/-- one multi-node placement: a Waiting task taken from the queue becomes RunningMultiNode on workers that were idle.
Not a move of `CoreInvKeep`: several worker records change for one task and nothing is booked, so it is done on the
frame lemmas (`LS3.mv_mn_place`, `TW3.frame`) directly; the task is free before and holds no reservation before or after. -/
theorem mapMnSets1_kept {rq : Nat} {ws : List Nat} {acc acc' : List TaskId} (hq0 : QueueOk s0)
    (hmn : isMultiNodeRq s0.rqs rq = true) (hi : Inv s) (ht : Trk s0 s)
    (h1 : s.mapMnSets rq [ws] acc = .ok (s', acc')) : Kept Q noD noD s s' ∧ Trk s0 s' := by
  obtain ⟨q, p, id, ids', more, s2, task, hq, hready, hset, hgt, hst0, rfl, _⟩ := mapMnSets1_ok h1
  obtain ⟨a, b, c, d, e, f, g, k⟩ := setMnAll_spec _ _ _ _ _ hset
  have hft2 : findTask s2.tasks id = some task := getTask_spec hgt
  have hft : findTask s.tasks id = some task := by rw [a] at hft2; exact hft2
  cases findTask_some_id hft
  -- the popped id comes from the queue
  have hidq : task.id ∈ qIds q := by rw [qIds_eq, hready, rIds_cons]; simp
  obtain ⟨q0, hq0', hid0⟩ := ht.qsub rq q hq task.id hidq
  obtain ⟨g1, g2⟩ := ht.good (hq0 rq q0 hq0' task.id hid0) task hft
  have hfree : Free3 s.workers s.redirects task.id :=
    hi.ls.free_of_state (Or.inr (Or.inl ⟨0, by rw [stOf_of_find hft, hst0]⟩))
  have hnr := hfree.nr
  have hst1 := stOf_put (ts := s.tasks) (t' := { task with state := .runningMN ws }) hft
  refine ⟨⟨?_, fun htw => ⟨?_, ?_⟩, fun _ _ hr => ?_⟩, ?_⟩
  · show Inv4 (putTask s2.tasks _) s2.workers s2.redirects s2.rqs
    rw [a, b, c]
    change Inv4 (putTask s.tasks _) s2.workers s.redirects s.rqs
    refine hi.put_dispatch (t' := { task with state := .runningMN ws }) hft rfl rfl g2
      (fun _ _ => by rw [g1, ht.rqs]; exact hmn) ?_
    exact hi.ls.mv_mn_place (t' := { task with state := .runningMN ws }) hft hfree rfl e f g k
  · show TW3 noD (putTask s2.tasks _) s2.workers s2.redirects
    rw [a, b]
    -- the workers of `ws` were idle and are now reserved for the task
    refine htw.tw.frame task.id (fun u _ => .inr (not_noD u)) (fun u hu => by rw [hst1, if_neg hu])
      (fun x u _ hx => by rw [e]; exact hx) (fun x u _ hx => by rw [f]; exact hx) ?_ (fun _ _ _ _ h => h)
      ?_ ?_ ?_ (fun x v _ hm => absurd hm (hnr x v)) (fun x v hm => absurd hm (hnr x v))
    · intro x u _ hx
      rw [g]; split
      · rename_i hxl; rw [k x hxl] at hx; cases hx
      · exact hx
    · intro x v _ hs'
      rw [hst1, if_pos rfl] at hs'
      rcases hs' with e' | e' <;> cases e'
    · intro x _ hs'
      rw [hst1, if_pos rfl] at hs'; cases hs'
    · intro l _ hs' x hx
      rw [hst1, if_pos rfl] at hs'; cases hs'
      rw [g, if_pos hx]
  · show MNU (putTask s2.tasks _) s2.workers
    rw [a]
    intro t l hs' x hx
    rw [hst1] at hs'
    split at hs'
    · rename_i e'
      cases hs'
      left; rw [g, if_pos hx, e']
    · -- another multi-node task: its workers are reserved for it, hence not among the idle ones
      have hxl : x ∉ ws := fun hxl => by
        have := htw.tw.t3 t l (not_noD _) hs' x hx
        rw [k x hxl] at this; cases this
      rw [e, f, g, if_neg hxl]
      exact htw.mnu t l hs' x hx
  · -- the workers get a multi-node assignment: no single-node record is left to check
    have hr2 : Res4 s.tasks s2.workers s.redirects s.rqs := by
      refine setMnAll_ind (P := fun s1 => Res4 s.tasks s1.workers s.redirects s.rqs) (fun s1 w first s1' hp hw => ?_)
        (by exact hr) hset
      obtain ⟨wk, wk', hfw, hf, rfl⟩ := withWorker_spec hw
      obtain ⟨_, rfl⟩ := setMn_spec hf
      exact hp.put_worker (wk := wk) (wk' := { wk with assign := .mn task.id first false })
        (by rw [findWorker_some_id hfw]; exact hfw) (fun _ _ _ _ => rfl) (fun A F P ha => nomatch ha)
    have : Res s2 := by unfold Res; rw [a, b, c]; exact hr2
    exact this.setTask_idle (t' := { task with state := .runningMN ws }) hft2 (by rw [hst0]; rfl) rfl
  · refine ht.trans ?_
    have t1 : Trk s { s with queues := s.queues.set rq { q with ready := if ids'.isEmpty then more else (p, ids') :: more } } := by
      refine Trk.of_queue_set hq ?_
      intro x hx
      rw [qIds_eq] at hx ⊢
      simp only [List.mem_append] at hx ⊢
      rcases hx with h1 | h1
      · left
        rw [hready, rIds_cons]
        split at h1
        · exact List.mem_append.mpr (Or.inr h1)
        · rw [rIds_cons] at h1
          rcases List.mem_append.mp h1 with h2 | h2
          · exact List.mem_append.mpr (Or.inl (List.mem_cons_of_mem _ h2))
          · exact List.mem_append.mpr (Or.inr h2)
      · exact Or.inr h1
    refine t1.trans ((Trk.of_eq (s' := s2) a d c).trans ?_)
    exact Trk.of_put (s' := s2.setTask { task with state := .runningMN ws }) (t' := { task with state := .runningMN ws })
      (told := task) hft2 rfl rfl rfl rfl rfl

theorem mapMnSets_kept {sets : List (List Nat)} {rq : Nat} {acc acc' : List TaskId} (hq0 : QueueOk s0)
    (hmn : isMultiNodeRq s0.rqs rq = true) (hi : Inv s) (ht : Trk s0 s)
    (h : s.mapMnSets rq sets acc = .ok (s', acc')) : Kept Q noD noD s s' ∧ Trk s0 s' :=
  mapMnSets_ind (P := fun _ s1 _ => Kept Q noD noD s s1 ∧ Trk s0 s1) (fun _ _ _ _ _ _ hp h1 =>
    have ⟨a, b⟩ := mapMnSets1_kept (Q := Q) hq0 hmn hp.1.inv hp.2 h1
    ⟨hp.1.trans a, b⟩) ⟨.refl hi, ht⟩ h

theorem mapMn_kept {es : List MnEntry} {acc acc' : List TaskId} (hq0 : QueueOk s0)
    (hmn : ∀ e ∈ es, isMultiNodeRq s0.rqs e.rq = true) (hi : Inv s) (ht : Trk s0 s)
    (h : s.mapMn es acc = .ok (s', acc')) : Kept Q noD noD s s' ∧ Trk s0 s' :=
  (mapMn_ind (P := fun es s1 _ => (Kept Q noD noD s s1 ∧ Trk s0 s1) ∧ ∀ e ∈ es, isMultiNodeRq s0.rqs e.rq = true)
    (fun e rest s1 _ s2 _ hp h1 =>
      have ⟨a, b⟩ := mapMnSets_kept (Q := Q) hq0 (hp.2 e (by simp)) hp.1.1.inv hp.1.2 h1
      ⟨⟨hp.1.1.trans a, b⟩, fun e' he' => hp.2 e' (by simp [he'])⟩) ⟨⟨.refl hi, ht⟩, hmn⟩ h).1

/-- a Waiting task taken from the queue is put into the prefilled set of `w`: it holds no reservation before and after -/
theorem Mv.prefill (hi : Inv s) {id : TaskId} {t : Task} {n w : Nat} {s2 : State} (ht : findTask s.tasks id = some t)
    (hs : t.state = .waiting n) (hnc : ∀ d dt, findTask s.tasks d = some dt → id ∉ dt.consumers)
    (hw : (s.setTask { t with state := .prefilled w }).withWorker w (·.insertPrefill id) = .ok s2) :
    Kept Q noD noD s s2 := by
  cases findTask_some_id ht
  have hr1 := fun hr : Res s => insertPrefill_res
    (hr.setTask_idle (t' := { t with state := .prefilled w }) ht (by rw [hs]; rfl) rfl) hw
  obtain ⟨wk, wk', hfw, hf, rfl⟩ := withWorker_spec hw
  obtain ⟨A, F, P, ha, _, rfl⟩ := insertPrefill_spec hf
  change findWorker s.workers w = some wk at hfw
  have hfree : Free3 s.workers s.redirects t.id :=
    hi.ls.free_of_state (Or.inr (Or.inl ⟨n, by rw [stOf_of_find ht, hs]⟩))
  refine ⟨hi.put_dispatch (t' := { t with state := .prefilled w }) ht rfl rfl hnc (by simp) ?_, fun htw => ?_,
    fun _ _ => hr1⟩
  · cases findWorker_some_id hfw
    exact hi.ls.mv_prefill (t' := { t with state := .prefilled wk.id })
      (wk' := { wk with assign := .sn A F (P ++ [t.id]) }) ht hfree rfl hfw (by rw [wAsg, wAsg, ha])
      (by rw [wPre, wPre, ha]) (by rw [wMn, wMn, ha])
  · obtain ⟨a, b⟩ := htw.tw.mv_sn htw.mnu (t' := { t with state := .prefilled w }) (F' := F) (fun _ hu => hu.elim) ht
      (by rw [hs]; exact nofun) hfw ha (fun _ _ hx => hx) (fun _ _ => List.mem_append_left _) (fun _ _ _ _ hm => hm)
      (fun _ e => by cases e) (fun _ _ e => by rcases e with e | e <;> cases e)
      (fun x e => by cases e; exact ⟨rfl, List.mem_append_right _ (List.mem_singleton_self _)⟩)
      (fun x v hx => absurd hx (hfree.nr x v))
    exact ⟨a, b⟩

theorem prefillMark_kept {w : Nat} {l : List TaskId} {i : Nat} (hi : Inv s) (ht : Trk s0 s)
    (hg : ∀ id ∈ l, Good s0 i id) (h : State.prefillWorker.mark w s l = .ok s') : Kept Q noD noD s s' ∧ Trk s0 s' := by
  refine (prefillMark_ind (P := fun l s1 => (Kept Q noD noD s s1 ∧ Trk s0 s1) ∧ ∀ id ∈ l, Good s0 i id)
    (fun id rest s1 task n s2 hp hgt hs hw => ?_) ⟨⟨.refl hi, ht⟩, hg⟩ h).1
  have hft : findTask s1.tasks id = some task := getTask_spec hgt
  have k := Mv.prefill (Q := Q) hp.1.1.inv hft hs (hp.1.2.good (hp.2 id (by simp)) task hft).2 hw
  refine ⟨⟨hp.1.1.trans k, hp.1.2.trans ?_⟩, fun x hx => hp.2 x (by simp [hx])⟩
  obtain ⟨_, _, _, _, rfl⟩ := withWorker_spec hw
  exact Trk.of_put (t' := { task with state := .prefilled w }) (told := task)
    (by rw [← findTask_some_id hft] at hft; exact hft) rfl rfl rfl rfl rfl

theorem prefillWorker_kept {m m' : List WUpdate} {rq size w : Nat} (hq0 : QueueOk s0) (hi : Inv s) (ht : Trk s0 s)
    (h : s.prefillWorker m rq size w = .ok (s', m')) : Kept Q noD noD s s' ∧ Trk s0 s' := by
  obtain ⟨q, p, ids0, more, pf, s2, keep, hq, hready, hpf, hb, hm, _⟩ := prefillWorker_path h
  -- the new prefill set consists of ids of the queue
  have hsub : ∀ x ∈ qIds ({ ready := (takeFromFirst q.ready size).1, prefill := some pf } : Queue), x ∈ qIds q := by
    intro x hx
    rw [qIds_eq] at hx ⊢
    simp only [List.mem_append] at hx ⊢
    rcases hx with h1 | h1
    · exact Or.inl ((takeFromFirst_sub q.ready size x).1 h1)
    · rcases hpf with ⟨hpre, rfl⟩ | ⟨ts, hpre, rfl⟩
      · exact Or.inl ((takeFromFirst_sub q.ready size x).2 h1)
      · simp only [hpre]
        rcases List.mem_append.mp h1 with h2 | h2
        · exact Or.inr h2
        · exact Or.inl ((takeFromFirst_sub q.ready size x).2 h2)
  have ht1 := Trk.of_queue_set (q' := { ready := (takeFromFirst q.ready size).1, prefill := some pf }) hq hsub
  obtain ⟨a, b, c⟩ := prefillBack_spec _ _ _ _ _ _ hb
  -- up to here only queues have changed
  have k : Kept Q noD noD s s2 := (Kept.refl hi).coreEq ⟨a.t, a.w, a.r, a.q⟩
  have hg : ∀ id ∈ keep, Good s0 rq id := fun id hid => by
    rcases c id hid with h1 | h1
    · cases h1
    · have : id ∈ qIds q := by
        rw [qIds_eq]; exact List.mem_append.mpr (Or.inl ((takeFromFirst_sub q.ready size id).2 h1))
      obtain ⟨q0, hq0', hid0⟩ := ht.qsub rq q hq id this
      exact hq0 rq q0 hq0' id hid0
  obtain ⟨k2, t2⟩ := prefillMark_kept (Q := Q) k.inv ((ht.trans ht1).trans b) hg hm
  exact ⟨k.trans k2, t2⟩

theorem prefillWorkers_kept {ws : List Nat} {m m' : List WUpdate} {rq size : Nat} (hq0 : QueueOk s0) (hi : Inv s)
    (ht : Trk s0 s) (h : s.prefillWorkers m rq size ws = .ok (s', m')) : Kept Q noD noD s s' ∧ Trk s0 s' :=
  prefillWorkers_ind (P := fun _ s1 _ => Kept Q noD noD s s1 ∧ Trk s0 s1) (fun _ _ _ _ _ _ hp h1 =>
    have ⟨a, b⟩ := prefillWorker_kept (Q := Q) hq0 hp.1.inv hp.2 h1
    ⟨hp.1.trans a, b⟩) ⟨.refl hi, ht⟩ h

theorem proactive_kept {n : Nat} {m m' : List WUpdate} {orders : List (Nat × List Nat)} {top : Int} {rq : Nat}
    (hq0 : QueueOk s0) (hi : Inv s) (ht : Trk s0 s) (h : s.proactive m orders top n rq = .ok (s', m')) :
    Kept Q noD noD s s' ∧ Trk s0 s' :=
  proactive_ind (P := fun s1 _ => Kept Q noD noD s s1 ∧ Trk s0 s1) (fun _ _ _ _ _ _ _ _ hp _ _ h1 =>
    have ⟨a, b⟩ := prefillWorkers_kept (Q := Q) hq0 hp.1.inv hp.2 h1
    ⟨hp.1.trans a, b⟩) ⟨.refl hi, ht⟩ h

theorem schedule_kept {sol : Solution} {o : Out} (hi : Inv s) (hq : QueueOk s) (hm : SolMnOk s sol)
    (h : s.schedule sol = .ok (s', o)) : Kept (RqsOk s.rqs) noD noD s s' ∧ Trk s s' := by
  obtain ⟨s1, m1, s2, mnTasks, s3, m3, msgs, mm, top, n, h1, h2, _, h3, _, _, rfl, _⟩ := schedule_path h
  obtain ⟨a1, b1⟩ := mapSn_kept hq hi (Trk.refl s) h1
  obtain ⟨a2, b2⟩ := mapMn_kept (Q := RqsOk s.rqs) hq hm a1.inv b1 h2
  obtain ⟨a3, b3⟩ := proactive_kept (Q := RqsOk s.rqs) hq a2.inv b2 h3
  exact ⟨((a1.trans a2).trans a3).coreEq ⟨rfl, rfl, rfl, rfl⟩, b3.rqs, b3.skel, b3.qsub⟩

theorem schedule_inv {s s' : State} {sol : Solution} {o : Out} (hi : Inv s) (hq : QueueOk s) (hm : SolMnOk s sol)
    (h : s.schedule sol = .ok (s', o)) : Inv s' := (schedule_kept hi hq hm h).1.inv

end HqModel.Core
