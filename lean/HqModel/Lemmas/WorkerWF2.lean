import HqModel.Lemmas.WorkerWF
/-!
`WWF` is an invariant of every step whose message satisfies the server contract, and such a step never panics.
-/
namespace HqModel.Worker

theorem init_WWF (rqs : List (List Nat)) (rem : Option Nat) : WWF (init rqs rem) where
  runRq := by intro r hr; simp [init] at hr
  blRq := by intro rq x hx; simp [init] at hx
  keyRq := by intro rq hrq; simp [init] at hrq
  keys := by intro rq h; simp [init] at h
  disj := by intro r hr; simp [init] at hr
  blNodup := by intro rq; simp [init]
  blCross := by intro rq1 rq2 x1 x2 h1; simp [init] at h1

theorem noBacklog_of_not_mem_backlogIds {s : State} (hw : WWF s) {t : Nat} (h : t ∉ backlogIds s) :
    NoBacklog t s := by
  intro rq x hx heq
  apply h
  simp only [backlogIds, List.mem_flatMap, List.mem_map]
  exact ⟨rq, hw.keys rq (List.ne_nil_of_mem hx), x, hx, heq⟩

theorem entryReg_of_entryOk {s : State} {e : Entry} (h : entryOk s e = true) : EntryReg s.rqs e := by
  unfold entryOk at h
  split at h
  · cases h
  · rename_i vs hvs
    refine ⟨vs, hvs, ?_⟩
    intro rv hrv
    rw [hrv] at h
    simpa using h

theorem compute_WWF {s : State} {es : List Entry} (hw : WWF s) (hc : contract s (.compute es) = true) :
    NoPanic (computeEntries es { s := s }) ∧ ∀ a', computeEntries es { s := s } = .ok a' → WWF a'.s := by
  simp only [contract, Bool.and_eq_true, List.all_eq_true, decide_eq_true_eq] at hc
  obtain ⟨⟨hreg, hnd⟩, hheld⟩ := hc
  refine computeEntries_WWF es hw (fun e he => entryReg_of_entryOk (hreg e he)) hnd fun e he => ?_
  have := hheld e he
  simp only [heldIds, List.mem_append, not_or, List.mem_map] at this
  exact ⟨fun r hr heq => this.1 ⟨r, hr, heq⟩, noBacklog_of_not_mem_backlogIds hw this.2⟩

theorem WWF.ended {s : State} (hw : WWF s) (t : Nat) :
    W s.rqs [] { s with running := s.running.filter (fun x => x.task.id != t) } :=
  W.shrink ⟨hw, rfl, by simp⟩ (fun _ => List.Sublist.refl _)
    (fun r' hr' => ⟨r', (List.mem_filter.mp hr').1, rfl, rfl⟩) rfl hw.keys (fun _ h => h)

theorem step_WWF {s s' : State} {op : Op} {outs : List Out} (hw : WWF s) (hc : contract s op = true)
    (hs : step s op = .ok (s', outs)) : WWF s' := by
  rcases step_path hs with ⟨es, -, rfl, -⟩ | ⟨t, res, en, r, a, bl', upd', -, hr, hp, rfl, -⟩ | ⟨hm, -, -⟩
  · obtain ⟨a', ha, rfl, -⟩ := compute_ok hs
    exact (compute_WWF hw hc).2 a' ha
  · have := hp.preserves (I := WMode s.rqs) WMode.mv (m := .flight ..) (m' := .idle [])
      ⟨⟨hw.ended t, List.nodup_nil, fun _ h => nomatch h⟩, hw.runRq r (List.mem_of_find?_eq_some hr)⟩
    exact (this.1.same (s' := { a.s with blocked := bl' }) rfl rfl rfl rfl).1
  · exact hm.wwf hw

theorem step_noPanic {s : State} {op : Op} (hw : WWF s) (hc : contract s op = true) : NoPanic (step s op) := by
  intro site hs
  cases op with
  | compute es =>
    simp only [step, compute] at hs
    split at hs
    · rename_i err he
      cases hs
      exact (compute_WWF hw hc).1 site he
    · cases hs
  | taskEnd t res en =>
    rcases taskEnd_error hs with h | h | ⟨r, hr, hpl⟩
    · cases h
    · cases h
    · exact prefillLoop_noPanic hpl rfl (hw.ended t).1 (hw.runRq r (List.mem_of_find?_eq_some hr))
  | retractCheck order =>
    rcases retractCheck_cases hs with h | h | ⟨rem, -, hperm, ⟨err, hl, h⟩ | ⟨_, _, h⟩⟩ <;> cases h
    obtain ⟨rq, hrq, hn⟩ := retractCheckLoop_error order hl
    obtain ⟨vs, hvs⟩ := hw.keyRq rq ((List.isPerm_iff.mp hperm).mem_iff.mp hrq)
    rw [hvs] at hn; cases hn
  | newRq id mts =>
    simp only [contract, decide_eq_true_eq] at hc
    simp only [step, newRq, hc, if_true] at hs
    cases hs
  | retract ids => cases hs
  | cancel ids => cases hs
  | timeoutFire t =>
    simp only [step, timeoutFire] at hs
    split at hs
    · cases hs
    · split at hs <;> cases hs
  | stop => cases hs

theorem run_WWF : ∀ (ops : List Op) {s : State}, WWF s → contractRun s ops = true →
    NoPanic (run s ops) ∧ ∀ s' os, run s ops = .ok (s', os) → WWF s'
  | [], s, hw, _ => by
    simp only [run]
    exact ⟨NoPanic.ok _, fun s' os hs => by cases hs; exact hw⟩
  | op :: ops, s, hw, hc => by
    simp only [contractRun, Bool.and_eq_true] at hc
    obtain ⟨hc1, hc2⟩ := hc
    have ih : ∀ s1 o1, step s op = .ok (s1, o1) →
        NoPanic (run s1 ops) ∧ ∀ s' os, run s1 ops = .ok (s', os) → WWF s' := by
      intro s1 o1 h1
      rw [h1] at hc2
      exact run_WWF ops (step_WWF hw hc1 h1) hc2
    refine ⟨fun site hs => ?_, fun s' os hs => ?_⟩
    · rcases run_cons_error hs with h | ⟨s1, o1, h1, h⟩
      · exact step_noPanic hw hc1 site h
      · exact (ih s1 o1 h1).1 site h
    · obtain ⟨s1, o1, os1, h1, h2, _⟩ := run_cons_ok hs
      exact (ih s1 o1 h1).2 s' os1 h2

end HqModel.Worker
