import HqModel.Lemmas.AllocConciseInv
/-!
The full invariant `Inv2 = Inv ∧ ConciseOK ∧ shape of the live allocations` (under the side condition
`NoSingletonGroups`), its preservation by every operation, and: `release` of a live allocation never stops.
-/
namespace HqModel.Alloc

/-- side condition of the theorems that talk about `ConciseFreeResources`: no `Groups` pool with exactly one group.
(`ResourceDescriptorKind::groups()` turns a single group into a `List`; a one-group `Groups` value can only be built
by hand or deserialised. The correspondence check does generate such pools.) -/
def NoSingletonGroups (s : State) : Prop :=
  ∀ (rid : Nat) (p : Pool), s.pools[rid]? = some p → p.tag = 2 → p.ngroups ≠ 1

theorem NoSingletonGroups.of_all {s : State}
    (h : s.pools.all (fun p => !(p.tag == 2 && p.ngroups == 1)) = true) : NoSingletonGroups s := by
  intro rid p hp ht hn
  have := List.all_eq_true.mp h p (List.mem_of_getElem? hp)
  simp [ht, hn] at this

/-- static side conditions and the shape of what is live -/
structure Shaped (s : State) : Prop where
  /-- `NoSingletonGroups s` -/
  nosingle : ∀ (rid : Nat) (p : Pool), s.pools[rid]? = some p → p.tag = 2 → p.ngroups ≠ 1
  shaped : ∀ x ∈ s.live, ∀ ra ∈ x.2, ∀ p, s.pools[ra.rid]? = some p → p.tag = 1 → Shape ra.amount ra.indices

structure Inv2 (U : Nat → Nat → List Nat) (s : State) : Prop where
  inv : Inv U s
  concise : ConciseOK U s
  shaped : Shaped s

theorem Inv.sum_free {U} {s : State} (hinv : Inv U s) {r : Nat} {p : Pool} (hp : s.pools[r]? = some p)
    (h3 : p.tag = 3) : p.sumFree + heldAmount s.live r = p.fullSize := by
  cases p with
  | sum full free => exact hinv.pools.sum r full free hp
  | _ => cases h3

theorem PC.free_eq {U : Nat → List Nat} {tag n free free' : Nat} {c : CState} {L : List AIdx}
    (h : PC U tag n free c L) (hf : tag = 3 → free = free') : PC U tag n free' c L := by
  rcases h with h | h | ⟨h3, hs⟩
  · exact .inl h
  · exact .inr (.inl h)
  · exact .inr (.inr ⟨h3, hf h3 ▸ hs⟩)

theorem Inv.raOk {U} {s : State} (hinv : Inv U s) (hsh : Shaped s) {x : Nat × Allocation} (hx : x ∈ s.live)
    {ra : RAlloc} (hra : ra ∈ x.2) : ∃ p, s.pools[ra.rid]? = some p ∧ RaOk p.tag p.ngroups ra := by
  obtain ⟨p, hp, hne⟩ := hinv.rids x hx ra hra
  have hgrp : ∀ e ∈ ra.indices, e.group < p.ngroups :=
    fun e he => ((hinv.pools.pool ra.rid p hp).keys e (mem_heldOf hx hra he)).1
  refine ⟨p, hp, Pool.tag_ne_zero hne, fun e he => .inl (hgrp e he), fun ht hn => ?_, fun ht => ?_⟩
  · rcases ht with h1 | h2
    · exact hsh.shaped x hx ra hra p hp h1
    · exact absurd hn (hsh.nosingle ra.rid p hp h2)
  · refine List.eq_nil_iff_forall_not_mem.mpr fun e he => ?_
    have := hgrp e he
    rw [Pool.ngroups, Pool.groupsOf_of_tag3 ht] at this
    exact absurd this (Nat.not_lt_zero _)

theorem Shaped.grant {s s' : State} {rq : Request} {al : Allocation} {h : Nat} (hsh : Shaped s)
    (hexact : AllExact s.pools rq al) (hkinds : SameKinds s.pools s'.pools) (hlive : s'.live = (h, al) :: s.live) :
    Shaped s' := by
  have hold : ∀ {r : Nat} {p' : Pool}, s'.pools[r]? = some p' → ∃ p, s.pools[r]? = some p ∧ p'.tag = p.tag ∧
      p'.ngroups = p.ngroups := by
    intro r p' hp'
    obtain ⟨p, hp⟩ := exists_get (hkinds.1 ▸ lt_length_of_getElem? hp' : r < s.pools.length)
    obtain ⟨ht, -, hn⟩ := hkinds.2 r p p' hp hp'
    exact ⟨p, hp, ht, hn⟩
  refine ⟨fun r p' hp' ht2 => ?_, fun x hx ra hra p' hp' ht1 => ?_⟩
  · obtain ⟨p, hp, ht, hn⟩ := hold hp'
    rw [hn]
    exact hsh.nosingle r p hp (ht ▸ ht2)
  · obtain ⟨p, hp, ht, -⟩ := hold hp'
    rw [ht] at ht1
    rw [hlive] at hx
    rcases List.mem_cons.mp hx with rfl | hx
    · obtain ⟨e, -, p₀, hp₀, hrid, -, hcases⟩ := hexact ra hra
      obtain rfl : p₀ = p := Option.some.inj ((hrid ▸ hp₀).symm.trans hp)
      rcases hcases with ⟨h3, -⟩ | ⟨-, hs⟩ | ⟨h3, -⟩ | ⟨h3, -⟩
      · omega
      · exact hs
      · omega
      · omega
    · exact hsh.shaped x hx ra hra p hp ht1

/-- if the pools part of an allocation went through, `free_resources.remove` does not stop and yields the concise
state of the new pools -/
theorem conciseRemove_ok {U} {s s' : State} {al : Allocation} {h : Nat}
    (hinv : Inv2 U s) (hU : ∀ r g, (U r g).Nodup) (hinv' : Inv U s') (hsh' : Shaped s')
    (hlive : s'.live = (h, al) :: s.live) (hkinds : SameKinds s.pools s'.pools) :
    ∃ cs', conciseRemove s.concise al = .ok cs' ∧ ConciseOK U { s' with concise := cs' } := by
  have hheld' : ∀ r, (heldOf s'.live r).Perm (heldOf s.live r ++ raEntries r al) := by
    intro r
    rw [hlive, heldOf_cons]
    exact List.perm_append_comm
  have hsum : ∀ r p p', s.pools[r]? = some p → s'.pools[r]? = some p' → p.tag = 3 →
      p'.sumFree + raAmount r al = p.sumFree := by
    intro r p p' hp hp' ht
    obtain ⟨ht', hf', -⟩ := hkinds.2 r p p' hp hp'
    have h1 := hinv.inv.sum_free hp ht
    have h2 := hinv'.sum_free hp' (ht'.trans ht)
    rw [hlive, heldAmount_cons, hf'] at h2
    omega
  have hnew : ∀ {r : Nat} {p : Pool}, s.pools[r]? = some p → ∃ p', s'.pools[r]? = some p' :=
    fun hp => exists_get (hkinds.1 ▸ lt_length_of_getElem? hp)
  have key := conciseRemove_pools (al := al) (H := heldOf s.live) hU hinv.concise.len hinv.concise.pc ?_ ?_ ?_
  · obtain ⟨cs', hcr, hlen', hfin⟩ := key
    refine ⟨cs', hcr, hlen'.trans hkinds.1, fun r p' c hp' hc => ?_⟩
    obtain ⟨p, hp⟩ := exists_get (hkinds.1 ▸ lt_length_of_getElem? hp' : r < s.pools.length)
    obtain ⟨ht, -, hn⟩ := hkinds.2 r p p' hp hp'
    rw [ht, hn]
    exact ((hfin r p c hp hc).free_eq (fun h3 => by have := hsum r p p' hp hp' h3; omega)).congr (hheld' r).symm
  · intro ra hra
    obtain ⟨p', hp', hok⟩ := hinv'.raOk hsh' (x := (h, al)) (by rw [hlive]; simp) hra
    obtain ⟨p, hp⟩ := exists_get (hkinds.1 ▸ lt_length_of_getElem? hp' : ra.rid < s.pools.length)
    obtain ⟨ht, -, hn⟩ := hkinds.2 ra.rid p p' hp hp'
    exact ⟨p, hp, ht ▸ hn ▸ hok⟩
  · intro r g i
    rw [← heldBy_perm (hheld' r)]
    exact hinv'.heldBound r g i
  · intro r p hp ht
    obtain ⟨p', hp'⟩ := hnew hp
    have := hsum r p p' hp hp' ht
    omega

theorem tryAllocate_after_claim {U} {s : State} {rq : Request} {ch : Choices} {sols sols' : List (Option SolRec)}
    {pools' : List Pool} {al : Allocation} (hinv : Inv2 U s) (hU : ∀ r g, (U r g).Nodup)
    (hcl : claimResources s rq ch sols = .ok (pools', al, sols')) :
    ∃ cs', conciseRemove s.concise al = .ok cs' := by
  obtain ⟨hexact, hkinds⟩ := claimResources_exact hcl
  obtain ⟨cs', hcr, -⟩ := conciseRemove_ok (h := 0) (s' := { s with pools := pools', live := (0, al) :: s.live })
    hinv hU (claimResources_inv 0 hinv.inv hcl) (hinv.shaped.grant hexact hkinds rfl) rfl hkinds
  exact ⟨cs', hcr⟩

theorem tryAllocate_inv2 {U} {s s' : State} {h : Nat} {rq : Request} {ch : Choices} {r : Option Allocation}
    (hinv : Inv2 U s) (hU : ∀ r g, (U r g).Nodup) (hstep : tryAllocate s h rq ch = .ok (r, s')) : Inv2 U s' := by
  have hinv' := tryAllocate_inv hinv.inv hstep
  cases r with
  | none =>
    obtain ⟨cache, -, rfl⟩ := tryAllocate_none hstep
    exact ⟨hinv', ⟨hinv.concise.len, hinv.concise.pc⟩, ⟨hinv.shaped.nosingle, hinv.shaped.shaped⟩⟩
  | some al =>
    obtain ⟨hexact, hkinds⟩ := tryAllocate_exact hstep
    obtain ⟨cache, sols, pools, concise, -, -, hcr, rfl⟩ := tryAllocate_some hstep
    have hsh' := hinv.shaped.grant hexact hkinds rfl
    obtain ⟨cs', hcr', hok⟩ := conciseRemove_ok hinv hU hinv' hsh' rfl hkinds
    obtain rfl : cs' = concise := Except.ok.inj (hcr'.symm.trans hcr)
    exact ⟨hinv', hok, hsh'⟩

theorem isEnabled_inv2 {U} {s s' : State} {rq : Request} {ch : Choices} {b : Bool}
    (hinv : Inv2 U s) (hstep : isEnabled s rq ch = .ok (b, s')) : Inv2 U s' := by
  have hinv' := isEnabled_inv hinv.inv hstep
  obtain ⟨cache, -, rfl⟩ := isEnabled_ok hstep
  exact ⟨hinv', ⟨hinv.concise.len, hinv.concise.pc⟩, ⟨hinv.shaped.nosingle, hinv.shaped.shaped⟩⟩

theorem release_inv2 {U} {s : State} {h : Nat} {al : Allocation} (hinv : Inv2 U s) (hU : ∀ r g, (U r g).Nodup)
    (hg : liveGet s.live h = some al) : ∃ s', release s h = some (.ok s') ∧ Inv2 U s' := by
  have hperm := liveErase_perm hg
  obtain ⟨pools', hrel, ⟨hplen, hkinds⟩, -, hinv'⟩ := releasePools_live hinv.inv hg
  have hheld : ∀ r, (heldOf s.live r).Perm (raEntries r al ++ heldOf (liveErase s.live h) r) := by
    intro r
    have := heldOf_perm hperm r
    rwa [heldOf_cons] at this
  have hold : ∀ {r : Nat} {p' : Pool}, pools'[r]? = some p' → ∃ p, s.pools[r]? = some p :=
    fun hp' => exists_get (hplen ▸ lt_length_of_getElem? hp')
  have key := conciseAdd_pools (al := al) (O := fun r => heldOf (liveErase s.live h) r) hU hinv.concise.len
    (fun r p c hp hc => (hinv.concise.pc r p c hp hc).congr (hheld r))
    (fun ra hra => hinv.inv.raOk hinv.shaped (liveGet_mem hg) hra)
    (fun r g i => by rw [← heldBy_perm (hheld r)]; exact hinv.inv.heldBound r g i)
  obtain ⟨cs', hadd, hlen', hfin⟩ := key
  refine ⟨{ s with pools := pools', concise := cs', live := liveErase s.live h }, by simp [release, hg, hadd, hrel],
    hinv' cs', ⟨hlen'.trans hplen, fun r p' c hp' hc => ?_⟩, ⟨fun r p' hp' ht2 => ?_, fun x hx ra hra p' hp' ht1 => ?_⟩⟩
  · obtain ⟨p, hp⟩ := hold hp'
    obtain ⟨ht, hf, hn⟩ := hkinds r p p' hp hp'
    rw [ht, hn]
    refine (hfin r p c hp hc).free_eq (fun h3 => ?_)
    have h1 := hinv.inv.sum_free hp h3
    have h2 := (hinv' cs').sum_free hp' (ht.trans h3)
    rw [heldAmount_perm hperm r, heldAmount_cons] at h1
    rw [hf] at h2
    show p.sumFree + raAmount r al = p'.sumFree
    simp only at h2
    omega
  · obtain ⟨p, hp⟩ := hold hp'
    obtain ⟨ht, -, hn⟩ := hkinds r p p' hp hp'
    rw [hn]
    exact hinv.shaped.nosingle r p hp (ht ▸ ht2)
  · obtain ⟨p, hp⟩ := hold hp'
    obtain ⟨ht, -, -⟩ := hkinds ra.rid p p' hp hp'
    exact hinv.shaped.shaped x (hperm.mem_iff.mpr (List.mem_cons_of_mem _ hx)) ra hra p hp (ht ▸ ht1)

theorem cinv_fresh {gs : List Group} (hf : ∀ g ∈ gs, g.fracs = []) {U : Nat → List Nat}
    (hU : ∀ gi, U gi = (gs[gi]?.map (·.free)).getD []) :
    CInv (gs.map (fun g => ⟨g.free.length, g.fracs⟩)) gs.length U [] := by
  have hget : ∀ {gi : Nat} {cg : CGroup}, (gs.map (fun g => (⟨g.free.length, g.fracs⟩ : CGroup)))[gi]? = some cg →
      ∃ g, gs[gi]? = some g ∧ cg = ⟨g.free.length, []⟩ := by
    intro gi cg hcg
    rw [List.getElem?_map] at hcg
    obtain ⟨g, hg, rfl⟩ := Option.map_eq_some_iff.mp hcg
    exact ⟨g, hg, by rw [hf g (List.mem_of_getElem? hg)]⟩
  refine ⟨by simp, fun gi cg hcg => ?_, fun gi cg hcg i => ?_, fun gi cg hcg => ?_⟩
  · obtain ⟨g, hg, rfl⟩ := hget hcg
    simp [freeCount, hU, hg, List.filter_eq_self.mpr]
  · obtain ⟨g, hg, rfl⟩ := hget hcg
    simp [fracOf]
  · obtain ⟨g, hg, rfl⟩ := hget hcg
    simp [KeysNodup]

theorem init_concise {s : State} (hfresh : ∀ p ∈ s.pools, p.Fresh) (hlive : s.live = [])
    (hconc : s.concise = s.pools.map Pool.conciseState) : ConciseOK (univOf s.pools) s := by
  refine ⟨by simp [hconc], ?_⟩
  intro rid p c hp hc
  have hf := hfresh p (List.mem_of_getElem? hp)
  have hheld : heldOf s.live rid = [] := by simp [hlive, heldOf]
  rw [hheld]
  obtain rfl : c = p.conciseState := by
    rw [hconc, List.getElem?_map, hp] at hc
    simpa using hc.symm
  have hU : ∀ gi, univOf s.pools rid gi = (p.groupsOf[gi]?.map (·.free)).getD [] := fun gi => by simp [univOf, hp]
  cases p with
  | empty => exact .inl ⟨rfl, rfl⟩
  | indices full g => exact .inr (.inl ⟨.inl rfl, cinv_fresh (gs := [g]) (fun g hg => (hf.1 g hg).1) hU⟩)
  | groups full gs => exact .inr (.inl ⟨.inr rfl, cinv_fresh (fun g hg => (hf.1 g hg).1) hU⟩)
  | sum full free => exact .inr (.inr ⟨rfl, SumCInv.conciseState full free⟩)

theorem init_inv2 {d : Descriptor} {s : State} (h : State.init d = some s)
    (hns : NoSingletonGroups s) : Inv2 (univOf s.pools) s ∧ ∀ r g, (univOf s.pools r g).Nodup := by
  have hinv := init_inv h
  have hfresh := init_fresh h
  obtain ⟨-, hlive, hconc, -⟩ := init_spec h
  refine ⟨⟨hinv, init_concise hfresh hlive hconc, ⟨hns, by simp [hlive]⟩⟩, ?_⟩
  intro r g
  cases hp : s.pools[r]? with
  | none => simp [univOf, hp]
  | some p => exact (hinv.pools.pool r p hp).univ g

end HqModel.Alloc
