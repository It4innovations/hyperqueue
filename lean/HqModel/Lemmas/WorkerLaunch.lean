import HqModel.Lemmas.WorkerMinor
/-!
"Never launched again": while task `t` is in no backlog, no step launches it except a `ComputeTasks` that
contains it, and no step other than such a `ComputeTasks` puts it into a backlog
(`Quiet.mv` for the moves of the message loop, `step_quiet`, `run_quiet`). `RetractTasks ∋ t` and (after the F1 fix)
`CancelTasks ∋ t` establish "in no backlog" (`retract_noBacklog`, `cancel_noBacklog`).
-/
namespace HqModel.Worker

theorem launchedIn_snoc {l : List Out} {o : Out} {t : Nat} :
    launchedIn (l ++ [o]) t ↔ launchedIn l t ∨ o.isLaunchOf t := by
  simp only [launchedIn, List.mem_append, List.mem_singleton]
  constructor
  · rintro ⟨o', h | rfl, ho⟩
    · exact Or.inl ⟨o', h, ho⟩
    · exact Or.inr ho
  · rintro (⟨o', h, ho⟩ | ho)
    · exact ⟨o', Or.inl h, ho⟩
    · exact ⟨o, Or.inr rfl, ho⟩

theorem NoBacklog.setBacklog {t : Nat} {s : State} (h : NoBacklog t s) (rq : Nat) {l : List Task}
    (hl : ∀ x ∈ l, x.id ≠ t) : NoBacklog t (setBacklog s rq l) := by
  intro r x hx
  rw [setBacklog_backlog] at hx
  split at hx
  · exact hl x hx
  · exact h r x hx

/-- `t` waits nowhere, was not launched, is not in hand and no entry still to come brings it -/
def Quiet (t : Nat) : Mode → Acc → Prop
  | .idle es, a => (NoBacklog t a.s ∧ ¬ launchedIn a.ev t) ∧ ∀ e ∈ es, e.task.id ≠ t
  | .hand es _ _ _ _ x, a => (NoBacklog t a.s ∧ ¬ launchedIn a.ev t) ∧ (∀ e ∈ es, e.task.id ≠ t) ∧ x.id ≠ t
  | .flight es _ _ _, a => (NoBacklog t a.s ∧ ¬ launchedIn a.ev t) ∧ ∀ e ∈ es, e.task.id ≠ t

theorem Quiet.mv {t : Nat} {m m' : Mode} {a a' : Acc} (hm : Mv m a m' a') (hq : Quiet t m a) : Quiet t m' a' := by
  cases hm with
  | push =>
    refine ⟨⟨hq.1.1.setBacklog _ fun y hy => ?_, hq.1.2⟩, fun e he => hq.2 e (List.mem_cons_of_mem _ he)⟩
    rcases List.mem_cons.mp hy with rfl | hy
    · exact hq.2 _ List.mem_cons_self
    · exact hq.1.1 _ y hy
  | block =>
    exact ⟨⟨fun rq => (insertBlocked_backlog ..).symm ▸ hq.1.1 rq, hq.1.2⟩, fun e he => hq.2 e (List.mem_cons_of_mem _ he)⟩
  | alloc => exact ⟨hq.1, fun e he => hq.2 e (List.mem_cons_of_mem _ he), hq.2 _ List.mem_cons_self⟩
  | reject => exact ⟨hq.1, hq.2.1⟩
  | fail => exact ⟨⟨hq.1.1, fun h => (launchedIn_snoc.mp h).elim hq.1.2 hq.2.2⟩, hq.2.1⟩
  | start => exact ⟨⟨hq.1.1, fun h => (launchedIn_snoc.mp h).elim hq.1.2 hq.2.2⟩, hq.2.1⟩
  | pop hbl =>
    have hx := fun y (hy : y ∈ _ :: _) => hq.1.1 _ y (hbl ▸ hy)
    exact ⟨⟨hq.1.1.setBacklog _ fun y hy => hx y (List.mem_cons_of_mem _ hy), hq.1.2⟩, hq.2, hx _ List.mem_cons_self⟩
  | release =>
    exact ⟨⟨hq.1.1.setBacklog _ (l := []) (by simp), fun h => (launchedIn_snoc.mp h).elim hq.1.2 id⟩, hq.2⟩

theorem finish_quiet {t : Nat} {a : Acc} (hq : ¬ launchedIn a.ev t) : ¬ launchedIn (finish a).2 t := by
  rintro ⟨o, ho, hl⟩
  rcases mem_finish.mp ho with ho | ⟨_, rfl⟩
  · exact hq ⟨o, ho, hl⟩
  · exact hl

theorem NoBacklog.filter {t : Nat} {s : State} (h : NoBacklog t s) (p : Nat → Task → Bool) :
    NoBacklog t { s with backlog := fun rq => (s.backlog rq).filter (p rq) } :=
  (Minor.filter s p).noBacklog h

theorem step_quiet {t : Nat} {s s' : State} {op : Op} {outs : List Out}
    (hq : NoBacklog t s) (hm : ¬ op.mentions t) (hs : step s op = .ok (s', outs)) :
    NoBacklog t s' ∧ ¬ launchedIn outs t := by
  have h0 : ¬ launchedIn [] t := by simp [launchedIn]
  rcases step_path hs with ⟨es, a, rfl, hp, rfl, rfl⟩ | ⟨t', res, en, r, a, bl', upd', -, -, hp, rfl, rfl⟩ | ⟨hmin, hno, -⟩
  · have := hp.preserves Quiet.mv (m := .idle es) (m' := .idle [])
      ⟨⟨hq, h0⟩, fun e he heq => hm (List.mem_map.mpr ⟨e, he, heq⟩)⟩
    exact ⟨this.1.1, finish_quiet this.1.2⟩
  · have := hp.preserves Quiet.mv (m := .flight ..) (m' := .idle []) ⟨⟨hq, h0⟩, by simp⟩
    exact ⟨this.1.1, finish_quiet (a := { a with upd := upd' }) this.1.2⟩
  · exact ⟨hmin.noBacklog hq, fun ⟨o, ho, hl⟩ => hno o ho t hl⟩

theorem run_quiet {t : Nat} : ∀ (ops : List Op) {s s' : State} {os : List (List Out)},
    NoBacklog t s → (∀ op ∈ ops, ¬ op.mentions t) → run s ops = .ok (s', os) →
    NoBacklog t s' ∧ ∀ o ∈ os, ¬ launchedIn o t
  | [], s, s', os, hq, _, hr => by
    simp only [run] at hr; cases hr; exact ⟨hq, by simp⟩
  | op :: ops, s, s', os, hq, hm, hr => by
    obtain ⟨s1, o1, os1, h1, h2, rfl⟩ := run_cons_ok hr
    have hq1 := step_quiet hq (hm op (List.mem_cons_self)) h1
    have ih := run_quiet ops hq1.1 (fun op' h' => hm op' (List.mem_cons_of_mem _ h')) h2
    refine ⟨ih.1, fun o ho => ?_⟩
    rcases List.mem_cons.mp ho with rfl | ho
    · exact hq1.2
    · exact ih.2 o ho

theorem retract_noBacklog {t : Nat} (s : State) {ids : List Nat} (ht : t ∈ ids) :
    NoBacklog t (retract s ids).1 := by
  intro rq x hx
  simp only [retract] at hx
  have := (List.mem_filter.mp hx).2
  intro heq
  subst heq
  simp at this
  exact this ht

theorem retract_response_subset (s : State) {ids r : List Nat} {t : Nat}
    (hr : Out.retractResponse r ∈ (retract s ids).2) (ht : t ∈ r) : t ∈ ids := by
  simp only [retract] at hr
  split at hr
  · simp at hr
  · simp only [List.mem_singleton, Out.retractResponse.injEq] at hr
    subst hr
    simp only [List.mem_flatMap, List.mem_map, List.mem_filter] at ht
    obtain ⟨_, _, x, ⟨_, hx⟩, rfl⟩ := ht
    simpa using hx

def Disj (s : State) : Prop := ∀ r ∈ s.running, NoBacklog r.task.id s

theorem Minor.disj {s s' : State} (hm : Minor s s') (hd : Disj s) : Disj s' := by
  intro r' hr'
  obtain ⟨r, hr, hb⟩ := hm.mem_running hr'
  have : r.task = r'.task := congrArg (·.1) hb
  exact this ▸ hm.noBacklog (hd r hr)

theorem cancel_fold_Disj : ∀ (ids : List Nat) (a : State × List Out),
    Disj a.1 → Disj (ids.foldl cancelOne a).1 :=
  fun ids a h => (cancel_fold_minor ids a).disj h

theorem cancelOne_noBacklog {a : State × List Out} {c : Nat} (hd : Disj a.1) : NoBacklog c (cancelOne a c).1 := by
  obtain ⟨s, outs⟩ := a
  rcases cancelOne_cases s outs c with ⟨_, h⟩ | ⟨r, hr, rfl, ⟨_, h⟩ | ⟨_, h⟩⟩ <;> rw [h]
  · intro rq x hx
    simpa using (List.mem_filter.mp hx).2
  · exact hd r hr
  · exact hd r hr

theorem cancel_noBacklog {t : Nat} : ∀ (ids : List Nat) (a : State × List Out),
    Disj a.1 → t ∈ ids → NoBacklog t (ids.foldl cancelOne a).1
  | [], _, _, ht => by simp at ht
  | c :: ids, a, hd, ht => by
    rcases List.mem_cons.mp ht with rfl | h
    · exact (cancel_fold_minor ids _).noBacklog (cancelOne_noBacklog hd)
    · exact cancel_noBacklog ids (cancelOne a c) ((cancelOne_minor a c).disj hd) h

end HqModel.Worker
