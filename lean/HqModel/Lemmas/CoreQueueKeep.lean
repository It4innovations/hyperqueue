import HqModel.Lemmas.CoreQueueBase
/-!
The queue / dependency invariant: the elementary changes that keep it, one lemma each; `CoreQueueAct` puts them
together along the acts of the reactor.

* changes that are `Safe` for every instance of the invariant: a record replaced by one whose state has the slack of the
  old one (`QInv4.put`, `Safe.setTask`, `Safe.setState`), a record erased, an id into or out of a queue (`Safe.addReady`,
  `Safe.queueRemove`, `Safe.removePrefilled`), `remove_task`, the worker side giving up a task (`Release.safe`), the arms of
  `task_running`;
* changes between instances: the finish / wake core of `task_finished` (`QInv4.finish`, `QInv4.wake`, `QInv4.unfin`), a
  new task (`registerDeps_spec`, `QInv4.new_task`), a larger set of submitted ids (`QInv4.mono_U`), and first a new
  request (`newRq_q`: one more queue, empty).
-/
namespace HqModel.Core

theorem newRq_q {U f pend} {s : State} (rqv : Rqv) (h : QInv U f pend s) : QInv U f pend (s.newRq rqv) := by
  refine QInv4.queues (qs := s.queues) h ?_
  intro i q hq id hid
  show QGood U f s.tasks i id
  change (s.queues ++ [({} : Queue)])[i]? = some q at hq
  rw [List.getElem?_append] at hq
  split at hq
  · exact h.qg i q hq id hid
  · rename_i hlt
    have : q = {} := by
      cases hk : i - s.queues.length with
      | zero => rw [hk] at hq; simpa using hq.symm
      | succ k => rw [hk] at hq; simp at hq
    subst this
    cases hid

/-- admissible replacement of the record `told` by `t'` (what it says apart from the state's slack) -/
structure PutOk (told t' : Task) : Prop where
  rq : t'.rq = told.rq
  cons : ∀ c ∈ t'.consumers, c ∈ told.consumers
  cnd : told.consumers.Nodup → t'.consumers.Nodup
  fin : t'.state = .finished → told.state = .finished

/-- one record is replaced; `pend'` = who still owes a decrement afterwards: the slack of the new state may be
smaller than that of the old one by what the task owed and no longer owes -/
theorem QInv4.put {U f pend pend' ts qs} (h : QInv4 U f pend ts qs) {t' told : Task}
    (hf : findTask ts t'.id = some told) (hok : PutOk told t') (hp : ∀ c, owed pend' c ≤ owed pend c)
    (hsl : owed pend' t'.id + slack told.state ≤ owed pend t'.id + slack t'.state)
    (hz : slack told.state = 0 → slack t'.state = 0) : QInv4 U f pend' (putTask ts t') qs := by
  have hid : told.id = t'.id := findTask_some_id hf
  have hle : ∀ c, nL f (putTask ts t') c ≤ nL f ts c := by
    intro c
    have := nL_putTask (f := f) h.nd hf c
    have himp : lst f c t' = true → lst f c told = true := by
      rw [lst_true, lst_true]
      rintro ⟨a, b⟩
      exact ⟨hok.cons c a, by rw [hid]; exact b⟩
    have hi : (if lst f c t' = true then 1 else 0) ≤ (if lst f c told = true then 1 else 0) := by
      by_cases h1 : lst f c t' = true
      · rw [if_pos h1, if_pos (himp h1)]; exact Nat.le_refl _
      · rw [if_neg h1]; exact Nat.zero_le _
    omega
  have hsub : ∀ x ∈ putTask ts t', ∃ y ∈ ts, x.id = y.id ∧ (∀ c ∈ x.consumers, c ∈ y.consumers) ∧
      (y.consumers.Nodup → x.consumers.Nodup) ∧ (x.state = .finished → y.state = .finished) := by
    intro x hx
    rcases mem_putTask hx with e | e
    · subst e; exact ⟨told, findTask_some_mem hf, hid.symm, hok.cons, hok.cnd, hok.fin⟩
    · exact ⟨x, e, rfl, fun _ hc => hc, fun hh => hh, fun hh => hh⟩
  refine ⟨by rw [taskIds_putTask]; exact h.nd, ?_, ?_, ?_, ?_, ?_, ?_⟩
  · intro x hx
    obtain ⟨y, hy, e, _⟩ := hsub x hx
    rw [e]; exact h.uT y hy
  · intro x hx c hc
    obtain ⟨y, hy, _, e, _⟩ := hsub x hx
    exact h.uC y hy c (e c hc)
  · intro x hx
    obtain ⟨y, hy, _, _, e, _⟩ := hsub x hx
    exact e (h.cnd y hy)
  · intro x hx hs
    obtain ⟨y, hy, e, _, _, e2⟩ := hsub x hx
    rw [e]; exact h.fin y hy (e2 hs)
  · intro c t hc
    rcases findTask_putTask_cases hc with ⟨rfl, rfl, _⟩ | ⟨_, hc⟩
    · have := h.cnt _ told hf
      have := hle t.id
      omega
    · have := h.cnt c t hc
      have := hle c
      have := hp c
      omega
  · intro i q hq id hid'
    obtain ⟨g1, g2, g3, g4⟩ := h.qg i q hq id hid'
    refine ⟨g1, fun t ht => ?_, fun dt hdt hc => ?_, fun t ht => ?_⟩
    · rcases findTask_putTask_cases ht with ⟨rfl, rfl, _⟩ | ⟨_, ht⟩
      · rw [hok.rq]; exact g2 told hf
      · exact g2 t ht
    · obtain ⟨y, hy, e, e2, _⟩ := hsub dt hdt
      rw [e]; exact g3 y hy (e2 _ hc)
    · rcases findTask_putTask_cases ht with ⟨rfl, rfl, _⟩ | ⟨_, ht⟩
      · exact hz (g4 told hf)
      · exact g4 t ht

theorem Safe.setTask {s : State} {t' told : Task} (hf : findTask s.tasks t'.id = some told) (hok : PutOk told t')
    (hs : slack t'.state = slack told.state) : Safe s (s.setTask t') :=
  fun _ _ _ h => h.put hf hok (fun _ => Nat.le_refl _) (hs ▸ Nat.le_refl _) (fun h0 => hs.trans h0)

theorem QInv4.erase {U f pend ts qs} (h : QInv4 U f pend ts qs) (id : TaskId) :
    QInv4 U f pend (eraseTask ts id) qs := by
  have hfind : ∀ c t, findTask (eraseTask ts id) c = some t → findTask ts c = some t := by
    intro c t hc
    rw [findTask_eraseTask h.nd] at hc
    split at hc
    · cases hc
    · exact hc
  refine ⟨List.Sublist.nodup (taskIds_eraseTask_sublist ts id) h.nd, fun t ht => h.uT t (mem_eraseTask ht),
    fun t ht => h.uC t (mem_eraseTask ht), fun t ht => h.cnd t (mem_eraseTask ht),
    fun t ht => h.fin t (mem_eraseTask ht), ?_, ?_⟩
  · intro c t hc
    have := h.cnt c t (hfind c t hc)
    have := nL_eraseTask_le f ts id c
    omega
  · intro i q hq x hx
    obtain ⟨g1, g2, g3, g4⟩ := h.qg i q hq x hx
    exact ⟨g1, fun t ht => g2 t (hfind x t ht), fun dt hdt hc => g3 dt (mem_eraseTask hdt) hc,
      fun t ht => g4 t (hfind x t ht)⟩

theorem Safe.erase (s : State) (id : TaskId) : Safe s { s with tasks := eraseTask s.tasks id } :=
  fun _ _ _ h => QInv4.erase h id

theorem Safe.addReady {s s' : State} {t t0 : Task} {r : List TaskId} (hf : findTask s.tasks t.id = some t0)
    (hrq : t0.rq = t.rq) (hs : slack t0.state = 0) (h : s.addReady t = .ok (s', r)) : Safe s s' := by
  intro U f p hi
  have ht := addReady_tasks h
  unfold QInv at hi ⊢
  rw [ht]
  refine hi.queues ((addReady_qsub h).all hi.qg ⟨?_, ?_, ?_, ?_⟩)
  · have := hi.uT t0 (findTask_some_mem hf)
    rw [findTask_some_id hf] at this; exact this
  · intro t1 h1; rw [hf] at h1; cases h1; exact hrq
  · exact hi.nl_of_slack hf hs
  · intro t1 h1; rw [hf] at h1; cases h1; exact hs

theorem Safe.queueRemove {s s' : State} {rq : Nat} {t : TaskId} {p : Int} (h : s.queueRemove rq t p = .ok s') :
    Safe s s' := Safe.of_qsub (queueRemove_tasks h) (queueRemove_qsub h)

theorem Safe.removePrefilled {s s' : State} {rq : Nat} {t : TaskId} (h : s.removePrefilled rq t = .ok s') :
    Safe s s' := Safe.of_qsub (removePrefilled_tasks h) (removePrefilled_qsub h)

theorem Safe.movePrefilledToReady {s s' : State} {rq : Nat} {t : TaskId} (h : s.movePrefilledToReady rq t = .ok s') :
    Safe s s' := Safe.of_qsub (movePrefilledToReady_tasks h) (movePrefilledToReady_trk h).qsub

theorem Safe.withWorker {s s' : State} {w : Nat} {g : Worker → M Worker} (h : s.withWorker w g = .ok s') :
    Safe s s' := by
  obtain ⟨wk, wk', _, _, rfl⟩ := withWorker_spec h
  exact Safe.of_eq rfl rfl

theorem Safe.tryRemoveRedirection {s s' : State} {t : TaskId} {rq : Nat} (h : s.tryRemoveRedirection t rq = .ok s') :
    Safe s s' := by
  rw [tryRemoveRedirection_eq h]
  exact Safe.of_eq rfl rfl

theorem resetMnAll_queues (ws : List Nat) (s s' : State) (h : resetMnAll s ws = .ok s') : s'.queues = s.queues := by
  rw [resetMnAll_eq _ h]

theorem Safe.resetMnAll {ws : List Nat} {s s' : State} (h : resetMnAll s ws = .ok s') : Safe s s' :=
  Safe.of_eq (resetMnAll_tasks _ _ _ h) (resetMnAll_queues _ _ _ h)

theorem PutOk.mk' {told : Task} {st : TS} {deps : List TaskId} {prio : Int} {cl : CrashLimit} {inst crashes : Nat}
    (hf : st = .finished → told.state = .finished) :
    PutOk told ⟨told.id, st, told.consumers, deps, told.rq, prio, cl, inst, crashes⟩ :=
  ⟨rfl, fun _ h => h, fun h => h, hf⟩

/-- only state / instance id / crash counter of a record change; the new state has the slack of the old one -/
theorem Safe.setState' {s : State} {told : Task} {st : TS} {deps : List TaskId} {prio : Int}
    {cl : CrashLimit} {inst crashes : Nat} (hf : findTask s.tasks told.id = some told)
    (hs : slack st = slack told.state) (hfin : st = .finished → told.state = .finished) :
    Safe s (s.setTask ⟨told.id, st, told.consumers, deps, told.rq, prio, cl, inst, crashes⟩) :=
  Safe.setTask (told := told) hf (PutOk.mk' hfin) hs

/-- `Safe.setState'` with the record found under any `id`, for a new state that is not Finished -/
theorem Safe.setState {s : State} {told : Task} {id : TaskId} {st : TS} {deps : List TaskId} {prio : Int}
    {cl : CrashLimit} {inst crashes : Nat} (hf : findTask s.tasks id = some told)
    (hs : slack st = slack told.state) (hfin : st ≠ .finished) :
    Safe s (s.setTask ⟨told.id, st, told.consumers, deps, told.rq, prio, cl, inst, crashes⟩) :=
  Safe.setState' (by rw [findTask_some_id hf]; exact hf) hs (fun e => absurd e hfin)

theorem findTask_setState_self {s : State} {told : Task} {st : TS} {deps : List TaskId} {prio : Int}
    {cl : CrashLimit} {inst crashes : Nat} (hf : findTask s.tasks told.id = some told) :
    findTask (s.setTask ⟨told.id, st, told.consumers, deps, told.rq, prio, cl, inst, crashes⟩).tasks told.id =
      some ⟨told.id, st, told.consumers, deps, told.rq, prio, cl, inst, crashes⟩ :=
  findTask_putTask_same (ts := s.tasks) hf rfl

/-- `Safe.addReady` for the record that is in the map (`t0 = t`) -/
theorem Safe.addReady' {s s' : State} {t : Task} {r : List TaskId} (h : s.addReady t = .ok (s', r))
    (hf : findTask s.tasks t.id = some t) (hs : slack t.state = 0) : Safe s s' :=
  Safe.addReady hf rfl hs h

theorem Safe.ask (s : State) : Safe s (ask s) := Safe.of_eq rfl rfl
theorem Safe.setWorker (s : State) (w : Worker) : Safe s (s.setWorker w) := Safe.of_eq rfl rfl

theorem removeConsumer_q {U f pend qs} {ts ts' : List Task} {d c : TaskId} (hi : QInv4 U f pend ts qs)
    (h : removeConsumer ts d c = .ok ts') : QInv4 U f pend ts' qs := by
  rcases removeConsumer_cases h with ⟨_, rfl⟩ | ⟨dt, hd, _, rfl⟩
  · exact hi
  · exact hi.put (told := dt) (by show findTask ts dt.id = _; rw [findTask_some_id hd]; exact hd)
      ⟨rfl, fun x hx => List.mem_of_mem_erase hx, fun hn => hn.erase c, fun e => e⟩ (fun _ => Nat.le_refl _)
      (Nat.le_refl _) id

theorem removeConsumers_q {U f pend qs} {c : TaskId} : ∀ (deps : List TaskId) {ts ts' : List Task},
    QInv4 U f pend ts qs → removeConsumers ts c deps = .ok ts' → QInv4 U f pend ts' qs
  | [], _, _, hi, h => by cases h; exact hi
  | _ :: rest, _, _, hi, h => by
    obtain ⟨ts1, h1, h'⟩ := removeConsumers_cons_ok h
    exact removeConsumers_q rest (removeConsumer_q hi h1) h'

theorem removeTask_safe {s s' : State} {id : TaskId} {st : TS} (h : s.removeTask id = .ok (s', st)) : Safe s s' :=
  removeTask_ind h (Safe.erase s id) (fun f hq => f.trans (Safe.queueRemove hq))
    fun f hc U g p hi => removeConsumers_q _ (f U g p hi) hc

theorem Release.safe {s s1 : State} {id : TaskId} {task : Task} (h : Release s id task s1) : Safe s s1 := by
  cases h with
  | keep => exact Safe.refl _
  | sn _ _ h => exact Safe.withWorker h
  | pre _ h1 h2 => exact (Safe.removePrefilled h1).trans (Safe.withWorker h2)
  | retr _ h => exact Safe.tryRemoveRedirection h
  | mn _ h => exact Safe.resetMnAll h

theorem RunningArm.safe {s s' : State} {w : Nat} {id : TaskId} {rv : Nat} {task : Task} {ws : List Nat}
    (ha : RunningArm s w id rv task s' ws) (ht : s.task? id = some task) : Safe s s' := by
  cases ha with
  | assigned hs => exact Safe.setState ht (by simp [hs]) (by simp)
  | prefilled hs _ h1 h2 =>
    exact ((Safe.setState ht (by simp [hs]) (by simp)).trans (Safe.withWorker h1)).trans (Safe.queueRemove h2)
  | retracting hs h1 h2 _ h3 =>
    exact ((((Safe.setState ht (by simp [hs]) (by simp)).trans (Safe.ask _)).trans (Safe.queueRemove h1)).trans
      (Safe.tryRemoveRedirection h2)).trans (Safe.withWorker h3)
  | mn => exact Safe.setWorker _ _

/-! ### the finish / wake core of `task_finished`

The one place where a dependency counter is decremented. Inside `task_finished` the finished task `id` stays in the map
(state Finished) while its consumers are woken: the invariant holds with `f = some id` (the finished task does not count
as a lister) and `pend` = the consumers whose counter has not been decremented yet. -/

theorem nL_congr {f g : Option TaskId} {ts : List Task} {c : TaskId}
    (h : ∀ dt ∈ ts, lst f c dt = lst g c dt) : nL f ts c = nL g ts c := by
  unfold nL
  exact List.countP_congr fun x hx => by rw [h x hx]

theorem lst_some_of_ne {id c : TaskId} {dt : Task} (h : dt.id ≠ id) : lst (some id) c dt = lst none c dt := by
  simp [lst, h]

theorem lst_some_self {id c : TaskId} {dt : Task} (h : dt.id = id) : lst (some id) c dt = false := by
  simp [lst, h]

theorem nL_none_some {ts : List Task} {id : TaskId} {task : Task} (hn : (taskIds ts).Nodup)
    (hf : findTask ts id = some task) (c : TaskId) :
    nL none ts c = nL (some id) ts c + owed task.consumers c := by
  induction ts with
  | nil => cases hf
  | cons y ys ih =>
    simp only [taskIds, List.map_cons, List.nodup_cons] at hn
    simp only [findTask] at hf
    simp only [nL, List.countP_cons]
    split at hf
    · rename_i hy
      cases hf
      have hrest : List.countP (lst none c) ys = List.countP (lst (some id) c) ys :=
        nL_congr fun x hx => (lst_some_of_ne fun e => hn.1 (by rw [hy, ← e]; exact List.mem_map_of_mem hx)).symm
      rw [hrest, lst_some_self hy]
      simp only [lst, owed, ne_eq, reduceCtorEq, not_false_eq_true, decide_true, Bool.and_true, decide_eq_true_eq,
        Bool.false_eq_true, if_false, Nat.add_zero]
    · rename_i hy
      have := ih hn.2 hf
      simp only [nL] at this
      rw [lst_some_of_ne hy]
      omega

/-- the task becomes Finished: it stops counting as a lister, its consumers owe one decrement each -/
theorem QInv4.finish {U ts qs} (hi : QInv4 U none [] ts qs) {id : TaskId} {task : Task}
    (hf : findTask ts id = some task) (hs : slack task.state = 0) :
    QInv4 U (some id) task.consumers (putTask ts { task with state := .finished }) qs := by
  have hid : task.id = id := findTask_some_id hf
  have hmem : task ∈ ts := findTask_some_mem hf
  have hf' : findTask ts ({ task with state := .finished } : Task).id = some task := by
    show findTask ts task.id = _; rw [hid]; exact hf
  have hsub : ∀ x ∈ putTask ts { task with state := .finished },
      (x = { task with state := .finished }) ∨ (x ∈ ts ∧ x.state ≠ .finished) := by
    intro x hx
    rcases mem_putTask hx with e | e
    · exact Or.inl e
    · refine Or.inr ⟨e, fun hfin => ?_⟩
      have := hi.fin x e hfin
      cases this
  have hnl : ∀ c, nL (some id) (putTask ts { task with state := .finished }) c + owed task.consumers c = nL none ts c := by
    intro c
    have h1 := nL_putTask (f := some id) hi.nd hf' c
    rw [lst_some_self hid, lst_some_self (dt := { task with state := .finished }) hid] at h1
    have h2 := nL_none_some hi.nd hf c
    simp only [Bool.false_eq_true, if_false, Nat.add_zero] at h1
    omega
  refine ⟨by rw [taskIds_putTask]; exact hi.nd, ?_, ?_, ?_, ?_, ?_, ?_⟩
  · intro x hx
    rcases hsub x hx with e | ⟨e, _⟩
    · subst e; exact hi.uT task hmem
    · exact hi.uT x e
  · intro x hx c hc
    rcases hsub x hx with e | ⟨e, _⟩
    · subst e; exact hi.uC task hmem c hc
    · exact hi.uC x e c hc
  · intro x hx
    rcases hsub x hx with e | ⟨e, _⟩
    · subst e; exact hi.cnd task hmem
    · exact hi.cnd x e
  · intro x hx hfin
    rcases hsub x hx with e | ⟨_, e⟩
    · subst e; show some task.id = some id; rw [hid]
    · exact absurd hfin e
  · intro c t hc
    rw [hnl c]
    rcases findTask_putTask_cases hc with ⟨e, rfl, _⟩ | ⟨_, hc⟩
    · have := hi.cnt c task (by rw [e.trans hid]; exact hf)
      rw [hs] at this
      simpa using this
    · simpa using hi.cnt c t hc
  · intro i q hq x hx
    obtain ⟨g1, g2, g3, g4⟩ := hi.qg i q hq x hx
    refine ⟨g1, fun t ht => ?_, fun dt hdt hc => ?_, fun t ht => ?_⟩
    · rcases findTask_putTask_cases ht with ⟨e, rfl, _⟩ | ⟨_, ht⟩
      · exact g2 task (by rw [e.trans hid]; exact hf)
      · exact g2 t ht
    · rcases hsub dt hdt with e | ⟨e, _⟩
      · subst e; show some task.id = some id; rw [hid]
      · have := g3 dt e hc
        cases this
    · rcases findTask_putTask_cases ht with ⟨_, rfl, _⟩ | ⟨_, ht⟩
      · rfl
      · exact g4 t ht

/-- the counter of one consumer of the finishing task is decremented -/
theorem QInv4.wake {U f c rest ts qs} (hi : QInv4 U f (c :: rest) ts qs) {t : Task} {n : Nat}
    (hf : findTask ts c = some t) (hs : t.state = .waiting (n + 1)) (hc : c ∉ rest) :
    QInv4 U f rest (putTask ts { t with state := .waiting n }) qs := by
  have hid : t.id = c := findTask_some_id hf
  refine hi.put (told := t) (t' := { t with state := .waiting n }) (by show findTask ts t.id = _; rw [hid]; exact hf)
    ⟨rfl, fun _ h => h, id, fun e => by cases e⟩ ?_ ?_ ?_
  · intro d
    unfold owed
    by_cases h : d ∈ rest
    · rw [if_pos h, if_pos (List.mem_cons_of_mem _ h)]; exact Nat.le_refl _
    · rw [if_neg h]; exact Nat.zero_le _
  · show owed rest t.id + slack t.state ≤ owed (c :: rest) t.id + slack (.waiting n)
    rw [hid, hs, owed, if_neg hc, owed, if_pos List.mem_cons_self]
    show 0 + (n + 1) ≤ 1 + n
    omega
  · -- a queued task is not `Waiting (n+1)`
    rw [hs]; intro h0; cases h0

theorem QInv4.pend_nil {U f pend ts qs} (hi : QInv4 U f pend ts qs) : QInv4 U f [] ts qs :=
  ⟨hi.nd, hi.uT, hi.uC, hi.cnd, hi.fin, fun c t hc => by have := hi.cnt c t hc; simp only [owed_nil]; omega, hi.qg⟩

/-- the finishing task has left the map -/
theorem QInv4.unfin {U id ts qs} (hi : QInv4 U (some id) [] ts qs) (hf : findTask ts id = none) :
    QInv4 U none [] ts qs := by
  have hne : ∀ dt ∈ ts, dt.id ≠ id := by
    intro dt hdt e
    exact not_mem_of_findTask_none hf (e ▸ List.mem_map_of_mem (f := (·.id)) hdt)
  have hnl : ∀ c, nL none ts c = nL (some id) ts c :=
    fun c => nL_congr fun dt hdt => (lst_some_of_ne (hne dt hdt)).symm
  refine ⟨hi.nd, hi.uT, hi.uC, hi.cnd, ?_, ?_, ?_⟩
  · intro t ht hfin
    have := hi.fin t ht hfin
    simp only [Option.some.injEq] at this
    exact absurd this (hne t ht)
  · intro c t hc
    rw [hnl c]; exact hi.cnt c t hc
  · intro i q hq x hx
    obtain ⟨g1, g2, g3, g4⟩ := hi.qg i q hq x hx
    refine ⟨g1, g2, ?_, g4⟩
    intro dt hdt hc
    have := g3 dt hdt hc
    simp only [Option.some.injEq] at this
    exact absurd this (hne dt hdt)

/-! ### `on_new_tasks`

The submitted id is fresh (`∉ U`): it is in no queue and in no consumer list, so after `registerDeps` exactly the found
dependencies list it, and their number is at most the counter the new task starts with (no task of the map is Finished
at an operation boundary). -/

/-- what `registerDeps ts id deps = (ts', _, n)` does to the task map -/
structure RegSpec (id : TaskId) (ts ts' : List Task) (n : Nat) : Prop where
  ids : taskIds ts' = taskIds ts
  rel : ∀ x t', findTask ts' x = some t' → ∃ t, findTask ts x = some t ∧ t'.state = t.state ∧ t'.rq = t.rq ∧
    (∀ c ∈ t'.consumers, c ∈ t.consumers ∨ c = id) ∧ (t.consumers.Nodup → t'.consumers.Nodup)
  cnt : (∀ t ∈ ts, t.state ≠ .finished) → nL none ts' id ≤ nL none ts id + n
  oth : ∀ c, c ≠ id → nL none ts' c = nL none ts c

/-- the counter the new task starts with bounds the listers it gains: every kept dependency counts, none being Finished -/
theorem registerDeps_cnt (id : TaskId) : ∀ (deps : List TaskId) (ts : List Task), (taskIds ts).Nodup →
    (∀ t ∈ ts, t.state ≠ .finished) → nL none (registerDeps ts id deps).1 id ≤ nL none ts id + (registerDeps ts id deps).2.2
  | [], _, _, _ => Nat.le_add_right _ _
  | d :: rest, ts, hn, hnf => by
    simp only [registerDeps]
    cases hd : findTask ts d with
    | none => exact registerDeps_cnt id rest ts hn hnf
    | some dep =>
      have hf : findTask ts (dep.addConsumer id).id = some dep := by
        rw [show (dep.addConsumer id).id = d from findTask_some_id (t := dep) hd]; exact hd
      have hne : dep.state ≠ .finished := hnf dep (findTask_some_mem hd)
      have h1 := registerDeps_cnt id rest (putTask ts (dep.addConsumer id)) (by rw [taskIds_putTask]; exact hn)
        fun t ht => (mem_putTask ht).elim (fun e => e ▸ hne) (hnf t)
      have h2 := nL_putTask (f := none) hn hf id
      show nL none (registerDeps (putTask ts (dep.addConsumer id)) id rest).1 id ≤
        nL none ts id + ((registerDeps (putTask ts (dep.addConsumer id)) id rest).2.2 + if dep.state = .finished then 0 else 1)
      rw [if_neg hne]
      have : (if lst none id (dep.addConsumer id) = true then 1 else 0) ≤ 1 := by split; exact Nat.le_refl 1; exact Nat.zero_le 1
      omega

theorem registerDeps_spec (deps : List TaskId) (ts : List Task) (id : TaskId) (hn : (taskIds ts).Nodup) :
    RegSpec id ts (registerDeps ts id deps).1 (registerDeps ts id deps).2.2 := by
  refine ⟨registerDeps_ids deps ts id, fun x t' hx => ?_, registerDeps_cnt id deps ts hn, fun c hc => ?_⟩
  · rw [find_registerDeps] at hx
    obtain ⟨t, h0, rfl⟩ := Option.map_eq_some_iff.mp hx
    exact ⟨t, h0, (regOf_eq deps id t).2.1, (regOf_eq deps id t).2.2.2.1,
      fun c hc => (mem_regOf_consumers.mp hc).imp_right (·.1), regOf_nodup deps id⟩
  · unfold nL
    rw [registerDeps_eq_map id deps ts hn, List.countP_map]
    refine List.countP_congr fun t _ => ?_
    have : c ∈ (regOf deps id t).consumers ↔ c ∈ t.consumers :=
      mem_regOf_consumers.trans ⟨fun h => h.elim (fun a => a) fun e => absurd e.1 hc, Or.inl⟩
    simp only [Function.comp, lst, (regOf_eq deps id t).1, this]

/-- the new record is appended; it may have entered queue `rq` when it has no unfinished dependency -/
theorem QInv4.new_task {U ts0 ts qs qs'} (hi : QInv4 U none [] ts0 qs) {id : TaskId} {n rq : Nat} (hfresh : id ∉ U)
    (hreg : RegSpec id ts0 ts n) (hdup : findTask ts id = none) {task : Task} (htid : task.id = id)
    (hst : task.state = .waiting n) (hcons : task.consumers = []) (hrq : task.rq = rq)
    (hq : n = 0 ∧ QSubAdd qs qs' rq id ∨ QSub qs qs') :
    QInv4 (U ++ [id]) none [] (ts ++ [task]) qs' := by
  have hnf : ∀ t ∈ ts0, t.state ≠ .finished := by
    intro t ht e
    have := hi.fin t ht e
    cases this
  have hnd : (taskIds ts).Nodup := by rw [hreg.ids]; exact hi.nd
  have hfind : ∀ t ∈ ts, findTask ts t.id = some t := fun t ht => mem_find_of_nodup hnd ht
  have hnl0 : nL none ts0 id = 0 := by
    rw [nL_zero]
    intro dt hdt hc
    exact absurd (hi.uC dt hdt id hc) hfresh
  have hlt : lst none id task = false ∧ ∀ c, lst none c task = false := by
    simp [lst, hcons]
  have hnl_app : ∀ c, nL none (ts ++ [task]) c = nL none ts c := by
    intro c
    simp only [nL, List.countP_append, List.countP_cons, List.countP_nil, hlt.2 c]
    simp
  have hcnt_id : nL none (ts ++ [task]) id ≤ n := by
    rw [hnl_app]
    have := hreg.cnt hnf
    omega
  have hold : ∀ x t, x ≠ id → findTask (ts ++ [task]) x = some t →
      ∃ t0, findTask ts0 x = some t0 ∧ t.state = t0.state ∧ t.rq = t0.rq := by
    intro x t hx hft
    rw [findTask_append] at hft
    split at hft
    · rename_i y hy
      simp only [Option.some.injEq] at hft
      rw [← hft]
      obtain ⟨t0, h0, a1, a2, _⟩ := hreg.rel x y hy
      exact ⟨t0, h0, a1, a2⟩
    · split at hft
      · rename_i e; exact absurd (e.symm.trans htid) hx
      · cases hft
  -- field by field: an old record through `hreg.rel` / `hold`, the new one through `htid`, `hst`, `hcons`
  refine ⟨?_, ?_, ?_, ?_, ?_, ?_, ?_⟩
  · simp only [taskIds, List.map_append, List.map_cons, List.map_nil]
    rw [List.nodup_append]
    refine ⟨hnd, by simp, ?_⟩
    intro a ha b hb
    simp only [List.mem_singleton] at hb
    subst hb
    intro e
    exact not_mem_of_findTask_none hdup (by rw [← htid, ← e]; exact ha)
  · intro t ht
    rcases List.mem_append.mp ht with h | h
    · obtain ⟨t0, h0, _⟩ := hreg.rel t.id t (hfind t h)
      have := hi.uT t0 (findTask_some_mem h0)
      rw [findTask_some_id h0] at this
      exact List.mem_append_left _ this
    · simp only [List.mem_singleton] at h; subst h; rw [htid]; simp
  · intro t ht c hc
    rcases List.mem_append.mp ht with h | h
    · obtain ⟨t0, h0, _, _, a3, _⟩ := hreg.rel t.id t (hfind t h)
      rcases a3 c hc with h1 | h1
      · exact List.mem_append_left _ (hi.uC t0 (findTask_some_mem h0) c h1)
      · subst h1; simp
    · simp only [List.mem_singleton] at h; subst h; rw [hcons] at hc; cases hc
  · intro t ht
    rcases List.mem_append.mp ht with h | h
    · obtain ⟨t0, h0, _, _, _, a4⟩ := hreg.rel t.id t (hfind t h)
      exact a4 (hi.cnd t0 (findTask_some_mem h0))
    · simp only [List.mem_singleton] at h; subst h; rw [hcons]; exact List.nodup_nil
  · intro t ht hfin
    rcases List.mem_append.mp ht with h | h
    · obtain ⟨t0, h0, a1, _⟩ := hreg.rel t.id t (hfind t h)
      exact absurd (a1 ▸ hfin) (hnf t0 (findTask_some_mem h0))
    · simp only [List.mem_singleton] at h; subst h; rw [hst] at hfin; cases hfin
  · intro c t hc
    simp only [owed_nil, Nat.add_zero]
    by_cases hcid : c = id
    · subst hcid
      have : t = task := by
        rw [findTask_append, hdup] at hc
        simp only [htid, if_true, Option.some.injEq] at hc
        exact hc.symm
      subst this
      rw [hst]; exact hcnt_id
    · obtain ⟨t0, h0, a1, _⟩ := hold c t hcid hc
      rw [hnl_app, hreg.oth c hcid, a1]
      have := hi.cnt c t0 h0
      simpa using this
  · intro i q' hq' x hx
    have hq : (∃ q, qs[i]? = some q ∧ x ∈ qIds q) ∨ (i = rq ∧ x = id ∧ n = 0) := by
      rcases hq with ⟨h0, h⟩ | h
      · exact (h i q' hq' x hx).imp (fun a => a) fun e => ⟨e.1, e.2, h0⟩
      · exact .inl (h i q' hq' x hx)
    rcases hq with ⟨q, hq0, hx0⟩ | ⟨rfl, rfl, hn0⟩
    · obtain ⟨g1, g2, g3, g4⟩ := hi.qg i q hq0 x hx0
      have hxid : x ≠ id := fun e => hfresh (e ▸ g1)
      refine ⟨List.mem_append_left _ g1, ?_, ?_, ?_⟩
      rotate_left 2
      · intro t ht
        obtain ⟨t0, h0, a1, _⟩ := hold x t hxid ht
        rw [a1]; exact g4 t0 h0
      · intro t ht
        obtain ⟨t0, h0, _, a2⟩ := hold x t hxid ht
        rw [a2]; exact g2 t0 h0
      · intro dt hdt hc
        rcases List.mem_append.mp hdt with h | h
        · obtain ⟨t0, h0, _, _, a3, _⟩ := hreg.rel dt.id dt (hfind dt h)
          rcases a3 x hc with h1 | h1
          · have := g3 t0 (findTask_some_mem h0) h1
            cases this
          · exact absurd h1 hxid
        · simp only [List.mem_singleton] at h; subst h; rw [hcons] at hc; cases hc
    · refine ⟨by simp, ?_, ?_, ?_⟩
      rotate_left 2
      · intro t ht
        rw [findTask_append, hdup] at ht
        simp only [htid, if_true, Option.some.injEq] at ht
        rw [← ht, hst, hn0]; rfl
      · intro t ht
        rw [findTask_append, hdup] at ht
        simp only [htid, if_true, Option.some.injEq] at ht
        rw [← ht]; exact hrq
      · have : nL none (ts ++ [task]) x = 0 := by omega
        exact nL_zero.mp this

theorem QInv4.mono_U {U U' f pend ts qs} (hi : QInv4 U f pend ts qs) (h : ∀ x ∈ U, x ∈ U') : QInv4 U' f pend ts qs :=
  ⟨hi.nd, fun t ht => h _ (hi.uT t ht), fun t ht c hc => h _ (hi.uC t ht c hc), hi.cnd, hi.fin, hi.cnt,
    fun i q hq x hx => ⟨h _ (hi.qg i q hq x hx).u, (hi.qg i q hq x hx).rq, (hi.qg i q hq x hx).nl,
      (hi.qg i q hq x hx).z⟩⟩

end HqModel.Core
