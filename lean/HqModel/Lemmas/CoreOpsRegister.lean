import HqModel.Lemmas.CoreOpsReactor
/-!
`registerDeps` in closed form. It rewrites the record of every dependency that is in the map by `Task.addConsumer`
(`regOf`), keeps the dependencies that are in the map, in order, and counts those of them that are not Finished. What the
invariant families need of `on_new_tasks` about the old records is read off these equations: by lookup
(`find_registerDeps`) or by member (`mem_registerDeps`), for which no unique ids are needed, or record by record
(`registerDeps_eq_map`) where ids are unique. (That the list of ids stays as it is, `registerDeps_ids`, is in
`CoreOpsReactor`.)
-/
namespace HqModel.Core

/-- What `on_new_tasks` does to the record of a dependency of the new task `id` (the `dep'` of `registerDeps`;
`Task::add_consumer`, an insertion into a set): `id` is appended to the consumer list only where it is not already
listed. -/
def Task.addConsumer (t : Task) (id : TaskId) : Task :=
  { t with consumers := if t.consumers.contains id then t.consumers else t.consumers ++ [id] }

theorem Task.mem_addConsumer {t : Task} {id c : TaskId} :
    c ∈ (t.addConsumer id).consumers ↔ c ∈ t.consumers ∨ c = id := by
  unfold Task.addConsumer
  by_cases h : t.consumers.contains id = true
  · simp only [h, if_true]
    exact ⟨Or.inl, fun hc => hc.elim (fun a => a) fun e => e ▸ by simpa using h⟩
  · simp only [h, if_false, Bool.false_eq_true, List.mem_append, List.mem_singleton]

theorem Task.addConsumer_idem (t : Task) (id : TaskId) : (t.addConsumer id).addConsumer id = t.addConsumer id := by
  have : (t.addConsumer id).consumers.contains id = true := by
    simpa using Task.mem_addConsumer.mpr (Or.inr rfl)
  show ({ t.addConsumer id with consumers := _ } : Task) = _
  rw [if_pos this]

theorem Task.addConsumer_nodup {t : Task} (id : TaskId) (h : t.consumers.Nodup) : (t.addConsumer id).consumers.Nodup := by
  unfold Task.addConsumer
  by_cases hc : t.consumers.contains id = true
  · rw [if_pos hc]; exact h
  · rw [if_neg hc]
    exact List.nodup_append.mpr ⟨h, by simp, fun a ha b hb e => hc (by
      rw [List.mem_singleton.mp hb] at e; simpa using e ▸ ha)⟩

/-- What `registerDeps _ id deps` does to one record of the map: consumer `id` is registered on it if it is one of
`deps`, however often `deps` names it; any other record is left as it is. -/
def regOf (deps : List TaskId) (id : TaskId) (t : Task) : Task := if t.id ∈ deps then t.addConsumer id else t

theorem regOf_nil (id : TaskId) (t : Task) : regOf [] id t = t := by simp [regOf]

theorem regOf_cons_of_ne {d : TaskId} {rest : List TaskId} {id : TaskId} {t : Task} (h : t.id ≠ d) :
    regOf (d :: rest) id t = regOf rest id t := by
  simp only [regOf, List.mem_cons, h, false_or]

/-- a second mention of the same dependency changes nothing: `Task.addConsumer` is idempotent -/
theorem regOf_cons_self (rest : List TaskId) (id : TaskId) (t : Task) :
    regOf rest id (t.addConsumer id) = regOf (t.id :: rest) id t := by
  have e : (t.addConsumer id).id = t.id := rfl
  simp only [regOf, e, List.mem_cons, true_or, if_true]
  split
  · exact t.addConsumer_idem id
  · rfl

theorem regOf_eq (deps : List TaskId) (id : TaskId) (t : Task) :
    (regOf deps id t).id = t.id ∧ (regOf deps id t).state = t.state ∧ (regOf deps id t).deps = t.deps ∧
      (regOf deps id t).rq = t.rq ∧ (regOf deps id t).prio = t.prio := by
  unfold regOf; split <;> exact ⟨rfl, rfl, rfl, rfl, rfl⟩

theorem mem_regOf_consumers {deps : List TaskId} {id c : TaskId} {t : Task} :
    c ∈ (regOf deps id t).consumers ↔ c ∈ t.consumers ∨ (c = id ∧ t.id ∈ deps) := by
  unfold regOf
  split
  · rename_i h; rw [Task.mem_addConsumer]; exact or_congr_right ⟨fun e => ⟨e, h⟩, fun e => e.1⟩
  · rename_i h; exact ⟨Or.inl, fun e => e.elim (fun a => a) fun e => absurd e.2 h⟩

theorem regOf_nodup (deps : List TaskId) (id : TaskId) {t : Task} (h : t.consumers.Nodup) :
    (regOf deps id t).consumers.Nodup := by
  unfold regOf; split
  · exact Task.addConsumer_nodup id h
  · exact h

theorem find_registerDeps (id : TaskId) : ∀ (deps : List TaskId) (ts : List Task) (x : TaskId),
    findTask (registerDeps ts id deps).1 x = (findTask ts x).map (regOf deps id)
  | [], ts, x => by
    simp only [registerDeps]
    cases findTask ts x <;> simp [regOf_nil]
  | d :: rest, ts, x => by
    simp only [registerDeps]
    cases hd : findTask ts d with
    | none =>
      simp only
      rw [find_registerDeps id rest ts x]
      cases hx : findTask ts x with
      | none => rfl
      | some t =>
        have : t.id ≠ d := fun e => by rw [← e, findTask_some_id hx, hx] at hd; cases hd
        simp only [Option.map_some, regOf_cons_of_ne this]
    | some dep =>
      have hid : dep.id = d := findTask_some_id hd
      show findTask (registerDeps (putTask ts (dep.addConsumer id)) id rest).1 x = _
      rw [find_registerDeps id rest _ x, findTask_putTask, show (dep.addConsumer id).id = d from hid]
      by_cases e : x = d
      · subst e
        rw [if_pos rfl, hd]
        simp only [Option.map_some, regOf_cons_self, hid]
      · rw [if_neg e]
        cases hx : findTask ts x with
        | none => rfl
        | some t =>
          have : t.id ≠ d := fun e' => e ((findTask_some_id hx).symm.trans e')
          simp only [Option.map_some, regOf_cons_of_ne this]

theorem mem_registerDeps (id : TaskId) : ∀ (deps : List TaskId) (ts : List Task), ∀ t' ∈ (registerDeps ts id deps).1,
    ∃ t ∈ ts, t' = regOf deps id t
  | [], ts, t', h => ⟨t', h, (regOf_nil id t').symm⟩
  | d :: rest, ts, t', h => by
    simp only [registerDeps] at h
    cases hd : findTask ts d with
    | none =>
      rw [hd] at h
      obtain ⟨t, ht, e⟩ := mem_registerDeps id rest ts t' h
      refine ⟨t, ht, e.trans (regOf_cons_of_ne fun e' => ?_).symm⟩
      exact not_mem_of_findTask_none hd (e' ▸ List.mem_map_of_mem ht)
    | some dep =>
      rw [hd] at h
      have hid : dep.id = d := findTask_some_id hd
      obtain ⟨t1, ht1, e⟩ := mem_registerDeps id rest (putTask ts (dep.addConsumer id)) t' h
      rcases mem_putTask' ht1 with rfl | ⟨hm, hne⟩
      · exact ⟨dep, findTask_some_mem hd, e.trans (hid ▸ regOf_cons_self rest id dep)⟩
      · exact ⟨t1, hm, e.trans (regOf_cons_of_ne (hid ▸ hne)).symm⟩

theorem registerDeps_kept (id : TaskId) : ∀ (deps : List TaskId) (ts : List Task),
    (registerDeps ts id deps).2.1 = deps.filter fun d => (findTask ts d).isSome
  | [], _ => rfl
  | d :: rest, ts => by
    simp only [registerDeps]
    cases hd : findTask ts d with
    | none =>
      simp only [List.filter_cons, hd, Option.isSome_none, Bool.false_eq_true, if_false]
      exact registerDeps_kept id rest ts
    | some dep =>
      simp only [List.filter_cons, hd, Option.isSome_some, if_true]
      rw [registerDeps_kept id rest]
      have hs : ∀ (t : Task) x, (findTask (putTask ts t) x).isSome = (findTask ts x).isSome := fun t x => by
        rw [findTask_putTask]
        split
        · cases findTask ts x <;> rfl
        · rfl
      exact congrArg _ (List.filter_congr fun x _ => hs _ x)

theorem putTask_eq_map (ts : List Task) (t : Task) : putTask ts t = ts.map fun x => if x.id = t.id then t else x := by
  induction ts with
  | nil => rfl
  | cons y ys ih => simp only [putTask, List.map_cons]; split <;> rw [ih]

theorem registerDeps_eq_map (id : TaskId) : ∀ (deps : List TaskId) (ts : List Task), (taskIds ts).Nodup →
    (registerDeps ts id deps).1 = ts.map (regOf deps id)
  | [], ts, _ => by
    simp only [registerDeps]
    rw [List.map_congr_left fun t _ => regOf_nil id t, List.map_id']
  | d :: rest, ts, hn => by
    simp only [registerDeps]
    cases hd : findTask ts d with
    | none =>
      simp only
      rw [registerDeps_eq_map id rest ts hn]
      refine List.map_congr_left fun t ht => (regOf_cons_of_ne fun e => ?_).symm
      exact not_mem_of_findTask_none hd (e ▸ List.mem_map_of_mem ht)
    | some dep =>
      have hid : dep.id = d := findTask_some_id hd
      show (registerDeps (putTask ts (dep.addConsumer id)) id rest).1 = _
      rw [registerDeps_eq_map id rest _ (by rw [taskIds_putTask]; exact hn), putTask_eq_map, List.map_map]
      refine List.map_congr_left fun t ht => ?_
      show regOf rest id (if t.id = dep.id then dep.addConsumer id else t) = _
      split
      · rename_i e
        obtain rfl : t = dep := Option.some.inj ((mem_find_of_nodup hn ht).symm.trans ((e.trans hid) ▸ hd))
        exact hid ▸ regOf_cons_self rest id t
      · rename_i e
        exact (regOf_cons_of_ne fun e' => e (e'.trans hid.symm)).symm

end HqModel.Core
