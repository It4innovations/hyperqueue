import HqModel.Lemmas.SchedTwoClasses
/-!
Fragment F2 of C15 (one worker, two cpu-only request classes with ready tasks, default weights) by exchange. From a solution
`x` build `exch x …`: one more task of the higher class `H`, only the `L` tasks from a priority `p` on, the blockers of `L`
re-set. It is feasible (`exch_feasible`) and strictly better (`exists_better`): the cut of `L` just below `p` and the forced
blocker variable bound the `L` tasks given up by the gap (`placed_le_above_add_gap`), which is worth less than one `H` task.
So an optimal solution has no violating pair: `priorityRespecting_of_inF2`.
-/
namespace HqModel.Sched

def exch (x : Assign) (wid H L k : Nat) : Assign := fun v =>
  match v with
  | .P w' c => if w' = wid ∧ c = H then x (.P wid H) + 1 else if w' = wid ∧ c = L then k else x v
  | .B c s => if c = L then (if s ≤ k then 0 else 1) else x v
  | .R _ _ => x v

theorem exch_PH (x : Assign) (wid H L k : Nat) : exch x wid H L k (.P wid H) = x (.P wid H) + 1 := by
  simp [exch]

theorem exch_PL {x : Assign} {wid H L k : Nat} (hne : H ≠ L) : exch x wid H L k (.P wid L) = k := by
  have : ¬ L = H := fun e => hne e.symm
  simp [exch, this]

theorem exch_BH {x : Assign} {wid H L k s : Nat} (hne : H ≠ L) :
    exch x wid H L k (.B H s) = x (.B H s) := by
  simp [exch, hne]

theorem exch_BL (x : Assign) (wid H L k s : Nat) : exch x wid H L k (.B L s) = if s ≤ k then 0 else 1 := by
  simp [exch]

theorem exch_BL_le (x : Assign) (wid H L k s : Nat) : exch x wid H L k (.B L s) ≤ 1 := by
  rw [exch_BL]
  split
  · exact Nat.zero_le 1
  · exact Nat.le_refl 1

variable {inst : Instance} {w : Worker} {bs : List Batch} {bH bL : Batch} {x : Assign}

theorem exch_holds_cutsL (h : TwoBatches inst w bs bH bL) (hspec : BatchesSpec inst bs)
    (hready : inst.readyClasses = [bL.rq, bH.rq] ∨ inst.readyClasses = [bH.rq, bL.rq]) {k : Nat}
    (hk : k ≤ x (.P w.id bL.rq)) {r : Row} (hr : r ∈ batchCutRows inst bs bL) (hrx : r.holds x) :
    r.holds (exch x w.id bH.rq bL.rq k) := by
  rw [batchCutRows, h.countVarsL, if_neg (by simp)] at hr
  obtain ⟨pre, cut, post, he, hr⟩ := mem_cutRowsFrom hr
  have hcut : cut ∈ _ := he ▸ List.mem_append_right pre List.mem_cons_self
  obtain ⟨bl, hbl, hge, hf⟩ := cutRows_form h.workers h.pL hr
  obtain ⟨_, _, _, _, rfl⟩ := cut_blockers_two hspec h.memL h.ne.symm hready hcut hbl
  have hPle : exch x w.id bH.rq bL.rq k (.P w.id bL.rq) ≤ x (.P w.id bL.rq) := by
    rw [exch_PL h.ne]; exact hk
  refine holds_of_le hge (fun t ht => ?_) hrx
  rcases hf with ⟨s, _, _, hterms⟩ | ⟨_, _, hterms⟩ <;> rw [hterms] at ht
  · rcases List.mem_cons.mp ht with rfl | ht
    · exact hPle
    · rw [List.mem_singleton.mp ht, exch_BH h.ne]; exact Nat.le_refl _
  · rw [List.mem_singleton.mp ht]; exact hPle

/-- the rows of the cuts of `H`: a cut below `p` holds all tasks of `H` from `p` on, so the extra task stays within it;
a cut from `p` on is blocked by no more than the `L` tasks from `p` on, which stay, so its blocker is released -/
theorem exch_holds_cutsH (h : TwoBatches inst w bs bH bL) (hspec : BatchesSpec inst bs)
    (hready : inst.readyClasses = [bH.rq, bL.rq] ∨ inst.readyClasses = [bL.rq, bH.rq]) {p : Int}
    (hxH : x (.P w.id bH.rq) + 1 ≤ atLeast inst bH.rq p) (hsize : x (.P w.id bH.rq) + 1 ≤ bH.size)
    (hklim : atLeast inst bL.rq p ≤ inst.limitOf bL.rq) {r : Row} (hr : r ∈ batchCutRows inst bs bH) :
    r.holds (exch x w.id bH.rq bL.rq (atLeast inst bL.rq p)) := by
  rw [batchCutRows, h.countVarsH, if_neg (by simp)] at hr
  obtain ⟨pre, cut, post, he, hr⟩ := mem_cutRowsFrom hr
  have hcut : cut ∈ _ := he ▸ List.mem_append_right pre List.mem_cons_self
  obtain ⟨bl, hbl, hge, hf⟩ := cutRows_form h.workers h.pH hr
  obtain ⟨t, _, _, hsz, rfl⟩ := cut_blockers_two hspec h.memH h.ne hready hcut hbl
  rw [Row.holds, hge, if_neg Bool.false_ne_true, Row.lhs]
  by_cases hp : t.prio < p
  · have hcs : x (.P w.id bH.rq) + 1 ≤ cut.size := hsz ▸ Nat.le_trans hxH (atLeast_le_above hp)
    rcases hf with ⟨s, _, hbound, hterms⟩ | ⟨_, hbound, hterms⟩
    · have hB := Nat.mul_le_mul_left bH.size (exch_BL_le x w.id bH.rq bL.rq (atLeast inst bL.rq p) s)
      rw [Nat.mul_one] at hB
      simp only [hterms, List.map_cons, List.map_nil, List.sum_cons, List.sum_nil, exch_PH, Nat.one_mul, Nat.add_zero]
      exact Nat.le_trans (Nat.add_le_add hcs hB) hbound
    · simp only [hterms, List.map_cons, List.map_nil, List.sum_cons, List.sum_nil, exch_PH, Nat.one_mul, Nat.add_zero]
      exact Nat.le_trans hcs hbound
  · have hle : above inst bL.rq t.prio ≤ atLeast inst bL.rq p := above_le_atLeast (Int.not_lt.mp hp)
    simp only [if_neg (Nat.not_lt.mpr (Nat.le_trans hle hklim)), Option.some.injEq, reduceCtorEq, false_and,
      or_false] at hf
    obtain ⟨s, rfl, hbound, hterms⟩ := hf
    simp only [hterms, List.map_cons, List.map_nil, List.sum_cons, List.sum_nil, exch_PH, exch_BL, if_pos hle,
      Nat.one_mul, Nat.mul_zero, Nat.add_zero]
    exact Nat.le_trans hsize (Nat.le_trans (Nat.le_add_left _ _) hbound)

theorem exch_feasible (h : TwoBatches inst w bs bH bL) (hspec : BatchesSpec inst bs)
    (hready : inst.readyClasses = [bH.rq, bL.rq] ∨ inst.readyClasses = [bL.rq, bH.rq])
    (hx : Feasible (milpOf inst bs) x) {p : Int}
    (hxH : x (.P w.id bH.rq) + 1 ≤ atLeast inst bH.rq p) (hxHlim : x (.P w.id bH.rq) + 1 ≤ inst.limitOf bH.rq)
    (hk : atLeast inst bL.rq p ≤ x (.P w.id bL.rq)) (hklim : atLeast inst bL.rq p ≤ inst.limitOf bL.rq)
    (hres : inst.need bH.rq * (x (.P w.id bH.rq) + 1) + inst.need bL.rq * atLeast inst bL.rq p ≤ w.free) :
    Feasible (milpOf inst bs) (exch x w.id bH.rq bL.rq (atLeast inst bL.rq p)) := by
  have hne := h.ne
  -- the batch of `H` holds all its tasks, or as many as its limit
  have hsize : x (.P w.id bH.rq) + 1 ≤ bH.size := by
    cases hre : bH.reached with
    | false =>
      rw [(hspec.sizeAll bH h.memH hre).1]
      exact Nat.le_trans hxH atLeast_le_total
    | true =>
      rw [(hspec.sizeReached bH h.memH hre).1, hspec.limit bH h.memH]
      exact hxHlim
  refine ⟨fun r hr => ?_, fun v hv hb => ?_⟩
  · have hrx := hx.1 r hr
    -- by the kind of the row: resource, size, blocker, cut
    rcases (rows_iff inst bs).mp hr with hr | hr | hr | ⟨b, hb, hr⟩
    · obtain ⟨r', hr', hge, hbound, hlhs⟩ := h.resourceRows_eq
      rw [hr', List.mem_singleton] at hr
      subst hr
      rw [Row.holds, hge, if_neg Bool.false_ne_true, hlhs, exch_PH, exch_PL hne, hbound]
      exact hres
    · obtain ⟨hge, ⟨_, hbound, hlhs⟩ | ⟨_, hbound, hlhs⟩⟩ := h.sizeRow hr
      · rw [Row.holds, hge, if_neg Bool.false_ne_true, hlhs, exch_PH, hbound]
        exact hsize
      · rw [Row.holds, hge, if_neg Bool.false_ne_true, hlhs, hbound] at hrx ⊢
        rw [exch_PL hne]
        exact Nat.le_trans hk hrx
    · obtain ⟨c, s, hcv, hge, hbound, hterms⟩ := bRows_form hr
      by_cases hcH : c = bH.rq
      · subst hcH
        unfold Row.holds at hrx ⊢
        simp only [hge, ↓reduceIte, hbound, Row.lhs, hterms, h.countVarsOfH, List.map_cons, List.map_nil,
          List.cons_append, List.nil_append, List.sum_cons, List.sum_nil, exch_PH, exch_BH hne, Nat.one_mul,
          Nat.add_zero] at hrx ⊢
        exact Nat.le_trans hrx (Nat.add_le_add_right (Nat.le_succ _) _)
      · by_cases hcL : c = bL.rq
        · subst hcL
          unfold Row.holds
          simp only [hge, ↓reduceIte, hbound, Row.lhs, hterms, h.countVarsOfL, List.map_cons, List.map_nil,
            List.cons_append, List.nil_append, List.sum_cons, List.sum_nil, exch_PL hne, exch_BL, Nat.one_mul,
            Nat.add_zero]
          split
          · rename_i hle; exact Nat.le_trans hle (Nat.le_add_right _ _)
          · rw [Nat.mul_one]; exact Nat.le_add_left _ _
        · rw [h.countVarsOf_other hcH hcL] at hcv
          cases hcv
    · rcases h.mem_iff.mp hb with rfl | rfl
      · exact exch_holds_cutsH h hspec hready hxH hsize hklim hr
      · exact exch_holds_cutsL h hspec hready.symm hk hr hrx
  · have hxv := hx.2 v hv hb
    obtain ⟨var, wt⟩ := v
    cases var with
    | P w' c => simp [Var.isBool] at hb
    | R w' c => simpa [exch] using hxv
    | B c s =>
      by_cases hc : c = bL.rq
      · rw [hc]; exact exch_BL_le _ _ _ _ _ _
      · simp only [exch, hc, ↓reduceIte]; exact hxv

/-- the tasks of `L` placed beyond a level of its queue fit into the gap, if `H` has more tasks above that level than
the solution places: the level has a cut blocked by `H`; a bounded blocker variable is forced to 1 by its own row,
and then the rows of the cut say so -/
theorem placed_le_above_add_gap (h : TwoBatches inst w bs bH bL) (hspec : BatchesSpec inst bs)
    (hready : inst.readyClasses = [bL.rq, bH.rq] ∨ inst.readyClasses = [bH.rq, bL.rq])
    (hcap : capable inst bH.rq w = true) (hx : Feasible (milpOf inst bs) x)
    {t : TaskInfo} (ht : t ∈ inst.tasks) (htc : t.cls = bL.rq)
    (hlim : above inst bL.rq t.prio ≤ inst.limitOf bL.rq) (hxH : x (.P w.id bH.rq) < above inst bH.rq t.prio) :
    x (.P w.id bL.rq) ≤ above inst bL.rq t.prio + gap inst bH.rq bL.rq w := by
  have hbl := blockersAt_two h.ne.symm hready t.prio
  rw [if_pos (Nat.zero_lt_of_lt hxH)] at hbl
  obtain ⟨cut, hcut, hsize, hcbl⟩ := hspec.cutExists bL h.memL t ht htc
    (by rw [hspec.limit bL h.memL]; exact hlim) (by rw [hbl]; exact List.cons_ne_nil _ _)
  rw [hbl] at hcbl
  have hrows : ∀ r ∈ cutRowsFrom inst bs bL [] bL.cuts, r.holds x := fun r hr =>
    hx.1 r ((rows_iff inst bs).mpr (Or.inr (Or.inr (Or.inr ⟨bL, h.memL, by
      rw [batchCutRows, h.countVarsL, if_neg (by simp)]; exact hr⟩))))
  split at hcbl
  · have := cutRows_unbounded h.workers h.pL hcap rfl (hspec.cutsSorted bL h.memL) hrows hcut
      (by rw [hcbl]; exact List.mem_singleton.mpr rfl)
    exact Nat.le_trans this (Nat.add_le_add_right hsize _)
  · have hcv : (countVarsOf inst bs bH.rq).isEmpty = false := by rw [h.countVarsOfH]; rfl
    have hblm : (bH.rq, some (above inst bH.rq t.prio)) ∈ cut.blockers := by
      rw [hcbl]; exact List.mem_singleton.mpr rfl
    obtain ⟨pre, post, hcuts⟩ := List.append_of_mem hcut
    have hb := cutRows_bounded h.workers h.pL hcap hcv hblm fun r hr =>
      hrows r (by rw [hcuts]; exact cutRows_sub (earlier := []) hr)
    have hB := hx.1 _ ((rows_iff inst bs).mpr (Or.inr (Or.inr (Or.inl
      (bRow_mem h.memL (by rw [h.countVarsL]; rfl) hcut hblm (usesB_one h.workers h.pL hcap hcv))))))
    rw [h.countVarsOfH] at hB
    simp only [Row.holds, ↓reduceIte, Row.lhs, List.map_cons, List.map_nil, List.cons_append, List.nil_append,
      List.sum_cons, List.sum_nil, Nat.one_mul, Nat.add_zero] at hB
    have hB1 : 0 < x (.B bH.rq (above inst bH.rq t.prio)) :=
      Nat.pos_of_ne_zero fun h0 => Nat.not_le.mpr hxH (by rwa [h0, Nat.mul_zero, Nat.add_zero] at hB)
    have := Nat.le_mul_of_pos_right bL.size hB1
    omega

/-- the exchange pays: the weights of the two classes are `K * nH` and `K * nL` with a common factor `K`, and the `L` tasks
given up fit into a gap `g` that is worth less than the one `H` task gained -/
theorem exchange_gain {K nH nL xH xL k g : Nat} (hK : 0 < K) (hg : nL * g < nH) (hxL : xL ≤ k + g) :
    K * nH * xH + K * nL * xL < K * nH * (xH + 1) + K * nL * k := by
  have h1 : nH * xH + nL * xL < nH * (xH + 1) + nL * k := by
    have := Nat.mul_le_mul_left nL hxL
    rw [Nat.mul_add] at this
    rw [Nat.mul_add, Nat.mul_one]
    omega
  have := Nat.mul_lt_mul_of_pos_left h1 hK
  rwa [Nat.mul_add, Nat.mul_add, ← Nat.mul_assoc, ← Nat.mul_assoc, ← Nat.mul_assoc, ← Nat.mul_assoc] at this

/-- The exchange. `p` is the priority of a task of `H` that waits, `l` a task of `L` below `p`; `hxH`, `hk`, `hres` are what
this violating pair says about the counts on the worker (`countOn_lt_atLeast`, `atLeast_lt_countOn`, `room_beside_kept`).
`H`, `L` stand for `bH.rq`, `bL.rq`: the caller's classes are those of two tasks, not variables. -/
theorem exists_better (h : TwoBatches inst w bs bH bL) {H L : Nat} (hH : bH.rq = H) (hL : bL.rq = L)
    (hspec : BatchesSpec inst bs) (hready : inst.readyClasses = [H, L] ∨ inst.readyClasses = [L, H])
    (hft : w.free ≤ w.total) (hnH : 0 < inst.need H) (hnL : 0 < inst.need L)
    (hwH : inst.weight H = 10000) (hwL : inst.weight L = 10000)
    (hx : Feasible (milpOf inst bs) x) {p : Int} {l : TaskInfo} (hl : l ∈ inst.tasks) (hlc : l.cls = L)
    (hlt : l.prio < p) (hxH : x (.P w.id H) + 1 ≤ atLeast inst H p) (hk : atLeast inst L p ≤ x (.P w.id L))
    (hres : inst.need H * (x (.P w.id H) + 1) + inst.need L * atLeast inst L p ≤ w.free) :
    ∃ y, Feasible (milpOf inst bs) y ∧ objective (milpOf inst bs) x < objective (milpOf inst bs) y := by
  subst hH hL
  have hfH := need_le_free h.pH
  have hfL := need_le_free h.pL
  have hcapH := Nat.le_trans hfH hft
  have hfree := Nat.lt_of_lt_of_le hnH hfH
  have hxHlim := le_limitOf_one h.workers h.cH hcapH hnH (Nat.le_trans (Nat.le_add_right _ _) hres)
  have hklim := Nat.le_trans hk (le_limitOf_one h.workers h.cL (Nat.le_trans hfL hft) hnL
    (Nat.le_trans (Nat.le_add_left _ _) (h.resource_le hx)))
  -- the highest level of `L` below `p`
  obtain ⟨t, ht, htc, htp, habove⟩ := exists_level_below hl hlc hlt
  have hgap := placed_le_above_add_gap h hspec hready.symm (by rw [capable_cpu h.cH]; exact decide_eq_true hcapH)
    hx ht htc (habove ▸ hklim) (Nat.lt_of_lt_of_le hxH (atLeast_le_above htp))
  rw [habove] at hgap
  refine ⟨_, exch_feasible h hspec hready hx hxH hxHlim hk hklim hres, Nat.lt_of_not_le fun hle => ?_⟩
  rw [h.objective_eq, h.objective_eq, exch_PH, exch_PL h.ne,
    weightP_one h.workers hfree h.cH hwH, weightP_one h.workers hfree h.cL hwL] at hle
  -- the factor common to both weights: the free amount of the second kind, and the scale
  exact absurd hle (Nat.not_le.mpr (exchange_gain
    (Nat.mul_pos (Nat.lt_of_lt_of_le Nat.one_pos (Nat.le_max_right _ _)) (by decide))
    (gap_mul_lt inst bH.rq bL.rq w hnH h.cH) hgap))

theorem priorityRespecting_of_inF2 {inst : Instance} (hwf : inst.WF) (hF : inst.inF2 = true)
    (hco : inst.CpuOnly) (hspec : BatchesSpec inst (batches inst))
    {x : Assign} (hopt : Optimal (milp inst) x) {pl : Placement} (hv : ValidPlacement inst x pl) :
    PriorityRespecting inst pl := by
  intro h hh l hl w hwm
  cases hvp : violatingPair inst pl h l w with
  | false => rfl
  | true =>
  exfalso
  simp only [Instance.inF2, Bool.and_eq_true, decide_eq_true_eq, List.all_eq_true] at hF
  obtain ⟨⟨⟨hlen, hrc⟩, hwt⟩, _⟩ := hF
  have hw : inst.workers = [w] := by
    match hws : inst.workers, hlen, hwm with
    | [w'], _, hwm => rw [List.mem_singleton.mp hwm]
  simp only [violatingPair, Bool.and_eq_true, Bool.not_eq_true', decide_eq_true_eq, fitsWithoutLower] at hvp
  obtain ⟨⟨⟨⟨hnd, hon⟩, hlt⟩, ⟨hnb, hfit⟩, _⟩, _⟩ := hvp
  obtain ⟨hHr, hHq⟩ := cls_mem_readyClasses hh
  obtain ⟨hLr, hLq⟩ := cls_mem_readyClasses hl
  have hne : h.cls ≠ l.cls := fun e =>
    absurd (dispatched_prio_ge hwf hv hh hl e hnd (on_dispatched hon)) (Int.not_le.mpr hlt)
  have hready := two_of_length_le_two hrc hHr hLr hne
  have hc2H := hco _ hHr
  have hc2L := hco _ hLr
  have hHc : h.cls < inst.classes.length := hwf.sameLen ▸ hHq
  have hLc : l.cls < inst.classes.length := hwf.sameLen ▸ hLq
  have hnH := need_pos_of_classes hwf hHc
  have hnL := need_pos_of_classes hwf hLc
  -- both classes can start on the worker, so the counts of the placement are the placement variables
  have hpH : hasP inst w h.cls = true := by
    simp only [hasP, fitsNow_cpu hc2H, Bool.and_eq_true, decide_eq_true_eq]
    exact ⟨by rw [hnb]; rfl, Nat.le_trans (Nat.le_add_left _ _) hfit⟩
  have h1 := countOn_lt_atLeast hwf hv hh hnd w.id
  have h2 := atLeast_lt_countOn hwf hv hw hl hon hlt
  have h3 := room_beside_kept hwf hv hw hh hl hne hnd hon hlt hfit
  have hcL := hv.counts w hwm l.cls hLq
  have hpL : hasP inst w l.cls = true := by
    cases hp : hasP inst w l.cls with
    | true => rfl
    | false =>
      rw [hp, if_neg Bool.false_ne_true] at hcL
      exact absurd (hcL ▸ h2) (Nat.not_succ_le_zero _)
  rw [hv.counts w hwm h.cls hHq, if_pos hpH] at h1 h3
  rw [hcL, if_pos hpL] at h2
  obtain ⟨bH, bL, htb, hbH, hbL⟩ := twoBatches_of_spec hspec hw (hwf.freeLeTotal w hwm) hne hready hpH hpL hc2H hc2L
  obtain ⟨y, hy, hlt'⟩ := exists_better htb hbH hbL hspec hready (hwf.freeLeTotal w hwm) hnH hnL
    (weight_of_classes hwt hHc) (weight_of_classes hwt hLc) hopt.1 hl rfl hlt h1 (Nat.le_of_succ_le h2) h3
  exact absurd (hopt.2 y hy) (Nat.not_le.mpr hlt')

end HqModel.Sched
