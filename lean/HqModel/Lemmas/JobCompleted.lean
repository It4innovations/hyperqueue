import HqModel.Lemmas.JobHistory
import HqModel.Lemmas.IntArray
/-!
History invariant for `jobCompleted` events: over every run of the job layer in which no submit creates a job
without tasks (`NoEmptySubmit`) the number of `Ev.jobCompleted j` events equals 1 if the stored job `j` is terminated
(closed and without active tasks) and 0 otherwise.
Basis of `c13_completed_once` (C13).
Also the documented rule table of the job state (`C13.statusRule`, defined here) and `status_eq`: on a well-formed job
`job_status` computes it.
-/
namespace HqModel.Job

theorem nWaiting_eq {a : Job} (w : JobWF a) : a.nWaiting = countS a.tasks .waiting := by
  simp only [Job.nWaiting, Counters.sum, Job.nTasks, w.running, w.finished, w.failed, w.canceled, w.aborted]
  rw [← countS_sum a.tasks]
  exact Nat.add_sub_cancel_left ..

theorem hasNoActive_false {a : Job} {k : Nat} {st : TState} (w : JobWF a) (hl : lookup a.tasks k = some st)
    (hst : st.terminal = false) : a.hasNoActiveTasks = false := by
  have hp := countS_pos hl
  simp only [Job.hasNoActiveTasks, nWaiting_eq w, w.running]
  cases st with
  | running => simp [Nat.ne_of_gt hp]
  | waiting => simp [Nat.ne_of_gt hp]
  | _ => cases hst

theorem isTerminated_false {a : Job} {k : Nat} {st : TState} (w : JobWF a) (hl : lookup a.tasks k = some st)
    (hst : st.terminal = false) : a.isTerminated = false := by
  simp [Job.isTerminated, hasNoActive_false w hl hst]

theorem isTerminated_of_open {a : Job} (h : a.isOpen = true) : a.isTerminated = false := by
  simp [Job.isTerminated, h]

theorem hasNoActive_iff {a : Job} (w : JobWF a) : a.hasNoActiveTasks = true ↔ a.allTerminal := by
  constructor
  · intro h p hp
    cases ht : p.2.terminal with
    | true => rfl
    | false =>
      have := hasNoActive_false w (lookup_of_mem w.nodup (t := p.1) (a := p.2) hp) ht
      rw [h] at this; cases this
  · intro h
    have zero : ∀ x : TState, x.terminal = false → countS a.tasks x = 0 := by
      intro x hx
      refine List.countP_eq_zero.mpr fun p hp hr => ?_
      rw [← of_decide_eq_true hr, h p hp] at hx
      cases hx
    simp [Job.hasNoActiveTasks, nWaiting_eq w, w.running, zero .running rfl, zero .waiting rfl]

/-- the submit describes at least one task when it creates a new job (explicit id arrays: at least one id;
no ids: anything but `entries = Some(0)`; graphs: at least one task) -/
def TaskDesc.nonEmpty : TaskDesc → Bool
  | .array ids entries => if ids.isEmpty then entries != some 0 else !ids.iter.isEmpty
  | .graph tasks => !tasks.isEmpty

theorem fillIdsNew_nonempty {d : TaskDesc} (h : d.nonEmpty = true) : (fillIdsNew d).jobIds ≠ [] := by
  cases d with
  | graph tasks =>
    simp only [TaskDesc.nonEmpty] at h
    simp only [fillIdsNew, TaskDesc.jobIds]
    cases tasks with
    | nil => simp at h
    | cons x xs => simp
  | array ids entries =>
    simp only [TaskDesc.nonEmpty] at h
    simp only [fillIdsNew]
    split at h
    · rename_i hemp
      simp only [hemp, if_true]
      cases entries with
      | none => simp [TaskDesc.jobIds, fromId_iter]
      | some n =>
        simp only [TaskDesc.jobIds, fromRange_iter]
        have : n ≠ 0 := by intro e; subst e; simp at h
        cases n with
        | zero => exact absurd rfl this
        | succ m => simp [List.range'_succ]
    · rename_i hemp
      have hemp' : ids.isEmpty = false := by simpa using hemp
      simp only [hemp', Bool.false_eq_true, if_false, TaskDesc.jobIds]
      intro e
      rw [e] at h
      simp at h

/-- no operation creates a new job without tasks (a submit into an existing open job may be empty) -/
def Op.submitsTask : Op → Bool
  | .submit none _ d => d.nonEmpty
  | _ => true

def NoEmptySubmit (ops : List Op) : Bool := ops.all Op.submitsTask

abbrev completed (j : Nat) (evs : List Ev) : Nat := evs.count (Ev.jobCompleted j)

theorem completed_checkTermination (job : Job) (j : Nat) :
    completed j job.checkTermination = if j = job.id then job.isTerminated.toNat else 0 := by
  unfold Job.checkTermination Job.isTerminated
  by_cases hn : job.hasNoActiveTasks = true
  · by_cases ho : job.isOpen = true
    · simp [hn, ho, completed]
    · by_cases hj : j = job.id
      · subst hj; simp [hn, ho, completed]
      · have : ¬ job.id = j := fun e => hj e.symm
        simp [hn, ho, completed, hj, this]
  · simp [hn, completed]

/-- the effect of one elementary transition `a → b` with events `e` on the completion reports (the `JT` of this file) -/
structure JC (a b : Job) (e : List Ev) : Prop where
  other : ∀ j, j ≠ a.id → completed j e = 0
  cnt : a.isTerminated.toNat + completed a.id e = b.isTerminated.toNat

theorem JC.of_eq {a b : Job} {e : List Ev} (h : b.isTerminated = a.isTerminated) (he : ∀ j, completed j e = 0) :
    JC a b e := ⟨fun j _ => he j, by rw [he, h]; rfl⟩

theorem JC.check {a b : Job} {e : List Ev} (ha : a.isTerminated = false) (hid : b.id = a.id)
    (he : ∀ j, completed j e = completed j b.checkTermination) : JC a b e := by
  refine ⟨?_, ?_⟩
  · intro j hj
    rw [he, completed_checkTermination, hid, if_neg hj]
  · rw [he, completed_checkTermination, hid, if_pos rfl, ha]; simp

theorem JobOp.jc {a b : Job} {e : List Ev} (h : JobOp a b e) (w : JobWF a) : JC a b e := by
  have wb := h.wf w
  -- a task moved between two non-terminal states: the job is not terminated before or after
  have move : ∀ {t : Nat} {st tgt : TState} {c : Counters}, lookup a.tasks t = some st → st.terminal = false →
      tgt.terminal = false → b = { a with tasks := setState a.tasks t tgt, cnt := c } → b.isTerminated = a.isTerminated := by
    rintro t st tgt c hl hst htgt rfl
    rw [isTerminated_false w hl hst,
      isTerminated_false wb (show lookup (setState a.tasks t tgt) t = some tgt by rw [lookup_setState_of hl, if_pos rfl]) htgt]
  cases h with
  | @running _ t i ws rv hr =>
    refine JC.of_eq ?_ (fun j => by simp [completed])
    rcases setRunning_eq_ok hr with ⟨hl, hb⟩ | ⟨_, -, -, rfl⟩
    · exact move hl rfl rfl hb
    · rfl
  | @finished _ t _ hr =>
    obtain ⟨hl, rfl, rfl⟩ := setFinished_eq_ok hr
    exact JC.check (isTerminated_false w hl rfl) rfl (fun j => by simp [completed])
  | @failed _ t _ hr =>
    obtain ⟨st, hst, hl, rfl, rfl⟩ := setFailed_eq_ok hr
    exact JC.check (isTerminated_false w hl (by rcases hst with rfl | rfl <;> rfl)) rfl (fun j => by simp [completed])
  | @waiting _ t hr =>
    obtain ⟨hl, hb⟩ := setWaiting_eq_ok hr
    exact JC.of_eq (move hl rfl rfl hb) (fun j => rfl)
  | @cancel _ ids _ hr =>
    rcases setCancel_eq_ok hr with ⟨-, rfl, rfl⟩ | ⟨hne, job1, hm, rfl, rfl⟩
    · exact JC.of_eq rfl (fun j => rfl)
    · obtain ⟨p, rest, rfl⟩ := List.exists_cons_of_ne_nil hne
      obtain ⟨st, hl, hst⟩ := (markAll_hist .canceled _ rfl _ _ _ hm).before p List.mem_cons_self
      exact JC.check (isTerminated_false w hl hst) (setCancel_id hr) (fun j => by simp [completed])
  | @abort _ ids _ hr =>
    rcases abortTasks_eq_ok hr with ⟨-, rfl, rfl⟩ | ⟨hne, job1, hm, rfl, rfl⟩
    · exact JC.of_eq rfl (fun j => rfl)
    · obtain ⟨p, rest, rfl⟩ := List.exists_cons_of_ne_nil hne
      obtain ⟨st, hl, hst⟩ := (markAll_hist .aborted _ rfl _ _ _ hm).before p List.mem_cons_self
      exact JC.check (isTerminated_false w hl hst) (abortTasks_id hr) (fun j => by simp [completed])
  | attach ho hr =>
    refine JC.of_eq ?_ (fun j => by simp [completed])
    rw [isTerminated_of_open ho, isTerminated_of_open ((attach_isOpen _ hr).trans ho)]
  | close ho =>
    exact JC.check (isTerminated_of_open ho) rfl (fun j => by simp [completed])

/-- The invariant, over the job list, the job-id counter and ALL events emitted so far. -/
structure Comp (jobs : List Job) (ctr : Nat) (evs : List Ev) : Prop where
  below : ∀ j a, findJob jobs j = some a → j < ctr
  wf : ∀ j a, findJob jobs j = some a → JobWF a
  /-- stored jobs: completed exactly once iff terminated -/
  cnt : ∀ j a, findJob jobs j = some a → completed j evs = a.isTerminated.toNat
  /-- job ids not yet handed out: never completed -/
  fresh : ∀ j, ctr ≤ j → completed j evs = 0
  /-- **at most one `jobCompleted` per job id**, also for forgotten jobs -/
  once : ∀ j, completed j evs ≤ 1

theorem Comp.init : Comp [] 1 [] :=
  ⟨fun _ _ h => (by cases h), fun _ _ h => (by cases h), fun _ _ h => (by cases h), fun _ _ => rfl, fun _ => Nat.zero_le _⟩

theorem completed_append (j : Nat) (a b : List Ev) : completed j (a ++ b) = completed j a + completed j b :=
  List.count_append

theorem completed_quiet {e : List Ev} (hq : ∀ x ∈ e, x.quiet = true) (j : Nat) : completed j e = 0 :=
  List.count_eq_zero.mpr fun hm => nomatch hq _ hm

theorem Comp.quiet {jobs : List Job} {ctr : Nat} {evs e : List Ev} (h : Comp jobs ctr evs)
    (hq : ∀ x ∈ e, x.quiet = true) : Comp jobs ctr (evs ++ e) := by
  have h0 := completed_quiet hq
  refine ⟨h.below, h.wf, ?_, ?_, ?_⟩
  · intro j a hj; rw [completed_append, h0, h.cnt j a hj]; rfl
  · intro j hj; rw [completed_append, h0, h.fresh j hj]
  · intro j; rw [completed_append, h0]; exact h.once j

theorem Comp.put {jobs : List Job} {ctr : Nat} {evs e : List Ev} {a b : Job} (h : Comp jobs ctr evs)
    (hj : findJob jobs a.id = some a) (hop : JobOp a b e) : Comp (replaceJob jobs b) ctr (evs ++ e) := by
  have wa := h.wf _ _ hj
  have jc := hop.jc wa
  have hlt := h.below _ _ hj
  have hfind := fun {j x} => findJob_replaceJob_some (j := j) (x := x) hj hop.id_eq
  refine ⟨?_, ?_, ?_, ?_, ?_⟩
  · intro j x hx
    rcases hfind hx with ⟨rfl, _⟩ | ⟨_, hx⟩
    · exact hlt
    · exact h.below j x hx
  · intro j x hx
    rcases hfind hx with ⟨rfl, rfl⟩ | ⟨_, hx⟩
    · exact hop.wf wa
    · exact h.wf j x hx
  · intro j x hx
    rw [completed_append]
    rcases hfind hx with ⟨rfl, rfl⟩ | ⟨hne, hx⟩
    · rw [h.cnt _ _ hj]; exact jc.cnt
    · rw [h.cnt j x hx, jc.other j hne]; rfl
  · intro j hj'
    rw [completed_append, h.fresh j hj', jc.other j (by omega)]
  · intro j
    rw [completed_append]
    by_cases hja : j = a.id
    · subst hja
      rw [h.cnt _ _ hj, jc.cnt]
      exact Bool.toNat_le _
    · rw [jc.other j hja]; exact h.once j

theorem Comp.puts {jobs jobs' : List Job} {ctr : Nat} {evs e : List Ev} (hp : Puts jobs jobs' e) :
    Comp jobs ctr evs → Comp jobs' ctr (evs ++ e) :=
  Puts.ind (fun h => h.put) hp

theorem Comp.add {jobs : List Job} {ctr : Nat} {evs : List Ev} {job : Job} (h : Comp jobs ctr evs)
    (hid : job.id = ctr) (hw : JobWF job) (ht : job.isTerminated = false) :
    Comp (jobs ++ [job]) (ctr + 1) evs := by
  subst hid
  refine ⟨?_, ?_, ?_, ?_, h.once⟩
  · intro j x hx
    rcases findJob_append_some hx with hx | ⟨rfl, _⟩
    · exact Nat.lt_succ_of_lt (h.below j x hx)
    · exact Nat.lt_succ_self _
  · intro j x hx
    rcases findJob_append_some hx with hx | ⟨rfl, rfl⟩
    · exact h.wf j x hx
    · exact hw
  · intro j x hx
    rcases findJob_append_some hx with hx | ⟨rfl, rfl⟩
    · exact h.cnt j x hx
    · rw [h.fresh _ (Nat.le_refl _), ht]; rfl
  · intro j hj; exact h.fresh j (Nat.le_of_succ_le hj)

theorem Comp.forget {jobs : List Job} {ctr : Nat} {evs : List Ev} (h : Comp jobs ctr evs) (j : Nat) :
    Comp (jobs.filter (·.id != j)) ctr evs :=
  ⟨fun k x hx => h.below k x (findJob_filter_some hx), fun k x hx => h.wf k x (findJob_filter_some hx),
    fun k x hx => h.cnt k x (findJob_filter_some hx), h.fresh, h.once⟩

theorem Comp.step {s s' : State} {op : Op} {acc e : List Ev} (hop : op.submitsTask = true)
    (h : Comp s.jobs s.jobCtr acc) (hs : step s op = .ok (s', e)) : Comp s'.jobs s'.jobCtr (acc ++ e) := by
  cases step_shape hs with
  | same hj hc hq => rw [hj, hc]; exact h.quiet (Ev.quiet_of_worker hq)
  | add o mf ids job ha hj hc he ho =>
    rw [hj, hc, he]
    have wj : JobWF job := JobWF.attach _ (emptyJob_wf _ _ _) ha
    refine (h.add (attach_id _ ha) wj ?_).quiet Shape.add_quiet
    rcases ho with rfl | ⟨mf', d, rfl, rfl⟩
    · exact isTerminated_of_open (attach_isOpen _ ha)
    · obtain ⟨k, hk⟩ := attach_nonempty (fillIdsNew_nonempty hop) ha
      exact isTerminated_false wj hk rfl
  | puts e1 tail hp hc he hq =>
    rw [hc, he, ← List.append_assoc]
    exact (h.puts hp).quiet (Ev.quiet_of_worker hq)
  | forget j job hj ht hjobs hc he =>
    rw [hjobs, hc, he, List.append_nil]
    exact h.forget j

theorem run_comp {ops : List Op} {s : State} {evs : List Ev} (hne : NoEmptySubmit ops = true)
    (h : run {} ops = .ok (s, evs)) : Comp s.jobs s.jobCtr evs :=
  run_invariant Comp (fun op => op.submitsTask = true) (fun _ _ _ _ _ hp _ hs hi => hi.step hp hs) ops {} s [] evs
    (List.all_eq_true.mp hne) init_wf h Comp.init

theorem NoEmptySubmit_append {a b : List Op} (h : NoEmptySubmit (a ++ b) = true) : NoEmptySubmit a = true := by
  simp only [NoEmptySubmit, List.all_append, Bool.and_eq_true] at h ⊢
  exact h.1

theorem run_completed {ops : List Op} {s : State} {evs : List Ev} (hne : NoEmptySubmit ops = true)
    (h : run {} ops = .ok (s, evs)) :
    (∀ j, evs.count (Ev.jobCompleted j) ≤ 1) ∧
    ∀ job ∈ s.jobs,
      evs.count (Ev.jobCompleted job.id) = (if !job.isOpen && job.hasNoActiveTasks then 1 else 0) := by
  have c := run_comp hne h
  have wf := run_wf ops init_wf h
  refine ⟨c.once, ?_⟩
  intro job hj
  have := c.cnt _ _ (findJob_of_mem wf.ids hj)
  simp only [completed] at this
  rw [this, Job.isTerminated]
  cases (!job.isOpen && job.hasNoActiveTasks) <;> rfl

end HqModel.Job

namespace HqModel.C13
open HqModel.Job

/-- the documented rule table for the job state, on the number of tasks per state -/
def statusRule (ts : List (Nat × TState)) (isOpen : Bool) : Status :=
  if countS ts .running > 0 then .running
  else if countS ts .waiting > 0 then .waiting
  else if countS ts .failed > 0 then .failed
  else if countS ts .aborted > 0 then .aborted
  else if countS ts .canceled > 0 then .canceled
  else if isOpen then .opened else .finished

end HqModel.C13

namespace HqModel.Job

/-- on a well-formed job `job_status` follows the rule table and never hits its final `assert_eq!` -/
theorem status_eq {job : Job} (w : JobWF job) : job.status = .ok (C13.statusRule job.tasks job.isOpen) := by
  have hs := countS_sum job.tasks
  unfold Job.status C13.statusRule
  rw [w.running, w.failed, w.canceled, w.aborted, nWaiting_eq w, w.finished]
  by_cases a : countS job.tasks .running > 0
  · rw [if_pos a, if_pos a]
  rw [if_neg a, if_neg a]
  by_cases b : countS job.tasks .waiting > 0
  · rw [if_pos b, if_pos b]
  rw [if_neg b, if_neg b]
  by_cases c : countS job.tasks .failed > 0
  · rw [if_pos c, if_pos c]
  rw [if_neg c, if_neg c]
  by_cases d : countS job.tasks .aborted > 0
  · rw [if_pos d, if_pos d]
  rw [if_neg d, if_neg d]
  by_cases e : countS job.tasks .canceled > 0
  · rw [if_pos e, if_pos e]
  rw [if_neg e, if_neg e]
  -- no task is running, waiting, failed, aborted or canceled: all are finished
  have : countS job.tasks .finished = job.nTasks := by
    rw [Job.nTasks, ← hs, Nat.eq_zero_of_not_pos a, Nat.eq_zero_of_not_pos b, Nat.eq_zero_of_not_pos c,
      Nat.eq_zero_of_not_pos d, Nat.eq_zero_of_not_pos e]
    simp
  rw [this, if_neg (by simp)]

end HqModel.Job
