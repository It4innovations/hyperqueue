import HqModel.Lemmas.AutoAllocOps
/-!
The ledger of the allocation lifecycle announcements (C18 `c18_announce`), on one queue.
`fin` (1 iff the allocation is in a finished state) and `past` (1 iff it has left Queued) are potential functions:
a move `q → q'` of a queue that emits `outs` satisfies  `fin before + #Finished emitted = fin after`  and
`past before + #Started emitted ≤ past after`  for every allocation, emits no `Started` after a `Finished` of the same
allocation (`Ordered`), and announces nothing about other queues (`QLedger`). Since `fin ≤ past ≤ 1`, all three compose.
-/
namespace HqModel.AutoAlloc

def cntS (x a : Nat) (O : List Out) : Nat := O.count (.evStarted x a)
def cntF (x a : Nat) (O : List Out) : Nat := O.count (.evFinished x a)

def Queue.fin (q : Queue) (a : Nat) : Nat :=
  match q.findAlloc a with
  | some al => if al.st.isFinished then 1 else 0
  | none => 0

def Queue.past (q : Queue) (a : Nat) : Nat :=
  match q.findAlloc a with
  | some al => if al.st.isQueued then 0 else 1
  | none => 0

def State.fin (s : State) (x a : Nat) : Nat := match s.getQueue x with | some q => q.fin a | none => 0
def State.past (s : State) (x a : Nat) : Nat := match s.getQueue x with | some q => q.past a | none => 0

theorem cntF_append (x a : Nat) (O1 O2 : List Out) : cntF x a (O1 ++ O2) = cntF x a O1 + cntF x a O2 :=
  List.count_append
theorem cntS_append (x a : Nat) (O1 O2 : List Out) : cntS x a (O1 ++ O2) = cntS x a O1 + cntS x a O2 :=
  List.count_append

theorem cnt_zero_of_silent (x a : Nat) (O : List Out) (h : Silent O) : cntF x a O = 0 ∧ cntS x a O = 0 :=
  ⟨List.count_eq_zero.mpr fun hm => h _ hm trivial, List.count_eq_zero.mpr fun hm => h _ hm trivial⟩

theorem cnt_syncEvents (y a qid a0 : Nat) (o : SyncOut) :
    cntF y a (Queue.syncEvents qid a0 o) = (if qid = y ∧ a0 = a ∧ o.fin.isSome = true then 1 else 0) ∧
    cntS y a (Queue.syncEvents qid a0 o) = (if qid = y ∧ a0 = a ∧ o.started = true then 1 else 0) := by
  unfold cntF cntS Queue.syncEvents
  cases hs : o.started <;> cases hf : o.fin.isSome <;> simp [List.count_cons, List.count_nil]

theorem AState.fin_past_eq (st : AState) :
    (if st.isFinished = true then 1 else 0) = (if st.rank = 2 then 1 else 0) ∧
    (if st.isQueued = true then 0 else 1) = (if st.rank = 0 then 0 else 1) := by
  cases st <;> exact ⟨rfl, rfl⟩

theorem Queue.fin_le_past (q : Queue) (a : Nat) : q.fin a ≤ q.past a ∧ q.past a ≤ 1 := by
  unfold Queue.fin Queue.past
  cases q.findAlloc a with
  | none => simp
  | some al =>
    obtain ⟨i, t, st⟩ := al
    cases st <;> simp [AState.isFinished, AState.isQueued]

theorem State.fin_le_past (s : State) (x a : Nat) : s.fin x a ≤ s.past x a ∧ s.past x a ≤ 1 := by
  unfold State.fin State.past
  cases s.getQueue x with
  | none => simp
  | some q => exact Queue.fin_le_past q a

/-- no `AllocationStarted(x, a)` after an `AllocationFinished(x, a)` -/
def Ordered (x a : Nat) (O : List Out) : Prop :=
  ∀ O1 O2, O = O1 ++ Out.evFinished x a :: O2 → Out.evStarted x a ∉ O2

theorem Ordered.of_cntF {x a : Nat} {O : List Out} (h : cntF x a O = 0) : Ordered x a O := by
  intro O1 O2 e _
  refine List.count_eq_zero.mp h ?_
  rw [e]
  exact List.mem_append_right _ List.mem_cons_self

theorem Ordered.of_cntS {x a : Nat} {O : List Out} (h : cntS x a O = 0) : Ordered x a O := by
  intro O1 O2 e hS
  refine List.count_eq_zero.mp h ?_
  rw [e]
  exact List.mem_append_right _ (List.mem_cons_of_mem _ hS)

theorem Ordered.append {x a : Nat} {O O' : List Out} (hO : Ordered x a O) (hO' : Ordered x a O')
    (hx : Out.evStarted x a ∈ O' → Out.evFinished x a ∉ O) : Ordered x a (O ++ O') := by
  intro O1 O2 heq hS
  rcases List.append_eq_append_iff.mp heq with ⟨t, rfl, ht⟩ | ⟨t, rfl, ht⟩
  · exact hO' _ _ ht hS
  · cases t with
    | nil => exact hO' [] O2 ht.symm hS
    | cons y ys =>
      obtain ⟨rfl, rfl⟩ := List.cons.inj ht
      rcases List.mem_append.mp hS with hS | hS
      · exact hO O1 ys rfl hS
      · exact hx hS (List.mem_append_right _ List.mem_cons_self)

/-- one entry of the ledger over two consecutive pieces of output; `f2 ≤ p2 ≤ p3 ≤ 1` is `fin ≤ past ≤ 1` -/
theorem ledger_add {x a f1 f2 f3 p1 p2 p3 : Nat} {o1 o2 : List Out}
    (h1 : (f1 + cntF x a o1 = f2 ∧ p1 + cntS x a o1 ≤ p2) ∧ Ordered x a o1)
    (h2 : (f2 + cntF x a o2 = f3 ∧ p2 + cntS x a o2 ≤ p3) ∧ Ordered x a o2) (hfp : f2 ≤ p2) (hp : p3 ≤ 1) :
    (f1 + cntF x a (o1 ++ o2) = f3 ∧ p1 + cntS x a (o1 ++ o2) ≤ p3) ∧ Ordered x a (o1 ++ o2) := by
  refine ⟨?_, h1.2.append h2.2 fun hS hF => ?_⟩
  · rw [cntF_append, cntS_append, ← Nat.add_assoc, h1.1.1, h2.1.1, ← Nat.add_assoc]
    exact ⟨rfl, Nat.le_trans (Nat.add_le_add_right h1.1.2 _) h2.1.2⟩
  · -- a Started in the second piece: the allocation was Queued in between, so nothing had finished
    have c1 : 1 ≤ cntS x a o2 := List.count_pos_iff.mpr hS
    have c2 : 1 ≤ cntF x a o1 := List.count_pos_iff.mpr hF
    have := h1.1.1
    have := h2.1.2
    omega

theorem ledger_zero {x a f p : Nat} {o : List Out} (c1 : cntF x a o = 0) (c2 : cntS x a o = 0) :
    (f + cntF x a o = f ∧ p + cntS x a o ≤ p) ∧ Ordered x a o := by
  rw [c1, c2]
  exact ⟨⟨rfl, Nat.le_refl _⟩, Ordered.of_cntF c1⟩

/-- `q → (q', outs)` announces exactly what changed in queue `q`, in order, and says nothing about other queues -/
def QLedger (q q' : Queue) (outs : List Out) : Prop :=
  q'.id = q.id ∧ ∀ y a,
    (y = q.id →
      (q.fin a + cntF y a outs = q'.fin a ∧ q.past a + cntS y a outs ≤ q'.past a) ∧ Ordered y a outs) ∧
    (y ≠ q.id → cntF y a outs = 0 ∧ cntS y a outs = 0)

theorem QLedger.refl (q : Queue) : QLedger q q [] :=
  ⟨rfl, fun _ _ => ⟨fun _ => ledger_zero rfl rfl, fun _ => ⟨rfl, rfl⟩⟩⟩

theorem QLedger.trans {a b d : Queue} {o1 o2 : List Out} (h1 : QLedger a b o1) (h2 : QLedger b d o2) :
    QLedger a d (o1 ++ o2) := by
  obtain ⟨i1, l1⟩ := h1
  obtain ⟨i2, l2⟩ := h2
  refine ⟨i2.trans i1, fun y x => ⟨fun hy => ?_, fun hy => ?_⟩⟩
  · exact ledger_add ((l1 y x).1 hy) ((l2 y x).1 (hy.trans i1.symm)) (b.fin_le_past x).1 (d.fin_le_past x).2
  · have a1 := (l1 y x).2 hy
    have a2 := (l2 y x).2 (by rw [i1]; exact hy)
    rw [cntF_append, cntS_append, a1.1, a1.2, a2.1, a2.2]
    exact ⟨rfl, rfl⟩

theorem QLedger.of_silent (q q' : Queue) (outs : List Out) (hid : q'.id = q.id)
    (hf : ∀ a, q'.fin a = q.fin a ∧ q'.past a = q.past a) (ho : Silent outs) : QLedger q q' outs := by
  refine ⟨hid, fun y a => ?_⟩
  obtain ⟨c1, c2⟩ := cnt_zero_of_silent y a outs ho
  refine ⟨fun _ => ?_, fun _ => ⟨c1, c2⟩⟩
  rw [(hf a).1, (hf a).2]
  exact ledger_zero c1 c2

/-- one ledger entry in ranks: `r`, `r'` are the ranks of the allocation before and after an input, `F` / `S` say that a
Finished / a Started event is emitted -/
theorem ledger_ranks (r r' : Nat) (F S : Prop) [Decidable F] [Decidable S] (hr : r ≤ r') (h2 : r' ≤ 2)
    (hF : F ↔ r < 2 ∧ r' = 2) (hS : S → r = 0 ∧ r' = 1) :
    (if r = 2 then 1 else 0) + (if F then 1 else 0) = (if r' = 2 then 1 else 0) ∧
    (if r = 0 then 0 else 1) + (if S then 1 else 0) ≤ (if r' = 0 then 0 else 1) := by
  constructor
  · by_cases hf : F
    · obtain ⟨h1, h3⟩ := hF.mp hf
      rw [if_neg (Nat.ne_of_lt h1), if_pos hf, if_pos h3]
    · have : r = 2 ↔ r' = 2 :=
        ⟨fun h => Nat.le_antisymm h2 (h ▸ hr),
         fun h => Nat.le_antisymm (h ▸ hr) (Nat.le_of_not_lt fun hlt => hf (hF.mpr ⟨hlt, h⟩))⟩
      rw [if_neg hf]
      simp only [this, Nat.add_zero]
  · by_cases hs : S
    · obtain ⟨h1, h3⟩ := hS hs
      rw [if_pos h1, if_pos hs, if_neg (by rw [h3]; exact Nat.one_ne_zero)]
      exact Nat.le_refl _
    · rw [if_neg hs, Nat.add_zero]
      split
      · exact Nat.zero_le _
      · rename_i h
        have h' : ¬ r' = 0 := fun h0 => h (Nat.le_zero.mp (h0 ▸ hr))
        rw [if_neg h']
        exact Nat.le_refl _

theorem QLedger.feed (c : Consts) (q : Queue) (a0 : Nat) (i : AIn) (lim : Limiter) (x0 : Alloc) (outs : List Out)
    (F S : Prop) [Decidable F] [Decidable S] (hx0 : q.findAlloc a0 = some x0)
    (hcF : ∀ y a, cntF y a outs = if q.id = y ∧ a0 = a ∧ F then 1 else 0)
    (hcS : ∀ y a, cntS y a outs = if q.id = y ∧ a0 = a ∧ S then 1 else 0)
    (hF : F ↔ x0.st.rank < 2 ∧ (allocStep c x0.target x0.st i).rank = 2)
    (hS : S → x0.st.rank = 0 ∧ (allocStep c x0.target x0.st i).rank = 1) :
    QLedger q (q.feed c a0 i lim) outs := by
  refine ⟨rfl, fun y a => ⟨?_, fun hy => ?_⟩⟩
  · rintro rfl
    constructor
    · unfold Queue.fin Queue.past
      rw [hcF, hcS, Queue.findAlloc_feed]
      by_cases ha : a0 = a
      · subst ha
        rw [hx0]
        simp only [Option.map_some, feedMap, findAlloc_id q a0 x0 hx0, if_true, true_and,
          (AState.fin_past_eq _).1, (AState.fin_past_eq _).2]
        exact ledger_ranks _ _ F S (allocStep_rank c x0.target x0.st i) (AState.rank_le _) hF hS
      · rw [if_neg (fun h => ha h.2.1), if_neg (fun h => ha h.2.1)]
        cases hf : q.findAlloc a with
        | none => exact ⟨rfl, Nat.le_refl _⟩
        | some al =>
          have : feedMap c a0 i al = al := if_neg fun h => ha (h.symm.trans (findAlloc_id q a al hf))
          rw [Option.map_some, this]
          exact ⟨rfl, Nat.le_refl _⟩
    · -- an input that starts the allocation leaves it Running: it does not finish it
      by_cases hs : S
      · refine Ordered.of_cntF ?_
        rw [hcF, if_neg fun h => ?_]
        rw [(hS hs).2] at hF
        exact absurd (hF.mp h.2.2).2 (by decide)
      · exact Ordered.of_cntS (by rw [hcS, if_neg fun h => hs h.2.2])
  · rw [hcF, hcS, if_neg (fun h => hy h.1.symm), if_neg (fun h => hy h.1.symm)]
    exact ⟨rfl, rfl⟩

theorem Queue.sync_QLedger (c : Consts) (q : Queue) (a0 : Nat) (r : SyncReason) :
    QLedger q (q.sync a0 r).1 (q.sync a0 r).2 := by
  rcases Queue.sync_cases c q a0 r with ⟨_, h⟩ | ⟨x0, hx0, h⟩ <;> rw [h]
  · exact QLedger.refl q
  · have sp := syncState_spec x0.target x0.st r
    exact QLedger.feed c q a0 (.sync r) _ x0 _ _ _ hx0 (fun y a => (cnt_syncEvents y a q.id a0 _).1)
      (fun y a => (cnt_syncEvents y a q.id a0 _).2) sp.2.1 (fun hs => ⟨(sp.2.2 hs).1, (sp.2.2 hs).2.1⟩)

theorem Queue.bumpErr_QLedger (c : Consts) (q : Queue) (a0 : Nat) :
    QLedger q (q.bumpErr c a0).1 (q.bumpErr c a0).2 := by
  rcases Queue.bumpErr_cases c q a0 with ⟨_, h⟩ | ⟨x0, hx0, h⟩ <;> rw [h]
  · exact QLedger.refl q
  · refine QLedger.feed c q a0 .err _ x0 _ ((errState c x0.st).2 = true) False hx0 (fun y a => ?_) (fun y a => ?_)
      (errState_spec c x0.st).2 False.elim
    · unfold cntF
      cases (errState c x0.st).2 <;> simp [List.count_cons]
    · unfold cntS
      cases (errState c x0.st).2 <;> simp

theorem fin_past_of_append_queued (q q' : Queue) (extra : List Alloc) (h : q'.allocs = q.allocs ++ extra)
    (hq : ∀ x ∈ extra, x.st = .queued 0) (a : Nat) : q'.fin a = q.fin a ∧ q'.past a = q.past a := by
  unfold Queue.fin Queue.past Queue.findAlloc
  rw [h, List.find?_append]
  cases hf : q.allocs.find? (·.id == a) with
  | some al => simp
  | none =>
    simp only [Option.none_or]
    cases he : extra.find? (·.id == a) with
    | none => simp
    | some al =>
      have := hq al (List.mem_of_find?_eq_some he)
      simp [this, AState.isFinished, AState.isQueued]

theorem Queue.trySubmit_QLedger (q : Queue) (r : QResp) (now : Nat) (res : List SubRes) :
    QLedger q (q.trySubmit r now res).q (q.trySubmit r now res).outs := by
  obtain ⟨extra, g, _⟩ := Queue.trySubmit_q q r now res
  exact QLedger.of_silent _ _ _ g.id (fin_past_of_append_queued q _ extra g.allocs g.queued)
    (Queue.trySubmit_silent q r now res)

theorem QLedger.of_allocs (q q' : Queue) (hid : q'.id = q.id) (ha : q'.allocs = q.allocs) : QLedger q q' [] :=
  QLedger.of_silent q q' [] hid (fun a => by unfold Queue.fin Queue.past Queue.findAlloc; rw [ha]; exact ⟨rfl, rfl⟩)
    silent_nil

end HqModel.AutoAlloc
