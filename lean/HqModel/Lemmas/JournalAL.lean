import HqModel.Journal.Model
/-! Association-list lemmas (`alGet`/`alSet`/`alDel`/`alMap`), `alPut` (write back an optional entry), `alFilter`
(restrict to some keys) and the elementwise relation `AlRel`. -/
namespace HqModel.Journal

theorem alGet_set (l : List (Nat × β)) (k i : Nat) (v : β) :
    alGet (alSet l k v) i = if k = i then some v else alGet l i := by
  induction l with
  | nil => rfl
  | cons a r ih =>
    obtain ⟨k', w⟩ := a
    by_cases h1 : k' = k
    · subst h1; simp only [alSet, alGet, if_true]; split <;> rfl
    · simp only [alSet, alGet, h1, if_false, ih]
      by_cases h2 : k' = i
      · subst h2; simp only [if_true, if_neg (Ne.symm h1)]
      · simp only [h2, if_false]

theorem alGet_set_self (l : List (Nat × β)) (k : Nat) (v : β) : alGet (alSet l k v) k = some v := by
  rw [alGet_set, if_pos rfl]

theorem alGet_set_ne (l : List (Nat × β)) {k i : Nat} (v : β) (h : k ≠ i) : alGet (alSet l k v) i = alGet l i := by
  rw [alGet_set, if_neg h]

theorem alGet_del (l : List (Nat × β)) (k i : Nat) : alGet (alDel l k) i = if k = i then none else alGet l i := by
  induction l with
  | nil => simp [alDel, alGet]
  | cons a r ih =>
    obtain ⟨k', w⟩ := a
    by_cases h1 : k' = k
    · subst h1
      by_cases h2 : k' = i
      · subst h2; simpa [alDel, alGet] using ih
      · simp [alDel, alGet, h2, ih]
    · by_cases h2 : k' = i
      · subst h2
        have : ¬ k = k' := fun h => h1 h.symm
        simp [alDel, alGet, h1, this]
      · simp [alDel, alGet, h1, h2, ih]

theorem alGet_map (f : β → γ) (l : List (Nat × β)) (i : Nat) : alGet (alMap f l) i = (alGet l i).map f := by
  induction l with
  | nil => simp [alMap, alGet]
  | cons a r ih =>
    obtain ⟨k', w⟩ := a
    by_cases h : k' = i
    · simp [alMap, alGet, h]
    · simp only [alMap] at ih
      simp [alMap, alGet, h, ih]

theorem alMap_alSet (f : β → γ) (l : List (Nat × β)) (k : Nat) (v : β) :
    alMap f (alSet l k v) = alSet (alMap f l) k (f v) := by
  induction l with
  | nil => rfl
  | cons a r ih =>
    obtain ⟨k', w⟩ := a
    simp only [alMap] at ih
    by_cases h : k' = k <;> simp [alMap, alSet, h, ih]

theorem alGet_isSome_iff (l : List (Nat × β)) (i : Nat) : (alGet l i).isSome ↔ i ∈ l.map (·.1) := by
  induction l with
  | nil => simp [alGet]
  | cons a r ih =>
    obtain ⟨k', w⟩ := a
    by_cases h : k' = i
    · simp [alGet, h]
    · have : ¬ i = k' := fun h' => h h'.symm
      simp [alGet, h, ih, this]

theorem mem_alSet {l : List (Nat × β)} {k : Nat} {v : β} {kv : Nat × β} (h : kv ∈ alSet l k v) :
    kv ∈ l ∨ kv = (k, v) := by
  induction l with
  | nil => simp only [alSet, List.mem_singleton] at h; exact Or.inr h
  | cons a r ih =>
    obtain ⟨k', w⟩ := a
    by_cases hk : k' = k
    · simp only [alSet, hk, if_true, List.mem_cons] at h
      rcases h with h | h
      · exact Or.inr h
      · exact Or.inl (List.mem_cons_of_mem _ h)
    · simp only [alSet, hk, if_false, List.mem_cons] at h
      rcases h with h | h
      · exact Or.inl (h ▸ List.mem_cons_self)
      · rcases ih h with h' | h'
        · exact Or.inl (List.mem_cons_of_mem _ h')
        · exact Or.inr h'

theorem mem_alMap {f : β → γ} {l : List (Nat × β)} {kv : Nat × γ} (h : kv ∈ alMap f l) :
    ∃ kv0, kv0 ∈ l ∧ kv = (kv0.1, f kv0.2) := by
  simp only [alMap, List.mem_map] at h
  obtain ⟨a, ha, e⟩ := h
  exact ⟨a, ha, e.symm⟩

theorem mem_alDel {l : List (Nat × β)} {k : Nat} {kv : Nat × β} (h : kv ∈ alDel l k) : kv ∈ l := by
  induction l with
  | nil => cases h
  | cons a r ih =>
    obtain ⟨k', w⟩ := a
    by_cases hk : k' = k
    · simp only [alDel, hk, if_true] at h
      exact List.mem_cons_of_mem _ (ih h)
    · simp only [alDel, hk, if_false, List.mem_cons] at h
      rcases h with h | h
      · exact h ▸ List.mem_cons_self
      · exact List.mem_cons_of_mem _ (ih h)

theorem alGet_mem {l : List (Nat × β)} {k : Nat} {v : β} (h : alGet l k = some v) : (k, v) ∈ l := by
  induction l with
  | nil => simp [alGet] at h
  | cons a r ih =>
    obtain ⟨k', w⟩ := a
    by_cases hk : k' = k
    · simp only [alGet, hk, if_true, Option.some.injEq] at h
      subst h; subst hk; exact List.mem_cons_self
    · simp only [alGet, hk, if_false] at h
      exact List.mem_cons_of_mem _ (ih h)

theorem alSet_same {l : List (Nat × β)} {k : Nat} {v : β} (h : alGet l k = some v) : alSet l k v = l := by
  induction l with
  | nil => simp [alGet] at h
  | cons a r ih =>
    obtain ⟨k', w⟩ := a
    by_cases hk : k' = k
    · simp only [alGet, hk, if_true, Option.some.injEq] at h
      simp [alSet, hk, h]
    · simp only [alGet, hk, if_false] at h
      simp [alSet, hk, ih h]

theorem alDel_none {l : List (Nat × β)} {k : Nat} (h : alGet l k = none) : alDel l k = l := by
  induction l with
  | nil => rfl
  | cons a r ih =>
    obtain ⟨k', w⟩ := a
    by_cases hk : k' = k
    · simp [alGet, hk] at h
    · simp only [alGet, hk, if_false] at h
      simp [alDel, hk, ih h]

theorem alSet_alSet (l : List (Nat × β)) (k : Nat) (v w : β) : alSet (alSet l k v) k w = alSet l k w := by
  induction l with
  | nil => simp [alSet]
  | cons a r ih =>
    obtain ⟨k', u⟩ := a
    by_cases hk : k' = k
    · simp [alSet, hk]
    · simp [alSet, hk, ih]

theorem keys_alSet (l : List (Nat × β)) (k : Nat) (v : β) :
    (alSet l k v).map (·.1) = if k ∈ l.map (·.1) then l.map (·.1) else l.map (·.1) ++ [k] := by
  induction l with
  | nil => simp [alSet]
  | cons a r ih =>
    obtain ⟨k', w⟩ := a
    by_cases hk : k' = k
    · simp [alSet, hk]
    · have hk' : ¬ k = k' := fun e => hk e.symm
      simp only [alSet, hk, if_false, List.map_cons, ih, List.mem_cons, hk', false_or]
      split <;> simp

theorem nodup_alSet {l : List (Nat × β)} (h : (l.map (·.1)).Nodup) {k : Nat} {v : β} :
    ((alSet l k v).map (·.1)).Nodup := by
  rw [keys_alSet]
  split
  · exact h
  · rename_i hk
    rw [List.nodup_append]
    exact ⟨h, by simp, fun a ha b hb => by simp at hb; subst hb; exact fun e => hk (e ▸ ha)⟩

theorem nodup_alDel {l : List (Nat × β)} (h : (l.map (·.1)).Nodup) {k : Nat} :
    ((alDel l k).map (·.1)).Nodup := by
  induction l with
  | nil => simp [alDel]
  | cons a r ih =>
    obtain ⟨k', w⟩ := a
    simp only [List.map_cons, List.nodup_cons] at h
    by_cases hk : k' = k
    · simp only [alDel, hk, if_true]; exact ih h.2
    · simp only [alDel, hk, if_false, List.map_cons, List.nodup_cons]
      refine ⟨?_, ih h.2⟩
      intro hm
      obtain ⟨x, hx, hx1⟩ := List.mem_map.mp hm
      exact h.1 (List.mem_map.mpr ⟨x, mem_alDel hx, hx1⟩)

theorem alGet_of_mem {l : List (Nat × β)} (h : (l.map (·.1)).Nodup) {k : Nat} {v : β} (hm : (k, v) ∈ l) :
    alGet l k = some v := by
  induction l with
  | nil => cases hm
  | cons a r ih =>
    obtain ⟨k', w⟩ := a
    simp only [List.map_cons, List.nodup_cons] at h
    simp only [List.mem_cons] at hm
    rcases hm with hm | hm
    · cases hm; simp [alGet]
    · have : k' ≠ k := fun e => h.1 (List.mem_map.mpr ⟨(k, v), hm, e.symm⟩)
      simp only [alGet, this, if_false]
      exact ih h.2 hm

/-- write back the entry of a key (`none` = remove it) -/
def alPut (l : List (Nat × β)) (k : Nat) : Option β → List (Nat × β)
  | some v => alSet l k v
  | none => alDel l k

theorem alGet_put (l : List (Nat × β)) (k i : Nat) (o : Option β) :
    alGet (alPut l k o) i = if k = i then o else alGet l i := by
  cases o with
  | some v => exact alGet_set l k i v
  | none => exact alGet_del l k i

theorem alPut_get {l : List (Nat × β)} {k : Nat} {o : Option β} (h : alGet l k = o) : alPut l k o = l := by
  cases o with
  | some v => exact alSet_same h
  | none => exact alDel_none h

theorem alGet_mapKey (g : Nat → β) (ids : List Nat) (k : Nat) :
    alGet (ids.map fun i => (i, g i)) k = if k ∈ ids then some (g k) else none := by
  induction ids with
  | nil => simp [alGet]
  | cons i is ih =>
    by_cases h : i = k
    · subst h; simp [alGet]
    · have : ¬ k = i := fun e => h e.symm
      simp [alGet, h, ih, this]

theorem alGet_append (l m : List (Nat × β)) (k : Nat) :
    alGet (l ++ m) k = match alGet l k with | some v => some v | none => alGet m k := by
  induction l with
  | nil => simp [alGet]
  | cons a r ih =>
    obtain ⟨k', w⟩ := a
    by_cases h : k' = k <;> simp [alGet, h, ih]

theorem alSet_absent (l : List (Nat × β)) (k : Nat) (v : β) (h : alGet l k = none) : alSet l k v = l ++ [(k, v)] := by
  induction l with
  | nil => rfl
  | cons a r ih =>
    obtain ⟨k', w⟩ := a
    by_cases hk : k' = k
    · simp [alGet, hk] at h
    · simp only [alGet, hk, if_false] at h
      simp [alSet, hk, ih h]

theorem alGet_filterMap_key (g : Nat → Option γ) (L : List (Nat × β)) (t : Nat) :
    alGet (L.filterMap fun kv => (g kv.1).map fun v => (kv.1, v)) t = if t ∈ L.map (·.1) then g t else none := by
  induction L with
  | nil => rfl
  | cons kv L ih =>
    obtain ⟨k, b⟩ := kv
    rw [List.map_cons]
    have tail : t ≠ k → (if t ∈ L.map (·.1) then g t else none) = if t ∈ k :: L.map (·.1) then g t else none := by
      intro hk
      by_cases hm : t ∈ L.map (·.1)
      · rw [if_pos hm, if_pos (List.mem_cons_of_mem k hm)]
      · rw [if_neg hm, if_neg fun h => (List.mem_cons.1 h).elim hk hm]
    cases hg : g k with
    | none =>
      rw [List.filterMap_cons_none (by rw [hg]; rfl), ih]
      by_cases hk : t = k
      · subst hk; rw [hg]; split <;> split <;> rfl
      · exact tail hk
    | some v =>
      rw [List.filterMap_cons_some (by rw [hg]; rfl)]
      by_cases hk : k = t
      · subst hk; rw [if_pos List.mem_cons_self, hg]; simp only [alGet, if_true]
      · simp only [alGet, hk, if_false]; rw [ih]; exact tail fun e => hk e.symm

def alFilter (p : Nat → Bool) (l : List (Nat × β)) : List (Nat × β) := l.filter fun kv => p kv.1

theorem alGet_filter (p : Nat → Bool) (l : List (Nat × β)) (k : Nat) :
    alGet (alFilter p l) k = if p k then alGet l k else none := by
  induction l with
  | nil => simp [alFilter, alGet]
  | cons a r ih =>
    obtain ⟨k', w⟩ := a
    simp only [alFilter] at ih
    by_cases hp : p k' = true
    · by_cases hk : k' = k
      · subst hk; simp [alFilter, hp, alGet]
      · simp [alFilter, hp, alGet, hk, ih]
    · by_cases hk : k' = k
      · subst hk; simp [alFilter, hp, ih]
      · simp [alFilter, hp, alGet, hk, ih]

theorem alFilter_set (p : Nat → Bool) (l : List (Nat × β)) (k : Nat) (v : β) :
    alFilter p (alSet l k v) = if p k then alSet (alFilter p l) k v else alFilter p l := by
  induction l with
  | nil => by_cases hp : p k = true <;> simp [alFilter, alSet, hp]
  | cons a r ih =>
    obtain ⟨k', w⟩ := a
    simp only [alFilter] at ih
    by_cases hk : k' = k
    · subst hk
      by_cases hp : p k' = true <;> simp [alFilter, alSet, hp]
    · by_cases hp' : p k' = true
      · by_cases hp : p k = true <;> simp [alFilter, alSet, hp, hp', hk, ih]
      · by_cases hp : p k = true <;> simp [alFilter, alSet, hp, hp', hk, ih]

theorem alFilter_del (p : Nat → Bool) (l : List (Nat × β)) (k : Nat) :
    alFilter p (alDel l k) = if p k then alDel (alFilter p l) k else alFilter p l := by
  induction l with
  | nil => by_cases hp : p k = true <;> simp [alFilter, alDel, hp]
  | cons a r ih =>
    obtain ⟨k', w⟩ := a
    simp only [alFilter] at ih
    by_cases hk : k' = k
    · subst hk
      by_cases hp : p k' = true <;> simp [alFilter, alDel, hp, ih]
    · by_cases hp' : p k' = true
      · by_cases hp : p k = true <;> simp [alFilter, alDel, hp, hp', hk, ih]
      · by_cases hp : p k = true <;> simp [alFilter, alDel, hp, hp', hk, ih]

theorem alFilter_put (p : Nat → Bool) (l : List (Nat × β)) (k : Nat) (o : Option β) :
    alFilter p (alPut l k o) = if p k then alPut (alFilter p l) k o else alFilter p l := by
  cases o with
  | some v => exact alFilter_set p l k v
  | none => exact alFilter_del p l k

theorem alFilter_map (p : Nat → Bool) (f : β → γ) (l : List (Nat × β)) :
    alFilter p (alMap f l) = alMap f (alFilter p l) := by
  simp only [alFilter, alMap, List.filter_map]
  rfl

theorem alMap_eq_self (f : β → β) (l : List (Nat × β)) (h : ∀ kv, kv ∈ l → f kv.2 = kv.2) : alMap f l = l := by
  unfold alMap
  conv => rhs; rw [← List.map_id l]
  exact List.map_congr_left fun kv hkv => by simp [h kv hkv]

theorem alFilter_map_congr (p : Nat → Bool) (f : β → β) (l : List (Nat × β))
    (h : ∀ kv, kv ∈ l → p kv.1 = true → f kv.2 = kv.2) : alFilter p (alMap f l) = alFilter p l := by
  rw [alFilter_map]
  exact alMap_eq_self f _ fun kv hkv => h kv (List.mem_filter.1 hkv).1 (List.mem_filter.1 hkv).2

theorem alFilter_true (l : List (Nat × β)) : alFilter (fun _ => true) l = l := by
  simp [alFilter]

theorem alFilter_eq_self (p : Nat → Bool) (l : List (Nat × β)) (h : ∀ k, (alGet l k).isSome = true → p k = true) :
    alFilter p l = l := by
  unfold alFilter
  rw [List.filter_eq_self]
  intro kv hkv
  apply h
  rw [alGet_isSome_iff]
  exact List.mem_map.2 ⟨kv, hkv, rfl⟩

theorem covers_of_keys (jobs : List (Nat × β)) (lj : List Nat)
    (h : (jobs.map (·.1)).all (fun j => lj.contains j) = true) :
    ∀ j, (alGet jobs j).isSome = true → lj.contains j = true := by
  intro j hj
  rw [alGet_isSome_iff] at hj
  exact List.all_eq_true.1 h j hj

/-- two association lists with the same keys in the same order and `P`-related values -/
inductive AlRel (P : β → γ → Prop) : List (Nat × β) → List (Nat × γ) → Prop
  | nil : AlRel P [] []
  | cons {k : Nat} {b : β} {c : γ} {l : List (Nat × β)} {m : List (Nat × γ)} :
      P b c → AlRel P l m → AlRel P ((k, b) :: l) ((k, c) :: m)

theorem AlRel.get {P : β → γ → Prop} {l : List (Nat × β)} {m : List (Nat × γ)} (h : AlRel P l m) (i : Nat) :
    (alGet l i = none ∧ alGet m i = none) ∨ ∃ b c, alGet l i = some b ∧ alGet m i = some c ∧ P b c := by
  induction h with
  | nil => simp [alGet]
  | @cons k b c l m hp _ ih =>
    by_cases hk : k = i
    · exact Or.inr ⟨b, c, by simp [alGet, hk], by simp [alGet, hk], hp⟩
    · simpa [alGet, hk] using ih

theorem AlRel.set {P : β → γ → Prop} {l : List (Nat × β)} {m : List (Nat × γ)} (h : AlRel P l m) (i : Nat)
    {b : β} {c : γ} (hp : P b c) : AlRel P (alSet l i b) (alSet m i c) := by
  induction h with
  | nil => exact .cons hp .nil
  | @cons k b' c' l m hp' hr ih =>
    by_cases hk : k = i
    · simpa [alSet, hk] using AlRel.cons hp hr
    · simpa [alSet, hk] using AlRel.cons hp' ih

theorem AlRel.del {P : β → γ → Prop} {l : List (Nat × β)} {m : List (Nat × γ)} (h : AlRel P l m) (i : Nat) :
    AlRel P (alDel l i) (alDel m i) := by
  induction h with
  | nil => exact .nil
  | @cons k b' c' l m hp' hr ih =>
    by_cases hk : k = i
    · simpa [alDel, hk] using ih
    · simpa [alDel, hk] using AlRel.cons hp' ih

theorem AlRel.map {P : β → γ → Prop} {Q : β' → γ' → Prop} {l : List (Nat × β)} {m : List (Nat × γ)}
    (h : AlRel P l m) (f : β → β') (g : γ → γ') (hfg : ∀ b c, P b c → Q (f b) (g c)) :
    AlRel Q (alMap f l) (alMap g m) := by
  induction h with
  | nil => exact .nil
  | @cons k b' c' l m hp' hr ih => exact .cons (hfg _ _ hp') ih

theorem AlRel.mapRight {P : β → γ → Prop} {Q : β → γ' → Prop} {l : List (Nat × β)} {m : List (Nat × γ)}
    (h : AlRel P l m) (g : γ → γ') (hg : ∀ b c, P b c → Q b (g c)) : AlRel Q l (alMap g m) := by
  induction h with
  | nil => exact .nil
  | cons hp _ ih => exact .cons (hg _ _ hp) ih

theorem AlRel.imp {P Q : β → γ → Prop} {l : List (Nat × β)} {m : List (Nat × γ)} (h : AlRel P l m)
    (hpq : ∀ b c, P b c → Q b c) : AlRel Q l m := by
  induction h with
  | nil => exact .nil
  | cons hp _ ih => exact .cons (hpq _ _ hp) ih

theorem AlRel.keys {P : β → γ → Prop} {l : List (Nat × β)} {m : List (Nat × γ)} (h : AlRel P l m) :
    l.map (·.1) = m.map (·.1) := by
  induction h with
  | nil => rfl
  | cons _ _ ih => simp [ih]

end HqModel.Journal
