import HqModel.Lemmas.SysWViews
/-!
ONE update of a worker message (`State.upd1`) for every (worker, task) pair (`upd1_pairs`): `Fgn` for every other worker
and every task the update is not about, `Ownd e` for the reporter and the reported task (`e` = the event the update is).
The frame `FrW (ownM id)` leaves the REPORTED task open; what the reactor does to it is `taskFinished_gone`,
`taskFailed_gone`, `taskRunning_own`, `taskReject_own`. Hypothesis `hq` — the reporter's view of the reported task is not
`quiet` — is what the composed invariant says of the head of the worker's stream.
-/
namespace HqModel.Core
open HqModel HqModel.SysW

theorem taskFinished_gone {s s' : State} {w : Nat} {id : TaskId} {o : Out} {b : Bool} (hn : (taskIds s.tasks).Nodup)
    (h : s.taskFinished w id = .ok (s', o, b)) : stOf s'.tasks id = none := by
  rcases taskFinished_spec h with ⟨h1, h2, _⟩ | ⟨task, _, _, h3⟩
  · rw [h2]; exact stOf_none h1
  · exact Classical.byContradiction fun hne => ((h3 hn id).mp (mem_ids_iff_stOf.mpr hne)).2 rfl

theorem taskFailed_gone {s s' : State} {worker : Option Nat} {id : TaskId} {ret : List TaskId} {o : Out}
    (hn : (taskIds s.tasks).Nodup) (h : s.taskFailed worker id ret = .ok (s', o)) : stOf s'.tasks id = none := by
  rcases taskFailed_path h with ⟨hno, rfl, _⟩ | ⟨task, s1, cons, s2, s3, st, _, hp, _, h2, h3, hret⟩
  · exact stOf_none hno
  · have hn2 : (taskIds s2.tasks).Nodup := (removeWaitingAll_sub _ _ _ h2).nodup (hp.tasks ▸ hn)
    have g3 : s3.task? id = none := removeTask_unknown hn2 h3
    rcases hret with ⟨_, rfl, _⟩ | ⟨o2, _, hc, _⟩
    · exact stOf_none g3
    · -- the cancel afterwards only removes tasks
      exact Classical.byContradiction fun hne =>
        mem_ids_iff_stOf.mp ((cancelTasks_sub hc).subset (mem_ids_iff_stOf.mpr hne)) (stOf_none g3)

theorem taskRunning_own {s s' : State} {w : Nat} {id : TaskId} {rv : Nat} {o : Out} (hm : MnOk s)
    (h : s.taskRunning w id rv = .ok (s', o)) :
    (stOf s.tasks id = none ∧ s' = s) ∨
    (∃ st, stOf s.tasks id = some st ∧ owner st = some w ∧
      (stOf s'.tasks id = some (.running w rv) ∨
       ∃ l, stOf s'.tasks id = some (.runningMN (w :: l)) ∧ mnStarted s' w id = true)) := by
  rcases taskRunning_cases h with ⟨hno, rfl, _⟩ | ⟨task, ws, ht, harm, _⟩
  · exact .inl ⟨stOf_none hno, rfl⟩
  · right
    have hid : task.id = id := findTask_some_id ht
    have hst : stOf s.tasks id = some task.state := stOf_of_find ht
    have hput : stOf (putTask s.tasks { task with state := .running w rv }) id = some (.running w rv) := by
      rw [stOf_put (told := task) (by show findTask s.tasks task.id = _; rw [hid]; exact ht)]
      simp [hid]
    cases harm with
    | assigned hs => exact ⟨_, hst, by rw [hs]; rfl, .inl hput⟩
    | prefilled hs _ h1 h2 =>
      refine ⟨_, hst, by rw [hs]; rfl, .inl ?_⟩
      rw [(queueRemove_core h2).t, withWorker_tasks h1]
      exact hput
    | retracting hs h1 h2 _ h3 =>
      refine ⟨_, hst, by rw [hs]; rfl, .inl ?_⟩
      rw [withWorker_tasks h3, tryRemoveRedirection_tasks h2, (queueRemove_core h1).t]
      exact hput
    | @mn rest wk wk' hs hw hk =>
      refine ⟨_, hst, by rw [hs]; rfl, .inr ⟨rest, hst.trans (congrArg some hs), ?_⟩⟩
      -- the root's record is a multi-node assignment for this task; the flag is set in it
      obtain ⟨wk0, r0, st0, hw0, ha0⟩ := hm id _ (hst.trans (congrArg some hs)) w List.mem_cons_self
      cases hw.symm.trans hw0
      rcases hk with ⟨t, r, st, ha, rfl⟩ | ⟨⟨a, f, p, ha⟩, _⟩
      · cases ha.symm.trans ha0
        refine mnStarted_iff.mpr ⟨{ wk with assign := .mn id r0 true }, r0, ?_, rfl⟩
        rw [worker?_setWorker, if_pos (findWorker_some_id hw).symm, hw]
        rfl
      · cases ha.symm.trans ha0

theorem mnStarted_setWorker_same {s : State} {w : Nat} {wk0 wk : Worker} (hw : s.worker? w = some wk0)
    (hid : wk.id = wk0.id) (ha : wk.assign = wk0.assign) (x : Nat) (t : TaskId) :
    mnStarted (s.setWorker wk) x t = mnStarted s x t := by
  have hidw : wk0.id = w := findWorker_some_id hw
  have hf : ∀ y, (s.setWorker wk).worker? y = if y = wk.id then (s.worker? y).map (fun _ => wk) else s.worker? y :=
    fun y => findWorker_putWorker _ _ _
  apply Bool.eq_iff_iff.mpr
  rw [mnStarted_iff, mnStarted_iff]
  constructor
  · rintro ⟨wk1, r, h1, h2⟩
    rw [hf] at h1
    split at h1
    · rename_i e
      have hxw : x = w := by rw [e, hid, hidw]
      subst hxw
      rw [hw] at h1
      simp only [Option.map_some, Option.some.injEq] at h1
      subst h1
      exact ⟨wk0, r, hw, ha ▸ h2⟩
    · exact ⟨wk1, r, h1, h2⟩
  · rintro ⟨wk1, r, h1, h2⟩
    by_cases e : x = wk.id
    · have hxw : x = w := by rw [e, hid, hidw]
      subst hxw
      rw [hw] at h1
      cases h1
      exact ⟨wk, r, by rw [hf, if_pos e, hw]; rfl, ha.trans h2⟩
    · exact ⟨wk1, r, by rw [hf, if_neg e]; exact h1, h2⟩

theorem rejectTail_own {s1 s' : State} {task : Task} {o : Out} {b : Bool} (hn : (taskIds s1.tasks).Nodup)
    (ht : findTask s1.tasks task.id = some task) (h : rejectTail s1 task = .ok (s', o, b)) :
    NoCompute o.msgs ∧ ∀ st', stOf s'.tasks task.id = some st' → owner st' = none := by
  obtain ⟨s2, r, s3, out, hq, hr, e⟩ := rejectTail_ok_iff.mp h
  cases e
  refine ⟨(retract_out hr).1, fun st' hs' => ?_⟩
  obtain ⟨_, _, rfl⟩ := hq.eq
  -- `process_retracted` leaves a Waiting task alone
  obtain ⟨st0, h0, sok⟩ := tfrw_stOf (retract_frq hr).t (by rw [taskIds_putTask]; exact hn) hs'
  rw [stOf_put (told := task) (t' := { task with state := .waiting 0 }) ht, if_pos rfl] at h0
  cases h0
  cases ho : owner st' with
  | none => rfl
  | some y => cases sok.own (fun e => e) y ho

/-- `task_reject` for the reported task, when it is at the rejecting worker: it ends ownerless (requeued: Assigned /
Prefilled / Retracting without redirect / RunningMultiNode whose root — the reporter — has NOT started it), or —
Retracting with a redirect — Assigned to the redirect target with exactly one `ComputeTasks` item, or — RunningMultiNode
with the `started` flag — the message is ignored -/
theorem taskReject_own {s s' : State} {w : Nat} {id : TaskId} {rv : Option Nat} {o : Out} {b : Bool}
    (hn : (taskIds s.tasks).Nodup) (hm : MnOk s) (hown : ∀ st, stOf s.tasks id = some st → owner st = some w)
    (h : s.taskReject w id rv = .ok (s', o, b)) :
    (stOf s.tasks id = none ∧ stOf s'.tasks id = none ∧ o.msgs = [] ∧ ∀ x, s'.worker? x = s.worker? x) ∨
    (∃ st, stOf s.tasks id = some st ∧
      ((viewSt s w id st ≠ .hot ∧ NoCompute o.msgs ∧ ∀ st', stOf s'.tasks id = some st' → owner st' = none) ∨
       (∃ target trv inst, st = .retracting w ∧ stOf s'.tasks id = some (.assigned target trv) ∧
          o.msgs = [.compute target [(id, inst, some trv, [])]]) ∨
       (viewSt s w id st = .hot ∧ stOf s'.tasks id = some st ∧ viewSt s' w id st = .hot ∧ o.msgs = []))) := by
  rcases taskReject_cases h with ⟨hno, e⟩ | ⟨task, wk0, ht, hw0, harm⟩
  · cases e
    exact .inl ⟨stOf_none hno, stOf_none hno, rfl, fun _ => rfl⟩
  · right
    have hid : task.id = id := findTask_some_id ht
    have hst : stOf s.tasks id = some task.state := stOf_of_find ht
    have hown := hown _ hst
    refine ⟨_, hst, ?_⟩
    -- every requeueing arm ends in `rejectTail` from a state with the task map of `s`
    have requeue : ∀ {s1 : State}, rejectTail s1 task = .ok (s', o, b) → s1.tasks = s.tasks →
        NoCompute o.msgs ∧ ∀ st', stOf s'.tasks id = some st' → owner st' = none := fun h1 e1 =>
      hid ▸ rejectTail_own (e1 ▸ hn) (by rw [e1, hid]; exact ht) h1
    cases harm with
    | stale hs _ hr =>
      rw [hs] at hown ⊢
      cases hown
      exact .inl ⟨by simp [viewSt], requeue hr rfl⟩
    | sn hs _ _ h1 hr =>
      rw [hs]
      exact .inl ⟨by simp [viewSt], requeue hr (withWorker_tasks h1 :)⟩
    | pre hs h1 h2 hr =>
      rw [hs] at hown ⊢
      cases hown
      exact .inl ⟨by simp [viewSt], requeue hr ((removePrefilled_tasks h2).trans (withWorker_tasks h1 :))⟩
    | otherRetracting hs hne =>
      rw [hs] at hown
      cases hown
      exact (hne rfl).elim
    | @redirected target trv hs hf =>
      refine .inr (.inl ⟨target, trv, task.inst, hs, ?_, by simp [computeOne, hid]⟩)
      show stOf (putTask s.tasks _) id = _
      rw [stOf_put (told := task) (by show findTask s.tasks task.id = _; rw [hid]; exact ht)]
      simp [hid]
    | retr hs _ hr =>
      rw [hs]
      exact .inl ⟨by simp [viewSt], requeue hr rfl⟩
    | @mnIgnored root ws hs hi =>
      -- the reporter is the root and its record is a multi-node assignment for this task: it has started
      have e : w = root := by rw [hs] at hown; exact (Option.some.inj hown).symm
      subst e
      obtain ⟨wkm, rm, stm, hwm, ham⟩ := hm id _ (hst.trans (congrArg some hs)) w List.mem_cons_self
      cases hwm.symm.trans hw0
      rw [Worker.blockRq_assign, ham] at hi
      rcases hi with hne | ⟨a, f, p, e⟩ | ⟨t, r, e⟩
      · exact (hne rfl).elim
      · cases e
      · cases e
        have h0 : mnStarted s w id = true := mnStarted_iff.mpr ⟨wk0, rm, hwm, ham⟩
        have h1 : mnStarted (s.setWorker (wk0.blockRq task.rq rv)) w id = true :=
          (mnStarted_setWorker_same hwm (Worker.blockRq_id _ _ _) (Worker.blockRq_assign _ _ _) w id).trans h0
        rw [hs]
        exact .inr (.inr ⟨by simp [viewSt, h0], hst.trans (congrArg some hs), by simp [viewSt, h1], rfl⟩)
    | @mn ws t r s1 res hs ha h1 hr =>
      -- not started: the workers are reset, the task is requeued
      have h0 : mnStarted s w id = false := by
        cases hms : mnStarted s w id with
        | false => rfl
        | true =>
          obtain ⟨wk1, r1, hw1, ha1⟩ := mnStarted_iff.mp hms
          cases hw1.symm.trans hw0
          rw [Worker.blockRq_assign, ha1] at ha
          cases ha
      rw [hs]
      exact .inl ⟨by simp [viewSt, h0], requeue hr (resetMnChecked_tasks _ _ _ _ h1 :)⟩

theorem evsOfUpd_cases (t : TaskId) (u : Core.Update) :
    evsOfUpd t u = [] ∨ ∃ e, evsOfUpd t u = [e] := by
  have one : ∀ (c : Prop) [Decidable c] (e : Ev), (if c then [e] else []) = [] ∨ ∃ e', (if c then [e] else []) = [e'] :=
    fun c _ e => by by_cases h : c <;> simp [h]
  cases u with
  | enable => exact .inl rfl
  | _ => exact one _ _

/-- `task_running`, reported by an update `u` whose event is `run rv` for `t0`: no message; the reported task becomes
`hot` for the reporter and stays `quiet` for the others; every other task is foreign -/
theorem taskRunning_views {c c1 : Core.State} {w : Nat} {t0 : TaskId} {rv : Nat} {o : Core.Out} {u : Core.Update}
    (hn : (taskIds c.tasks).Nodup) (hm : MnOk c) (hm1 : MnOk c1) (h1 : c.taskRunning w t0 rv = .ok (c1, o))
    (hu : ∀ t, evsOfUpd t u = if t0 = t then [.run rv] else []) :
    (∀ w' t, (w' ≠ w ∨ evsOfUpd t u = []) → Foreign (view c w' t) (cfor w' t o.msgs) (view c1 w' t)) ∧
    (∀ t e, evsOfUpd t u = [e] → Own e (view c w t) (cfor w t o.msgs) (view c1 w t)) ∧
    (∀ w' t, stOf c.tasks t = none → cfor w' t o.msgs = []) := by
  have own := taskRunning_own hm h1
  rw [(taskRunning_out h1).1]
  refine ⟨fun w' t hc => ?_, fun t e he => ?_, fun w' t _ => rfl⟩
  · by_cases ht : t0 = t
    · subst ht
      have hw' : w' ≠ w := hc.resolve_right (by rw [hu, if_pos rfl]; simp)
      rcases own with ⟨_, rfl⟩ | ⟨st, h0, ho, h2⟩
      · exact Foreign.same _
      · have q0 : view c w' t0 = .quiet := view_quiet_of_owner h0 (by rw [ho]; intro e; cases e; exact hw' rfl)
        have q1 : view c1 w' t0 = .quiet := by
          rcases h2 with h2 | ⟨l, h2, _⟩
          · exact view_quiet_of_owner h2 (by intro e; cases e; exact hw' rfl)
          · exact view_quiet_of_owner h2 (by intro e; cases e; exact hw' rfl)
        rw [q0, q1]; exact Foreign.same _
    · exact (taskRunning_frw h1).foreign hn hm1 w' t (Ne.symm ht) (Ne.symm ht)
  · rw [hu] at he
    split at he
    · rename_i ht; subst ht
      cases he
      have hot1 : view c1 w t0 = .hot := by
        rcases own with ⟨h0, rfl⟩ | ⟨st, _, _, h2 | ⟨l, h2, h3⟩⟩
        · exact view_none h0
        · rw [view_some h2]; simp [viewSt]
        · rw [view_some h2]; simp [viewSt, h3]
      rw [hot1]
      exact ⟨fun _ => rfl, rfl⟩
    · cases he

theorem upd1_views {c c1 : Core.State} {w : Nat} {u : Core.Update} {rets rets1 : List (List TaskId)} {o1 : Core.Out}
    (hn : (taskIds c.tasks).Nodup) (hm : MnOk c) (hm1 : MnOk c1)
    (hq : ∀ t e, evsOfUpd t u = [e] → view c w t ≠ .quiet)
    (h : c.upd1 w u rets = .ok (c1, o1, rets1)) :
    (∀ w' t, (w' ≠ w ∨ evsOfUpd t u = []) → Foreign (view c w' t) (cfor w' t o1.msgs) (view c1 w' t)) ∧
    (∀ t e, evsOfUpd t u = [e] → Own e (view c w t) (cfor w t o1.msgs) (view c1 w t)) ∧
    (∀ w' t, stOf c.tasks t = none → cfor w' t o1.msgs = []) := by
  rcases upd1_cases h with ⟨t0, b, rfl, h1, _⟩ | ⟨t0, rfl, h1, _⟩ | ⟨t0, rv, hu, h1, _⟩ | ⟨t0, orv, b, rfl, h1, _⟩ | ⟨rq, rv, rfl, h1, rfl, _⟩
  · have f := taskFinished_frw h1
    have nc := (taskFinished_out h1).1
    have gone := taskFinished_gone hn h1
    refine ⟨fun w' t _ => ?_, fun t e he => ?_, fun w' t _ => cfor_noCompute nc⟩
    · rw [cfor_noCompute nc]
      by_cases ht : t = t0
      · subst ht; rw [view_none gone]; exact Foreign.hot _ _
      · exact f.foreign hn hm1 w' t ht ht
    · simp only [evsOfUpd] at he
      split at he
      · rename_i ht; subst ht
        cases he
        rw [view_none gone]
        exact ⟨fun _ => rfl, trivial⟩
      · cases he
  · have f := taskFailed_frq h1
    have nc := (taskFailed_out h1).1
    have gone := taskFailed_gone hn h1
    refine ⟨fun w' t _ => ?_, fun t e he => ?_, fun w' t _ => cfor_noCompute nc⟩
    · rw [cfor_noCompute nc]
      exact f.foreign hn hm1 w' t (fun e => e) (fun e => e)
    · simp only [evsOfUpd] at he
      split at he
      · rename_i ht; subst ht
        cases he
        rw [view_none gone]
        exact ⟨fun _ => rfl, rfl⟩
      · cases he
  · exact taskRunning_views hn hm hm1 h1 (by rcases hu with rfl | rfl <;> exact fun _ => rfl)
  · have f := taskReject_frw h1
    have hown : ∀ st, stOf c.tasks t0 = some st → owner st = some w :=
      fun _ => owner_of_view_ne_quiet (hq t0 (.rej orv) (by simp [evsOfUpd]))
    have own := taskReject_own hn hm hown h1
    have hother : ∀ w' t, t ≠ t0 → cfor w' t o1.msgs = [] := by
      intro w' t ht
      rcases own with ⟨_, _, e, _⟩ | ⟨st, _, ⟨_, nc, _⟩ | ⟨target, trv, inst, _, _, e⟩ | ⟨_, _, _, e⟩⟩
      · rw [e]; rfl
      · exact cfor_noCompute nc
      · rw [e, cfor_single]; simp [Ne.symm ht]
      · rw [e]; rfl
    have hcase : ∀ w', (w' ≠ w → Foreign (view c w' t0) (cfor w' t0 o1.msgs) (view c1 w' t0)) ∧
        (w' = w → Own (.rej orv) (view c w t0) (cfor w t0 o1.msgs) (view c1 w t0)) := by
      intro w'
      rcases own with ⟨h0, h0', e, _⟩ | ⟨st, h0, hcase⟩
      · rw [e, cfor_nil, cfor_nil, view_none h0, view_none h0', view_none h0, view_none h0']
        exact ⟨fun _ => Foreign.same _, fun _ => ⟨fun _ => rfl, fun rv e => (by cases e), fun e => (by cases e)⟩⟩
      · have ho := hown _ h0
        have q0 : w' ≠ w → view c w' t0 = .quiet := fun hw' =>
          view_quiet_of_owner h0 (by rw [ho]; intro e; cases e; exact hw' rfl)
        rcases hcase with ⟨hv0', nc, hfree⟩ | ⟨target, trv, inst, hst, h2, e⟩ | ⟨hhot, h2, hhot', e⟩
        · have hv0 : view c w t0 ≠ .hot := by rw [view_some h0]; exact hv0'
          have hv1 : ∀ x, view c1 x t0 = .hot ∨ view c1 x t0 = .quiet := by
            intro x
            cases hs1 : stOf c1.tasks t0 with
            | none => exact .inl (view_none hs1)
            | some st' => exact .inr (view_quiet_of_owner hs1 (by rw [hfree _ hs1]; intro e; cases e))
          rw [cfor_noCompute nc, cfor_noCompute nc]
          constructor
          · intro hw'
            rw [q0 hw']
            rcases hv1 w' with e | e <;> rw [e]
            · exact Foreign.hot _ _
            · exact Foreign.same _
          · intro _
            refine ⟨fun e => (hv0 e).elim, fun rv _ _ => ⟨hv1 w, rfl⟩, fun _ => ?_⟩
            rcases hv1 w with e | e
            · exact .inl e
            · exact .inr (.inl ⟨e, rfl⟩)
        · subst hst
          have hvpre : view c w t0 = .pre := by rw [view_some h0]; simp [viewSt]
          have hv0 : view c w t0 ≠ .hot := by rw [hvpre]; simp
          have ha : ∀ x, (view c1 x t0 = .quiet ∧ cfor x t0 o1.msgs = []) ∨
              ∃ rv, view c1 x t0 = .asg rv ∧ cfor x t0 o1.msgs = [some rv] := fun x => by
            simp only [e, cfor_single, and_true]
            exact view_assigned h2 x
          constructor
          · intro hw'
            rw [q0 hw']
            rcases ha w' with ⟨a, b⟩ | ⟨rv, a, b⟩ <;> rw [a, b]
            · exact Foreign.same _
            · exact Foreign.asg rv
          · intro _
            exact ⟨fun e => (hv0 e).elim, fun rv e => (by rw [hvpre] at e; cases e), fun _ => .inr (ha w)⟩
        · -- multi-node, started: the message is ignored
          have hv : view c w t0 = .hot := by rw [view_some h0]; exact hhot
          have hv' : view c1 w t0 = .hot := by rw [view_some h2]; exact hhot'
          rw [e, cfor_nil, cfor_nil]
          constructor
          · intro hw'
            have q1 : view c1 w' t0 = .quiet :=
              view_quiet_of_owner h2 (by rw [ho]; intro e; cases e; exact hw' rfl)
            rw [q0 hw', q1]; exact Foreign.same _
          · intro _
            rw [hv, hv']
            exact ⟨fun _ => rfl, fun rv e => (by cases e), fun e => (by cases e)⟩
    refine ⟨fun w' t hc => ?_, fun t e he => ?_, fun w' t hnone => ?_⟩
    · by_cases ht : t = t0
      · rw [ht]
        have hw' : w' ≠ w := by
          rcases hc with hc | hc
          · exact hc
          · rw [ht] at hc; simp [evsOfUpd] at hc
        exact (hcase w').1 hw'
      · rw [hother w' t ht]
        exact f.foreign hn hm1 w' t ht ht
    · simp only [evsOfUpd] at he
      split at he
      · rename_i ht
        rw [← ht]
        cases he
        exact (hcase w).2 rfl
      · cases he
    · by_cases ht : t = t0
      · rw [ht] at hnone ⊢
        rcases own with ⟨_, _, e, _⟩ | ⟨st, h0, _⟩
        · rw [e]; rfl
        · rw [hnone] at h0; cases h0
      · exact hother w' t ht
  · have f := requestEnabled_frq h1
    refine ⟨fun w' t _ => ?_, fun t e he => by simp [evsOfUpd] at he, fun w' t _ => rfl⟩
    exact f.foreign hn hm1 w' t (fun e => e) (fun e => e)

end HqModel.Core

namespace HqModel.SysW.NPP
open HqModel HqModel.Core

/-- `task_running` succeeds only for an unknown task, a task Assigned to the reporter with the reported variant,
Prefilled on / Retracting from the reporter, or a multi-node task (which stays multi-node) -/
theorem taskRunning_pre {s s' : Core.State} {w : Nat} {id : TaskId} {rv : Nat} {o : Core.Out}
    (h : s.taskRunning w id rv = .ok (s', o)) :
    stOf s.tasks id = none ∨ stOf s.tasks id = some (.assigned w rv) ∨ stOf s.tasks id = some (.prefilled w) ∨
    stOf s.tasks id = some (.retracting w) ∨
    ∃ l, stOf s.tasks id = some (.runningMN l) ∧ stOf s'.tasks id = some (.runningMN l) := by
  rcases taskRunning_cases h with ⟨hn, _⟩ | ⟨task, ws, ht, arm, _⟩
  · exact .inl (stOf_none hn)
  · have hst : stOf s.tasks id = some task.state := stOf_of_find ht
    right
    cases arm with
    | assigned hs => exact .inl (hs ▸ hst)
    | prefilled hs => exact .inr (.inl (hs ▸ hst))
    | retracting hs => exact .inr (.inr (.inl (hs ▸ hst)))
    | mn hs => exact .inr (.inr (.inr ⟨_, hs ▸ hst, hs ▸ hst⟩))

theorem upd1_runkeep_running {c c1 : Core.State} {w : Nat} {t0 : TaskId} {rv0 : Nat} {o1 : Core.Out}
    (hn : (taskIds c.tasks).Nodup) (hm : MnOk c) (h1 : c.taskRunning w t0 rv0 = .ok (c1, o1)) :
    (∀ w' t, (w' ≠ w ∨ evsOfUpd t (.running t0 rv0) = []) → RunKeep c c1 w' t (cfor w' t o1.msgs)) ∧
    (∀ t e, evsOfUpd t (.running t0 rv0) = [e] → RunOwn e c c1 w t (cfor w t o1.msgs)) := by
  have nm := (taskRunning_out h1).1
  have pre := taskRunning_pre h1
  -- every other task: the frame of `task_running`
  have other : ∀ t, t ≠ t0 → ∀ w' rv, stOf c1.tasks t = some (.running w' rv) → stOf c.tasks t = some (.running w' rv) := by
    intro t ht w' rv hr
    have hmn : ∀ l, stOf c.tasks t0 = some (.runningMN l) → ∀ x ∈ l, mnW c.workers x = some t0 := by
      intro l hl x hx
      obtain ⟨wk, r, st, hw, ha⟩ := hm t0 l hl x hx
      rw [mnW_of_find hw]; simp [wMn, ha]
    rcases taskRunning_spec hmn h1 with ⟨_, e, _⟩ | ⟨task, ws, _, _, fx⟩
    · rw [e] at hr; exact hr
    · obtain ⟨task', hf, hst⟩ := stOf_some hr
      obtain ⟨task0, hm0, r⟩ := fx.t task' (findTask_some_mem hf)
      have hid := findTask_some_id hf
      have h0 := stOf_of_mem hn hm0
      rw [← r.id, hid] at h0
      rcases r.st with e | e
      · exact absurd (hid.symm.trans e) ht
      · rw [hst] at e
        simp only [stOk] at e
        rw [h0, e]
  have self : ∀ w' rv, stOf c1.tasks t0 = some (.running w' rv) →
      w' = w ∧ (view c w t0 = .pre ∨ ∃ rv0, view c w t0 = .asg rv0) := by
    intro w' rv hr
    have hw' : w' = w := by
      rcases taskRunning_own hm h1 with ⟨h0, e⟩ | ⟨st, _, _, h2 | ⟨l, h2, _⟩⟩
      · rw [e, h0] at hr; cases hr
      · rw [hr] at h2; cases h2; rfl
      · rw [hr] at h2; cases h2
    refine ⟨hw', ?_⟩
    rcases pre with h0 | h0 | h0 | h0 | ⟨l, _, h0⟩
    · rcases taskRunning_own hm h1 with ⟨_, e⟩ | ⟨st, hst, _⟩
      · rw [e, h0] at hr; cases hr
      · rw [h0] at hst; cases hst
    · exact .inr ⟨rv0, by rw [view_some h0]; simp [viewSt]⟩
    · exact .inl (by rw [view_some h0]; simp [viewSt])
    · exact .inl (by rw [view_some h0]; simp [viewSt])
    · rw [hr] at h0; cases h0
  constructor
  · intro w' t hc rv hr
    rw [nm, cfor_nil]
    by_cases ht : t = t0
    · subst ht
      have hw' : w' ≠ w := by
        rcases hc with hc | hc
        · exact hc
        · simp [evsOfUpd] at hc
      exact absurd (self w' rv hr).1 hw'
    · exact ⟨other t ht w' rv hr, rfl⟩
  · intro t e he rv hr
    simp only [evsOfUpd] at he
    split at he
    · rename_i ht
      subst ht
      cases he
      rw [nm, cfor_nil]
      exact .inr ⟨⟨rv0, rfl⟩, (self w rv hr).2, rfl⟩
    · cases he

theorem upd1_runkeep {c c1 : Core.State} {w : Nat} {u : Core.Update} {rets rets1 : List (List TaskId)} {o1 : Core.Out}
    (hn : (taskIds c.tasks).Nodup) (hm : MnOk c)
    (hq : ∀ t e, evsOfUpd t u = [e] → view c w t ≠ .quiet)
    (h : c.upd1 w u rets = .ok (c1, o1, rets1)) :
    (∀ w' t, (w' ≠ w ∨ evsOfUpd t u = []) → RunKeep c c1 w' t (cfor w' t o1.msgs)) ∧
    (∀ t e, evsOfUpd t u = [e] → RunOwn e c c1 w t (cfor w t o1.msgs)) := by
  -- the generic case: a framed function that sends nothing for Running tasks
  have gen : ∀ {P : Prop}, Fr P c c1 → (∀ w' t rv, stOf c.tasks t = some (.running w' rv) → cfor w' t o1.msgs = []) →
      (∀ w' t, RunKeep c c1 w' t (cfor w' t o1.msgs)) ∧
      (∀ t e, RunOwn e c c1 w t (cfor w t o1.msgs)) := by
    intro P f hc
    refine ⟨fun w' t => runKeep_of_fr f hn (hc w' t), fun t e rv hr => .inl ?_⟩
    have := runBack_of_fr f hn hr
    exact ⟨⟨rv, this⟩, hc w t rv this⟩
  rcases upd1_cases h with ⟨t0, b, rfl, h1, _⟩ | ⟨t0, rfl, h1, _⟩ | ⟨t0, rv0, hu, h1, _⟩ | ⟨t0, orv, b, rfl, h1, _⟩ | ⟨rq, rv, rfl, h1, rfl, _⟩
  · obtain ⟨g1, g2⟩ := gen (taskFinished_frc h1) (fun _ _ _ _ => cfor_noCompute (taskFinished_out h1).1)
    exact ⟨fun w' t _ => g1 w' t, fun t e _ => g2 t e⟩
  · obtain ⟨g1, g2⟩ := gen (taskFailed_frc h1) (fun _ _ _ _ => cfor_noCompute (taskFailed_out h1).1)
    exact ⟨fun w' t _ => g1 w' t, fun t e _ => g2 t e⟩
  · have := upd1_runkeep_running hn hm h1
    rcases hu with rfl | rfl
    · exact this
    · exact ⟨fun w' t hc => this.1 w' t (by simpa [evsOfUpd] using hc), fun t e he => this.2 t e (by simpa [evsOfUpd] using he)⟩
  · have hown : ∀ st, stOf c.tasks t0 = some st → owner st = some w :=
      fun _ => owner_of_view_ne_quiet (hq t0 (.rej orv) (by simp [evsOfUpd]))
    have own := taskReject_own hn hm hown h1
    obtain ⟨g1, g2⟩ := gen (taskReject_frc h1) (by
      intro w' t rv hs
      rcases own with ⟨_, _, e, _⟩ | ⟨st, h0, ⟨hnh, nc, _⟩ | ⟨target, trv, inst, hst, _, e⟩ | ⟨_, _, _, e⟩⟩
      · rw [e]; rfl
      · exact cfor_noCompute nc
      · rw [e, cfor_single]
        by_cases ht : t0 = t
        · subst ht
          rw [hs] at h0; cases h0; cases hst
        · simp [ht]
      · rw [e]; rfl)
    exact ⟨fun w' t _ => g1 w' t, fun t e _ => g2 t e⟩
  · obtain ⟨g1, g2⟩ := gen (P := False) (requestEnabled_frc h1) (fun _ _ _ _ => rfl)
    exact ⟨fun w' t _ => g1 w' t, fun t e _ => g2 t e⟩

theorem upd1_pairs {c c1 : Core.State} {w : Nat} {u : Core.Update} {rets rets1 : List (List TaskId)} {o1 : Core.Out}
    (hn : (taskIds c.tasks).Nodup) (hm : MnOk c) (hm1 : MnOk c1)
    (hq : ∀ t e, evsOfUpd t u = [e] → view c w t ≠ .quiet) (h : c.upd1 w u rets = .ok (c1, o1, rets1)) :
    (∀ w' t, (w' ≠ w ∨ evsOfUpd t u = []) → Fgn c c1 o1.msgs w' t) ∧
    (∀ t e, evsOfUpd t u = [e] → Ownd e c c1 o1.msgs w t) :=
  let ⟨v1, v2, v3⟩ := upd1_views hn hm hm1 hq h
  let ⟨r1, r2⟩ := upd1_runkeep hn hm hq h
  ⟨fun w' t hc => ⟨v1 w' t hc, r1 w' t hc, v3 w' t⟩, fun t e he => ⟨v2 t e he, r2 t e he⟩⟩

end HqModel.SysW.NPP
