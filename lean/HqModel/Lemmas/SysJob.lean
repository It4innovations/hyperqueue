import HqModel.Sys.Model
import HqModel.Lemmas.JobCompleted
/-!
The job layer (M4) through the *task-state view* `tst js t`: the state of task `t = (job, task)` in the job table, `none`
when the job or the task is not stored. `tstJ` is the same on a bare job list, because `submit` / `openJob` append a job
without `putJob` (`tstJ_append`); every other change goes through `putJob`: `tst_putJob_ext` (any new table of one job),
`tst_putJob_point` (one task changed). Then the record operations of one job (`setRunning` … `abortTasks`, `setCancel`):
`…_spec` = what a successful call did to the task table, `…_ok` = a sufficient condition for the call not to panic.
-/
namespace HqModel.Sys
open HqModel.Job

def tstJ (jobs : List Job) (t : TaskId) : Option TState :=
  match findJob jobs t.1 with
  | some job => lookup job.tasks t.2
  | none => none

def tst (js : Job.State) (t : TaskId) : Option TState := tstJ js.jobs t

/-- known and not terminal (`waiting` / `running`) -/
def live : Option TState → Bool
  | some st => !st.terminal
  | none => false

theorem live_iff {o : Option TState} : live o = true ↔ o = some .waiting ∨ o = some .running := by
  cases o with
  | none => simp [live]
  | some st => cases st <;> simp [live, TState.terminal]

theorem live_some {o : Option TState} (h : live o = true) : ∃ st, o = some st ∧ st.terminal = false := by
  cases o with
  | none => simp [live] at h
  | some st => exact ⟨st, rfl, by simpa [live] using h⟩

theorem live_running : live (some .running) = true := rfl
theorem live_waiting : live (some .waiting) = true := rfl

theorem lookup_append_one (ts : List (Nat × TState)) (t : Nat) (b : TState) (x : Nat) :
    lookup (ts ++ [(t, b)]) x = match lookup ts x with
      | some v => some v
      | none => if x = t then some b else none := by
  rw [lookup_append]
  cases lookup ts x with
  | some v => rfl
  | none => simp only [Option.none_or, lookup, eq_comm (a := t)]

theorem tstJ_append {jobs : List Job} {job' : Job} (hn : findJob jobs job'.id = none) (x : TaskId) :
    tstJ (jobs ++ [job']) x = if x.1 = job'.id then lookup job'.tasks x.2 else tstJ jobs x := by
  simp only [tstJ, findJob_append]
  by_cases hx : x.1 = job'.id
  · rw [hx, hn]; simp
  · have : ¬ job'.id = x.1 := fun e => hx e.symm
    cases findJob jobs x.1 <;> simp [hx, this]

theorem tst_putJob {js : Job.State} {job job' : Job} {j : Nat} (hj : js.getJob j = some job)
    (hid : job'.id = j) (x : TaskId) :
    tst (js.putJob job') x = if x.1 = j then lookup job'.tasks x.2 else tst js x := by
  show tstJ (replaceJob js.jobs job') x = _
  simp only [tst, tstJ, findJob_replaceJob, hid]
  by_cases hx : x.1 = j
  · simp [hx, show findJob js.jobs j = some job from hj]
  · simp [hx]

theorem tst_of_getJob {js : Job.State} {job : Job} {j : Nat} (hj : js.getJob j = some job) (x : Nat) :
    tst js (j, x) = lookup job.tasks x := by
  simp only [tst, tstJ]
  show (match findJob js.jobs j with | some job => lookup job.tasks x | none => none) = _
  rw [show findJob js.jobs j = some job from hj]

theorem tst_putJob_ext {js : Job.State} {job job' : Job} {j : Nat} (hj : js.getJob j = some job) (hid : job'.id = j)
    {F : TaskId → Option TState} (hin : ∀ x, lookup job'.tasks x = F (j, x)) (hout : ∀ x : TaskId, x.1 ≠ j → F x = tst js x)
    (x : TaskId) : tst (js.putJob job') x = F x := by
  rw [tst_putJob hj hid x]
  split
  · rename_i hx; rw [hin, ← hx]
  · rename_i hx; exact (hout x hx).symm

theorem tst_putJob_point {js : Job.State} {job job' : Job} {t : TaskId} {v : Option TState}
    (hj : js.getJob t.1 = some job) (hid : job'.id = t.1)
    (hl : ∀ x, lookup job'.tasks x = if x = t.2 then v else lookup job.tasks x) (x : TaskId) :
    tst (js.putJob job') x = if x = t then v else tst js x := by
  refine tst_putJob_ext hj hid (F := fun x => if x = t then v else tst js x) (fun y => ?_) (fun y hy => ?_) x
  · rw [hl, tst_of_getJob hj]
    by_cases hy : y = t.2
    · subst hy; rw [if_pos rfl, if_pos rfl]
    · rw [if_neg hy, if_neg fun e => hy (by rw [← e])]
  · exact if_neg fun e => hy (by rw [e])

theorem getJob_of_tst {js : Job.State} {t : TaskId} (h : (tst js t).isSome) :
    ∃ job, js.getJob t.1 = some job ∧ lookup job.tasks t.2 = tst js t := by
  simp only [tst, tstJ] at h ⊢
  cases hf : findJob js.jobs t.1 with
  | none => rw [hf] at h; simp at h
  | some job => exact ⟨job, hf, by simp⟩

theorem mem_removeAll {l ids : List TaskId} {x : TaskId} : x ∈ removeAll l ids ↔ x ∈ l ∧ x ∉ ids := by
  simp [removeAll, List.mem_filter]

structure SameMeta (job job' : Job) : Prop where
  id : job'.id = job.id
  isOpen : job'.isOpen = job.isOpen
  maxFails : job'.maxFails = job.maxFails

theorem SameMeta.trans {a b c : Job} (h1 : SameMeta a b) (h2 : SameMeta b c) : SameMeta a c :=
  ⟨h2.id.trans h1.id, h2.isOpen.trans h1.isOpen, h2.maxFails.trans h1.maxFails⟩

/-- what a `started` report does to the state of the task -/
def startedSt : Option TState → Option TState
  | some .waiting => some .running
  | o => o

theorem live_startedSt {o : Option Job.TState} : live (startedSt o) = live o := by
  cases o with
  | none => rfl
  | some st => cases st <;> rfl

theorem startedSt_of_live {o : Option Job.TState} (h : live o = true) : startedSt o = some .running := by
  rcases live_iff.mp h with e | e <;> rw [e] <;> rfl

theorem setRunning_spec {job job' : Job} {t : Nat} (h : job.setRunning t = .ok job') :
    SameMeta job job' ∧ (lookup job.tasks t).isSome ∧
    ∀ x, lookup job'.tasks x = if x = t then startedSt (lookup job.tasks t) else lookup job.tasks x := by
  rcases setRunning_eq_ok h with ⟨hl, rfl⟩ | ⟨st, hl, hne, rfl⟩
  · exact ⟨⟨rfl, rfl, rfl⟩, by rw [hl]; rfl, fun x => by rw [hl]; exact lookup_setState_of hl _ x⟩
  · refine ⟨⟨rfl, rfl, rfl⟩, by rw [hl]; rfl, fun x => ?_⟩
    have : startedSt (some st) = some st := by cases st <;> first | rfl | exact absurd rfl hne
    rw [hl, this, ← hl]
    split
    · rename_i hx; rw [hx]
    · rfl

theorem setRunning_ok {job : Job} {t : Nat} (h : (lookup job.tasks t).isSome) : ∃ job', job.setRunning t = .ok job' := by
  unfold Job.setRunning
  cases hl : lookup job.tasks t with
  | none => rw [hl] at h; simp at h
  | some st => cases st <;> exact ⟨_, rfl⟩

theorem setFinished_spec {job job' : Job} {t : Nat} {evs : List Ev} (h : job.setFinished t = .ok (job', evs)) :
    SameMeta job job' ∧ lookup job.tasks t = some .running ∧
    ∀ x, lookup job'.tasks x = if x = t then some .finished else lookup job.tasks x := by
  obtain ⟨hl, rfl, _⟩ := setFinished_eq_ok h
  exact ⟨⟨rfl, rfl, rfl⟩, hl, lookup_setState_of hl _⟩

theorem setFinished_ok {job : Job} {t : Nat} (h : lookup job.tasks t = some .running) :
    ∃ r, job.setFinished t = .ok r := by
  unfold Job.setFinished
  rw [h]
  exact ⟨_, rfl⟩

-- primed: `Job.setWaiting_spec` (JobInv) is in scope under `open HqModel.Job`
theorem setWaiting_spec' {job job' : Job} {t : Nat} (h : job.setWaiting t = .ok job') :
    SameMeta job job' ∧ lookup job.tasks t = some .running ∧
    ∀ x, lookup job'.tasks x = if x = t then some .waiting else lookup job.tasks x := by
  obtain ⟨hl, rfl⟩ := setWaiting_eq_ok h
  exact ⟨⟨rfl, rfl, rfl⟩, hl, lookup_setState_of hl _⟩

theorem setWaiting_ok {job : Job} {t : Nat} (h : lookup job.tasks t = some .running) :
    ∃ r, job.setWaiting t = .ok r := by
  unfold Job.setWaiting
  rw [h]
  exact ⟨_, rfl⟩

theorem setFailed_spec {job job' : Job} {t : Nat} {evs : List Ev} (h : job.setFailed t = .ok (job', evs)) :
    SameMeta job job' ∧ live (lookup job.tasks t) = true ∧
    ∀ x, lookup job'.tasks x = if x = t then some .failed else lookup job.tasks x := by
  obtain ⟨a, ha, hl, rfl, _⟩ := setFailed_eq_ok h
  exact ⟨⟨rfl, rfl, rfl⟩, by rw [hl]; rcases ha with rfl | rfl <;> rfl, lookup_setState_of hl _⟩

theorem setFailed_ok {job : Job} {t : Nat} (h : live (lookup job.tasks t) = true) :
    ∃ r, job.setFailed t = .ok r := by
  unfold Job.setFailed
  rcases live_iff.mp h with e | e <;> rw [e] <;> exact ⟨_, rfl⟩

theorem markAll_ok (target : TState) (site : String) :
    ∀ (ids : List TaskId) (job : Job), (∀ p ∈ ids, p.1 = job.id) → (ids.map (·.2)).Nodup →
      (∀ p ∈ ids, live (lookup job.tasks p.2) = true) → ∃ job', job.markAll target site ids = .ok job' := by
  intro ids
  induction ids with
  | nil => intro job _ _ _; exact ⟨job, rfl⟩
  | cons p rest ih =>
    intro job hid hnd hlive
    obtain ⟨j, t⟩ := p
    have hj : j = job.id := hid (j, t) (by simp)
    simp only [List.map_cons, List.nodup_cons] at hnd
    have hrest : ∀ (cnt : Counters),
        ∃ job', Job.markAll { job with tasks := setState job.tasks t target, cnt := cnt } target site rest = .ok job' := by
      intro cnt
      apply ih
      · intro p hp; exact hid p (by simp [hp])
      · exact hnd.2
      · intro p hp
        have hne : p.2 ≠ t := fun e => hnd.1 (e ▸ List.mem_map_of_mem (f := (·.2)) hp)
        simp only [lookup_setState, hne, if_false]
        exact hlive p (by simp [hp])
    have hl := hlive (j, t) (by simp)
    simp only [Job.markAll, hj, bne_self_eq_false, Bool.false_eq_true, if_false]
    rcases live_iff.mp hl with e | e
    · simp only [] at e; rw [e]; exact hrest _
    · simp only [] at e; rw [e]; exact hrest _

theorem abortTasks_spec {job job' : Job} {ids : List TaskId} {evs : List Ev}
    (h : job.abortTasks ids = .ok (job', evs)) :
    SameMeta job job' ∧ (∀ p ∈ ids, p.1 = job.id) ∧
    ∀ x, lookup job'.tasks x = if x ∈ ids.map (·.2) then some .aborted else lookup job.tasks x :=
  let ⟨m, mf, _⟩ := abortTasks_hist h
  ⟨⟨m.id, m.isOpen, mf⟩, m.own, m.lookup⟩

theorem abortTasks_ok {job : Job} {ids : List TaskId} (hid : ∀ p ∈ ids, p.1 = job.id) (hnd : (ids.map (·.2)).Nodup)
    (hlive : ∀ p ∈ ids, live (lookup job.tasks p.2) = true) : ∃ r, job.abortTasks ids = .ok r := by
  unfold Job.abortTasks
  split
  · exact ⟨_, rfl⟩
  · obtain ⟨job', hm⟩ := markAll_ok .aborted "abort_tasks" ids job hid hnd hlive
    rw [hm]; exact ⟨_, rfl⟩

theorem setCancel_spec {job job' : Job} {ids : List TaskId} {evs : List Ev}
    (h : job.setCancel ids = .ok (job', evs)) :
    SameMeta job job' ∧ (∀ p ∈ ids, p.1 = job.id) ∧
    ∀ x, lookup job'.tasks x = if x ∈ ids.map (·.2) then some .canceled else lookup job.tasks x :=
  let ⟨m, mf, _⟩ := setCancel_hist h
  ⟨⟨m.id, m.isOpen, mf⟩, m.own, m.lookup⟩

theorem setCancel_ok {job : Job} {ids : List TaskId} (hid : ∀ p ∈ ids, p.1 = job.id) (hnd : (ids.map (·.2)).Nodup)
    (hlive : ∀ p ∈ ids, live (lookup job.tasks p.2) = true) : ∃ r, job.setCancel ids = .ok r := by
  unfold Job.setCancel
  split
  · exact ⟨_, rfl⟩
  · obtain ⟨job', hm⟩ := markAll_ok .canceled "set_cancel_state" ids job hid hnd hlive
    rw [hm]; exact ⟨_, rfl⟩

theorem mem_nonFinished_iff {job : Job} (hnd : (keys job.tasks).Nodup) (x : Nat) :
    x ∈ job.nonFinishedTaskIds ↔ live (lookup job.tasks x) = true := by
  simp only [Job.nonFinishedTaskIds, List.mem_map, List.mem_filter]
  constructor
  · rintro ⟨p, ⟨hp, ht⟩, rfl⟩
    rw [lookup_of_mem hnd (a := p.2) hp]
    simpa [live] using ht
  · intro h
    obtain ⟨st, hs, ht⟩ := live_some h
    exact ⟨(x, st), ⟨lookup_mem hs, by simpa using ht⟩, rfl⟩

theorem nonFinished_nodup {job : Job} (hnd : (keys job.tasks).Nodup) : job.nonFinishedTaskIds.Nodup := by
  simp only [Job.nonFinishedTaskIds]
  exact ((List.filter_sublist).map _).nodup hnd

end HqModel.Sys
