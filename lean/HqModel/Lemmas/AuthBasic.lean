import HqModel.Auth.Model
/-! Function-level facts about the three `Authenticator` functions, independent of the trace system. -/
namespace HqModel.Auth

/-- The AEAD premise in the form it is used: a ciphertext opens under `(k, n)` to `p` iff it IS the
seal of `p` under exactly `(k, n)`. -/
theorem openC_eq_some {k n : Nat} {ct : Cipher} {p : Bytes} :
    openC k n ct = some p ↔ ct = .seal k n p := by
  cases ct with
  | junk id => simp [openC]
  | «seal» k' n' p' =>
    simp only [openC, Cipher.seal.injEq]
    constructor
    · intro h
      split at h
      · rename_i hk; cases h; exact ⟨hk.1, hk.2, rfl⟩
      · cases h
    · rintro ⟨rfl, rfl, rfl⟩; simp

/-- `role ++ challenge` is concatenated without a separator; it is still injective because both
challenges have the same length (16: the responder checks it, the requester generated it). -/
theorem role_chal_inj {r₁ c₁ r₂ c₂ : Bytes} (h : r₁ ++ c₁ = r₂ ++ c₂) (hl : c₁.length = c₂.length) :
    r₁ = r₂ ∧ c₁ = c₂ := by
  have hlen : r₁.length = r₂.length := by
    have := congrArg List.length h
    simp only [List.length_append] at this
    omega
  exact List.append_inj h hlen

@[simp] theorem makeRequest_config (a : Authenticator) (c : Bytes) :
    (makeRequest a c).1.config = a.config := by
  unfold makeRequest; split <;> rfl

@[simp] theorem makeRequest_error (a : Authenticator) (c : Bytes) :
    (makeRequest a c).1.error = a.error := by
  unfold makeRequest; split <;> rfl

theorem makeRequest_challenge_keyed {a : Authenticator} {c : Bytes} {k : Nat} (hk : a.key = some k) :
    (makeRequest a c).1.challenge = c := by
  unfold makeRequest; rw [hk]

theorem makeRequest_key (a : Authenticator) (c : Bytes) : (makeRequest a c).1.key = a.key :=
  congrArg Config.key (makeRequest_config a c)

theorem makeRequest_myRole (a : Authenticator) (c : Bytes) : (makeRequest a c).1.myRole = a.myRole :=
  congrArg Config.myRole (makeRequest_config a c)

theorem makeRequest_peerRole (a : Authenticator) (c : Bytes) : (makeRequest a c).1.peerRole = a.peerRole :=
  congrArg Config.peerRole (makeRequest_config a c)

theorem makeRequest_req (a : Authenticator) (c : Bytes) :
    (makeRequest a c).2.protocol = (makeRequest a c).1.protocol ∧ (makeRequest a c).2.role = (makeRequest a c).1.myRole := by
  unfold makeRequest; split <;> exact ⟨rfl, rfl⟩

theorem makeRequest_protocol (a : Authenticator) (c : Bytes) : (makeRequest a c).1.protocol = a.protocol :=
  congrArg Config.protocol (makeRequest_config a c)

theorem makeResponse_cases (a : Authenticator) (req : Request) (n : Nat) :
    makeResponse a req n = a.fail ∨
    (req.protocol = a.protocol ∧ req.role = a.peerRole ∧
      ((req.mode = .noAuth ∧ a.key = none ∧ makeResponse a req n = (a, .noAuth)) ∨
       ∃ c k, req.mode = .encryption c ∧ a.key = some k ∧ c.length = challengeLength ∧
         makeResponse a req n = (a, .encryption n (.seal k n (a.myRole ++ c))))) := by
  unfold makeResponse
  by_cases hp : req.protocol = a.protocol
  · by_cases hr : req.role = a.peerRole
    · rw [if_neg (fun h => h hp), if_neg (fun h => h hr)]
      cases hm : req.mode <;> cases hk : a.key
      · exact Or.inr ⟨hp, hr, Or.inl ⟨rfl, rfl, rfl⟩⟩
      · exact Or.inl rfl
      · exact Or.inl rfl
      · rename_i c k
        by_cases hl : c.length = challengeLength
        · exact Or.inr ⟨hp, hr, Or.inr ⟨c, k, rfl, rfl, hl, if_neg (fun h => h hl)⟩⟩
        · exact Or.inl (if_pos hl)
    · rw [if_neg (fun h => h hp), if_pos hr]; exact Or.inl rfl
  · rw [if_pos hp]; exact Or.inl rfl

theorem makeResponse_frame (a : Authenticator) (req : Request) (n : Nat) :
    (makeResponse a req n).1 = a ∨ (makeResponse a req n).1 = { a with error := true } := by
  rcases makeResponse_cases a req n with h | ⟨_, _, ⟨_, _, h⟩ | ⟨_, _, _, _, _, h⟩⟩ <;> rw [h]
  · exact Or.inr rfl
  · exact Or.inl rfl
  · exact Or.inl rfl

theorem makeResponse_key (a : Authenticator) (req : Request) (n : Nat) :
    (makeResponse a req n).1.key = a.key := by
  rcases makeResponse_frame a req n with h | h <;> rw [h]

theorem makeResponse_myRole (a : Authenticator) (req : Request) (n : Nat) :
    (makeResponse a req n).1.myRole = a.myRole := by
  rcases makeResponse_frame a req n with h | h <;> rw [h]

theorem makeResponse_peerRole (a : Authenticator) (req : Request) (n : Nat) :
    (makeResponse a req n).1.peerRole = a.peerRole := by
  rcases makeResponse_frame a req n with h | h <;> rw [h]

theorem makeResponse_challenge (a : Authenticator) (req : Request) (n : Nat) :
    (makeResponse a req n).1.challenge = a.challenge := by
  rcases makeResponse_frame a req n with h | h <;> rw [h]

theorem makeResponse_encryption {a : Authenticator} {req : Request} {n n' : Nat} {ct : Cipher}
    (h : (makeResponse a req n).2 = .encryption n' ct) :
    ∃ k c, a.key = some k ∧ req.mode = .encryption c ∧ c.length = challengeLength ∧ n' = n ∧
      ct = .seal k n (a.myRole ++ c) ∧ req.protocol = a.protocol ∧ req.role = a.peerRole := by
  rcases makeResponse_cases a req n with e | ⟨hp, hr, ⟨_, _, e⟩ | ⟨c, k, hm, hk, hl, e⟩⟩ <;> rw [e] at h <;> cases h
  exact ⟨k, c, hk, hm, hl, rfl, rfl, hp, hr⟩

theorem finish_keyed {a : Authenticator} {k : Nat} (hk : a.key = some k) (resp : Response) :
    finish a resp = true ↔
      a.error = false ∧ ∃ n, resp = .encryption n (.seal k n (a.peerRole ++ a.challenge)) := by
  unfold finish
  cases he : a.error
  · simp only [Bool.false_eq_true, if_false, true_and]
    cases resp with
    | noAuth => simp [hk]
    | error => simp
    | encryption n ct =>
      simp only [hk]
      cases ho : openC k n ct with
      | none =>
        simp only [Bool.false_eq_true, false_iff]
        rintro ⟨n', h⟩
        cases h
        simp [openC] at ho
      | some p =>
        have := openC_eq_some.mp ho
        subst this
        simp only [decide_eq_true_eq]
        constructor
        · intro hp; exact ⟨n, by rw [hp]⟩
        · rintro ⟨n', h⟩; cases h; rfl
  · simp

theorem finish_keyless {a : Authenticator} (hk : a.key = none) (resp : Response) :
    finish a resp = true ↔ a.error = false ∧ resp = .noAuth := by
  unfold finish
  cases he : a.error
  · cases resp <;> simp [hk]
  · simp

theorem finish_latched {a : Authenticator} (h : a.error = true) (resp : Response) :
    finish a resp = false := by
  simp [finish, h]

theorem finish_error (a : Authenticator) : finish a .error = false := by
  unfold finish; split <;> simp

end HqModel.Auth
