import HqModel.Lemmas.WorkerMoves
/-!
The steps other than `ComputeTasks` and the end of a task only drop waiting tasks and set flags of running tasks
(`Minor`), they call no launcher, and they set `stopSent` only together with a stop signal (`step_minor`); the other two
are paths of moves of the message loop (`step_path`).
-/
namespace HqModel.Worker

def Running.base (r : Running) : Task × Nat × Nat := (r.task, r.rv, r.h)

/-- `s'` is `s` with some waiting tasks dropped, some flags of running tasks changed, keys of emptied backlogs
dropped and request classes added -/
structure Minor (s s' : State) : Prop where
  live : s'.live = s.live
  running : s'.running.map Running.base = s.running.map Running.base
  backlog : ∀ rq, (s'.backlog rq).Sublist (s.backlog rq)
  bkeys : ∀ rq ∈ s'.bkeys, rq ∈ s.bkeys
  keys : ∀ rq ∈ s.bkeys, s'.backlog rq ≠ [] → rq ∈ s'.bkeys
  rqs : ∀ (i : Nat) vs, s.rqs[i]? = some vs → s'.rqs[i]? = some vs

theorem Minor.of_eq {s s' : State} (hl : s'.live = s.live) (hr : s'.running.map Running.base = s.running.map Running.base)
    (hb : ∀ rq, (s'.backlog rq).Sublist (s.backlog rq)) (hk : s'.bkeys = s.bkeys) (hq : s'.rqs = s.rqs) :
    Minor s s' :=
  ⟨hl, hr, hb, fun _ h => hk ▸ h, fun _ h _ => hk ▸ h, fun _ _ h => hq ▸ h⟩

theorem Minor.refl (s : State) : Minor s s := Minor.of_eq rfl rfl (fun _ => List.Sublist.refl _) rfl rfl

theorem Minor.trans {s1 s2 s3 : State} (h1 : Minor s1 s2) (h2 : Minor s2 s3) : Minor s1 s3 where
  live := h2.live.trans h1.live
  running := h2.running.trans h1.running
  backlog := fun rq => (h2.backlog rq).trans (h1.backlog rq)
  bkeys := fun rq h => h1.bkeys rq (h2.bkeys rq h)
  keys := fun rq h hne =>
    h2.keys rq (h1.keys rq h fun hnil => hne (List.sublist_nil.mp (hnil ▸ h2.backlog rq))) hne
  rqs := fun i vs h => h2.rqs i vs (h1.rqs i vs h)

theorem Minor.map_h {s s' : State} (h : Minor s s') : s'.running.map (·.h) = s.running.map (·.h) := by
  simpa [List.map_map, Function.comp_def, Running.base] using congrArg (List.map (·.2.2)) h.running

theorem Minor.map_id {s s' : State} (h : Minor s s') :
    s'.running.map (·.task.id) = s.running.map (·.task.id) := by
  simpa [List.map_map, Function.comp_def, Running.base] using congrArg (List.map (·.1.id)) h.running

theorem Minor.mem_running {s s' : State} (h : Minor s s') {r' : Running} (hr : r' ∈ s'.running) :
    ∃ r ∈ s.running, r.base = r'.base := by
  have : r'.base ∈ s.running.map Running.base := h.running ▸ List.mem_map_of_mem hr
  simpa using this

theorem Minor.noBacklog {s s' : State} (h : Minor s s') {t : Nat} (hn : NoBacklog t s) : NoBacklog t s' :=
  fun rq x hx => hn rq x ((h.backlog rq).subset hx)

theorem Minor.reflag (s : State) (p : Running → Prop) [DecidablePred p] (f : Running → Running)
    (hf : ∀ x, (f x).base = x.base) :
    Minor s { s with running := s.running.map fun x => if p x then f x else x } := by
  refine Minor.of_eq rfl ?_ (fun _ => List.Sublist.refl _) rfl rfl
  simp only [List.map_map]
  apply List.map_congr_left
  intro x _
  simp only [Function.comp]
  split
  · exact hf x
  · rfl

theorem Minor.filter (s : State) (p : Nat → Task → Bool) :
    Minor s { s with backlog := fun rq => (s.backlog rq).filter (p rq) } :=
  Minor.of_eq rfl rfl (fun _ => List.filter_sublist) rfl rfl

/-- the flag `stopSent` is faithful over a step: whoever has it in `s'` had it in `s`, or a stop signal for that id is
among `outs` -/
def StopFaithful (s s' : State) (outs : List Out) : Prop :=
  ∀ r' ∈ s'.running, r'.stopSent = true →
    (∃ r ∈ s.running, r.task.id = r'.task.id ∧ r.stopSent = true) ∨ ∃ k, Out.stop r'.task.id k ∈ outs

theorem StopFaithful.of_eq {s s' : State} (h : s'.running = s.running) (outs : List Out) : StopFaithful s s' outs :=
  fun r' hr' hf => Or.inl ⟨r', h ▸ hr', rfl, hf⟩

theorem StopFaithful.reflag (s : State) {t : Nat} {r : Running} (hr : r ∈ s.running) (hid : r.task.id = t)
    (f : Running → Running) (hf : ∀ x, (f x).task = x.task) {k : StopKind} {outs : List Out}
    (hk : r.stopSent = false → Out.stop t k ∈ outs) :
    StopFaithful s { s with running := s.running.map fun x => if x.task.id = t then f x else x } outs := by
  intro r' hr' hss
  obtain ⟨x, hx, rfl⟩ := List.mem_map.mp hr'
  split at hss <;> rename_i hxt
  · rw [if_pos hxt, hf, hxt]
    cases h : r.stopSent
    · exact Or.inr ⟨k, hk h⟩
    · exact Or.inl ⟨r, hr, hid, h⟩
  · rw [if_neg hxt]
    exact Or.inl ⟨x, hx, rfl, hss⟩

theorem cancelOne_minor (a : State × List Out) (t : Nat) : Minor a.1 (cancelOne a t).1 := by
  obtain ⟨s, outs⟩ := a
  rcases cancelOne_cases s outs t with ⟨_, h⟩ | ⟨r, _, _, ⟨_, h⟩ | ⟨_, h⟩⟩ <;> rw [h]
  · exact Minor.filter s fun _ x => x.id ≠ t
  · exact Minor.refl s
  · exact Minor.reflag s (·.task.id = t) ({ · with stopSent := true }) fun _ => rfl

theorem cancel_fold_minor (ids : List Nat) (a : State × List Out) : Minor a.1 (ids.foldl cancelOne a).1 :=
  cancel_induct (P := fun b => Minor a.1 b.1) (fun b t h => h.trans (cancelOne_minor b t)) ids a (Minor.refl _)

theorem cancel_stopFaithful (s : State) (ids : List Nat) :
    (∀ o ∈ (cancel s ids).2, ∃ t, o = .stop t .cancel) ∧ StopFaithful s (cancel s ids).1 (cancel s ids).2 := by
  refine cancel_induct (P := fun a => (∀ o ∈ a.2, ∃ t, o = .stop t .cancel) ∧ StopFaithful s a.1 a.2) ?_ ids (s, [])
    ⟨by simp, StopFaithful.of_eq rfl _⟩
  intro ⟨s1, outs⟩ t ⟨ho, hf⟩
  rcases cancelOne_cases s1 outs t with ⟨_, h⟩ | ⟨r, hr, hid, ⟨_, h⟩ | ⟨hss, h⟩⟩ <;> rw [h]
  · exact ⟨ho, hf⟩
  · exact ⟨ho, hf⟩
  · refine ⟨fun o h => ?_, fun r' hr' hss' => ?_⟩
    · rcases List.mem_append.mp h with h | h
      · exact ho o h
      · exact ⟨t, List.mem_singleton.mp h⟩
    · rcases StopFaithful.reflag s1 hr hid ({ · with stopSent := true }) (fun _ => rfl) (k := .cancel)
        (outs := [.stop t .cancel]) (fun _ => List.mem_singleton.mpr rfl) r' hr' hss' with ⟨r1, hr1, hid1, hss1⟩ | ⟨k, hk⟩
      · rcases hf r1 hr1 hss1 with ⟨r0, hr0, hid0, hss0⟩ | ⟨k, hk⟩
        · exact Or.inl ⟨r0, hr0, hid0.trans hid1, hss0⟩
        · exact Or.inr ⟨k, List.mem_append_left _ (hid1 ▸ hk)⟩
      · exact Or.inr ⟨k, List.mem_append_right _ hk⟩

theorem retractCheck_minor {s s' : State} {order : List Nat} {outs : List Out}
    (hs : retractCheck s order = .ok (s', outs)) :
    Minor s s' ∧ s'.running = s.running ∧ ∀ o ∈ outs, ∃ us, o = .updates us := by
  rcases retractCheck_cases hs with h | h | ⟨_, _, _, ⟨_, _, h⟩ | ⟨a, _, h⟩⟩ <;> cases h
  · exact ⟨Minor.refl s, rfl, by simp⟩
  · refine ⟨⟨rfl, rfl, fun rq => ?_, fun rq h => (List.mem_filter.mp h).1, fun rq h hne => ?_, fun _ _ h => h⟩,
      rfl, by simp⟩
    · dsimp only
      split
      · exact List.nil_sublist _
      · exact List.Sublist.refl _
    · dsimp only at hne ⊢
      split at hne
      · exact absurd rfl hne
      · rename_i hnot
        exact List.mem_filter.mpr ⟨h, by simpa using hnot⟩

theorem step_minor {s s' : State} {op : Op} {outs : List Out} (hs : step s op = .ok (s', outs)) :
    (∃ es, op = .compute es) ∨ (∃ t res en, op = .taskEnd t res en) ∨
    (Minor s s' ∧ (∀ o ∈ outs, ∀ t, ¬ o.isLaunchOf t) ∧ StopFaithful s s' outs) := by
  cases op with
  | compute es => exact Or.inl ⟨es, rfl⟩
  | taskEnd t res en => exact Or.inr (Or.inl ⟨t, res, en, rfl⟩)
  | retract ids =>
    cases hs
    refine Or.inr (Or.inr ⟨Minor.filter s fun _ x => x.id ∉ ids, fun o ho t => ?_, StopFaithful.of_eq rfl _⟩)
    split at ho <;> simp at ho
    subst ho; exact id
  | cancel ids =>
    have hm := cancel_fold_minor ids (s, [])
    have ho := cancel_stopFaithful s ids
    rw [show cancel s ids = (s', outs) from Except.ok.inj hs] at ho
    rw [show ids.foldl cancelOne (s, []) = (s', outs) from Except.ok.inj hs] at hm
    refine Or.inr (Or.inr ⟨hm, fun o h t => ?_, ho.2⟩)
    obtain ⟨c, rfl⟩ := ho.1 o h
    exact id
  | timeoutFire t =>
    obtain ⟨r, hr, hid, _, _, rfl, rfl⟩ := timeoutFire_ok hs
    have hr := List.mem_of_find?_eq_some hr
    refine Or.inr (Or.inr ⟨Minor.reflag s (·.task.id = t) ({ · with stopSent := true, fired := true }) fun _ => rfl,
      fun o ho t => ?_, StopFaithful.reflag s hr hid ({ · with stopSent := true, fired := true }) (fun _ => rfl) (k := .timeout)
        fun h => by simp [h]⟩)
    split at ho <;> simp at ho
    subst ho; exact id
  | retractCheck order =>
    obtain ⟨hm, hrun, ho⟩ := retractCheck_minor hs
    refine Or.inr (Or.inr ⟨hm, fun o h t => ?_, StopFaithful.of_eq hrun _⟩)
    obtain ⟨us, rfl⟩ := ho o h
    exact id
  | newRq id mts =>
    simp only [step, newRq] at hs
    split at hs
    · cases hs
      refine Or.inr (Or.inr ⟨⟨rfl, rfl, fun _ => List.Sublist.refl _, fun _ h => h, fun _ h _ => h, fun i vs h => ?_⟩,
        by simp, StopFaithful.of_eq rfl _⟩)
      rw [List.getElem?_append_left (List.getElem?_eq_some_iff.mp h).1]
      exact h
    · cases hs
  | stop =>
    cases hs
    exact Or.inr (Or.inr ⟨Minor.refl s, by simp [Out.isLaunchOf], StopFaithful.of_eq rfl _⟩)

theorem step_path {s s' : State} {op : Op} {outs : List Out} (hs : step s op = .ok (s', outs)) :
    (∃ es a, op = .compute es ∧ Path (.idle es) { s := s } (.idle []) a ∧ s' = a.s ∧ outs = (finish a).2) ∨
    (∃ t res en r a bl' upd', op = .taskEnd t res en ∧ s.running.find? (fun r => r.task.id == t) = some r ∧
      Path (.flight [] r.task.rq r.rv r.h)
        { s := { s with running := s.running.filter (fun x => x.task.id != t) }, upd := resultUpdates t res }
        (.idle []) a ∧
      s' = { a.s with blocked := bl' } ∧ outs = (finish { a with upd := upd' }).2) ∨
    (Minor s s' ∧ (∀ o ∈ outs, ∀ t, ¬ o.isLaunchOf t) ∧ StopFaithful s s' outs) := by
  rcases step_minor hs with ⟨es, rfl⟩ | ⟨t, res, en, rfl⟩ | h
  · obtain ⟨a, hp, h1, h2⟩ := compute_path hs
    exact .inl ⟨es, a, rfl, hp, h1, h2⟩
  · obtain ⟨r, a, bl', upd', hr, hp, h1, h2, -⟩ := taskEnd_path hs
    exact .inr (.inl ⟨t, res, en, r, a, bl', upd', rfl, hr, hp, h1, h2⟩)
  · exact .inr (.inr h)

end HqModel.Worker
