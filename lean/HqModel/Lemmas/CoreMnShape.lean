import HqModel.Lemmas.CoreMsgRun
import HqModel.Lemmas.CoreInvFull
/-!
The shape of the worker list of a RunningMultiNode task, an invariant of every run from the empty core (no side
condition): the list is **non-empty and duplicate-free** (`MnShape`, `run_mnShape`). `reset_mn_task_workers` visits the
list in order and `unwrap`s the multi-node assignment of each worker — a worker named twice would be found reset at its
second visit — and `task_reject` / `task_running` / `task_finished` read `ws[0]`; the global invariant `InvF` talks about
membership only, so it says neither. Lists come from a scheduling round (`set_mn_task` asserts `is_free()` for every
worker of the set in turn: `TSched.placeMn`; `send_messages` unwraps the root of every placement: `mnMsgs_nonempty`) and
afterwards only lose non-root workers (`TRel.mnl`, `KeepL`). With `InvF` and `MnShape`, `task_reject` of a
RunningMultiNode task (the arm added by the fix of F32) has no panic site of its own (`taskReject_mn_arm`).
-/
namespace HqModel.Core

/-- every RunningMultiNode task has a non-empty, duplicate-free worker list -/
def MnShape (s : State) : Prop := ∀ t ∈ s.tasks, ∀ l, t.state = .runningMN l → l ≠ [] ∧ l.Nodup

instance (s : State) : Decidable (MnShape s) := by
  unfold MnShape
  haveI : DecidablePred fun t : Task => ∀ l, t.state = .runningMN l → l ≠ [] ∧ l.Nodup := fun t => by
    cases hs : t.state with
    | runningMN l =>
      by_cases hc : l ≠ [] ∧ l.Nodup
      · exact isTrue (fun l' e => by rw [hs] at e; cases e; exact hc)
      · exact isFalse (fun hh => hc (hh l hs))
    | _ => exact isTrue (fun l' e => by rw [hs] at e; cases e)
  infer_instance

/-- `send_messages` unwraps the root of every multi-node placement of the round -/
theorem mnMsgs_nonempty (s : State) (l : List TaskId) (ms : List Msg) (h : mnMsgs s l = .ok ms) :
    ∀ x ∈ l, ∃ t root ws, findTask s.tasks x = some t ∧ t.state = .runningMN (root :: ws) := by
  induction l generalizing ms with
  | nil => intro x hx; cases hx
  | cons id rest ih =>
    obtain ⟨t, root, ws, ms', ht, hs, hms, _⟩ := mnMsgs_cons_ok h
    intro x hx
    rcases List.mem_cons.mp hx with e | e
    · subst e; exact ⟨t, root, ws, getTask_spec ht, hs⟩
    · exact ih _ hms x e

/-- a list written by the round is duplicate-free (`TRound.placeMn`) and non-empty: its task is in the round's
multi-node list (`SI.mem_acc`), whose roots `send_messages` unwraps -/
theorem schedule_mnShape {s s' : State} {sol : Solution} {o : Out} (hn : (taskIds s.tasks).Nodup) (hs : MnShape s)
    (h : s.schedule sol = .ok (s', o)) : MnShape s' := by
  have d := schedule_desc h
  have hn' : (taskIds s'.tasks).Nodup := d.frame.nodup hn
  obtain ⟨s3, m, mn, msgs, mm, si, _, hmm, rfl, _⟩ := schedule_si h
  intro t' ht' l' hs'
  have hf' : findTask s3.tasks t'.id = some t' := mem_find_of_nodup hn' ht'
  obtain ⟨t, hf, r⟩ := d.round hn hf'
  cases r with
  | same => exact hs t' (findTask_some_mem hf) l' hs'
  | placeMn ws hw hnd =>
    cases hs'
    refine ⟨?_, hnd⟩
    have hin : t.id ∈ mn := si.mem_acc.mpr ⟨0, l', by rw [stOf_of_find hf, hw], stOf_of_find hf'⟩
    obtain ⟨t2, root, ws, hf2, hst⟩ := mnMsgs_nonempty _ _ _ hmm t.id hin
    cases hf2.symm.trans hf'
    cases hst
    simp
  | _ => cases hs'

theorem step_mnShape {s s' : State} {op : Op} {o : Out} (hn : (taskIds s.tasks).Nodup) (hs : MnShape s)
    (h : step s op = .ok (s', o)) : MnShape s' := by
  by_cases hop : ∃ sol, op = .schedule sol
  · obtain ⟨sol, rfl⟩ := hop
    exact schedule_mnShape hn hs h
  · intro t' ht' l' hs'
    -- every other operation is within `TRel` with `nw`: a worker list only shrinks, keeping the root (`TRel.mnl`)
    have keep : ∀ {t}, Star op.TOf t t' → TRel True (¬ op.isFailureLoss) t t' := fun r =>
      r.lift (TRel.refl _ _) TRel.trans (Op.trel fun _ sol e => hop ⟨sol, e⟩)
    rcases (step_desc h).fr.t t' ht' with ⟨t, ht, r⟩ | ⟨t0, hnew, r⟩
    · obtain ⟨l, hl, k⟩ := (keep r).mnl trivial l' hs'
      exact k.shape (hs t ht l hl)
    · -- a submitted record is Waiting
      obtain ⟨l, hl, _⟩ := (keep r).mnl trivial l' hs'
      cases op with
      | newTasks nts => obtain ⟨_, _, _, _, rfl⟩ := hnew; cases hl
      | _ => exact hnew.elim

theorem mnShape_init : MnShape {} := fun _ h => by cases h

/-- **the shape holds in every state of every run** from the empty core (no side condition on the operations) -/
theorem run_mnShape {ops : List Op} {s : State} {out : Out} (h : run {} ops = .ok (s, out)) : MnShape s :=
  (run_induction (P := fun s => (taskIds s.tasks).Nodup ∧ MnShape s)
    (fun _ _ _ _ hp hs => ⟨step_nodup hp.1 hs, step_mnShape hp.1 hp.2 hs⟩) ops {} _ _
    ⟨List.nodup_nil, mnShape_init⟩ h).2

/-- **`reset_mn_task_workers` cannot panic** on a duplicate-free list of workers that all have a multi-node assignment
for the task -/
theorem resetMnChecked_ok (l : List Nat) : ∀ (s : State) (id : TaskId), l.Nodup →
    (∀ x ∈ l, ∃ wk r st, s.worker? x = some wk ∧ wk.assign = .mn id r st) →
    ∃ s1, resetMnChecked s id l = .ok s1 ∧ s1.tasks = s.tasks ∧ s1.queues = s.queues ∧
      (∀ y, y ∉ l → s1.worker? y = s.worker? y) ∧
      (∀ x ∈ l, ∃ wk, s1.worker? x = some wk ∧ wk.assign = .sn [] wk.total []) := by
  induction l with
  | nil => intro s id _ _; exact ⟨s, rfl, rfl, rfl, fun _ _ => rfl, fun _ h => by cases h⟩
  | cons x rest ih =>
    intro s id hnd hall
    obtain ⟨hx, hnd'⟩ := List.nodup_cons.mp hnd
    obtain ⟨wk, r, st, hw, ha⟩ := hall x List.mem_cons_self
    have hid : wk.id = x := findWorker_some_id hw
    have hrest : ∀ y ∈ rest, ∃ wk' r' st', (s.setWorker wk.emptySn).worker? y = some wk' ∧ wk'.assign = .mn id r' st' := by
      intro y hy
      have hne : y ≠ wk.emptySn.id := by
        show y ≠ wk.id
        rw [hid]; intro e; exact hx (e ▸ hy)
      rw [worker?_setWorker, if_neg hne]
      exact hall y (List.mem_cons_of_mem _ hy)
    obtain ⟨s1, h1, e1, e2, e3, e4⟩ := ih (s.setWorker wk.emptySn) id hnd' hrest
    refine ⟨s1, ?_, e1, e2, ?_, ?_⟩
    · have hg : s.getWorker x = .ok wk := by
        have hw' : s.worker? x = some wk := hw
        simp only [State.getWorker, hw']
      simp only [resetMnChecked, hg, ha, ne_eq, not_true_eq_false, if_false]
      exact h1
    · intro y hy
      have hy1 : y ≠ x := fun e => hy (e ▸ List.mem_cons_self)
      have hy2 : y ∉ rest := fun e => hy (List.mem_cons_of_mem _ e)
      rw [e3 y hy2, worker?_setWorker, if_neg (by show y ≠ wk.id; rw [hid]; exact hy1)]
    · intro y hy
      rcases List.mem_cons.mp hy with e | e
      · subst e
        refine ⟨wk.emptySn, ?_, rfl⟩
        rw [e3 y hx, worker?_setWorker, if_pos (by show y = wk.id; exact hid.symm), hw]
        rfl
      · exact e4 y e

theorem disposeAll_none (p : Int) : ∀ (qs : List Queue), (∀ q ∈ qs, ∀ pp ts, q.prefill = some (pp, ts) → ¬ pp < p) →
    disposeAll qs p = (qs, []) := by
  intro qs
  induction qs with
  | nil => intro _; rfl
  | cons q rest ih =>
    intro h
    have hq : q.checkDispose p = (q, []) := by
      unfold Queue.checkDispose
      cases hp : q.prefill with
      | none => rfl
      | some x =>
        obtain ⟨pp, ts⟩ := x
        have := h q List.mem_cons_self pp ts hp
        simp [this]
    simp only [disposeAll, hq, ih (fun q' hq' => h q' (List.mem_cons_of_mem _ hq')), List.nil_append]

/-- **the common tail of `task_reject`** succeeds when the request has a queue and no prefill of lower priority is
disposed; it makes no callback and sends nothing -/
theorem rejectTail_ok {s1 : State} {task told : Task} {id : TaskId} (ht : s1.task? id = some told) (hid : task.id = id)
    (hq : task.rq < s1.queues.length)
    (hpf : ∀ q ∈ s1.queues, ∀ pp ts, q.prefill = some (pp, ts) → ¬ pp < task.prio) :
    ∃ s', rejectTail s1 task = .ok (s', {}, true) ∧ s'.task? id = some { task with state := .waiting 0 } ∧
      s'.workers = s1.workers := by
  have hd := disposeAll_none task.prio s1.queues hpf
  have hnq : ¬ task.rq ≥ s1.queues.length := Nat.not_le.mpr hq
  refine ⟨{ s1.setTask { task with state := .waiting 0 } with
      queues := modifyQueue s1.queues task.rq fun q => { q with ready := readyAdd q.ready task.id task.prio } },
    ?_, ?_, rfl⟩
  · simp only [rejectTail, State.addReady]
    rw [show (s1.setTask { task with state := .waiting 0 }).queues = s1.queues from rfl, if_neg hnq, hd]
    simp only [State.retract, State.processRetracted, groupByWorker, List.foldl_nil, List.map_nil]
  · show findTask (putTask s1.tasks _) id = _
    exact findTask_putTask_same (told := told) ht hid

/-- **the multi-node arm of `task_reject` has no reachable panic site**: in a state with `InvF` and `MnShape`, for a
RunningMultiNode task and ANY registered worker `w`, the message is ignored (`false`; the state differs from `s` only
in the record of `w` — its `blocked` list), or `w` is the root, has not started the task, every worker of the list is
reset to an empty single-node assignment and the result is that of the common tail -/
theorem taskReject_mn_arm {s : State} (hi : InvF s) (hsh : MnShape s) {w : Nat} {id : TaskId} {rv : Option Nat}
    {task : Task} {ws : List Nat} (ht : s.task? id = some task) (hs : task.state = .runningMN ws)
    (hw : (s.worker? w).isSome = true) :
    (∃ s0, s.taskReject w id rv = .ok (s0, {}, false) ∧ s0.tasks = s.tasks ∧ s0.queues = s.queues ∧
        ∀ y, y ≠ w → s0.worker? y = s.worker? y) ∨
    (∃ s1 others, ws = w :: others ∧ s1.tasks = s.tasks ∧ s1.queues = s.queues ∧
        (∀ y, y ∉ ws → y ≠ w → s1.worker? y = s.worker? y) ∧
        (∀ x ∈ ws, ∃ wk, s1.worker? x = some wk ∧ wk.assign = .sn [] wk.total []) ∧
        s.taskReject w id rv = rejectTail s1 task) := by
  obtain ⟨hne, hnd⟩ := hsh task (findTask_some_mem ht) ws hs
  obtain ⟨wk0, hw0⟩ := Option.isSome_iff_exists.mp hw
  have hg : s.getWorker w = .ok wk0 := by simp only [State.getWorker, hw0]
  have hidw : wk0.id = w := findWorker_some_id hw0
  cases ws with
  | nil => exact absurd rfl hne
  | cons root others =>
    -- the record of `w` with the request blocked
    generalize hwk : (match rv with
      | some v => ({ wk0 with blocked := if wk0.blocked.contains (task.rq, v) then wk0.blocked
          else wk0.blocked ++ [(task.rq, v)] } : Worker)
      | none => wk0) = wk
    have hwa : wk.assign = wk0.assign := by subst hwk; cases rv <;> rfl
    have hwi : wk.id = w := by subst hwk; cases rv <;> exact hidw
    have hs0 : ∀ y, y ≠ w → (s.setWorker wk).worker? y = s.worker? y := by
      intro y hy
      rw [worker?_setWorker, if_neg (by rw [hwi]; exact hy)]
    have hun : s.taskReject w id rv =
        (if w ≠ root then .ok (s.setWorker wk, {}, false) else
          match wk.assign with
          | .sn .. => .ok (s.setWorker wk, {}, false)
          | .mn _ _ started =>
            if started then .ok (s.setWorker wk, {}, false) else
            match resetMnChecked (s.setWorker wk) id (root :: others) with
            | .error e => .error e
            | .ok s1 => rejectTail s1 task) := by
      subst hwk
      simp only [State.taskReject, ht, hg, hs]
      rfl
    rw [hun]
    by_cases hroot : w ≠ root
    · rw [if_pos hroot]
      exact .inl ⟨_, rfl, rfl, rfl, hs0⟩
    · rw [if_neg hroot]
      have hroot : w = root := Classical.not_not.mp hroot
      subst hroot
      obtain ⟨wkm, r, st, hwm, ham⟩ := hi.mn_complete ht hs (x := w) List.mem_cons_self
      have : wkm = wk0 := by
        have := hwm.symm.trans hw0
        cases this; rfl
      subst this
      rw [hwa, ham]
      cases st with
      | true => exact .inl ⟨_, rfl, rfl, rfl, hs0⟩
      | false =>
        simp only [Bool.false_eq_true, if_false]
        have hall : ∀ x ∈ w :: others, ∃ wk' r' st', (s.setWorker wk).worker? x = some wk' ∧ wk'.assign = .mn id r' st' := by
          intro x hx
          by_cases hxw : x = w
          · subst hxw
            refine ⟨wk, r, false, ?_, by rw [hwa, ham]⟩
            rw [worker?_setWorker, if_pos hwi.symm, hw0]; rfl
          · rw [hs0 x hxw]
            exact hi.mn_complete ht hs hx
        obtain ⟨s1, h1, e1, e2, e3, e4⟩ := resetMnChecked_ok _ (s.setWorker wk) id hnd hall
        rw [h1]
        exact .inr ⟨s1, others, rfl, e1, e2, fun y hy hyw => (e3 y hy).trans (hs0 y hyw), e4, rfl⟩

end HqModel.Core
