import HqModel.Lemmas.CoreMsgBase
/-!
Message-level facts, for every function of `Model.lean` / `Reactor.lean` that is reachable from an operation other than
`newTasks` / `schedule`: how it changes task records (`Evo`, read off its descent), the sends it emits (`Tr`) and the
tasks its `started` callbacks name — together `Fx`.
-/
namespace HqModel.Core

/-- everything a function guarantees: task records, sends, and which tasks its `started` callbacks (`r`) name -/
structure Fx (nw cr : Prop) (s : State) (l r : List (TaskId × Nat)) (s' : State) : Prop where
  evo : Evo nw cr s s'
  tr : Tr nw s l s'
  sx : ∀ q ∈ r, ∃ t ∈ s.tasks, t.id = q.1

theorem Fx.silent {nw cr : Prop} {s s' : State} (e : Evo nw cr s s') : Fx nw cr s [] [] s' :=
  ⟨e, Tr.nil _ _ _, fun _ h => by cases h⟩

theorem Fx.of_tr {nw cr : Prop} {s s' : State} {l} (e : Evo nw cr s s') (t : Tr nw s l s') : Fx nw cr s l [] s' :=
  ⟨e, t, fun _ h => by cases h⟩

theorem Fx.comp {nw cr : Prop} {s s1 s2 : State} {l1 l2 r1 r2} (a : Fx nw cr s l1 r1 s1) (b : Fx nw cr s1 l2 r2 s2) :
    Fx nw cr s (l1 ++ l2) (r1 ++ r2) s2 := by
  refine ⟨a.evo.trans b.evo, Tr.comp a.evo a.tr b.evo b.tr, ?_⟩
  intro q hq
  rcases List.mem_append.mp hq with h | h
  · exact a.sx q h
  · obtain ⟨t1, ht1, hid⟩ := b.sx q h
    obtain ⟨t, ht, r⟩ := a.evo t1 ht1
    exact ⟨t, ht, r.id ▸ hid⟩

theorem Fx.then {nw cr : Prop} {s s1 s2 : State} {l r} (a : Fx nw cr s l r s1) (e : Evo nw cr s1 s2) :
    Fx nw cr s l r s2 := by
  have := a.comp (Fx.silent e)
  simpa using this

theorem Fx.after {nw cr : Prop} {s s1 s2 : State} {l r} (e : Evo nw cr s s1) (b : Fx nw cr s1 l r s2) :
    Fx nw cr s l r s2 := by
  have := (Fx.silent e).comp b
  simpa using this

theorem Fx.mono {nw cr cr' : Prop} {s s' : State} {l r} (a : Fx nw cr s l r s') (h : cr' → cr) : Fx nw cr' s l r s' :=
  ⟨a.evo.mono id h, a.tr, a.sx⟩

/-- what an operation part that places no task says about its sends, read without that knowledge -/
theorem Fx.weaken {cr : Prop} {s s' : State} {l r : List (TaskId × Nat)} (f : Fx True cr s l r s') :
    Tr False s l s' ∧ (∀ p ∈ l, ∃ t ∈ s.tasks, t.id = p.1 ∧ t.inst ≤ p.2 ∧ (locked t.state → t.inst < p.2)) ∧
    ∀ q ∈ r, ∃ t ∈ s.tasks, t.id = q.1 :=
  ⟨f.tr.weaken, fun p hp => by
    obtain ⟨t, ht, a, b, c, _⟩ := f.tr.lo p hp
    exact ⟨t, ht, a, b, c trivial⟩, f.sx⟩

theorem Fx.of_silent {nw cr : Prop} {s s' : State} {l r} (e : Evo nw cr s s') (h1 : l = []) (h2 : r = []) :
    Fx nw cr s l r s' := by subst h1; subst h2; exact Fx.silent e

theorem retract_evo {nw cr : Prop} {s s' : State} {l : List TaskId} {o : Out} (h : s.retract l = .ok (s', o)) :
    Evo nw cr s s' ∧ sends o.msgs = [] ∧ o.cbs = [] :=
  ⟨(retract_desc (er := True) h).evo TCalm.trel, sends_of_noCompute (retract_out h).1, (retract_out h).2⟩

theorem cancelTasks_evo {nw cr : Prop} {s s' : State} {ids : List TaskId} {o : Out}
    (h : s.cancelTasks ids = .ok (s', o)) : Evo nw cr s s' ∧ sends o.msgs = [] ∧ o.cbs = [] :=
  ⟨(cancelTasks_desc h).evo TCalm.trel, sends_of_noCompute (cancelTasks_out h).1, (cancelTasks_out h).2⟩

theorem taskFailed_evo {nw cr : Prop} {s s' : State} {worker : Option Nat} {id : TaskId} {ret : List TaskId} {o : Out}
    (h : s.taskFailed worker id ret = .ok (s', o)) : Evo nw cr s s' ∧ sends o.msgs = [] ∧ starts o.cbs = [] := by
  obtain ⟨a, b⟩ := taskFailed_out h
  exact ⟨(taskFailed_desc h).evo TCalm.trel, sends_of_noCompute a, by rcases b with b | ⟨_, b⟩ <;> rw [b] <;> rfl⟩

theorem taskRunning_starts {s s' : State} {w : Nat} {id : TaskId} {rv : Nat} {o : Out}
    (h : s.taskRunning w id rv = .ok (s', o)) :
    starts o.cbs = [] ∨ ∃ task, s.task? id = some task ∧ starts o.cbs = [(id, task.inst)] := by
  rcases (taskRunning_out h).2 with e | ⟨task, ws, ht, e⟩ <;> rw [e]
  · exact .inl rfl
  · exact .inr ⟨task, ht, rfl⟩

theorem taskRunning_fx {nw cr : Prop} {s s' : State} {w : Nat} {id : TaskId} {rv : Nat} {o : Out}
    (h : s.taskRunning w id rv = .ok (s', o)) :
    Fx nw cr s (sends o.msgs) (starts o.cbs) s' := by
  refine ⟨(taskRunning_desc h).evo TOwn.trel, by rw [(taskRunning_out h).1]; exact Tr.nil _ _ _, fun q hq => ?_⟩
  rcases taskRunning_starts h with e | ⟨task, ht, e⟩
  · rw [e] at hq; cases hq
  · rw [e, List.mem_singleton] at hq
    subst hq
    exact ⟨task, findTask_some_mem ht, findTask_some_id ht⟩

theorem redirect_send {nw cr : Prop} {s s1 : State} {id : TaskId} {task t' : Task} (hn : (taskIds s.tasks).Nodup)
    (hts : s1.tasks = s.tasks) (ht : s.task? id = some task) (hr : TRel nw cr task t')
    (hw : ¬ isWaiting t'.state) (hl : ¬ locked t'.state) :
    Evo nw cr s (s1.setTask t') ∧ Tr nw s [(t'.id, t'.inst)] (s1.setTask t') := by
  have e : Evo nw cr s (s1.setTask t') := Evo.set hts ht hr
  refine ⟨e, Tr.of_post e ?_ ?_⟩
  · show (taskIds (putTask s1.tasks _)).Nodup
    rw [taskIds_putTask, hts]; exact hn
  · intro p hp
    simp only [List.mem_singleton] at hp
    subst hp
    refine ⟨t', ?_, rfl, hw, hl⟩
    show findTask (putTask s1.tasks t') t'.id = some t'
    rw [hts]
    have hid : t'.id = id := hr.id.trans (findTask_some_id ht)
    exact findTask_putTask_same (by rw [hid]; exact ht) rfl

theorem taskReject_fx {nw cr : Prop} {s s' : State} {w : Nat} {id : TaskId} {rv : Option Nat} {o : Out} {b : Bool}
    (hn : (taskIds s.tasks).Nodup) (h : s.taskReject w id rv = .ok (s', o, b)) :
    Fx nw cr s (sends o.msgs) (starts o.cbs) s' := by
  rw [taskReject_cbs h]
  refine Fx.of_tr ((taskReject_desc h).evo TOwn.trel) ?_
  have quiet : ∀ {s1 : State} {task : Task}, rejectTail s1 task = .ok (s', o, b) → Tr nw s (sends o.msgs) s' :=
    fun h => by rw [sends_of_noCompute (rejectTail_out h).1]; exact Tr.nil _ _ _
  rcases taskReject_cases h with ⟨_, e⟩ | ⟨task, wk0, ht, _, ha⟩
  · cases e; exact Tr.nil _ _ _
  · cases ha with
    | stale _ _ h => exact quiet h
    | sn _ _ _ _ h => exact quiet h
    | pre _ _ _ h => exact quiet h
    | otherRetracting => exact Tr.nil _ _ _
    | @redirected target trv hs =>
      obtain ⟨_, b⟩ := redirect_send (nw := nw) (cr := cr)
        (s1 := { s.setWorker (wk0.blockRq task.rq rv) with
          redirects := (s.setWorker (wk0.blockRq task.rq rv)).redirects.filter (·.1 ≠ id) })
        (t' := { task with state := .assigned target trv }) hn rfl ht
        (TRel.state task _ (by simp [hs]) (by simp [hs])) (by simp) (by simp)
      simpa [computeOne] using b
    | retr _ _ h => exact quiet h
    | mnIgnored => exact Tr.nil _ _ _
    | mn _ _ _ h => exact quiet h

theorem taskFinished_evo {nw cr : Prop} {s s' : State} {w : Nat} {id : TaskId} {o : Out} {b : Bool}
    (h : s.taskFinished w id = .ok (s', o, b)) : Evo nw cr s s' ∧ sends o.msgs = [] ∧ starts o.cbs = [] := by
  obtain ⟨a, b⟩ := taskFinished_out h
  exact ⟨(taskFinished_desc h).evo TOwn.trel, sends_of_noCompute a, by rcases b with b | b <;> rw [b] <;> rfl⟩

theorem upd1_fx {nw cr : Prop} {s s1 : State} {w : Nat} {u : Update} {rets rets1 : List (List TaskId)} {o : Out}
    (hn : (taskIds s.tasks).Nodup) (h : s.upd1 w u rets = .ok (s1, o, rets1)) :
    Fx nw cr s (sends o.msgs) (starts o.cbs) s1 := by
  rcases upd1_cases h with ⟨t, b, _, h1, _⟩ | ⟨t, _, h1, _⟩ | ⟨t, rv, _, h1, _⟩ | ⟨t, rv, b, _, h1, _⟩ | ⟨rq, rv, _, h1, rfl, _⟩
  · obtain ⟨a, b, c⟩ := taskFinished_evo (nw := nw) (cr := cr) h1
    exact Fx.of_silent a b c
  · obtain ⟨a, b, c⟩ := taskFailed_evo (nw := nw) (cr := cr) h1
    exact Fx.of_silent a b c
  · exact taskRunning_fx h1
  · exact taskReject_fx hn h1
  · exact Fx.silent ((requestEnabled_desc (RT := TCalm) (er := True) h1).evo TCalm.trel)

theorem updateLoop_fx {nw cr : Prop} (us : List Update) (s s' : State) (w : Nat) (rets rets' : List (List TaskId))
    (o o' : Out) (n n' : Bool) (hn : (taskIds s.tasks).Nodup)
    (h : s.updateLoop w us rets o n = .ok (s', o', n', rets')) :
    ∃ l r, sends o'.msgs = sends o.msgs ++ l ∧ starts o'.cbs = starts o.cbs ++ r ∧ Fx nw cr s l r s' := by
  induction us generalizing s rets o n with
  | nil =>
    cases h
    exact ⟨[], [], by simp, by simp, Fx.silent (Evo.refl _ _ _)⟩
  | cons u rest ih =>
    obtain ⟨s1, o1, rets1, n1, h1, h2⟩ := updateLoop_cons_ok h
    have f1 := upd1_fx (nw := nw) (cr := cr) hn h1
    obtain ⟨l2, r2, a, b, f2⟩ := ih _ _ _ _ ((upd1_desc h1).frame.nodup hn) h2
    exact ⟨sends o1.msgs ++ l2, starts o1.cbs ++ r2, by simp [a], by simp [b], f1.comp f2⟩

theorem taskUpdate_fx {nw cr : Prop} {s s' : State} {w : Nat} {us : List Update} {rets : List (List TaskId)} {o : Out}
    (hn : (taskIds s.tasks).Nodup) (h : s.taskUpdate w us rets = .ok (s', o)) :
    Fx nw cr s (sends o.msgs) (starts o.cbs) s' := by
  obtain ⟨s1, need, rets', h1, rfl⟩ := taskUpdate_path h
  obtain ⟨l, r, a, b, f⟩ := updateLoop_fx (nw := nw) (cr := cr) _ _ _ _ _ _ _ _ _ _ hn h1
  simp only [sends_nil, List.nil_append, starts_nil] at a b
  rw [a, b]
  split
  · exact f.then (Evo.of_tasks rfl)
  · exact f

/-- the items collected so far are Assigned to their targets -/
def ItemsOk (s : State) (acc : List (Nat × TaskId × Nat)) : Prop :=
  ∀ it ∈ acc, ∃ t, findTask s.tasks it.2.1 = some t ∧ t.state = .assigned it.1 it.2.2

theorem retractLoop_items (ids : List TaskId) (s s' : State) (w : Nat) (acc acc' : List (Nat × TaskId × Nat))
    (hacc : ItemsOk s acc) (h : s.retractLoop w ids acc = .ok (s', acc')) : ItemsOk s' acc' := by
  induction ids generalizing s acc with
  | nil => cases h; exact hacc
  | cons id rest ih =>
    rcases retractLoop_cons_ok h with ⟨_, h'⟩ | ⟨task, ht, hs, h'⟩
    · exact ih _ _ hacc h'
    · have hid : task.id = id := findTask_some_id ht
      -- every collected item names another task, so it is still found after the record of `id` was replaced
      have hkeep : ∀ (s1 : State) (t' : Task), s1.tasks = s.tasks → t'.id = id → ItemsOk (s1.setTask t') acc := by
        intro s1 t' hts hid' it hit
        obtain ⟨t, hf, hst⟩ := hacc it hit
        refine ⟨t, ?_, hst⟩
        show findTask (putTask s1.tasks t') it.2.1 = some t
        rw [findTask_putTask, hts, hid', if_neg]
        · exact hf
        · intro e
          rw [e] at hf
          cases hf.symm.trans ht
          rw [hs] at hst; cases hst
      rcases h' with ⟨target, rv, _, h'⟩ | ⟨_, h'⟩
      · refine ih _ _ (fun it hit => ?_) h'
        rcases List.mem_append.mp hit with h1 | h1
        · exact hkeep { s with redirects := s.redirects.filter (·.1 ≠ id) } { task with state := .assigned target rv }
            rfl hid it h1
        · simp only [List.mem_singleton] at h1
          subst h1
          exact ⟨_, findTask_putTask_same (ts := s.tasks) ht hid, rfl⟩
      · exact ih _ _ (hkeep s { task with state := .waiting 0 } rfl hid) h'

theorem computeList_spec (s : State) (l : List (TaskId × Option Nat)) (res : List (TaskId × Nat × Option Nat × List Nat))
    (h : computeList s l = .ok res) :
    ∀ x ∈ res, ∃ y ∈ l, ∃ t, findTask s.tasks y.1 = some t ∧ (x.1, x.2.1) = (t.id, t.inst) := by
  induction l generalizing res with
  | nil => cases h; exact fun _ hx => nomatch hx
  | cons y rest ih =>
    obtain ⟨id, rv⟩ := y
    obtain ⟨t, l', ht, hl', rfl⟩ := computeList_cons_ok h
    intro x hx
    rcases List.mem_cons.mp hx with h1 | h1
    · subst h1; exact ⟨(id, rv), List.mem_cons_self, t, getTask_spec ht, rfl⟩
    · obtain ⟨y', hy', r⟩ := ih _ hl' x h1
      exact ⟨y', List.mem_cons_of_mem _ hy', r⟩

theorem computeItems_spec (s : State) (its : List (Nat × TaskId × Nat)) (l : List (TaskId × Nat × Option Nat × List Nat))
    (h : computeItems s its = .ok l) :
    ∀ x ∈ l, ∃ it ∈ its, ∃ t, findTask s.tasks it.2.1 = some t ∧ (x.1, x.2.1) = (t.id, t.inst) := by
  intro x hx
  obtain ⟨y, hy, r⟩ := computeList_spec s _ l (computeItems_eq s its ▸ h) x hx
  obtain ⟨it, hit, rfl⟩ := List.mem_map.mp hy
  exact ⟨it, hit, r⟩

theorem groupComputeAux_spec (s : State) (items : List (Nat × TaskId × Nat)) (targets : List Nat) (ms : List Msg)
    (h : groupComputeAux s items targets = .ok ms) :
    ∀ p ∈ sends ms, ∃ it ∈ items, ∃ t, findTask s.tasks it.2.1 = some t ∧ p = (t.id, t.inst) := by
  induction targets generalizing ms with
  | nil => simp only [groupComputeAux] at h; cases h; intro p hp; cases hp
  | cons target rest ih =>
    simp only [groupComputeAux] at h
    split at h
    · cases h
    · rename_i l hl
      split at h
      · cases h
      · rename_i ms' hms
        cases h
        intro p hp
        simp only [sends_cons, sendsOf_compute, List.mem_append, List.mem_map] at hp
        rcases hp with ⟨x, hx, rfl⟩ | hp
        · obtain ⟨it, hit, t, hf, e⟩ := computeItems_spec _ _ _ hl x hx
          exact ⟨it, (List.mem_filter.mp hit).1, t, hf, e⟩
        · exact ih _ hms p hp

theorem retractResponse_fx {nw cr : Prop} {s s' : State} {w : Nat} {ids : List TaskId} {o : Out}
    (hn : (taskIds s.tasks).Nodup) (h : s.retractResponse w ids = .ok (s', o)) :
    Fx nw cr s (sends o.msgs) (starts o.cbs) s' := by
  have hd := retractResponse_desc (RW := WCalm) h
  have e : Evo nw cr s s' := hd.evo TOwn.trel
  obtain ⟨items, msgs, h1, hm, rfl⟩ := retractResponse_path h
  have hok := retractLoop_items _ _ _ _ _ _ (fun _ h => by cases h) h1
  refine Fx.of_tr e (Tr.of_post e (hd.frame.nodup hn) ?_)
  intro p hp
  obtain ⟨it, hit, t, hf, rfl⟩ := groupComputeAux_spec _ _ _ _ hm p hp
  obtain ⟨t2, hf2, hs2⟩ := hok it hit
  have : some t = some t2 := hf.symm.trans hf2
  cases this
  refine ⟨t, ?_, rfl, by simp [hs2], by simp [hs2]⟩
  rw [findTask_some_id hf]; exact hf

theorem lostPrefilled_evo {nw cr : Prop} (ids : List TaskId) {s s' : State} (h : s.lostPrefilled ids = .ok s') :
    Evo nw cr s s' :=
  (lostPrefilled_desc (w := 0) (L := fun _ => True) (RW := WCalm) ids (fun _ _ => trivial) h).evo_loss

theorem lostAssigned_evo {nw cr : Prop} (ids : List TaskId) {s s' : State} {ru ru' re re' : List TaskId}
    (h : s.lostAssigned ids ru re = .ok (s', ru', re')) : Evo nw cr s s' :=
  (lostAssigned_desc (w := 0) (L := fun _ => True) (RW := WCalm) ids (fun _ _ => trivial) h).evo_loss

theorem lostRetracting_fx {nw cr : Prop} (ts : List Task) (s s' : State) (w : Nat) (o o' : Out)
    (hn : (taskIds s.tasks).Nodup) (h : s.lostRetracting w ts o = .ok (s', o')) :
    ∃ l, sends o'.msgs = sends o.msgs ++ l ∧ o'.cbs = o.cbs ∧ Evo nw cr s s' ∧ Tr nw s l s' := by
  induction ts generalizing s o with
  | nil =>
    cases h
    exact ⟨[], by simp, rfl, Evo.refl _ _ _, Tr.nil _ _ _⟩
  | cons t0 rest ih =>
    rcases lostRetracting_cons_ok h with ⟨_, h'⟩ | ⟨task0, ht, hs, ⟨target, rv, _, h'⟩ | ⟨_, h'⟩⟩
    · exact ih _ _ hn h'
    · obtain ⟨a, b⟩ := redirect_send (nw := nw) (cr := cr)
        (s1 := { s with redirects := s.redirects.filter (·.1 ≠ task0.id) })
        (t' := { task0 with inst := task0.inst + 1, state := .assigned target rv }) hn rfl ht
        (TRel.bump task0 _ (by simp [hs]) (by simp)) (by simp) (by simp)
      obtain ⟨l, c, d, e, f⟩ := ih _ _ (by show (taskIds (putTask s.tasks _)).Nodup; rw [taskIds_putTask]; exact hn) h'
      refine ⟨(task0.id, task0.inst + 1) :: l, ?_, ?_, a.trans e, Tr.comp a b e f⟩
      · rw [c]; simp [computeOne]
      · rw [d]; simp
    · have e1 : Evo nw cr s (s.setTask { task0 with inst := task0.inst + 1, state := .waiting 0 }) :=
        Evo.set rfl ht (TRel.bump task0 _ (by simp) (by simp))
      obtain ⟨l, c, d, e, f⟩ := ih _ _ (by show (taskIds (putTask s.tasks _)).Nodup; rw [taskIds_putTask]; exact hn) h'
      exact ⟨l, c, d, e1.trans e, Tr.after_silent e1 e f⟩

theorem crashLoop_evo {nw : Prop} (ids : List TaskId) (s s' : State) (f : Bool) (rets : List (List TaskId)) (o o' : Out)
    (h : s.crashLoop f ids rets o = .ok (s', o')) :
    Evo nw (f = false) s s' ∧ sends o'.msgs = sends o.msgs ∧ starts o'.cbs = starts o.cbs := by
  obtain ⟨x, c, e1, n1, e2, hc⟩ := crashLoop_out h
  exact ⟨((crashLoop_desc (w := 0) (L := fun _ => True) ids h).evo TLoss.trel).mono id fun e => by simp [e],
    by rw [e1, sends_append, sends_of_noCompute n1, List.append_nil],
    by rw [e2, starts_append, starts_of_errors hc, List.append_nil]⟩

theorem lossPart1_evo {nw cr : Prop} {s0 s1 : State} {w : Nat} {a : Assign} {order running retracted : List TaskId}
    (h : NPL.lossPart1 s0 w a order = .ok (s1, running, retracted)) :
    Evo nw cr s0 s1 ∧ taskIds s1.tasks = taskIds s0.tasks :=
  ⟨(lossPart1_desc h).evo_loss, (lossPart1_desc (fail := False) h).frame.keep⟩

theorem removeWorker_fx_starts {nw : Prop} {s s' : State} {w : Nat} {reason : String} {f : Bool} {order : List TaskId}
    {rets : List (List TaskId)} {o : Out} (hn : (taskIds s.tasks).Nodup)
    (h : s.removeWorker w reason f order rets = .ok (s', o)) :
    Fx nw (f = false) s (sends o.msgs) (starts o.cbs) s' ∧ starts o.cbs = [] := by
  obtain ⟨wk, s1, s2, s3, s4, running, retracted, out1, out2, _, hp1, h2, h3, h4, rfl⟩ := removeWorker_phases h
  obtain ⟨e1, ids1⟩ := lossPart1_evo (nw := nw) (cr := f = false) hp1
  have hn1 : (taskIds s1.tasks).Nodup := by rw [ids1]; exact hn
  obtain ⟨l, a2, b2, e2, t2⟩ := lostRetracting_fx (nw := nw) (cr := f = false) _ _ _ _ _ _ hn1 h2
  obtain ⟨e3, a3, b3⟩ := retract_evo (nw := nw) (cr := f = false) h3
  obtain ⟨e4, a4, b4⟩ := crashLoop_evo (nw := nw) _ _ _ _ _ _ _ h4
  have hs : sends o.msgs = l := by rw [a4]; simp [a3, a2]
  have hc : starts o.cbs = [] := by rw [b4]; simp [b3, b2, startsOf]
  refine ⟨?_, hc⟩
  rw [hs, hc]
  have e1' : Evo nw (f = false) s s1 := e1
  exact ((Fx.after e1' (Fx.of_tr e2 t2)).then (e3.trans e4)).then (Evo.of_tasks rfl)

theorem removeWorker_fx {nw : Prop} {s s' : State} {w : Nat} {reason : String} {f : Bool} {order : List TaskId}
    {rets : List (List TaskId)} {o : Out} (hn : (taskIds s.tasks).Nodup)
    (h : s.removeWorker w reason f order rets = .ok (s', o)) :
    Fx nw (f = false) s (sends o.msgs) (starts o.cbs) s' := (removeWorker_fx_starts hn h).1

end HqModel.Core
