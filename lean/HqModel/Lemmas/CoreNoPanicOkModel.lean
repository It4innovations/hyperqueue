import HqModel.Lemmas.CoreNoPanicBase
/-!
C09 progress: a function returns `.ok` from local facts about the state it is applied to — the functions of
`Core/Model.lean`, the small loops of `Core/Reactor.lean`, `on_retract_response` (no hypothesis at all) — and how those
local facts follow from the invariants (`held_removable`, `retrReady_of`). At the head, the look-ups they share: what
membership in `asgW` / `preW` / `mnW` says of the worker record, a record looked up after another was put.
-/

namespace HqModel.Core

namespace NP

theorem mem_asgW_elim {ws : List Worker} {w : Nat} {t : TaskId} (h : t ∈ asgW ws w) :
    ∃ wk A F P, findWorker ws w = some wk ∧ wk.assign = .sn A F P ∧ t ∈ A := by
  unfold asgW at h
  split at h
  · rename_i wk hw
    unfold wAsg at h
    split at h
    · rename_i A F P ha; exact ⟨wk, A, F, P, hw, ha, h⟩
    · cases h
  · cases h

theorem mem_preW_elim {ws : List Worker} {w : Nat} {t : TaskId} (h : t ∈ preW ws w) :
    ∃ wk A F P, findWorker ws w = some wk ∧ wk.assign = .sn A F P ∧ t ∈ P := by
  unfold preW at h
  split at h
  · rename_i wk hw
    unfold wPre at h
    split at h
    · rename_i A F P ha; exact ⟨wk, A, F, P, hw, ha, h⟩
    · cases h
  · cases h

theorem mnW_elim {ws : List Worker} {w : Nat} {t : TaskId} (h : mnW ws w = some t) :
    ∃ wk root st, findWorker ws w = some wk ∧ wk.assign = .mn t root st := by
  unfold mnW at h
  split at h
  · rename_i wk hw
    unfold wMn at h
    split at h
    · rename_i t' root st ha; cases h; exact ⟨wk, root, st, hw, ha⟩
    · cases h
  · cases h

theorem task?_setTask_ne {s : State} {t' : Task} {x : TaskId} (h : x ≠ t'.id) :
    (s.setTask t').task? x = s.task? x := by
  rw [task?_setTask, if_neg h]

theorem worker?_setWorker_ne {s : State} {wk : Worker} {x : Nat} (h : x ≠ wk.id) :
    (s.setWorker wk).worker? x = s.worker? x := by
  rw [worker?_setWorker, if_neg h]

theorem worker?_setWorker_self {s : State} {wk wk0 : Worker} {x : Nat} (hx : wk.id = x) (h : s.worker? x = some wk0) :
    (s.setWorker wk).worker? x = some wk := by
  rw [worker?_setWorker, if_pos hx.symm, h]; rfl

theorem addReady_qlen {s s' : State} {t : Task} {r : List TaskId} (h : s.addReady t = .ok (s', r)) :
    s'.queues.length = s.queues.length :=
  (addReady_desc (RT := fun _ _ => True) (RW := fun _ _ => True) (er := False) h).frame.ql

theorem queueRemove_qlen {s s' : State} {rq : Nat} {t : TaskId} {p : Int} (h : s.queueRemove rq t p = .ok s') :
    s'.queues.length = s.queues.length :=
  (queueRemove_desc (RT := fun _ _ => True) (RW := fun _ _ => True) (er := False) h).frame.ql

theorem isSome_findWorker_putWorker {ws : List Worker} {wk : Worker} {x : Nat}
    (h : (findWorker ws x).isSome = true) : (findWorker (putWorker ws wk) x).isSome = true := by
  rw [findWorker_putWorker]
  split
  · simpa using h
  · exact h

theorem isSome_findTask_putTask {ts : List Task} {t : Task} {x : TaskId}
    (h : (findTask ts x).isSome = true) : (findTask (putTask ts t) x).isSome = true := by
  rw [findTask_putTask]
  split
  · simpa using h
  · exact h

theorem addReady_ok {s : State} {t : Task} (h : t.rq < s.queues.length) : ∃ r, s.addReady t = .ok r :=
  ⟨_, addReady_ok_iff.mpr ⟨h, rfl, rfl⟩⟩

theorem queueRemove_ok {s : State} {rq : Nat} {t : TaskId} {p : Int} (h : rq < s.queues.length) :
    ∃ s', s.queueRemove rq t p = .ok s' :=
  ⟨_, queueRemove_ok_iff.mpr ⟨h, rfl⟩⟩

theorem removePrefilled_ok {s : State} {rq : Nat} {t : TaskId} {q : Queue} {pp : Int} {ts : List TaskId}
    (hq : s.queues[rq]? = some q) (hp : q.prefill = some (pp, ts)) (hm : t ∈ ts) :
    ∃ s', s.removePrefilled rq t = .ok s' :=
  ⟨_, removePrefilled_ok_iff.mpr ⟨q, pp, ts, hq, hp, hm, rfl⟩⟩

theorem movePrefilledToReady_ok {s : State} {rq : Nat} {t : TaskId} {q : Queue} {pp : Int} {ts : List TaskId}
    (hq : s.queues[rq]? = some q) (hp : q.prefill = some (pp, ts)) (hm : t ∈ ts) :
    ∃ s', s.movePrefilledToReady rq t = .ok s' :=
  ⟨_, movePrefilledToReady_ok_iff.mpr ⟨q, pp, ts, hq, hp, hm, rfl⟩⟩

/-- the id is a Prefilled task and its worker lists it -/
def RetrReady (s : State) (x : TaskId) : Prop :=
  ∃ t w wk A F P, s.task? x = some t ∧ t.state = .prefilled w ∧ s.worker? w = some wk ∧ wk.assign = .sn A F P ∧ x ∈ P

theorem processRetracted_ok : ∀ (l : List TaskId) (s : State) (acc : List (Nat × TaskId)), l.Nodup →
    (∀ x ∈ l, RetrReady s x) → ∃ r, s.processRetracted l acc = .ok r
  | [], s, acc, _, _ => ⟨_, rfl⟩
  | t :: rest, s, acc, hnd, h => by
    obtain ⟨task, w, wk, A, F, P, ht, hs, hw, ha, hm⟩ := h t List.mem_cons_self
    have hid : task.id = t := findTask_some_id ht
    have hwid : wk.id = w := findWorker_some_id hw
    have hww := withWorker_ok (f := fun x => x.removePrefill t) hw (removePrefill_ok ha hm)
    simp only [State.processRetracted, getTask_ok ht, hs, hww]
    apply processRetracted_ok rest
    · exact (List.nodup_cons.mp hnd).2
    · intro x hx
      have hne : x ≠ t := fun e => (List.nodup_cons.mp hnd).1 (e ▸ hx)
      obtain ⟨tx, wx, wkx, Ax, Fx, Px, htx, hsx, hwx, hax, hmx⟩ := h x (List.mem_cons_of_mem _ hx)
      have h1 : (State.setTask (s.setWorker { wk with assign := .sn A F (P.erase t) })
          { task with state := .retracting w }).task? x = some tx :=
        (task?_setTask_ne (by rw [hid]; exact hne)).trans htx
      by_cases hwx' : wx = w
      · subst hwx'
        rw [hw] at hwx; cases hwx
        rw [ha] at hax; cases hax
        exact ⟨tx, wx, { wk with assign := .sn A F (P.erase t) }, A, F, P.erase t, h1, hsx,
          worker?_setWorker_self hwid hw, rfl, (List.mem_erase_of_ne hne).mpr hmx⟩
      · exact ⟨tx, wx, wkx, Ax, Fx, Px, h1, hsx, (worker?_setWorker_ne (by rw [hwid]; exact hwx')).trans hwx, hax, hmx⟩

theorem retract_ok {s : State} {l : List TaskId} (hnd : l.Nodup) (h : ∀ x ∈ l, RetrReady s x) :
    ∃ r, s.retract l = .ok r := by
  obtain ⟨⟨s', pairs⟩, hr⟩ := processRetracted_ok l s [] hnd h
  simp only [State.retract, hr]
  exact ⟨_, rfl⟩

theorem retrReady_of {D R} {s : State} (htw : TWI D s) (hq : NpQ D R s) (hd : ∀ x ∈ R, ¬ D x) :
    ∀ x ∈ R, RetrReady s x := by
  intro x hx
  obtain ⟨t, w, ht, hs⟩ := (hq.rpre x hx).elim
  have hm := htw.tw.t2 x w (hd x hx) (by rw [stOf_of_find ht, hs])
  obtain ⟨wk, A, F, P, hw, ha, hp⟩ := mem_preW_elim hm
  exact ⟨t, w, wk, A, F, P, ht, hs, hw, ha, hp⟩

theorem tryRemoveRedirection_ok {s : State} {t : TaskId} {rq : Nat}
    (h : ∀ x w v, s.redirects.find? (·.1 = t) = some (x, w, v) →
      ∃ r wk A F P, s.rq rq v = .ok r ∧ s.worker? w = some wk ∧ wk.assign = .sn A F P ∧ t ∈ A ∧
        ∀ e ∈ r.entries, e.res < F.length) :
    ∃ s', s.tryRemoveRedirection t rq = .ok s' := by
  unfold State.tryRemoveRedirection
  split
  · exact ⟨_, rfl⟩
  · rename_i x w v hf
    obtain ⟨r, wk, A, F, P, hr, hw, ha, hm, hidx⟩ := h x w v hf
    have hr' : ({ s with redirects := s.redirects.filter (·.1 ≠ t) } : State).rq rq v = .ok r := hr
    simp only [hr']
    obtain ⟨F', hrem, _⟩ := removeSn_ok (wk := wk) (t := t) (r := r) ha hm hidx
    exact ⟨_, withWorker_ok (s := { s with redirects := s.redirects.filter (·.1 ≠ t) })
      (f := fun x => x.removeSn t r) hw hrem⟩

theorem held_removable {D} {s : State} (htw : TWI D s) (hidx : NpIdx s) (hw : NpW s) {t : TaskId} {task : Task}
    (ht : s.task? t = some task) (hd : ¬ D t) {w v : Nat} (hh : HeldT s.redirects task w v) :
    ∃ r wk A F P, s.rq task.rq v = .ok r ∧ s.worker? w = some wk ∧ wk.assign = .sn A F P ∧ t ∈ A ∧
      ∀ e ∈ r.entries, e.res < F.length := by
  have hid : task.id = t := findTask_some_id ht
  have hmem : task ∈ s.tasks := findTask_some_mem ht
  obtain ⟨r, hr, hb⟩ := (hidx.held task hmem w v hh).elim
  have hin : t ∈ asgW s.workers w := by
    rcases hh with hs | hs | ⟨_, hm⟩
    · exact htw.tw.t1 t w v hd (Or.inl (by rw [stOf_of_find ht, hs]))
    · exact htw.tw.t1 t w v hd (Or.inr (by rw [stOf_of_find ht, hs]))
    · rw [hid] at hm; exact htw.tw.d1 t w v hd hm
  obtain ⟨wk, A, F, P, hfw, ha, hm⟩ := mem_asgW_elim hin
  refine ⟨r, wk, A, F, P, hr, hfw, ha, hm, ?_⟩
  intro e he
  rw [hw.free wk (findWorker_some_mem hfw) A F P ha]
  exact hb wk hfw e he

theorem tryRemoveRedirection_ok' {D} {s : State} (htw : TWI D s) (hidx : NpIdx s) (hw : NpW s) {t : TaskId} {task : Task}
    (ht : s.task? t = some task) (hd : ¬ D t) (hs : ∃ w0, task.state = .retracting w0) :
    ∃ s', s.tryRemoveRedirection t task.rq = .ok s' := by
  apply tryRemoveRedirection_ok
  intro x w v hf
  have hx : x = t := by simpa using List.find?_some hf
  subst hx
  have hm : (x, w, v) ∈ s.redirects := List.mem_of_find?_eq_some hf
  have hid : task.id = x := findTask_some_id ht
  exact held_removable htw hidx hw ht hd (Or.inr (Or.inr ⟨hs, by rw [hid]; exact hm⟩))

theorem removeConsumers_ok : ∀ (deps : List TaskId) (tasks : List Task) (c : TaskId), deps.Nodup →
    (∀ d ∈ deps, ∀ dt, findTask tasks d = some dt → c ∈ dt.consumers) → ∃ ts, removeConsumers tasks c deps = .ok ts
  | [], tasks, c, _, _ => ⟨_, rfl⟩
  | d :: rest, tasks, c, hnd, h => by
    simp only [removeConsumers, removeConsumer]
    cases hf : findTask tasks d with
    | none => simp only; exact removeConsumers_ok rest tasks c (List.nodup_cons.mp hnd).2
                (fun d' hd' => h d' (List.mem_cons_of_mem _ hd'))
    | some dt =>
      have hc : dt.consumers.contains c = true := by simpa using h d List.mem_cons_self dt hf
      simp only [hc, Bool.not_true, Bool.false_eq_true, if_false]
      apply removeConsumers_ok rest _ c (List.nodup_cons.mp hnd).2
      intro d' hd' dt' hf'
      have hne : d' ≠ d := fun e => (List.nodup_cons.mp hnd).1 (e ▸ hd')
      rw [findTask_putTask] at hf'
      have hid : dt.id = d := findTask_some_id hf
      have : ¬ d' = dt.id := by rw [hid]; exact hne
      simp only [this, if_false] at hf'
      exact h d' (List.mem_cons_of_mem _ hd') dt' hf'

theorem removeTask_ok {s : State} {id : TaskId} {task : Task} (ht : s.task? id = some task)
    (hn : (taskIds s.tasks).Nodup) (hrq : task.rq < s.queues.length) (hdn : task.deps.Nodup)
    (hreg : ∀ d ∈ task.deps, ∀ dt, s.task? d = some dt → id ∈ dt.consumers) :
    ∃ s', s.removeTask id = .ok (s', task.state) := by
  simp only [State.removeTask, ht]
  have hq : ∀ (p : Int), ∃ s1, ({ s with tasks := eraseTask s.tasks id } : State).queueRemove task.rq id p = .ok s1 ∧
      s1.tasks = eraseTask s.tasks id := by
    intro p
    obtain ⟨s1, h1⟩ := queueRemove_ok (s := { s with tasks := eraseTask s.tasks id }) (t := id) (p := p) hrq
    exact ⟨s1, h1, queueRemove_tasks h1⟩
  cases hs : task.state with
  | waiting n =>
    obtain ⟨s1, h1, e1⟩ := hq task.prio
    simp only [h1]
    by_cases hn0 : n > 0
    · simp only [hn0, if_true]
      have : ∃ ts, removeConsumers s1.tasks id task.deps = .ok ts := by
        apply removeConsumers_ok _ _ _ hdn
        intro d hd dt hf
        rw [e1, findTask_eraseTask hn] at hf
        split at hf
        · cases hf
        · exact hreg d hd dt hf
      obtain ⟨ts, h2⟩ := this
      simp only [h2]; exact ⟨_, rfl⟩
    · simp only [hn0, if_false]; exact ⟨_, rfl⟩
  | retracting w =>
    obtain ⟨s1, h1, _⟩ := hq task.prio
    simp only [h1]; exact ⟨_, rfl⟩
  | _ => exact ⟨_, rfl⟩

theorem collectConsumers_ok (ts : List Task) (hc : ∀ t ∈ ts, ∀ c ∈ t.consumers, (findTask ts c).isSome = true) :
    ∀ (fuel : Nat) (stack out : List TaskId), (∀ x ∈ stack, (findTask ts x).isSome = true) →
      ∃ r, collectConsumers ts fuel stack out = .ok r
  | 0, _, _, _ => ⟨_, rfl⟩
  | _ + 1, [], _, _ => ⟨_, rfl⟩
  | fuel + 1, t :: stack, out, h => by
    have := h t List.mem_cons_self
    cases hf : findTask ts t with
    | none => rw [hf] at this; cases this
    | some task =>
      simp only [collectConsumers, hf]
      apply collectConsumers_ok ts hc fuel
      intro x hx
      rcases List.mem_append.mp hx with h1 | h1
      · exact h x (List.mem_cons_of_mem _ h1)
      · exact hc task (findTask_some_mem hf) x (List.mem_filter.mp h1).1

theorem recursiveConsumers_ok {U} {s : State} (hd : NpDeps U s) {task : Task} (ht : task ∈ s.tasks) :
    ∃ r, s.recursiveConsumers task = .ok r := by
  unfold State.recursiveConsumers
  apply collectConsumers_ok s.tasks hd.cin
  intro x hx
  exact hd.cin task ht x (List.mem_eraseDups.mp hx)

theorem collectConsumers_nodup (ts : List Task) : ∀ (fuel : Nat) (stack out res : List TaskId), out.Nodup →
    collectConsumers ts fuel stack out = .ok res → res.Nodup
  | 0, _, _, _, hn, h => by simp only [collectConsumers] at h; cases h; exact hn
  | _ + 1, [], _, _, hn, h => by simp only [collectConsumers] at h; cases h; exact hn
  | fuel + 1, t :: stack, out, res, hn, h => by
    simp only [collectConsumers] at h
    split at h
    · cases h
    · rename_i task hf
      refine collectConsumers_nodup ts fuel _ _ res ?_ h
      rw [List.nodup_append]
      refine ⟨hn, nodup_eraseDups _, ?_⟩
      intro a ha b hb e
      subst e
      have := (List.mem_filter.mp (List.mem_eraseDups.mp hb)).2
      simp only [Bool.and_eq_true, Bool.not_eq_eq_eq_not, Bool.not_true, List.contains_eq_mem,
        decide_eq_false_iff_not] at this
      exact this.1 ha

theorem recursiveConsumers_nodup {s : State} {task : Task} {cons : List TaskId}
    (h : s.recursiveConsumers task = .ok cons) : cons.Nodup :=
  collectConsumers_nodup _ _ _ _ _ (nodup_eraseDups _) h

theorem movePrefilledToReady_prefill {s s2 : State} {rq : Nat} {id x : TaskId} {q : Queue} {pp : Int} {ts : List TaskId}
    (h2 : s.movePrefilledToReady rq id = .ok s2) (hq : s.queues[rq]? = some q) (hp : q.prefill = some (pp, ts))
    (hne : x ≠ id) (hm : x ∈ ts) :
    ∃ q', s2.queues[rq]? = some q' ∧ q'.prefill = some (pp, ts.erase id) ∧ x ∈ ts.erase id := by
  obtain ⟨q2, pp2, ts2, hq2, hp2, _, rfl⟩ := movePrefilledToReady_ok_iff.mp h2
  rw [hq] at hq2; cases hq2
  rw [hp] at hp2; cases hp2
  have hx' : x ∈ ts.erase id := (List.mem_erase_of_ne hne).mpr hm
  refine ⟨_, List.getElem?_set_self (List.getElem?_eq_some_iff.mp hq).1, ?_, hx'⟩
  simp only [List.isEmpty_eq_false_iff_exists_mem.mpr ⟨x, hx'⟩, Bool.false_eq_true, if_false]

theorem resetMnAll_ok : ∀ (ws : List Nat) (s : State), (∀ w ∈ ws, (s.worker? w).isSome = true) →
    ∃ s', resetMnAll s ws = .ok s'
  | [], s, _ => ⟨s, rfl⟩
  | w :: rest, s, h => by
    have hw := h w List.mem_cons_self
    cases hf : s.worker? w with
    | none => rw [hf] at hw; cases hw
    | some wk =>
      simp only [resetMnAll, getWorker_ok hf]
      apply resetMnAll_ok rest
      intro x hx
      exact isSome_findWorker_putWorker (h x (List.mem_cons_of_mem _ hx))

theorem resetMnChecked_ok (id : TaskId) : ∀ (ws : List Nat) (s : State), ws.Nodup →
    (∀ x ∈ ws, ∃ wk root st, s.worker? x = some wk ∧ wk.assign = .mn id root st) →
    ∃ s', resetMnChecked s id ws = .ok s'
  | [], s, _, _ => ⟨s, rfl⟩
  | w :: rest, s, hnd, h => by
    obtain ⟨wk, root, st, hw, ha⟩ := h w List.mem_cons_self
    have hwid : wk.id = w := findWorker_some_id hw
    simp only [resetMnChecked, getWorker_ok hw, ha, ne_eq, not_true_eq_false, if_false]
    apply resetMnChecked_ok id rest _ (List.nodup_cons.mp hnd).2
    intro x hx
    have hne : x ≠ w := fun e => (List.nodup_cons.mp hnd).1 (e ▸ hx)
    obtain ⟨wkx, rx, sx, hwx, hax⟩ := h x (List.mem_cons_of_mem _ hx)
    exact ⟨wkx, rx, sx, (worker?_setWorker_ne (wk := wk.emptySn) (hwid ▸ hne :)).trans hwx, hax⟩

theorem mn_workers_of {D} {s : State} (htw : TWI D s) {t : TaskId} {task : Task} (ht : s.task? t = some task)
    (hd : ¬ D t) {ws : List Nat} (hs : task.state = .runningMN ws) :
    ∀ x ∈ ws, ∃ wk root st, s.worker? x = some wk ∧ wk.assign = .mn t root st := by
  intro x hx
  have := htw.tw.t3 t ws hd (by rw [stOf_of_find ht, hs]) x hx
  obtain ⟨wk, root, st, hw, ha⟩ := mnW_elim this
  exact ⟨wk, root, st, hw, ha⟩

theorem slack_pos {st : TS} (h : 0 < slack st) : ∃ n, st = .waiting (n + 1) := by
  cases st with
  | waiting n =>
    cases n with
    | zero => simp at h
    | succ k => exact ⟨k, rfl⟩
  | _ => simp at h

theorem wakeConsumers_ok {U f} : ∀ (cs : List TaskId) (s : State) (r : List TaskId), QInv U f cs s → cs.Nodup →
    (∀ c ∈ cs, (s.task? c).isSome = true) → (∀ t ∈ s.tasks, t.rq < s.queues.length) →
    ∃ res, s.wakeConsumers cs r = .ok res
  | [], s, r, _, _, _, _ => ⟨_, rfl⟩
  | c :: rest, s, r, hq, hnd, hin, hrq => by
    have hc := hin c List.mem_cons_self
    cases hf : s.task? c with
    | none => rw [hf] at hc; cases hc
    | some t =>
      have hcnt := hq.cnt c t hf
      have how : owed (c :: rest) c = 1 := by simp [owed]
      -- `c` is still owed one decrement (`QInv.cnt` with `owed (c :: rest) c = 1`), so it waits for at least one
      -- dependency: `decrease_unfinished_deps` cannot meet its invalid-state arm
      obtain ⟨n, hs⟩ := slack_pos (st := t.state) (by omega)
      have hcr : c ∉ rest := (List.nodup_cons.mp hnd).1
      have hnd' := (List.nodup_cons.mp hnd).2
      have hid : t.id = c := findTask_some_id hf
      have hq1 : QInv U f rest (s.setTask { t with state := .waiting n }) := QInv4.wake hq hf hs hcr
      have hin1 : ∀ x ∈ rest, ((s.setTask { t with state := .waiting n }).task? x).isSome = true :=
        fun x hx => isSome_findTask_putTask (hin x (List.mem_cons_of_mem _ hx))
      have hrq1 : ∀ x ∈ (s.setTask { t with state := .waiting n }).tasks,
          x.rq < (s.setTask { t with state := .waiting n }).queues.length := by
        intro x hx
        rcases mem_putTask hx with e | e
        · subst e; exact hrq t (findTask_some_mem hf)
        · exact hrq x e
      simp only [State.wakeConsumers, getTask_ok hf, hs]
      by_cases hn : n = 0
      · simp only [hn, if_true]
        subst hn
        have hlt : ({ t with state := .waiting 0 } : Task).rq <
            (s.setTask { t with state := .waiting 0 }).queues.length := hrq t (findTask_some_mem hf)
        obtain ⟨⟨s2, r2⟩, ha⟩ := addReady_ok hlt
        simp only [ha]
        have hf1 : findTask (s.setTask { t with state := .waiting 0 }).tasks
            ({ t with state := .waiting 0 } : Task).id = some { t with state := .waiting 0 } := by
          rw [← task?_eq, task?_setTask, if_pos rfl, hid, hf]; rfl
        have hsafe := Safe.addReady hf1 rfl (by simp) ha
        have ht2 := addReady_tasks ha
        apply wakeConsumers_ok rest s2 _ (hsafe U f rest hq1) hnd'
        · intro x hx; rw [task?_eq, ht2]; exact hin1 x hx
        · intro x hx; rw [ht2] at hx; rw [addReady_qlen ha]; exact hrq1 x hx
      · simp only [hn, if_false]
        exact wakeConsumers_ok rest _ _ hq1 hnd' hin1 hrq1

theorem retractLoop_ok (w : Nat) : ∀ (ids : List TaskId) (s : State) (acc : List (Nat × TaskId × Nat)),
    (∀ it ∈ acc, (s.task? it.2.1).isSome = true) →
    ∃ s' acc', s.retractLoop w ids acc = .ok (s', acc') ∧ ∀ it ∈ acc', (s'.task? it.2.1).isSome = true
  | [], s, acc, h => ⟨s, acc, rfl, h⟩
  | id :: rest, s, acc, h => by
    simp only [State.retractLoop]
    cases ht : s.task? id with
    | none => exact retractLoop_ok w rest s acc h
    | some task =>
      dsimp only
      by_cases hs : task.state ≠ .retracting w
      · rw [if_pos hs]
        exact retractLoop_ok w rest s acc h
      · rw [if_neg hs]
        split
        · rename_i x target rv hf
          apply retractLoop_ok w rest
          intro it hit
          rcases List.mem_append.mp hit with h1 | h1
          · exact isSome_findTask_putTask (h it h1)
          · simp only [List.mem_singleton] at h1
            subst h1
            exact isSome_findTask_putTask (show (s.task? id).isSome = true by rw [ht]; rfl)
        · apply retractLoop_ok w rest
          intro it hit
          exact isSome_findTask_putTask (h it hit)

theorem computeList_ok (s : State) : ∀ (l : List (TaskId × Option Nat)), (∀ x ∈ l, (s.task? x.1).isSome = true) →
    ∃ r, computeList s l = .ok r
  | [], _ => ⟨_, rfl⟩
  | (id, rv) :: rest, h => by
    have := h (id, rv) List.mem_cons_self
    cases ht : s.task? id with
    | none => simp only at this; rw [ht] at this; cases this
    | some t =>
      obtain ⟨l, hl⟩ := computeList_ok s rest (fun x hx => h x (List.mem_cons_of_mem _ hx))
      simp only [computeList, getTask_ok ht, hl]
      exact ⟨_, rfl⟩

theorem computeItems_ok (s : State) : ∀ (items : List (Nat × TaskId × Nat)),
    (∀ it ∈ items, (s.task? it.2.1).isSome = true) → ∃ l, computeItems s items = .ok l := fun items h => by
  rw [computeItems_eq]
  refine computeList_ok s _ fun x hx => ?_
  obtain ⟨it, hit, rfl⟩ := List.mem_map.mp hx
  exact h it hit

theorem groupComputeAux_ok (s : State) (items : List (Nat × TaskId × Nat))
    (h : ∀ it ∈ items, (s.task? it.2.1).isSome = true) : ∀ (targets : List Nat), ∃ ms, groupComputeAux s items targets = .ok ms
  | [] => ⟨_, rfl⟩
  | target :: rest => by
    obtain ⟨l, hl⟩ := computeItems_ok s (items.filter (·.1 = target))
      (fun it hit => h it (List.mem_filter.mp hit).1)
    obtain ⟨ms, hms⟩ := groupComputeAux_ok s items h rest
    simp only [groupComputeAux, hl, hms]
    exact ⟨_, rfl⟩

theorem retractResponse_ok (s : State) (w : Nat) (ids : List TaskId) : ∃ r, s.retractResponse w ids = .ok r := by
  obtain ⟨s1, items, h1, h2⟩ := retractLoop_ok w ids s [] (fun _ h => by cases h)
  obtain ⟨ms, hms⟩ := groupComputeAux_ok s1 items h2 (items.map (·.1)).eraseDups
  simp only [State.retractResponse, h1, groupCompute, hms]
  exact ⟨_, rfl⟩

end NP

end HqModel.Core
