import HqModel.Lemmas.CoreInvRes
import HqModel.Lemmas.CoreInvComplete
/-!
The structural invariant (`Inv`), its state → list half (`TWI D`, the tasks in `D` in repair) and the resource equation
(`Res`), carried together. `Kept Q D D' s s'` is what a step from a state `s` with `Inv s` to `s'` establishes:
`Inv s'`; `TWI D s → TWI D' s'`; and `Res s → Res s'` under the side condition `Q` (only the resource equation has
one: a booking must not saturate).

Every change of ownership passes through FREE (`Free`: in no worker set, no redirect). A worker *gives up* a task
(`Mv.unassign`, `Mv.unprefill`, `Mv.unredirect`, `Mv.resetMn`, and `Release.kept`, the reactor's choice among them: the task
is free and, its record being stale, in repair); the record of a free task is *rewritten* (`Mv.settle`, `Mv.erase`); a
free task is *booked* (`Mv.book`). Two rewrites keep the claim of a task: `Mv.resolve`, `Mv.started`. Where the code inserts before it removes
(`task_from_prefilled_to_started`, `create_task_mapping`) the same final state is reached by giving up first, through a
state the model does not visit (`putWorker_putWorker`, `putWorker_comm`, `CoreEq`).

First the definitions the side conditions `Q` are made of: `FitsAt`, `RunNoSat`, `UpdOk3` (a booking of `task_running`
does not saturate), `RqvOk` / `RqsOk` (requests name every resource once); and `RdIn`.
-/
namespace HqModel.Core

/-- the request `(rq, rv)` fits into what worker `w` has free, entry by entry, without saturation -/
def FitsAt (s : State) (w rq rv : Nat) : Prop :=
  ∀ r wk A F P, s.rq rq rv = .ok r → s.worker? w = some wk → wk.assign = .sn A F P → NoSat wk.total F r.entries

instance (s : State) (w rq rv : Nat) : Decidable (FitsAt s w rq rv) := by
  unfold FitsAt
  cases hr : s.rq rq rv with
  | error e => exact isTrue (fun _ _ _ _ _ h => by cases h)
  | ok r =>
    cases hw : s.worker? w with
    | none => exact isTrue (fun _ _ _ _ _ _ h => by cases h)
    | some wk =>
      cases ha : wk.assign with
      | mn a b c => exact isTrue (fun _ _ _ _ _ _ h1 h2 => by cases h1; rw [ha] at h2; cases h2)
      | sn A F P =>
        by_cases hn : NoSat wk.total F r.entries
        · exact isTrue (fun _ _ _ _ _ h0 h1 h2 => by cases h0; cases h1; rw [ha] at h2; cases h2; exact hn)
        · exact isFalse (fun hh => hn (hh r wk A F P rfl rfl ha))

/-- **non-saturation side condition of a Running / RunningPrefilled message**: when the task is Prefilled (the
worker started it from its backlog) or Retracting (the worker started it before the retraction arrived) the
server books the request on the reporting worker with the saturating `remove`; the condition says the request
fits into what that worker has free at that moment (for Retracting: after the redirect's reservation was given
back). Finding F29: the protocol does not guarantee it. -/
def RunNoSat (s : State) (w : Nat) (t : TaskId) (rv : Nat) : Prop :=
  match s.task? t with
  | none => True
  | some task =>
    match task.state with
    | .prefilled _ => FitsAt s w task.rq rv
    | .retracting _ =>
      match s.tryRemoveRedirection t task.rq with
      | .ok s2 => FitsAt s2 w task.rq rv
      | .error _ => True
    | _ => True

instance (s : State) (w : Nat) (t : TaskId) (rv : Nat) : Decidable (RunNoSat s w t rv) := by
  unfold RunNoSat
  cases s.task? t with
  | none => exact isTrue trivial
  | some task =>
    simp only
    cases task.state <;> simp only <;> try infer_instance
    cases s.tryRemoveRedirection t task.rq <;> simp only <;> infer_instance

/-- the side condition on one update: the protocol condition `UpdProto` and non-saturation of the bookings
`task_running` makes -/
def UpdOk3 (s : State) (w : Nat) : Update → Prop
  | .reject t rv => RejectOk s w t rv
  | .running t rv => RunNoSat s w t rv
  | .runningPrefilled t rv => RunNoSat s w t rv
  | _ => True

instance (s : State) (w : Nat) (u : Update) : Decidable (UpdOk3 s w u) := by
  cases u <;> simp only [UpdOk3] <;> infer_instance

theorem UpdOk3.proto {s : State} {w : Nat} {u : Update} (h : UpdOk3 s w u) : UpdProto s w u := by
  cases u <;> simp only [UpdOk3, UpdProto] at h ⊢ <;> first | exact h | trivial

/-- every request variant names each resource index at most once (`ResourceRequest::validate`) -/
def RqvOk (rqv : Rqv) : Prop := ∀ r ∈ rqv, (r.entries.map (·.res)).Nodup

instance (rqv : Rqv) : Decidable (RqvOk rqv) := by unfold RqvOk; infer_instance

def RqsOk (rqs : List Rqv) : Prop := ∀ rqv ∈ rqs, RqvOk rqv

theorem RqsOk.of_rq {s : State} (h : RqsOk s.rqs) {rq v : Nat} {r : Rq} (hr : s.rq rq v = .ok r) :
    (r.entries.map (·.res)).Nodup := by
  obtain ⟨rqv, hq, hv⟩ := rq_ok_iff.mp hr
  exact h rqv (List.mem_of_getElem? hq) r (List.mem_of_getElem? hv)

/-- every redirect target holds the task in its assigned set: the redirect-target clause of the sanity checks in
decidable form (the driver evaluates it). No theorem assumes it: it follows from the full invariant
(`InvF.redirect_complete`). -/
def RdIn (s : State) : Prop := ∀ t w v, (t, w, v) ∈ s.redirects → t ∈ asgW s.workers w

instance (s : State) : Decidable (RdIn s) := by
  have : Decidable (∀ p ∈ s.redirects, p.1 ∈ asgW s.workers p.2.1) := inferInstance
  refine decidable_of_iff (∀ p ∈ s.redirects, p.1 ∈ asgW s.workers p.2.1) ?_
  constructor
  · intro h t w v hm; exact h (t, w, v) hm
  · intro h p hp; obtain ⟨t, w, v⟩ := p; exact h t w v hp

/-- what a step from `s` (with `Inv s`) to `s'` keeps: the structural invariant; its state → list half, `D` in repair
before and `D'` after; under the side condition `Q` the resource equation -/
structure Kept (Q : Prop) (D D' : TaskId → Prop) (s s' : State) : Prop where
  inv : Inv s'
  tw : TWI D s → TWI D' s'
  res : Q → TWI D s → Res s → Res s'

/-- `Kept` by a step that adds nothing to a worker set or to the redirects: a task held by nobody stays so -/
structure KeptS (Q : Prop) (D D' : TaskId → Prop) (s s' : State) : Prop extends Kept Q D D' s s' where
  shr : Shr s.workers s.redirects s'.workers s'.redirects

variable {Q : Prop} {D D' D1 D2 : TaskId → Prop} {s s' s1 s2 : State}

theorem Kept.refl (hi : Inv s) : Kept Q D D s s := ⟨hi, id, fun _ _ h => h⟩

theorem Kept.trans (a : Kept Q D D1 s s1) (b : Kept Q D1 D2 s1 s2) : Kept Q D D2 s s2 :=
  ⟨b.inv, fun h => b.tw (a.tw h), fun q h r => b.res q (a.tw h) (a.res q h r)⟩

theorem Kept.mono (a : Kept Q D D1 s s') (hd : ∀ u, D1 u → D2 u) : Kept Q D D2 s s' :=
  ⟨a.inv, fun h => (a.tw h).mono hd, a.res⟩

theorem Kept.imp {Q' : Prop} (a : Kept Q D D' s s') (h : Q' → Q) : Kept Q' D D' s s' :=
  ⟨a.inv, a.tw, fun q => a.res (h q)⟩

theorem Kept.coreEq (a : Kept Q D D' s s1) (h : CoreEq s1 s2) : Kept Q D D' s s2 :=
  ⟨h.inv a.inv, fun t => h.twi (a.tw t), fun q t r => h.res (a.res q t r)⟩

/-- where the state → list half is needed to see why the other two hold -/
theorem Kept.of_tw (hi : Inv s') (c : TWI D s → Kept Q D D' s s') : Kept Q D D' s s' :=
  ⟨hi, fun h => (c h).tw h, fun q h r => (c h).res q h r⟩

theorem CoreEq.shr (h : CoreEq s s') : Shr s.workers s.redirects s'.workers s'.redirects := by
  rw [h.w, h.r]; exact .refl _ _

theorem KeptS.refl (hi : Inv s) : KeptS Q D D s s := ⟨.refl hi, .refl _ _⟩

theorem KeptS.trans (a : KeptS Q D D1 s s1) (b : KeptS Q D1 D2 s1 s2) : KeptS Q D D2 s s2 :=
  ⟨a.toKept.trans b.toKept, a.shr.trans b.shr⟩

theorem KeptS.mono (a : KeptS Q D D1 s s') (hd : ∀ u, D1 u → D2 u) : KeptS Q D D2 s s' := ⟨a.toKept.mono hd, a.shr⟩

theorem KeptS.coreEq (a : KeptS Q D D' s s1) (h : CoreEq s1 s2) : KeptS Q D D' s s2 :=
  ⟨a.toKept.coreEq h, a.shr.trans h.shr⟩

theorem CoreEq.kept (h : CoreEq s s') (hi : Inv s) : KeptS Q D D s s' := (KeptS.refl hi).coreEq h

theorem KeptS.free (a : KeptS Q D D' s s') {t : TaskId} (hf : Free s t) : Free s' t := a.shr.free hf

/-! ### the record of a task is rewritten -/

/-- **a detached task is settled**: a task in no worker set gets a record without claims (Waiting, Finished,
Retracting), its redirects are dropped; it needs no repair afterwards -/
theorem Mv.settle (hi : Inv s) {t' told : Task} {rd' : List (TaskId × Nat × Nat)}
    (ht : findTask s.tasks t'.id = some told) (hf : LFree3 s.workers t'.id)
    (hc : t'.consumers = told.consumers) (hq : t'.rq = told.rq) (hw : isWaiting told.state → isWaiting t'.state)
    (hs' : NoOb t'.state)
    (hrd : ∀ u x v, u ≠ t'.id → ((u, x, v) ∈ rd' ↔ (u, x, v) ∈ s.redirects))
    (hfind : ∀ u, u ≠ t'.id → rd'.find? (·.1 = u) = s.redirects.find? (·.1 = u))
    (hnr : ∀ x v, (t'.id, x, v) ∉ rd') (hd2 : (rd'.map (·.1)).Nodup) :
    KeptS Q D (fun u => D u ∧ u ≠ t'.id) s { s.setTask t' with redirects := rd' } :=
  ⟨⟨hi.put ht hc hq hw (fun l e => absurd e (hs'.not_mn l))
      (hi.ls.mv_listfree ht hf.na hf.np hf.nm hrd (fun x v hm => absurd hm (hnr x v)) hd2),
    fun h => ⟨h.tw.put_noob ht hs' (fun u x v hu hm => (hrd u x v hu).mp hm) (fun x v hm => absurd hm (hnr x v)),
      h.mnu.put_nonmn ht hs'.not_mn⟩,
    fun _ _ hr => hr.put_free hf.na hfind⟩,
   ⟨fun _ _ h => h, fun _ _ h => h, fun _ _ h => h, fun ⟨u, x, v⟩ hm =>
    (hrd u x v fun e => hnr x v (e ▸ hm)).mp hm⟩⟩

theorem Mv.settle_free (hi : Inv s) {t' told : Task} (ht : findTask s.tasks t'.id = some told) (hf : Free s t'.id)
    (hc : t'.consumers = told.consumers) (hq : t'.rq = told.rq) (hw : isWaiting told.state → isWaiting t'.state)
    (hs' : NoOb t'.state) : KeptS Q D (fun u => D u ∧ u ≠ t'.id) s (s.setTask t') :=
  Mv.settle hi ht hf.lfree hc hq hw hs' (fun _ _ _ _ => Iff.rfl) (fun _ _ => rfl) hf.nr hi.ls.d2

theorem Mv.resolve (hi : Inv s) {t' task : Task} {w0 target trv : Nat}
    (ht : findTask s.tasks t'.id = some task) (hs : task.state = .retracting w0)
    (hf : s.redirects.find? (·.1 = t'.id) = some (t'.id, target, trv))
    (hc : t'.consumers = task.consumers) (hq : t'.rq = task.rq) (hs' : t'.state = .assigned target trv) :
    KeptS Q noD noD s (({ s with redirects := s.redirects.filter (·.1 ≠ t'.id) } : State).setTask t') :=
  ⟨⟨hi.resolve_redirect ht hs hf hc hq hs', fun h => h.resolve_redirect ht hs' hf,
    fun _ _ hr => hr.resolve_redirect ht hs hf hq hs'⟩,
   ⟨fun _ _ h => h, fun _ _ h => h, fun _ _ h => h, fun _ hm => (List.mem_filter.mp hm).1⟩⟩

theorem Mv.started (hi : Inv s) {t' task : Task} {w v : Nat} (ht : findTask s.tasks t'.id = some task)
    (hs : task.state = .assigned w v) (hs' : t'.state = .running w v) (hc : t'.consumers = task.consumers)
    (hq : t'.rq = task.rq) : KeptS Q noD noD s (s.setTask t') := by
  have hst := stOf_of_find ht
  refine ⟨⟨hi.put ht hc hq (by simp [hs, isWaiting]) (by simp [hs']) (hi.ls.mv_started ht hs hs'), fun h => ?_,
    fun _ _ hr => hr.put_same_resv ht (fun _ _ => rfl) (by rw [hs', hs, hq]; rfl)⟩, .refl _ _⟩
  have hmem := h.tw.t1 _ w v (not_noD _) (.inl (hst.trans (congrArg some hs)))
  have hnr := h.tw.no_rd_of_state hst fun w0 e => by rw [hs] at e; cases e
  refine ⟨(h.tw.put ht (fun _ _ _ _ h => h) (fun x v' e => ?_) (fun _ e => by rw [hs'] at e; cases e)
      (fun _ e => by rw [hs'] at e; cases e) (fun x v hm => absurd hm (hnr x v))).mono fun _ hu => hu.1,
    h.mnu.put_nonmn ht fun _ e => by rw [hs'] at e; cases e⟩
  rw [hs'] at e; rcases e with e | e <;> cases e; exact hmem

theorem Mv.same (hi : Inv s) {t' task : Task} (ht : findTask s.tasks t'.id = some task) (hs : t'.state = task.state)
    (hc : t'.consumers = task.consumers) (hq : t'.rq = task.rq) : KeptS Q D D s (s.setTask t') :=
  ⟨⟨hi.put ht hc hq (hs ▸ id) (fun l' hl => ⟨l', hs ▸ hl⟩) (hi.ls.mv_same ht hs), fun h => h.put_same ht hs,
    fun _ _ hr => hr.put_same_resv (rd' := s.redirects) ht (fun _ _ => rfl) (by rw [hs, hq])⟩, .refl _ _⟩

theorem Mv.erase (hi : Inv s) {id : TaskId} {st : TS} (hf : Free s id) (h : s.removeTask id = .ok (s', st)) :
    KeptS Q D (fun u => D u ∧ u ≠ id) s s' := by
  obtain ⟨_, hw, hr, _, _⟩ := removeTask_spec h
  exact ⟨⟨removeTask_inv hi hf h, fun t => removeTask_tw t hi.nd hf.nr h, fun _ _ hr => removeTask_res hi hr hf h⟩,
    by rw [hw, hr]; exact .refl _ _⟩

/-! ### a worker record is replaced -/

theorem Mv.setWorker (hi : Inv s) {wk wk' : Worker} (hfw : findWorker s.workers wk'.id = some wk)
    (e1 : wAsg wk' = wAsg wk) (e2 : wPre wk' = wPre wk) (e3 : wMn wk' = wMn wk) (ht : wk'.total = wk.total)
    (hs : ∀ A F P, wk'.assign = .sn A F P → ∃ P0, wk.assign = .sn A F P0) : KeptS Q D D s (s.setWorker wk') :=
  ⟨⟨hi.setWorker_same hfw e1 e2 e3, fun h => h.setWorker_same hfw e1 e2 e3, fun _ _ hr => hr.put_same hfw ht hs⟩,
   (hi.ls.mv_worker_shrink hfw (e1 ▸ .refl _) (e2 ▸ .refl _) (fun _ e => e3 ▸ e)).2⟩

/-! ### the worker side gives up a task -/

theorem Mv.unassign (hi : Inv s) {id : TaskId} {task : Task} {w v : Nat} {r : Rq} (ht : findTask s.tasks id = some task)
    (hs : task.state = .assigned w v ∨ task.state = .running w v) (hrq : s.rq task.rq v = .ok r)
    (h : s.withWorker w (·.removeSn id r) = .ok s1) : KeptS Q D (fun u => D u ∨ u = id) s s1 ∧ Free s1 id := by
  have hst := stOf_of_find ht
  obtain ⟨wk, wk', hfw, hf, rfl⟩ := withWorker_spec h
  obtain ⟨A, F, P, F', ha, hfa, hm, rfl⟩ := removeSn_spec hf
  change findWorker s.workers w = some wk at hfw
  obtain rfl := findWorker_some_id hfw
  have hfw' : findWorker s.workers ({ wk with assign := .sn (A.erase id) F' P } : Worker).id = some wk := hfw
  obtain ⟨_, _, eA, eP, eM⟩ := removeSn_views hf
  have k := hi.ls.mv_worker_shrink hfw' (eA ▸ List.erase_sublist) (eP ▸ .refl _) (fun _ e => eM ▸ e)
  refine ⟨⟨⟨hi.workers k.1, fun htw => ⟨htw.tw.detach_sn id hfw ha (fun u hu hx => (List.mem_erase_of_ne hu).mpr hx)
      fun _ _ hx => hx, htw.mnu.put_holder (wk := wk) hfw' (.inl (by rw [wAsg, ha]; exact List.ne_nil_of_mem hm))⟩,
      fun _ _ hr => ?_⟩, k.2⟩,
    hi.ls.free_after_removeSn hst (hs.imp (fun e => ⟨v, e⟩) fun e => ⟨v, e⟩) hfw' eA eP eM⟩
  have hnd : A.Nodup := asgW_of_sn hfw ha ▸ hi.ls.nda wk.id
  refine Res4.mv_erase hr (wk := wk) (wk' := { wk with assign := .sn (A.erase id) F' P }) (es := r.entries) hfw' ha rfl rfl
    hfa hm hnd (fun x hx hmem' => hx ?_) (fun _ _ => rfl) (resvOf_assigned ht hs hrq)
  have := (hi.ls.at hst).a x hmem'
  rcases hs with e | e <;> rw [e] at this <;> exact this.symm

theorem Mv.unredirect (hi : Inv s) {t : TaskId} {task : Task} {w0 : Nat} (ht : findTask s.tasks t = some task)
    (hs : task.state = .retracting w0) (h : s.tryRemoveRedirection t task.rq = .ok s1) :
    KeptS Q D D s s1 ∧ Free s1 t := by
  have hst : stOf s.tasks t = some (.retracting w0) := (stOf_of_find ht).trans (congrArg some hs)
  rcases tryRemoveRedirection_cases h with ⟨hn, rfl⟩ | ⟨w, v, r, hsome, hrq, hw⟩
  · exact ⟨.refl hi, hi.ls.free_of_retracting hst (rd_find_none hn)⟩
  · obtain ⟨wk, wk', hfw, hf, rfl⟩ := withWorker_spec hw
    obtain ⟨A, F, P, F', ha, hfa, hm, rfl⟩ := removeSn_spec hf
    change findWorker s.workers w = some wk at hfw
    obtain rfl := findWorker_some_id hfw
    have hmem : (t, wk.id, v) ∈ s.redirects := (rd_mem_of_find hsome).1
    have hfw' : findWorker s.workers ({ wk with assign := .sn (A.erase t) F' P } : Worker).id = some wk := hfw
    obtain ⟨_, _, eA, eP, eM⟩ := removeSn_views hf
    have hgone : ∀ x v, (t, x, v) ∉ s.redirects.filter (·.1 ≠ t) := fun x v hx => (rd_filter_mem.mp hx).2 rfl
    have sh := (hi.ls.mv_worker_shrink hfw' (eA ▸ List.erase_sublist) (eP ▸ .refl _) (fun _ e => eM ▸ e)).2
    refine ⟨⟨⟨hi.workers (hi.ls.mv_unredirect hmem hfw' eA eP eM), fun htw => ⟨?_, ?_⟩, fun _ _ hr => ?_⟩,
      ⟨sh.a, sh.p, sh.m, fun x hx => (List.mem_filter.mp hx).1⟩⟩, hi.ls.free_after_unredirect hst hmem hfw' eA eP eM⟩
    · -- a Retracting task whose redirect is gone needs no repair
      show TW3 D s.tasks (putWorker s.workers _) (s.redirects.filter (·.1 ≠ t))
      refine (htw.tw.detach_sn t (F' := F') (P' := P) hfw ha (fun u hu hx => (List.mem_erase_of_ne hu).mpr hx)
        fun _ _ hx => hx).frame t (fun u hu => (Classical.em (D u ∨ u = t)).imp (·.resolve_right hu) id) (fun _ _ => rfl)
        (fun _ _ _ hx => hx) (fun _ _ _ hx => hx) (fun _ _ _ hx => hx) (fun _ _ _ _ hx => (rd_filter_mem.mp hx).1) ?_ ?_ ?_
        (fun x v _ hx => absurd hx (hgone x v)) (fun x v hx => absurd hx (hgone x v))
      · intro x v _ hs'; rw [hst] at hs'; rcases hs' with e | e <;> cases e
      · intro x _ hs'; rw [hst] at hs'; cases hs'
      · intro l _ hs'; rw [hst] at hs'; cases hs'
    · exact htw.mnu.put_holder (wk := wk) hfw' (.inl (by rw [wAsg, ha]; exact List.ne_nil_of_mem hm))
    · have hnd : A.Nodup := asgW_of_sn hfw ha ▸ hi.ls.nda wk.id
      refine Res4.mv_erase hr (wk := wk) (wk' := { wk with assign := .sn (A.erase t) F' P }) (es := r.entries) hfw' ha rfl
        rfl hfa hm hnd (fun x hx hmem' => ?_) (fun u hu => resvOf_rd_congr (find_filter_ne hu))
        (resvOf_retracting ht hs hsome hrq)
      obtain ⟨v', hv'⟩ := (hi.ls.at hst).a x hmem'
      exact hx (rd_unique hi.ls.d2 hv' hmem).1

theorem Mv.unprefill (hi : Inv s) {t : TaskId} {w : Nat} (h : s.withWorker w (·.removePrefill t) = .ok s1) :
    KeptS Q D (fun u => D u ∨ u = t) s s1 ∧ Free s1 t := by
  have htw := fun i : TWI D s => removePrefill_tw i.tw i.mnu h
  obtain ⟨wk, wk', hfw, hf, rfl⟩ := withWorker_spec h
  obtain ⟨A, F, P, ha, hm, rfl⟩ := removePrefill_spec hf
  change findWorker s.workers w = some wk at hfw
  obtain rfl := findWorker_some_id hfw
  have hfw' : findWorker s.workers ({ wk with assign := .sn A F (P.erase t) } : Worker).id = some wk := hfw
  obtain ⟨_, _, eA, eP, eM⟩ := removePrefill_views hf
  have hst : stOf s.tasks t = some (.prefilled wk.id) := hi.ls.a2 _ _ (preW_of_sn hfw ha ▸ hm)
  have k := hi.ls.mv_worker_shrink hfw' (eA ▸ .refl _) (eP ▸ List.erase_sublist) (fun _ e => eM ▸ e)
  exact ⟨⟨⟨hi.workers k.1, fun i => ⟨(htw i).1, (htw i).2⟩,
      fun _ _ hr => hr.put_same hfw' rfl fun _ _ _ e => by cases e; exact ⟨P, ha⟩⟩, k.2⟩,
    hi.ls.free_after_removePrefill hst hfw' eA eP eM⟩

/-- the same for a record given by its fields (the step need not be one the model takes) -/
theorem Mv.unprefill' (hi : Inv s) {t : TaskId} {w : Nat} {wk : Worker} {A P : List TaskId} {F : List Nat}
    (hfw : findWorker s.workers w = some wk) (ha : wk.assign = .sn A F P) (hm : t ∈ P) :
    KeptS Q D (fun u => D u ∨ u = t) s (s.setWorker { wk with assign := .sn A F (P.erase t) }) ∧
    Free (s.setWorker { wk with assign := .sn A F (P.erase t) }) t :=
  Mv.unprefill hi (NP.withWorker_ok hfw (by simp [Worker.removePrefill, ha, hm]))

theorem Mv.resetOne (hi : Inv s) {id : TaskId} {l0 : List Nat} {w : Nat} {wk : Worker}
    (hst : stOf s.tasks id = some (.runningMN l0)) (hw : w ∈ l0) (hfw : findWorker s.workers w = some wk) :
    KeptS Q D (fun u => D u ∨ u = id) s (s.setWorker wk.emptySn) := by
  have hfw' : findWorker s.workers wk.emptySn.id = some wk := findWorker_of_id hfw rfl
  have k := hi.ls.mv_worker_shrink hfw' (List.nil_sublist _) (List.nil_sublist _) (fun u hu => by cases hu)
  refine ⟨⟨hi.workers k.1, fun htw => ?_,
    fun _ _ hr => hr.put_empty hfw' fun A F P ha => by cases ha; exact ⟨rfl, rfl⟩⟩, k.2⟩
  -- the worker is reserved for `id` or idle (`MNU`): nothing but `id` loses a membership
  have hsets : wAsg wk = [] ∧ wPre wk = [] ∧ ∀ u, wMn wk = some u → u = id := by
    rw [← asgW_of_find hfw, ← preW_of_find hfw, ← mnW_of_find hfw]
    rcases htw.mnu id l0 hst w hw with h1 | ⟨h1, h2, h3⟩
    · exact ⟨(mnW_some_sets h1).1, (mnW_some_sets h1).2, fun u hu => by rw [h1] at hu; cases hu; rfl⟩
    · exact ⟨h1, h2, fun u hu => by rw [h3] at hu; cases hu⟩
  exact ⟨htw.tw.detach id hfw' (fun u _ hu => by rw [hsets.1] at hu; cases hu)
      (fun u _ hu => by rw [hsets.2.1] at hu; cases hu) (fun u hu hx => absurd (hsets.2.2 u hx) hu),
    htw.mnu.put_worker hfw' fun _ _ _ _ => .inr ⟨rfl, rfl, rfl⟩⟩

/-- `reset_mn_task_workers` as a chain of such resets; over a part `l` of the task's list, since at the loss of the root
its record goes first (`Mv.dropMnRoot`) -/
theorem Mv.resetPart {id : TaskId} {l0 : List Nat} (l : List Nat) (hi : Inv s)
    (hst : stOf s.tasks id = some (.runningMN l0)) (hsub : ∀ x ∈ l, x ∈ l0) (h : resetMnAll s l = .ok s1) :
    KeptS Q D (fun u => D u ∨ u = id) s s1 ∧ ∀ x ∈ l, mnW s1.workers x = none := by
  induction l generalizing s D with
  | nil => cases h; exact ⟨(KeptS.refl hi).mono fun _ => .inl, nofun⟩
  | cons w rest ih =>
    obtain ⟨wk, hfw, h⟩ := resetMnAll_cons_ok h
    change findWorker s.workers w = some wk at hfw
    have k := Mv.resetOne (Q := Q) (D := D) hi hst (hsub w (.head _)) hfw
    obtain ⟨k2, f⟩ := ih k.inv hst (fun x hx => hsub x (.tail _ hx)) h
    refine ⟨(k.trans k2).mono fun u hu => hu.elim (fun e => e) .inr, fun x hx => ?_⟩
    rcases List.mem_cons.mp hx with rfl | hx
    · -- reset here; later resets only shrink
      cases hm : mnW s1.workers x with
      | none => rfl
      | some u =>
        have := k2.shr.m x u hm
        change mnW (putWorker s.workers wk.emptySn) x = some u at this
        rw [mnW_put (wk' := wk.emptySn) (findWorker_of_id hfw rfl), if_pos (show x = wk.emptySn.id from (findWorker_some_id hfw).symm)] at this
        cases this
    · exact f x hx

theorem Mv.resetMn (hi : Inv s) {id : TaskId} {task : Task} {ws : List Nat} (ht : findTask s.tasks id = some task)
    (hs : task.state = .runningMN ws) (h : resetMnAll s ws = .ok s1) :
    KeptS Q D (fun u => D u ∨ u = id) s s1 ∧ Free s1 id := by
  have hst := (stOf_of_find ht).trans (congrArg some hs)
  obtain ⟨k, f⟩ := Mv.resetPart (Q := Q) (D := D) ws hi hst (fun _ h => h) h
  refine ⟨k, k.inv.ls.free_of_mn (l := ws) (by rw [resetMnAll_tasks _ _ _ h]; exact hst) fun x hx => ?_⟩
  -- a worker still reserved for the task would be one of its list, and those have been reset
  obtain ⟨l', h1, h2⟩ := hi.ls.m1 x id (k.shr.m x id hx)
  cases hst.symm.trans h1
  rw [f x h2] at hx; cases hx

theorem Release.kept {id : TaskId} {task : Task} (h : Release s id task s1) (hi : Inv s)
    (ht : findTask s.tasks id = some task) : KeptS Q D (fun u => D u ∨ u = id) s s1 ∧ Free s1 id := by
  cases h with
  | keep hs =>
    have hst := stOf_of_find ht
    refine ⟨(KeptS.refl hi).mono fun _ => .inl, hi.free_of_state ?_⟩
    rcases hs with ⟨n, hs⟩ | hs | ⟨⟨ws, hs⟩, hm⟩
    · exact .inr (.inl ⟨n, by rw [hst, hs]⟩)
    · exact .inr (.inr (by rw [hst, hs]))
    · rw [isMultiNode_eq, hi.mn id task ws ht hs] at hm; cases hm
  | sn hs hr h => exact Mv.unassign hi ht hs hr h
  | pre hs h1 h2 =>
    have hc := removePrefilled_core h1
    obtain ⟨k, f⟩ := Mv.unprefill (Q := Q) (D := D) (hc.inv hi) h2
    exact ⟨(hc.kept hi).trans k, f⟩
  | retr hs h =>
    obtain ⟨k, f⟩ := Mv.unredirect (Q := Q) (D := D) hi ht hs h
    exact ⟨k.mono fun _ => .inl, f⟩
  | mn hs h => exact Mv.resetMn hi ht hs h

/-- one id of `process_retracted`: out of the prefilled set, Retracting (without a redirect) -/
theorem Mv.retractStep (hi : Inv s) {t : TaskId} {task : Task} {w : Nat} (ht : findTask s.tasks t = some task)
    (hs : task.state = .prefilled w) (hw : s.withWorker w (·.removePrefill t) = .ok s1) :
    KeptS Q D D s (s1.setTask { task with state := .retracting w }) := by
  cases findTask_some_id ht
  obtain ⟨k, hf⟩ := Mv.unprefill (Q := Q) (D := D) hi hw
  have ht1 : findTask s1.tasks task.id = some task := by rw [withWorker_tasks hw]; exact ht
  exact (k.trans (Mv.settle_free k.inv (t' := { task with state := .retracting w }) ht1 hf rfl rfl
    (by rw [hs]; exact False.elim) trivial)).mono fun u hu => hu.1.resolve_right hu.2

/-! ### a free task is booked on a single-node worker -/

theorem Inv.not_consumer (hi : Inv s) {t : TaskId} {told : Task} (ht : findTask s.tasks t = some told)
    (hnw : ¬ isWaiting told.state) : ∀ d dt, findTask s.tasks d = some dt → t ∉ dt.consumers :=
  fun d dt hd hc => hnw (hi.cw d dt hd t hc told.state (stOf_of_find ht))

/-- the redirects `rd'` after a task `t` got a record in state `st` that claims `w` only: those of the other tasks are
the ones of `rd`; a redirect of `t` is to `w` and `st` is Retracting then; `st` claims `w` -/
structure RdFor (rd rd' : List (TaskId × Nat × Nat)) (t : TaskId) (st : TS) (w : Nat) : Prop where
  others : ∀ u x v, u ≠ t → ((u, x, v) ∈ rd' ↔ (u, x, v) ∈ rd)
  find : ∀ u, u ≠ t → rd'.find? (·.1 = u) = rd.find? (·.1 = u)
  own : ∀ x v, (t, x, v) ∈ rd' → (∃ w0, st = .retracting w0) ∧ x = w
  holds : Holds rd' w t st
  nodup : (rd'.map (·.1)).Nodup

theorem RdFor.same {rd : List (TaskId × Nat × Nat)} {t : TaskId} {st : TS} {w : Nat} (hn : ∀ x v, (t, x, v) ∉ rd)
    (hd2 : (rd.map (·.1)).Nodup) (hh : Holds rd w t st) : RdFor rd rd t st w :=
  ⟨fun _ _ _ _ => Iff.rfl, fun _ _ => rfl, fun x v hx => absurd hx (hn x v), hh, hd2⟩

theorem RdFor.append {rd : List (TaskId × Nat × Nat)} {t : TaskId} {old : Nat} (w v : Nat) (hn : ∀ x v, (t, x, v) ∉ rd)
    (hd2 : (rd.map (·.1)).Nodup) : RdFor rd (rd ++ [(t, w, v)]) t (.retracting old) w := by
  refine ⟨fun u x v' hu => ?_, fun u hu => find_append_ne hu, fun x v' hm => ⟨⟨old, rfl⟩, ?_⟩, ⟨v, by simp⟩, ?_⟩
  · simp only [List.mem_append, List.mem_singleton, Prod.mk.injEq, hu, false_and, or_false]
  · rcases List.mem_append.mp hm with h1 | h1
    · exact absurd h1 (hn x v')
    · cases List.mem_singleton.mp h1; rfl
  · rw [List.map_append]
    refine nodup_append_singleton hd2 fun hm => ?_
    obtain ⟨⟨k, y, z⟩, hx, rfl⟩ := List.mem_map.mp hm
    exact hn y z hx

/-- **a free task is booked**: the task `t'.id`, held by nobody (in repair at most itself), enters the assigned set of
`w`; its new record claims `w` only — Assigned / Running there, or Retracting with its only redirect (in `rd'`) to `w`.
The resource equation needs that `remove` does not saturate and that the new record names the booked entries. -/
theorem Mv.book (hi : Inv s) {t' told : Task} {w : Nat} {wk : Worker} {A P : List TaskId} {F F' : List Nat}
    {es : List RqEntry} {rd' : List (TaskId × Nat × Nat)}
    (hD : ∀ u, D u → u = t'.id) (ht : findTask s.tasks t'.id = some told) (hfree : Free s t'.id)
    (hold : ∀ l, told.state ≠ .runningMN l)
    (hfw : findWorker s.workers w = some wk) (ha : wk.assign = .sn A F P) (hnm : t'.id ∉ A)
    (hfr : freeRemove F es = .ok F')
    (hc : t'.consumers = told.consumers) (hq : t'.rq = told.rq)
    (hnc : ∀ d dt, findTask s.tasks d = some dt → t'.id ∉ dt.consumers)
    (hrd : RdFor s.redirects rd' t'.id t'.state w) :
    Kept (NoSat wk.total F es ∧ (variantOf rd' t'.id t'.state).bind (rqEntries s.rqs t'.rq) = some es) D noD s
      { (s.setWorker { wk with assign := .sn (A ++ [t'.id]) F' P }).setTask t' with redirects := rd' } := by
  obtain ⟨hrd, hfind, hr, hh, hd2⟩ := hrd
  cases findWorker_some_id hfw
  have hnmn : ∀ l, t'.state ≠ .runningMN l := fun l e => by rw [e] at hh; exact hh.elim
  refine ⟨hi.put_dispatch ht hc hq hnc (fun l e => absurd e (hnmn l)) ?_,
    fun h => ?_, fun hq' _ hres => ?_⟩
  · exact hi.ls.mv_assign (wk' := { wk with assign := .sn (A ++ [t'.id]) F' P }) ht hfree hfw
      (by rw [wAsg, ha]; exact hnm) (by rw [wAsg, wAsg, ha]) (by rw [wPre, wPre, ha]) (by rw [wMn, wMn, ha]) hrd
      (fun x v hx => (hr x v hx).1) hh hd2
  · have hin : t'.id ∈ A ++ [t'.id] := List.mem_append_right _ (List.mem_singleton_self _)
    have htw := h.tw.mv_sn h.mnu (F' := F') (P' := P) hD ht hold hfw ha (fun _ _ => List.mem_append_left _)
      (fun _ _ hx => hx) (fun u x v hu hm => (hrd u x v hu).mp hm) hnmn
      (fun x v e => by rcases e with e | e <;> rw [e] at hh <;> exact ⟨hh, hin⟩)
      (fun x e => by rw [e] at hh; exact hh.elim) (fun x v hx => ⟨(hr x v hx).1, (hr x v hx).2, hin⟩)
    exact ⟨htw.1, htw.2⟩
  · show Res4 (putTask s.tasks t') (putWorker s.workers _) rd' s.rqs
    exact hres.mv_insert (wk' := { wk with assign := .sn (A ++ [t'.id]) F' P }) hfw ha rfl rfl hfr hq'.1 hfree.na
      (fun u hu => (resvOf_put_ne hu).trans (resvOf_rd_congr (hfind u hu))) (by rw [resvOf_put_self ht rfl]; exact hq'.2)

/-! ### `task_running` -/

theorem tryRemoveRedirection_congr {s s1 s2 : State} {t : TaskId} {rq : Nat} (hw : s1.workers = s.workers)
    (hr : s1.redirects = s.redirects) (hq : s1.rqs = s.rqs) (h : s1.tryRemoveRedirection t rq = .ok s2) :
    s.tryRemoveRedirection t rq = .ok { s with workers := s2.workers, redirects := s2.redirects } := by
  rcases tryRemoveRedirection_cases h with ⟨hn, rfl⟩ | ⟨w, v, r, hf, hrq, h1⟩
  · rw [hr] at hn
    simp only [State.tryRemoveRedirection, hn, hw, hr]
  · obtain ⟨wk, wk', hfw, hf', rfl⟩ := withWorker_spec h1
    change findWorker s1.workers w = some wk at hfw
    rw [hw] at hfw
    rw [hr] at hf
    have hrq' : ({ s with redirects := s.redirects.filter (·.1 ≠ t) } : State).rq rq v = .ok r :=
      rq_ok_iff.mpr (hq ▸ rq_ok_iff.mp hrq)
    simp only [State.tryRemoveRedirection, hf, hrq']
    rw [NP.withWorker_ok (s := { s with redirects := s.redirects.filter (·.1 ≠ t) }) (wk := wk) hfw hf']
    simp only [State.setWorker, hw, hr]

/-- the four accepted cases of `task_running`. A Prefilled task leaves the prefilled set and is booked; for a Retracting
task the redirect's reservation is given back, then the request is booked on the reporting worker. -/
theorem RunningArm.kept {w : Nat} {id : TaskId} {rv : Nat} {task : Task} {ws : List Nat} (hi : Inv s)
    (ht : findTask s.tasks id = some task) (harm : RunningArm s w id rv task s' ws) :
    Kept (RunNoSat s w id rv) noD noD s s' := by
  have hnsat : RunNoSat s w id rv → match task.state with
      | .prefilled _ => FitsAt s w task.rq rv
      | .retracting _ =>
        match s.tryRemoveRedirection id task.rq with
        | .ok s2 => FitsAt s2 w task.rq rv
        | .error _ => True
      | _ => True := fun h => by
    unfold RunNoSat at h; simp only [show s.task? id = some task from ht] at h; exact h
  cases findTask_some_id ht
  cases harm with
  | assigned hs => exact (Mv.started hi (t' := { task with state := .running w rv }) ht hs rfl rfl rfl).toKept
  | prefilled hs hrq h1 h2 =>
    rename_i r s1
    obtain ⟨wk, wk', hfw, hf, rfl⟩ := withWorker_spec h1
    obtain ⟨A, F, P, F', ha, hfr, hm, hnm, rfl⟩ := prefilledToStarted_spec hf
    change findWorker s.workers w = some wk at hfw
    obtain ⟨k1, hfree⟩ := Mv.unprefill' (Q := RunNoSat s w task.id rv) (D := noD) (t := task.id) hi hfw ha hm
    have k2 := Mv.book k1.inv (t' := { task with state := .running w rv }) (told := task) (es := r.entries)
      (wk := { wk with assign := .sn A F (P.erase task.id) }) (F' := F') (rd' := s.redirects)
      (D := fun u => noD u ∨ u = task.id)
      (fun u hu => hu.resolve_left id) ht hfree (by rw [hs]; exact fun l e => nomatch e)
      (by show findWorker (putWorker s.workers _) w = _
          rw [findWorker_putWorker, if_pos (findWorker_some_id hfw).symm, hfw]; rfl) rfl hnm hfr rfl rfl
      (hi.not_consumer ht (by rw [hs]; exact id)) (.same hfree.nr hi.ls.d2 rfl)
    refine Kept.coreEq ?_ (queueRemove_core h2)
    refine (k1.toKept.trans (k2.imp fun hq => ?_)).coreEq ⟨rfl, ?_, rfl, rfl⟩
    · have := hnsat hq; rw [hs] at this
      exact ⟨this r wk A F P hrq hfw ha, rqEntries_of_rq hrq⟩
    · show putWorker s.workers _ = putWorker (putWorker s.workers _) _
      exact (putWorker_putWorker (a := { wk with assign := .sn A F (P.erase task.id) })
        (b := { wk with assign := .sn (A ++ [task.id]) F' (P.erase task.id) }) _ rfl).symm
  | retracting hs h1 h2 hrq h3 =>
    rename_i r s1 s2
    have hc1 := queueRemove_core h1
    -- `try_remove_redirection` reads workers, redirects and requests only: it does the same in the state before
    have hmid := tryRemoveRedirection_congr (s := s) hc1.w hc1.r hc1.q h2
    obtain ⟨k1, hfree⟩ := Mv.unredirect (Q := RunNoSat s w task.id rv) (D := noD) hi ht hs hmid
    obtain ⟨wk, wk', hfw, hf, rfl⟩ := withWorker_spec h3
    obtain ⟨A, F, P, F', ha, hfr, hnm, rfl⟩ := insertSn_spec hf
    have e2q : s2.rqs = s.rqs := (tryRemoveRedirection_spec h2).2.1.trans hc1.q
    have hrq' : ({ s with workers := s2.workers, redirects := s2.redirects } : State).rq task.rq rv = .ok r :=
      rq_ok_iff.mpr (e2q ▸ rq_ok_iff.mp hrq)
    have k2 := Mv.book k1.inv (t' := { task with state := .running w rv }) (told := task) (es := r.entries) (wk := wk)
      (F' := F') (rd' := s2.redirects) (D := noD) (fun _ hu => hu.elim) ht hfree
      (by rw [hs]; exact fun l e => nomatch e) hfw ha
      hnm hfr rfl rfl (hi.not_consumer ht (by rw [hs]; exact id)) (.same hfree.nr k1.inv.ls.d2 rfl)
    refine (k1.toKept.trans (k2.imp fun hq => ?_)).coreEq ⟨?_, rfl, rfl, e2q⟩
    · have := hnsat hq; rw [hs] at this; simp only [hmid] at this
      exact ⟨this r wk A F P hrq' hfw ha, rqEntries_of_rq hrq'⟩
    · exact (tryRemoveRedirection_tasks h2).trans hc1.t
  | @mn ws' wk wk' hs hw hk =>
    -- only the `started` flag of the root's record changes
    obtain ⟨e0, e1, e2, e3⟩ := mnStarted_views hk
    refine (Mv.setWorker hi (by rw [e0]; exact findWorker_of_id hw rfl) e1 e2 e3 ?_ ?_).toKept
    · rcases hk with ⟨_, _, _, _, rfl⟩ | ⟨_, rfl⟩ <;> rfl
    · intro A F P ha'
      rcases hk with ⟨_, _, _, _, rfl⟩ | ⟨_, rfl⟩
      · cases ha'
      · exact ⟨P, ha'⟩

end HqModel.Core
