import HqModel.SysW.Model
/-!
The pipeline of ONE worker `w` and ONE task `t`: the core's `view`, the items for `t` in the queue to the worker (`comps`),
the worker's hold (`Free` / `Back`), the events about `t` in the queue to the server (`pend`) — and `PipeOk`, the
combinations that occur. `Foreign` / `Own e` say how a server action may change the view together with the items it
sends; both keep `PipeOk`.
-/
namespace HqModel.SysW
open HqModel

theorem enc_succ (t : TaskId) : enc t + 1 = 2 ^ t.1 * (2 * t.2 + 1) := by
  have h1 : 0 < 2 ^ t.1 := Nat.pow_pos (by decide)
  have : 1 ≤ 2 ^ t.1 * (2 * t.2 + 1) := Nat.mul_pos h1 (by omega)
  unfold enc; omega

theorem decF_enc (j : Nat) : ∀ (f t : Nat), j < f → decF f (2 ^ j * (2 * t + 1)) = (j, t) := by
  induction j with
  | zero =>
    intro f t hf
    cases f with
    | zero => omega
    | succ f =>
      simp only [decF, Nat.pow_zero, Nat.one_mul]
      have : (2 * t + 1) % 2 = 1 := by omega
      simp only [this, if_true]
      congr 1; omega
  | succ j ih =>
    intro f t hf
    cases f with
    | zero => omega
    | succ f =>
      have e : 2 ^ (j + 1) * (2 * t + 1) = 2 * (2 ^ j * (2 * t + 1)) := by
        rw [Nat.pow_succ, Nat.mul_comm (2 ^ j) 2, Nat.mul_assoc]
      rw [e]
      simp only [decF]
      have h1 : (2 * (2 ^ j * (2 * t + 1))) % 2 ≠ 1 := by omega
      have h2 : 2 * (2 ^ j * (2 * t + 1)) / 2 = 2 ^ j * (2 * t + 1) := by omega
      simp only [h1, if_false, h2]
      rw [ih f t (by omega)]

theorem dec_enc (t : TaskId) : dec (enc t) = t := by
  unfold dec
  rw [enc_succ]
  obtain ⟨j, k⟩ := t
  apply decF_enc
  have h1 : j < 2 ^ j := Nat.lt_two_pow_self
  have : 2 ^ j * 1 ≤ 2 ^ j * (2 * k + 1) := Nat.mul_le_mul_left _ (by omega)
  simp only at this ⊢
  omega

theorem decF_spec : ∀ (f m : Nat), 1 ≤ m → m ≤ f → 2 ^ (decF f m).1 * (2 * (decF f m).2 + 1) = m := by
  intro f
  induction f with
  | zero => intro m h1 h2; omega
  | succ f ih =>
    intro m h1 h2
    simp only [decF]
    by_cases hm : m % 2 = 1
    · simp only [hm, if_true, Nat.pow_zero, Nat.one_mul]; omega
    · simp only [hm, if_false]
      have := ih (m / 2) (by omega) (by omega)
      rw [Nat.pow_succ, Nat.mul_comm (2 ^ _) 2, Nat.mul_assoc, this]
      omega

theorem enc_dec (n : Nat) : enc (dec n) = n := by
  have := decF_spec (n + 1) (n + 1) (by omega) (Nat.le_refl _)
  have h := enc_succ (dec n)
  unfold dec at h ⊢
  omega

theorem enc_inj {a b : TaskId} (h : enc a = enc b) : a = b := by
  rw [← dec_enc a, ← dec_enc b, h]

theorem dec_eq_iff {n : Nat} {t : TaskId} : dec n = t ↔ n = enc t :=
  ⟨fun h => by rw [← h, enc_dec], fun h => by rw [h, dec_enc]⟩

theorem enc_eq_iff {n : Nat} {t : TaskId} : enc t = n ↔ t = dec n :=
  ⟨fun h => by rw [← h, dec_enc], fun h => by rw [h, enc_dec]⟩

example : enc (1, 0) = 1 ∧ enc (1, 2) = 9 ∧ dec 9 = (1, 2) ∧ dec 0 = (0, 0) ∧ dec 87 = (3, 5) := by decide

/-- what the core thinks about task `t` from the point of view of worker `w`: `hot` — unknown to the core, Running on
`w`, or RunningMultiNode with root `w` and the `started` flag (every message of `w` about `t` is harmless); `asg rv` —
Assigned to `w` with variant `rv`, or multi-node with root `w` and not started; `pre` — Prefilled on `w` or Retracting
from `w`; `quiet` — known and not at `w` -/
inductive V where
  | hot | quiet | asg (rv : Nat) | pre
  deriving DecidableEq, Repr

/-- worker `w` is in a multi-node assignment for `t` with the `started` flag -/
def mnStarted (c : Core.State) (w : Nat) (t : TaskId) : Bool :=
  match c.worker? w with
  | some wk =>
    match wk.assign with
    | .mn t' _ true => t' == t
    | _ => false
  | none => false

def viewSt (c : Core.State) (w : Nat) (t : TaskId) : Core.TS → V
  | .running w' _ => if w' = w then .hot else .quiet
  | .assigned w' rv => if w' = w then .asg rv else .quiet
  | .prefilled w' => if w' = w then .pre else .quiet
  | .retracting w' => if w' = w then .pre else .quiet
  | .runningMN (root :: _) => if root = w then (if mnStarted c w t then .hot else .asg 0) else .quiet
  | _ => .quiet

def view (c : Core.State) (w : Nat) (t : TaskId) : V :=
  match c.task? t with
  | none => .hot
  | some task => viewSt c w t task.state

inductive Ev where
  | run (rv : Nat) | fin | fail | rej (orv : Option Nat) | resp
  deriving DecidableEq, Repr

/-- the events about `t`, in order, in a worker → server queue: `evsOfUpd`, `evsOfMsg`, `pend` -/
def evsOfUpd (t : TaskId) : Core.Update → List Ev
  | .finished t' => if t' = t then [.fin] else []
  | .failed t' => if t' = t then [.fail] else []
  | .running t' rv => if t' = t then [.run rv] else []
  | .runningPrefilled t' rv => if t' = t then [.run rv] else []
  | .reject t' orv => if t' = t then [.rej orv] else []
  | .enable _ _ => []

def evsOfMsg (t : TaskId) : W2S → List Ev
  | .updates us => us.flatMap (evsOfUpd t)
  | .retracted ids => if t ∈ ids then [.resp] else []

def pend (t : TaskId) (q : List W2S) : List Ev := q.flatMap (evsOfMsg t)

/-- the `ComputeTasks` items for `t` in a server → worker queue (`some rv` assigned, `none` prefill) -/
def compsOfMsg (t : TaskId) : S2W → List (Option Nat)
  | .compute items => (items.filter fun it => it.1 = t).map (·.2.2.1)
  | _ => []

def comps (t : TaskId) (q : List S2W) : List (Option Nat) := q.flatMap (compsOfMsg t)

/-- the events of `evsOfUpd` on the worker side (ids of M2) -/
def evsW (n : Nat) : Worker.Update → List Ev
  | .finished t => if t = n then [.fin] else []
  | .failed t _ => if t = n then [.fail] else []
  | .running t rv => if t = n then [.run rv] else []
  | .runningPrefilled t rv => if t = n then [.run rv] else []
  | .reject t orv => if t = n then [.rej orv] else []
  | .enable _ _ => []

def evsOut (n : Nat) : Worker.Out → List Ev
  | .updates us => us.flatMap (evsW n)
  | .retractResponse ids => if n ∈ ids then [.resp] else []
  | _ => []

def evsOuts (n : Nat) (outs : List Worker.Out) : List Ev := outs.flatMap (evsOut n)

def isRun (s : Worker.State) (n : Nat) : Prop := ∃ r ∈ s.running, r.task.id = n

def bcount (s : Worker.State) (n rq : Nat) : Nat := ((s.backlog rq).filter fun x => x.id = n).length

/-- the worker does not hold `n` -/
def Free (s : Worker.State) (n : Nat) : Prop := ¬ isRun s n ∧ ∀ rq, bcount s n rq = 0

/-- the worker holds `n` exactly once in a backlog and does not run it -/
def Back (s : Worker.State) (n : Nat) : Prop :=
  ¬ isRun s n ∧ ∃ rq0, bcount s n rq0 = 1 ∧ ∀ rq, rq ≠ rq0 → bcount s n rq = 0

def Quiet (cs : List (Option Nat)) (P : List Ev) (ws : Worker.State) (n : Nat) : Prop :=
  cs = [] ∧ P = [] ∧ Free ws n

/-- after the worker processed an assigned item with variant `rv` -/
def AsgDone (rv : Nat) (P : List Ev) (ws : Worker.State) (n : Nat) : Prop :=
  (∃ rv' rest, P = .run rv' :: rest) ∨ (∃ rest, P = .fail :: rest) ∨ (P = [.rej (some rv)] ∧ Free ws n)

/-- after the worker processed a prefill item -/
def PreDone (P : List Ev) (ws : Worker.State) (n : Nat) : Prop :=
  (P = [] ∧ (Back ws n ∨ Free ws n)) ∨ (∃ rv rest, P = .run rv :: rest) ∨ (∃ rest, P = .fail :: rest) ∨
  (∃ orv, P = [.rej orv] ∧ Free ws n) ∨ (P = [.resp] ∧ Free ws n)

/-- the pipelines that occur (queue to the worker, worker, queue to the server), per view -/
def PipeOk : V → List (Option Nat) → List Ev → Worker.State → Nat → Prop
  | .hot, _, _, _, _ => True
  | .quiet, cs, P, ws, n => Quiet cs P ws n
  | .asg rv, cs, P, ws, n => (cs = [some rv] ∧ P = [] ∧ Free ws n) ∨ (cs = [] ∧ AsgDone rv P ws n)
  | .pre, cs, P, ws, n => (cs = [none] ∧ P = [] ∧ Free ws n) ∨ (cs = [] ∧ PreDone P ws n)

/-- the pipeline of worker record `x` for task `t`; `U` = the ids submitted so far -/
def Pipe (c : Core.State) (U : List TaskId) (x : WState) (t : TaskId) : Prop :=
  (t ∈ U → PipeOk (view c x.id t) (comps t x.s2w) (pend t x.w2s) x.w (enc t)) ∧
  (t ∉ U → Quiet (comps t x.s2w) (pend t x.w2s) x.w (enc t))

/-- how a view may change, with the items `cm` sent to that worker for that task, by an action that is not a message of
this worker about this task -/
def Foreign (v : V) (cm : List (Option Nat)) (v' : V) : Prop :=
  (v = .hot → v' = .hot) ∧
  (v' = .hot ∨ (v' = v ∧ cm = []) ∨
   (v = .quiet ∧ ((∃ rv, v' = .asg rv ∧ cm = [some rv]) ∨ (v' = .pre ∧ cm = [none]))))

theorem Foreign.same (v : V) : Foreign v [] v := ⟨fun h => h, .inr (.inl ⟨rfl, rfl⟩)⟩

theorem Foreign.hot (v : V) (cm : List (Option Nat)) : Foreign v cm .hot := ⟨fun _ => rfl, .inl rfl⟩

theorem Foreign.asg (rv : Nat) : Foreign .quiet [some rv] (.asg rv) :=
  ⟨fun e => (by cases e), .inr (.inr ⟨rfl, .inl ⟨rv, rfl, rfl⟩⟩)⟩

theorem Foreign.pre : Foreign .quiet [none] .pre := ⟨fun e => (by cases e), .inr (.inr ⟨rfl, .inr ⟨rfl, rfl⟩⟩)⟩

theorem PipeOk.foreign {v v' : V} {cs cm : List (Option Nat)} {P : List Ev} {ws : Worker.State} {n : Nat}
    (h : PipeOk v cs P ws n) (f : Foreign v cm v') : PipeOk v' (cs ++ cm) P ws n := by
  obtain ⟨_, f2⟩ := f
  rcases f2 with e | ⟨e, e2⟩ | ⟨e, f3⟩
  · subst e; trivial
  · subst e e2; rw [List.append_nil]; exact h
  · subst e
    obtain ⟨h1, h2, h3⟩ := h
    subst h1
    rcases f3 with ⟨rv, e, e2⟩ | ⟨e, e2⟩
    · subst e e2; exact .inl ⟨rfl, h2, h3⟩
    · subst e e2; exact .inl ⟨rfl, h2, h3⟩

/-- … by the head event `e` of the worker's own stream about this task (`P = e :: P'`) -/
def Own (e : Ev) (v : V) (cm : List (Option Nat)) (v' : V) : Prop :=
  (v = .hot → v' = .hot) ∧
  match e with
  | .run _ => v' = .hot
  | .fail => v' = .hot
  | .fin => True
  | .rej orv =>
    (∀ rv, v = .asg rv → orv = some rv → (v' = .hot ∨ v' = .quiet) ∧ cm = []) ∧
    (v = .pre → v' = .hot ∨ (v' = .quiet ∧ cm = []) ∨ ∃ rv, v' = .asg rv ∧ cm = [some rv])
  | .resp =>
    (v = .pre → v' = .hot ∨ (v' = .quiet ∧ cm = []) ∨ (v' = .pre ∧ cm = []) ∨ ∃ rv, v' = .asg rv ∧ cm = [some rv])

theorem PipeOk.own {e : Ev} {v v' : V} {cs cm : List (Option Nat)} {P : List Ev} {ws : Worker.State} {n : Nat}
    (h : PipeOk v cs (e :: P) ws n) (f : Own e v cm v') : PipeOk v' (cs ++ cm) P ws n := by
  obtain ⟨f1, f2⟩ := f
  cases v with
  | hot => rw [f1 rfl]; trivial
  | quiet => obtain ⟨_, h2, _⟩ := h; cases h2
  | asg rv =>
    rcases h with ⟨_, h2, _⟩ | ⟨hc, hd⟩
    · cases h2
    · subst hc
      rcases hd with ⟨rv', rest, hp⟩ | ⟨rest, hp⟩ | ⟨hp, hf⟩
      · cases hp; have f2 : v' = .hot := f2; rw [f2]; trivial
      · cases hp; have f2 : v' = .hot := f2; rw [f2]; trivial
      · cases hp
        obtain ⟨g1, _⟩ := f2
        obtain ⟨k1, k2⟩ := g1 rv rfl rfl
        subst k2
        rcases k1 with e | e <;> rw [e]
        · trivial
        · exact ⟨rfl, rfl, hf⟩
  | pre =>
    rcases h with ⟨_, h2, _⟩ | ⟨hc, hd⟩
    · cases h2
    · subst hc
      rcases hd with ⟨hp, _⟩ | ⟨rv', rest, hp⟩ | ⟨rest, hp⟩ | ⟨orv, hp, hf⟩ | ⟨hp, hf⟩
      · cases hp
      · cases hp; have f2 : v' = .hot := f2; rw [f2]; trivial
      · cases hp; have f2 : v' = .hot := f2; rw [f2]; trivial
      · cases hp
        obtain ⟨_, g2⟩ := f2
        rcases g2 rfl with e | ⟨e, e2⟩ | ⟨rv, e, e2⟩
        · rw [e]; trivial
        · rw [e, e2]; exact ⟨rfl, rfl, hf⟩
        · rw [e, e2]; exact .inl ⟨rfl, rfl, hf⟩
      · cases hp
        have f2 : V.pre = V.pre → _ := f2
        rcases f2 rfl with e | ⟨e, e2⟩ | ⟨e, e2⟩ | ⟨rv, e, e2⟩
        · rw [e]; trivial
        · rw [e, e2]; exact ⟨rfl, rfl, hf⟩
        · rw [e, e2]; exact .inr ⟨rfl, .inl ⟨rfl, .inr hf⟩⟩
        · rw [e, e2]; exact .inl ⟨rfl, rfl, hf⟩

theorem PipeOk.head_ne_quiet {v : V} {cs : List (Option Nat)} {e : Ev} {P : List Ev} {ws : Worker.State} {n : Nat}
    (h : PipeOk v cs (e :: P) ws n) : v ≠ .quiet := by
  rintro rfl
  obtain ⟨_, h2, _⟩ := h; cases h2

/-- the head event of a legal pipeline decides what the core may be asked: `fin` only in a hot view, a reject of an
Assigned task only with its variant -/
theorem PipeOk.head_fin {v : V} {cs : List (Option Nat)} {P : List Ev} {ws : Worker.State} {n : Nat}
    (h : PipeOk v cs (.fin :: P) ws n) : v = .hot := by
  cases v with
  | hot => rfl
  | quiet => obtain ⟨_, h2, _⟩ := h; cases h2
  | asg rv =>
    rcases h with ⟨_, h2, _⟩ | ⟨_, ⟨_, _, hp⟩ | ⟨_, hp⟩ | ⟨hp, _⟩⟩
    · cases h2
    · cases hp
    · cases hp
    · cases hp
  | pre =>
    rcases h with ⟨_, h2, _⟩ | ⟨_, ⟨hp, _⟩ | ⟨_, _, hp⟩ | ⟨_, hp⟩ | ⟨_, hp, _⟩ | ⟨hp, _⟩⟩
    · cases h2
    · cases hp
    · cases hp
    · cases hp
    · cases hp
    · cases hp

theorem PipeOk.head_rej {v : V} {cs : List (Option Nat)} {P : List Ev} {ws : Worker.State} {n : Nat} {orv : Option Nat}
    (h : PipeOk v cs (.rej orv :: P) ws n) : v ≠ .quiet ∧ ∀ rv, v = .asg rv → orv = some rv := by
  refine ⟨h.head_ne_quiet, ?_⟩
  rintro rv rfl
  rcases h with ⟨_, h2, _⟩ | ⟨_, ⟨_, _, hp⟩ | ⟨_, hp⟩ | ⟨hp, _⟩⟩
  · cases h2
  · cases hp
  · cases hp
  · cases hp; rfl

theorem flatMap_at {β : Type} (f : Nat → List β) (a0 : Nat) : ∀ (l : List Nat), l.Nodup → (∀ a ∈ l, a ≠ a0 → f a = []) →
    l.flatMap f = if a0 ∈ l then f a0 else []
  | [], _, _ => rfl
  | a :: l, hn, h0 => by
    obtain ⟨hn1, hn2⟩ := List.nodup_cons.mp hn
    rw [List.flatMap_cons, flatMap_at f a0 l hn2 fun b hb => h0 b (List.mem_cons_of_mem _ hb)]
    by_cases ha : a = a0
    · subst ha; simp [hn1]
    · rw [h0 a List.mem_cons_self ha]; simp [Ne.symm ha]

end HqModel.SysW
