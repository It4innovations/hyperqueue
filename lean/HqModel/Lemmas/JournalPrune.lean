import HqModel.Journal.Spec
import HqModel.Lemmas.JournalFactor
/-! Lemmas about `prune` (prune.rs): it is a record-wise filter; pruning twice = pruning with the intersections. -/
namespace HqModel.Journal

def inter (a b : List Nat) : List Nat := a.filter fun x => b.contains x

theorem contains_inter (a b : List Nat) (x : Nat) : (inter a b).contains x = (a.contains x && b.contains x) := by
  unfold inter
  by_cases h1 : x ∈ a <;> by_cases h2 : x ∈ b <;> simp [h1, h2]

theorem filter_ids_inter (lj lj2 : List Nat) (ids : List (Nat × Nat)) :
    (ids.filter fun i => lj.contains i.1).filter (fun i => lj2.contains i.1) =
      ids.filter fun i => (inter lj lj2).contains i.1 := by
  rw [List.filter_filter]
  apply List.filter_congr
  intro i _
  rw [contains_inter, Bool.and_comm]

def workerOf : Record → Option Nat
  | .workerConnected w _ | .workerLost w _ | .workerOverview w => some w
  | _ => none

/-- whether `prune_journal` keeps a record that is not a `TasksCanceled` / `TasksAborted` batch -/
def keeps (lj lw : List Nat) (x : Record) : Bool :=
  match jobOf x with
  | some j => lj.contains j
  | none =>
    match workerOf x with
    | some w => lw.contains w
    | none => true

theorem pruneRecord_eq (lj lw : List Nat) (x : Record) :
    pruneRecord lj lw x = match batchOf x with
      | some (_, con, ids) =>
        if (ids.filter fun i => lj.contains i.1).isEmpty then none else some (con (ids.filter fun i => lj.contains i.1))
      | none => if keeps lj lw x then some x else none := by
  cases x <;> rfl

theorem keeps_inter (lj lw lj2 lw2 : List Nat) (x : Record) :
    keeps (inter lj lj2) (inter lw lw2) x = (keeps lj lw x && keeps lj2 lw2 x) := by
  unfold keeps
  cases jobOf x with
  | some j => exact contains_inter lj lj2 j
  | none =>
    cases workerOf x with
    | some w => exact contains_inter lw lw2 w
    | none => rfl

theorem pruneRecord_pruneRecord (lj lw lj2 lw2 : List Nat) (x : Record) :
    (pruneRecord lj lw x).bind (pruneRecord lj2 lw2) = pruneRecord (inter lj lj2) (inter lw lw2) x := by
  cases hb : batchOf x with
  | some p =>
    obtain ⟨mk, con, ids⟩ := p
    obtain ⟨rfl, _, hc⟩ := batchOf_con hb
    have hcon : ∀ (l l' : List Nat) ids', pruneRecord l l' (con ids') =
        if (ids'.filter fun i => l.contains i.1).isEmpty then none else some (con (ids'.filter fun i => l.contains i.1)) :=
      fun l l' ids' => by rw [pruneRecord_eq, (hc ids').1]
    rw [hcon, hcon, ← filter_ids_inter]
    cases hA : ids.filter (fun i => lj.contains i.1) with
    | nil => rfl
    | cons a as => simp only [List.isEmpty_cons, Bool.false_eq_true, if_false, Option.bind_some, hcon]
  | none =>
    have plain : ∀ l l', pruneRecord l l' x = if keeps l l' x then some x else none := by
      intro l l'; rw [pruneRecord_eq, hb]
    rw [plain, plain, keeps_inter]
    cases keeps lj lw x
    · rfl
    · simp only [if_true, Option.bind_some, plain, Bool.true_and]

theorem prune_prune (lj lw lj2 lw2 : List Nat) (J : List Record) :
    prune lj2 lw2 (prune lj lw J) = prune (inter lj lj2) (inter lw lw2) J := by
  unfold prune
  rw [List.filterMap_filterMap]
  congr 1
  funext x
  exact pruneRecord_pruneRecord lj lw lj2 lw2 x

theorem prune_append (lj lw : List Nat) (J K : List Record) : prune lj lw (J ++ K) = prune lj lw J ++ prune lj lw K := by
  simp [prune]

end HqModel.Journal
