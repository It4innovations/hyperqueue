import HqModel.Lemmas.SysPair
/-!
The two loops of the core in which the client callback is re-entrant (`on_task_update` and the crash loop of
`on_remove_worker`), in lock step with the job layer: the callbacks the whole loop appended, delivered in order starting
from a job state coupled with the core state before the loop, are accepted and lead to a job state coupled with the core
state after it (`lock_update`, `lock_crash`). The proofs go update by update (task by task): after the callbacks of each
the coupling holds with the core state reached so far (`pair_upd1`, `pair_failed`, glued by `GoodR.append`) — the reason
why `Sys.step` may run the core operation first and deliver the callbacks afterwards.
-/
namespace HqModel.Sys
open HqModel

theorem pair_upd1 {js : Job.State} {c c1 : Core.State} {w : Nat} {u : Core.Update} {rets rets1 : List (List TaskId)}
    {o1 : Core.Out} (h0 : Coupled0 js c) (hi : Core.InvF c) (hok : UpdOk c w u)
    (h : c.upd1 w u rets = .ok (c1, o1, rets1)) : GoodR c1 rets1 (route js rets o1.cbs) := by
  rcases Core.upd1_cases h with ⟨t, b, rfl, h1, rfl⟩ | ⟨t, rfl, h1, rfl⟩ | ⟨t, rv, _, h1, rfl⟩ | ⟨t, rv, b, rfl, h1, rfl⟩ |
    ⟨rq, rv, rfl, h1, rfl, rfl⟩
  · exact pair_finished h0 hok.2 h1
  · by_cases hk : (c.task? t).isSome = true
    · simp only [hk, if_true] at h1 ⊢
      exact pair_failed h0 hk h1
    · simp only [hk, Bool.false_eq_true, if_false] at h1 ⊢
      have hno : c.task? t = none := Option.not_isSome_iff_eq_none.mp hk
      simp only [Core.State.taskFailed, hno] at h1
      cases h1
      exact GoodR.nil h0
  · exact pair_running h0 (fun l hs x hx => hi.tw.tw.t3 t l (fun e => e) hs x hx) h1
  · rw [Core.taskReject_cbs h1]
    exact GoodR.nil (h0.core_silent (Core.taskReject_frc h1) (Core.taskReject_stable h1))
  · exact GoodR.nil (h0.core_silent (Core.requestEnabled_frc h1) (by rw [Core.requestEnabled_tasks h1]))

theorem lock_update (w : Nat) (us : List Core.Update) :
    ∀ (c c' : Core.State) (rets rets' : List (List TaskId)) (out out' : Core.Out) (need need' : Bool),
      Core.InvF c → Core.UpdatesOk UpdOk c w us rets →
      c.updateLoop w us rets out need = .ok (c', out', need', rets') →
      ∃ cbs, out'.cbs = out.cbs ++ cbs ∧ ∀ js, Coupled0 js c → GoodR c' rets' (route js rets cbs) := by
  induction us with
  | nil =>
    intro c c' rets rets' out out' need need' _ _ h
    simp only [Core.State.updateLoop] at h
    cases h
    exact ⟨[], by simp, fun js h0 => GoodR.nil h0⟩
  | cons u rest ih =>
    intro c c' rets rets' out out' need need' hi hok h
    obtain ⟨c1, o1, rets1, need1, h1, h2⟩ := Core.updateLoop_cons_ok h
    have hus := Core.upd1_updateState h1
    simp only [Core.UpdatesOk, hus] at hok
    have hi1 : Core.InvF c1 :=
      ⟨Core.updateState_inv hi.inv hok.1.proto hus, Core.updateState_tw hi.tw hi.inv hok.1.proto hus⟩
    obtain ⟨cbs2, e2, g2⟩ := ih c1 c' rets1 rets' _ out' need1 need' hi1 hok.2 h2
    refine ⟨o1.cbs ++ cbs2, by rw [e2, Core.add_cbs, List.append_assoc], ?_⟩
    intro js h0
    exact GoodR.append (pair_upd1 h0 hi hok.1 h1) g2

theorem lock_crash (f : Bool) (ids : List TaskId) :
    ∀ (c c' : Core.State) (rets : List (List TaskId)) (out out' : Core.Out),
      c.crashLoop f ids rets out = .ok (c', out') →
      ∃ cbs rets', out'.cbs = out.cbs ++ cbs ∧ ∀ js, Coupled0 js c → GoodR c' rets' (route js rets cbs) := by
  induction ids with
  | nil =>
    intro c c' rets out out' h
    simp only [Core.State.crashLoop] at h
    cases h
    exact ⟨[], rets, by simp, fun js h0 => GoodR.nil h0⟩
  | cons id rest ih =>
    intro c c' rets out out' h
    rcases Core.crashLoop_cons_ok h with ⟨_, h⟩ | ⟨task, ht, hcase⟩
    · exact ih _ _ _ _ _ h
    · have f1 : Core.Frc c (c.setTask { task with crashes := (Core.crashOutcome task.crashLimit f task.crashes).1 }) :=
        Core.Fr.setState ht rfl rfl (Core.stOk.refl _ _)
      have e1 := Core.setTask_ids c { task with crashes := (Core.crashOutcome task.crashLimit f task.crashes).1 }
      rcases hcase with ⟨_, c2, o2, h2, h⟩ | ⟨_, h⟩
      · obtain ⟨cbs2, rets', e2, g2⟩ := ih _ _ _ _ _ h
        refine ⟨o2.cbs ++ cbs2, rets', by rw [e2, Core.add_cbs, List.append_assoc], fun js h0 => ?_⟩
        have hk : ((c.setTask { task with crashes := (Core.crashOutcome task.crashLimit f task.crashes).1 }).task? id).isSome
            = true := by
          rw [Core.task?_setTask, if_pos (Core.findTask_some_id ht).symm, ht]
          rfl
        exact GoodR.append (pair_failed (h0.core_silent f1 e1) hk h2) g2
      · obtain ⟨cbs2, rets', e2, g2⟩ := ih _ _ _ _ _ h
        exact ⟨cbs2, rets', e2, fun js h0 => g2 js (h0.core_silent f1 e1)⟩

end HqModel.Sys
