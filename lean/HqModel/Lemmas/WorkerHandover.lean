import HqModel.Lemmas.WorkerMinor
/-!
Allocation handles (C04, worker side): the ghost set `live` of the abstract allocator is exactly the set of
handles owned by running tasks, and every handle is owned by at most one running task (`HInv`, an invariant of
every step). While an allocation is inside `try_alloc_and_start_task` / `prefill_loop` it is live and not owned
(`HInvF [h]`): `HMode`, kept by every move of the message loop.
-/
namespace HqModel.Worker

theorem perm_of_find {α : Type} (key : α → Nat) (t : Nat) : ∀ (l : List α) {r : α},
    (l.map key).Nodup → l.find? (fun x => key x == t) = some r →
    l.Perm (r :: l.filter (fun x => key x != t))
  | [], _, _, h => nomatch h
  | y :: l, r, hn, h => by
    simp only [List.map_cons, List.nodup_cons, List.mem_map, not_exists, not_and] at hn
    by_cases hy : key y = t
    · have hfl : l.filter (fun x => key x != t) = l :=
        List.filter_eq_self.mpr fun z hz => by simpa [← hy] using fun h => hn.1 z hz h
      simp only [List.find?_cons, hy, beq_self_eq_true, Option.some.injEq] at h
      simp [← h, hy, hfl]
    · have hyb : (key y == t) = false := by simpa using hy
      simp only [List.find?_cons, hyb] at h
      simpa [hy] using ((perm_of_find key t l hn.2 h).cons y).trans (List.Perm.swap r y _)

def handles (s : State) : List Nat := s.running.map (·.h)
def runIds (s : State) : List Nat := s.running.map (·.task.id)

/-- `f` = handles that were allocated and are at the moment not owned by a running task (in flight inside
`try_alloc_and_start_task` / `prefill_loop`) -/
def HInvF (f : List Nat) (s : State) : Prop :=
  s.live.Perm (f ++ handles s) ∧ s.live.Nodup ∧ (runIds s).Nodup

/-- between two steps every live handle is owned by exactly one running task -/
def HInv (s : State) : Prop := HInvF [] s

theorem HInv.handles_nodup {s : State} (h : HInv s) : (handles s).Nodup := by
  have := h.1.nodup_iff.mp h.2.1
  simpa using this

theorem HInv.mem_live_iff {s : State} (h : HInv s) (x : Nat) : x ∈ s.live ↔ ∃ r ∈ s.running, r.h = x := by
  rw [h.1.mem_iff]
  simp [handles]

@[simp] theorem handles_setBacklog (s : State) (rq l) : handles (setBacklog s rq l) = handles s := rfl
@[simp] theorem runIds_setBacklog (s : State) (rq l) : runIds (setBacklog s rq l) = runIds s := rfl

theorem HInvF.setBacklog {f : List Nat} {s : State} (h : HInvF f s) (rq l) : HInvF f (setBacklog s rq l) := h

/-- the handle in flight is live and not owned -/
def HMode : Mode → Acc → Prop
  | .idle _, a => HInv a.s
  | .hand _ _ _ h _ _, a => HInvF [h] a.s
  | .flight _ _ _ h, a => HInvF [h] a.s

theorem HMode.mv {m m' : Mode} {a a' : Acc} (hm : Mv m a m' a') (hi : HMode m a) : HMode m' a' := by
  cases hm with
  | push | reject | fail | pop => exact hi
  | block => simpa [HMode, HInv, HInvF, handles, runIds] using hi
  | alloc _ _ hlive => exact ⟨hi.1.cons _, List.nodup_cons.mpr ⟨hlive, hi.2.1⟩, hi.2.2⟩
  | @start a _ _ _ h _ x hr =>
    refine ⟨?_, hi.2.1, ?_⟩
    · show a.s.live.Perm ([] ++ (a.s.running ++ [_]).map Running.h)
      exact hi.1.trans (by simpa [handles] using (List.perm_append_comm (l₁ := [h]) (l₂ := handles a.s)))
    · show ((a.s.running ++ [_]).map fun r : Running => r.task.id).Nodup
      rw [List.map_append, List.nodup_append]
      refine ⟨hi.2.2, by simp, ?_⟩
      intro y hy z hz
      simp only [List.map_cons, List.map_nil, List.mem_singleton] at hz
      subst hz
      obtain ⟨r, hr', rfl⟩ := List.mem_map.mp hy
      exact (isRunning_false_iff ..).mp hr r hr'
  | @release _ _ _ _ h =>
    refine ⟨?_, hi.2.1.erase h, hi.2.2⟩
    have := hi.1.erase h
    rwa [List.singleton_append, List.erase_cons_head] at this

theorem Minor.hinv {s s' : State} (hm : Minor s s') (hi : HInv s) : HInv s' := by
  unfold HInv HInvF handles runIds at hi ⊢
  rw [hm.live, hm.map_h, hm.map_id]
  exact hi

theorem step_HInv {s s' : State} {op : Op} {outs : List Out}
    (hi : HInv s) (hs : step s op = .ok (s', outs)) : HInv s' := by
  rcases step_path hs with ⟨es, a, -, hp, rfl, -⟩ | ⟨t, res, en, r, a, bl', upd', -, hr, hp, rfl, -⟩ | ⟨hm, -, -⟩
  · exact hp.preserves HMode.mv hi
  · refine hp.preserves HMode.mv (m := .flight ..) (m' := .idle []) ?_
    have hperm := perm_of_find (fun x : Running => x.task.id) t s.running hi.2.2 hr
    refine ⟨?_, hi.2.1, hi.2.2.sublist (List.Sublist.map _ List.filter_sublist)⟩
    show s.live.Perm ([r.h] ++ (s.running.filter (fun x => x.task.id != t)).map (·.h))
    have h1 : s.live.Perm (s.running.map (·.h)) := by simpa [handles] using hi.1
    exact h1.trans (by simpa using hperm.map (·.h))
  · exact hm.hinv hi

theorem init_HInv (rqs : List (List Nat)) (rem : Option Nat) : HInv (init rqs rem) := by
  refine ⟨?_, ?_, ?_⟩ <;> simp [init, handles, runIds]

theorem run_HInv : ∀ (ops : List Op) {s s' : State} {os : List (List Out)},
    HInv s → run s ops = .ok (s', os) → HInv s'
  | [], s, s', os, hi, hr => by simp only [run] at hr; cases hr; exact hi
  | op :: ops, s, s', os, hi, hr => by
    obtain ⟨s1, o1, os1, h1, h2, _⟩ := run_cons_ok hr
    exact run_HInv ops (step_HInv hi h1) h2

end HqModel.Worker
