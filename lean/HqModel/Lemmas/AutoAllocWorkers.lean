import HqModel.Lemmas.AutoAllocFrame
/-!
Worker accounting of one allocation (C18 `c18_workers`): the per-allocation automaton `allocRun`, and the tie of
the whole model to it (`QTrans.allocFed`).
-/
namespace HqModel.AutoAlloc

theorem mem_insertW (w w' : Nat) (l : List Nat) : w ∈ insertW w' l ↔ w = w' ∨ w ∈ l := by
  unfold insertW
  split
  · constructor
    · exact .inr
    · rintro (rfl | h)
      · assumption
      · exact h
  · simp only [List.mem_append, List.mem_singleton]
    constructor
    · rintro (h | h)
      · exact .inr h
      · exact .inl h
    · rintro (h | h)
      · exact .inr h
      · exact .inl h

theorem mem_removeW (w w' : Nat) (l : List Nat) : w ∈ removeW w' l ↔ w ∈ l ∧ w ≠ w' := by
  simp [removeW]

theorem keys_insertD (w : Nat) (cr : Bool) (d : List (Nat × Bool)) (w' : Nat) :
    w' ∈ (insertD w cr d).map (·.1) ↔ w' = w ∨ w' ∈ d.map (·.1) := by
  simp only [insertD, List.map_append, List.map_cons, List.map_nil, List.mem_append, List.mem_map, List.mem_filter,
    List.mem_singleton]
  constructor
  · rintro (⟨x, ⟨hx, _⟩, rfl⟩ | h)
    · exact .inr ⟨x, hx, rfl⟩
    · exact .inl h
  · rintro (h | ⟨x, hx, rfl⟩)
    · exact .inr h
    · by_cases hxw : x.1 = w
      · exact .inr hxw
      · exact .inl ⟨x, ⟨hx, by simpa using hxw⟩, rfl⟩

theorem nodup_insertD (w : Nat) (cr : Bool) (d : List (Nat × Bool)) (h : (d.map (·.1)).Nodup) :
    ((insertD w cr d).map (·.1)).Nodup := by
  simp only [insertD, List.map_append, List.map_cons, List.map_nil]
  rw [List.nodup_append]
  refine ⟨?_, by simp, ?_⟩
  · exact List.Nodup.sublist (List.Sublist.map _ List.filter_sublist) h
  · intro a ha b hb
    simp only [List.mem_singleton] at hb
    subst hb
    simp only [List.mem_map, List.mem_filter] at ha
    obtain ⟨x, ⟨_, hx⟩, rfl⟩ := ha
    simpa using hx

theorem allocRun_cons (c : Consts) (t : Nat) (st : AState) (i : AIn) (ins : List AIn) :
    allocRun c t st (i :: ins) = allocRun c t (allocStep c t st i) ins := rfl

theorem allocRun_append (c : Consts) (t : Nat) (st : AState) (i1 i2 : List AIn) :
    allocRun c t st (i1 ++ i2) = allocRun c t (allocRun c t st i1) i2 := by
  simp [allocRun, List.foldl_append]

theorem allocRun_finished (c : Consts) (t : Nat) (st : AState) (ins : List AIn) (h : st.isFinished = true) :
    allocRun c t st ins = st := by
  induction ins with
  | nil => rfl
  | cons i rest ih => rw [allocRun_cons, allocStep_finished _ _ _ _ h, ih]

theorem allocRun_rank (c : Consts) (t : Nat) (st : AState) (ins : List AIn) : st.rank ≤ (allocRun c t st ins).rank := by
  induction ins generalizing st with
  | nil => exact Nat.le_refl _
  | cons i rest ih => exact Nat.le_trans (allocStep_rank c t st i) (ih _)

theorem allocStep_running (c : Consts) (t : Nat) (cn : List Nat) (d : List (Nat × Bool)) (e : Nat) (i : AIn) :
    (allocStep c t (.running cn d e) i).isFinished = true ∨
    ∃ cn' d' e', allocStep c t (.running cn d e) i = .running cn' d' e' ∧
      (∀ w, w ∈ cn' ↔
        (i.workerEv w = some true ∨ (i.workerEv w = none ∧ w ∈ cn))) ∧
      (∀ w, w ∈ d'.map (·.1) ↔ (w ∈ d.map (·.1) ∨ ∃ cr, i = .sync (.lost w cr))) ∧
      ((d.map (·.1)).Nodup → (d'.map (·.1)).Nodup) := by
  cases i with
  | err =>
    simp only [allocStep, errState]
    by_cases h : c.maxRunningErr < e + 1
    · left; simp [h, AState.isFinished]
    · right
      refine ⟨cn, d, e + 1, by simp [h], ?_, ?_, fun h => h⟩
      · intro w; simp [AIn.workerEv]
      · intro w; simp
  | sync r =>
    cases r with
    | conn w' =>
      right
      refine ⟨insertW w' cn, d, e, rfl, ?_, ?_, fun h => h⟩
      · intro w
        rw [mem_insertW]
        simp only [AIn.workerEv]
        by_cases hw : w' = w
        · simp [hw]
        · have : ¬ w = w' := fun h => hw h.symm
          simp [hw, this]
      · intro w; simp
    | lost w' cr =>
      simp only [allocStep, syncState]
      by_cases h : (insertD w' cr d).length = t
      · left; simp [h, AState.isFinished]
      · right
        refine ⟨removeW w' cn, insertD w' cr d, e, by simp [h], ?_, ?_, nodup_insertD w' cr d⟩
        · intro w
          rw [mem_removeW]
          simp only [AIn.workerEv]
          by_cases hw : w' = w
          · subst hw; simp
          · have : ¬ w = w' := fun h => hw h.symm
            simp [hw, this]
        · intro w
          rw [keys_insertD]
          constructor
          · rintro (h | h)
            · exact .inr ⟨cr, by rw [h]⟩
            · exact .inl h
          · rintro (h | ⟨cr', h⟩)
            · exact .inr h
            · cases h; exact .inl rfl
    | ext x =>
      cases x with
      | queued =>
        right
        exact ⟨cn, d, e, rfl, by intro w; simp [AIn.workerEv], by intro w; simp, fun h => h⟩
      | running =>
        right
        exact ⟨cn, d, e, rfl, by intro w; simp [AIn.workerEv], by intro w; simp, fun h => h⟩
      | finished => left; simp [allocStep, syncState, AState.isFinished]
      | failed => left; simp [allocStep, syncState, AState.isFinished]

theorem allocRun_running (c : Consts) (t : Nat) (ins : List AIn) (c0 : List Nat) (d0 : List (Nat × Bool)) (e0 : Nat)
    (cn : List Nat) (d : List (Nat × Bool)) (e : Nat)
    (h : allocRun c t (.running c0 d0 e0) ins = .running cn d e) :
    (∀ w, w ∈ cn ↔ (lastEv w ins = some true ∨ (lastEv w ins = none ∧ w ∈ c0))) ∧
    (∀ w, w ∈ d.map (·.1) ↔ (w ∈ d0.map (·.1) ∨ ∃ cr, AIn.sync (.lost w cr) ∈ ins)) ∧
    ((d0.map (·.1)).Nodup → (d.map (·.1)).Nodup) := by
  induction ins generalizing c0 d0 e0 with
  | nil =>
    simp only [allocRun, List.foldl_nil, AState.running.injEq] at h
    obtain ⟨rfl, rfl, rfl⟩ := h
    refine ⟨by intro w; simp [lastEv], by intro w; simp, fun h => h⟩
  | cons i rest ih =>
    rw [allocRun_cons] at h
    rcases allocStep_running c t c0 d0 e0 i with hf | ⟨c1, d1, e1, hs, hc, hd, hn⟩
    · rw [allocRun_finished _ _ _ _ hf] at h
      rw [h] at hf
      simp [AState.isFinished] at hf
    · rw [hs] at h
      obtain ⟨ihc, ihd, ihn⟩ := ih c1 d1 e1 h
      refine ⟨?_, ?_, fun h0 => ihn (hn h0)⟩
      · intro w
        rw [ihc w]
        simp only [lastEv]
        cases hl : lastEv w rest with
        | some b => simp
        | none =>
          simp only [true_and]
          rw [hc w]
          cases hw : i.workerEv w with
          | none => simp
          | some b => simp
      · intro w
        rw [ihd w, hd w]
        constructor
        · rintro ((h1 | ⟨cr, h1⟩) | ⟨cr, h1⟩)
          · exact .inl h1
          · exact .inr ⟨cr, by simp [h1]⟩
          · exact .inr ⟨cr, by simp [h1]⟩
        · rintro (h1 | ⟨cr, h1⟩)
          · exact .inl (.inl h1)
          · simp only [List.mem_cons] at h1
            rcases h1 with h1 | h1
            · exact .inl (.inr ⟨cr, h1.symm⟩)
            · exact .inr ⟨cr, h1⟩

theorem allocStep_queued (c : Consts) (t : Nat) (e0 : Nat) (i : AIn) :
    (∃ e1, allocStep c t (.queued e0) i = .queued e1 ∧ ∀ w, i.workerEv w ≠ some true) ∨
    (∃ c0, allocStep c t (.queued e0) i = .running c0 [] 0 ∧ (∀ w, w ∈ c0 ↔ i.workerEv w = some true) ∧
      ((∃ w0, i = .sync (.conn w0) ∧ c0 = [w0]) ∨ (i = .sync (.ext .running) ∧ c0 = []))) ∨
    (∃ f, allocStep c t (.queued e0) i = .finishedUnexp [] [] f) := by
  cases i with
  | err =>
    simp only [allocStep, errState]
    by_cases h : c.maxQueuedErr < e0 + 1
    · exact .inr (.inr ⟨true, by simp [h]⟩)
    · exact .inl ⟨e0 + 1, by simp [h], fun w => by simp [AIn.workerEv]⟩
  | sync r =>
    cases r with
    | conn w0 => exact .inr (.inl ⟨[w0], rfl, fun w => by simp [AIn.workerEv, eq_comm], .inl ⟨w0, rfl, rfl⟩⟩)
    | lost w cr => exact .inl ⟨e0, rfl, fun w' => by simp only [AIn.workerEv]; split <;> simp⟩
    | ext x =>
      cases x with
      | queued => exact .inl ⟨e0, rfl, fun w => by simp [AIn.workerEv]⟩
      | running => exact .inr (.inl ⟨[], rfl, fun w => by simp [AIn.workerEv], .inr ⟨rfl, rfl⟩⟩)
      | finished => exact .inr (.inr ⟨false, rfl⟩)
      | failed => exact .inr (.inr ⟨true, rfl⟩)

/-- along `QTrans`, every allocation of the queue evolves by the automaton on inputs the labels allow -/
def AllocFed (c : Consts) (P : Nat → AIn → Prop) (q q' : Queue) : Prop :=
  ∀ a al, q.findAlloc a = some al →
    ∃ al' ins, q'.findAlloc a = some al' ∧ al'.target = al.target ∧
      al'.st = allocRun c al.target al.st ins ∧ ∀ i ∈ ins, P a i

theorem AllocFed.refl (c : Consts) (P : Nat → AIn → Prop) (q : Queue) : AllocFed c P q q :=
  fun _ al h => ⟨al, [], h, rfl, rfl, by intro i hi; cases hi⟩

variable {c : Consts} {P : Nat → AIn → Prop}

theorem AllocFed.trans {a b d : Queue} (h1 : AllocFed c P a b)
    (h2 : AllocFed c P b d) : AllocFed c P a d := by
  intro x al hx
  obtain ⟨al1, i1, g1, t1, s1, p1⟩ := h1 x al hx
  obtain ⟨al2, i2, g2, t2, s2, p2⟩ := h2 x al1 g1
  refine ⟨al2, i1 ++ i2, g2, t2.trans t1, ?_, ?_⟩
  · rw [allocRun_append, ← s1, ← t1]; exact s2
  · intro i hi
    simp only [List.mem_append] at hi
    rcases hi with hi | hi
    · exact p1 i hi
    · exact p2 i hi

theorem AllocFed_of_allocs_append (c : Consts) (P : Nat → AIn → Prop) (q q' : Queue) (extra : List Alloc)
    (h : q'.allocs = q.allocs ++ extra) : AllocFed c P q q' := by
  intro a al ha
  refine ⟨al, [], ?_, rfl, rfl, by intro i hi; cases hi⟩
  unfold Queue.findAlloc at ha ⊢
  rw [h, List.find?_append, ha]; rfl

theorem AllocFed_feed (c : Consts) (P : Nat → AIn → Prop) (q : Queue) (a0 : Nat) (i0 : AIn) (lim : Limiter)
    (hp : P a0 i0) : AllocFed c P q (q.feed c a0 i0 lim) := by
  intro a al h
  have hid := findAlloc_id q a al h
  rw [Queue.findAlloc_feed, h]
  by_cases ha : al.id = a0
  · refine ⟨_, [i0], rfl, by simp [feedMap, ha], by simp [feedMap, ha, allocRun], ?_⟩
    intro i hi
    obtain rfl := List.mem_singleton.mp hi
    obtain rfl : a = a0 := hid.symm.trans ha
    exact hp
  · exact ⟨_, [], rfl, by simp [feedMap, ha], by simp [feedMap, ha, allocRun], by intro i hi; cases hi⟩

theorem QPrim.allocFed {a b : Queue} (h : QPrim c P a b) : AllocFed c P a b := by
  rcases h.cases with ⟨x, i, lim, hp, rfl⟩ | ⟨extra, h, _⟩
  · exact AllocFed_feed c P a x i lim hp
  · exact AllocFed_of_allocs_append c P a b extra h

theorem QTrans.allocFed {a b : Queue} (h : QTrans c P a b) : AllocFed c P a b :=
  QTrans.lift (AllocFed c P) (AllocFed.refl c P) (fun _ _ _ => AllocFed.trans) (fun _ _ h => h.allocFed) h

end HqModel.AutoAlloc
