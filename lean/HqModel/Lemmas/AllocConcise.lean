import HqModel.Lemmas.AllocShape
/-!
The concise state of an index pool is a function of what is held (`CInv`): per group, `units` = number of indices of
the group nothing is held of, and the fraction map gives `FPU - held` for every partially held index (0 otherwise,
absent = 0). This does not depend on the order in which entries are processed, so `ConciseResourceState::remove` /
`add` preserve it for the (sorted / swapped) entry order the claims produce.
-/
namespace HqModel.Alloc

/-- number of indices of the list nothing is held of -/
def freeCount (U : List Nat) (L : List AIdx) (g : Nat) : Nat := (U.filter (fun i => heldBy L g i == 0)).length

structure CInv (c : CState) (n : Nat) (U : Nat → List Nat) (L : List AIdx) : Prop where
  len : c.length = n
  units : ∀ (g : Nat) (cg : CGroup), c[g]? = some cg → cg.units = freeCount (U g) L g
  fracs : ∀ (g : Nat) (cg : CGroup), c[g]? = some cg →
    ∀ i, fracOf cg.fracs i = if heldBy L g i = 0 then 0 else FPU - heldBy L g i
  nodup : ∀ (g : Nat) (cg : CGroup), c[g]? = some cg → KeysNodup cg.fracs

theorem freeCount_congr {U : List Nat} {L L' : List AIdx} {g : Nat} (h : ∀ j, heldBy L' g j = heldBy L g j) :
    freeCount U L' g = freeCount U L g := by
  unfold freeCount
  rw [List.filter_congr (fun j _ => by rw [h j])]

theorem CInv.congr {c : CState} {n : Nat} {U : Nat → List Nat} {L L' : List AIdx} (h : CInv c n U L)
    (hh : ∀ g i, heldBy L g i = heldBy L' g i) : CInv c n U L' where
  len := h.len
  units := fun g cg hcg => by rw [h.units g cg hcg, freeCount_congr (fun j => (hh g j).symm)]
  fracs := fun g cg hcg i => by rw [h.fracs g cg hcg i, hh]
  nodup := h.nodup

theorem freeCount_update {U : List Nat} (hnd : U.Nodup) {i : Nat} (hi : i ∈ U) {L L' : List AIdx} {g : Nat}
    (hoff : ∀ j, j ≠ i → heldBy L' g j = heldBy L g j) :
    freeCount U L' g + (if heldBy L g i = 0 then 1 else 0) =
      freeCount U L g + (if heldBy L' g i = 0 then 1 else 0) := by
  unfold freeCount
  induction U with
  | nil => cases hi
  | cons x xs ih =>
    obtain ⟨hx, hxs⟩ := List.nodup_cons.mp hnd
    simp only [List.filter_cons]
    rcases List.mem_cons.mp hi with rfl | hi'
    · rw [List.filter_congr (fun j hj => by rw [hoff j (fun h => hx (h ▸ hj))])]
      by_cases h0 : heldBy L g i = 0 <;> by_cases h0' : heldBy L' g i = 0 <;> simp [h0, h0'] <;> omega
    · have := ih hxs hi'
      rw [hoff x (fun h => hx (h ▸ hi'))]
      split
      · simp only [List.length_cons]; omega
      · exact this

theorem freeCount_pos {U : List Nat} {L : List AIdx} {g i : Nat} (hi : i ∈ U) (h0 : heldBy L g i = 0) :
    0 < freeCount U L g :=
  List.length_pos_of_mem (List.mem_filter.mpr ⟨hi, by simp [h0]⟩)

/-- What is held of one index `i` of one group `g` changes (`L` to `L'`): the concise state follows when the units of
the group move with "nothing is held of `i`" and the map has the new free fraction of `i` — set there, or there
already. -/
theorem CInv.step {c : CState} {n : Nat} {U : Nat → List Nat} {L L' : List AIdx} {g i : Nat} {cg : CGroup}
    (hc : CInv c n U L) (hU : (U g).Nodup) (hi : i ∈ U g) (hcg : c[g]? = some cg)
    (hheld : ∀ g' j, ¬ (g' = g ∧ j = i) → heldBy L' g' j = heldBy L g' j) (units' : Nat) (fracs' : FMap)
    (hunits : units' + (if heldBy L g i = 0 then 1 else 0) = cg.units + (if heldBy L' g i = 0 then 1 else 0))
    (hfracs : fracs' = cg.fracs ∨ ∃ x, fracs' = fset cg.fracs i x)
    (hval : fracOf fracs' i = if heldBy L' g i = 0 then 0 else FPU - heldBy L' g i) :
    CInv (c.set g ⟨units', fracs'⟩) n U L' where
  len := by simp [hc.len]
  units := fun g' x hx => by
    rcases getElem?_set_cases hx with ⟨rfl, rfl⟩ | ⟨hne, hx⟩
    · have h1 := freeCount_update hU hi (L := L) (L' := L') (g := g') (fun j hj => hheld g' j (fun h => hj h.2))
      have h2 := hc.units g' cg hcg
      show units' = _
      omega
    · rw [hc.units g' x hx, freeCount_congr (fun j => hheld g' j (fun h => hne h.1))]
  fracs := fun g' x hx j => by
    rcases getElem?_set_cases hx with ⟨rfl, rfl⟩ | ⟨hne, hx⟩
    · show fracOf fracs' j = _
      by_cases hj : j = i
      · subst hj; exact hval
      · rw [hheld g' j (fun h => hj h.2), ← hc.fracs g' cg hcg j]
        rcases hfracs with rfl | ⟨x, rfl⟩
        · rfl
        · rw [fracOf_fset, if_neg hj]
    · rw [hc.fracs g' x hx, hheld g' j (fun h => hne h.1)]
  nodup := forall_getElem?_set hc.nodup (by
    rcases hfracs with rfl | ⟨x, rfl⟩
    · exact hc.nodup g cg hcg
    · exact fset_keys_nodup (hc.nodup g cg hcg) _ _)

/-- the bound that conservation gives: nothing is held beyond one unit of an index of the group, nothing at all of
other indices -/
def HeldBound (U : Nat → List Nat) (L : List AIdx) : Prop := ∀ g i, heldBy L g i ≤ FPU * (U g).count i

theorem HeldBound.prefix {U L₁ L₂} (h : HeldBound U (L₁ ++ L₂)) : HeldBound U L₁ := by
  intro g i
  have := h g i
  rw [heldBy_append] at this
  omega

theorem HeldBound.mem_le {U : Nat → List Nat} {L : List AIdx} {g i : Nat} (hb : HeldBound U L) (hU : (U g).Nodup)
    (hpos : 0 < heldBy L g i) : i ∈ U g ∧ heldBy L g i ≤ FPU := by
  have hbe := hb g i
  have hle := Nat.mul_le_mul_left FPU (List.nodup_iff_count.mp hU i)
  refine ⟨List.count_pos_iff.mp (Nat.pos_of_ne_zero fun h0 => ?_), by omega⟩
  rw [h0] at hbe
  omega

/-- `remove_fractions` on an index with free fraction `F` of which `h` is held, when `fr` more is taken: the test it
makes (`F < fr`: a whole index has to be split) and the value it stores, which is the free fraction afterwards — the
`hval` of `CInv.step`. -/
theorem frac_remove {K h fr F : Nat} (hF : F = if h = 0 then 0 else K - h) (hle : h + fr ≤ K) (hpos : 0 < fr) :
    (h = 0 → F < fr ∧ K + F - fr = K - (h + fr)) ∧ (h ≠ 0 → ¬ F < fr ∧ F - fr = K - (h + fr)) := by
  constructor <;> intro h0
  · rw [if_pos h0] at hF
    subst h0 hF
    exact ⟨hpos, by rw [Nat.add_zero, Nat.zero_add]⟩
  · rw [if_neg h0] at hF
    subst hF
    exact ⟨Nat.not_lt.mpr (Nat.le_sub_of_add_le' hle), Nat.sub_sub K h fr⟩

/-- `add_fractions` when `fr` of the `fr + h` held is given back (`K ≤ F + fr`: the index is whole again) -/
theorem frac_add {K h fr F : Nat} (hF : F = K - (fr + h)) (hle : fr + h ≤ K) (hpos : 0 < fr) :
    (h = 0 → K ≤ F + fr ∧ ¬ K ≤ F + fr - K ∧ F + fr - K = 0) ∧ (h ≠ 0 → ¬ K ≤ F + fr ∧ F + fr = K - h) := by
  have hsum : F + fr + h = K := by rw [hF, Nat.add_assoc, Nat.sub_add_cancel hle]
  clear hF
  constructor <;> intro h0 <;> omega

theorem removeEntry_cinv {c : CState} {n : Nat} {U : Nat → List Nat} {L : List AIdx} {e : AIdx}
    (hU : ∀ g, (U g).Nodup) (hc : CInv c n U L) (hb : HeldBound U (L ++ [e])) (hg : e.group < n) :
    ∃ c', (∀ es, CState.removeEntries c (e :: es) = CState.removeEntries c' es) ∧ CInv c' n U (L ++ [e]) := by
  obtain ⟨cg, hcg⟩ := exists_get (hc.len ▸ hg : e.group < c.length)
  have hamt := e.amt_pos
  have hnew : heldBy (L ++ [e]) e.group e.index = heldBy L e.group e.index + e.amt := by simp [heldBy_snoc]
  have hne : heldBy L e.group e.index + e.amt ≠ 0 := by omega
  obtain ⟨hmem, hle⟩ := hb.mem_le (hU e.group) (by omega : 0 < heldBy (L ++ [e]) e.group e.index)
  have hstep := hc.step (L' := L ++ [e]) (hU e.group) hmem hcg
    (fun g j hn => by rw [heldBy_snoc, if_neg (fun h => hn ⟨h.1.symm, h.2.symm⟩), Nat.add_zero])
  have hfr := hc.fracs e.group cg hcg e.index
  rw [hnew] at hle hstep
  simp only [if_neg hne] at hstep
  -- an index nothing is held of counts among the units
  have hu : heldBy L e.group e.index = 0 → cg.units ≠ 0 := fun h0 => by
    have := freeCount_pos (U := U e.group) hmem h0
    rw [← hc.units e.group cg hcg] at this
    omega
  by_cases hf : e.fractions = 0
  · have hamt : e.amt = FPU := by simp [AIdx.amt, hf]
    have hL0 : heldBy L e.group e.index = 0 := by omega
    have := hu hL0
    refine ⟨_, ?_, hstep (cg.units - 1) cg.fracs (by rw [if_pos hL0]; omega) (.inl rfl)
      (by rw [hfr, if_pos hL0, hL0, hamt, Nat.zero_add, Nat.sub_self])⟩
    intro es
    simp [CState.removeEntries, hf, hcg, this]
  · have hamt : e.amt = e.fractions := by simp [AIdx.amt, hf]
    rw [hamt] at hle hstep hne
    obtain ⟨hfree, hpart⟩ := frac_remove hfr hle (Nat.pos_of_ne_zero hf)
    by_cases hL0 : heldBy L e.group e.index = 0
    · obtain ⟨hlt, hval⟩ := hfree hL0
      have := hu hL0
      refine ⟨_, ?_, hstep (cg.units - 1) (fset cg.fracs e.index (FPU + fracOf cg.fracs e.index - e.fractions))
        (by rw [if_pos hL0]; omega) (.inr ⟨_, rfl⟩) (by rw [fracOf_fset, if_pos rfl]; exact hval)⟩
      intro es
      simp [CState.removeEntries, hf, CState.removeFractions, hcg, hlt, this]
    · obtain ⟨hge, hval⟩ := hpart hL0
      refine ⟨_, ?_, hstep cg.units (fset cg.fracs e.index (fracOf cg.fracs e.index - e.fractions))
        (by rw [if_neg hL0]) (.inr ⟨_, rfl⟩) (by rw [fracOf_fset, if_pos rfl]; exact hval)⟩
      intro es
      simp [CState.removeEntries, hf, CState.removeFractions, hcg, hge]

theorem removeEntries_cinv {c : CState} {n : Nat} {U : Nat → List Nat} {L es : List AIdx}
    (hU : ∀ g, (U g).Nodup) (hc : CInv c n U L) (hb : HeldBound U (L ++ es)) (hg : ∀ e ∈ es, e.group < n) :
    ∃ c', CState.removeEntries c es = .ok c' ∧ CInv c' n U (L ++ es) := by
  induction es generalizing c L with
  | nil => exact ⟨c, rfl, by simpa using hc⟩
  | cons e es ih =>
    have hb1 : HeldBound U (L ++ [e]) := by
      have : L ++ e :: es = (L ++ [e]) ++ es := by simp
      rw [this] at hb
      exact hb.prefix
    obtain ⟨c₁, h₁, inv₁⟩ := removeEntry_cinv hU hc hb1 (hg e (by simp))
    have hb2 : HeldBound U ((L ++ [e]) ++ es) := by simpa using hb
    obtain ⟨c₂, h₂, inv₂⟩ := ih inv₁ hb2 (fun e' he' => hg e' (List.mem_cons_of_mem _ he'))
    exact ⟨c₂, by rw [h₁, h₂], by simpa using inv₂⟩

theorem HeldBound.tail {U} {e : AIdx} {L : List AIdx} (h : HeldBound U (e :: L)) : HeldBound U L := by
  intro g i
  have := h g i
  rw [heldBy_cons] at this
  omega

theorem addEntry_cinv {c : CState} {n : Nat} {U : Nat → List Nat} {L : List AIdx} {e : AIdx}
    (hU : ∀ g, (U g).Nodup) (hc : CInv c n U (e :: L)) (hb : HeldBound U (e :: L)) (hg : e.group < n) :
    ∃ c', (∀ es, CState.addEntries c (e :: es) = CState.addEntries c' es) ∧ CInv c' n U L := by
  obtain ⟨cg, hcg⟩ := exists_get (hc.len ▸ hg : e.group < c.length)
  have hamt := e.amt_pos
  have hold : heldBy (e :: L) e.group e.index = e.amt + heldBy L e.group e.index := by simp [heldBy_cons]
  have hne : e.amt + heldBy L e.group e.index ≠ 0 := by omega
  obtain ⟨hmem, hle⟩ := hb.mem_le (hU e.group) (by omega : 0 < heldBy (e :: L) e.group e.index)
  have hstep := hc.step (L' := L) (hU e.group) hmem hcg
    (fun g j hn => by rw [heldBy_cons, if_neg (fun h => hn ⟨h.1.symm, h.2.symm⟩), Nat.zero_add])
  have hfr := hc.fracs e.group cg hcg e.index
  rw [hold] at hle hstep hfr
  simp only [if_neg hne] at hstep hfr
  by_cases hf : e.fractions = 0
  · have hamt : e.amt = FPU := by simp [AIdx.amt, hf]
    have hL0 : heldBy L e.group e.index = 0 := by omega
    refine ⟨_, ?_, hstep (cg.units + 1) cg.fracs (by rw [if_pos hL0]) (.inl rfl)
      (by rw [hfr, if_pos hL0, hamt, hL0, Nat.add_zero, Nat.sub_self])⟩
    intro es
    simp [CState.addEntries, hf, hcg]
  · have hamt : e.amt = e.fractions := by simp [AIdx.amt, hf]
    rw [hamt] at hfr hle
    obtain ⟨hfree, hpart⟩ := frac_add hfr hle (Nat.pos_of_ne_zero hf)
    by_cases hL0 : heldBy L e.group e.index = 0
    · obtain ⟨h1, h2, hval⟩ := hfree hL0
      refine ⟨_, ?_, hstep (cg.units + 1) (fset cg.fracs e.index (fracOf cg.fracs e.index + e.fractions - FPU))
        (by rw [if_pos hL0]) (.inr ⟨_, rfl⟩) (by rw [fracOf_fset, if_pos rfl, if_pos hL0]; exact hval)⟩
      intro es
      simp [CState.addEntries, hf, CState.addFractions, hcg, h1, h2]
    · obtain ⟨h1, hval⟩ := hpart hL0
      refine ⟨_, ?_, hstep cg.units (fset cg.fracs e.index (fracOf cg.fracs e.index + e.fractions))
        (by rw [if_neg hL0]) (.inr ⟨_, rfl⟩) (by rw [fracOf_fset, if_pos rfl, if_neg hL0]; exact hval)⟩
      intro es
      simp [CState.addEntries, hf, CState.addFractions, hcg, h1]

theorem addEntries_cinv {c : CState} {n : Nat} {U : Nat → List Nat} {es O : List AIdx}
    (hU : ∀ g, (U g).Nodup) (hc : CInv c n U (es ++ O)) (hb : HeldBound U (es ++ O))
    (hg : ∀ e ∈ es, e.group < n) :
    ∃ c', CState.addEntries c es = .ok c' ∧ CInv c' n U O := by
  induction es generalizing c with
  | nil => exact ⟨c, rfl, by simpa using hc⟩
  | cons e es ih =>
    obtain ⟨c₁, h₁, inv₁⟩ := addEntry_cinv hU (by simpa using hc) (by simpa using hb) (hg e (by simp))
    have hb' : HeldBound U (es ++ O) := HeldBound.tail (e := e) (by simpa using hb)
    obtain ⟨c₂, h₂, inv₂⟩ := ih inv₁ hb' (fun e' he' => hg e' (List.mem_cons_of_mem _ he'))
    exact ⟨c₂, by rw [h₁, h₂], inv₂⟩

/-! ### the single-group branch of `remove` / `add` coincides with the multi-group branch on shaped allocations -/

theorem removeEntries_whole_single (ws es : List AIdx) (cg : CGroup) (hw : WholeOnly ws)
    (hg : ∀ e ∈ ws, e.group = 0) :
    CState.removeEntries [cg] (ws ++ es) =
      if cg.units < ws.length then .error (.panic .assert)
      else CState.removeEntries [⟨cg.units - ws.length, cg.fracs⟩] es := by
  induction ws generalizing cg with
  | nil => simp
  | cons w ws ih =>
    have hw0 := hw w (by simp)
    have hg0 := hg w (by simp)
    simp only [List.cons_append, CState.removeEntries, hw0, if_true, hg0, List.getElem?_cons_zero]
    by_cases hu : cg.units = 0
    · simp [hu]
    · simp only [hu, if_false, List.set_cons_zero]
      rw [ih ⟨cg.units - 1, cg.fracs⟩ (fun e he => hw e (List.mem_cons_of_mem _ he))
        (fun e he => hg e (List.mem_cons_of_mem _ he))]
      simp only [List.length_cons]
      by_cases h1 : cg.units - 1 < ws.length
      · have h2 : cg.units < ws.length + 1 := by omega
        simp [h1, h2]
      · have h2 : ¬ cg.units < ws.length + 1 := by omega
        have h3 : cg.units - 1 - ws.length = cg.units - (ws.length + 1) := by omega
        simp [h1, h2, h3]

theorem trailingFractional_whole (ws : List AIdx) (hw : WholeOnly ws) : trailingFractional ws = [] := by
  cases ws with
  | nil => rfl
  | cons e es => simp [trailingFractional, hw e (by simp)]

theorem remove_single {cg : CGroup} {rid amount : Nat} {l : List AIdx} (hs : Shape amount l)
    (hg : ∀ e ∈ l, e.group = 0) :
    CState.remove [cg] ⟨rid, amount, l⟩ = CState.removeEntries [cg] l := by
  obtain ⟨ws, hw, hlen, hres⟩ := hs
  rcases hres with ⟨h0, rfl⟩ | ⟨f, hf, hne, rfl⟩
  · have := removeEntries_whole_single l [] cg hw hg
    simp only [List.append_nil] at this
    rw [this]
    simp only [CState.remove, hlen, h0, Nat.lt_irrefl, if_false]
    by_cases hu : cg.units < amount / FPU
    · simp [hu]
    · simp [hu, CState.removeEntries]
  · have hgw : ∀ e ∈ ws, e.group = 0 := fun e he => hg e (List.mem_append_left _ he)
    have hgf : f.group = 0 := hg f (by simp)
    rw [removeEntries_whole_single ws [f] cg hw hgw]
    have hpos : 0 < amount % FPU := by omega
    have hfne : f.fractions ≠ 0 := by omega
    have hrev : trailingFractional (ws ++ [f]).reverse = [f] := by
      simp only [List.reverse_append, List.reverse_cons, List.reverse_nil, List.nil_append, List.singleton_append,
        trailingFractional, hfne, if_false]
      rw [trailingFractional_whole _ (fun e he => hw e (List.mem_reverse.mp he))]
    simp only [CState.remove, hlen, hpos, if_true, hrev]
    by_cases hu : cg.units < amount / FPU
    · simp [hu]
    · simp only [hu, if_false]
      have hne' : (ws ++ [f]).isEmpty = false := by simp
      simp only [hne', Bool.false_eq_true, if_false, CState.removeFracList, CState.removeEntries, hgf, hf]
      cases hr : CState.removeFractions [⟨cg.units - amount / FPU, cg.fracs⟩] 0 f.index (amount % FPU) with
      | error er => simp [hne]
      | ok c' => simp [hne]

theorem addEntries_whole_single (ws es : List AIdx) (cg : CGroup) (hw : WholeOnly ws)
    (hg : ∀ e ∈ ws, e.group = 0) :
    CState.addEntries [cg] (ws ++ es) = CState.addEntries [⟨cg.units + ws.length, cg.fracs⟩] es := by
  induction ws generalizing cg with
  | nil => simp
  | cons w ws ih =>
    have hw0 := hw w (by simp)
    have hg0 := hg w (by simp)
    simp only [List.cons_append, CState.addEntries, hw0, if_true, hg0, List.getElem?_cons_zero, List.set_cons_zero]
    rw [ih ⟨cg.units + 1, cg.fracs⟩ (fun e he => hw e (List.mem_cons_of_mem _ he))
      (fun e he => hg e (List.mem_cons_of_mem _ he))]
    simp only [List.length_cons]
    have : cg.units + 1 + ws.length = cg.units + (ws.length + 1) := by omega
    rw [this]

theorem add_single {cg : CGroup} {rid amount : Nat} {l : List AIdx} (hs : Shape amount l)
    (hg : ∀ e ∈ l, e.group = 0) :
    CState.add [cg] ⟨rid, amount, l⟩ = CState.addEntries [cg] l := by
  obtain ⟨ws, hw, hlen, hres⟩ := hs
  rcases hres with ⟨h0, rfl⟩ | ⟨f, hf, hne, rfl⟩
  · have := addEntries_whole_single l [] cg hw hg
    simp only [List.append_nil] at this
    rw [this]
    simp [CState.add, hlen, h0, CState.addEntries]
  · have hgw : ∀ e ∈ ws, e.group = 0 := fun e he => hg e (List.mem_append_left _ he)
    have hgf : f.group = 0 := hg f (by simp)
    rw [addEntries_whole_single ws [f] cg hw hgw]
    have hpos : 0 < amount % FPU := by omega
    have hfne : f.fractions ≠ 0 := by omega
    have hrev : trailingFractional (ws ++ [f]).reverse = [f] := by
      simp only [List.reverse_append, List.reverse_cons, List.reverse_nil, List.nil_append, List.singleton_append,
        trailingFractional, hfne, if_false]
      rw [trailingFractional_whole _ (fun e he => hw e (List.mem_reverse.mp he))]
    have hne' : (ws ++ [f]).isEmpty = false := by simp
    simp only [CState.add, hlen, hpos, if_true, hrev, hne', Bool.false_eq_true, if_false, CState.addFracList,
      CState.addEntries, hgf, hf]
    cases hr : CState.addFractions [⟨cg.units + amount / FPU, cg.fracs⟩] 0 f.index (amount % FPU) with
    | error er => simp [hne]
    | ok c' => simp [hne]

theorem remove_multi {c : CState} (ra : RAlloc) (h : c.length ≠ 1) : c.remove ra = c.removeEntries ra.indices := by
  match c, h with
  | [], _ => rfl
  | _ :: _ :: _, _ => rfl

theorem add_multi {c : CState} (ra : RAlloc) (h : c.length ≠ 1) : c.add ra = c.addEntries ra.indices := by
  match c, h with
  | [], _ => rfl
  | _ :: _ :: _, _ => rfl

theorem remove_cinv {c : CState} {n : Nat} {U : Nat → List Nat} {L : List AIdx} {ra : RAlloc}
    (hU : ∀ g, (U g).Nodup) (hc : CInv c n U L) (hb : HeldBound U (L ++ ra.indices))
    (hg : ∀ e ∈ ra.indices, e.group < n) (hs : n = 1 → Shape ra.amount ra.indices) :
    ∃ c', c.remove ra = .ok c' ∧ CInv c' n U (L ++ ra.indices) := by
  obtain ⟨c', hr, inv⟩ := removeEntries_cinv hU hc hb hg
  refine ⟨c', ?_, inv⟩
  by_cases hn : n = 1
  · subst hn
    obtain ⟨cg, rfl⟩ := List.length_eq_one_iff.mp hc.len
    rw [← hr, ← remove_single (rid := ra.rid) (hs rfl) (fun e he => Nat.lt_one_iff.mp (hg e he))]
  · rw [remove_multi ra (by rw [hc.len]; exact hn), hr]

theorem add_cinv {c : CState} {n : Nat} {U : Nat → List Nat} {O : List AIdx} {ra : RAlloc}
    (hU : ∀ g, (U g).Nodup) (hc : CInv c n U (ra.indices ++ O)) (hb : HeldBound U (ra.indices ++ O))
    (hg : ∀ e ∈ ra.indices, e.group < n) (hs : n = 1 → Shape ra.amount ra.indices) :
    ∃ c', c.add ra = .ok c' ∧ CInv c' n U O := by
  obtain ⟨c', hr, inv⟩ := addEntries_cinv hU hc hb hg
  refine ⟨c', ?_, inv⟩
  by_cases hn : n = 1
  · subst hn
    obtain ⟨cg, rfl⟩ := List.length_eq_one_iff.mp hc.len
    rw [← hr, ← add_single (rid := ra.rid) (hs rfl) (fun e he => Nat.lt_one_iff.mp (hg e he))]
  · rw [add_multi ra (by rw [hc.len]; exact hn), hr]

/-- the concise state of a sum pool with `free` free: one group, `free / FPU` units, `free % FPU` on pseudo-index 0 -/
def SumCInv (c : CState) (free : Nat) : Prop :=
  ∃ cg, c = [cg] ∧ cg.units = free / FPU ∧ (∀ i, fracOf cg.fracs i = if i = 0 then free % FPU else 0) ∧
    KeysNodup cg.fracs

theorem SumCInv.conciseState (full free : Nat) : SumCInv (Pool.sum full free).conciseState free := by
  refine ⟨_, rfl, rfl, fun i => ?_, ?_⟩
  · show fracOf (if 0 < free % FPU then [(0, free % FPU)] else []) i = _
    by_cases hpos : 0 < free % FPU
    · by_cases hi : i = 0
      · simp [hpos, hi, fracOf, fget]
      · simp [hpos, hi, fracOf, fget, Ne.symm hi]
    · have h0 : free % FPU = 0 := by omega
      by_cases hi : i = 0 <;> simp [hi, fracOf, h0]
  · show KeysNodup (if 0 < free % FPU then [(0, free % FPU)] else [])
    split <;> simp [KeysNodup]

theorem add_div_mod {K : Nat} (hK : 0 < K) (a b : Nat) :
    (K ≤ a % K + b % K → (a + b) / K = a / K + b / K + 1 ∧ (a + b) % K + K = a % K + b % K) ∧
    (¬ K ≤ a % K + b % K → (a + b) / K = a / K + b / K ∧ (a + b) % K = a % K + b % K) := by
  have ha := Nat.mod_lt a hK
  have hb := Nat.mod_lt b hK
  rw [Nat.add_div hK, Nat.add_mod]
  refine ⟨fun h => ?_, fun h => ?_⟩
  · rw [if_pos h, Nat.mod_eq_sub_mod h, Nat.mod_eq_of_lt (by omega)]
    exact ⟨rfl, Nat.sub_add_cancel h⟩
  · rw [if_neg h, Nat.mod_eq_of_lt (by omega)]
    exact ⟨rfl, rfl⟩

theorem sub_div_mod {K : Nat} (hK : 0 < K) {a b : Nat} (h : b ≤ a) :
    (a % K < b % K → b / K < a / K ∧ (a - b) / K = a / K - b / K - 1 ∧ (a - b) % K = K + a % K - b % K) ∧
    (¬ a % K < b % K → (a - b) / K = a / K - b / K ∧ (a - b) % K = a % K - b % K) := by
  obtain ⟨hc, hp⟩ := add_div_mod hK (a - b) b
  rw [Nat.sub_add_cancel h] at hc hp
  have hr := Nat.mod_lt (a - b) hK
  by_cases hcarry : K ≤ (a - b) % K + b % K
  · obtain ⟨hq, hm⟩ := hc hcarry
    refine ⟨fun _ => ⟨?_, ?_, ?_⟩, fun hn => by omega⟩
    · rw [hq]; exact Nat.lt_succ_of_le (Nat.le_add_left ..)
    · rw [hq, Nat.add_right_comm, Nat.add_sub_cancel, Nat.add_sub_cancel]
    · rw [Nat.add_comm K, hm, Nat.add_sub_cancel]
  · obtain ⟨hq, hm⟩ := hp hcarry
    refine ⟨fun hl => by omega, fun _ => ⟨?_, ?_⟩⟩
    · rw [hq, Nat.add_sub_cancel]
    · rw [hm, Nat.add_sub_cancel]

theorem sum_fracs_fset {m : FMap} {free free' x : Nat} (hf : ∀ i, fracOf m i = if i = 0 then free % FPU else 0)
    (hx : x = free' % FPU) (i : Nat) : fracOf (fset m 0 x) i = if i = 0 then free' % FPU else 0 := by
  rw [fracOf_fset]
  split
  · exact hx
  · rename_i hi
    rw [hf i, if_neg hi]

theorem sum_remove {c : CState} {free : Nat} {ra : RAlloc} (hc : SumCInv c free) (hidx : ra.indices = [])
    (hle : ra.amount ≤ free) : ∃ c', c.remove ra = .ok c' ∧ SumCInv c' (free - ra.amount) := by
  obtain ⟨cg, rfl, hu, hf, hnd⟩ := hc
  have hf0 : fracOf cg.fracs 0 = free % FPU := hf 0
  obtain ⟨hborrow, hplain⟩ := sub_div_mod FPU_pos hle
  have h1 : ¬ cg.units < ra.amount / FPU := by rw [hu]; exact Nat.not_lt.mpr (Nat.div_le_div_right hle)
  simp only [CState.remove, h1, if_false, hidx, List.isEmpty_nil, if_true]
  by_cases hfr : 0 < ra.amount % FPU
  · simp only [hfr, if_true, CState.removeFractions, List.getElem?_cons_zero, hf0, List.set_cons_zero]
    by_cases hlt : free % FPU < ra.amount % FPU
    · obtain ⟨hd, hq, hm⟩ := hborrow hlt
      have h2 : ¬ cg.units - ra.amount / FPU = 0 := by omega
      simp only [hlt, if_true, h2, if_false]
      exact ⟨_, rfl, _, rfl, by rw [hq, hu], sum_fracs_fset hf hm.symm, fset_keys_nodup hnd _ _⟩
    · obtain ⟨hq, hm⟩ := hplain hlt
      simp only [hlt, if_false]
      exact ⟨_, rfl, _, rfl, by rw [hq, hu], sum_fracs_fset hf hm.symm, fset_keys_nodup hnd _ _⟩
  · obtain ⟨hq, hm⟩ := hplain (by omega)
    simp only [hfr, if_false]
    refine ⟨_, rfl, _, rfl, by rw [hq, hu], fun i => ?_, hnd⟩
    rw [hf i, hm]
    split <;> omega

theorem sum_add {c : CState} {free : Nat} {ra : RAlloc} (hc : SumCInv c free) (hidx : ra.indices = []) :
    ∃ c', c.add ra = .ok c' ∧ SumCInv c' (free + ra.amount) := by
  obtain ⟨cg, rfl, hu, hf, hnd⟩ := hc
  have hf0 : fracOf cg.fracs 0 = free % FPU := hf 0
  obtain ⟨hcarry, hplain⟩ := add_div_mod FPU_pos free ra.amount
  simp only [CState.add, hidx, List.isEmpty_nil, if_true]
  by_cases hfr : 0 < ra.amount % FPU
  · simp only [hfr, if_true, CState.addFractions, List.getElem?_cons_zero, hf0, List.set_cons_zero]
    by_cases hge : FPU ≤ free % FPU + ra.amount % FPU
    · obtain ⟨hq, hm⟩ := hcarry hge
      have h2 : ¬ FPU ≤ free % FPU + ra.amount % FPU - FPU := by
        have := Nat.mod_lt (free + ra.amount) FPU_pos
        omega
      simp only [hge, if_true, h2, if_false]
      exact ⟨_, rfl, _, rfl, by rw [hq, hu], sum_fracs_fset hf (by omega), fset_keys_nodup hnd _ _⟩
    · obtain ⟨hq, hm⟩ := hplain hge
      simp only [hge, if_false]
      exact ⟨_, rfl, _, rfl, by rw [hq, hu], sum_fracs_fset hf hm.symm, fset_keys_nodup hnd _ _⟩
  · obtain ⟨hq, hm⟩ := hplain (by have := Nat.mod_lt free FPU_pos; omega)
    simp only [hfr, if_false]
    refine ⟨_, rfl, _, rfl, by rw [hq, hu], fun i => ?_, hnd⟩
    rw [hf i, hm]
    split <;> omega

end HqModel.Alloc
