import HqModel.Lemmas.CoreInvSched
/-!
The bookkeeping of one scheduling round. `aItems m w t` / `pItems m w t` = the assigned variants / the prefill
entries for task `t` in the update record of worker `w` (`m : List WUpdate`, what `send_messages` turns into
`ComputeTasks` items). `TRelS` relates, for ONE task, its state before the round, its state now, and the items
entered for it so far (a task that was not Waiting keeps its `owner`, the worker its state names, and gets none);
`SI` = `TRelS` for every task + one record per worker. `SI` holds through `create_task_mapping` +
`process_proactive_filling` (`mapSn`, the sort of the assigned lists, `mapMn`, `proactive`) without any hypothesis on
the state.
-/
namespace HqModel.Core

def owner : TS → Option Nat
  | .assigned w _ => some w
  | .prefilled w => some w
  | .retracting w => some w
  | .running w _ => some w
  | .runningMN (w :: _) => some w
  | _ => none

def items {β : Type} (sel : WUpdate → List β) (m : List WUpdate) (w : Nat) : List β :=
  m.flatMap fun u => if u.w = w then sel u else []

def selA (t : TaskId) (u : WUpdate) : List Nat := (u.assigned.filter fun a => a.1 = t).map (·.2)
def selP (t : TaskId) (u : WUpdate) : List TaskId := u.prefills.filter fun x => x = t

def aItems (m : List WUpdate) (w : Nat) (t : TaskId) : List Nat := items (selA t) m w
def pItems (m : List WUpdate) (w : Nat) (t : TaskId) : List TaskId := items (selP t) m w

theorem items_nil_of_not_mem {β : Type} (sel : WUpdate → List β) {m : List WUpdate} {w : Nat}
    (h : w ∉ m.map (·.w)) : items sel m w = [] := by
  simp only [items, List.flatMap_eq_nil_iff]
  intro u hu
  have : u.w ≠ w := fun e => h (e ▸ List.mem_map_of_mem (f := (·.w)) hu)
  simp [this]

theorem items_cons {β : Type} (sel : WUpdate → List β) (u : WUpdate) (m : List WUpdate) (w : Nat) :
    items sel (u :: m) w = (if u.w = w then sel u else []) ++ items sel m w := by
  simp [items]

theorem items_append {β : Type} (sel : WUpdate → List β) (a b : List WUpdate) (w : Nat) :
    items sel (a ++ b) w = items sel a w ++ items sel b w := by
  simp [items]

theorem any_w_iff (m : List WUpdate) (w : Nat) : (m.any (·.w == w)) = true ↔ w ∈ m.map (·.w) := by
  simp only [List.any_eq_true, List.mem_map, beq_iff_eq]

theorem updAt_ws {m : List WUpdate} {w : Nat} {f : WUpdate → WUpdate} (hf : ∀ u, (f u).w = u.w) :
    (updAt m w f).map (·.w) = if w ∈ m.map (·.w) then m.map (·.w) else m.map (·.w) ++ [w] := by
  unfold updAt
  by_cases ha : (m.any (·.w == w)) = true
  · rw [if_pos ha, if_pos ((any_w_iff m w).mp ha), List.map_map]
    apply List.map_congr_left
    intro u _
    simp only [Function.comp]
    split
    · exact hf u
    · rfl
  · rw [if_neg ha, if_neg (fun e => ha ((any_w_iff m w).mpr e)), List.map_append]
    simp [hf]

theorem updAt_nodup {m : List WUpdate} {w : Nat} {f : WUpdate → WUpdate} (hf : ∀ u, (f u).w = u.w)
    (hn : (m.map (·.w)).Nodup) : ((updAt m w f).map (·.w)).Nodup := by
  rw [updAt_ws hf]
  split
  · exact hn
  · rename_i h
    rw [List.nodup_append]
    exact ⟨hn, by simp, fun a ha b hb => by simp only [List.mem_singleton] at hb; subst hb; exact fun e => h (e ▸ ha)⟩

theorem items_updAt {β : Type} (sel : WUpdate → List β) {m : List WUpdate} {w : Nat} {f : WUpdate → WUpdate} {D : List β}
    (hn : (m.map (·.w)).Nodup) (hf : ∀ u, (f u).w = u.w) (hsel : ∀ u, sel (f u) = sel u ++ D)
    (hsel0 : sel { w := w } = []) (w' : Nat) :
    items sel (updAt m w f) w' = items sel m w' ++ (if w = w' then D else []) := by
  unfold updAt
  by_cases ha : (m.any (·.w == w)) = true
  · rw [if_pos ha]
    have hmem := (any_w_iff m w).mp ha
    clear ha
    induction m with
    | nil => cases hmem
    | cons u rest ih =>
      simp only [List.map_cons, List.nodup_cons] at hn
      simp only [List.map_cons, items_cons]
      by_cases hu : u.w = w
      · have hrest : w ∉ rest.map (·.w) := hu ▸ hn.1
        have hid : rest.map (fun x => if (x.w == w) = true then f x else x) = rest := by
          rw [List.map_congr_left (g := id)]
          · simp
          · intro x hx
            have : x.w ≠ w := fun e => hrest (e ▸ List.mem_map_of_mem (f := (·.w)) hx)
            simp [this]
        simp only [hu, beq_self_eq_true, if_true, hid, hf, hsel]
        by_cases hw : w = w'
        · subst hw
          simp only [if_true]
          rw [items_nil_of_not_mem sel hrest]
          simp
        · simp [hw]
      · have hmem' : w ∈ rest.map (·.w) := by
          simp only [List.map_cons, List.mem_cons] at hmem
          exact hmem.resolve_left (fun e => hu e.symm)
        have hne : (u.w == w) = false := by simp [hu]
        simp only [hne, Bool.false_eq_true, if_false]
        rw [ih hn.2 hmem', List.append_assoc]
  · rw [if_neg ha, items_append]
    congr 1
    simp only [items, List.flatMap_cons, List.flatMap_nil, List.append_nil, hf, hsel, hsel0, List.nil_append]

theorem items_updAt_same {β : Type} (sel : WUpdate → List β) {m : List WUpdate} {w : Nat} {f : WUpdate → WUpdate}
    (hn : (m.map (·.w)).Nodup) (hf : ∀ u, (f u).w = u.w) (hsel : ∀ u, sel (f u) = sel u)
    (hsel0 : sel { w := w } = []) (w' : Nat) : items sel (updAt m w f) w' = items sel m w' := by
  have := items_updAt sel (D := []) hn hf (fun u => by rw [hsel u, List.append_nil]) hsel0 w'
  rw [this]; simp

theorem items_split {β : Type} (f g : WUpdate → List β) {m : List WUpdate} (hn : (m.map (·.w)).Nodup) (w : Nat) :
    items (fun u => f u ++ g u) m w = items f m w ++ items g m w := by
  induction m with
  | nil => rfl
  | cons u rest ih =>
    simp only [List.map_cons, List.nodup_cons] at hn
    simp only [items_cons, ih hn.2]
    by_cases hu : u.w = w
    · have hrest : w ∉ rest.map (·.w) := hu ▸ hn.1
      simp only [hu, if_true, items_nil_of_not_mem _ hrest, List.append_nil]
    · simp [hu]

theorem items_map {β γ : Type} (sel : WUpdate → List β) (h : β → γ) (m : List WUpdate) (w : Nat) :
    items (fun u => (sel u).map h) m w = (items sel m w).map h := by
  induction m with
  | nil => rfl
  | cons u rest ih =>
    simp only [items_cons, ih, List.map_append]
    split <;> rfl

def NoIt (A : Nat → List Nat) (P : Nat → List TaskId) (k : Nat) : Prop := (∀ w, A w = []) ∧ (∀ w, P w = []) ∧ k = 0

/-- state before the round `a`, state now `b`, assigned items `A`, prefill items `P` per worker, occurrences in the
multi-node list `k` -/
def TRelS (t : TaskId) (a b : Option TS) (A : Nat → List Nat) (P : Nat → List TaskId) (k : Nat) : Prop :=
  match a with
  | none => b = none ∧ NoIt A P k
  | some (.waiting n) =>
    (b = some (.waiting n) ∧ NoIt A P k) ∨
    (∃ w rv, b = some (.assigned w rv) ∧ A w = [rv] ∧ (∀ w', w' ≠ w → A w' = []) ∧ (∀ w', P w' = []) ∧ k = 0) ∨
    (∃ w, b = some (.prefilled w) ∧ P w = [t] ∧ (∀ w', w' ≠ w → P w' = []) ∧ (∀ w', A w' = []) ∧ k = 0) ∨
    (∃ ws, b = some (.runningMN ws) ∧ (∀ w', A w' = []) ∧ (∀ w', P w' = []) ∧ k = 1)
  | some st0 => NoIt A P k ∧ ∃ st, b = some st ∧ owner st = owner st0 ∧ ¬ isWaiting st

structure SI (c0 s : State) (m : List WUpdate) (acc : List TaskId) : Prop where
  nd : (m.map (·.w)).Nodup
  t : ∀ t, TRelS t (stOf c0.tasks t) (stOf s.tasks t) (fun w => aItems m w t) (fun w => pItems m w t) (acc.count t)

theorem SI.init (c : State) : SI c c [] [] := by
  refine ⟨List.nodup_nil, fun t => ?_⟩
  have hno : NoIt (fun w => aItems [] w t) (fun w => pItems [] w t) (([] : List TaskId).count t) :=
    ⟨fun _ => rfl, fun _ => rfl, rfl⟩
  cases hs : stOf c.tasks t with
  | none => exact ⟨rfl, hno⟩
  | some st =>
    cases st with
    | waiting n => exact .inl ⟨rfl, hno⟩
    | _ => exact ⟨hno, _, rfl, rfl, fun h => h⟩

theorem SI.step {c0 s s' : State} {m m' : List WUpdate} {acc acc' : List TaskId} (h : SI c0 s m acc)
    (hnd : (m'.map (·.w)).Nodup) (K : TaskId → Prop)
    (hsame : ∀ t, ¬ K t → stOf s'.tasks t = stOf s.tasks t ∧ (∀ w, aItems m' w t = aItems m w t) ∧
      (∀ w, pItems m' w t = pItems m w t) ∧ acc'.count t = acc.count t)
    (hK : ∀ t, K t → TRelS t (stOf c0.tasks t) (stOf s'.tasks t) (fun w => aItems m' w t) (fun w => pItems m' w t)
      (acc'.count t)) : SI c0 s' m' acc' := by
  refine ⟨hnd, fun t => ?_⟩
  by_cases hk : K t
  · exact hK t hk
  · obtain ⟨a, b, c, d⟩ := hsame t hk
    have := h.t t
    rw [a, d]
    have eA : (fun w => aItems m' w t) = fun w => aItems m w t := funext b
    have eP : (fun w => pItems m' w t) = fun w => pItems m w t := funext c
    rw [eA, eP]
    exact this

theorem SI.congr {c0 s s' : State} {m : List WUpdate} {acc : List TaskId} (h : SI c0 s m acc) (e : s'.tasks = s.tasks) :
    SI c0 s' m acc :=
  ⟨h.nd, fun t => by rw [e]; exact h.t t⟩

theorem TRelS.of_waiting {t : TaskId} {a : Option TS} {n : Nat} {A : Nat → List Nat} {P : Nat → List TaskId} {k : Nat}
    (h : TRelS t a (some (.waiting n)) A P k) : a = some (.waiting n) ∧ NoIt A P k := by
  cases a with
  | none => obtain ⟨e, _⟩ := h; cases e
  | some st0 =>
    cases st0 with
    | waiting n0 =>
      rcases h with ⟨e, hn⟩ | ⟨_, _, e, _⟩ | ⟨_, e, _⟩ | ⟨_, e, _⟩
      · cases e; exact ⟨rfl, hn⟩
      · cases e
      · cases e
      · cases e
    | _ => obtain ⟨_, st, e, _, hw⟩ := h; cases e; exact (hw trivial).elim

/-- no prefill has been entered yet (everything before `process_proactive_filling`) -/
def NoPre (m : List WUpdate) : Prop := ∀ u ∈ m, u.prefills = []

theorem NoPre.pItems {m : List WUpdate} (h : NoPre m) (w : Nat) (t : TaskId) : Core.pItems m w t = [] := by
  simp only [Core.pItems, items, List.flatMap_eq_nil_iff]
  intro u hu
  split
  · simp [selP, h u hu]
  · rfl

theorem NoPre.updAt {m : List WUpdate} (h : NoPre m) (w : Nat) {f : WUpdate → WUpdate}
    (hf : ∀ u, (f u).prefills = u.prefills) : NoPre (updAt m w f) := by
  intro u hu
  unfold Core.updAt at hu
  split at hu
  · obtain ⟨x, hx, rfl⟩ := List.mem_map.mp hu
    split
    · rw [hf]; exact h x hx
    · exact h x hx
  · rcases List.mem_append.mp hu with hu | hu
    · exact h u hu
    · simp only [List.mem_singleton] at hu
      subst hu; rw [hf]

theorem stOf_setTask {s : State} {id : TaskId} {task t' : Task} (hf : s.task? id = some task) (hid : t'.id = task.id)
    (u : TaskId) : stOf (s.setTask t').tasks u = if u = id then some t'.state else stOf s.tasks u := by
  have hid' : task.id = id := findTask_some_id hf
  show stOf (putTask s.tasks t') u = _
  rw [stOf_put (told := task) (by rw [hid, hid']; exact hf), hid, hid']

theorem selA_append (t : TaskId) (u : WUpdate) (l : List (TaskId × Nat)) :
    selA t { u with assigned := u.assigned ++ l } = selA t u ++ (l.filter fun a => a.1 = t).map (·.2) := by
  simp [selA]

theorem selP_append (t : TaskId) (u : WUpdate) (l : List TaskId) :
    selP t { u with prefills := u.prefills ++ l } = selP t u ++ l.filter fun x => x = t := by
  simp [selP]

theorem placeSn_si {c0 s s' : State} {m m' : List WUpdate} {acc : List TaskId} {v : Nat} {r : Rq} {id : TaskId}
    {w : Nat} (hi : SI c0 s m acc) (hp : NoPre m) (h : s.placeSn m v r id w = .ok (s', m')) :
    SI c0 s' m' acc ∧ NoPre m' := by
  obtain ⟨_, hpl⟩ := placeSn_cases h
  cases hpl with
  | waiting s1 task n hw hg hs =>
    have e1 : s1.tasks = s.tasks := withWorker_tasks hw
    have ht : s1.task? id = some task := getTask_spec hg
    have hst : stOf s.tasks id = some task.state := by rw [← e1]; exact stOf_of_find ht
    have hput := stOf_setTask (t' := { task with state := .assigned w v }) ht rfl
    have hf : ∀ u : WUpdate, ({ u with assigned := u.assigned ++ [(id, v)] } : WUpdate).w = u.w := fun _ => rfl
    refine ⟨SI.step hi (updAt_nodup hf hi.nd) (fun t => t = id) (fun t hne => ?_) (fun t he => ?_),
      hp.updAt w (fun _ => rfl)⟩
    · refine ⟨by rw [hput, if_neg hne, e1], fun w' => ?_, fun w' => ?_, rfl⟩
      · show items (selA t) _ w' = items (selA t) m w'
        rw [items_updAt (selA t) (D := ([(id, v)].filter fun a => a.1 = t).map (·.2)) hi.nd hf
          (fun u => selA_append t u _) rfl w']
        have : (([(id, v)] : List (TaskId × Nat)).filter fun a => a.1 = t) = [] := by
          simp [Ne.symm hne]
        simp [this]
      · exact items_updAt_same (selP t) hi.nd hf (fun _ => rfl) rfl w'
    · subst he
      have h0 := hi.t t
      rw [hst, hs] at h0
      obtain ⟨ea, hA, hP, hk⟩ := h0.of_waiting
      rw [ea, hput, if_pos rfl]
      have hAi : ∀ w', aItems (updAt m w fun u => { u with assigned := u.assigned ++ [(t, v)] }) w' t =
          if w = w' then [v] else [] := by
        intro w'
        show items (selA t) _ w' = _
        rw [items_updAt (selA t) (D := ([(t, v)].filter fun a => a.1 = t).map (·.2)) hi.nd hf
          (fun u => selA_append t u _) rfl w']
        have := hA w'
        simp only [aItems] at this
        rw [this]
        simp
      refine .inr (.inl ⟨w, v, rfl, by show aItems _ _ _ = _; rw [hAi]; simp,
        fun w' hne => by show aItems _ _ _ = _; rw [hAi]; simp [Ne.symm hne], fun w' => ?_, hk⟩)
      show items (selP t) _ w' = []
      rw [items_updAt_same (selP t) hi.nd hf (fun _ => rfl) rfl w']
      exact hP w'
  | redirect s1 task old hw hg hs hf =>
    have e1 : s1.tasks = s.tasks := withWorker_tasks hw
    exact ⟨hi.congr e1, hp⟩
  | reredirect s1 task old oldTarget ov r' s3 hw hg hs hf hr hw3 =>
    -- only the redirect changes
    have e1 : s1.tasks = s.tasks := withWorker_tasks hw
    have e3 : s3.tasks = s.tasks := (withWorker_tasks hw3 :).trans e1
    have ht3 : s3.task? id = some task := by rw [State.task?, e3, ← e1]; exact getTask_spec hg
    have hst : stOf s.tasks id = some task.state := by rw [← e3]; exact stOf_of_find ht3
    have hput := stOf_setTask (t' := { task with state := .retracting old }) ht3 rfl
    refine ⟨SI.step hi hi.nd (fun _ => False) (fun t _ => ⟨?_, fun _ => rfl, fun _ => rfl, rfl⟩)
      (fun _ e => e.elim), hp⟩
    rw [hput]
    split
    · rename_i e; rw [e, hst, hs]
    · rw [e3]
  | prefilled s1 task old s2 hw hg hs hw2 hn =>
    -- Prefilled before the round: it becomes Retracting
    have e1 : s1.tasks = s.tasks := withWorker_tasks hw
    have e2 : s2.tasks = s.tasks := (withWorker_tasks hw2).trans e1
    have ht2 : s2.task? id = some task := by rw [State.task?, e2, ← e1]; exact getTask_spec hg
    have hst : stOf s.tasks id = some task.state := by rw [← e2]; exact stOf_of_find ht2
    have hput := stOf_setTask (s := { s2 with redirects := s2.redirects ++ [(id, w, v)] })
      (t' := { task with state := .retracting old }) ht2 rfl
    have hf : ∀ u : WUpdate, ({ u with retracts := u.retracts ++ [id] } : WUpdate).w = u.w := fun _ => rfl
    have hA : ∀ t w', aItems (updAt m old fun u => { u with retracts := u.retracts ++ [id] }) w' t =
        aItems m w' t := fun t w' => items_updAt_same (selA t) hi.nd hf (fun _ => rfl) rfl w'
    have hP : ∀ t w', pItems (updAt m old fun u => { u with retracts := u.retracts ++ [id] }) w' t =
        pItems m w' t := fun t w' => items_updAt_same (selP t) hi.nd hf (fun _ => rfl) rfl w'
    refine ⟨SI.step hi (updAt_nodup hf hi.nd) (fun t => t = id) (fun t hne => ?_) (fun t he => ?_),
      hp.updAt old (fun _ => rfl)⟩
    · refine ⟨?_, hA t, hP t, rfl⟩
      rw [hput, if_neg hne]; exact congrArg (fun ts => stOf ts t) e2
    · subst he
      have h0 := hi.t t
      rw [hst, hs] at h0
      rw [hput, if_pos rfl]
      have eA : (fun w' => aItems (updAt m old fun u => { u with retracts := u.retracts ++ [t] }) w' t) =
          fun w' => aItems m w' t := funext (hA t)
      have eP : (fun w' => pItems (updAt m old fun u => { u with retracts := u.retracts ++ [t] }) w' t) =
          fun w' => pItems m w' t := funext (hP t)
      rw [eA, eP]
      cases ha : stOf c0.tasks t with
      | none => rw [ha] at h0; obtain ⟨e, _⟩ := h0; cases e
      | some st0 =>
        rw [ha] at h0
        cases st0 with
        | waiting n0 =>
          rcases h0 with ⟨e, _⟩ | ⟨_, _, e, _⟩ | ⟨w1, e, hpi, _⟩ | ⟨_, e, _⟩
          · cases e
          · cases e
          · have hpi : pItems m w1 t = [t] := hpi
            rw [hp.pItems] at hpi; cases hpi
          · cases e
        | _ =>
          obtain ⟨hn, st, e, ho, _⟩ := h0; cases e
          exact ⟨hn, _, rfl, ho, fun hh => hh⟩

theorem placeAll_si {l : List (TaskId × Nat)} {c0 s s' : State} {m m' : List WUpdate} {acc : List TaskId} {v : Nat}
    {r : Rq} (hi : SI c0 s m acc) (hp : NoPre m) (h : s.placeAll m v r l = .ok (s', m')) :
    SI c0 s' m' acc ∧ NoPre m' :=
  placeAll_ind (P := fun _ s1 m1 => SI c0 s1 m1 acc ∧ NoPre m1) (fun _ _ _ _ _ _ _ hP h1 => placeSn_si hP.1 hP.2 h1)
    ⟨hi, hp⟩ h

theorem mapSn_si {es : List SnEntry} {c0 s s' : State} {now : Nat} {m m' : List WUpdate} {acc : List TaskId}
    (hi : SI c0 s m acc) (hp : NoPre m) (h : s.mapSn now m es = .ok (s', m')) : SI c0 s' m' acc ∧ NoPre m' := by
  refine mapSn_ind (P := fun _ s1 m1 => SI c0 s1 m1 acc ∧ NoPre m1) (fun e _ s1 _ _ _ hP h1 => ?_) ⟨hi, hp⟩ h
  obtain ⟨_, _, q', _, _, _, _, hpl⟩ := mapSn1_ok h1
  exact placeAll_si (hP.1.congr (s' := { s1 with queues := s1.queues.set e.rq q' }) rfl) hP.2 hpl

theorem insertByPrio_perm (prio : TaskId → Int) (x : TaskId × Nat) (l : List (TaskId × Nat)) :
    (insertByPrio prio x l).Perm (x :: l) := by
  induction l with
  | nil => exact List.Perm.refl _
  | cons y ys ih =>
    simp only [insertByPrio]
    split
    · exact ((List.Perm.cons y ih).trans (List.Perm.swap x y ys))
    · exact List.Perm.refl _

theorem sortByPrio_perm (prio : TaskId → Int) (l : List (TaskId × Nat)) : (sortByPrio prio l).Perm l := by
  unfold sortByPrio
  have : ∀ (l acc : List (TaskId × Nat)), (l.foldl (fun acc x => insertByPrio prio x acc) acc).Perm (l.reverse ++ acc) := by
    intro l
    induction l with
    | nil => intro acc; exact List.Perm.refl _
    | cons x xs ih =>
      intro acc
      simp only [List.foldl_cons, List.reverse_cons, List.append_assoc, List.singleton_append]
      exact (ih _).trans (List.Perm.append_left _ (insertByPrio_perm prio x acc))
  have h := this l []
  rw [List.append_nil] at h
  exact h.trans (List.reverse_perm l)

theorem TRelS.perm {t : TaskId} {a b : Option TS} {A A' : Nat → List Nat} {P : Nat → List TaskId} {k : Nat}
    (h : TRelS t a b A P k) (hp : ∀ w, (A' w).Perm (A w)) : TRelS t a b A' P k := by
  have nil : ∀ w, A w = [] → A' w = [] := fun w e => (e ▸ hp w).eq_nil
  have one : ∀ w x, A w = [x] → A' w = [x] := fun w x e => List.perm_singleton.mp (e ▸ hp w)
  have noit : NoIt A P k → NoIt A' P k := fun ⟨a, b, c⟩ => ⟨fun w => nil w (a w), b, c⟩
  cases a with
  | none => exact ⟨h.1, noit h.2⟩
  | some st0 =>
    cases st0 with
    | waiting n =>
      rcases h with ⟨e, hn⟩ | ⟨w, rv, e, h1, h2, h3, h4⟩ | ⟨w, e, h1, h2, h3, h4⟩ | ⟨ws, e, h1, h2, h3⟩
      · exact .inl ⟨e, noit hn⟩
      · exact .inr (.inl ⟨w, rv, e, one w rv h1, fun w' hne => nil w' (h2 w' hne), h3, h4⟩)
      · exact .inr (.inr (.inl ⟨w, e, h1, h2, fun w' => nil w' (h3 w'), h4⟩))
      · exact .inr (.inr (.inr ⟨ws, e, fun w' => nil w' (h1 w'), h2, h3⟩))
    | _ => exact ⟨noit h.1, h.2⟩

theorem aItems_sort_perm (prio : TaskId → Int) (w : Nat) (t : TaskId) : ∀ (m : List WUpdate),
    (aItems (m.map fun u => { u with assigned := sortByPrio prio u.assigned }) w t).Perm (aItems m w t)
  | [] => List.Perm.refl _
  | u :: rest => by
    simp only [aItems, List.map_cons, items_cons]
    refine List.Perm.append ?_ (aItems_sort_perm prio w t rest)
    split
    · exact ((sortByPrio_perm prio u.assigned).filter _).map _
    · exact List.Perm.refl _

theorem sort_si {c0 s : State} {m : List WUpdate} {acc : List TaskId} (prio : TaskId → Int) (hi : SI c0 s m acc)
    (hp : NoPre m) :
    SI c0 s (m.map fun u => { u with assigned := sortByPrio prio u.assigned }) acc ∧
    NoPre (m.map fun u => { u with assigned := sortByPrio prio u.assigned }) := by
  refine ⟨⟨by rw [List.map_map]; exact hi.nd, fun t => ?_⟩, fun u hu => ?_⟩
  · have eP : (fun w => pItems (m.map fun u => { u with assigned := sortByPrio prio u.assigned }) w t) =
        fun w => pItems m w t := by
      funext w
      simp only [pItems, items, List.flatMap_map]
      rfl
    rw [eP]
    exact (hi.t t).perm fun w => aItems_sort_perm prio w t m
  · obtain ⟨x, hx, rfl⟩ := List.mem_map.mp hu
    exact hp x hx

theorem mapMnSets_si {sets : List (List Nat)} {c0 s s' : State} {m : List WUpdate} {rq : Nat} {acc acc' : List TaskId}
    (hi : SI c0 s m acc) (h : s.mapMnSets rq sets acc = .ok (s', acc')) : SI c0 s' m acc' := by
  refine mapMnSets_ind (P := fun _ s1 acc1 => SI c0 s1 m acc1) (fun ws _ s1 acc1 _ _ hi h1 => ?_) hi h
  obtain ⟨_, _, id, _, _, s2, task, _, _, hm, hg, hst, rfl, rfl⟩ := mapMnSets1_ok h1
  have e2 : s2.tasks = s1.tasks := (setMnAll_tasks _ _ _ _ _ hm :)
  have ht : s2.task? id = some task := getTask_spec hg
  have hs0 : stOf s1.tasks id = some (.waiting 0) := by
    rw [← e2, ← hst]; exact stOf_of_find ht
  have hput := stOf_setTask (t' := { task with state := .runningMN ws }) ht rfl
  refine SI.step hi hi.nd (fun t => t = id) (fun t hne => ?_) (fun t he => ?_)
  · refine ⟨by rw [hput, if_neg hne, e2], fun _ => rfl, fun _ => rfl, ?_⟩
    rw [List.count_append]
    simp [Ne.symm hne]
  · subst he
    have h0 := hi.t t
    rw [hs0] at h0
    obtain ⟨ea, hA, hP, hk⟩ := h0.of_waiting
    rw [ea, hput, if_pos rfl]
    refine .inr (.inr (.inr ⟨ws, rfl, hA, hP, ?_⟩))
    rw [List.count_append, hk]
    simp

theorem mapMn_si {es : List MnEntry} {c0 s s' : State} {m : List WUpdate} {acc acc' : List TaskId}
    (hi : SI c0 s m acc) (h : s.mapMn es acc = .ok (s', acc')) : SI c0 s' m acc' :=
  mapMn_ind (P := fun _ s1 acc1 => SI c0 s1 m acc1) (fun _ _ _ _ _ _ hP h1 => mapMnSets_si hP h1) hi h

theorem prefillMark_spec {w : Nat} {l : List TaskId} {s s' : State} (h : State.prefillWorker.mark w s l = .ok s') :
    l.Nodup ∧ (∀ id ∈ l, ∃ n, stOf s.tasks id = some (.waiting n)) ∧
    ∀ u, stOf s'.tasks u = if u ∈ l then some (.prefilled w) else stOf s.tasks u := by
  induction l generalizing s with
  | nil => simp only [State.prefillWorker.mark] at h; cases h; exact ⟨List.nodup_nil, fun _ h => (by cases h), fun _ => (by simp)⟩
  | cons id rest ih =>
    obtain ⟨t, n, s2, hg, hs, hw, h⟩ := prefillMark_cons_ok h
    have ht : s.task? id = some t := getTask_spec hg
    have hput := stOf_setTask (t' := { t with state := .prefilled w }) ht rfl
    have e2 : ∀ u, stOf s2.tasks u = if u = id then some (.prefilled w) else stOf s.tasks u := by
      intro u
      rw [withWorker_tasks hw]; exact hput u
    obtain ⟨a, b, c⟩ := ih h
    have hnot : id ∉ rest := by
      intro hm
      obtain ⟨n', e⟩ := b id hm
      rw [e2, if_pos rfl] at e; cases e
    refine ⟨List.nodup_cons.mpr ⟨hnot, a⟩, ?_, ?_⟩
    · intro x hx
      rcases List.mem_cons.mp hx with rfl | hx
      · exact ⟨n, by rw [← hs]; exact stOf_of_find ht⟩
      · obtain ⟨n', e⟩ := b x hx
        rw [e2] at e
        split at e
        · cases e
        · exact ⟨n', e⟩
    · intro u
      rw [c u, e2 u]
      by_cases hu : u ∈ rest
      · simp [hu]
      · by_cases hi : u = id
        · simp [hi]
        · simp [hu, hi]

theorem filter_eq_of_nodup {l : List TaskId} (hn : l.Nodup) (t : TaskId) :
    (l.filter fun x => x = t) = if t ∈ l then [t] else [] := by
  induction l with
  | nil => rfl
  | cons x xs ih =>
    simp only [List.nodup_cons] at hn
    simp only [List.filter_cons, ih hn.2]
    by_cases hx : x = t
    · subst hx
      simp [hn.1]
    · have : ¬ t = x := fun e => hx e.symm
      simp [hx, this]

theorem prefillWorker_si {c0 s s' : State} {m m' : List WUpdate} {acc : List TaskId} {rq size w : Nat}
    (hi : SI c0 s m acc) (h : s.prefillWorker m rq size w = .ok (s', m')) : SI c0 s' m' acc := by
  obtain ⟨q, _, _, _, pf, s2, keep, _, _, _, hb, hmk, rfl⟩ := prefillWorker_path h
  have eb : s2.tasks = s.tasks := (prefillBack_spec _ _ _ _ _ _ hb).1.t
  obtain ⟨hnd, hwait, hch⟩ := prefillMark_spec hmk
  have hf : ∀ u : WUpdate, ({ u with prefills := u.prefills ++ keep } : WUpdate).w = u.w := fun _ => rfl
  have hP : ∀ t w', pItems (updAt m w fun u => { u with prefills := u.prefills ++ keep }) w' t =
      pItems m w' t ++ (if w = w' then (if t ∈ keep then [t] else []) else []) := by
    intro t w'
    show items (selP t) _ w' = _
    rw [items_updAt (selP t) (D := keep.filter fun x => x = t) hi.nd hf (fun u => selP_append t u _) rfl w',
      filter_eq_of_nodup hnd]
    rfl
  have hA : ∀ t w', aItems (updAt m w fun u => { u with prefills := u.prefills ++ keep }) w' t =
      aItems m w' t := fun t w' => items_updAt_same (selA t) hi.nd hf (fun _ => rfl) rfl w'
  refine SI.step hi (updAt_nodup hf hi.nd) (fun t => t ∈ keep) (fun t hne => ?_) (fun t he => ?_)
  · refine ⟨by rw [hch, if_neg hne]; exact congrArg (fun ts => stOf ts t) eb, hA t, fun w' => ?_, rfl⟩
    rw [hP]; simp [hne]
  · obtain ⟨n, hs⟩ := hwait t he
    have h0 := hi.t t
    rw [← eb, hs] at h0
    obtain ⟨ea, hA0, hP0, hk⟩ := h0.of_waiting
    rw [ea, hch, if_pos he]
    refine .inr (.inr (.inl ⟨w, rfl, ?_, fun w' hne => ?_, fun w' => ?_, hk⟩))
    · show pItems _ _ _ = _
      rw [hP]
      have := hP0 w
      simp only at this
      rw [this]; simp [he]
    · show pItems _ _ _ = _
      rw [hP]
      have := hP0 w'
      simp only at this
      rw [this]; simp [Ne.symm hne]
    · show aItems _ _ _ = _
      rw [hA]; exact hA0 w'

theorem prefillWorkers_si {ws : List Nat} {c0 s s' : State} {m m' : List WUpdate} {acc : List TaskId} {rq size : Nat}
    (hi : SI c0 s m acc) (h : s.prefillWorkers m rq size ws = .ok (s', m')) : SI c0 s' m' acc :=
  prefillWorkers_ind (P := fun _ s2 m2 => SI c0 s2 m2 acc) (fun _ _ _ _ _ _ hQ h1 => prefillWorker_si hQ h1) hi h

theorem proactive_si {n : Nat} {c0 s s' : State} {m m' : List WUpdate} {acc : List TaskId}
    {orders : List (Nat × List Nat)} {top : Int} {rq : Nat} (hi : SI c0 s m acc)
    (h : s.proactive m orders top n rq = .ok (s', m')) : SI c0 s' m' acc :=
  proactive_ind (P := fun s1 m1 => SI c0 s1 m1 acc) (fun _ _ _ _ _ _ _ _ hP _ _ hw => prefillWorkers_si hP hw) hi h

theorem mem_items {β : Type} (sel : WUpdate → List β) {m : List WUpdate} {u : WUpdate} (hu : u ∈ m) {b : β}
    (hb : b ∈ sel u) : b ∈ items sel m u.w :=
  List.mem_flatMap.mpr ⟨u, hu, by rw [if_pos rfl]; exact hb⟩

/-- **only a task that was Waiting when the round began gets an item** in the update record of some worker, and it is
Assigned or Prefilled now -/
theorem SI.of_item {c0 s : State} {m : List WUpdate} {acc : List TaskId} (h : SI c0 s m acc) {t : TaskId}
    (hne : (∃ w, aItems m w t ≠ []) ∨ ∃ w, pItems m w t ≠ []) :
    ∃ n, stOf c0.tasks t = some (.waiting n) ∧
      ((∃ w v, stOf s.tasks t = some (.assigned w v)) ∨ ∃ w, stOf s.tasks t = some (.prefilled w)) := by
  have no : ∀ {k}, (∀ w, aItems m w t = []) → (∀ w, pItems m w t = []) → k → False := fun a b _ => by
    rcases hne with ⟨w, e⟩ | ⟨w, e⟩
    · exact e (a w)
    · exact e (b w)
  have hT := h.t t
  cases h0 : stOf c0.tasks t with
  | none => rw [h0] at hT; exact (no hT.2.1 hT.2.2.1 trivial).elim
  | some st0 =>
    rw [h0] at hT
    cases st0 with
    | waiting n =>
      refine ⟨n, rfl, ?_⟩
      rcases hT with ⟨_, hn⟩ | ⟨w, rv, e, _⟩ | ⟨w, e, _⟩ | ⟨ws, _, a, b, _⟩
      · exact (no hn.1 hn.2.1 trivial).elim
      · exact .inl ⟨w, rv, e⟩
      · exact .inr ⟨w, e⟩
      · exact (no a b trivial).elim
    | _ => exact (no hT.1.1 hT.1.2.1 trivial).elim

/-- **the multi-node list names exactly the tasks the round took from Waiting to RunningMultiNode** -/
theorem SI.mem_acc {c0 s : State} {m : List WUpdate} {acc : List TaskId} (h : SI c0 s m acc) {t : TaskId} :
    t ∈ acc ↔ ∃ n ws, stOf c0.tasks t = some (.waiting n) ∧ stOf s.tasks t = some (.runningMN ws) := by
  have hT := h.t t
  rw [← List.count_pos_iff]
  constructor
  · intro hk
    have no : ∀ {A P}, NoIt A P (acc.count t) → False := fun hn => Nat.ne_of_gt hk hn.2.2
    cases h0 : stOf c0.tasks t with
    | none => rw [h0] at hT; exact (no hT.2).elim
    | some st0 =>
      rw [h0] at hT
      cases st0 with
      | waiting n =>
        rcases hT with ⟨_, hn⟩ | ⟨_, _, _, _, _, _, k⟩ | ⟨_, _, _, _, _, k⟩ | ⟨ws, e, _⟩
        · exact (no hn).elim
        · exact (Nat.ne_of_gt hk k).elim
        · exact (Nat.ne_of_gt hk k).elim
        · exact ⟨n, ws, rfl, e⟩
      | _ => exact (no hT.1).elim
  · rintro ⟨n, ws, h0, h1⟩
    rw [h0, h1] at hT
    rcases hT with ⟨e, _⟩ | ⟨_, _, e, _⟩ | ⟨_, e, _⟩ | ⟨_, _, _, _, k⟩
    · cases e
    · cases e
    · cases e
    · rw [k]; exact Nat.one_pos

/-- **one scheduling round**: the bookkeeping holds between the state the round began in and the state its messages
are built from -/
theorem schedule_si {s s' : State} {sol : Solution} {o : Out} (h : s.schedule sol = .ok (s', o)) :
    ∃ s3 m mn msgs mm, SI s s3 m mn ∧ msgsOfAll s3 m = .ok msgs ∧ mnMsgs s3 mn = .ok mm ∧
      s' = { s3 with needSched := false } ∧ o = { msgs := msgs ++ mm } := by
  obtain ⟨s1, m1, s2, mnTasks, s3, m3, msgs, mm, top, n, h1, h2, _, h3, hmsgs, hmm, ec, eo⟩ := schedule_path h
  obtain ⟨i1, p1⟩ := mapSn_si (SI.init s) (fun _ hu => by cases hu) h1
  obtain ⟨i1', _⟩ := sort_si (fun id => match s1.task? id with | some t => t.prio | none => 0) i1 p1
  exact ⟨s3, m3, mnTasks, msgs, mm, proactive_si (mapMn_si i1' h2) h3, hmsgs, hmm, ec, eo⟩

end HqModel.Core
