import HqModel.Lemmas.CoreNoPanicDepsNew
import HqModel.Lemmas.CoreQueueAct
/-!
Preservation of `NpDeps U s` by the reactor, the scheduling round and `step`. The handlers that remove or add tasks go
along their chain of acts (`CoreAct`): one lemma, `Act.npdeps`, by cases on the act. Its companion is the queue invariant
of the pair (`QG`, `CoreQueueAct`): an act that erases a record needs it to know that a task without unfinished
dependencies is listed by nobody, an act that appends one that the ids of the map have all been submitted.
-/
namespace HqModel.Core.NPB

open HqModel.Core.NP

section

variable {U : List TaskId} {s s' : State}

theorem wakeConsumers_npdeps {cs r r' : List TaskId} (h : NpDeps U s)
    (heq : s.wakeConsumers cs r = .ok (s', r')) : NpDeps U s' := h.of_desc (RW := Eq) (wakeConsumers_desc cs heq)

theorem retractLoop_npdeps {ids : List TaskId} {w : Nat} {acc acc' : List (Nat × TaskId × Nat)} (h : NpDeps U s)
    (heq : s.retractLoop w ids acc = .ok (s', acc')) : NpDeps U s' :=
  h.of_desc (RW := Eq) (retractLoop_desc (o := fun _ => True) ids (fun _ _ => trivial) heq)

theorem lostPrefilled_npdeps {ids : List TaskId} (h : NpDeps U s) (heq : s.lostPrefilled ids = .ok s') :
    NpDeps U s' :=
  h.of_desc (lostPrefilled_desc (w := 0) (fail := False) (L := fun _ => True) (RW := Eq) ids (fun _ _ => trivial) heq)

theorem lostAssigned_npdeps {ids ru ru' re re' : List TaskId} (h : NpDeps U s)
    (heq : s.lostAssigned ids ru re = .ok (s', ru', re')) : NpDeps U s' :=
  h.of_desc (lostAssigned_desc (w := 0) (fail := False) (L := fun _ => True) (RW := Eq) ids (fun _ _ => trivial) heq)

theorem lostRetracting_npdeps {l : List Task} {w : Nat} {o o' : Out} (h : NpDeps U s)
    (heq : s.lostRetracting w l o = .ok (s', o')) : NpDeps U s' :=
  h.of_desc (lostRetracting_desc (fail := False) (L := fun _ => True) (RW := Eq) l heq)

end

/-- what this family is told beyond `qSide`: the dependency list of a submission has no duplicates -/
def dSide : Side := { qSide with newTask := fun nt => nt.deps.Nodup }

theorem dSide_le : dSide.le qSide where
  stale h := h
  fin _ h := h
  run _ _ _ _ h := h
  fresh _ _ h := h
  worker _ _ h := h
  rq _ h := h
  lost _ _ h := h
  lostP _ h := h
  lostA _ h := h
  newTask _ _ := trivial

theorem _root_.HqModel.Core.Act.npdeps {a b : Gh × State} (h : Act dSide a b) (hq : QG a) (hd : NpDeps a.1.U a.2) :
    NpDeps b.1.U b.2 := by
  have fid : ∀ {s : State} {id : TaskId} {t : Task}, s.task? id = some t → findTask s.tasks t.id = some t :=
    fun ht => by rw [findTask_some_id ht]; exact ht
  have back : ∀ {s s2 : State} {id : TaskId} {t : Task} {st : TS} {i : Nat} {r : List TaskId}, s.task? id = some t →
      Requeued s { t with state := st, inst := i } s2 r → DS s s2 :=
    fun ht h => (DS.setState (fid ht)).trans (addReady_ds h)
  cases h with
  | release _ h => exact hd.of_tasks_eq h.tasks
  | finish ht _ _ _ => exact hd.of_ds (DS.setState (fid ht))
  | wake ht _ _ => exact hd.of_ds (DS.setState (fid ht))
  | wakeReady ht _ h => exact hd.of_ds (back (i := _) ht h)
  | requeue i ht _ _ h => exact hd.of_ds (back ht h)
  | stale _ ht _ h => exact hd.of_ds (back (i := _) ht h)
  | retract ht _ hw =>
    exact hd.of_ds ((withWorker_ds hw).trans (DS.setState (by rw [withWorker_tasks hw]; exact fid ht)))
  | doom => exact hd
  | erase h _ hf => exact removeTask_npdeps_q hd hq.q (.inl hf) h
  | eraseW h hf => exact removeTask_npdeps_q hd hq.q (.inl hf) h
  | eraseFin h => exact removeTask_npdeps_q hd hq.q (.inr rfl) h
  | @resolve R f p U s id task w target trv i ht _ _ =>
    exact hd.of_ds (DS.trans (b := { s with redirects := s.redirects.filter (·.1 ≠ id) }) (DS.of_tasks rfl)
      (DS.setState (fid ht)))
  | unretract i ht _ _ => exact hd.of_ds (DS.setState (fid ht))
  | run ht h _ =>
    cases h with
    | assigned => exact hd.of_ds (DS.setState (fid ht))
    | prefilled _ _ h1 h2 => exact queueRemove_npdeps (withWorker_npdeps (hd.of_ds (DS.setState (fid ht))) h1) h2
    | retracting _ h1 h2 _ h3 =>
      exact withWorker_npdeps (tryRemoveRedirection_npdeps
        (queueRemove_npdeps ((hd.of_ds (DS.setState (fid ht))).of_ds (DS.ask _)) h1) h2) h3
    | mn => exact hd.of_ds (DS.setWorker _ _)
  | block b _ => exact hd.of_ds (DS.setWorker _ _)
  | ask => exact hd.of_ds (DS.ask _)
  | dropSn => exact hd.of_tasks_eq rfl
  | @dropMnRoot D R f p U L s s1 w _ _ _ _ _ _ _ _ _ _ _ h =>
    exact resetMnAll_npdeps (s := { s with workers := s.workers.filter (·.id ≠ w) }) (hd.of_tasks_eq rfl) h
  | @dropMnOther g s w _ _ _ _ _ _ _ _ _ _ ht _ _ =>
    exact hd.of_ds (DS.trans (b := { s with workers := s.workers.filter (·.id ≠ w) }) (DS.of_tasks rfl)
      (DS.setState (fid ht)))
  | lostPrefilled ht _ _ h => exact movePrefilledToReady_npdeps (hd.of_ds (DS.setState (fid ht))) h
  | lostRequeue ht _ _ _ h => exact hd.of_ds (back ht h)
  | @lostRedirect D R f p U L s s2 id task x r ht _ _ _ h =>
    exact hd.of_ds (DS.trans (b := { s with redirects := s.redirects.filter (·.1 ≠ id) }) (DS.of_tasks rfl)
      (back (s := { s with redirects := s.redirects.filter (·.1 ≠ id) }) (st := task.state) ht h))
  | crash n ht => exact hd.of_ds (DS.setState (fid ht))
  | newWaiting hreg _ _ hU hN => exact hd.new_task hq.q.uT hq.q.uC hU hN hreg rfl rfl rfl rfl
  | newReady hreg _ hU h hN =>
    exact hd.new_task hq.q.uT hq.q.uC hU hN hreg rfl rfl rfl (congrArg (· ++ _) (addReady_tasks h))
  | newWorker => exact hd.of_tasks_eq rfl
  | newRq rqv => exact newRq_npdeps rqv hd

theorem _root_.HqModel.Core.Acts.npdeps {a b : Gh × State} (h : Acts dSide a b) (hq : QG a) (hd : NpDeps a.1.U a.2) :
    QG b ∧ NpDeps b.1.U b.2 := by
  induction h with
  | refl => exact ⟨hq, hd⟩
  | tail _ r ih => exact ⟨(r.weaken dSide_le).q ih.1, r.npdeps ih.1 ih.2⟩

theorem _root_.HqModel.Core.Acts.npdeps0 {U U' : List TaskId} {s s' : State} (h : Acts dSide (.idle U, s) (.idle U', s'))
    (hq : QInv U none [] s) (hd : NpDeps U s) : NpDeps U' s' := (h.npdeps ⟨hq, .nil⟩ hd).2

section

variable {U : List TaskId} {s s' : State}

theorem placeSn_npdeps {m m' : List WUpdate} {v : Nat} {r : Rq} {id : TaskId} {w : Nat} (h : NpDeps U s)
    (heq : s.placeSn m v r id w = .ok (s', m')) :
    NpDeps U s' := h.of_desc (placeSn_desc heq)

theorem placeAll_npdeps {l : List (TaskId × Nat)} {m m' : List WUpdate} {v : Nat} {r : Rq} (h : NpDeps U s)
    (heq : s.placeAll m v r l = .ok (s', m')) :
    NpDeps U s' := h.of_desc (placeAll_desc heq)

theorem mapSn_npdeps {es : List SnEntry} {now : Nat} {m m' : List WUpdate} (h : NpDeps U s)
    (heq : s.mapSn now m es = .ok (s', m')) :
    NpDeps U s' := h.of_desc (mapSn_desc es heq)

theorem setMnAll_npdeps {ws : List Nat} {id : TaskId} {first : Bool} (h : NpDeps U s)
    (heq : setMnAll s id ws first = .ok s') :
    NpDeps U s' := h.of_desc (RT := Eq) (setMnAll_desc heq)

theorem mapMnSets_npdeps {sets : List (List Nat)} {rq : Nat} {acc acc' : List TaskId} (h : NpDeps U s)
    (heq : s.mapMnSets rq sets acc = .ok (s', acc')) :
    NpDeps U s' := h.of_desc (mapMnSets_desc sets heq)

theorem mapMn_npdeps {es : List MnEntry} {acc acc' : List TaskId} (h : NpDeps U s)
    (heq : s.mapMn es acc = .ok (s', acc')) :
    NpDeps U s' := h.of_desc (mapMn_desc heq)

theorem prefillBack_npdeps {rq : Nat} {l keep keep' : List TaskId} (h : NpDeps U s)
    (heq : State.prefillWorker.back rq s l keep = .ok (s', keep')) :
    NpDeps U s' := h.of_desc (RT := Eq) (prefillBack_desc heq)

theorem prefillMark_npdeps {w : Nat} {l : List TaskId} (h : NpDeps U s)
    (heq : State.prefillWorker.mark w s l = .ok s') :
    NpDeps U s' := h.of_desc (prefillMark_desc heq)

theorem prefillWorker_npdeps {m m' : List WUpdate} {rq size w : Nat} (h : NpDeps U s)
    (heq : s.prefillWorker m rq size w = .ok (s', m')) :
    NpDeps U s' := h.of_desc (prefillWorker_desc heq)

theorem prefillWorkers_npdeps {ws : List Nat} {m m' : List WUpdate} {rq size : Nat} (h : NpDeps U s)
    (heq : s.prefillWorkers m rq size ws = .ok (s', m')) :
    NpDeps U s' := h.of_desc (prefillWorkers_desc heq)

theorem proactive_npdeps {n : Nat} {m m' : List WUpdate} {orders : List (Nat × List Nat)} {top : Int} {rq : Nat}
    (h : NpDeps U s) (heq : s.proactive m orders top n rq = .ok (s', m')) :
    NpDeps U s' := h.of_desc (proactive_desc heq)

theorem schedule_npdeps {sol : Solution} {o : Out} (h : NpDeps U s) (heq : s.schedule sol = .ok (s', o)) :
    NpDeps U s' := h.of_desc (schedule_desc heq)

end

theorem npdeps_init : NpDeps [] {} := by
  refine ⟨?_, ?_, ?_, ?_, ?_⟩ <;> intro t ht <;> cases ht

theorem step_npdeps {U : List TaskId} {s s' : State} {op : Op} {out : Out} (hi : InvF s) (hq : QInv U none [] s)
    (hn : NpDeps U s) (hnp : OpNP s op) (hfresh : ∀ x ∈ op.newIds, x ∉ U) (hnd : op.newIds.Nodup)
    (h : step s op = .ok (s', out)) : NpDeps (U ++ op.newIds) s' := by
  by_cases hs : ∃ sol, op = .schedule sol
  · obtain ⟨sol, rfl⟩ := hs
    simpa [Op.newIds] using schedule_npdeps hn (by simpa [step] using h)
  · have hop : OpSide dSide U s op := by
      have hq := OpSide.q hi.inv hfresh hnd fun sol e => hs ⟨sol, e⟩
      cases op with
      | newTasks nts => exact ⟨hq.1, fun nt hnt => (hnp.2 nt hnt).2⟩
      | _ => exact hq
    exact (step_acts hop h).npdeps0 hq hn

end HqModel.Core.NPB
