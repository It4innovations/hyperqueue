import HqModel.Lemmas.AllocExact
/-!
The quantities the admission test reads off the concise state — `totalUnits`, `maxFrac`, with `fmax` of a fraction
map — and what bounds them (`le_maxAlloc_iff`, `le_maxFrac_iff`); then what `all` returns and the first round of
`scatter`.
-/
namespace HqModel.Alloc

def maxFrac (c : CState) : Nat := (c.map (fun g => fmax g.fracs)).foldl max 0

def totalUnits (c : CState) : Nat := (c.map (·.units)).sum

theorem maxAlloc_eq (c : CState) : c.maxAlloc = totalUnits c * FPU + maxFrac c := rfl

theorem le_maxAlloc_iff (amount U F : Nat) (hF : F < FPU) :
    amount ≤ U * FPU + F ↔ amount / FPU < U ∨ (amount / FPU = U ∧ amount % FPU ≤ F) := by
  unfold FPU at *
  omega

theorem fmax_mem (m : FMap) : fmax m = 0 ∨ ∃ kv ∈ m, kv.2 = fmax m := by
  induction m with
  | nil => exact .inl rfl
  | cons kv m ih =>
    obtain ⟨k, v⟩ := kv
    simp only [fmax]
    rcases Nat.le_total v (fmax m) with h | h
    · rw [Nat.max_eq_right h]
      rcases ih with h0 | ⟨kv', hm, he⟩
      · exact .inl h0
      · exact .inr ⟨kv', List.mem_cons_of_mem _ hm, he⟩
    · rw [Nat.max_eq_left h]
      exact .inr ⟨(k, v), by simp, rfl⟩

theorem fmax_of_forall {m : FMap} {P : Nat → Prop} (h0 : P 0) (h : ∀ kv ∈ m, P kv.2) : P (fmax m) := by
  rcases fmax_mem m with hz | ⟨kv, hkv, he⟩
  · rw [hz]; exact h0
  · rw [← he]; exact h kv hkv

theorem le_fmax_of_mem (m : FMap) (kv : Nat × Nat) (h : kv ∈ m) : kv.2 ≤ fmax m := by
  induction m with
  | nil => cases h
  | cons x m ih =>
    obtain ⟨k, v⟩ := x
    simp only [fmax]
    rcases List.mem_cons.mp h with rfl | h'
    · exact Nat.le_max_left _ _
    · exact Nat.le_trans (ih h') (Nat.le_max_right _ _)

theorem le_fmax_iff {m : FMap} {fr : Nat} (hfr : 0 < fr) : fr ≤ fmax m ↔ ∃ kv ∈ m, fr ≤ kv.2 := by
  constructor
  · intro h
    rcases fmax_mem m with hz | ⟨kv, hkv, he⟩
    · omega
    · exact ⟨kv, hkv, he ▸ h⟩
  · rintro ⟨kv, hkv, hle⟩
    exact Nat.le_trans hle (le_fmax_of_mem m kv hkv)

theorem le_maxFrac_iff_fmax (c : CState) {fr : Nat} (hfr : 0 < fr) :
    fr ≤ maxFrac c ↔ ∃ g ∈ c, fr ≤ fmax g.fracs := by
  unfold maxFrac
  constructor
  · intro h
    rcases foldl_max_mem (c.map (fun g => fmax g.fracs)) 0 with h0 | hm
    · omega
    · obtain ⟨g, hg, hge⟩ := List.mem_map.mp hm
      exact ⟨g, hg, hge ▸ h⟩
  · rintro ⟨g, hg, hle⟩
    exact Nat.le_trans hle (foldl_max_le_of_mem _ 0 _ (List.mem_map.mpr ⟨g, hg, rfl⟩))

theorem le_maxFrac_iff (c : CState) (fr : Nat) (hfr : 0 < fr) :
    fr ≤ maxFrac c ↔ ∃ g ∈ c, ∃ kv ∈ g.fracs, fr ≤ kv.2 := by
  rw [le_maxFrac_iff_fmax c hfr]
  exact exists_congr fun g => and_congr_right fun _ => le_fmax_iff hfr

theorem maxFrac_lt (c : CState) (h : ∀ g ∈ c, ∀ kv ∈ g.fracs, kv.2 < FPU) : maxFrac c < FPU := by
  unfold maxFrac
  rcases foldl_max_mem (c.map (fun g => fmax g.fracs)) 0 with h0 | hm
  · rw [h0]; exact FPU_pos
  · obtain ⟨g, hg, hge⟩ := List.mem_map.mp hm
    exact hge ▸ fmax_of_forall (P := (· < FPU)) FPU_pos (h g hg)

theorem claimAllAux_spec (gid : Nat) (gs : List Group) :
    (∀ g ∈ (claimAllAux gid gs).1, g.free = []) ∧
      ((claimAllAux gid gs).2.map (·.index)).Perm ((gs.map (·.free)).flatten) ∧
      (claimAllAux gid gs).2.length = ((gs.map (·.free.length)).sum) := by
  induction gs generalizing gid with
  | nil => simp [claimAllAux]
  | cons g rest ih =>
    obtain ⟨h1, h2, h3⟩ := ih (gid + 1)
    simp only [claimAllAux]
    refine ⟨?_, ?_, ?_⟩
    · intro g' hg'
      rcases List.mem_cons.mp hg' with rfl | h
      · rfl
      · exact h1 g' h
    · simp only [List.map_append, List.map_map, List.map_cons, List.flatten_cons]
      apply List.Perm.append
      · have : (List.map ((fun x => x.index) ∘ fun i => ({ index := i, group := gid, fractions := 0 } : AIdx))
            g.free.reverse) = g.free.reverse := by
          simp [Function.comp_def]
        rw [this]
        exact List.reverse_perm _
      · exact h2
    · simp [h3]

theorem scatterLoop_first_round {pick : Option Nat} {fuel units k : Nat} {gs gs' : List Group} {acc acc' : List AIdx}
    (h : scatterLoop none pick fuel gs units 0 k acc = .ok (gs', acc'))
    (hk : k + units ≤ gs.length)
    (hne : ∀ j g, k ≤ j → j < k + units → gs[j]? = some g → g.free ≠ []) :
    ∃ ws, acc' = acc ++ ws ∧ ws.map (·.group) = List.range' k units := by
  refine scatterLoop_induct (motive := fun gs units fr k acc => fr = 0 → k + units ≤ gs.length →
    (∀ j g, k ≤ j → j < k + units → gs[j]? = some g → g.free ≠ []) →
    ∃ ws, acc' = acc ++ ws ∧ ws.map (·.group) = List.range' k units)
    (fun _ _ _ _ => ⟨[], by simp, rfl⟩) ?_ ?_ ?_ ?_ h rfl hk hne
  · intro gs units fr k acc gidx g i rest hidx hg hu hfree ih hfr hk hne
    obtain rfl : k = gidx := Option.some.inj hidx
    simp only [setLen, List.length_set] at ih
    rcases Nat.eq_or_lt_of_le hu with rfl | h1
    · -- the last index wanted: the next iteration returns, wherever it is
      obtain ⟨ws, rfl, hws⟩ := ih hfr (Nat.le_of_lt (Nat.mod_lt _ (by omega)))
        (fun j g' hj hj' => absurd hj' (Nat.not_lt.mpr hj))
      exact ⟨⟨i, k, 0⟩ :: ws, by simp, by simpa using hws⟩
    · rw [Nat.mod_eq_of_lt (by omega)] at ih
      obtain ⟨ws, rfl, hws⟩ := ih hfr (by omega) (fun j g' hj hj' hg' =>
        hne j g' (by omega) (by omega) (by rwa [List.getElem?_set_ne (by omega)] at hg'))
      refine ⟨⟨i, k, 0⟩ :: ws, by simp, ?_⟩
      rw [List.map_cons, hws, show units = (units - 1) + 1 by omega, List.range'_succ, Nat.add_sub_cancel]
  · intro gs units fr k acc gidx g hidx hg hfree hu _ hfr hk hne
    obtain rfl : k = gidx := Option.some.inj hidx
    rcases Nat.eq_zero_or_pos units with h0 | h0
    · exact absurd hfr (Nat.ne_of_gt (hu h0).1)
    · exact absurd hfree (hne k g (Nat.le_refl _) (by omega) hg)
  · intro _ _ _ _ _ _ _ _ _ _ hpos _ _ _ _ hfr
    exact absurd hfr (Nat.ne_of_gt hpos)
  · intro _ _ _ _ _ _ _ _ _ _ hpos _ _ _ _ hfr
    exact absurd hfr (Nat.ne_of_gt hpos)

end HqModel.Alloc
