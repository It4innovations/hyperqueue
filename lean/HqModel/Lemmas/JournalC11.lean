import HqModel.Lemmas.JournalFactor
/-!
Fold lemmas for C11: the high-water marks collected by `load_event_file` dominate every id a creating record
mentions, for EVERY journal (no producibility needed); and the history of a server that is restarted from its
journal again and again never issues an id twice.
-/
namespace HqModel.Journal

def createdJobs (J : List Record) : List Nat := J.filterMap createsJob
def createdWorkers (J : List Record) : List Nat := J.filterMap createsWorker
def createdQueues (J : List Record) : List Nat := J.filterMap createsQueue
def startUids (J : List Record) : List String := J.filterMap startOf

/-- uid of the last `ServerStart` (`""` if there is none) -/
def lastUid (J : List Record) : String := (startUids J).getLast?.getD ""

theorem fold_mark {creates : Record → Option Nat} {mark : Restorer → Nat}
    (hstep : ∀ {r x r'}, restorerStep r x = .ok r' → mark r' = (creates x).elim (mark r) (max (mark r))) :
    ∀ {J : List Record} {r r' : Restorer}, restorerFoldFrom r J = .ok r' →
      mark r ≤ mark r' ∧ ∀ j ∈ J.filterMap creates, j ≤ mark r' := by
  intro J
  induction J with
  | nil =>
    intro r r' h
    cases h
    exact ⟨Nat.le_refl _, fun _ hj => by cases hj⟩
  | cons x xs ih =>
    intro r r' h
    obtain ⟨r1, h1, h2⟩ := restorerFoldFrom_cons_ok.1 h
    obtain ⟨b1, b2⟩ := ih h2
    have a := hstep h1
    cases hc : creates x with
    | none =>
      have a' : mark r1 = mark r := by rw [a, hc]; rfl
      rw [List.filterMap_cons_none hc]
      exact ⟨a' ▸ b1, b2⟩
    | some j0 =>
      have a' : mark r1 = max (mark r) j0 := by rw [a, hc]; rfl
      rw [List.filterMap_cons_some hc]
      refine ⟨by omega, fun j hj => ?_⟩
      rcases List.mem_cons.1 hj with rfl | hj
      · omega
      · exact b2 j hj

theorem fold_uid : ∀ {J : List Record} {r r' : Restorer}, restorerFoldFrom r J = .ok r' →
    r'.uid = (startUids J).getLast?.getD r.uid := by
  intro J
  induction J with
  | nil => intro r r' h; cases h; rfl
  | cons x xs ih =>
    intro r r' h
    obtain ⟨r1, h1, h2⟩ := restorerFoldFrom_cons_ok.1 h
    have a : r1.uid = (startOf x).getD r.uid := by rw [(restorerStep_ok h1).2.2]; rfl
    rw [ih h2, a]
    unfold startUids
    cases hs : startOf x with
    | none => rw [List.filterMap_cons_none hs]; rfl
    | some u => rw [List.filterMap_cons_some hs, List.getLast?_cons]; rfl

theorem restorerFold_marks {J : List Record} {R : Restorer} (h : restorerFold J = .ok R) :
    (∀ j ∈ createdJobs J, j ≤ R.maxJob) ∧ (∀ w ∈ createdWorkers J, w ≤ R.maxWorker) ∧
    (∀ q ∈ createdQueues J, q ≤ R.maxQueue) ∧ R.uid = lastUid J :=
  ⟨(fold_mark (mark := (·.maxJob)) (fun h => by rw [(restorerStep_ok h).2.2]; rfl) h).2,
   (fold_mark (mark := (·.maxWorker)) (fun h => by rw [(restorerStep_ok h).2.2]; rfl) h).2,
   (fold_mark (mark := (·.maxQueue)) (fun h => by rw [(restorerStep_ok h).2.2]; rfl) h).2,
   fold_uid h⟩

/-- what a running server does, as far as ids are concerned -/
inductive Act
  | submitNew (mf : Option Nat) (desc : TaskDesc)   -- `handle_submit` without a job id: `State::new_job_id`
  | openJob (mf : Option Nat)                        -- `handle_open_job`: `State::new_job_id`
  | connectWorker (alloc : Option Nat)               -- worker registration: `Core::new_worker_id`
  | createQueue                                      -- `create_queue` without a given id: `IdCounter::increment`
  | other (r : Record)                               -- any record that introduces no id (ignored if it does)

def createsNothing (r : Record) : Bool :=
  (createsJob r).isNone && (createsWorker r).isNone && (createsQueue r).isNone && (startOf r).isNone

/-- the records one server life writes after its `ServerStart`, issuing ids from its counters -/
def runEpoch : Counters → List Act → List Record
  | _, [] => []
  | c, .submitNew mf d :: as => .submit (issueJob c).1 true mf d :: runEpoch (issueJob c).2 as
  | c, .openJob mf :: as => .jobOpen (issueJob c).1 mf :: runEpoch (issueJob c).2 as
  | c, .connectWorker a :: as => .workerConnected (issueWorker c).1 a :: runEpoch (issueWorker c).2 as
  | c, .createQueue :: as => .queueCreated (issueQueue c).1 :: runEpoch (issueQueue c).2 as
  | c, .other r :: as => if createsNothing r then r :: runEpoch c as else runEpoch c as

/-- Journals written by a server that is (re)started any number of times from its own journal and may crash after
any record (`take n`); `gen` is the uid `generate_server_uid` would produce (never empty). No pruning in between. -/
inductive History : List Record → Prop
  | first (gen : String) (hgen : gen ≠ "") (acts : List Act) (n : Nat) :
      History ((Record.serverStart gen :: runEpoch freshCounters acts).take n)
  | restart {J : List Record} (h : History J) {R : Restorer} (hr : restorerFold J = .ok R)
      (gen : String) (hgen : gen ≠ "") (acts : List Act) (n : Nat) :
      History (J ++ (Record.serverStart (startUid R.uid gen) :: runEpoch (counters R) acts).take n)

/-- strictly increasing and all at least `k`: the ids a counter standing at `k` issues -/
def Above (k : Nat) (l : List Nat) : Prop := l.Pairwise (· < ·) ∧ ∀ j ∈ l, k ≤ j

theorem Above.nil (k : Nat) : Above k [] := ⟨.nil, fun _ h => by cases h⟩

theorem Above.cons {k : Nat} {l : List Nat} (h : Above (k + 1) l) : Above k (k :: l) :=
  ⟨List.pairwise_cons.2 ⟨fun j hj => h.2 j hj, h.1⟩, fun j hj => by
    rcases List.mem_cons.1 hj with rfl | hj
    · exact Nat.le_refl _
    · exact Nat.le_of_succ_le (h.2 j hj)⟩

theorem Above.mono {k k' : Nat} {l : List Nat} (hk : k ≤ k') (h : Above k' l) : Above k l :=
  ⟨h.1, fun j hj => Nat.le_trans hk (h.2 j hj)⟩

theorem runEpoch_ids (acts : List Act) : ∀ c : Counters,
    Above c.job (createdJobs (runEpoch c acts)) ∧ Above (c.worker + 1) (createdWorkers (runEpoch c acts)) ∧
    Above c.queue (createdQueues (runEpoch c acts)) ∧ startUids (runEpoch c acts) = [] := by
  induction acts with
  | nil => intro c; exact ⟨.nil _, .nil _, .nil _, rfl⟩
  | cons a as ih =>
    intro c
    cases a with
    | submitNew mf d => obtain ⟨h1, h2, h3, h4⟩ := ih (issueJob c).2; exact ⟨h1.cons, h2, h3, h4⟩
    | openJob mf => obtain ⟨h1, h2, h3, h4⟩ := ih (issueJob c).2; exact ⟨h1.cons, h2, h3, h4⟩
    | connectWorker al => obtain ⟨h1, h2, h3, h4⟩ := ih (issueWorker c).2; exact ⟨h1, h2.cons, h3, h4⟩
    | createQueue => obtain ⟨h1, h2, h3, h4⟩ := ih (issueQueue c).2; exact ⟨h1, h2, h3.cons, h4⟩
    | other r =>
      simp only [runEpoch]
      split
      · rename_i hn
        simp only [createsNothing, Bool.and_eq_true, Option.isNone_iff_eq_none] at hn
        obtain ⟨⟨⟨n1, n2⟩, n3⟩, n4⟩ := hn
        simp only [createdJobs, createdWorkers, createdQueues, startUids, List.filterMap_cons_none, n1, n2, n3, n4]
        exact ih c
      · exact ih c

theorem mem_take_filterMap {f : Record → Option α} {K : List Record} {n : Nat} {a : α}
    (h : a ∈ (K.take n).filterMap f) : a ∈ K.filterMap f :=
  ((List.take_sublist n K).filterMap f).subset h

theorem lt_of_mark_above {f : Record → Option Nat} {J K : List Record} {m : Nat} (n : Nat)
    (hm : ∀ a ∈ J.filterMap f, a ≤ m) (hK : Above (m + 1) (K.filterMap f)) :
    ∀ a ∈ J.filterMap f, ∀ b ∈ (K.take n).filterMap f, a < b :=
  fun a ha b hb => Nat.lt_of_le_of_lt (hm a ha) (hK.2 b (mem_take_filterMap hb))

theorem pairwise_append_take {f : Record → Option Nat} {J K : List Record} {m : Nat} (n : Nat)
    (hJ : (J.filterMap f).Pairwise (· < ·)) (hm : ∀ a ∈ J.filterMap f, a ≤ m) (hK : Above (m + 1) (K.filterMap f)) :
    ((J ++ K.take n).filterMap f).Pairwise (· < ·) := by
  rw [List.filterMap_append]
  exact List.pairwise_append.2 ⟨hJ, hK.1.sublist ((List.take_sublist n K).filterMap f), lt_of_mark_above n hm hK⟩

/-- the invariant of `History`: created ids strictly increase along the journal, all start uids are equal and non-empty -/
def NoReuse (J : List Record) : Prop :=
  (createdJobs J).Pairwise (· < ·) ∧ (createdWorkers J).Pairwise (· < ·) ∧ (createdQueues J).Pairwise (· < ·) ∧
  (∀ u ∈ startUids J, ∀ v ∈ startUids J, u = v) ∧ (∀ u ∈ startUids J, u ≠ "")

theorem NoReuse.of_uid {J : List Record} {g : String} (h1 : (createdJobs J).Pairwise (· < ·))
    (h2 : (createdWorkers J).Pairwise (· < ·)) (h3 : (createdQueues J).Pairwise (· < ·)) (hg : g ≠ "")
    (hu : ∀ u ∈ startUids J, u = g) : NoReuse J :=
  ⟨h1, h2, h3, fun u hu' v hv => (hu u hu').trans (hu v hv).symm, fun u hu' => hu u hu' ▸ hg⟩

theorem history_noReuse {J : List Record} (h : History J) : NoReuse J := by
  induction h with
  | first gen hgen acts n =>
    obtain ⟨h1, h2, h3, h4⟩ := runEpoch_ids acts freshCounters
    refine .of_uid (h1.1.sublist ((List.take_sublist n _).filterMap _)) (h2.1.sublist ((List.take_sublist n _).filterMap _))
      (h3.1.sublist ((List.take_sublist n _).filterMap _)) hgen fun u hu => ?_
    have hu : u ∈ gen :: startUids (runEpoch freshCounters acts) := mem_take_filterMap hu
    rw [h4] at hu
    exact List.mem_singleton.1 hu
  | @restart J _ R hr gen hgen acts n ih =>
    obtain ⟨i1, i2, i3, i4, i5⟩ := ih
    obtain ⟨m1, m2, m3, m4⟩ := restorerFold_marks hr
    obtain ⟨h1, h2, h3, h4⟩ := runEpoch_ids acts (counters R)
    -- the restored uid is the one every earlier `ServerStart` carries, if there is one
    have hg : startUid R.uid gen ≠ "" ∧ ∀ v ∈ startUids J, v = startUid R.uid gen := by
      rw [m4, lastUid]
      cases hl : (startUids J).getLast? with
      | none =>
        have he : startUids J = [] := List.getLast?_eq_none_iff.1 hl
        simp [startUid, he, hgen]
      | some l =>
        have hmem : l ∈ startUids J := List.mem_of_getLast? hl
        have hne : l ≠ "" := i5 l hmem
        simp only [Option.getD_some, startUid, hne, if_false]
        exact ⟨hne, fun v hv => i4 v hv l hmem⟩
    refine .of_uid (pairwise_append_take n i1 m1 h1) (pairwise_append_take n i2 m2 (h2.mono (Nat.le_succ _)))
      (pairwise_append_take n i3 m3 h3) hg.1 fun u hu => ?_
    rw [startUids, List.filterMap_append] at hu
    rcases List.mem_append.1 hu with hu | hu
    · exact hg.2 u hu
    · have hu : u ∈ startUid R.uid gen :: startUids (runEpoch (counters R) acts) := mem_take_filterMap hu
      rw [h4] at hu
      exact List.mem_singleton.1 hu

end HqModel.Journal
