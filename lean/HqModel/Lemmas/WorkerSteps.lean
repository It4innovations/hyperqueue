import HqModel.Lemmas.WorkerHandover
import HqModel.Lemmas.WorkerEvents
import HqModel.Lemmas.ListFacts
/-!
Step-level facts for C04: a successful launcher call leaves the task running with the handle the launcher saw
(`step_launch_recorded`, from the invariant `LR` of the message loop), and a launcher call never uses a handle owned
by a running task other than the one that just ended (`step_launch_handle`, from `KInv`).
-/
namespace HqModel.Worker

/-- every launcher call that succeeded so far left its task running with what the launcher was given -/
def LR (a : Acc) : Prop :=
  ∀ t i rv h, Out.launch t i rv h true ∈ a.ev →
    ∃ r ∈ a.s.running, r.task.id = t ∧ r.task.inst = i ∧ r.rv = rv ∧ r.h = h

theorem LR.mv {m m' : Mode} {a a' : Acc} (hm : Mv m a m' a') (hl : LR a) : LR a' := by
  intro t i rv' h' hmem
  cases hm with
  | push | alloc | reject | pop => exact hl t i rv' h' hmem
  | block => exact (insertBlocked_running ..).symm ▸ hl t i rv' h' hmem
  | fail | release =>
    rcases List.mem_append.mp hmem with hmem | hmem
    · exact hl t i rv' h' hmem
    · simp at hmem
  | start =>
    rcases List.mem_append.mp hmem with hmem | hmem
    · obtain ⟨r, hr, hh⟩ := hl t i rv' h' hmem
      exact ⟨r, List.mem_append_left _ hr, hh⟩
    · simp only [List.mem_singleton, Out.launch.injEq] at hmem
      obtain ⟨e1, e2, e3, e4, _⟩ := hmem
      exact ⟨_, List.mem_append_right _ (List.mem_singleton.mpr rfl), e1.symm, e2.symm, e3.symm, e4.symm⟩

theorem step_launch_recorded {s s' : State} {op : Op} {outs : List Out} {t i rv h : Nat}
    (hs : step s op = .ok (s', outs)) (hm : Out.launch t i rv h true ∈ outs) :
    ∃ r ∈ s'.running, r.task.id = t ∧ r.task.inst = i ∧ r.rv = rv ∧ r.h = h := by
  have hl0 : ∀ s upd, LR { s := s, upd := upd } := fun _ _ _ _ _ _ hm => by simp at hm
  rcases step_path hs with ⟨es, a, -, hp, rfl, rfl⟩ | ⟨t', res, en, r, a, bl', upd', -, -, hp, rfl, rfl⟩ | ⟨-, hno, -⟩
  · exact hp.preserves (I := fun _ => LR) LR.mv (hl0 _ _) t i rv h (mem_finish_launch hm)
  · exact hp.preserves (I := fun _ => LR) LR.mv (hl0 _ _) t i rv h
      (mem_finish_launch (a := { a with upd := upd' }) hm)
  · exact absurd rfl (hno _ hm t)

/-- handles of the tasks that were running before the step stay live, and no launcher call of the step used one -/
def KInv (H0 : List Nat) (a : Acc) : Prop :=
  (∀ x ∈ H0, x ∈ a.s.live) ∧ ∀ t i rv h ok, Out.launch t i rv h ok ∈ a.ev → h ∉ H0

/-- … and the allocation in flight is none of them -/
def KMode (H0 : List Nat) : Mode → Acc → Prop
  | .idle _, a => KInv H0 a
  | .hand _ _ _ h _ _, a => KInv H0 a ∧ h ∉ H0
  | .flight _ _ _ h, a => KInv H0 a ∧ h ∉ H0

theorem KMode.mv {H0 : List Nat} {m m' : Mode} {a a' : Acc} (hm : Mv m a m' a') (hk : KMode H0 m a) :
    KMode H0 m' a' := by
  have launch : ∀ {a : Acc} {x : Task} {rv h : Nat} {ok : Bool}, KInv H0 a → h ∉ H0 →
      ∀ t i rv' h' ok', Out.launch t i rv' h' ok' ∈ a.ev ++ [.launch x.id x.inst rv h ok] → h' ∉ H0 := by
    intro a x rv h ok hk hh t i rv' h' ok' hm
    rcases List.mem_append.mp hm with hm | hm
    · exact hk.2 t i rv' h' ok' hm
    · simp only [List.mem_singleton, Out.launch.injEq] at hm
      exact hm.2.2.2.1 ▸ hh
  cases hm with
  | push => exact hk
  | block => exact ⟨fun x hx => (insertBlocked_live ..).symm ▸ hk.1 x hx, hk.2⟩
  | alloc _ _ hlive =>
    exact ⟨⟨fun x hx => List.mem_cons_of_mem _ (hk.1 x hx), hk.2⟩, fun hin => hlive (hk.1 _ hin)⟩
  | reject | pop => exact hk
  | fail => exact ⟨⟨hk.1.1, launch hk.1 hk.2⟩, hk.2⟩
  | start => exact ⟨hk.1.1, launch hk.1 hk.2⟩
  | release =>
    refine ⟨fun x hx => (List.mem_erase_of_ne (by rintro rfl; exact hk.2 hx)).mpr (hk.1.1 x hx), ?_⟩
    intro t i rv' h' ok hm
    rcases List.mem_append.mp hm with hm | hm
    · exact hk.1.2 t i rv' h' ok hm
    · simp at hm

theorem step_launch_handle {s s' : State} {op : Op} {outs : List Out} {t i rv h : Nat} {ok : Bool}
    (hi : HInv s) (hs : step s op = .ok (s', outs)) (hm : Out.launch t i rv h ok ∈ outs) :
    ∀ r ∈ s.running, r.h = h → ∃ res en, op = .taskEnd r.task.id res en := by
  intro r0 hr0 hh
  rcases step_minor hs with ⟨es, rfl⟩ | ⟨t', res, en, rfl⟩ | ⟨-, hno, -⟩
  · exfalso
    obtain ⟨a, hp, rfl, rfl⟩ := compute_path hs
    have hk0 : KInv (handles s) ({ s := s } : Acc) :=
      ⟨fun x hx => (hi.1.mem_iff).mpr (by simpa using hx), by intro t i rv h ok hm; simp at hm⟩
    have hk : KInv (handles s) a := hp.preserves KMode.mv (m := .idle es) (m' := .idle []) hk0
    exact hk.2 t i rv h ok (mem_finish_launch hm) (hh ▸ List.mem_map.mpr ⟨r0, hr0, rfl⟩)
  · obtain ⟨r, hr, used, evs, more, hoff, rfl, _⟩ := taskEnd_spec hs
    have hmem : Out.launch t i rv h ok ∈ evs := (mem_batch.mp hm).elim id fun h => nomatch h.2
    have : r0 = r := List.nodup_map_inj (f := fun x : Running => x.h) hi.handles_nodup hr0
      (List.mem_of_find?_eq_some hr) (hh.trans (hoff.handle hmem))
    exact ⟨res, en, by rw [this, show r.task.id = t' by simpa using List.find?_some hr]⟩
  · exact absurd rfl (hno _ hm t)

end HqModel.Worker
