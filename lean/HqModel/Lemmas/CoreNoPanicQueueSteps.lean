import HqModel.Lemmas.CoreNoPanicQueuePrim
/-!
`NpQ` along the steps the acts of the reactor are made of, beyond the queue primitives (`CoreNoPanicQueuePrim`): a record
erased or appended, `removeTask`, a release of the worker side (`Release.npq`), a requeue (`requeue_npq`), a redirect
taken or dropped, a Prefilled record moved to the ready list. `PfSub` (prefill sets only shrink) and `PfD` (a Prefilled
task whose worker side was released is in no prefill set) are what a handler knows of the released tasks meanwhile.
-/
namespace HqModel.Core.NPC

open HqModel.Core.NP

theorem _root_.HqModel.Core.NpQ.krel {D R} {s s' : State} (h : NpQ D R s) (hk : FRel key s.tasks s'.tasks)
    (hq : s'.queues = s.queues) (hr : ∀ x ∈ s'.redirects, x ∈ s.redirects) : NpQ D R s' := by
  refine h.sub (fun _ q' hq' => ⟨q', hq ▸ hq', Shrunk.refl q'⟩) (fun x _ t ht => hk.find_some' ht)
    (fun r hr' _ => hr r hr') ?_
  intro x hx ⟨w, hw⟩ hR hD
  obtain ⟨y, hy, e1, k⟩ := hk.mem x hx
  obtain ⟨k1, k2, _⟩ := key_eq k
  exact ((h.pin y hy ⟨w, k1.trans hw⟩ (e1 ▸ hR) (e1 ▸ hD)).of_rec k2.symm e1.symm).of_queues hq

theorem setTask_npq_same {D : TaskId → Prop} {R : List TaskId} {s : State} {t' told : Task} (h : NpQ D R s)
    (hf : s.task? t'.id = some told) (hrq : t'.rq = told.rq) (hp : t'.prio = told.prio)
    (hst : t'.state = told.state) : NpQ D R (s.setTask t') :=
  h.krel (s' := s.setTask t')
    (FRel.put fun t0 h0 => by cases hf.symm.trans h0; rw [key, hst, hrq, hp]; rfl) rfl (fun _ hx => hx)

theorem erase_npq {D R} {s : State} {id : TaskId} (h : NpQ D R s) (hn : (taskIds s.tasks).Nodup)
    (hnq : NoQ s id) (hR : id ∉ R) : NpQ (fun x => D x ∧ x ≠ id) R { s with tasks := eraseTask s.tasks id } := by
  have htk : ∀ x, x ≠ id → ({ s with tasks := eraseTask s.tasks id } : State).task? x = s.task? x := by
    intro x hx
    show findTask (eraseTask s.tasks id) x = findTask s.tasks x
    rw [findTask_eraseTask hn, if_neg hx]
  refine h.sub (fun _ q' hq' => ⟨q', hq', Shrunk.refl q'⟩) ?_ (fun _ hr _ => hr) ?_
  · rintro x (hx | hx)
    · exact .of_eq (htk x (fun e => hR (e ▸ hx)))
    · exact .of_eq (htk x (fun e => hx (e ▸ hnq)))
  · intro x hx hpre hxR hxD
    exact h.pin x (mem_eraseTask hx) hpre hxR (fun hd => hxD ⟨hd, not_mem_eraseTask_id hn hx⟩)

theorem append_npq {D R} {s : State} {task : Task} (h : NpQ D R s) (hs : ∀ w, task.state ≠ .prefilled w) :
    NpQ D R { s with tasks := s.tasks ++ [task] } := by
  refine h.sub (fun _ q' hq' => ⟨q', hq', Shrunk.refl q'⟩) ?_ (fun _ hr _ => hr) ?_
  · intro x _ t hx
    refine ⟨t, ?_, rfl⟩
    show findTask (s.tasks ++ [task]) x = some t
    rw [findTask_append, show findTask s.tasks x = some t from hx]
  · intro x hx hpre hxR hxD
    rcases List.mem_append.mp hx with h1 | h1
    · exact h.pin x h1 hpre hxR hxD
    · obtain ⟨w, hw⟩ := hpre
      exact absurd hw (List.mem_singleton.mp h1 ▸ hs w)

/-- **`Core::remove_task`**. For a Prefilled record the caller has removed the id from the prefill set before
(`remove_prefilled`); for Waiting / Retracting records the function removes the id from the ready list itself; a
record in any other state is in no queue. -/
theorem removeTask_npq {D R} {s s' : State} {id : TaskId} {st : TS} (h : NpQ D R s) (hn : (taskIds s.tasks).Nodup)
    (hpf : ∀ t w, s.task? id = some t → t.state = .prefilled w →
      id ∉ R ∧ ∀ (i : Nat) (q : Queue), s.queues[i]? = some q → id ∉ pfIds q)
    (heq : s.removeTask id = .ok (s', st)) : NpQ (fun x => D x ∧ x ≠ id) R s' := by
  obtain ⟨task, ht, rfl, hc⟩ := removeTask_cases heq
  rcases hc with ⟨hnw, hnr, rfl⟩ | ⟨s1, hq1, hc⟩
  · have hnq : NoQ s id ∧ id ∉ R := by
      by_cases hpre : ∃ w, task.state = .prefilled w
      · obtain ⟨w, hw⟩ := hpre
        obtain ⟨a, b⟩ := hpf task w ht hw
        refine ⟨fun i q hq => ⟨h.not_ready ht ?_ hq, b i q hq⟩, a⟩
        rintro (e | ⟨⟨w', e⟩, _⟩ | ⟨_, e⟩)
        · exact hnw 0 e
        · exact hnr w' e
        · exact a e
      · have hnp : ∀ w, task.state ≠ .prefilled w := fun w e => hpre ⟨w, e⟩
        exact ⟨h.noQ ht (not_rstate (hnw 0) hnr hnp) hnp, h.not_R ht hnp⟩
    exact erase_npq h hn hnq.1 hnq.2
  · -- the id is removed from the ready list; the queue primitive does not read the task map
    have hnp : ∀ w, task.state ≠ .prefilled w := by
      rcases hc with ⟨e | ⟨w', e⟩, _⟩ | ⟨n, _, e, _⟩ <;> rw [e] <;> intro w e' <;> cases e'
    obtain ⟨hlt, rfl⟩ := queueRemove_ok_iff.mp hq1
    have hA : s.queueRemove task.rq id task.prio =
        .ok { s with queues := modifyQueue s.queues task.rq fun q => q.remove id task.prio } :=
      queueRemove_ok_iff.mpr ⟨hlt, rfl⟩
    have h1 : NpQ (fun x => D x ∧ x ≠ id) R _ :=
      (erase_npq (queueRemove_npq h hA) hn (queueRemove_noQ h ht hA) (h.not_R ht hnp)).mono
        (fun x hx => ⟨hx.1.resolve_right hx.2, hx.2⟩)
    rcases hc with ⟨_, rfl⟩ | ⟨n, ts, _, hc, rfl⟩
    · exact h1
    · exact h1.krel (removeConsumers_krel _ hc) rfl (fun _ hx => hx)

theorem stOf_of_krel {ts ts' : List Task} (h : FRel key ts ts') (x : TaskId) : stOf ts' x = stOf ts x := by
  have := h.find x
  unfold Core.stOf
  cases h1 : findTask ts' x <;> cases h2 : findTask ts x <;> rw [h1, h2] at this <;> simp_all [key]

theorem RdRetr.mono {s s' : State} (h : RdRetr s)
    (hst : ∀ x w0, stOf s.tasks x = some (.retracting w0) → (∃ w v, (x, w, v) ∈ s'.redirects) →
      ∃ w1, stOf s'.tasks x = some (.retracting w1))
    (hr : ∀ x ∈ s'.redirects, x ∈ s.redirects) : RdRetr s' := by
  intro t w v hm
  obtain ⟨w0, hw0⟩ := h t w v (hr _ hm)
  exact hst t w0 hw0 ⟨w, v, hm⟩

theorem RdRetr.frame {s s' : State} (h : RdRetr s) (ht : s'.tasks = s.tasks)
    (hr : ∀ x ∈ s'.redirects, x ∈ s.redirects) : RdRetr s' :=
  h.mono (fun x w0 hx _ => ⟨w0, by rw [ht]; exact hx⟩) hr

theorem RdRetr.none_of_state {s : State} (h : RdRetr s) {id : TaskId} {t : Task} (hf : s.task? id = some t)
    (hs : ∀ w, t.state ≠ .retracting w) : ∀ x ∈ s.redirects, x.1 ≠ id := by
  rintro ⟨a, b, c⟩ hx e
  simp only at e; subst e
  obtain ⟨w0, hw0⟩ := h a b c hx
  have : stOf s.tasks a = some t.state := stOf_of_find hf
  rw [this] at hw0
  simp only [Option.some.injEq] at hw0
  exact hs w0 hw0

theorem retract_one {D} {t : TaskId} {rest : List TaskId} {s : State} {task : Task} {w : Nat}
    (h : NpQ D (t :: rest) s) (hf : s.task? t = some task) (hnr : ∀ x ∈ s.redirects, x.1 ≠ t) :
    NpQ D rest (s.setTask { task with state := .retracting w }) := by
  obtain rfl : task.id = t := findTask_some_id hf
  have hnd := List.nodup_cons.mp h.rnd
  exact setTask_npqR (t' := { task with state := .retracting w }) h hf rfl rfl
    (fun _ hx => List.mem_cons_of_mem _ hx) (fun x hx hne => (List.mem_cons.mp hx).resolve_left hne) hnd.2
    (fun _ => Or.inr (Or.inl ⟨⟨w, rfl⟩, hnr⟩))
    (fun ⟨i, q, hq, hm⟩ => absurd hm (h.not_pf_of_R List.mem_cons_self hq))
    (fun hm => absurd hm hnd.1) (fun ⟨_, e⟩ => by cases e) (fun _ _ hd => hd)

theorem tryRemoveRedirection_redirects {s s' : State} {t : TaskId} {rq : Nat}
    (heq : s.tryRemoveRedirection t rq = .ok s') : s'.redirects = s.redirects.filter (·.1 ≠ t) := by
  rcases tryRemoveRedirection_cases heq with ⟨hn, rfl⟩ | ⟨w, rv, r, _, _, h1⟩
  · exact (List.filter_eq_self.mpr fun x hx => by simpa using List.find?_eq_none.mp hn x hx).symm
  · obtain ⟨_, _, _, _, rfl⟩ := withWorker_spec h1
    rfl

theorem tryRemoveRedirection_npq {D R} {s s' : State} {t : TaskId} {rq : Nat} (h : NpQ D R s)
    (heq : s.tryRemoveRedirection t rq = .ok s') : NpQ D R s' :=
  h.frame (congrArg State.tasks (tryRemoveRedirection_eq heq) :) (congrArg State.queues (tryRemoveRedirection_eq heq) :)
    (by rw [tryRemoveRedirection_redirects heq]; exact fun _ hx => (List.mem_filter.mp hx).1)

theorem tryRemoveRedirection_rdRetr {s s' : State} {t : TaskId} {rq : Nat} (h : RdRetr s)
    (heq : s.tryRemoveRedirection t rq = .ok s') : RdRetr s' :=
  h.frame (tryRemoveRedirection_tasks heq)
    (by rw [tryRemoveRedirection_redirects heq]; exact fun _ hx => (List.mem_filter.mp hx).1)

theorem resetMnAll_redirects {ws : List Nat} {s s' : State} (h : resetMnAll s ws = .ok s') :
    s'.redirects = s.redirects :=
  (congrArg State.redirects (resetMnAll_eq ws h) :)

theorem resetMnAll_rdRetr {ws : List Nat} {s s' : State} (h : RdRetr s) (heq : resetMnAll s ws = .ok s') :
    RdRetr s' := by
  rw [resetMnAll_eq ws heq]
  exact h.frame rfl (fun _ hx => hx)

/-- every prefill set of `s'` is a subset of the prefill set of the same queue of `s` -/
def PfSub (s s' : State) : Prop :=
  ∀ (j : Nat) (q' : Queue), s'.queues[j]? = some q' → ∃ q, s.queues[j]? = some q ∧ ∀ x ∈ pfIds q', x ∈ pfIds q

theorem PfSub.refl (s : State) : PfSub s s := fun _ q' hq' => ⟨q', hq', fun _ hx => hx⟩

theorem PfSub.of_eq {s s' : State} (h : s'.queues = s.queues) : PfSub s s' := by
  intro j q' hq'; rw [h] at hq'; exact ⟨q', hq', fun _ hx => hx⟩

theorem PfSub.trans {a b c : State} (h1 : PfSub a b) (h2 : PfSub b c) : PfSub a c := by
  intro j q' hq'
  obtain ⟨q1, hq1, s1⟩ := h2 j q' hq'
  obtain ⟨q0, hq0, s0⟩ := h1 j q1 hq1
  exact ⟨q0, hq0, fun x hx => s0 x (s1 x hx)⟩

theorem PfSub.not_mem {s s' : State} (h : PfSub s s') {x : TaskId}
    (hx : ∀ (i : Nat) (q : Queue), s.queues[i]? = some q → x ∉ pfIds q) :
    ∀ (i : Nat) (q : Queue), s'.queues[i]? = some q → x ∉ pfIds q := by
  intro i q' hq' hm
  obtain ⟨q, hq, hs⟩ := h i q' hq'
  exact hx i q hq (hs x hm)

theorem PfSub.set {s : State} {i : Nat} {q q' : Queue} (hq : s.queues[i]? = some q)
    (hs : ∀ x ∈ pfIds q', x ∈ pfIds q) : PfSub s { s with queues := s.queues.set i q' } := by
  intro j qq hj
  rcases getElem?_set_cases hq hj with ⟨rfl, rfl⟩ | ⟨_, hj⟩
  · exact ⟨q, hq, hs⟩
  · exact ⟨qq, hj, fun _ hx => hx⟩

theorem queueRemove_pfsub {s s' : State} {rq : Nat} {id : TaskId} {p : Int} (heq : s.queueRemove rq id p = .ok s') :
    PfSub s s' := by
  obtain ⟨hlt, rfl⟩ := queueRemove_ok_iff.mp heq
  have hq : s.queues[rq]? = some s.queues[rq] := List.getElem?_eq_getElem hlt
  rw [modifyQueue_of_get hq]
  exact PfSub.set hq fun _ => (shrunk_remove _ id p).pfIds

theorem removePrefilled_pfsub {s s' : State} {rq : Nat} {id : TaskId} (heq : s.removePrefilled rq id = .ok s') :
    PfSub s s' := by
  obtain ⟨q, pp, ts, hq, hp, _, rfl⟩ := removePrefilled_ok_iff.mp heq
  exact PfSub.set hq fun _ => (shrunk_erase hp id).pfIds

theorem removeTask_pfsub {s s' : State} {id : TaskId} {st : TS} (heq : s.removeTask id = .ok (s', st)) :
    PfSub s s' :=
  removeTask_ind heq (PfSub.refl _) (fun f hq => f.trans (queueRemove_pfsub hq)) fun f _ => f

theorem isPrefilled_iff_stOf {s : State} {x : TaskId} : IsPrefilled s x ↔ ∃ w, stOf s.tasks x = some (.prefilled w) := by
  rw [isPrefilled_iff]
  constructor
  · rintro ⟨t, w, a, b⟩
    exact ⟨w, by rw [stOf_of_find a, b]⟩
  · rintro ⟨w, hw⟩
    obtain ⟨t, a, b⟩ := stOf_some hw
    exact ⟨t, w, a, b⟩

/-- a Prefilled task of `u` is not in `R` and in no prefill set -/
def PfD (R : List TaskId) (s : State) (u : List TaskId) : Prop :=
  ∀ x ∈ u, IsPrefilled s x → x ∉ R ∧ ∀ (i : Nat) (q : Queue), s.queues[i]? = some q → x ∉ pfIds q

theorem PfD.sub {R} {s s' : State} {u : List TaskId} (h : PfD R s u) (hp : ∀ x, IsPrefilled s' x → IsPrefilled s x)
    (hs : PfSub s s') : PfD R s' u := by
  intro x hx hpre
  obtain ⟨a, b⟩ := h x hx (hp x hpre)
  exact ⟨a, hs.not_mem b⟩

theorem _root_.HqModel.Core.Release.redirects_sub {s s1 : State} {id : TaskId} {task : Task}
    (hr : Release s id task s1) : ∀ x ∈ s1.redirects, x ∈ s.redirects := by
  cases hr with
  | keep => exact fun _ hx => hx
  | sn _ _ h => obtain ⟨_, _, _, _, rfl⟩ := withWorker_spec h; exact fun _ hx => hx
  | pre _ h1 h2 =>
    obtain ⟨_, _, _, _, _, _, rfl⟩ := removePrefilled_ok_iff.mp h1
    obtain ⟨_, _, _, _, rfl⟩ := withWorker_spec h2
    exact fun _ hx => hx
  | retr _ h => rw [tryRemoveRedirection_redirects h]; exact fun _ hx => (List.mem_filter.mp hx).1
  | mn _ h => rw [resetMnAll_redirects h]; exact fun _ hx => hx

/-- **the invariant along a release**: the queues change only for a Prefilled task, which leaves its prefill set and
is then stored nowhere; until its record is dealt with it is exempt from the state → queue clause -/
theorem _root_.HqModel.Core.Release.npq {D R} {s s1 : State} {id : TaskId} {task : Task}
    (hr : Release s id task s1) (h : NpQ D R s) :
    NpQ (fun x => D x ∨ (x = id ∧ ∃ w, task.state = .prefilled w)) R s1 ∧ PfSub s s1 ∧
      ∀ w, task.state = .prefilled w → id ∉ R ∧ NoQ s1 id := by
  have hsub := hr.redirects_sub
  have frame : s1.queues = s.queues → (∀ w, task.state ≠ .prefilled w) →
      NpQ (fun x => D x ∨ (x = id ∧ ∃ w, task.state = .prefilled w)) R s1 ∧ PfSub s s1 ∧
        ∀ w, task.state = .prefilled w → id ∉ R ∧ NoQ s1 id :=
    fun hq hnp => ⟨(h.frame hr.tasks hq hsub).mono (fun _ => Or.inl), PfSub.of_eq hq, fun w e => absurd e (hnp w)⟩
  cases hr with
  | keep hs => exact frame rfl (by rcases hs with ⟨n, e⟩ | e | ⟨⟨ws, e⟩, _⟩ <;> rw [e] <;> exact nofun)
  | sn hs _ hw =>
    obtain ⟨_, _, _, _, rfl⟩ := withWorker_spec hw
    exact frame rfl (by rcases hs with e | e <;> rw [e] <;> exact nofun)
  | retr hs ht => exact frame (congrArg State.queues (tryRemoveRedirection_eq ht) :) (by rw [hs]; exact nofun)
  | mn hs hm => exact frame (congrArg State.queues (resetMnAll_eq _ hm) :) (by rw [hs]; exact nofun)
  | pre hs h1 h2 =>
    obtain ⟨_, _, _, _, rfl⟩ := withWorker_spec h2
    obtain ⟨a, b⟩ := removePrefilled_npq h h1
    refine ⟨(setWorker_npq _ a).mono (fun x hx => hx.imp (fun hd => hd) (fun e => ⟨e, _, hs⟩)),
      (removePrefilled_pfsub h1).trans (PfSub.of_eq rfl), fun _ _ => ⟨?_, b⟩⟩
    obtain ⟨q, pp, ts, hq, hp, hm, _⟩ := removePrefilled_ok_iff.mp h1
    obtain ⟨_, _, _, _, _, _, _, _, _, hn, _⟩ := h.task_of_pf hq (mem_pfIds.mpr ⟨pp, ts, hp, hm⟩)
    exact hn

/-- **requeue**: the record of an id that is in no prefill set and not in the accumulator becomes `Waiting 0` and the
id enters the ready list of its queue; the prefill sets of lower priority are disposed into the accumulator -/
theorem requeue_npq {D D' : TaskId → Prop} {R} {s s2 : State} {t' told : Task} {r : List TaskId} (h : NpQ D R s)
    (hf : s.task? t'.id = some told) (hrq : t'.rq = told.rq) (hp : t'.prio = told.prio) (hs : t'.state = .waiting 0)
    (hnpf : ∀ (i : Nat) (q : Queue), s.queues[i]? = some q → t'.id ∉ pfIds q) (hR : t'.id ∉ R)
    (hD : ∀ x, x ≠ t'.id → D x → D' x) (hq : Requeued s t' s2 r) : NpQ D' (R ++ r) s2 :=
  addReady_npq
    (setTask_npq h hf hrq hp (fun _ => Or.inl hs) (fun ⟨i, q, hq', hm⟩ => absurd hm (hnpf i q hq'))
      (fun hr => absurd hr hR) (fun ⟨w, e⟩ => by rw [hs] at e; cases e) hD)
    (task?_setTask_self hf) rfl rfl (Or.inl hs) hq

theorem requeue_npq' {D R} {s s2 : State} {t' told : Task} {r : List TaskId} (h : NpQ D R s)
    (hf : s.task? t'.id = some told) (hrq : t'.rq = told.rq) (hp : t'.prio = told.prio) (hs : t'.state = .waiting 0)
    (hnp : ∀ w, told.state ≠ .prefilled w) (hq : Requeued s t' s2 r) : NpQ D (R ++ r) s2 :=
  requeue_npq h hf hrq hp hs (fun _ _ hq' => h.not_pf hf hnp hq') (h.not_R hf hnp) (fun _ _ hd => hd) hq

theorem getElem?_newRq {s : State} (rqv : Rqv) {j : Nat} {q' : Queue} (hq' : (s.newRq rqv).queues[j]? = some q') :
    s.queues[j]? = some q' ∨ q' = {} := by
  simp only [State.newRq] at hq'
  rw [List.getElem?_append] at hq'
  split at hq'
  · exact Or.inl hq'
  · right
    cases hx : j - s.queues.length with
    | zero => rw [hx] at hq'; simp at hq'; exact hq'.symm
    | succ n => rw [hx] at hq'; simp at hq'

theorem newRq_npq {D R} {s : State} (rqv : Rqv) (h : NpQ D R s) : NpQ D R (s.newRq rqv) := by
  have htk : ∀ x, (s.newRq rqv).task? x = s.task? x := fun _ => rfl
  refine npq_iff.mpr ⟨?_, ?_, h.rnd, ?_⟩
  · intro j q' hq'
    rcases getElem?_newRq rqv hq' with hq | rfl
    · have hok := h.qok hq
      refine ⟨hok.wf, ?_, hok.pnd, ?_⟩
      · exact fun x hx => (hok.rg x hx).of_eq (htk _) (fun _ hr _ => hr)
      · exact fun pp ts hp id hid => (hok.pg pp ts hp id hid).of_eq (htk _)
    · refine ⟨ReadyWf.nil, ?_, ?_, ?_⟩
      · intro x hx; cases hx
      · simp [pfIds]
      · intro pp ts hp; cases hp
  · intro t htm hpre hR hD
    have := h.pin t htm hpre hR hD
    rw [inPrefill_iff] at this ⊢
    obtain ⟨q, hq, hm⟩ := this
    refine ⟨q, ?_, hm⟩
    simp only [State.newRq]
    rw [List.getElem?_append_left]
    · exact hq
    · rcases Nat.lt_or_ge t.rq s.queues.length with hl | hl
      · exact hl
      · rw [List.getElem?_eq_none hl] at hq; cases hq
  · exact fun id hid => (h.rpre id hid).of_key (.of_eq (htk _))

/-- `remove_task` makes no task Prefilled (`TCalm` has no move into that state) -/
theorem removeTask_isPrefilled {s s' : State} {id : TaskId} {st : TS} (hn : (taskIds s.tasks).Nodup)
    (heq : s.removeTask id = .ok (s', st)) (x : TaskId) (hp : IsPrefilled s' x) : IsPrefilled s x := by
  obtain ⟨t', w, ht', hs⟩ := isPrefilled_iff.mp hp
  obtain ⟨t, ht, hr⟩ := (removeTask_desc (RW := Eq) heq).fr.t t' (findTask_some_mem ht')
  have key : t.state = .prefilled w ∧ t.id = t'.id := by
    clear ht'
    induction hr with
    | refl => exact ⟨hs, rfl⟩
    | tail _ m ih =>
      have := m.id
      cases m with
      | retract => cases hs
      | unconsume => exact ⟨(ih hs).1, (ih hs).2.trans this.symm⟩
      | wake => cases hs
  have hf := mem_find_of_nodup hn ht
  rw [key.2, findTask_some_id ht'] at hf
  exact isPrefilled_iff.mpr ⟨t, w, hf, key.1⟩

theorem remove_then_set {D R} {s sA : State} {task t' : Task} (h : NpQ D R s) (hf : s.task? task.id = some task)
    (hid : t'.id = task.id) (hrq : t'.rq = task.rq) (hp : t'.prio = task.prio) (hnew : ∀ w, t'.state ≠ .prefilled w)
    (hR : task.id ∉ R) (hA : s.queueRemove task.rq task.id task.prio = .ok sA) : NpQ D R (sA.setTask t') := by
  have b := queueRemove_noQ h hf hA
  have hfA : sA.task? t'.id = some task := by
    rw [hid, task?_congr (queueRemove_tasks hA)]; exact hf
  exact setTask_npq (queueRemove_npq h hA) hfA hrq hp (fun ⟨i, q, hq, hm⟩ => absurd hm (hid ▸ (b i q hq).1))
    (fun ⟨i, q, hq, hm⟩ => absurd hm (hid ▸ (b i q hq).2)) (fun hr => absurd (hid ▸ hr) hR)
    (fun ⟨w, hw⟩ => absurd hw (hnew w)) (fun x hx hd => hd.resolve_right (fun e => hx (e.trans hid.symm)))

theorem resolve_redirect_npq {D R} {s : State} {told t' : Task} (h : NpQ D R s)
    (hf : s.task? t'.id = some told) (hrq : t'.rq = told.rq) (hp : t'.prio = told.prio)
    (hs : ∃ w, told.state = .retracting w) (hx : ∃ x ∈ s.redirects, x.1 = t'.id)
    (hnew : ∀ w, t'.state ≠ .prefilled w) :
    NpQ D R (({ s with redirects := s.redirects.filter (·.1 ≠ t'.id) } : State).setTask t') := by
  obtain ⟨w0, hw0⟩ := hs
  obtain ⟨x, hxm, hxe⟩ := hx
  have hnp : ∀ w, told.state ≠ .prefilled w := by rw [hw0]; intro w e; cases e
  have a := setTask_npq_unq h hf hrq hp
    (by
      rintro (e | ⟨_, e⟩ | ⟨⟨w, e⟩, _⟩)
      · rw [hw0] at e; cases e
      · exact e x hxm hxe
      · exact hnp w e) hnp hnew
  exact a.frame rfl rfl (fun y hy => (List.mem_filter.mp hy).1)

theorem retracted_to_waiting_npq {D R} {s : State} {told t' : Task} (h : NpQ D R s)
    (hf : s.task? t'.id = some told) (hrq : t'.rq = told.rq) (hp : t'.prio = told.prio)
    (hs : ∃ w, told.state = .retracting w) (hnew : t'.state = .waiting 0) : NpQ D R (s.setTask t') := by
  obtain ⟨w0, hw0⟩ := hs
  have hnp : ∀ w, told.state ≠ .prefilled w := by rw [hw0]; intro w e; cases e
  refine setTask_npq h hf hrq hp (fun _ => Or.inl hnew)
    (fun ⟨i, q, hq', hm⟩ => absurd hm (h.not_pf hf hnp hq')) ?_ (fun ⟨w, e⟩ => by rw [hnew] at e; cases e)
    (fun _ _ hdx => hdx)
  intro hr
  obtain ⟨t, w, a, b⟩ := isPrefilled_iff.mp (h.rpre _ hr)
  rw [hf] at a; cases a
  exact absurd b (hnp w)

theorem updNP_fin_not_retracting {s : State} {w : Nat} {t : TaskId} (h : UpdNP s w (.finished t)) {task : Task}
    (ht : s.task? t = some task) (w0 : Nat) : task.state ≠ .retracting w0 := by
  intro e
  have h2 := h.2
  simp only [ht, e] at h2

/-- **`move_prefilled_task_to_ready`** on its own: the record is still Prefilled, so the id joins the accumulator
(exactly like an id disposed by `add_ready_task`) -/
theorem movePrefilledToReady_npq {D R} {s s' : State} {rq : Nat} {id : TaskId} (h : NpQ D R s)
    (heq : s.movePrefilledToReady rq id = .ok s') : NpQ D (R ++ [id]) s' := by
  obtain ⟨q, pp, ts, hq, hpf, hm, rfl⟩ := movePrefilledToReady_ok_iff.mp heq
  have hok := h.qok hq
  have hpq : pfIds q = ts := by simp only [pfIds, hpf]
  have hnd : ts.Nodup := hpq ▸ hok.pnd
  have hpfq : id ∈ pfIds q := hpq ▸ hm
  obtain ⟨tk, w0, hf, hrq, hprio, hnR, hst⟩ := pfGood_iff.mp (hok.pg pp ts hpf id hm)
  have hget := getElem?_set_of_get hq
    { ready := readyAdd q.ready id pp, prefill := if (ts.erase id).isEmpty then none else some (pp, ts.erase id) }
  have hrg : ∀ {i : Nat} {p : Int} {x : TaskId}, ReadyGood R s i p x → ReadyGood (R ++ [id]) _ i p x :=
    fun hx => hx.of_key (.of_eq rfl) (fun _ hy _ => hy) (List.mem_append_left _)
  have hpg : ∀ {i : Nat} {p : Int} {x : TaskId}, PfGood R s i p x → x ≠ id → PfGood (R ++ [id]) _ i p x :=
    fun hx hne => hx.of_key (.of_eq rfl)
      (fun hin => (List.mem_append.mp hin).resolve_right (fun e => hne (List.mem_singleton.mp e)))
  refine npq_iff.mpr ⟨?_, ?_, ?_, ?_⟩
  · intro j q' hq'
    rw [show _ = _ from hget j] at hq'
    split at hq'
    · rename_i e
      subst e
      cases hq'
      refine ⟨readyAdd_wf hok.wf, ?_, by rw [pfIds_ite]; exact hnd.erase _, ?_⟩
      · intro x hx
        rcases mem_rPairs_readyAdd.mp hx with rfl | hx1
        · exact readyGood_iff.mpr ⟨tk, hf, hrq, hprio,
            Or.inr (Or.inr ⟨⟨w0, hst⟩, List.mem_append_right _ (List.mem_singleton.mpr rfl)⟩)⟩
        · exact hrg (hok.rg _ hx1)
      · intro pp' ts' e x hx
        obtain ⟨rfl, rfl⟩ := prefill_ite_some e
        exact hpg (hok.pg _ ts hpf x (List.mem_of_mem_erase hx)) (hnd.mem_erase_iff.mp hx).1
    · rename_i hne
      have hok' := h.qok hq'
      refine ⟨hok'.wf, fun x hx => hrg (hok'.rg x hx), hok'.pnd, fun pp' ts' e x hx => hpg (hok'.pg pp' ts' e x hx) ?_⟩
      rintro rfl
      exact hne (h.pf_unique hq' hq (mem_pfIds.mpr ⟨pp', ts', e, hx⟩) hpfq)
  · intro x hx hpre hxR hxD
    have hne : x.id ≠ id := fun e => hxR (List.mem_append_right _ (List.mem_singleton.mpr e))
    exact inPrefill_set hq (h.pin x hx hpre (fun e => hxR (List.mem_append_left _ e)) hxD)
      (fun _ hm => by rw [pfIds_ite]; exact (List.mem_erase_of_ne hne).mpr (hpq ▸ hm))
  · rw [List.nodup_append]
    refine ⟨h.rnd, by simp, fun a ha b hb e => hnR ?_⟩
    rw [← List.mem_singleton.mp hb, ← e]; exact ha
  · intro x hx
    rcases List.mem_append.mp hx with h1 | h1
    · exact (h.rpre x h1).of_key (.of_eq rfl)
    · rw [List.mem_singleton.mp h1]
      exact isPrefilled_iff.mpr ⟨tk, w0, hf, hst⟩

/-- one iteration of the loop over the lost worker's prefilled tasks: the record becomes `Waiting 0`, the id moves
from the prefill set into the ready list of its queue. The queue step alone puts the id into the accumulator
(`movePrefilledToReady_npq`); the new record takes it out again. -/
theorem lostPrefilled_step {D R} {s s2 : State} {task t' : Task} (h : NpQ D R s)
    (hf : s.task? task.id = some task) (hid : t'.id = task.id) (hrq : t'.rq = task.rq) (hp : t'.prio = task.prio)
    (hs : t'.state = .waiting 0) (heq : (s.setTask t').movePrefilledToReady task.rq task.id = .ok s2) :
    NpQ D R s2 ∧ ∃ w, task.state = .prefilled w := by
  obtain ⟨q, pp, ts, hq, hpf, hm, rfl⟩ := movePrefilledToReady_ok_iff.mp heq
  have a := movePrefilledToReady_npq h (movePrefilledToReady_ok_iff.mpr ⟨q, pp, ts, hq, hpf, hm, rfl⟩)
  obtain ⟨tk, w0, _, _, _, _, hf', _, _, hnR, hst⟩ := h.task_of_pf hq (mem_pfIds.mpr ⟨pp, ts, hpf, hm⟩)
  rw [hf] at hf'; cases hf'
  have hin : t'.id ∈ R ++ [task.id] := hid ▸ List.mem_append_right _ (List.mem_singleton.mpr rfl)
  refine ⟨?_, w0, hst⟩
  exact setTask_npqR (t' := t') a (hid ▸ hf) hrq hp (fun _ hx => List.mem_append_left _ hx)
    (fun x hx hne => (List.mem_append.mp hx).resolve_right (fun e => hne ((List.mem_singleton.mp e).trans hid.symm)))
    h.rnd (fun _ => Or.inl hs) (fun ⟨i, q', hq', hm'⟩ => absurd hm' (a.not_pf_of_R hin hq'))
    (fun hr => absurd (hid ▸ hr) hnR) (fun ⟨w, e⟩ => by rw [hs] at e; cases e) (fun _ _ hd => hd)

end HqModel.Core.NPC
