import HqModel.Lemmas.SysWStepActions
import HqModel.Lemmas.SysWStepBatch
/-!
`WInv2` is inductive over `SysW.step` (`step_inv`), no world action stops in the job layer (`step_no_job`), and every
`TaskUpdate` batch a worker model sent satisfies the worker-protocol side conditions of `Sys` and of the core's progress
theorem when it is delivered (`deliver_upd`). Then runs: ONE induction (`run_all`) gives the invariant in every reachable
state and no stop in the job layer; `run_sys_run` projects a run to a run of `Sys` whose actions satisfy ALL side
conditions of `Sys`, the worker-protocol ones included.
-/
namespace HqModel.SysW
open HqModel HqModel.Core HqModel.SysW.NPP

/-- `batch_step` for the batch at the head of the queue of worker `w` in a state satisfying the invariant -/
theorem batch_at {s : State} {w : Nat} {x : WState} {us : List Core.Update} {rest : List W2S} (hi : WInv2 s)
    (hf : findW s.workers w = some x) (hq : x.w2s = .updates us :: rest) (rets : List (List TaskId)) :
    (Core.UpdatesOk Sys.UpdOk s.sys.core w us rets ∧ Core.UpdatesOk Core.UpdNPw s.sys.core w us rets) ∧
    ∀ out0 need0 c' out need' rets', s.sys.core.updateLoop w us rets out0 need0 = .ok (c', out, need', rets') →
      ∃ msgs, out.msgs = out0.msgs ++ msgs ∧ (∀ t ∈ taskIds c'.tasks, t ∈ s.submitted) ∧
        ∀ y ∈ s.workers.map (st1 w rest msgs), Rec2 c' s.submitted y := by
  obtain ⟨hx, hxid⟩ := findW_some hf
  refine batch_step w rest s.submitted us s.sys.core s.workers rets hi.winv.coupled.inv hi.winv.sub
    (fun y hy => hi.rec2 hy) ?_ ⟨x, hx, hxid⟩
  intro y hy hyw
  rw [eq_of_id hi.winv.nodup hx hy (hyw.trans hxid.symm)]
  exact hq

/-- **the side conditions `Sys.UpdOk` and `Core.UpdNPw` of the delivered batch, from the invariant** -/
theorem deliver_upd {s : State} {w : Nat} {x : WState} {us : List Core.Update} {rest : List W2S}
    (hi : WInv2 s) (hf : findW s.workers w = some x) (hq : x.w2s = .updates us :: rest) (rets : List (List TaskId)) :
    Core.UpdatesOk Sys.UpdOk s.sys.core w us rets ∧ Core.UpdatesOk Core.UpdNPw s.sys.core w us rets :=
  (batch_at hi hf hq rets).1

theorem updates_recs {s : State} {w : Nat} {x : WState} {us : List Core.Update} {rest : List W2S}
    {rets : List (List TaskId)} (hi : WInv2 s) (hf : findW s.workers w = some x) (hq : x.w2s = .updates us :: rest)
    {sys' : Sys.State} {so : Sys.Out} (hs : Sys.step s.sys (.update w us rets) = .ok (sys', so)) :
    (∀ t ∈ taskIds sys'.core.tasks, t ∈ s.submitted ++ newIds (.update w us rets) so) ∧
    ∀ y ∈ setW s.workers { x with w2s := rest },
      Rec2 sys'.core (s.submitted ++ newIds (.update w us rets) so) (route1 y so.core.msgs) := by
  have hU : s.submitted ++ newIds (.update w us rets) so = s.submitted := by simp [newIds]
  rw [hU]
  obtain ⟨hx, hxid⟩ := findW_some hf
  have hcs : Core.step s.sys.core (.update w us rets) = .ok (sys'.core, so.core) :=
    Sys.coreStep_core (by simpa only [Sys.step] using hs)
  simp only [Core.step, State.taskUpdate] at hcs
  split at hcs
  · cases hcs
  · rename_i s1 out need rets' hl
    simp only [Except.ok.injEq, Prod.mk.injEq] at hcs
    obtain ⟨ec, eo⟩ := hcs
    obtain ⟨msgs, e1, e2, e3⟩ := (batch_at hi hf hq rets).2 _ _ _ _ _ _ hl
    have em : so.core.msgs = msgs := by rw [← eo, e1]; rfl
    -- the final `ask` changes neither task nor worker records
    have hv : ∀ w t, view sys'.core w t = view s1 w t := by
      intro w t
      rw [← ec]
      split
      · exact view_ask _ _ _
      · rfl
    have ht : sys'.core.tasks = s1.tasks := by rw [← ec]; split <;> rfl
    have hwk : sys'.core.workers = s1.workers := by rw [← ec]; split <;> rfl
    refine ⟨fun t h => e2 t (by rw [← ht]; exact h), fun y hy => ?_⟩
    rw [em]
    have key : ∃ y0 ∈ s.workers, route1 y msgs = st1 w rest msgs y0 := by
      rcases mem_setW hy with rfl | ⟨hm, hne⟩
      · exact ⟨x, hx, by simp [st1, hxid]⟩
      · refine ⟨y, hm, ?_⟩
        have : y.id ≠ w := by rw [← hxid]; exact hne
        simp [st1, this]
    obtain ⟨y0, hy0, ey⟩ := key
    rw [ey]
    have r := e3 _ (List.mem_map_of_mem hy0)
    refine ⟨?_, fun t => (r.pipe t).congr ?_ (hv _ _) rfl rfl rfl⟩
    · have := r.known
      unfold State.worker? at this ⊢
      rw [hwk]; exact this
    · unfold runsOn
      rw [ht]

/-- the `Sys` action of a world action satisfies `Sys.OpOk` — for a delivered `TaskUpdate` BECAUSE the worker model
sent it (`deliver_upd`) -/
theorem SysArm.ok {s : State} {op : Op} {sop : Sys.Op} {ws : List WState} (ha : SysArm s op sop ws) (hi : WInv2 s)
    (hok : OpOk s op) : Sys.OpOk s.sys sop := by
  cases ha with
  | srv _ => exact hok.sys
  | addWorker _ => exact hok.1
  | loseWorker _ => trivial
  | updates hf hq => exact (deliver_upd hi hf hq _).1
  | retracted _ _ => trivial

theorem step_inv {s s' : State} {op : Op} {o : Out} (hi : WInv2 s) (hok : OpOk s op) (h : step s op = .ok (s', o)) :
    WInv2 s' := by
  rcases step_cases s op with ⟨e, he, _⟩ | ⟨sop, ws, harm, he⟩ | ⟨x0, x, wop, harm, he, _⟩ <;> rw [he] at h
  · cases h
  · have hsok := harm.ok hi hok
    cases harm with
    | srv hal =>
      exact sysStep_inv hi hsok hi.winv.nodup hi.winv.bkeys (fun sys' so hs hc' => srv_recs hi hal hok hs hc') h
    | @addWorker wk rqs rem hnone =>
      refine sysStep_inv hi hsok ?_ ?_ (fun sys' so hs _ => addWorker_recs hi hok hs) h
      · rw [List.map_append, List.nodup_append]
        refine ⟨hi.winv.nodup, by simp, ?_⟩
        intro a ha b hb
        simp only [List.map_cons, List.map_nil, List.mem_singleton] at hb
        subst hb
        obtain ⟨x, hx, rfl⟩ := List.mem_map.mp ha
        exact findW_none hnone x hx
      · intro x hx
        rcases List.mem_append.mp hx with hx | hx
        · exact hi.winv.bkeys x hx
        · simp only [List.mem_singleton] at hx
          subst hx
          exact List.nodup_nil
    | @loseWorker w reason f order rets _ hf =>
      refine sysStep_inv (sop := .removeWorker w reason f order rets) hi hsok ?_
        (fun x hx => hi.winv.bkeys x (List.mem_filter.mp hx).1) (fun sys' so hs hc' => loseWorker_recs hi hs hc') h
      exact (List.filter_sublist.map _).nodup hi.winv.nodup
    | @updates w rets x us rest hf hq =>
      exact sysStep_inv (sop := .update w us rets) hi hsok (by rw [setW_ids]; exact hi.winv.nodup)
        (setW_bkeys hi.winv (findW_some hf).1) (fun sys' so hs _ => updates_recs hi hf hq hs) h
    | @retracted w rets x ids rest hf hq =>
      obtain ⟨hx, hxid⟩ := findW_some hf
      exact sysStep_inv (sop := .retracted w ids) hi hsok (by rw [setW_ids]; exact hi.winv.nodup)
        (setW_bkeys hi.winv hx) (fun sys' so hs _ => retracted_recs hi hx hxid hq hs) h
  · cases harm with
    | @deliver w extras x0 m rest wop hf hq hop =>
      refine workerStep_inv (x0 := x0) (x := { x0 with s2w := rest }) hi (findW_some hf).1 rfl rfl rfl
        (fun t => ⟨compsOfMsg t m, ?_, ?_⟩) h
      · rw [hq, comps_cons]
      · obtain ⟨a, b⟩ := toWorkerOp_items t hop
        cases wop <;> first | exact a _ rfl | exact b (fun es e => by cases e)
    | @wlocal w wop x hal hf =>
      refine workerStep_inv (x0 := x0) hi (findW_some hf).1 rfl rfl rfl (fun t => ⟨[], rfl, ?_⟩) h
      cases wop <;> first | rfl | cases hal

theorem step_no_job {s : State} {op : Op} (hi : WInv2 s) (hok : OpOk s op) (site : String) :
    step s op ≠ .error (.sys (.job site)) := by
  intro h
  rcases step_cases s op with ⟨e, he, hn, _⟩ | ⟨sop, ws, harm, he⟩ | ⟨x0, x, wop, harm, he, _⟩ <;> rw [he] at h
  · cases h; exact hn _ rfl
  · exact sysStep_no_job hi.winv (harm.ok hi hok) site h
  · simp only [workerStep] at h
    split at h <;> cases h

instance (s : State) (op : Op) : Decidable (OpOk s op) := by
  cases op with
  | srv sop => cases sop <;> simp only [OpOk] <;> infer_instance
  | addWorker wk a b => simp only [OpOk]; infer_instance
  | loseWorker w r f o rets => exact isTrue trivial
  | deliverS2W w e => exact isTrue trivial
  | deliverW2S w r => exact isTrue trivial
  | wlocal w op => exact isTrue trivial

/-- the side conditions hold for every action of a run, each evaluated in the state it is applied to -/
def RunOk (s : State) : List Op → Prop
  | [] => True
  | op :: ops =>
    OpOk s op ∧
    match step s op with
    | .ok (s1, _) => RunOk s1 ops
    | .error _ => True

instance RunOk.decidable : ∀ (ops : List Op) (s : State), Decidable (RunOk s ops)
  | [], _ => isTrue trivial
  | op :: ops, s => by
    simp only [RunOk]
    cases h : step s op with
    | error e => simp only; infer_instance
    | ok r =>
      obtain ⟨s1, o⟩ := r
      simp only
      have := RunOk.decidable ops s1
      infer_instance

theorem winv_init (reserve max : Nat) : WInv (initState reserve max) :=
  ⟨Sys.coupled_initState reserve max, fun t ht => (by cases ht), List.nodup_nil, fun x hx => (by cases hx),
    fun x hx => (by cases hx)⟩

theorem winv2_init (reserve max : Nat) : WInv2 (initState reserve max) :=
  ⟨winv_init reserve max, fun x hx => (by cases hx), fun x hx => (by cases hx)⟩

theorem RunOk.cons {s : State} {op : Op} {ops : List Op} (h : RunOk s (op :: ops)) :
    OpOk s op ∧ ∀ {s1 o}, step s op = .ok (s1, o) → RunOk s1 ops :=
  ⟨h.1, fun h1 => by simpa only [RunOk, h1] using h.2⟩

/-- **induction over a run**: `R` is a condition on runs that says `C` of every action on its pre-state (`RunOk`,
`RunOk ∧ RunNPc`, …). An invariant that every such step keeps holds after the run, and the run stops only where a single
such step stops, in a state satisfying the invariant. -/
theorem run_all {I : State → Prop} {C : State → Op → Prop} {R : State → List Op → Prop}
    (hR : ∀ {s op ops}, R s (op :: ops) → C s op ∧ ∀ {s1 o}, step s op = .ok (s1, o) → R s1 ops)
    (hstep : ∀ {s op s' o}, I s → C s op → step s op = .ok (s', o) → I s') :
    ∀ (ops : List Op) {s : State}, I s → R s ops →
      (∀ {s' outs}, run s ops = .ok (s', outs) → I s') ∧
      ∀ {e}, run s ops = .error e → ∃ s1 op, I s1 ∧ C s1 op ∧ step s1 op = .error e := by
  intro ops
  induction ops with
  | nil => intro s hi _; exact ⟨fun h => (by simp only [run] at h; cases h; exact hi), fun h => (by simp only [run] at h; cases h)⟩
  | cons op rest ih =>
    intro s hi hr
    obtain ⟨hc, hrest⟩ := hR hr
    simp only [run]
    cases h1 : step s op with
    | error e => exact ⟨fun h => (by cases h), fun h => (by cases h; exact ⟨s, op, hi, hc, h1⟩)⟩
    | ok r =>
      obtain ⟨s1, o1⟩ := r
      obtain ⟨a, b⟩ := ih (hstep hi hc h1) (hrest h1)
      simp only
      cases h2 : run s1 rest with
      | error e => exact ⟨fun h => (by cases h), fun h => (by cases h; exact b h2)⟩
      | ok r2 => exact ⟨fun h => (by cases h; exact a h2), fun h => (by cases h)⟩

theorem run_winv2 (ops : List Op) {s s' : State} {outs : List Out} (hi : WInv2 s) (hok : RunOk s ops)
    (h : run s ops = .ok (s', outs)) : WInv2 s' :=
  (run_all RunOk.cons step_inv ops hi hok).1 h

theorem run_no_job {ops : List Op} {s : State} (hi : WInv2 s) (hok : RunOk s ops) (site : String) :
    run s ops ≠ .error (.sys (.job site)) := fun h =>
  let ⟨_, _, hi1, hc, he⟩ := (run_all RunOk.cons step_inv ops hi hok).2 h
  step_no_job hi1 hc site he

theorem sysStep_sys {s s' : State} {sop : Sys.Op} {ws : List WState} {o : Out} (h : sysStep s sop ws = .ok (s', o)) :
    ∃ so, o.sysOp = some sop ∧ o.sys = some so ∧ Sys.step s.sys sop = .ok (s'.sys, so) := by
  simp only [sysStep] at h
  split at h
  · cases h
  · rename_i sys' so hs
    cases h
    exact ⟨so, rfl, rfl, hs⟩

theorem workerStep_sys {s s' : State} {x : WState} {op : Worker.Op} {o : Out} (h : workerStep s x op = .ok (s', o)) :
    o.sysOp = none ∧ o.sys = none ∧ s'.sys = s.sys := by
  simp only [workerStep] at h
  split at h
  · cases h
  · cases h; exact ⟨rfl, rfl, rfl⟩

/-- a world action performs at most one `Sys` action, and — in a state satisfying the invariant — that action
satisfies the side condition `Sys.OpOk` (for a delivered `TaskUpdate`: BECAUSE the worker model sent it) -/
theorem step_sys {s s' : State} {op : Op} {o : Out} (h : step s op = .ok (s', o)) :
    (o.sysOp = none ∧ o.sys = none ∧ s'.sys = s.sys) ∨
    (∃ sop so, o.sysOp = some sop ∧ o.sys = some so ∧ Sys.step s.sys sop = .ok (s'.sys, so) ∧
      (WInv2 s → OpOk s op → Sys.OpOk s.sys sop)) := by
  rcases step_cases s op with ⟨e, he, _⟩ | ⟨sop, ws, harm, he⟩ | ⟨x0, x, wop, _, he, _⟩ <;> rw [he] at h
  · cases h
  · obtain ⟨so, a, b, c⟩ := sysStep_sys h
    exact .inr ⟨sop, so, a, b, c, harm.ok⟩
  · exact .inl (workerStep_sys h)

/-- the `Sys` outputs of a run (its `Sys` actions: `sysOps`, `SysW/Model.lean`) -/
def sysOuts (outs : List Out) : List Sys.Out := outs.filterMap (·.sys)

/-- **the server part of a composed run is a run of `Sys`**, and all its actions satisfy `Sys.OpOk` -/
theorem run_sys_run : ∀ (ops : List Op) (s s' : State) (outs : List Out), run s ops = .ok (s', outs) →
    Sys.run s.sys (sysOps outs) = .ok (s'.sys, sysOuts outs) ∧
    (WInv2 s → RunOk s ops → Sys.RunOk s.sys (sysOps outs)) := by
  intro ops
  induction ops with
  | nil =>
    intro s s' outs h
    simp only [run] at h; cases h
    exact ⟨rfl, fun _ _ => trivial⟩
  | cons op rest ih =>
    intro s s' outs h
    simp only [run] at h
    split at h
    · cases h
    · rename_i s1 o1 h1
      split at h
      · cases h
      · rename_i s2 os h2
        cases h
        obtain ⟨r1, r2⟩ := ih _ _ _ h2
        rcases step_sys h1 with ⟨a, b, c⟩ | ⟨sop, so, a, b, c, d⟩
        · simp only [sysOps, sysOuts, List.filterMap_cons, a, b]
          rw [← c]
          refine ⟨r1, fun hi hok => ?_⟩
          simp only [RunOk, h1] at hok
          exact r2 (step_inv hi hok.1 h1) hok.2
        · simp only [sysOps, sysOuts, List.filterMap_cons, a, b]
          refine ⟨by simp only [Sys.run, c]; rw [show List.filterMap (fun x => x.sysOp) os = sysOps os from rfl, r1]; rfl,
            fun hi hok => ?_⟩
          simp only [RunOk, h1] at hok
          simp only [Sys.RunOk, c]
          exact ⟨d hi hok.1, r2 (step_inv hi hok.1 h1) hok.2⟩

end HqModel.SysW
