import HqModel.Lemmas.SysWViews
/-!
`on_remove_worker` is foreign to the pairs of the SURVIVING workers (`removeWorker_fgn`): a forward specification of
`lostRetracting` (`lostRetracting_rslv`: the retraction from the lost worker is resolved, `Rslv` of `Lemmas/SysWViews.lean`,
for every task) composed with the frames of the other parts (`removeWorker_parts`).
-/
namespace HqModel.Core
open HqModel HqModel.SysW

theorem lostRetracting_rslv (w : Nat) : ∀ (l : List Task) (s s' : State) (o o' : Out),
    s.lostRetracting w l o = .ok (s', o') →
    ∃ new, o'.msgs = o.msgs ++ new ∧ s'.workers = s.workers ∧
      ∀ t, Rslv w True (stOf s.tasks t) (stOf s'.tasks t) fun x => cfor x t new
  | [], s, s', o, o', h => by
    simp only [State.lostRetracting] at h; cases h
    exact ⟨[], by simp, rfl, fun t => .same rfl fun _ => rfl⟩
  | t0 :: rest, s, s', o, o', h => by
    rcases lostRetracting_cons_ok h with ⟨_, h⟩ | ⟨task, ht, hret, ⟨target, rv, _, h⟩ | ⟨_, h⟩⟩
    · exact lostRetracting_rslv w rest _ _ _ _ h
    · obtain ⟨new, h1, h2, h3⟩ := lostRetracting_rslv w rest _ _ _ _ h
      refine ⟨_ ++ new, by rw [h1]; exact List.append_assoc .., h2, fun t => ?_⟩
      simp only [cfor_append]
      refine (Rslv.put (nt := { task with inst := task.inst + 1, state := .assigned target rv })
        (sent := fun t x => cfor x t _) ht hret rfl (.assigned target rv trivial rfl rfl fun x => ?_)
        (fun t x e => ?_) t).mono (fun _ => trivial) |>.trans (h3 t)
      · show cfor x t0.id [.compute target [(task.id, _, some rv, [])]] = _
        rw [cfor_single, findTask_some_id ht]; simp
      · show cfor x t [.compute target [(task.id, _, some rv, [])]] = _
        rw [cfor_single, findTask_some_id ht]; simp [Ne.symm e]
    · obtain ⟨new, h1, h2, h3⟩ := lostRetracting_rslv w rest _ _ _ _ h
      exact ⟨new, h1, h2, fun t => by
        simpa using (Rslv.put (nt := { task with inst := task.inst + 1, state := .waiting 0 })
          (sent := fun _ _ => []) ht hret rfl (.requeued trivial rfl rfl fun _ => rfl)
          (fun _ _ _ => rfl) t).mono (fun _ => trivial) |>.trans (h3 t)⟩

theorem removeWorker_fgn {c c' : State} {w0 : Nat} {reason : String} {f : Bool} {order : List TaskId}
    {rets : List (List TaskId)} {o : Out} (hi : Inv c) (hm' : MnOk c')
    (h : c.removeWorker w0 reason f order rets = .ok (c', o)) (w' : Nat) (hw' : w' ≠ w0) (t : TaskId) :
    NPP.Fgn c c' o.msgs w' t := by
  have hfr := removeWorker_frc h
  obtain ⟨s1, s2, s3, s4, running, retracted, out1, out2, fA, h2, h3, h4, rfl, e1⟩ := removeWorker_parts hi h
  have hn : (taskIds c.tasks).Nodup := hi.nd
  have hn1 : (taskIds s1.tasks).Nodup := by rw [e1]; exact hn
  have hn2 : (taskIds s2.tasks).Nodup := by rw [lostRetracting_ids _ _ _ _ _ _ h2]; exact hn1
  have fB := lostRetracting_frw h2
  have fC : Frq s2 (ask s4) := ((retract_frq h3).trans (crashLoop_frq h4)).trans (Frq.ask s4)
  obtain ⟨new, m1, ew, hall⟩ := lostRetracting_rslv w0 _ _ _ _ _ h2
  obtain ⟨extra, _, m4, nc4, _, _⟩ := crashLoop_out h4
  have hmsgs : ∀ w' t, cfor w' t o.msgs = cfor w' t new := by
    intro w' t
    rw [m4]
    simp only [Core.add_msgs, m1, cfor_append]
    rw [cfor_noCompute (retract_out h3).1, cfor_noCompute nc4]
    simp [cfor_nil]
  have hrel : ¬ (lostA w0).rel w' t := hw'
  have hrelM : ¬ (lostM w0).rel w' t := hw'
  -- nothing is sent for a task that is at `w'`, or unknown
  have hnq : view c w' t ≠ .quiet → cfor w' t new = [] := fun hv => by
    have hne : stOf s1.tasks t ≠ some (.retracting w0) := by
      intro e
      cases hs : stOf c.tasks t with
      | none => rw [tfrw_stOf_none fA.t hs] at e; cases e
      | some st =>
        obtain ⟨st0, h0, sok⟩ := tfrw_stOf fA.t hn e
        rw [hs] at h0
        cases h0
        rw [view_some hs] at hv
        have ho := owner_of_viewSt_ne_quiet hv
        have := (sok.keep w' ho hrelM).owner ho
        cases this
        exact hw' rfl
    exact ((hall t).idle hne).2 w'
  refine ⟨?_, NPP.runKeep_of_fr hfr hn fun rv hs => by rw [hmsgs]; exact hnq (by rw [view_some hs]; simp [viewSt]),
    fun hnone => by rw [hmsgs]; exact hnq (by rw [view_none hnone]; simp)⟩
  rw [hmsgs]
  by_cases hv : view c w' t = .quiet
  · rw [hv]
    rcases fA.quietView hn w' t (fun e => e) hv with q1 | q1
    · -- still quiet after the first part
      have fin : ∀ cm, (view s2 w' t = .quiet ∧ cm = []) ∨ (∃ rv, view s2 w' t = .asg rv ∧ cm = [some rv]) →
          Foreign .quiet cm (view (ask s4) w' t) := by
        intro cm hc
        rcases hc with ⟨a, rfl⟩ | ⟨rv, a, rfl⟩
        · rcases fC.quietView hn2 w' t (fun e => e) a with e | e <;> rw [e]
          · exact Foreign.same _
          · exact Foreign.hot _ _
        · have := fC.keepView hn2 hm' w' t (fun e => e) (by rw [a]; simp)
          rw [a] at this
          rcases this.2 with e | ⟨e, _⟩ | ⟨e, _⟩
          · rw [e]; exact Foreign.hot _ _
          · rw [e]; exact Foreign.asg rv
          · cases e
      apply fin
      rcases (hall t).pair ew w' with ⟨a, b⟩ | ⟨_, _, hc⟩
      · exact .inl ⟨a.trans q1, b⟩
      · exact hc
    · -- hot after the first part: it stays hot, and nothing is sent
      have hne : stOf s1.tasks t ≠ some (.retracting w0) := by
        intro e
        rw [view_some e] at q1
        simp only [viewSt, hw'.symm, if_false] at q1
        cases q1
      rw [((hall t).idle hne).2 w']
      have := (fB.trans fC.lostA).keepView hn1 hm' w' t hrel (by rw [q1]; simp)
      rw [q1] at this
      rw [this.1 rfl]
      exact Foreign.hot _ _
  · rw [hnq hv]
    exact ((fA.lostA.trans fB).trans fC.lostA).keepView hn hm' w' t hrel hv

end HqModel.Core
