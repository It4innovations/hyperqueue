import HqModel.Lemmas.AutoAllocLedger
/-!
How one step acts on the queues and what it emits (`step_frame`): it resumes, adds or removes a queue with quiet outputs, or
moves the state by `STrans`. Seen from one queue: `step_queue` / `step_new_queue`. Per-queue facts are proved on the primitives
`QPrim` — on the two shapes of `QPrim.cases`, or by constructors where the permit is needed (`QPrim.qinv`).
-/
namespace HqModel.AutoAlloc

/-- The primitive transitions of one queue (everything a step can do to a queue it keeps, except `resume`).
`P a i` says which automaton inputs `i` may be fed to allocation `a` (it labels the `sync`/`bumpErr` primitives). -/
inductive QPrim (c : Consts) (P : Nat → AIn → Prop) : Queue → Queue → Prop
  | sync (q : Queue) (a : Nat) (r : SyncReason) (hp : P a (.sync r)) : QPrim c P q (q.sync a r).1
  | bumpErr (q : Queue) (a : Nat) (hp : P a .err) : QPrim c P q (q.bumpErr c a).1
  | tryPause (q : Queue) : QPrim c P q q.tryPause
  | trySubmit (q : Queue) (r : QResp) (now : Nat) (res : List SubRes) : QPrim c P q (q.trySubmit r now res).q
  | pause (q : Queue) : QPrim c P q { q with active := false }

inductive QTrans (c : Consts) (P : Nat → AIn → Prop) : Queue → Queue → Prop
  | refl (q : Queue) : QTrans c P q q
  | tail {a b d : Queue} : QTrans c P a b → QPrim c P b d → QTrans c P a d

theorem QTrans.single {c : Consts} {P : Nat → AIn → Prop} {a b : Queue} (h : QPrim c P a b) : QTrans c P a b := .tail (.refl a) h

theorem QTrans.trans {c : Consts} {P : Nat → AIn → Prop} {a b d : Queue} (h1 : QTrans c P a b) (h2 : QTrans c P b d) : QTrans c P a d := by
  induction h2 with
  | refl => exact h1
  | tail _ hp ih => exact .tail ih hp

theorem QTrans.lift {c : Consts} {P : Nat → AIn → Prop} (R : Queue → Queue → Prop) (hrefl : ∀ q, R q q)
    (htrans : ∀ a b d, R a b → R b d → R a d) (hprim : ∀ a b, QPrim c P a b → R a b)
    {a b : Queue} (h : QTrans c P a b) : R a b := by
  induction h with
  | refl => exact hrefl _
  | tail _ hp ih => exact htrans _ _ _ ih (hprim _ _ hp)

theorem QPrim.cases {c : Consts} {P : Nat → AIn → Prop} {q q' : Queue} (h : QPrim c P q q') :
    (∃ a i lim, P a i ∧ q' = q.feed c a i lim) ∨
    ∃ extra, q'.allocs = q.allocs ++ extra ∧ q'.id = q.id ∧ q'.params = q.params ∧
      (q'.active = q.active ∨ q'.active = false) ∧ (∀ x ∈ extra, x.st = .queued 0) ∧
      ((q.allocs.map (·.id)).Nodup → (q'.allocs.map (·.id)).Nodup) := by
  cases h with
  | sync a r hp =>
    rcases Queue.sync_cases c q a r with ⟨_, h⟩ | ⟨x, _, h⟩ <;> rw [h]
    · exact .inr ⟨[], by simp⟩
    · exact .inl ⟨a, .sync r, _, hp, rfl⟩
  | bumpErr a hp =>
    rcases Queue.bumpErr_cases c q a with ⟨_, h⟩ | ⟨x, _, h⟩ <;> rw [h]
    · exact .inr ⟨[], by simp⟩
    · exact .inl ⟨a, .err, _, hp, rfl⟩
  | tryPause => rcases q.tryPause_cases with h | ⟨_, h⟩ <;> rw [h] <;> exact .inr ⟨[], by simp⟩
  | trySubmit r now res =>
    obtain ⟨extra, g, _⟩ := Queue.trySubmit_q q r now res
    exact .inr ⟨extra, g.allocs, g.id, g.params, .inl g.active, g.queued, fun hn => by rw [g.allocs]; exact g.nodup hn⟩
  | pause => exact .inr ⟨[], by simp⟩

theorem QPrim.id {c : Consts} {P : Nat → AIn → Prop} {a b : Queue} (h : QPrim c P a b) : b.id = a.id := by
  rcases h.cases with ⟨_, _, _, _, rfl⟩ | ⟨_, _, h, _⟩
  · rfl
  · exact h

theorem QTrans.id {c : Consts} {P : Nat → AIn → Prop} {a b : Queue} (h : QTrans c P a b) : b.id = a.id :=
  QTrans.lift (fun a b => b.id = a.id) (fun _ => rfl) (fun _ _ _ h1 h2 => h2.trans h1) (fun _ _ h => h.id) h

theorem QPrim.paused {c : Consts} {P : Nat → AIn → Prop} {a b : Queue} (h : QPrim c P a b) (hp : a.active = false) : b.active = false := by
  rcases h.cases with ⟨_, _, _, _, rfl⟩ | ⟨_, _, _, _, h | h, _⟩
  · exact hp
  · rw [h]; exact hp
  · exact h

theorem QTrans.paused {c : Consts} {P : Nat → AIn → Prop} {a b : Queue} (h : QTrans c P a b) : a.active = false → b.active = false :=
  QTrans.lift (fun a b => a.active = false → b.active = false) (fun _ h => h) (fun _ _ _ h1 h2 h => h2 (h1 h))
    (fun _ _ h => h.paused) h

theorem QPrim.params {c : Consts} {P : Nat → AIn → Prop} {a b : Queue} (h : QPrim c P a b) : b.params = a.params := by
  rcases h.cases with ⟨_, _, _, _, rfl⟩ | ⟨_, _, _, h, _⟩
  · rfl
  · exact h

theorem QTrans.params {c : Consts} {P : Nat → AIn → Prop} {a b : Queue} (h : QTrans c P a b) : b.params = a.params :=
  QTrans.lift (fun a b => b.params = a.params) (fun _ => rfl) (fun _ _ _ h1 h2 => h2.trans h1) (fun _ _ h => h.params) h

theorem QPrim.idsNodup {c : Consts} {P : Nat → AIn → Prop} {a b : Queue} (h : QPrim c P a b) (hn : (a.allocs.map (·.id)).Nodup) :
    (b.allocs.map (·.id)).Nodup := by
  rcases h.cases with ⟨x, i, lim, _, rfl⟩ | ⟨_, _, _, _, _, _, h⟩
  · unfold Queue.feed
    simp only [List.map_map, Function.comp_def, feedMap_id]
    exact hn
  · exact h hn

theorem QTrans.idsNodup {c : Consts} {P : Nat → AIn → Prop} {a b : Queue} (h : QTrans c P a b) :
    (a.allocs.map (·.id)).Nodup → (b.allocs.map (·.id)).Nodup :=
  QTrans.lift (fun a b => (a.allocs.map fun x : Alloc => x.id).Nodup → (b.allocs.map fun x : Alloc => x.id).Nodup)
    (fun _ h => h) (fun _ _ _ h1 h2 h => h2 (h1 h)) (fun _ _ h => h.idsNodup) h

theorem Queue.refresh_QTrans (c : Consts) (P : Nat → AIn → Prop) (hx : ∀ a x, P a (.sync (.ext x)))
    (he : ∀ a, P a .err) (q : Queue) (rep : Report) :
    QTrans c P q (q.refresh c rep).1 ∧ QLedger q (q.refresh c rep).1 (q.refresh c rep).2 :=
  Queue.refresh_ind c (fun a b o => QTrans c P a b ∧ QLedger a b o) (fun q => ⟨.refl q, .refl q⟩)
    (fun h1 h2 => ⟨h1.1.trans h2.1, h1.2.trans h2.2⟩)
    (fun q a x => ⟨.single (.sync q a _ (hx a x)), Queue.sync_QLedger c q a _⟩)
    (fun q a => ⟨.single (.bumpErr q a (he a)), Queue.bumpErr_QLedger c q a⟩) q rep

/-- What a step does to the state when it neither resumes, adds nor removes a queue, and what it emits: it overwrites
queues by `QTrans`-successors of themselves whose announcements keep the ledger, runs the pausing pass, adds index
entries, and emits quiet outputs. -/
inductive STrans (c : Consts) (P : Nat → AIn → Prop) : State → State → List Out → Prop
  | refl (s : State) : STrans c P s s []
  | setQueue {s t : State} {o : List Out} (k : Nat) (qq q2 : Queue) (o' : List Out) :
      STrans c P s t o → t.getQueue k = some qq → QTrans c P qq q2 → QLedger qq q2 o' →
      STrans c P s (t.setQueue q2) (o ++ o')
  | pauseAll {s t : State} {o : List Out} : STrans c P s t o → STrans c P s t.pauseAll o
  | addA2q {s t : State} {o : List Out} (ids : List Nat) (k : Nat) :
      STrans c P s t o → STrans c P s (t.addA2q ids k) o
  | quiet {s t : State} {o : List Out} (o' : List Out) : Quiet o' → STrans c P s t o → STrans c P s t (o ++ o')

variable {c : Consts} {P : Nat → AIn → Prop}

theorem STrans.consts {s t : State} {o : List Out} (h : STrans c P s t o) :
    t.consts = s.consts ∧ t.nextId = s.nextId := by
  induction h with
  | refl => exact ⟨rfl, rfl⟩
  | setQueue _ _ _ _ _ _ _ _ ih => exact ih
  | pauseAll _ ih => exact ih
  | addA2q _ _ _ ih => exact ih
  | quiet _ _ _ ih => exact ih

theorem STrans.getQueue {s t : State} {o : List Out} (h : STrans c P s t o) (x : Nat) :
    (s.getQueue x = none ∧ t.getQueue x = none) ∨
    ∃ q q', s.getQueue x = some q ∧ t.getQueue x = some q' ∧ QTrans c P q q' := by
  induction h with
  | refl =>
    cases h : s.getQueue x with
    | none => exact .inl ⟨rfl, rfl⟩
    | some q => exact .inr ⟨q, q, rfl, rfl, .refl q⟩
  | setQueue k qq q2 _ _ hk ht _ ih =>
    have hid : q2.id = k := ht.id.trans (State.getQueue_id _ k qq hk)
    rw [State.getQueue_setQueue]
    rcases ih with ⟨h0, h1⟩ | ⟨q, q1, h0, h1, h2⟩
    · refine .inl ⟨h0, ?_⟩
      rw [h1]; split <;> rfl
    · by_cases hx : x = q2.id
      · have : q1 = qq := by
          rw [hx, hid, hk] at h1
          exact (Option.some.inj h1).symm
        subst this
        exact .inr ⟨q, q2, h0, by rw [if_pos hx, h1]; rfl, h2.trans ht⟩
      · exact .inr ⟨q, q1, h0, by rw [if_neg hx]; exact h1, h2⟩
  | pauseAll _ ih =>
    rw [State.getQueue_pauseAll]
    rcases ih with ⟨h0, h1⟩ | ⟨q, q1, h0, h1, h2⟩
    · exact .inl ⟨h0, by rw [h1]; rfl⟩
    · exact .inr ⟨q, q1.tryPause, h0, by rw [h1]; rfl, h2.tail (.tryPause q1)⟩
  | addA2q _ _ _ ih => exact ih
  | quiet _ _ _ ih => exact ih

/-- the same for every member of the queue list: `getQueue` finds only the first queue of an id, and `Inv` of C17 speaks
of all members of a state whose ids need not be distinct -/
theorem STrans.mem {s t : State} {o : List Out} (h : STrans c P s t o) :
    ∀ q' ∈ t.queues, ∃ q ∈ s.queues, QTrans c P q q' := by
  induction h with
  | refl => exact fun q' hq' => ⟨q', hq', .refl q'⟩
  | setQueue k qq q2 _ _ hk ht _ ih =>
    intro q' hq'
    obtain ⟨y, hy, rfl⟩ := State.mem_setQueue.mp hq'
    split
    · obtain ⟨q, hq, h⟩ := ih qq (State.getQueue_mem _ _ _ hk)
      exact ⟨q, hq, h.trans ht⟩
    · exact ih y hy
  | pauseAll _ ih =>
    intro q' hq'
    obtain ⟨y, hy, rfl⟩ := State.mem_pauseAll.mp hq'
    obtain ⟨q, hq, h⟩ := ih y hy
    exact ⟨q, hq, h.tail (.tryPause y)⟩
  | addA2q _ _ _ ih => exact ih
  | quiet _ _ _ ih => exact ih

theorem State.refreshAll_STrans (P : Nat → AIn → Prop) (hx : ∀ a x, P a (.sync (.ext x))) (he : ∀ a, P a .err)
    (s : State) (l : List (Nat × Report)) :
    STrans s.consts P s (State.refreshAll l (s, [])).1 (State.refreshAll l (s, [])).2 :=
  State.refreshAll_ind (fun t o => STrans s.consts P s t o)
    (fun t _ qid q rep hq h => by
      have hr := Queue.refresh_QTrans t.consts P hx he q rep
      refine .setQueue qid q _ _ h hq ?_ hr.2
      rw [← h.consts.1]; exact hr.1)
    l (s, []) (.refl s)

theorem State.tick_STrans (c : Consts) (P : Nat → AIn → Prop) (s : State) (now : Nat) (order : List Nat)
    (query : Query) (results : List SubRes) :
    STrans c P s (s.tick now order query results).st (s.tick now order query results).outs :=
  s.tick_ind now (fun t o => STrans c P s t o) (.refl s) (fun _ _ outs hq h => .quiet outs hq h)
    (fun _ _ h => .pauseAll h)
    (fun _ _ r qid q res hq h => .addA2q _ _ (.setQueue qid q _ _ h hq (.single (.trySubmit q r now res))
      (Queue.trySubmit_QLedger q r now res)))
    order query results

theorem STrans.one {s : State} {k : Nat} {q q2 : Queue} {o tail : List Out} (hk : s.getQueue k = some q)
    (ht : QTrans c P q q2) (hl : QLedger q q2 o) (hq : Quiet tail) : STrans c P s (s.setQueue q2) (o ++ tail) :=
  .quiet tail hq (.setQueue k q q2 o (.refl s) hk ht hl)

theorem step_frame (s : State) (e : Ev) :
    STrans s.consts (Allowed e) s (step s e).st (step s e).outs ∨
    (Quiet (step s e).outs ∧
      ((∃ k q, e = .resume k ∧ s.getQueue k = some q ∧
        (step s e).st = s.setQueue { q with active := true, lim := q.lim.onResume s.consts.resumeMask }) ∨
      (∃ p lim qid, e = .addQueue p lim qid ∧ ∃ new,
        (step s e).st = { s with queues := s.queues ++ new, nextId := if qid.isSome then s.nextId else s.nextId + 1 } ∧
        (new = [] ∨ (new = [⟨qid.getD s.nextId, p, true, [], lim⟩] ∧ s.getQueue (qid.getD s.nextId) = none))) ∨
      (∃ k f q m, e = .removeQueue k f ∧ s.getQueue k = some q ∧
        (step s e).st = { s with queues := s.queues.filter (·.id != k), a2q := m }))) := by
  have idle : ∀ {outs : List Out}, Quiet outs → STrans s.consts (Allowed e) s s outs := fun h => .quiet _ h (.refl s)
  have worker : ∀ a r, Allowed e a (.sync r) →
      STrans s.consts (Allowed e) s (s.workerEvent a r).st (s.workerEvent a r).outs := by
    intro a r hp
    rcases State.workerEvent_cases s a r with h | ⟨k, q, _, hq, h⟩ <;> rw [h]
    · exact idle (Quiet.of_all rfl rfl)
    · exact .one hq (.single (.sync q a _ hp)) (Queue.sync_QLedger s.consts q a _) (Quiet.of_all rfl rfl)
  generalize hr : step s e = r
  cases e with
  | workerConnected w a => subst hr; exact .inl (worker a _ rfl)
  | workerLost w a crashed => subst hr; exact .inl (worker a _ rfl)
  | jobSubmitted => subst hr; exact .inl (idle (Quiet.of_all rfl rfl))
  | addQueue p lim qid =>
    rcases State.addQueue_cases s p lim qid with ⟨_, h⟩ | ⟨hnone, outs, hQ, h⟩ <;> obtain rfl := h.symm.trans hr
    · exact .inr ⟨Quiet.of_all rfl rfl, .inr (.inl ⟨p, lim, qid, rfl, [], by rw [List.append_nil], .inl rfl⟩)⟩
    · exact .inr ⟨hQ, .inr (.inl ⟨p, lim, qid, rfl, _, rfl, .inr ⟨rfl, hnone⟩⟩)⟩
  | removeQueue k f =>
    rcases State.removeQueue_cases s k f with ⟨outs, hQ, h⟩ | ⟨q, outs, p, m, hq, hQ, h⟩ <;>
      obtain rfl := h.symm.trans hr
    · exact .inl (idle hQ)
    · exact .inr ⟨hQ, .inr (.inr ⟨k, f, q, m, rfl, hq, rfl⟩)⟩
  | pause k =>
    obtain ⟨outs, hQ, h | ⟨q, hq, h⟩⟩ := State.pause_cases s k <;> obtain rfl := h.symm.trans hr
    · exact .inl (idle hQ)
    · exact .inl (STrans.one (o := []) hq (.single (.pause q)) (QLedger.of_allocs _ _ rfl rfl) hQ)
  | resume k =>
    obtain ⟨outs, hQ, h | ⟨q, hq, h⟩⟩ := State.resume_cases s k <;> obtain rfl := h.symm.trans hr
    · exact .inl (idle hQ)
    · exact .inr ⟨hQ, .inl ⟨k, q, rfl, hq, rfl⟩⟩
  | tick now order query results => subst hr; exact .inl (State.tick_STrans _ _ s now order query results)
  | refresh reports =>
    obtain ⟨tail, hQ, h | h⟩ := State.refresh_cases s reports <;> obtain rfl := h.symm.trans hr
    · exact .inl (idle hQ)
    · exact .inl (.quiet _ hQ (State.refreshAll_STrans (Allowed (.refresh reports))
        (fun _ _ => ⟨reports, rfl⟩) (fun _ => ⟨reports, rfl⟩) s reports))

theorem step_consts (s : State) (e : Ev) : (step s e).st.consts = s.consts := by
  rcases step_frame s e with h | ⟨_, ⟨_, _, _, _, h⟩ | ⟨_, _, _, _, _, h, _⟩ | ⟨_, _, _, _, _, _, h⟩⟩
  · exact h.consts.1
  · rw [h]; rfl
  · rw [h]
  · rw [h]

theorem step_nextId (s : State) (e : Ev) :
    (step s e).st.nextId = (match e with | .addQueue _ _ none => s.nextId + 1 | _ => s.nextId) := by
  have other : (∀ p lim, e ≠ .addQueue p lim none) → (step s e).st.nextId = s.nextId := by
    intro hne
    rcases step_frame s e with h | ⟨_, ⟨_, _, _, _, h⟩ | ⟨p, lim, qid, rfl, _, h, _⟩ | ⟨_, _, _, _, _, _, h⟩⟩
    · exact h.consts.2
    · rw [h]; rfl
    · cases qid with
      | none => exact absurd rfl (hne p lim)
      | some k => rw [h]; rfl
    · rw [h]
  cases e with
  | addQueue p lim qid =>
    cases qid with
    | some k => exact other (fun _ _ h => nomatch h)
    | none =>
      rcases State.addQueue_cases s p lim none with ⟨_, h⟩ | ⟨_, _, _, h⟩ <;>
        (rw [show step s (.addQueue p lim none) = _ from h]; rfl)
  | _ => exact other (fun _ _ h => Ev.noConfusion h)

theorem step_queue (s : State) (e : Ev) (x : Nat) (q : Queue) (h : s.getQueue x = some q) :
    ((∃ f, e = .removeQueue x f) ∧ (step s e).st.getQueue x = none) ∨
    (e = .resume x ∧
      (step s e).st.getQueue x = some { q with active := true, lim := q.lim.onResume s.consts.resumeMask }) ∨
    (∃ q', (step s e).st.getQueue x = some q' ∧ QTrans s.consts (Allowed e) q q') := by
  rcases step_frame s e with
    hT | ⟨_, ⟨k, qk, rfl, hk, hst⟩ | ⟨p, lim, qid, rfl, new, hst, _⟩ | ⟨k, f, qk, m, rfl, _, hst⟩⟩
  · rcases hT.getQueue x with ⟨h0, _⟩ | ⟨q0, q', h0, h1, h2⟩ <;> rw [h] at h0 <;> cases h0
    exact .inr (.inr ⟨q', h1, h2⟩)
  · have hkid := State.getQueue_id s k qk hk
    rw [hst, State.getQueue_setQueue]
    by_cases hx : x = k
    · subst hx
      rw [hk] at h; cases h
      exact .inr (.inl ⟨rfl, by rw [if_pos hkid.symm, hk]; rfl⟩)
    · exact .inr (.inr ⟨q, by rw [if_neg fun hx' => hx (hx'.trans hkid)]; exact h, .refl q⟩)
  · refine .inr (.inr ⟨q, ?_, .refl q⟩)
    rw [hst, State.getQueue_append, h]; rfl
  · rw [hst]
    have hf := State.getQueue_filter s k x
    by_cases hx : x = k
    · subst hx
      exact .inl ⟨⟨f, rfl⟩, hf.trans (if_pos rfl)⟩
    · exact .inr (.inr ⟨q, hf.trans ((if_neg hx).trans h), .refl q⟩)

theorem step_new_queue (s : State) (e : Ev) (x : Nat) (q' : Queue) (h : s.getQueue x = none)
    (h' : (step s e).st.getQueue x = some q') :
    ∃ p lim qid, e = .addQueue p lim qid ∧ x = qid.getD s.nextId ∧ q' = ⟨x, p, true, [], lim⟩ ∧
      (step s e).st.nextId = if qid.isSome then s.nextId else s.nextId + 1 := by
  rcases step_frame s e with
    hT | ⟨_, ⟨k, qk, _, _, hst⟩ | ⟨p, lim, qid, rfl, new, hst, hnew⟩ | ⟨k, f, qk, m, _, _, hst⟩⟩
  · rcases hT.getQueue x with ⟨_, h1⟩ | ⟨q0, _, h0, _, _⟩
    · rw [h1] at h'; cases h'
    · rw [h] at h0; cases h0
  · rw [hst, State.getQueue_setQueue, h] at h'
    split at h' <;> cases h'
  · have hf := h'
    rw [hst, State.getQueue_append, h] at hf
    rcases hnew with rfl | ⟨rfl, _⟩
    · cases hf
    · simp only [Option.none_or, List.find?_cons, List.find?_nil] at hf
      split at hf
      · rename_i heq
        have hx := beq_iff_eq.mp heq
        cases hf
        exact ⟨p, lim, qid, rfl, hx.symm, by rw [hx], by rw [hst]⟩
      · cases hf
  · rw [hst] at h'
    have := (State.getQueue_filter s k x).symm.trans h'
    rw [h] at this
    split at this <;> cases this

end HqModel.AutoAlloc
