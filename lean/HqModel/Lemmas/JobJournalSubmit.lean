import HqModel.Lemmas.JobJournalRec
import HqModel.Lemmas.JournalStep
/-!
# Submits: what `validate_submit` + `attach_submit` + the id filling guarantee is what `submitOk` asks for
-/
namespace HqModel.Emit
open HqModel.Job HqModel.Journal

theorem specTasks_ids (d : Job.TaskDesc) : (descOf d).specTasks.map (·.id) = d.jobIds := by
  cases d with
  | array ids entries => simp [descOf, TaskDesc.specTasks, Job.TaskDesc.jobIds, List.map_map, Function.comp_def]
  | graph g => simp [descOf, TaskDesc.specTasks, Job.TaskDesc.jobIds, List.map_map, Function.comp_def]

theorem specTasks_deps {d : Job.TaskDesc} {a : ATask} (h : a ∈ (descOf d).specTasks) {x : Nat} (hx : x ∈ a.deps) :
    ∃ g, d = .graph g ∧ ∃ p ∈ g, x ∈ p.2 := by
  cases d with
  | array ids entries =>
    simp only [descOf, TaskDesc.specTasks, List.mem_map] at h
    obtain ⟨_, _, rfl⟩ := h; cases hx
  | graph g =>
    simp only [descOf, TaskDesc.specTasks, List.mem_map] at h
    obtain ⟨t, ⟨p, hp, rfl⟩, rfl⟩ := h
    exact ⟨g, rfl, p, hp, List.mem_eraseDups.mp hx⟩

theorem JSim.attach {job job' : Job} {aj : AJob} (h : JSim job aj) (d : Job.TaskDesc) (n : Nat)
    (ha : job.attach d.jobIds = .ok job') :
    JSim job' { aj with tasks := aj.tasks ++ (descOf d).specTasks, nSubmits := n } := by
  obtain ⟨-, hnone, rfl⟩ := attach_eq_ok _ ha
  refine ⟨h.isOpen, ?_, ?_⟩
  · simp only [List.map_append, specTasks_ids, h.ids, keys, List.map_map]
    congr 1
    simp [Function.comp_def]
  · intro a ha'
    simp only [lookup_append]
    rcases List.mem_append.mp ha' with ha' | ha'
    · obtain ⟨x, hx, hs, hi⟩ := h.st a ha'
      exact ⟨x, by rw [hx]; rfl, hs, hi⟩
    · have hid : a.id ∈ d.jobIds := by
        rw [← specTasks_ids]; exact List.mem_map.mpr ⟨a, ha', rfl⟩
      refine ⟨.waiting, ?_, (specTasks_fresh ha').1, fun e => by cases e⟩
      rw [hnone _ hid, lookup_map_const, if_pos hid]; rfl

theorem JDep.attach {aj : AJob} (h : JDep aj) (extra : List ATask) (n : Nat)
    (hw : ∀ a ∈ extra, a.st = .waiting)
    (hd : ∀ a ∈ extra, ∀ d ∈ a.deps, ∀ b, aj.find d = some b → b.st = .waiting ∨ b.st = .finished) :
    JDep { aj with tasks := aj.tasks ++ extra, nSubmits := n } := by
  intro a ha hwa d hdm b hb
  rw [find_append] at hb
  simp only [List.mem_append] at ha
  cases hf : aj.find d with
  | some b0 =>
    rw [hf] at hb
    simp only [Option.some.injEq] at hb
    subst hb
    rcases ha with ha | ha
    · exact h a ha hwa d hdm b0 hf
    · exact hd a ha d hdm b0 hf
  | none =>
    rw [hf] at hb
    exact .inl (hw b (List.mem_of_find?_eq_some hb))

/-- the array shape the journal's `submitOk` asks for: positive steps, entries (if any) = number of ids -/
def shapeStrict : Job.TaskDesc → Bool
  | .array ids entries =>
    ids.all (fun r => decide (1 ≤ r.step)) && (match entries with | none => true | some n => n == ids.iter.length)
  | .graph _ => true

theorem fillIdsNew_eq (d : Job.TaskDesc) (j : Nat) (o : Bool) (mf : Option Nat) :
    fillIdsNew d = fillIdsOpen { id := j, isOpen := o, maxFails := mf } d := by
  cases d <;> rfl

theorem fillIdsOpen_shape (job : Job) {d : Job.TaskDesc} (h : arrayShapeOk d = true) :
    shapeStrict (fillIdsOpen job d) = true := by
  cases d with
  | graph g => rfl
  | array ids entries =>
    simp only [fillIdsOpen]
    split
    · cases entries with
      | none => simp [shapeStrict, IntArray.fromId]
      | some n => simp [shapeStrict, fromRange_iter]; simp [IntArray.fromRange]
    · rename_i hne
      simp only [arrayShapeOk, Bool.and_eq_true, Bool.or_eq_true] at h
      simp only [shapeStrict, Bool.and_eq_true]
      refine ⟨h.1, ?_⟩
      rcases h.2 with h2 | h2
      · exact absurd h2 hne
      · exact h2

theorem fillIdsOpen_graph {job : Job} {d : Job.TaskDesc} {g : List (Nat × List Nat)}
    (h : fillIdsOpen job d = .graph g) : d = .graph g := by
  cases d with
  | graph g' => simpa [fillIdsOpen] using h
  | array ids entries =>
    simp only [fillIdsOpen] at h
    split at h
    · split at h <;> cases h
    · cases h

/-- "the job has task `d`", as `validate_submit` asks it -/
def jobHas (jo : Option Job) (d : Nat) : Bool :=
  match jo with
  | some j => (lookup j.tasks d).isSome
  | none => false

theorem jobHas_some {j : Job} {d : Nat} (h : jobHas (some j) d = true) : d ∈ keys j.tasks := by
  obtain ⟨v, hv⟩ := Option.isSome_iff_exists.mp h
  exact mem_keys_of_lookup hv

theorem graphDepsOk_of_validate (jo : Option Job) (have_ : List Nat)
    (hh : ∀ d, jobHas jo d = true → d ∈ have_) :
    ∀ (g : List (Nat × List Nat)) (seen : List Nat), validateGraph jo g seen = none →
      graphDepsOk have_ seen (g.map fun p => ⟨p.1, p.2, true⟩) = true
  | [], _, _ => rfl
  | (t, deps) :: rest, seen, h => by
    simp only [validateGraph] at h
    split at h
    · cases h
    · split at h
      · cases h
      · rename_i hfs
        have ih := graphDepsOk_of_validate jo have_ hh rest (t :: seen) h
        simp only [List.map_cons, graphDepsOk, Bool.and_eq_true, List.all_eq_true]
        refine ⟨?_, ih⟩
        intro d hd
        have := firstSome_none hfs d hd
        change (if (d == t || !(t :: seen).contains d && !jobHas jo d) = true then some d else none) = none at this
        by_cases hc : (d == t || !(t :: seen).contains d && !jobHas jo d) = true
        · rw [if_pos hc] at this; cases this
        · simp only [Bool.or_eq_true, beq_iff_eq, Bool.and_eq_true, Bool.not_eq_true', not_or, not_and,
            Bool.not_eq_false, List.contains_cons] at hc
          obtain ⟨hne, hc2⟩ := hc
          simp only [bne_iff_ne, ne_eq, Bool.or_eq_true, List.contains_eq_mem, decide_eq_true_eq]
          refine ⟨hne, ?_⟩
          by_cases hs : d ∈ seen
          · exact .inl hs
          · right
            refine hh d (hc2 ?_)
            simp [hne, hs]

theorem submitOk_of_attach {job job' : Job} (jo : Option Job) (d : Job.TaskDesc)
    (hh : ∀ x, jobHas jo x = true → x ∈ keys job.tasks)
    (hshape : shapeStrict d = true)
    (hv : ∀ g, d = .graph g → validateGraph jo g [] = none)
    (ha : job.attach d.jobIds = .ok job') : submitOk (keys job.tasks) (descOf d) = true := by
  obtain ⟨hnd, hnone, -⟩ := attach_eq_ok _ ha
  have hfresh : ∀ i ∈ d.jobIds, i ∉ keys job.tasks := fun i hi => lookup_eq_none_iff.mp (hnone i hi)
  cases d with
  | array ids entries =>
    simp only [shapeStrict, Bool.and_eq_true] at hshape
    simp only [Job.TaskDesc.jobIds] at hnd hfresh
    simp only [descOf, submitOk, Bool.and_eq_true, hshape.1, List.all_eq_true, decide_eq_true_eq,
      hnd, and_true, true_and]
    exact ⟨fun i hi => by simpa using hfresh i hi, hshape.2⟩
  | graph g =>
    simp only [Job.TaskDesc.jobIds] at hnd hfresh
    simp only [descOf, submitOk, Bool.and_eq_true, List.all_eq_true, decide_eq_true_eq, List.map_map]
    refine ⟨⟨?_, ?_⟩, graphDepsOk_of_validate jo _ hh g [] (hv g rfl)⟩
    · intro t ht
      obtain ⟨p, hp, rfl⟩ := List.mem_map.mp ht
      simpa using hfresh p.1 (List.mem_map.mpr ⟨p, hp, rfl⟩)
    · have : ((fun (t : GraphTask) => t.id) ∘ fun (p : Nat × List Nat) => (⟨p.1, p.2, true⟩ : GraphTask)) = (·.1) := rfl
      rw [this]; exact hnd

theorem validateSubmit_graph {jo : Option Job} {g : List (Nat × List Nat)}
    (h : Job.validateSubmit jo (.graph g) = none) : validateGraph jo g [] = none := by
  simp only [Job.validateSubmit] at h
  split at h
  · cases h
  · exact h

/-- the dependency check of `handle_submit` (fix of F16): no dependency on a failed / canceled / aborted task -/
theorem badDep_none {job : Job} {g : List (Nat × List Nat)} (h : badDep job (.graph g) = none) :
    ∀ p ∈ g, ∀ d ∈ p.2, ∀ x, lookup job.tasks d = some x → oc x = .waiting ∨ oc x = .finished := by
  intro p hp d hd x hx
  simp only [badDep] at h
  have h1 := firstSome_none h p hp
  have h2 := firstSome_none h1 d hd
  simp only [hx] at h2
  cases x <;> simp [oc] at h2 ⊢

end HqModel.Emit
