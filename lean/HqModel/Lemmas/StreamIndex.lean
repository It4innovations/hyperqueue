import HqModel.Stream.Spec
/-!
Index lemmas for M8 Stream (record level, no bytes): what `create_index` computes for one task from the
sequence of chunk records it meets, under the no-return hypothesis on instance ids (one `InstanceInfo` per id, the
one `infoOf` builds from the records of that id); what the stable sort and `last_instance` then select.
-/
namespace HqModel.Stream

/-- a chunk record together with the `file_idx` it was met in -/
abbrev FR := Nat × Rec

def foldRecs (idx : Index) (l : List FR) : Index := l.foldl (fun i fr => i.step fr.1 fr.2) idx

theorem build_chunks (idx : Index) (l : List FR) (h : ∀ fr ∈ l, fr.2.panics = false) :
    build idx (l.map fun fr => Ev.chunk fr.1 fr.2) = .ok (foldRecs idx l) := by
  induction l generalizing idx with
  | nil => rfl
  | cons a l ih =>
    have ha : a.2.panics = false := h a (by simp)
    simp only [List.map_cons, build, ha, Bool.false_eq_true, if_false, foldRecs, List.foldl_cons]
    exact ih _ (fun fr hfr => h fr (by simp [hfr]))

theorem foldRecs_get (idx : Index) (l : List FR) (t : Key) :
    (foldRecs idx l).get t =
      (l.filter fun fr => fr.2.key = t).foldl (fun a fr => pushRec a fr.1 fr.2) (idx.get t) := by
  induction l generalizing idx with
  | nil => rfl
  | cons a l ih =>
    simp only [foldRecs, List.foldl_cons] at ih ⊢
    rw [ih]
    by_cases hk : a.2.key = t
    · simp [hk, Index.step]
    · have : ¬ t = a.2.key := fun h => hk h.symm
      simp [hk, Index.step, this]

theorem NoReturn.prefix {l₁ l₂ : List Nat} (h : NoReturn (l₁ ++ l₂)) : NoReturn l₁ := by
  induction l₁ with
  | nil => trivial
  | cons x l ih =>
    simp only [List.cons_append, NoReturn] at h ⊢
    refine ⟨fun hx => ?_, ih h.2⟩
    have := h.1 (by simp [hx])
    cases l with
    | nil => simp at hx
    | cons y l => simpa using this

theorem NoReturn.last_of_mem {l : List Nat} {x : Nat} (h : NoReturn (l ++ [x])) (hx : x ∈ l) :
    l.getLast? = some x := by
  induction l with
  | nil => simp at hx
  | cons y l ih =>
    simp only [List.cons_append, NoReturn] at h
    cases l with
    | nil => simp at hx; simp [hx]
    | cons z l =>
      have e : (y :: z :: l).getLast? = (z :: l).getLast? := by simp [List.getLast?_cons_cons]
      rw [e]
      by_cases hxl : x ∈ z :: l
      · exact ih h.2 hxl
      · have hxy : x = y := by
          simp only [List.mem_cons] at hx hxl
          rcases hx with h1 | h1
          · exact h1
          · exact absurd h1 hxl
        subst hxy
        have := h.1 (by simp)
        simp only [List.cons_append, List.head?_cons, Option.some.injEq] at this
        subst this
        simp at hxl

theorem NoReturn.append {l₁ l₂ : List Nat} (h₁ : NoReturn l₁) (h₂ : NoReturn l₂)
    (hd : ∀ x ∈ l₁, x ∉ l₂) : NoReturn (l₁ ++ l₂) := by
  induction l₁ with
  | nil => simpa using h₂
  | cons x l ih =>
    simp only [List.cons_append, NoReturn] at h₁ ⊢
    refine ⟨fun hx => ?_, ih h₁.2 (fun y hy => hd y (by simp [hy]))⟩
    have hx' : x ∈ l := by
      rcases List.mem_append.mp hx with h | h
      · exact h
      · exact absurd h (hd x (by simp))
    have := h₁.1 hx'
    cases l with
    | nil => simp at hx'
    | cons y l => simpa using this

theorem NoReturn.flatMap {β : Type} (g : β → List Nat) (l : List β) (h : ∀ b ∈ l, NoReturn (g b))
    (hd : l.Pairwise fun a b => ∀ i, i ∈ g a → i ∉ g b) : NoReturn (l.flatMap g) := by
  induction l with
  | nil => trivial
  | cons a l ih =>
    simp only [List.flatMap_cons]
    have hp := List.pairwise_cons.mp hd
    refine NoReturn.append (h a (by simp)) (ih (fun b hb => h b (by simp [hb])) hp.2) ?_
    intro x hx hx'
    obtain ⟨b, hb, hxb⟩ := List.mem_flatMap.mp hx'
    exact hp.1 b hb x hx hxb

theorem mem_instSeq {t : Key} {cs : List Chunk} {m : Nat} :
    m ∈ instSeq t cs ↔ ∃ c ∈ cs, isInst t m c = true := by
  simp only [instSeq, List.mem_map, List.mem_filter, isInst, Bool.and_eq_true, decide_eq_true_eq]
  constructor
  · rintro ⟨c, ⟨hc, hk⟩, hi⟩; exact ⟨c, hc, hk, hi⟩
  · rintro ⟨c, hc, hk, hi⟩; exact ⟨c, ⟨hc, hk⟩, hi⟩

theorem instSeq_take_prefix (t : Key) (cs : List Chunk) (n : Nat) :
    ∃ rest, instSeq t cs = instSeq t (cs.take n) ++ rest := by
  refine ⟨instSeq t (cs.drop n), ?_⟩
  rw [instSeq, instSeq, instSeq, ← List.map_append, ← List.filter_append, List.take_append_drop]

theorem instSeq_take_subset {t : Key} {cs : List Chunk} {n m : Nat} (h : m ∈ instSeq t (cs.take n)) :
    m ∈ instSeq t cs := by
  obtain ⟨rest, e⟩ := instSeq_take_prefix t cs n
  rw [e]; exact List.mem_append_left _ h

def pushAll (l : List FR) : List InstanceInfo := l.foldl (fun a fr => pushRec a fr.1 fr.2) []

def recInsts (l : List FR) : List Nat := l.map (·.2.hdr.inst)

/-- the `ChunkInfo` that `addChunk` stores for a record -/
def ciOf (r : Rec) : ChunkInfo := ⟨r.pos, r.hdr.size % 4294967296⟩

/-- the `InstanceInfo` that a run of records of one instance describes: created by the first record, in its
file, and fed every record in order -/
def infoOf : List FR → InstanceInfo
  | [] => { inst := 0, ch0 := [], ch1 := [], fileIdx := 0, finished := false }
  | fr :: l => (fr :: l).foldl (fun i x => addChunk i x.2)
      { inst := fr.2.hdr.inst, ch0 := [], ch1 := [], fileIdx := fr.1, finished := false }

theorem infoOf_snoc {l : List FR} (h : l ≠ []) (a : FR) : infoOf (l ++ [a]) = addChunk (infoOf l) a.2 := by
  cases l with
  | nil => exact absurd rfl h
  | cons fr l => simp only [infoOf, List.cons_append, List.foldl_append, List.foldl_cons, List.foldl_nil]

def ofInst (m : Nat) (l : List FR) : List FR := l.filter fun fr => fr.2.hdr.inst = m

theorem ofInst_snoc (l : List FR) (a : FR) (m : Nat) :
    ofInst m (l ++ [a]) = if a.2.hdr.inst = m then ofInst m l ++ [a] else ofInst m l := by
  by_cases h : a.2.hdr.inst = m <;> simp [ofInst, List.filter_append, h]

theorem ofInst_ne_nil {l : List FR} {m : Nat} (h : m ∈ recInsts l) : ofInst m l ≠ [] := by
  obtain ⟨fr, hfr, he⟩ := List.mem_map.mp h
  exact List.ne_nil_of_mem (List.mem_filter.mpr ⟨hfr, by simpa using he⟩)

theorem ofInst_eq_nil {l : List FR} {m : Nat} (h : m ∉ recInsts l) : ofInst m l = [] :=
  List.filter_eq_nil_iff.mpr fun fr hfr he => h (List.mem_map.mpr ⟨fr, hfr, by simpa using he⟩)

theorem lastInst?_concat (l : List InstanceInfo) (i : InstanceInfo) : lastInst? (l ++ [i]) = some i.inst := by
  induction l with
  | nil => rfl
  | cons a l ih =>
    cases l with
    | nil => simp [lastInst?]
    | cons b l => simpa [lastInst?] using ih

theorem updLast_concat (g : α → α) (l : List α) (i : α) : updLast g (l ++ [i]) = l ++ [g i] := by
  induction l with
  | nil => rfl
  | cons a l ih =>
    cases l with
    | nil => simp [updLast]
    | cons b l => simpa [updLast] using ih

theorem lastInst?_eq_some {l : List InstanceInfo} {x : Nat} (h : lastInst? l = some x) :
    ∃ l' i, l = l' ++ [i] ∧ i.inst = x := by
  rcases List.eq_nil_or_concat l with rfl | ⟨l', i, rfl⟩
  · simp [lastInst?] at h
  · rw [List.concat_eq_append, lastInst?_concat] at h
    exact ⟨l', i, by simp, by simpa using h⟩

theorem addChunk_inst (i : InstanceInfo) (r : Rec) : (addChunk i r).inst = i.inst := by
  unfold addChunk; repeat' split
  all_goals rfl

/-- the records whose data `cat` prints for channel `ch` (0 = stdout, anything else = stderr) -/
def onChan (ch : Nat) (r : Rec) : Bool :=
  decide (r.hdr.size > 0) && (decide (r.hdr.channel = 0) == decide (ch = 0))

theorem onChan_eq {ch : Nat} (h2 : ch < 2) : ∀ {r : Rec}, r.hdr.channel < 2 →
    onChan ch r = (decide (r.hdr.channel = ch) && decide (r.hdr.size > 0))
  | ⟨⟨_, _, _, _, c, _⟩, _⟩, h1 => by
    have : (decide (c = 0) == decide (ch = 0)) = decide (c = ch) := by
      match c, ch, h1, h2 with
      | 0, 0, _, _ | 0, 1, _, _ | 1, 0, _, _ | 1, 1, _, _ => rfl
    simp only [onChan, this, Bool.and_comm]

theorem addChunk_chan (i : InstanceInfo) (r : Rec) (ch : Nat) :
    (addChunk i r).chan ch = i.chan ch ++ if onChan ch r then [ciOf r] else [] := by
  by_cases hs : r.hdr.size > 0 <;> by_cases hc : r.hdr.channel = 0 <;> by_cases h0 : ch = 0 <;>
    simp [addChunk, InstanceInfo.chan, onChan, ciOf, hs, hc, h0]

theorem addChunk_finished (i : InstanceInfo) (r : Rec) :
    (addChunk i r).finished = (i.finished || decide (r.hdr.size = 0)) := by
  unfold addChunk
  by_cases hs : r.hdr.size > 0
  · rw [if_pos hs, decide_eq_false (Nat.ne_of_gt hs), Bool.or_false]
    split <;> rfl
  · rw [if_neg hs, decide_eq_true (Nat.eq_zero_of_not_pos hs), Bool.or_true]

theorem addChunk_fileIdx (i : InstanceInfo) (r : Rec) : (addChunk i r).fileIdx = i.fileIdx := by
  unfold addChunk; repeat' split
  all_goals rfl

theorem foldl_addChunk (l : List FR) (i : InstanceInfo) (ch : Nat) :
    let i' := l.foldl (fun i x => addChunk i x.2) i
    i'.chan ch = i.chan ch ++ ((l.filter fun fr => onChan ch fr.2).map fun fr => ciOf fr.2) ∧
    i'.finished = (i.finished || l.any fun fr => fr.2.hdr.size = 0) ∧ i'.fileIdx = i.fileIdx := by
  induction l generalizing i with
  | nil => simp
  | cons a l ih =>
    obtain ⟨h1, h2, h3⟩ := ih (addChunk i a.2)
    simp only [List.foldl_cons]
    refine ⟨?_, ?_, ?_⟩
    · rw [h1, addChunk_chan, List.filter_cons]; split <;> simp
    · rw [h2, addChunk_finished, List.any_cons, Bool.or_assoc]
    · rw [h3, addChunk_fileIdx]

theorem infoOf_spec (l : List FR) (ch : Nat) :
    (infoOf l).chan ch = ((l.filter fun fr => onChan ch fr.2).map fun fr => ciOf fr.2) ∧
    (infoOf l).finished = (l.any fun fr => fr.2.hdr.size = 0) ∧ ∀ fr ∈ l.head?, (infoOf l).fileIdx = fr.1 := by
  cases l with
  | nil => simp [infoOf, InstanceInfo.chan]
  | cons a l =>
    obtain ⟨h1, h2, h3⟩ := foldl_addChunk (a :: l)
      { inst := a.2.hdr.inst, ch0 := [], ch1 := [], fileIdx := a.1, finished := false } ch
    refine ⟨h1.trans ?_, h2.trans (Bool.false_or _), fun fr hfr => ?_⟩
    · unfold InstanceInfo.chan; split <;> rfl
    · cases hfr; exact h3

/-- the loop invariant of `create_index` for one task: after the records `done`, the instances `acc` are one
`InstanceInfo` per instance id met, in order of first appearance, each describing all records of its id -/
structure PInv (done : List FR) (acc : List InstanceInfo) : Prop where
  nodup : (acc.map (·.inst)).Nodup
  mem : ∀ m, m ∈ acc.map (·.inst) ↔ m ∈ recInsts done
  last : lastInst? acc = (recInsts done).getLast?
  eq : ∀ info ∈ acc, info = infoOf (ofInst info.inst done)

theorem recInsts_snoc (done : List FR) (a : FR) : recInsts (done ++ [a]) = recInsts done ++ [a.2.hdr.inst] := by
  simp [recInsts]

/-- both branches of `pinv_step` end here: the last `InstanceInfo` is `x`, the one of the new record's id -/
theorem PInv.snoc {done : List FR} {acc : List InstanceInfo} {a : FR} {x : InstanceInfo}
    (hxi : x.inst = a.2.hdr.inst) (hx : x = infoOf (ofInst a.2.hdr.inst (done ++ [a])))
    (hnd : (acc.map (·.inst)).Nodup) (hnot : a.2.hdr.inst ∉ acc.map (·.inst))
    (hmem : ∀ m, m ∈ acc.map (·.inst) ∨ m = a.2.hdr.inst ↔ m ∈ recInsts done ∨ m = a.2.hdr.inst)
    (heq : ∀ info ∈ acc, info = infoOf (ofInst info.inst done)) : PInv (done ++ [a]) (acc ++ [x]) := by
  refine ⟨?_, fun m => ?_, ?_, fun info hinfo => ?_⟩
  · rw [List.map_append, List.nodup_append]
    refine ⟨hnd, by simp, fun y hy z hz => ?_⟩
    simp only [List.map_cons, List.map_nil, List.mem_singleton] at hz
    rw [hz, hxi]; rintro rfl; exact hnot hy
  · simpa [recInsts_snoc, hxi] using hmem m
  · rw [lastInst?_concat, hxi, recInsts_snoc, List.getLast?_concat]
  · rcases List.mem_append.mp hinfo with h | h
    · rw [ofInst_snoc, if_neg fun he : a.2.hdr.inst = info.inst => hnot (he ▸ List.mem_map_of_mem h)]
      exact heq info h
    · rw [List.mem_singleton.mp h, hxi]; exact hx

theorem pinv_step {done : List FR} {acc : List InstanceInfo} {a : FR} (inv : PInv done acc)
    (nr : NoReturn (recInsts (done ++ [a]))) : PInv (done ++ [a]) (pushRec acc a.1 a.2) := by
  rw [recInsts_snoc] at nr
  by_cases hl : lastInst? acc = some a.2.hdr.inst
  · -- same instance as the last `InstanceInfo`: it absorbs the chunk
    obtain ⟨acc', last, rfl, hli⟩ := lastInst?_eq_some hl
    have hmem : a.2.hdr.inst ∈ recInsts done := (inv.mem _).mp (by simp [hli])
    have hnd := inv.nodup
    rw [List.map_append, List.nodup_append] at hnd
    have hp : pushRec (acc' ++ [last]) a.1 a.2 = acc' ++ [addChunk last a.2] := by
      simp only [pushRec, hl, if_true, updLast_concat]
    rw [hp]
    refine PInv.snoc ((addChunk_inst ..).trans hli) ?_ hnd.1
      (fun h => hnd.2.2 _ h last.inst (by simp) hli.symm) (fun m => ?_)
      fun info h => inv.eq info (List.mem_append_left _ h)
    · rw [ofInst_snoc, if_pos rfl, infoOf_snoc (ofInst_ne_nil hmem), ← hli, ← inv.eq last (by simp)]
    · have := inv.mem m
      simp only [List.map_append, List.map_cons, List.map_nil, List.mem_append, List.mem_singleton, hli] at this
      rw [this]
      exact ⟨Or.inl, fun h => h.elim id fun h => h ▸ hmem⟩
  · -- a different instance id: by no-return it is a new one, a fresh `InstanceInfo` is pushed
    have hnew : a.2.hdr.inst ∉ recInsts done := fun hm => hl (inv.last ▸ NoReturn.last_of_mem nr hm)
    have hp : pushRec acc a.1 a.2 = acc ++
        [addChunk { inst := a.2.hdr.inst, ch0 := [], ch1 := [], fileIdx := a.1, finished := false } a.2] := by
      simp only [pushRec, hl, if_false, updLast_concat]
    rw [hp]
    exact PInv.snoc (addChunk_inst ..) (by rw [ofInst_snoc, if_pos rfl, ofInst_eq_nil hnew]; rfl) inv.nodup
      (fun h => hnew ((inv.mem _).mp h)) (fun m => by rw [inv.mem m]) inv.eq

theorem pinv_foldl (l done : List FR) (acc : List InstanceInfo) (nr : NoReturn (recInsts (done ++ l)))
    (inv : PInv done acc) : PInv (done ++ l) (l.foldl (fun a fr => pushRec a fr.1 fr.2) acc) := by
  induction l generalizing done acc with
  | nil => simpa using inv
  | cons a l ih =>
    have e : done ++ a :: l = (done ++ [a]) ++ l := by simp
    rw [e] at nr ⊢
    simp only [List.foldl_cons]
    refine ih _ _ nr (pinv_step inv ?_)
    simp only [recInsts, List.map_append] at nr ⊢
    exact NoReturn.prefix nr

theorem pushAll_inv (l : List FR) (nr : NoReturn (recInsts l)) : PInv l (pushAll l) := by
  have := pinv_foldl l [] [] (by simpa using nr)
    ⟨by simp, by simp [recInsts], by simp [lastInst?, recInsts], by simp⟩
  simpa [pushAll] using this

theorem instLe_trans (a b c : InstanceInfo) : instLe a b = true → instLe b c = true → instLe a c = true := by
  simp only [instLe, decide_eq_true_eq]; omega

theorem instLe_total (a b : InstanceInfo) : (instLe a b || instLe b a) = true := by
  simp only [instLe, Bool.or_eq_true, decide_eq_true_eq]; omega

/-- After the stable sort the last instance is the one with the maximal id, and it is described by
`infoOf`; the others are exactly the remaining ids. -/
theorem sorted_last {l : List FR} (nr : NoReturn (recInsts l)) {m : Nat} (hm : m ∈ recInsts l)
    (hmax : ∀ i ∈ recInsts l, i ≤ m) :
    ∃ init, sortInsts (pushAll l) = init ++ [infoOf (ofInst m l)] ∧
      (init.map (·.inst)).Nodup ∧ (∀ i, i ∈ init.map (·.inst) ↔ (i ∈ recInsts l ∧ i ≠ m)) ∧
      init.Pairwise (fun a b => a.inst ≤ b.inst) := by
  have inv := pushAll_inv l nr
  have perm : List.Perm (sortInsts (pushAll l)) (pushAll l) := List.mergeSort_perm _ _
  have sorted : (sortInsts (pushAll l)).Pairwise (fun a b => instLe a b = true) :=
    List.pairwise_mergeSort instLe_trans instLe_total _
  rcases List.eq_nil_or_concat (sortInsts (pushAll l)) with hnil | ⟨init, x, hx⟩
  · -- impossible: `m` has an entry
    have : m ∈ (pushAll l).map (·.inst) := (inv.mem m).mpr hm
    obtain ⟨info, hinfo, _⟩ := List.mem_map.mp this
    have := perm.mem_iff.mpr hinfo
    rw [hnil] at this
    simp at this
  · rw [List.concat_eq_append] at hx
    rw [hx] at perm sorted
    have hxmem : x ∈ pushAll l := perm.mem_iff.mp (by simp)
    have hxid : x.inst ∈ recInsts l := (inv.mem _).mp (List.mem_map_of_mem hxmem)
    have hle := fun y hy => (List.pairwise_append.mp sorted).2.2 y hy x (List.mem_singleton.mpr rfl)
    have hmm : m ∈ (pushAll l).map (·.inst) := (inv.mem m).mpr hm
    obtain ⟨info, hinfo, hinfom⟩ := List.mem_map.mp hmm
    have hinfo' : info ∈ init ++ [x] := perm.mem_iff.mpr hinfo
    have hxm : x.inst = m := by
      have h1 : x.inst ≤ m := hmax _ hxid
      rcases List.mem_append.mp hinfo' with h | h
      · have := hle info h
        simp only [instLe, decide_eq_true_eq] at this
        omega
      · simp only [List.mem_singleton] at h; subst h; exact hinfom
    have hxeq : x = infoOf (ofInst m l) := by rw [← hxm]; exact inv.eq x hxmem
    have hnd : ((init ++ [x]).map (·.inst)).Nodup := (perm.map _).nodup_iff.mpr inv.nodup
    simp only [List.map_append, List.map_cons, List.map_nil] at hnd
    have hnd' := List.nodup_append.mp hnd
    refine ⟨init, by rw [hx, hxeq], hnd'.1, ?_, ?_⟩
    · intro i
      constructor
      · intro hi
        refine ⟨?_, ?_⟩
        · apply (inv.mem i).mp
          have : i ∈ (init ++ [x]).map (·.inst) := by simp [List.mem_append]; exact Or.inl (by simpa using hi)
          exact (perm.map _).mem_iff.mp this
        · intro he
          exact hnd'.2.2 i hi x.inst (by simp) (by rw [he, hxm])
      · rintro ⟨hi, hne⟩
        have : i ∈ (init ++ [x]).map (·.inst) := (perm.map _).mem_iff.mpr ((inv.mem i).mpr hi)
        simp only [List.map_append, List.map_cons, List.map_nil, List.mem_append, List.mem_singleton] at this
        rcases this with h | h
        · exact h
        · exact absurd (h.trans hxm) hne
    · have := (List.pairwise_append.mp sorted).1
      exact this.imp (by intro a b h; simpa [instLe] using h)

end HqModel.Stream
