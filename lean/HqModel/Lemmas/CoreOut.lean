import HqModel.Lemmas.CoreOpsReactor
import HqModel.Lemmas.CoreOpsSched
/-!
What the operations of the core model OUTPUT, read off their path lemmas: which of them send no `ComputeTasks` message
(`NoCompute`) and which callbacks they make. `isCompute`, `NoCompute` carry the namespace of the composition with the
workers (`SysW`), whose statements are written with them.
-/
namespace HqModel.SysW
open HqModel HqModel.Core

def isCompute : Core.Msg → Bool
  | .compute .. => true
  | _ => false

def NoCompute (msgs : List Core.Msg) : Prop := ∀ m ∈ msgs, isCompute m = false

theorem NoCompute.nil : NoCompute [] := fun _ h => by cases h

theorem NoCompute.append {a b : List Core.Msg} (ha : NoCompute a) (hb : NoCompute b) : NoCompute (a ++ b) := by
  intro m hm
  rcases List.mem_append.mp hm with h | h
  · exact ha m h
  · exact hb m h

theorem NoCompute.map {α : Type} {f : α → Core.Msg} (h : ∀ p, isCompute (f p) = false) (l : List α) :
    NoCompute (l.map f) := by
  intro m hm
  obtain ⟨p, _, rfl⟩ := List.mem_map.mp hm
  exact h p

end HqModel.SysW

namespace HqModel.Core
open HqModel.SysW (NoCompute)

@[simp] theorem add_msgs (a b : Out) : (a.add b).msgs = a.msgs ++ b.msgs := rfl
@[simp] theorem add_cbs (a b : Out) : (a.add b).cbs = a.cbs ++ b.cbs := rfl

theorem retract_out {s s' : State} {l : List TaskId} {o : Out} (h : s.retract l = .ok (s', o)) :
    NoCompute o.msgs ∧ o.cbs = [] := by
  obtain ⟨pairs, _, rfl⟩ := retract_ok_iff.mp h
  exact ⟨.map (fun _ => rfl) _, rfl⟩

theorem cancelTasks_out {s s' : State} {ids : List TaskId} {o : Out} (h : s.cancelTasks ids = .ok (s', o)) :
    NoCompute o.msgs ∧ o.cbs = [] := by
  obtain ⟨_, _, _, _, _, rfl⟩ := cancelTasks_path h
  exact ⟨.map (fun _ => rfl) _, rfl⟩

/-- `task_failed`: at most the `error` callback for the failed task, with the consumers removed with it -/
theorem taskFailed_out {s s' : State} {worker : Option Nat} {id : TaskId} {ret : List TaskId} {o : Out}
    (h : s.taskFailed worker id ret = .ok (s', o)) :
    NoCompute o.msgs ∧ (o.cbs = [] ∨ ∃ cons, o.cbs = [.error id cons]) := by
  rcases taskFailed_path h with ⟨_, _, rfl⟩ | ⟨_, _, cons, _, _, _, _, _, _, _, _, ⟨_, _, rfl⟩ | ⟨o2, _, h4, rfl⟩⟩
  · exact ⟨.nil, .inl rfl⟩
  · exact ⟨.nil, .inr ⟨cons, rfl⟩⟩
  · obtain ⟨a, b⟩ := cancelTasks_out h4
    exact ⟨NoCompute.nil.append a, .inr ⟨cons, by rw [add_cbs, b]; rfl⟩⟩

/-- `task_running`: no message; for a known task the `started` callback with its current instance id -/
theorem taskRunning_out {s s' : State} {w : Nat} {id : TaskId} {rv : Nat} {o : Out}
    (h : s.taskRunning w id rv = .ok (s', o)) :
    o.msgs = [] ∧ (o.cbs = [] ∨ ∃ task ws, s.task? id = some task ∧ o.cbs = [.started id task.inst ws rv]) := by
  rcases taskRunning_cases h with ⟨_, _, rfl⟩ | ⟨task, ws, ht, _, rfl⟩
  · exact ⟨rfl, .inl rfl⟩
  · exact ⟨rfl, .inr ⟨task, ws, ht, rfl⟩⟩

theorem taskFinished_out {s s' : State} {w : Nat} {id : TaskId} {o : Out} {b : Bool}
    (h : s.taskFinished w id = .ok (s', o, b)) : NoCompute o.msgs ∧ (o.cbs = [] ∨ o.cbs = [.finished id]) := by
  rcases taskFinished_path h with ⟨_, _, rfl, _⟩ | ⟨_, _, _, _, _, out, _, _, _, h4, _, rfl, _⟩
  · exact ⟨.nil, .inl rfl⟩
  · obtain ⟨a, b⟩ := retract_out h4
    exact ⟨NoCompute.nil.append a, .inr (by rw [add_cbs, b]; rfl)⟩

theorem rejectTail_out {s1 : State} {task : Task} {res : State × Out × Bool} (h : rejectTail s1 task = .ok res) :
    NoCompute res.2.1.msgs ∧ res.2.1.cbs = [] := by
  obtain ⟨_, _, _, _, _, hr, rfl⟩ := rejectTail_ok_iff.mp h
  exact retract_out hr

theorem taskReject_cbs {s s' : State} {w : Nat} {id : TaskId} {rv : Option Nat} {o : Out} {b : Bool}
    (h : s.taskReject w id rv = .ok (s', o, b)) : o.cbs = [] := by
  rcases taskReject_cases h with ⟨_, e⟩ | ⟨task, wk0, _, _, arm⟩
  · cases e; rfl
  · cases arm with
    | stale _ _ h => exact (rejectTail_out h).2
    | sn _ _ _ _ h => exact (rejectTail_out h).2
    | pre _ _ _ h => exact (rejectTail_out h).2
    | retr _ _ h => exact (rejectTail_out h).2
    | mn _ _ _ h => exact (rejectTail_out h).2
    | otherRetracting => rfl
    | redirected => rfl
    | mnIgnored => rfl

theorem newTasks_out {s s' : State} {nts : List NewTask} {o : Out} (h : s.newTasks nts = .ok (s', o)) :
    NoCompute o.msgs ∧ o.cbs = [] := by
  obtain ⟨_, _, _, _, _, h2, _⟩ := newTasks_path h
  exact retract_out h2

theorem retractResponse_cbs {s s' : State} {w : Nat} {ids : List TaskId} {o : Out}
    (h : s.retractResponse w ids = .ok (s', o)) : o.cbs = [] := by
  obtain ⟨_, _, _, _, rfl⟩ := retractResponse_path h
  rfl

theorem schedule_cbs {s s' : State} {sol : Solution} {o : Out} (h : s.schedule sol = .ok (s', o)) : o.cbs = [] := by
  obtain ⟨_, _, _, _, _, _, _, _, _, _, _, _, _, _, _, _, _, rfl⟩ := schedule_path h
  rfl

theorem lostRetracting_cbs {l : List Task} {s s' : State} {w : Nat} {o o' : Out}
    (h : s.lostRetracting w l o = .ok (s', o')) : o'.cbs = o.cbs := by
  induction l generalizing s o with
  | nil => simp only [State.lostRetracting] at h; cases h; rfl
  | cons t0 rest ih =>
    rcases lostRetracting_cons_ok h with ⟨_, h⟩ | ⟨task0, _, _, ⟨_, _, _, h⟩ | ⟨_, h⟩⟩
    · exact ih h
    · exact (ih h).trans (List.append_nil _)
    · exact ih h

/-- the crash loop adds no `ComputeTasks` message and only `error` callbacks -/
theorem crashLoop_out {ids : List TaskId} {s s' : State} {f : Bool} {rets : List (List TaskId)} {o o' : Out}
    (h : s.crashLoop f ids rets o = .ok (s', o')) :
    ∃ x c, o'.msgs = o.msgs ++ x ∧ NoCompute x ∧ o'.cbs = o.cbs ++ c ∧ ∀ cb ∈ c, ∃ id cons, cb = .error id cons := by
  induction ids generalizing s rets o with
  | nil => cases h; exact ⟨[], [], by simp, .nil, by simp, fun _ hc => nomatch hc⟩
  | cons id rest ih =>
    rcases crashLoop_cons_ok h with ⟨_, h'⟩ | ⟨task, _, ⟨_, s2, o2, h2, h'⟩ | ⟨_, h'⟩⟩
    · exact ih h'
    · obtain ⟨x, c, e1, n1, e2, hc⟩ := ih h'
      obtain ⟨a, b⟩ := taskFailed_out h2
      refine ⟨o2.msgs ++ x, o2.cbs ++ c, by rw [e1, add_msgs, List.append_assoc], a.append n1,
        by rw [e2, add_cbs, List.append_assoc], fun cb hcb => ?_⟩
      rcases List.mem_append.mp hcb with h1 | h1
      · rcases b with b | ⟨cons, b⟩ <;> rw [b] at h1
        · cases h1
        · exact ⟨id, cons, List.mem_singleton.mp h1⟩
      · exact hc cb h1
    · exact ih h'

end HqModel.Core
