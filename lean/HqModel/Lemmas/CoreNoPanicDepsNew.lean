import HqModel.Lemmas.CoreNoPanicDeps
/-!
Preservation of `NpDeps U s` when a task is submitted. A new task is not `DS`: `registerDeps` puts the new id on the
consumer lists of exactly those dependencies that are in the map (appending it only where it is not yet listed:
`regOf`, `find_registerDeps`, `mem_registerDeps`), and the new record lists exactly those as its dependencies
(`registerDeps_kept`).
-/
namespace HqModel.Core.NPB

theorem _root_.HqModel.Core.NpDeps.new_task {U : List TaskId} {s s2 : State} {id : TaskId} {deps kept : List TaskId}
    {ts : List Task} {n : Nat} {task : Task} (h : NpDeps U s)
    (huT : ∀ t ∈ s.tasks, t.id ∈ U) (huC : ∀ t ∈ s.tasks, ∀ c ∈ t.consumers, c ∈ U)
    (hfresh : id ∉ U) (hdn : deps.Nodup) (hreg : registerDeps s.tasks id deps = (ts, kept, n))
    (htid : task.id = id) (hcons : task.consumers = []) (hdeps : task.deps = kept)
    (hs2 : s2.tasks = ts ++ [task]) : NpDeps (U ++ [id]) s2 := by
  have hfind : ∀ x, findTask ts x = (findTask s.tasks x).map (regOf deps id) := fun x => by
    have := find_registerDeps id deps s.tasks x; rwa [hreg] at this
  have hmem : ∀ t' ∈ ts, ∃ t ∈ s.tasks, t' = regOf deps id t := by
    have := mem_registerDeps id deps s.tasks; rwa [hreg] at this
  have hk : kept = deps.filter fun d => (findTask s.tasks d).isSome := by
    have := registerDeps_kept id deps s.tasks; rwa [hreg] at this
  have hkept : ∀ d, d ∈ kept ↔ d ∈ deps ∧ (findTask s.tasks d).isSome = true := fun d => by
    rw [hk, List.mem_filter]
  have hnone : findTask ts id = none := by
    rw [hfind, findTask_none_of_not_mem fun hm => ?_]; rfl
    obtain ⟨t, ht, e⟩ := List.mem_map.mp hm
    exact hfresh (e ▸ huT t ht)
  -- a lookup in the new map finds the rewritten old record, or the new record under the new id
  have hlook : ∀ x y, findTask (ts ++ [task]) x = some y →
      (∃ y0, findTask s.tasks x = some y0 ∧ y = regOf deps id y0) ∨ (x = id ∧ y = task) := by
    intro x y hx
    rw [findTask_append, hfind] at hx
    cases h0 : findTask s.tasks x with
    | some y0 => rw [h0] at hx; cases hx; exact .inl ⟨y0, rfl, rfl⟩
    | none =>
      rw [h0] at hx
      simp only [Option.map_none] at hx
      split at hx
      · rename_i e; cases hx; exact .inr ⟨e.symm.trans htid, rfl⟩
      · cases hx
  have hold : ∀ x y0, findTask s.tasks x = some y0 → findTask (ts ++ [task]) x = some (regOf deps id y0) :=
    fun x y0 h0 => by rw [findTask_append, hfind, h0]; rfl
  have hnew : findTask (ts ++ [task]) id = some task := by rw [findTask_append, hnone]; simp [htid]
  have hsplit : ∀ t' ∈ s2.tasks, (∃ t ∈ s.tasks, t' = regOf deps id t) ∨ t' = task := fun t' ht' => by
    rw [hs2] at ht'
    exact (List.mem_append.mp ht').imp (hmem t') (by simp)
  have hin : ∀ t ∈ s.tasks, t.id ∈ deps → t.id ∈ kept := fun t ht hd => by
    refine (hkept _).mpr ⟨hd, ?_⟩
    cases h0 : findTask s.tasks t.id with
    | none => exact absurd (List.mem_map_of_mem ht) (not_mem_of_findTask_none h0)
    | some _ => rfl
  refine ⟨?cin, ?cdep, ?reg, ?dnd, ?uD⟩
  case cin =>
    intro t' ht' c hc
    show (findTask s2.tasks c).isSome = true
    rw [hs2]
    rcases hsplit t' ht' with ⟨t, ht, rfl⟩ | rfl
    · rcases mem_regOf_consumers.mp hc with h1 | ⟨rfl, _⟩
      · cases h0 : findTask s.tasks c with
        | none => have := h.cin t ht c h1; rw [NP.task?_eq, h0] at this; cases this
        | some y0 => rw [hold c y0 h0]; rfl
      · rw [hnew]; rfl
    · rw [hcons] at hc; cases hc
  case cdep =>
    intro t' ht' c hc ct hct
    change findTask s2.tasks c = some ct at hct
    rw [hs2] at hct
    rcases hsplit t' ht' with ⟨t, ht, rfl⟩ | rfl
    · rw [(regOf_eq deps id t).1]
      rcases hlook c ct hct with ⟨ct0, h0, rfl⟩ | ⟨rfl, rfl⟩
      · rw [(regOf_eq deps id ct0).2.2.1]
        rcases mem_regOf_consumers.mp hc with h1 | ⟨rfl, _⟩
        · exact h.cdep t ht c h1 ct0 h0
        · exact absurd (findTask_some_id h0 ▸ huT ct0 (findTask_some_mem h0)) hfresh
      · rcases mem_regOf_consumers.mp hc with h1 | ⟨_, h2⟩
        · exact absurd (huC t ht c h1) hfresh
        · rw [hdeps]; exact hin t ht h2
    · rw [hcons] at hc; cases hc
  case reg =>
    intro ct hct d hd dt hdt
    change findTask s2.tasks d = some dt at hdt
    rw [hs2] at hdt
    rcases hsplit ct hct with ⟨ct0, hct0, rfl⟩ | rfl
    · rw [(regOf_eq deps id ct0).2.2.1] at hd
      rw [(regOf_eq deps id ct0).1]
      rcases hlook d dt hdt with ⟨dt0, h0, rfl⟩ | ⟨rfl, _⟩
      · exact mem_regOf_consumers.mpr (.inl (h.reg ct0 hct0 d hd dt0 h0))
      · exact absurd (h.uD ct0 hct0 d hd) hfresh
    · rw [hdeps] at hd
      obtain ⟨hdd, hsome⟩ := (hkept d).mp hd
      cases h0 : findTask s.tasks d with
      | none => rw [h0] at hsome; cases hsome
      | some dt0 =>
        obtain rfl : regOf deps id dt0 = dt := Option.some.inj ((hold d dt0 h0).symm.trans hdt)
        exact mem_regOf_consumers.mpr (.inr ⟨htid, (findTask_some_id h0).symm ▸ hdd⟩)
  case dnd =>
    intro t' ht'
    rcases hsplit t' ht' with ⟨t, ht, rfl⟩ | rfl
    · rw [(regOf_eq deps id t).2.2.1]; exact h.dnd t ht
    · rw [hdeps, hk]; exact hdn.filter _
  case uD =>
    intro t' ht' d hd
    refine List.mem_append_left _ ?_
    rcases hsplit t' ht' with ⟨t, ht, rfl⟩ | rfl
    · exact h.uD t ht d ((regOf_eq deps id t).2.2.1 ▸ hd)
    · rw [hdeps] at hd
      cases h0 : findTask s.tasks d with
      | none => have := ((hkept d).mp hd).2; rw [h0] at this; cases this
      | some dt0 => exact findTask_some_id h0 ▸ huT dt0 (findTask_some_mem h0)

end HqModel.Core.NPB
