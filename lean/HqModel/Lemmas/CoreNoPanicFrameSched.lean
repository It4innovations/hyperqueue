import HqModel.Lemmas.CoreNoPanicFrame
/-!
The frame relation `Fr` for the functions of `Core/Sched.lean`. Besides `Fr` a scheduling round needs to know that the
ids it takes from queue `i` are tasks of request `i` (`QRq s`, a consequence of `QueueOk s` and unique ids:
`QRq.of_queueOk`); `QRq` is carried along the round by `FrQ` = `Fr` + "the queues only lose ids or move them inside the
same queue" (`QSub`).
-/
namespace HqModel.Core.NPA

open HqModel.Core.NP

/-- every id of queue `i` is (as far as it is a task of the map) a task of request `i`; membership form -/
def QRq (s : State) : Prop :=
  ∀ (i : Nat) (q : Queue), s.queues[i]? = some q → ∀ id ∈ qIds q, ∀ t ∈ s.tasks, t.id = id → t.rq = i

theorem rq_of_good {s : State} {i : Nat} {id : TaskId} (hn : (taskIds s.tasks).Nodup) (hg : Good s i id) :
    ∀ t ∈ s.tasks, t.id = id → t.rq = i := by
  intro t ht he
  have := mem_find_of_nodup hn ht
  rw [he] at this
  exact (hg t this).1

theorem QRq.of_queueOk {s : State} (hn : (taskIds s.tasks).Nodup) (hq : QueueOk s) : QRq s :=
  fun i q hi id hid => rq_of_good hn (hq i q hi id hid)

theorem _root_.HqModel.Core.QSub.trans {a b c : List Queue} (h1 : QSub a b) (h2 : QSub b c) : QSub a c := by
  intro i q'' hq'' id hid
  obtain ⟨q', hq', hid'⟩ := h2 i q'' hq'' id hid
  exact h1 i q' hq' id hid'

structure FrQ (all : Prop) (s s' : State) : Prop where
  fr : Fr all s s'
  qs : QSub s.queues s'.queues

theorem FrQ.refl (all : Prop) (s : State) : FrQ all s s := ⟨Fr.refl _ _, QSub.refl _⟩

theorem FrQ.trans {all : Prop} {a b c : State} (h1 : FrQ all a b) (h2 : FrQ all b c) : FrQ all a c :=
  ⟨h1.fr.trans h2.fr, h1.qs.trans h2.qs⟩

theorem FrQ.of_eq {all : Prop} {s s' : State} (h : Fr all s s') (hq : s'.queues = s.queues) : FrQ all s s' :=
  ⟨h, by rw [hq]; exact QSub.refl _⟩

theorem Fr.rq_of_id {all : Prop} {s s' : State} (f : Fr all s s') {id : TaskId} {rq : Nat}
    (h : ∀ t ∈ s.tasks, t.id = id → t.rq = rq) : ∀ t' ∈ s'.tasks, t'.id = id → t'.rq = rq := by
  intro t' ht' he
  obtain ⟨t, ht, r⟩ := f.t t' ht'
  rw [r.rq]
  exact h t ht (r.id.symm.trans he)

theorem FrQ.qrq {all : Prop} {s s' : State} (h : FrQ all s s') (hq : QRq s) : QRq s' := by
  intro i q' hq' id hid
  obtain ⟨q, hq0, hid0⟩ := h.qs i q' hq' id hid
  exact h.fr.rq_of_id (hq i q hq0 id hid0)

theorem FrQ.of_queue_set {all : Prop} {s : State} {i : Nat} {q q' : Queue} (hq : s.queues[i]? = some q)
    (hsub : ∀ id ∈ qIds q', id ∈ qIds q) : FrQ all s { s with queues := s.queues.set i q' } :=
  ⟨Fr.of_queues rfl rfl rfl rfl (by simp), (Trk.of_queue_set hq hsub).qsub⟩

theorem withWorker_queues {s s' : State} {w : Nat} {f : Worker → M Worker} (h : s.withWorker w f = .ok s') :
    s'.queues = s.queues := by
  obtain ⟨_, _, _, _, rfl⟩ := withWorker_spec h
  rfl

/-- a redirect `(id, w, v)` is added to a part `rd0` of the redirect table -/
theorem Fr.addRd {all : Prop} {s : State} {rd0 : List (TaskId × Nat × Nat)} {id : TaskId} {w v rq : Nat}
    (hsub : ∀ x ∈ rd0, x ∈ s.redirects) (hidx : IdxOk s w rq v)
    (hq : ∀ t ∈ s.tasks, t.id = id → t.rq = rq) : Fr all s { s with redirects := rd0 ++ [(id, w, v)] } := by
  refine ⟨rfl, rfl, WFr.refl _, ?_⟩
  intro t ht
  refine ⟨t, ht, rfl, rfl, fun h => h, fun h => h, ?_⟩
  intro h w0 v0 hh
  have key : ∀ x, (t.id, w0, v0) = x → x ∈ rd0 ++ [(id, w, v)] →
      (t.id, w0, v0) ∈ s.redirects ∨ IdxOk { s with redirects := rd0 ++ [(id, w, v)] } w0 t.rq v0 := by
    intro x e hx
    rcases List.mem_append.mp hx with h1 | h1
    · exact Or.inl (e ▸ hsub x h1)
    · right
      rw [List.mem_singleton.mp h1] at e
      simp only [Prod.mk.injEq] at e
      obtain ⟨e1, e2, e3⟩ := e
      rw [hq t ht e1, e2, e3]
      exact hidx
  rcases hh with hh | ⟨a, hm⟩
  · rcases hh with hh | hh | ⟨hr, hm⟩
    · exact h w0 v0 (Or.inl (Or.inl hh))
    · exact h w0 v0 (Or.inl (Or.inr (Or.inl hh)))
    · rcases key _ rfl hm with h1 | h1
      · exact h w0 v0 (Or.inl (Or.inr (Or.inr ⟨hr, h1⟩)))
      · exact h1
  · rcases key _ rfl hm with h1 | h1
    · exact h w0 v0 (Or.inr ⟨a, h1⟩)
    · exact h1

theorem idxOk_of_placeFits {s : State} {rq v w : Nat} {r : Rq} (hw : NpW s) (hr : s.rq rq v = .ok r)
    (hfit : s.placeFits r w) {wk : Worker} {A F P} (hfw : findWorker s.workers w = some wk)
    (ha : wk.assign = .sn A F P) : IdxOk s w rq v := by
  refine IdxOk.intro hr ?_
  intro wk' hwk' e he
  have : wk' = wk := by
    have h1 : findWorker s.workers w = some wk' := hwk'
    rw [hfw] at h1; cases h1; rfl
  subst this
  have h1 := fitsNow_idx (hfit wk' A F P hwk' ha) e he
  rw [hw.free wk' (findWorker_some_mem hfw) A F P ha] at h1
  exact h1

/-- one placement. `hr`: the variant exists (`mapSn` evaluated it), `hq`: the placed task has request `rq`
(`QRq` of the state the ids were taken in), `hmn`: `rq` is a single-node request (`SnEntryOk`) -/
theorem placeSn_fr {all : Prop} {s s' : State} {m m' : List WUpdate} {v rq : Nat} {r : Rq} {id : TaskId} {w : Nat}
    (hw : NpW s) (hr : s.rq rq v = .ok r) (hmn : s.isMultiNode rq = false)
    (hq : ∀ t ∈ s.tasks, t.id = id → t.rq = rq)
    (h : s.placeSn m v r id w = .ok (s', m')) : FrQ all s s' := by
  obtain ⟨hfit, hp⟩ := placeSn_cases h
  -- the task is entered at worker `w` first (`s1`); this is where the index bound comes from
  have pre : ∀ {s1 : State} {task : Task}, s.withWorker w (·.insertSn id r) = .ok s1 → s1.getTask id = .ok task →
      Fr all s s1 ∧ s1.queues = s.queues ∧ IdxOk s1 w rq v ∧ findTask s1.tasks id = some task ∧ task.rq = rq ∧
        (∀ t ∈ s1.tasks, t.id = id → t.rq = rq) ∧ s1.isMultiNode task.rq = false := by
    intro s1 task hw1 hgt
    have f1 : Fr all s s1 := withWorker_fr (wop_insertSn _ _) hw1
    have et1 : s1.tasks = s.tasks := withWorker_tasks hw1
    obtain ⟨wk1, wk1', hfw1, hf1, -⟩ := withWorker_spec hw1
    obtain ⟨A, F, P, F', ha, -⟩ := insertSn_spec hf1
    have ht1 : findTask s1.tasks id = some task := getTask_spec hgt
    have hrq : task.rq = rq := hq task (by rw [← et1]; exact findTask_some_mem ht1) (findTask_some_id ht1)
    exact ⟨f1, withWorker_queues hw1, IdxOk.fr f1.rqs f1.w (idxOk_of_placeFits hw hr hfit hfw1 ha), ht1, hrq,
      by rw [et1]; exact hq, by rw [isMultiNode_congr f1.rqs, hrq]; exact hmn⟩
  cases hp with
  | waiting s1 task n hw1 hgt hs =>
    obtain ⟨f1, eq1, hidx1, ht1, hrq, -, hmn1⟩ := pre hw1 hgt
    refine FrQ.of_eq (f1.trans (Fr.setTask (tn := { task with state := .assigned w v }) ht1 rfl rfl
      (mnOkS_of_not_mn (by intro ws e; cases e)) (fun _ => Or.inr hmn1) ?_)) eq1
    rintro w0 v0 (hh | hh | ⟨⟨_, hh⟩, _⟩)
    · cases hh; right; rw [hrq]; exact hidx1
    · cases hh
    · cases hh
  | redirect s1 task old hw1 hgt hs hf =>
    obtain ⟨f1, eq1, hidx1, -, -, hq1, -⟩ := pre hw1 hgt
    exact FrQ.of_eq (f1.trans (Fr.addRd (fun _ hx => (List.mem_filter.mp hx).1) hidx1 hq1)) eq1
  | reredirect s1 task old oldTarget ov r' s3 hw1 hgt hs hf hr' hw3 =>
    obtain ⟨f1, eq1, hidx1, ht1, -, hq1, -⟩ := pre hw1 hgt
    have f2 : Fr all s1 { s1 with redirects := (s1.redirects.filter (·.1 ≠ id)) ++ [(id, w, v)] } :=
      Fr.addRd (fun _ hx => (List.mem_filter.mp hx).1) hidx1 hq1
    have ht3 : findTask s3.tasks id = some task := by rw [withWorker_tasks hw3]; exact ht1
    exact FrQ.of_eq (((f1.trans f2).trans (withWorker_fr (wop_removeSn _ _) hw3)).trans
      (Fr.setSame (tn := { task with state := .retracting old }) ht3 rfl rfl hs.symm))
      ((withWorker_queues hw3).trans eq1)
  | prefilled s1 task old s2 hw1 hgt hs hw2 hn =>
    obtain ⟨f1, eq1, hidx1, ht1, hrq, hq1, -⟩ := pre hw1 hgt
    have f2 : Fr all s1 s2 := withWorker_fr (wop_removePrefill _) hw2
    have et2 : s2.tasks = s1.tasks := withWorker_tasks hw2
    have hidx2 : IdxOk s2 w rq v := IdxOk.fr f2.rqs f2.w hidx1
    have hnr : ∀ x v', (id, x, v') ∉ s2.redirects := fun x v' hmem => by
      have : s2.redirects.any (·.1 = id) = true := List.any_eq_true.mpr ⟨_, hmem, decide_eq_true rfl⟩
      rw [hn] at this
      cases this
    have f3 : Fr all s2 { s2 with redirects := s2.redirects ++ [(id, w, v)] } :=
      Fr.addRd (fun _ hx => hx) hidx2 (by rw [et2]; exact hq1)
    refine FrQ.of_eq (((f1.trans f2).trans f3).trans ?_) ((withWorker_queues hw2).trans eq1)
    refine Fr.setTask (tn := { task with state := .retracting old }) (id := id) (told := task)
      (by show findTask s2.tasks id = some task; rw [et2]; exact ht1) rfl rfl
      (mnOkS_of_not_mn (by intro ws e; cases e)) (fun _ => Or.inl (by rw [hs]; trivial)) ?_
    rintro w0 v0 (hh | hh | ⟨-, hm⟩)
    · cases hh
    · cases hh
    · have hid : task.id = id := findTask_some_id ht1
      rw [show ({ task with state := TS.retracting old } : Task).id = id from hid] at hm
      rcases List.mem_append.mp hm with h1 | h1
      · exact absurd h1 (hnr w0 v0)
      · simp only [List.mem_singleton, Prod.mk.injEq] at h1
        obtain ⟨-, e2, e3⟩ := h1
        right
        rw [e2, e3, hrq]
        exact IdxOk.fr f3.rqs f3.w hidx2

theorem placeAll_fr {all : Prop} (l : List (TaskId × Nat)) (s s' : State) (m m' : List WUpdate) (v rq : Nat) (r : Rq)
    (hw : NpW s) (hr : s.rq rq v = .ok r) (hmn : s.isMultiNode rq = false)
    (hq : ∀ p ∈ l, ∀ t ∈ s.tasks, t.id = p.1 → t.rq = rq)
    (h : s.placeAll m v r l = .ok (s', m')) : FrQ all s s' :=
  (placeAll_ind (P := fun l1 s1 _ => FrQ all s s1 ∧ ∀ p ∈ l1, p ∈ l)
    (fun id w _ _ _ _ _ hP h1 =>
      ⟨hP.1.trans (placeSn_fr (hP.1.fr.npw hw) (by rw [rq_congr hP.1.fr.rqs]; exact hr)
        (by rw [isMultiNode_congr hP.1.fr.rqs]; exact hmn) (hP.1.fr.rq_of_id (hq _ (hP.2 (id, w) List.mem_cons_self))) h1),
       fun p hp => hP.2 p (List.mem_cons_of_mem _ hp)⟩)
    ⟨FrQ.refl _ s, fun _ hp => hp⟩ h).1

theorem mapSn1_fr {all : Prop} {s s' : State} {now : Nat} {m m' : List WUpdate} {e : SnEntry}
    (hw : NpW s) (hq : QRq s) (hok : SnEntryOk s e) (h : s.mapSn now m [e] = .ok (s', m')) : FrQ all s s' := by
  obtain ⟨r, q, q', hr, -, hqq, htk, hp⟩ := mapSn1_ok h
  obtain ⟨a, b⟩ := takeTasks_sub htk
  have f1 : FrQ all s { s with queues := s.queues.set e.rq q' } := FrQ.of_queue_set hqq a
  refine f1.trans (placeAll_fr _ _ _ _ _ _ e.rq _ (f1.fr.npw hw) hr hok.2.1 ?_ hp)
  intro p hp t ht he
  rcases deal_sub _ _ _ _ p hp with h1 | h1
  · cases h1
  · exact hq e.rq q hqq p.1 (b _ h1) t ht he

theorem mapSn_fr {all : Prop} (es : List SnEntry) (s s' : State) (now : Nat) (m m' : List WUpdate)
    (hw : NpW s) (hq : QRq s) (hok : SnOk now s m es) (h : s.mapSn now m es = .ok (s', m')) : FrQ all s s' :=
  (mapSn_ind (P := fun es s1 m1 => FrQ all s s1 ∧ SnOk now s1 m1 es)
    (fun e rest s1 m1 s2 m2 hP h1 => by
      have hok := hP.2
      simp only [SnOk, h1] at hok
      exact ⟨hP.1.trans (mapSn1_fr (hP.1.fr.npw hw) (hP.1.qrq hq) hok.1 h1), hok.2⟩)
    ⟨FrQ.refl _ s, hok⟩ h).1

theorem setMnAll_fr {all : Prop} (l : List Nat) (s s' : State) (id : TaskId) (first : Bool)
    (h : setMnAll s id l first = .ok s') : FrQ all s s' :=
  setMnAll_ind (P := fun s1 => FrQ all s s1)
    (fun _ _ _ _ hP hw => hP.trans (FrQ.of_eq (withWorker_fr (wop_setMn _ _) hw) (withWorker_queues hw)))
    (FrQ.refl _ s) h

theorem mapMnSets1_fr {all : Prop} {s s' : State} {rq : Nat} {ws : List Nat} {acc acc' : List TaskId}
    (hok : MnSetOk s rq ws) (h : s.mapMnSets rq [ws] acc = .ok (s', acc')) : FrQ all s s' := by
  obtain ⟨q, p, id, ids', more, s2, task, hq, hready, hset, hgt, -, rfl, -⟩ := mapMnSets1_ok h
  have t1 : FrQ all s _ :=
    FrQ.of_queue_set (q' := { q with ready := if ids'.isEmpty then more else (p, ids') :: more }) hq (by
      -- the new ready list is `(takeFromFirst q.ready 1).1`
      intro x hx
      rw [qIds_eq] at hx ⊢
      refine (List.mem_append.mp hx).elim (fun h1 => List.mem_append.mpr (.inl ?_)) fun h1 => List.mem_append.mpr (.inr h1)
      rw [hready, NPD.takeFromFirst_ids _ 1]
      exact List.mem_append.mpr (.inr h1))
  refine (t1.trans (setMnAll_fr _ _ _ _ _ hset)).trans (FrQ.of_eq ?_ rfl)
  refine Fr.setTask (tn := { task with state := .runningMN ws }) (getTask_spec hgt) rfl rfl ?_ (fun h => h.elim) ?_
  · intro _ ws' e
    cases e
    exact ⟨hok.1, hok.2.1⟩
  · rintro w0 v0 (hh | hh | ⟨⟨_, hh⟩, _⟩) <;> cases hh

theorem mapMnSets_fr {all : Prop} (sets : List (List Nat)) (s s' : State) (rq : Nat) (acc acc' : List TaskId)
    (hok : MnSetsOk rq s acc sets) (h : s.mapMnSets rq sets acc = .ok (s', acc')) : FrQ all s s' :=
  (mapMnSets_ind (P := fun sets s1 acc1 => FrQ all s s1 ∧ MnSetsOk rq s1 acc1 sets)
    (fun ws rest s1 acc1 s2 acc2 hP h1 => by
      have hok := hP.2
      simp only [MnSetsOk, h1] at hok
      exact ⟨hP.1.trans (mapMnSets1_fr hok.1 h1), hok.2⟩)
    ⟨FrQ.refl _ s, hok⟩ h).1

theorem mapMn_fr {all : Prop} (es : List MnEntry) (s s' : State) (acc acc' : List TaskId)
    (hok : MnEntriesOk s acc es) (h : s.mapMn es acc = .ok (s', acc')) : FrQ all s s' :=
  (mapMn_ind (P := fun es s1 acc1 => FrQ all s s1 ∧ MnEntriesOk s1 acc1 es)
    (fun e rest s1 acc1 s2 acc2 hP h1 => by
      have hok := hP.2
      simp only [MnEntriesOk, h1] at hok
      exact ⟨hP.1.trans (mapMnSets_fr _ _ _ _ _ _ hok.1 h1), hok.2⟩)
    ⟨FrQ.refl _ s, hok⟩ h).1

theorem prefillBack_fr {all : Prop} (rq : Nat) (l : List TaskId) (s s' : State) (keep keep' : List TaskId)
    (h : State.prefillWorker.back rq s l keep = .ok (s', keep')) :
    FrQ all s s' ∧ ∀ x ∈ keep', x ∈ keep ∨ x ∈ l := by
  obtain ⟨-, b, c⟩ := prefillBack_spec _ _ _ _ _ _ h
  exact ⟨⟨prefillBack_ind (P := fun _ s1 _ => Fr all s s1)
    (fun _ _ _ _ _ _ _ hP _ _ hm => hP.trans (movePrefilledToReady_fr hm)) (fun _ _ _ _ _ hP _ _ => hP)
    (Fr.refl _ s) h, b.qsub⟩, c⟩

/-- the `mark` loop: Waiting → Prefilled. `hmn`: the queue index is a single-node request, `hq`: the marked tasks have
that request -/
theorem prefillMark_fr {all : Prop} (w rq : Nat) (l : List TaskId) (s s' : State)
    (hmn : s.isMultiNode rq = false) (hq : ∀ id ∈ l, ∀ t ∈ s.tasks, t.id = id → t.rq = rq)
    (h : State.prefillWorker.mark w s l = .ok s') : FrQ all s s' :=
  (prefillMark_ind (P := fun l1 s1 => FrQ all s s1 ∧ ∀ id ∈ l1, id ∈ l)
    (fun id _ s1 task _ _ hP hgt _ hw => by
      have ht := getTask_spec hgt
      have hrq : task.rq = rq :=
        hP.1.fr.rq_of_id (hq id (hP.2 id List.mem_cons_self)) task (findTask_some_mem ht) (findTask_some_id ht)
      have f1 : Fr all s1 (s1.setTask { task with state := .prefilled w }) :=
        Fr.setTask ht rfl rfl (mnOkS_of_not_mn (by intro ws e; cases e))
          (fun _ => Or.inr (by rw [hrq, isMultiNode_congr hP.1.fr.rqs]; exact hmn))
          (by rintro w0 v0 (hh | hh | ⟨⟨_, hh⟩, _⟩) <;> cases hh)
      exact ⟨hP.1.trans (FrQ.of_eq (f1.trans (withWorker_fr (wop_insertPrefill _) hw)) (withWorker_queues hw :)),
        fun x hx => hP.2 x (List.mem_cons_of_mem _ hx)⟩)
    ⟨FrQ.refl _ s, fun _ hx => hx⟩ h).1

theorem prefillWorker_fr {all : Prop} {s s' : State} {m m' : List WUpdate} {rq size w : Nat}
    (hq : QRq s) (hmn : s.isMultiNode rq = false)
    (h : s.prefillWorker m rq size w = .ok (s', m')) : FrQ all s s' := by
  obtain ⟨q, p, ids0, more, pf, s2, keep, hqq, -, hpf, hb, hm, -⟩ := prefillWorker_path h
  have hsub : ∀ x ∈ qIds ({ ready := (takeFromFirst q.ready size).1, prefill := some pf } : Queue), x ∈ qIds q := by
    intro x hx
    rw [qIds_eq] at hx ⊢
    simp only [List.mem_append] at hx ⊢
    rcases hx with h1 | h1
    · exact Or.inl ((takeFromFirst_sub q.ready size x).1 h1)
    · rcases hpf with ⟨-, rfl⟩ | ⟨ts, hpre, rfl⟩
      · exact Or.inl ((takeFromFirst_sub q.ready size x).2 h1)
      · simp only [hpre]
        rcases List.mem_append.mp h1 with h2 | h2
        · exact Or.inr h2
        · exact Or.inl ((takeFromFirst_sub q.ready size x).2 h2)
  obtain ⟨fb, c⟩ := prefillBack_fr (all := all) _ _ _ _ _ _ hb
  have f2 := (FrQ.of_queue_set (all := all) hqq hsub).trans fb
  refine f2.trans (prefillMark_fr w rq keep s2 _ (by rw [isMultiNode_congr f2.fr.rqs]; exact hmn) ?_ hm)
  intro x hx
  have hxq : x ∈ qIds q := by
    rcases c x hx with h1 | h1
    · cases h1
    · rw [qIds_eq]; exact List.mem_append.mpr (Or.inl ((takeFromFirst_sub q.ready size x).2 h1))
  exact f2.fr.rq_of_id (hq rq q hqq x hxq)

theorem prefillWorkers_fr {all : Prop} (ws : List Nat) (s s' : State) (m m' : List WUpdate) (rq size : Nat)
    (hq : QRq s) (hmn : s.isMultiNode rq = false)
    (h : s.prefillWorkers m rq size ws = .ok (s', m')) : FrQ all s s' :=
  prefillWorkers_ind (P := fun _ s1 _ => FrQ all s s1)
    (fun _ _ _ _ _ _ hP h1 =>
      hP.trans (prefillWorker_fr (hP.qrq hq) (by rw [isMultiNode_congr hP.fr.rqs]; exact hmn) h1))
    (FrQ.refl _ s) h

theorem snState_of_held {st : TS} (h1 : ¬ isWaiting st) (h2 : ¬ locked st) : snState st := by
  cases st <;> simp_all [snState]

/-- a prefill candidate exists only for a single-node request: the worker was given a task of that request in this
round (`MH`: the ids of the update list are held) -/
theorem isMultiNode_of_cands {s : State} {m : List WUpdate} {rq : Nat} (hmn : NpMn s) (hm : MH s m)
    (hc : s.prefillCandidates m rq ≠ []) : s.isMultiNode rq = false := by
  unfold State.prefillCandidates at hc
  obtain ⟨x, hx⟩ := List.exists_mem_of_ne_nil _ hc
  obtain ⟨wk, hwk, _⟩ := List.mem_map.mp hx
  have hp := (List.mem_filter.mp hwk).2
  split at hp
  · cases hp
  · simp only [Bool.and_eq_true] at hp
    have hp1 := hp.1
    split at hp1
    · rename_i u hu
      obtain ⟨a, ha, hrq⟩ := List.any_eq_true.mp hp1
      have hum : u ∈ m := List.mem_of_find?_eq_some hu
      have hmem : a.1 ∈ mIds m := by
        simp only [mIds, List.mem_flatten, List.mem_map]
        exact ⟨uIds u, ⟨u, hum, rfl⟩, List.mem_append.mpr (Or.inl (List.mem_map.mpr ⟨a, ha, rfl⟩))⟩
      obtain ⟨t, hf, hnw, hnl⟩ := hm _ hmem
      have hrq' : t.rq = rq := by
        simp only [taskRq, State.task?, hf, Option.map_some, beq_iff_eq, Option.some.injEq] at hrq
        exact hrq
      rw [← hrq']
      exact hmn.sn t (findTask_some_mem hf) (snState_of_held hnw hnl)
    · cases hp1

theorem proactive_fr {all : Prop} {c0 : State} {acc : List TaskId} (n : Nat) (s s' : State) (m m' : List WUpdate)
    (orders : List (Nat × List Nat)) (top : Int) (rq : Nat) (hq : QRq s) (hmn : NpMn s) (hm : SI c0 s m acc)
    (h : s.proactive m orders top n rq = .ok (s', m')) : FrQ all s s' := by
  refine (proactive_ind (P := fun s1 m1 => FrQ all s s1 ∧ SI c0 s1 m1 acc)
    (fun s0 m0 rq q pfs ord s1 m1 hP hf _ h1 => ?_) ⟨FrQ.refl _ s, hm⟩ h).1
  obtain ⟨f0, hm0⟩ := hP
  have f1 : FrQ all s0 s1 :=
    prefillWorkers_fr _ _ _ _ _ _ _ (f0.qrq hq) (isMultiNode_of_cands (f0.fr.npmn hmn) hm0.mh hf.cands) h1
  exact ⟨f0.trans f1, prefillWorkers_si hm0 h1⟩

theorem schedule_fr {all : Prop} {s s' : State} {sol : Solution} {o : Out} (hq : QRq s) (hw : NpW s) (hmn : NpMn s)
    (hok : SolOk s sol) (h : s.schedule sol = .ok (s', o)) : Fr all s s' := by
  obtain ⟨s1, m1, s2, mnTasks, s3, m3, msgs, mm, top, n, h1, h2, -, h3, -, -, rfl, -⟩ := schedule_path h
  have hok2 := hok.2
  simp only [h1] at hok2
  have f12 : FrQ all s s2 := (mapSn_fr _ _ _ _ _ _ hw hq hok.1 h1).trans (mapMn_fr _ _ _ _ _ hok2 h2)
  obtain ⟨i1, p1⟩ := mapSn_si (SI.init s) (fun _ hu => by cases hu) h1
  have f3 : FrQ all s2 s3 := proactive_fr _ _ _ _ _ _ _ _ (f12.qrq hq) (f12.fr.npmn hmn)
    (mapMn_si (sort_si _ i1 p1).1 h2) h3
  exact (f12.trans f3).fr.trans (Fr.of_same rfl rfl (WFr.refl _) (fun _ h => h) rfl)

end HqModel.Core.NPA
