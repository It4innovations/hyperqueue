import HqModel.Lemmas.AutoAllocFrame
/-!
The ledger of AutoAllocLedger on the whole state (C18 `c18_announce_step`): `SLedger` holds of every step except the
accepted removal of a queue. The moves `STrans` carry the ledger of the queues they overwrite, so a step keeps it by
`step_frame`.
-/
namespace HqModel.AutoAlloc

/-- `QLedger` for every (queue, allocation) of a state -/
def SLedger (s s' : State) (outs : List Out) : Prop :=
  ∀ x a, (s.fin x a + cntF x a outs = s'.fin x a ∧ s.past x a + cntS x a outs ≤ s'.past x a) ∧ Ordered x a outs

theorem SLedger.refl (s : State) : SLedger s s [] :=
  fun _ _ => ledger_zero rfl rfl

theorem SLedger.trans {a b d : State} {o1 o2 : List Out} (h1 : SLedger a b o1) (h2 : SLedger b d o2) :
    SLedger a d (o1 ++ o2) :=
  fun x y => ledger_add (h1 x y) (h2 x y) (b.fin_le_past x y).1 (d.fin_le_past x y).2

theorem SLedger.add_silent {a b : State} {o1 : List Out} (h : SLedger a b o1) (o2 : List Out) (ho : Silent o2) :
    SLedger a b (o1 ++ o2) :=
  h.trans fun x y => ledger_zero (cnt_zero_of_silent x y o2 ho).1 (cnt_zero_of_silent x y o2 ho).2

theorem SLedger.congr_queues {s t t' : State} {outs : List Out} (h : SLedger s t outs)
    (hq : ∀ x, t'.getQueue x = t.getQueue x) : SLedger s t' outs := by
  intro x a
  have := h x a
  simp only [State.fin, State.past, hq] at this ⊢
  exact this

theorem SLedger.setQueue {s t : State} {o1 : List Out} (h : SLedger s t o1) (k : Nat) (qq q2 : Queue)
    (outs : List Out) (hk : t.getQueue k = some qq) (hl : QLedger qq q2 outs) :
    SLedger s (t.setQueue q2) (o1 ++ outs) := by
  refine h.trans fun x a => ?_
  obtain ⟨hid, hl⟩ := hl
  have hkid := State.getQueue_id t k qq hk
  unfold State.fin State.past
  rw [State.getQueue_setQueue]
  by_cases hx : x = q2.id
  · obtain rfl : x = k := hx.trans (hid.trans hkid)
    rw [if_pos hx, hk]
    exact (hl x a).1 (hx.trans hid)
  · obtain ⟨c1, c2⟩ := (hl x a).2 fun h => hx (h.trans hid.symm)
    rw [if_neg hx]
    exact ledger_zero c1 c2

theorem SLedger.pauseAll {s t : State} {outs : List Out} (h : SLedger s t outs) : SLedger s t.pauseAll outs := by
  intro x a
  have := h x a
  unfold State.fin State.past at this ⊢
  rw [State.getQueue_pauseAll]
  cases hq : t.getQueue x with
  | none => rw [hq] at this; exact this
  | some q =>
    rw [hq] at this
    rcases q.tryPause_cases with h' | ⟨_, h'⟩ <;> rw [Option.map_some, h'] <;> exact this

theorem STrans.ledger {c : Consts} {P : Nat → AIn → Prop} {s t : State} {o : List Out} (h : STrans c P s t o) :
    SLedger s t o := by
  induction h with
  | refl => exact .refl _
  | setQueue k qq q2 o' _ hk _ hl ih => exact ih.setQueue k qq q2 o' hk hl
  | pauseAll _ ih => exact ih.pauseAll
  | addA2q _ _ _ ih => exact ih.congr_queues fun _ => rfl
  | quiet o' hq _ ih => exact ih.add_silent o' hq.1

theorem no_life_of_literal {l : List Out} (h : ∀ o ∈ l, ¬ o.isLifeEvent) : ∀ o ∈ l, ¬ o.isLifeEvent := h

theorem step_SLedger (s : State) (e : Ev)
    (hrm : ∀ x f, e = .removeQueue x f → (step s e).st.queues = s.queues) :
    SLedger s (step s e).st (step s e).outs := by
  rcases step_frame s e with
    hT | ⟨hQ, ⟨k, q, _, hk, hst⟩ | ⟨p, lim, qid, _, new, hst, hnew⟩ | ⟨k, f, _, _, rfl, _, _⟩⟩
  · exact hT.ledger
  · rw [hst]
    exact ((SLedger.refl s).setQueue k q { q with active := true, lim := q.lim.onResume s.consts.resumeMask } [] hk
      (QLedger.of_allocs _ _ rfl rfl)).add_silent _ hQ.1
  · -- a new queue comes last and has no allocations
    rw [hst]
    refine SLedger.add_silent (o1 := []) (fun x a => ⟨?_, Ordered.of_cntF rfl⟩) _ hQ.1
    unfold State.fin State.past
    rw [State.getQueue_append]
    cases hf : s.getQueue x with
    | some q => simp [cntF, cntS]
    | none =>
      rcases hnew with rfl | ⟨rfl, _⟩
      · simp [cntF, cntS]
      · simp only [Option.none_or, List.find?_cons, List.find?_nil]
        cases hb : (qid.getD s.nextId == x) <;> simp [Queue.fin, Queue.past, Queue.findAlloc, cntF, cntS]
  · exact ((SLedger.refl s).congr_queues fun x => by unfold State.getQueue; rw [hrm k f rfl]).add_silent _ hQ.1

end HqModel.AutoAlloc
