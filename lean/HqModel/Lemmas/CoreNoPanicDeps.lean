import HqModel.Lemmas.CoreNoPanicBase
/-!
Preservation of `NpDeps U s` (dependency registration). `NpDeps` reads of a task record only its skeleton `sk t`. `DS s s'`
(the task lists agree on `sk`, record by record and lookup by lookup) is a preorder along which `NpDeps` transfers.
Every function of the model except `removeTask` / `registerDeps` and their callers is `DS` without any side hypothesis,
not even unique ids: it is what the descent lemma of the function says about lookups (`Desc.ds`, `NpDeps.of_desc`). While
`remove_task` has erased a record and is still unregistering it from its dependencies, `NpX U id L ts` holds.
-/
namespace HqModel.Core.NPB

open HqModel.Core.NP

/-- the part of a task record that `NpDeps` reads -/
def sk (t : Task) : TaskId × List TaskId × List TaskId := (t.id, t.consumers, t.deps)

theorem sk_eq {a b : Task} : sk a = sk b ↔ a.id = b.id ∧ a.consumers = b.consumers ∧ a.deps = b.deps := by
  simp [sk]

def DS (s s' : State) : Prop := FRel sk s.tasks s'.tasks

theorem DS.refl (s : State) : DS s s := FRel.refl _ _

theorem DS.trans {a b c : State} (h1 : DS a b) (h2 : DS b c) : DS a c := FRel.trans h1 h2

theorem DS.of_tasks {s s' : State} (h : s'.tasks = s.tasks) : DS s s' := by
  unfold DS; rw [h]; exact FRel.refl _ _

theorem DS.setTask {s : State} {t' : Task} (hf : ∀ told, s.task? t'.id = some told → sk t' = sk told) :
    DS s (s.setTask t') := FRel.put hf

/-- the record is spelt out field by field so that every `{ told with state := …, inst := … }` of the acts unifies with it -/
theorem DS.setState {s : State} {told : Task} {st : TS} {rq : Nat} {prio : Int} {cl : CrashLimit} {inst crashes : Nat}
    (hf : findTask s.tasks told.id = some told) :
    DS s (s.setTask ⟨told.id, st, told.consumers, told.deps, rq, prio, cl, inst, crashes⟩) := by
  refine DS.setTask fun t0 h0 => ?_
  have : some t0 = some told := h0.symm.trans hf
  cases this
  rfl

theorem DS.ask (s : State) : DS s (ask s) := DS.of_tasks rfl

theorem DS.setWorker (s : State) (w : Worker) : DS s (s.setWorker w) := DS.of_tasks rfl

theorem _root_.HqModel.Core.NpDeps.of_ds {U : List TaskId} {s s' : State} (h : NpDeps U s) (d : DS s s') :
    NpDeps U s' := by
  have hm : ∀ t' ∈ s'.tasks, ∃ t ∈ s.tasks, t.id = t'.id ∧ t.consumers = t'.consumers ∧ t.deps = t'.deps := by
    intro t' ht'
    obtain ⟨t, ht, _, e⟩ := d.mem t' ht'
    exact ⟨t, ht, sk_eq.mp e⟩
  have hf : ∀ x t', s'.task? x = some t' →
      ∃ t, s.task? x = some t ∧ t.id = t'.id ∧ t.consumers = t'.consumers ∧ t.deps = t'.deps := by
    intro x t' hx
    obtain ⟨t, ht, e⟩ := d.find_some hx
    exact ⟨t, ht, sk_eq.mp e⟩
  refine ⟨?cin, ?cdep, ?reg, ?dnd, ?uD⟩
  case cin =>
    intro t' ht' c hc
    obtain ⟨t, ht, _, e2, _⟩ := hm t' ht'
    have := h.cin t ht c (e2 ▸ hc)
    show (findTask s'.tasks c).isSome = true
    rw [d.find_isSome c]; exact this
  case cdep =>
    intro t' ht' c hc ct' hct'
    obtain ⟨t, ht, e1, e2, _⟩ := hm t' ht'
    obtain ⟨ct, hct, _, _, f3⟩ := hf c ct' hct'
    rw [← e1, ← f3]
    exact h.cdep t ht c (e2 ▸ hc) ct hct
  case reg =>
    intro ct' hct' x hx dt' hdt'
    obtain ⟨ct, hct, e1, _, e3⟩ := hm ct' hct'
    obtain ⟨dt, hdt, _, f2, _⟩ := hf x dt' hdt'
    rw [← e1, ← f2]
    exact h.reg ct hct x (e3 ▸ hx) dt hdt
  case dnd =>
    intro t' ht'
    obtain ⟨t, ht, _, _, e3⟩ := hm t' ht'
    rw [← e3]; exact h.dnd t ht
  case uD =>
    intro t' ht' x hx
    obtain ⟨t, ht, _, _, e3⟩ := hm t' ht'
    exact h.uD t ht x (e3 ▸ hx)

theorem _root_.HqModel.Core.NpDeps.of_tasks_eq {U : List TaskId} {s s' : State} (h : NpDeps U s)
    (e : s'.tasks = s.tasks) : NpDeps U s' := h.of_ds (DS.of_tasks e)

theorem _root_.HqModel.Core.NpDeps.put {U : List TaskId} {s : State} {t' : Task} (h : NpDeps U s)
    (hf : ∀ told, s.task? t'.id = some told →
      t'.id = told.id ∧ t'.consumers = told.consumers ∧ t'.deps = told.deps) : NpDeps U (s.setTask t') :=
  h.of_ds (DS.setTask fun told ht => sk_eq.mpr (hf told ht))

theorem _root_.HqModel.Core.NpDeps.mono_U {U U' : List TaskId} {s : State} (h : NpDeps U s)
    (hu : ∀ x ∈ U, x ∈ U') : NpDeps U' s :=
  ⟨h.cin, h.cdep, h.reg, h.dnd, fun t ht d hd => hu d (h.uD t ht d hd)⟩

/-- an operation that neither erases a record nor rewrites a consumer list keeps the skeleton of what every lookup
finds (`Desc.look`): this is `DS`, whatever the record rewrites of the operation are -/
theorem _root_.HqModel.Core.Desc.ds {RT : Task → Task → Prop} {RW : Worker → Worker → Prop} {s s' : State}
    (h : Desc RT RW False s s') : DS s s' := by
  obtain ⟨hl, hm⟩ := h.look id
  refine ⟨fun x => ?_, fun t' ht' => ?_⟩
  · cases hx : findTask s'.tasks x with
    | none =>
      have := not_mem_of_findTask_none hx
      rw [h.frame.keep] at this
      rw [findTask_none_of_not_mem this]
    | some t' =>
      obtain ⟨t, h0, e⟩ := hl x t' hx
      rw [show findTask s.tasks x = some t from h0]
      exact congrArg some e
  · obtain ⟨t, ht, e⟩ := hm t' ht'
    exact ⟨t, ht, (congrArg (·.1) e).symm, e.symm⟩

theorem _root_.HqModel.Core.NpDeps.of_desc {U : List TaskId} {RT : Task → Task → Prop} {RW : Worker → Worker → Prop}
    {s s' : State} (h : NpDeps U s) (d : Desc RT RW False s s') : NpDeps U s' := h.of_ds d.ds

theorem addReady_ds {s s' : State} {t : Task} {r : List TaskId} (h : s.addReady t = .ok (s', r)) : DS s s' :=
  (addReady_desc (RT := Eq) (RW := Eq) h).ds

theorem withWorker_ds {s s' : State} {w : Nat} {g : Worker → M Worker} (h : s.withWorker w g = .ok s') : DS s s' :=
  DS.of_tasks (withWorker_tasks h)

section

variable {U : List TaskId} {s s' : State}

theorem addReady_npdeps {t : Task} {r : List TaskId} (h : NpDeps U s) (heq : s.addReady t = .ok (s', r)) :
    NpDeps U s' := h.of_desc (RT := Eq) (RW := Eq) (addReady_desc heq)

theorem queueRemove_npdeps {rq : Nat} {t : TaskId} {p : Int} (h : NpDeps U s)
    (heq : s.queueRemove rq t p = .ok s') : NpDeps U s' := h.of_desc (RT := Eq) (RW := Eq) (queueRemove_desc heq)

theorem removePrefilled_npdeps {rq : Nat} {t : TaskId} (h : NpDeps U s)
    (heq : s.removePrefilled rq t = .ok s') : NpDeps U s' := h.of_desc (RT := Eq) (RW := Eq) (removePrefilled_desc heq)

theorem movePrefilledToReady_npdeps {rq : Nat} {t : TaskId} (h : NpDeps U s)
    (heq : s.movePrefilledToReady rq t = .ok s') : NpDeps U s' :=
  h.of_desc (RT := Eq) (RW := Eq) (movePrefilledToReady_desc heq)

theorem withWorker_npdeps {w : Nat} {g : Worker → M Worker} (h : NpDeps U s) (heq : s.withWorker w g = .ok s') :
    NpDeps U s' := h.of_ds (withWorker_ds heq)

theorem tryRemoveRedirection_npdeps {t : TaskId} {rq : Nat} (h : NpDeps U s)
    (heq : s.tryRemoveRedirection t rq = .ok s') : NpDeps U s' := h.of_desc (RT := Eq) (tryRemoveRedirection_desc heq)

theorem processRetracted_npdeps {l : List TaskId} {acc acc' : List (Nat × TaskId)} (h : NpDeps U s)
    (heq : s.processRetracted l acc = .ok (s', acc')) : NpDeps U s' := h.of_desc (processRetracted_desc l heq)

theorem retract_npdeps {l : List TaskId} {o : Out} (h : NpDeps U s) (heq : s.retract l = .ok (s', o)) :
    NpDeps U s' := h.of_desc (retract_desc heq)

end

/-- the invariant while `id` is erased from the map and (at most) the tasks `L` still list it -/
structure NpX (U : List TaskId) (id : TaskId) (L : List TaskId) (ts : List Task) : Prop where
  nd : (taskIds ts).Nodup
  cnd : ∀ t ∈ ts, t.consumers.Nodup
  nin : findTask ts id = none
  cin : ∀ t ∈ ts, ∀ c ∈ t.consumers, c ≠ id → (findTask ts c).isSome = true
  lis : ∀ t ∈ ts, id ∈ t.consumers → t.id ∈ L
  cdep : ∀ t ∈ ts, ∀ c ∈ t.consumers, ∀ ct, findTask ts c = some ct → t.id ∈ ct.deps
  reg : ∀ ct ∈ ts, ∀ d ∈ ct.deps, ∀ dt, findTask ts d = some dt → ct.id ∈ dt.consumers
  dnd : ∀ t ∈ ts, t.deps.Nodup
  uD : ∀ t ∈ ts, ∀ d ∈ t.deps, d ∈ U

theorem NpX.mono {U id L L' ts} (h : NpX U id L ts) (hl : ∀ x ∈ L, x ∈ L') : NpX U id L' ts :=
  ⟨h.nd, h.cnd, h.nin, h.cin, fun t ht hc => hl _ (h.lis t ht hc), h.cdep, h.reg, h.dnd, h.uD⟩

theorem NpX.done {U id} {s : State} (h : NpX U id [] s.tasks) : NpDeps U s := by
  refine ⟨?_, h.cdep, h.reg, h.dnd, h.uD⟩
  intro t ht c hc
  refine h.cin t ht c hc ?_
  intro e
  subst e
  have := h.lis t ht hc
  cases this

theorem NpX.of_erase {U : List TaskId} {s : State} {id : TaskId} {L : List TaskId} (h : NpDeps U s)
    (hn : (taskIds s.tasks).Nodup) (hc : ∀ t ∈ s.tasks, t.consumers.Nodup)
    (hl : ∀ dt ∈ s.tasks, id ∈ dt.consumers → dt.id = id ∨ dt.id ∈ L) : NpX U id L (eraseTask s.tasks id) := by
  have hfind : ∀ c t, findTask (eraseTask s.tasks id) c = some t → findTask s.tasks c = some t := by
    intro c t hc
    rw [findTask_eraseTask hn] at hc
    split at hc
    · cases hc
    · exact hc
  refine ⟨List.Sublist.nodup (taskIds_eraseTask_sublist _ id) hn, fun t ht => hc t (mem_eraseTask ht),
    findTask_eraseTask_self hn, ?_, ?_, ?_, ?_, fun t ht => h.dnd t (mem_eraseTask ht),
    fun t ht => h.uD t (mem_eraseTask ht)⟩
  · intro t ht c hcm hne
    have := h.cin t (mem_eraseTask ht) c hcm
    rw [findTask_eraseTask hn, if_neg hne]
    exact this
  · intro t ht hcm
    rcases hl t (mem_eraseTask ht) hcm with e | e
    · exact absurd e (not_mem_eraseTask_id hn ht)
    · exact e
  · intro t ht c hcm ct hct
    exact h.cdep t (mem_eraseTask ht) c hcm ct (hfind c ct hct)
  · intro ct hct d hd dt hdt
    exact h.reg ct (mem_eraseTask hct) d hd dt (hfind d dt hdt)

theorem removeConsumer_npx {U : List TaskId} {id d : TaskId} {L : List TaskId} {ts ts' : List Task}
    (h : NpX U id (d :: L) ts) (heq : removeConsumer ts d id = .ok ts') : NpX U id L ts' := by
  rcases removeConsumer_cases heq with ⟨hd, rfl⟩ | ⟨dt, hd, -, rfl⟩
  · refine ⟨h.nd, h.cnd, h.nin, h.cin, ?_, h.cdep, h.reg, h.dnd, h.uD⟩
    intro t ht hc
    rcases List.mem_cons.mp (h.lis t ht hc) with e | e
    · exfalso
      exact not_mem_of_findTask_none hd (e ▸ List.mem_map_of_mem (f := (·.id)) ht)
    · exact e
  · have hid : dt.id = d := findTask_some_id hd
    have hdm : dt ∈ ts := findTask_some_mem hd
    generalize hnew : ({ dt with consumers := dt.consumers.erase id } : Task) = new
    have nid : new.id = d := by rw [← hnew]; exact hid
    have ndeps : new.deps = dt.deps := by rw [← hnew]
    have ncons : new.consumers = dt.consumers.erase id := by rw [← hnew]
    have hne : id ≠ d := by
      intro e
      have := h.nin
      rw [e, hd] at this
      cases this
    have F1 : ∀ x ∈ putTask ts new, ∃ x0 ∈ ts, x.id = x0.id ∧ x.deps = x0.deps ∧
        (∀ c ∈ x.consumers, c ∈ x0.consumers) ∧ (x0.consumers.Nodup → x.consumers.Nodup) ∧
        (id ∈ x.consumers → x0.id ≠ d ∧ id ∈ x0.consumers) := by
      intro x hx
      rcases mem_putTask' hx with e | ⟨e1, e2⟩
      · subst e
        refine ⟨dt, hdm, nid.trans hid.symm, ndeps, ?_, ?_, ?_⟩
        · intro c hc; rw [ncons] at hc; exact List.mem_of_mem_erase hc
        · intro hh; rw [ncons]; exact hh.erase id
        · intro hh
          rw [ncons, (h.cnd dt hdm).mem_erase_iff] at hh
          exact absurd rfl hh.1
      · exact ⟨x, e1, rfl, rfl, fun _ hc => hc, fun hh => hh, fun hh => ⟨by rw [← nid]; exact e2, hh⟩⟩
    have F2 : ∀ x, findTask (putTask ts new) x = if x = d then some new else findTask ts x := by
      intro x
      rw [findTask_putTask, nid]
      split
      · rename_i e; rw [e, hd]; rfl
      · rfl
    have F3 : ∀ x, (findTask ts x).isSome = true → (findTask (putTask ts new) x).isSome = true := by
      intro x hx
      rw [F2]
      split
      · rfl
      · exact hx
    refine ⟨by rw [taskIds_putTask]; exact h.nd, ?cnd, ?nin, ?cin, ?lis, ?cdep, ?reg, ?dnd, ?uD⟩
    case cnd =>
      intro x hx
      obtain ⟨x0, hx0, _, _, _, e4, _⟩ := F1 x hx
      exact e4 (h.cnd x0 hx0)
    case nin =>
      rw [F2, if_neg hne]; exact h.nin
    case cin =>
      intro x hx c hc hcne
      obtain ⟨x0, hx0, _, _, e3, _⟩ := F1 x hx
      exact F3 c (h.cin x0 hx0 c (e3 c hc) hcne)
    case lis =>
      intro x hx hc
      obtain ⟨x0, hx0, e1, _, _, _, e5⟩ := F1 x hx
      obtain ⟨a, b⟩ := e5 hc
      rcases List.mem_cons.mp (h.lis x0 hx0 b) with e | e
      · exact absurd e a
      · rw [e1]; exact e
    case cdep =>
      intro x hx c hc ct hct
      obtain ⟨x0, hx0, e1, _, e3, _⟩ := F1 x hx
      rw [F2] at hct
      rw [e1]
      split at hct
      · rename_i e
        cases hct
        rw [ndeps]
        exact h.cdep x0 hx0 c (e3 c hc) dt (e ▸ hd)
      · exact h.cdep x0 hx0 c (e3 c hc) ct hct
    case reg =>
      intro ct hct x hx dtx hdtx
      obtain ⟨ct0, hct0, e1, e2, _⟩ := F1 ct hct
      rw [F2] at hdtx
      rw [e1]
      split at hdtx
      · rename_i e
        cases hdtx
        rw [ncons]
        have hin : ct0.id ∈ dt.consumers := h.reg ct0 hct0 x (e2 ▸ hx) dt (e ▸ hd)
        have hne2 : ct0.id ≠ id := by
          intro e'
          exact not_mem_of_findTask_none h.nin (e' ▸ List.mem_map_of_mem (f := (·.id)) hct0)
        exact (List.mem_erase_of_ne hne2).mpr hin
      · exact h.reg ct0 hct0 x (e2 ▸ hx) dtx hdtx
    case dnd =>
      intro x hx
      obtain ⟨x0, hx0, _, e2, _⟩ := F1 x hx
      rw [e2]; exact h.dnd x0 hx0
    case uD =>
      intro x hx y hy
      obtain ⟨x0, hx0, _, e2, _⟩ := F1 x hx
      exact h.uD x0 hx0 y (e2 ▸ hy)

theorem removeConsumers_npx {U : List TaskId} {id : TaskId} : ∀ {deps : List TaskId} {L : List TaskId}
    {ts ts' : List Task}, NpX U id (deps ++ L) ts → removeConsumers ts id deps = .ok ts' → NpX U id L ts'
  | [], _, _, _, h, heq => by cases heq; exact h
  | d :: rest, _, _, _, h, heq => by
    obtain ⟨ts1, h1, h2⟩ := removeConsumers_cons_ok heq
    exact removeConsumers_npx (removeConsumer_npx h h1) h2

/-- **`Core::remove_task`**. `hl`: a task that is not `Waiting (n+1)` is listed by nobody (but possibly itself). -/
theorem removeTask_npdeps {U : List TaskId} {s s' : State} {id : TaskId} {st : TS} (h : NpDeps U s)
    (hn : (taskIds s.tasks).Nodup) (hc : ∀ t ∈ s.tasks, t.consumers.Nodup)
    (hl : ∀ task, s.task? id = some task → (∀ n, task.state ≠ .waiting (n + 1)) →
      ∀ dt ∈ s.tasks, id ∈ dt.consumers → dt.id = id)
    (heq : s.removeTask id = .ok (s', st)) : NpDeps U s' := by
  obtain ⟨task, ht, rfl, hcase⟩ := removeTask_cases heq
  have hx0 : (∀ n, task.state ≠ .waiting (n + 1)) → NpX U id [] (eraseTask s.tasks id) := fun hw =>
    NpX.of_erase h hn hc fun dt hdt hcm => Or.inl (hl task ht hw dt hdt hcm)
  rcases hcase with ⟨hnw, _, rfl⟩ | ⟨s1, hq, hcase⟩
  · exact (hx0 fun n => hnw _).done
  · obtain ⟨_, rfl⟩ := queueRemove_ok_iff.mp hq
    rcases hcase with ⟨hs, rfl⟩ | ⟨n, ts, hs, hrc, rfl⟩
    · refine (hx0 fun n e => ?_).done
      rcases hs with hs | ⟨w, hs⟩ <;> rw [hs] at e <;> cases e
    · have hx : NpX U id (task.deps ++ []) (eraseTask s.tasks id) := by
        refine NpX.of_erase h hn hc fun dt hdt hcm => Or.inr ?_
        simpa using h.cdep dt hdt id hcm task ht
      exact (removeConsumers_npx hx hrc).done

/-- `remove_task` under the queue invariant: `f` is nobody, or the task that is removed -/
theorem removeTask_npdeps_q {U : List TaskId} {f : Option TaskId} {pend : List TaskId} {s s' : State} {id : TaskId}
    {st : TS} (h : NpDeps U s) (hq : QInv U f pend s) (hf : f = none ∨ f = some id)
    (heq : s.removeTask id = .ok (s', st)) : NpDeps U s' := by
  refine removeTask_npdeps h hq.nd hq.cnd ?_ heq
  intro task ht hw dt hdt hcm
  have hs : slack task.state = 0 := by
    cases hst : task.state with
    | waiting n =>
      cases n with
      | zero => rfl
      | succ m => exact absurd hst (hw m)
    | _ => rfl
  have := hq.nl_of_slack ht hs dt hdt hcm
  rcases hf with e | e
  · rw [e] at this; cases this
  · rw [e] at this; cases this; rfl

section

variable {U : List TaskId} {s s' : State}

theorem newRq_npdeps (rqv : Rqv) (h : NpDeps U s) : NpDeps U (s.newRq rqv) := h.of_tasks_eq rfl

theorem resetMnAll_npdeps {ws : List Nat} (h : NpDeps U s) (heq : resetMnAll s ws = .ok s') : NpDeps U s' :=
  h.of_desc (RT := Eq) (resetMnAll_desc ws heq)

theorem resetMnChecked_npdeps {ws : List Nat} {id : TaskId} (h : NpDeps U s)
    (heq : resetMnChecked s id ws = .ok s') : NpDeps U s' := resetMnAll_npdeps h (resetMnChecked_resetMnAll ws heq)

theorem cancelLoop_npdeps {ids : List TaskId} {u u' : List TaskId} {r r' : List (Nat × List TaskId)}
    (h : NpDeps U s) (heq : s.cancelLoop ids u r = .ok (s', u', r')) : NpDeps U s' :=
  h.of_desc (RT := Eq) (cancelLoop_desc ids heq)

end

theorem removeTasksBatched_npdeps : ∀ (ids : List TaskId) {U pend : List TaskId} {s s' : State}, NpDeps U s →
    QInv U none pend s → s.removeTasksBatched ids = .ok s' → NpDeps U s'
  | [], _, _, _, _, h, _, heq => by cases heq; exact h
  | id :: rest, _, _, _, _, h, hq, heq => by
    obtain ⟨s1, st, h1, h2⟩ := removeTasksBatched_cons_ok heq
    exact removeTasksBatched_npdeps rest (removeTask_npdeps_q h hq (Or.inl rfl) h1) (removeTask_safe h1 _ _ _ hq) h2

theorem removeWaitingAll_npdeps (ids : List TaskId) {U pend : List TaskId} {s s' : State} (h : NpDeps U s)
    (hq : QInv U none pend s) (heq : s.removeWaitingAll ids = .ok s') : NpDeps U s' :=
  removeTasksBatched_npdeps ids h hq (removeWaitingAll_batched ids heq)

end HqModel.Core.NPB
