import HqModel.Lemmas.SysInv
/-!
One reactor function of the core that makes callbacks, followed by the delivery of those callbacks to the job layer: the
job layer accepts them and the coupling is re-established (`GoodR c' rets' (route js rets o.cbs)`): `pair_finished`,
`pair_running`, `pair_newWorker`, `pair_failed`, `pair_workerLost`. `pair_failed` covers the re-entrant `on_task_error →
process_task_failed → on_cancel_tasks` in two halves; the second — the job layer aborts what is left of the job, the core
cancels it — is the pairing of a client cancel (`Coupled0.killed`). First the side conditions the composed theorems carry:
`FinProto`, `UpdOk`, `OpOk`, `RunOk` (`opOk2_of_opOk`: they contain the core's).
-/
namespace HqModel.Sys
open HqModel

/-- a worker reports `finished` only for a task it reported `running` before (messages of one connection are
ordered): the core knows the task as Running, or as RunningMultiNode with the `started` flag of the root's
assignment set — or does not know it any more -/
def FinProto (c : Core.State) (t : TaskId) : Prop :=
  match c.task? t with
  | none => True
  | some task =>
    match task.state with
    | .running _ _ => True
    | .runningMN (root :: _) =>
      match c.worker? root with
      | some wk =>
        match wk.assign with
        | .mn t' _ st => t' = t ∧ st = true
        | _ => False
      | none => False
    | _ => False

instance (c : Core.State) (t : TaskId) : Decidable (FinProto c t) := by
  unfold FinProto
  split
  · infer_instance
  · split
    · infer_instance
    · split
      · split <;> infer_instance
      · infer_instance
    · infer_instance

theorem hot_of_finProto {c : Core.State} {t : TaskId} {task : Core.Task} (ht : c.task? t = some task)
    (hp : FinProto c t) : Core.hot c t := by
  have hst := Core.stOf_of_find (show Core.findTask c.tasks t = some task from ht)
  simp only [FinProto, ht] at hp
  split at hp
  · rename_i w v hs; exact .inl ⟨w, v, by rw [hst, hs]⟩
  · rename_i root rest hs
    split at hp
    · rename_i wk hw
      split at hp
      · rename_i t' r st ha
        obtain ⟨rfl, rfl⟩ := hp
        exact .inr ⟨_, by rw [hst, hs], root, wk, r, hw, ha⟩
      · exact hp.elim
    · exact hp.elim
  · exact hp.elim

/-- the Reject protocol condition of the core, and `FinProto` for a `finished` -/
def UpdOk (c : Core.State) (w : Nat) (u : Core.Update) : Prop :=
  Core.UpdProto c w u ∧
  match u with
  | .finished t => FinProto c t
  | _ => True

instance (c : Core.State) (w : Nat) (u : Core.Update) : Decidable (UpdOk c w u) := by
  unfold UpdOk
  cases u <;> infer_instance

theorem UpdOk.proto {c : Core.State} {w : Nat} {u : Core.Update} (h : UpdOk c w u) : Core.UpdProto c w u := h.1

/-- the side condition of a world action, decidable (a driver that replays a real trace through `Sys.step` evaluates it on
the pre-state of every action): the core's `OpOk2` — fresh worker record, the Reject protocol condition on every update,
the queue condition and the multi-node placement condition of a scheduling round: what makes `InvF` inductive —;
`FinProto` on every `finished` update, in the state in which the reactor processes it; a new worker's id is not known to
the job layer yet (ids come from a counter); `SubmitOk`: an array submit has one entry per id and names no id twice -/
def OpOk (s : State) : Op → Prop
  | .newWorker w => Core.FreshWorker w ∧ w.id ∉ s.job.workers
  | .update w us rets => Core.UpdatesOk UpdOk s.core w us rets
  | .schedule sol => Core.QueueOkD s.core ∧ Core.SolMnOk s.core sol
  | .submit _ _ desc _ => SubmitOk desc
  | _ => True

instance (s : State) (op : Op) : Decidable (OpOk s op) := by
  cases op <;> simp only [OpOk] <;> infer_instance

theorem opOk2_of_opOk {s : State} {op : Op} {cop : Core.Op} (h : OpOk s op) (hc : coreOp op = some cop) :
    Core.OpOk2 s.core cop := by
  cases op with
  | newWorker w => cases hc; exact h.1
  | update w us rets => cases hc; exact Core.UpdatesOk.mono (fun _ _ _ h => h.proto) _ _ _ h
  | schedule sol => cases hc; exact h
  | openJob | close | forget => cases hc
  | _ => cases hc; trivial

/-- the side condition holds for every action of a run, each evaluated in the state it is applied to -/
def RunOk (s : State) : List Op → Prop
  | [] => True
  | op :: ops =>
    OpOk s op ∧
    match step s op with
    | .ok (s1, _) => RunOk s1 ops
    | .error _ => True

instance RunOk.decidable : ∀ (ops : List Op) (s : State), Decidable (RunOk s ops)
  | [], _ => isTrue trivial
  | op :: ops, s => by
    simp only [RunOk]
    cases h : step s op with
    | error e => simp only; infer_instance
    | ok r =>
      obtain ⟨s1, o⟩ := r
      simp only
      have := RunOk.decidable ops s1
      infer_instance

theorem pair_finished {js : Job.State} {c c' : Core.State} {w : Nat} {id : TaskId} {o : Core.Out} {b : Bool}
    {rets : List (List TaskId)} (h0 : Coupled0 js c) (hp : FinProto c id)
    (h : c.taskFinished w id = .ok (c', o, b)) : GoodR c' rets (route js rets o.cbs) := by
  have fr := Core.taskFinished_frc h
  rcases Core.taskFinished_spec h with ⟨_, rfl, hcb⟩ | ⟨task, ht, hcb, hids⟩
  · rw [hcb]; exact GoodR.nil h0
  · rw [hcb]
    have hrun := h0.started id (hot_of_finProto ht hp)
    obtain ⟨⟨js', evs⟩, hj⟩ := taskFinished_ok hrun
    obtain ⟨sr, hsent, _, hv⟩ := taskFinished_spec hj
    simp only [route, cbStep, hj]
    refine ⟨rfl, ?_⟩
    have hids' := hids h0.nd
    have hview : ∀ t, t ∈ Core.taskIds c'.tasks → tst js' t = tst js t := by
      intro t ht'
      rw [hv]
      have := ((hids' t).mp ht').2
      simp [this]
    refine h0.of_frc fr (Job.step_wf (op := .finished id) h0.wf hj) ((Core.taskFinished_sub h).nodup h0.nd) sr.workers
      ?_ ?_ fun t ht' => hview t (Core.hot_mem ht')
    · intro t
      rw [hids' t, hv t, h0.ids t]
      by_cases e : t = id
      · simp [e, live, Job.TState.terminal]
      · simp [e]
    · intro t
      rw [hsent, mem_removeAll, hv t, h0.sent t]
      by_cases e : t = id
      · simp [e, live, Job.TState.terminal]
      · simp [e]

theorem pair_running {js : Job.State} {c c' : Core.State} {w : Nat} {id : TaskId} {rv : Nat} {o : Core.Out}
    {rets : List (List TaskId)} (h0 : Coupled0 js c)
    (hmn : ∀ l, Core.stOf c.tasks id = some (.runningMN l) → ∀ x ∈ l, Core.mnW c.workers x = some id)
    (h : c.taskRunning w id rv = .ok (c', o)) : GoodR c' rets (route js rets o.cbs) := by
  rcases Core.taskRunning_spec hmn h with ⟨_, rfl, hcb⟩ | ⟨task, ws, ht, hcb, fr⟩
  · rw [hcb]; exact GoodR.nil h0
  · rw [hcb]
    have hmem : id ∈ Core.taskIds c.tasks := Core.mem_ids_of_task? ht
    have hlive := (h0.ids id).mp hmem
    obtain ⟨st, hst, _⟩ := live_some hlive
    obtain ⟨⟨js', evs⟩, hj⟩ := taskStarted_ok task.inst ws rv (js := js) (t := id) (by rw [hst]; rfl)
    obtain ⟨sr, hsent, _, hv⟩ := taskStarted_spec hj
    simp only [route, cbStep, hj]
    refine ⟨rfl, ?_⟩
    have e : Core.taskIds c'.tasks = Core.taskIds c.tasks := Core.taskRunning_stable h
    have hl : ∀ t, live (tst js' t) = live (tst js t) := by
      intro t
      rw [hv]
      by_cases e : t = id
      · simp only [e, if_true]; exact live_startedSt
      · simp [e]
    refine ⟨Job.step_wf (op := .started id task.inst ws rv) h0.wf hj, by rw [e]; exact h0.nd, ?_, ?_, ?_, h0.cons.of_desc fr.t (·.id) (·.cons), ?_⟩
    · intro t; rw [e, hl]; exact h0.ids t
    · intro t; rw [hsent, hl]; exact h0.sent t
    · intro t ht'
      rw [hv]
      rcases Core.hot_of_frx fr h0.nd ht' with e1 | e1
      · simp only [e1, if_true]; exact startedSt_of_live hlive
      · have := h0.started t e1
        by_cases e2 : t = id
        · simp only [e2, if_true]; exact startedSt_of_live hlive
        · simp only [e2, if_false]; exact this
    · intro x wk' hx
      obtain ⟨wk, hw0, _⟩ := fr.w x wk' hx
      rw [sr.workers]
      exact h0.workers x wk hw0

theorem pair_newWorker {js : Job.State} {c c' : Core.State} {wk : Core.Worker} {o : Core.Out}
    {rets : List (List TaskId)} (h0 : Coupled0 js c) (hf : Core.FreshWorker wk) (hnew : wk.id ∉ js.workers)
    (h : c.newWorker wk = .ok (c', o)) : GoodR c' rets (route js rets o.cbs) := by
  simp only [Core.State.newWorker] at h
  cases h
  obtain ⟨⟨js', evs⟩, hj⟩ := workerNew_ok hnew
  obtain ⟨hjobs, hsent, _, hws, _⟩ := workerNew_spec hj
  simp only [route, cbStep, hj]
  refine ⟨rfl, ?_⟩
  have hv : ∀ t, tst js' t = tst js t := fun t => by simp only [tst, hjobs]
  refine ⟨Job.step_wf (op := .workerNew wk.id) h0.wf hj, h0.nd, ?_, ?_, ?_, h0.cons, ?_⟩
  · intro t; rw [hv]; exact h0.ids t
  · intro t; rw [hsent, hv]; exact h0.sent t
  · intro t ht
    rw [hv]
    apply h0.started
    rcases ht with ⟨w, v, hs⟩ | ⟨l, hs, x, wk0, r, hw, ha⟩
    · exact .inl ⟨w, v, hs⟩
    · refine .inr ⟨l, hs, x, wk0, r, ?_, ha⟩
      change Core.findWorker (c.workers ++ [wk]) x = some wk0 at hw
      rw [Core.findWorker_append] at hw
      cases hf0 : Core.findWorker c.workers x with
      | some y => rw [hf0] at hw; simpa using hw
      | none =>
        rw [hf0] at hw
        simp only at hw
        split at hw
        · cases hw
          unfold Core.FreshWorker at hf
          rw [hf] at ha; cases ha
        · cases hw
  · intro x wk0 hw
    change Core.findWorker (c.workers ++ [wk]) x = some wk0 at hw
    rw [Core.findWorker_append] at hw
    rw [hws]
    cases hf0 : Core.findWorker c.workers x with
    | some y => exact List.mem_append_left _ (h0.workers x y hf0)
    | none =>
      rw [hf0] at hw
      simp only at hw
      split at hw
      · rename_i e; cases hw; rw [← e]; simp
      · cases hw


theorem mem_iff_of_sameSet {a b : List TaskId} (h : sameSet a b = true) : ∀ x, x ∈ a ↔ x ∈ b := by
  simp only [sameSet, Bool.and_eq_true, List.all_eq_true, List.contains_eq_mem, decide_eq_true_eq] at h
  exact fun x => ⟨h.1 x, h.2 x⟩

theorem Coupled0.job_only {js js' : Job.State} {c : Core.State} (h0 : Coupled0 js c) (hwf' : Job.StateWF js')
    (hw : js'.workers = js.workers) (hsent : ∀ x, x ∈ js'.sent ↔ x ∈ js.sent)
    (hv : ∀ x, live (tst js x) = true → tst js' x = tst js x) (hv2 : ∀ x, live (tst js' x) = true → live (tst js x) = true) :
    Coupled0 js' c := by
  have hl : ∀ x, live (tst js' x) = live (tst js x) := by
    intro x
    cases h1 : live (tst js x) with
    | true => rw [hv x h1]; exact h1
    | false =>
      cases h2 : live (tst js' x) with
      | false => rfl
      | true => rw [hv2 x h2] at h1; cases h1
  refine ⟨hwf', h0.nd, ?_, ?_, ?_, h0.cons, ?_⟩
  · intro t; rw [hl]; exact h0.ids t
  · intro t; rw [hsent, hl]; exact h0.sent t
  · intro t ht
    have := h0.started t ht
    rw [hv t (by rw [this]; rfl)]; exact this
  · intro x wk hx; rw [hw]; exact h0.workers x wk hx

/-- the job layer gave every non-terminal task of job `j` a terminal state (a client cancel, or the max-fails decision)
and the core cancels the same ids -/
theorem Coupled0.killed {js js' : Job.State} {c c' : Core.State} {j : Nat} {v : Job.TState} {ids' ids : List TaskId}
    {o : Core.Out} (h0 : Coupled0 js c) (hk : Killed js j v ids' js') (hterm : v.terminal = true)
    (hwf' : Job.StateWF js') (hsame : ∀ x, x ∈ ids ↔ x ∈ ids') (h : c.cancelTasks ids = .ok (c', o)) :
    o.cbs = [] ∧ Coupled0 js' c' := by
  have hids : ∀ x, x ∈ ids ↔ x.1 = j ∧ live (tst js x) = true := fun x => (hsame x).trans (hk.ids x)
  have hdead : live (some v) = false := by simp [live, hterm]
  have fr := Core.cancelTasks_frc h
  obtain ⟨hcb, hgone, hsub, hjob⟩ := Core.cancelTasks_spec h0.nd h0.cons h
  have hkeep : ∀ t, t ∈ Core.taskIds c'.tasks → ¬ (t.1 = j ∧ live (tst js t) = true) := by
    intro t ht hc
    exact hgone t ((hids t).mpr hc) ht
  refine ⟨hcb, h0.of_frc fr hwf' ((Core.cancelTasks_sub h).nodup h0.nd) hk.rest.workers ?_ ?_ fun t ht => ?_⟩
  · intro t
    rw [hk.view t]
    constructor
    · intro ht
      rw [if_neg (hkeep t ht)]
      exact (h0.ids t).mp (hsub t ht)
    · intro hl
      by_cases hc : t.1 = j ∧ live (tst js t) = true
      · rw [if_pos hc, hdead] at hl; cases hl
      · rw [if_neg hc] at hl
        have hm := (h0.ids t).mpr hl
        apply Classical.byContradiction
        intro hn
        obtain ⟨x, hx, hjx⟩ := hjob t hm hn
        exact hc ⟨hjx.trans ((hids x).mp hx).1, hl⟩
  · intro t
    rw [hk.sent t, hk.view t, h0.sent t]
    by_cases hc : t.1 = j ∧ live (tst js t) = true
    · rw [if_pos hc, hdead]
      exact ⟨fun h => absurd hc h.2, nofun⟩
    · rw [if_neg hc]
      exact ⟨fun h => h.1, fun h => ⟨h, hc⟩⟩
  · rw [hk.view t, if_neg (hkeep t (Core.hot_mem ht))]

theorem Coupled0.killed_none {js js' : Job.State} {c : Core.State} {j : Nat} {v : Job.TState} (h0 : Coupled0 js c)
    (hk : Killed js j v [] js') (hwf' : Job.StateWF js') : Coupled0 js' c := by
  have hno : ∀ x, ¬ (x.1 = j ∧ live (tst js x) = true) := fun x hc => nomatch (hk.ids x).mpr hc
  exact h0.job_only hwf' hk.rest.workers (fun x => by rw [hk.sent x]; exact ⟨fun h => h.1, fun h => ⟨h, hno x⟩⟩)
    (fun x _ => by rw [hk.view x, if_neg (hno x)]) fun x hl => by rwa [hk.view x, if_neg (hno x)] at hl

theorem pair_failed {js : Job.State} {c c' : Core.State} {worker : Option Nat} {id : TaskId} {o : Core.Out}
    {rets : List (List TaskId)} (h0 : Coupled0 js c) (hk : (c.task? id).isSome = true)
    (h : c.taskFailed worker id (rets.headD []) = .ok (c', o)) : GoodR c' rets.tail (route js rets o.cbs) := by
  rcases Core.taskFailed_spec h0.nd h0.cons h with ⟨hno, _, _⟩ | ⟨task, consumers, s3, ht, hcb, cnd, hnot, hall, hids3, f3, hn3, htail⟩
  · rw [hno] at hk; cases hk
  rw [hcb]
  have hmem : id ∈ Core.taskIds c.tasks := Core.mem_ids_of_task? ht
  obtain ⟨⟨js', evs, retM⟩, hj⟩ := taskFailed_ok (js := js) (t := id) (cons := consumers) h0.wf
    (fun x hx => (hall x hx).2) cnd hnot (fun x hx => (h0.ids x).mp (hall x hx).1) ((h0.ids id).mp hmem)
  obtain ⟨js2, job2, hA, _, hB⟩ := taskFailed_spec h0.wf hj
  simp only [route, cbStep, hj]
  -- after the first half: the failed task and its consumers are gone from both layers
  have hdead : ∀ x, x = id ∨ x ∈ consumers → live (failedView js id consumers x) = false := by
    intro x hx
    simp only [failedView]
    split
    · rfl
    · rw [if_pos (hx.resolve_left ‹_›)]; rfl
  have hsame2 : ∀ x, x ≠ id → x ∉ consumers → tst js2 x = tst js x := fun x h1 h2 => by
    rw [hA.view x, failedView, if_neg h1, if_neg h2]
  have hlive : ∀ t, live (tst js t) = true ∧ t ≠ id ∧ t ∉ consumers ↔ live (tst js2 t) = true := by
    intro t
    by_cases hx : t = id ∨ t ∈ consumers
    · rw [hA.view t, hdead t hx]
      exact ⟨fun h => (hx.elim h.2.1 h.2.2).elim, nofun⟩
    · rw [not_or] at hx
      rw [hsame2 t hx.1 hx.2]
      exact ⟨fun h => h.1, fun h => ⟨h, hx.1, hx.2⟩⟩
  have h2 : Coupled0 js2 s3 := by
    refine h0.of_frc f3 hA.wf hn3 hA.rest.workers (fun t => ?_) (fun t => ?_) fun t ht' => ?_
    · rw [hids3 t, h0.ids t]; exact hlive t
    · rw [hA.sent t, h0.sent t]; exact hlive t
    · obtain ⟨_, h1, h2⟩ := (hids3 t).mp (Core.hot_mem ht')
      exact hsame2 t h1 h2
  cases rets with
  | nil => trivial
  | cons r rest =>
    simp only [List.headD_cons] at htail
    by_cases hs : sameSet retM r = true
    · simp only [hs, if_true, List.tail_cons]
      refine ⟨rfl, ?_⟩
      have hsame := mem_iff_of_sameSet hs
      have hwf' := Job.step_wf (op := .failed id consumers) (s' := js') (evs := evs) h0.wf (by simp [Job.step, hj, Except.map])
      -- the second half: the max-fails list, cancelled by the core
      rcases htail with ⟨hemp, rfl⟩ | ⟨hne, o2, hct⟩
      · have hM : retM = [] := by
          have hr : r = [] := by simpa using hemp
          exact List.eq_nil_iff_forall_not_mem.mpr fun x hx => by have := (hsame x).mp hx; rw [hr] at this; cases this
        rcases hB with ⟨m, _, _, hk⟩ | ⟨_, _, rfl⟩
        · rw [hM] at hk; exact h2.killed_none hk hwf'
        · exact h2
      · rcases hB with ⟨m, _, _, hk⟩ | ⟨_, rfl, _⟩
        · exact (h2.killed hk rfl hwf' (fun x => (hsame x).symm) hct).2
        · cases r with
          | nil => simp at hne
          | cons a _ => exact absurd ((hsame a).mpr (by simp)) (by simp)
    · simp only [hs, Bool.false_eq_true, if_false]
      trivial

theorem pair_workerLost {js : Job.State} {c c3 : Core.State} {w : Nat} {running : List TaskId} {reason : String}
    {rets : List (List TaskId)} (h0 : Coupled0 js c) (hw : (c.worker? w).isSome = true) (f : Core.Frc c c3)
    (e : Core.taskIds c3.tasks = Core.taskIds c.tasks) (nd : running.Nodup) (hh : ∀ t ∈ running, Core.hot c t)
    (hc : ∀ t ∈ running, ¬ Core.hot c3 t) :
    GoodR c3 rets (route js rets [.workerLost w running reason]) := by
  have hwj : w ∈ js.workers := by
    cases hf : c.worker? w with
    | none => rw [hf] at hw; cases hw
    | some wk => exact h0.workers w wk hf
  obtain ⟨⟨js', evs⟩, hj⟩ := workerLost_ok (js := js) reason hwj nd (fun t ht => h0.started t (hh t ht))
  obtain ⟨sr, hsent, _, hv⟩ := workerLost_spec hj
  simp only [route, cbStep, hj]
  refine ⟨rfl, ?_⟩
  have hl : ∀ t, live (tst js' t) = live (tst js t) := by
    intro t
    rw [hv]
    by_cases hm : t ∈ running
    · simp only [hm, if_true]
      rw [h0.started t (hh t hm)]; rfl
    · simp [hm]
  refine h0.of_frc f (Job.step_wf (op := .workerLost w running reason) h0.wf hj) (by rw [e]; exact h0.nd) sr.workers
    (fun t => by rw [e, hl]; exact h0.ids t) (fun t => by rw [hsent, hl]; exact h0.sent t) fun t ht => ?_
  rw [hv, if_neg fun hm => hc t hm ht]

end HqModel.Sys
