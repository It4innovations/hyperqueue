import HqModel.Sys.Model
import HqModel.Lemmas.CoreInvFull
import HqModel.Lemmas.CoreDescOps
/-!
What a reactor / scheduler function of the core may do to the *started* status of a task and to the registered consumers:
`Fr mn s s'` — every task / worker record of `s'` descends from one of `s` along `TRelSys mn` / `WRel`; it is
`GFr (TRelSys mn) WRel` as a structure of its own (`Fr.toG` / `Fr.ofG`; `Core.NPA.Fr` of `CoreNoPanicFrame.lean` is another
relation). The rewrites `TCalm`, `TOwn False`, `TLoss`, `WCalm` lie inside `TRelSys False` / `WRel`, `TSched`, `WSched`
inside `TRelSys True` / `WRel`, so `<op>_frc` (`Frc = Fr False`) and `schedule_frs` (`Frs = Fr True`) are `<op>_desc` read
along that inclusion; they are stated for the operations the coupling proofs call (`task_running`, which starts a task, and
`on_new_tasks`, which registers consumers, are not among them).
-/
namespace HqModel.Core

/-- how the state of a task record may change (`a` old, `b` new): it is Running only if it was Running in the same
place before, and RunningMultiNode only if it was RunningMultiNode before — unless `mn` (a scheduling round, which
places multi-node tasks) -/
def stOk (mn : Prop) (a b : TS) : Prop :=
  match b with
  | .running w v => a = .running w v
  | .runningMN _ => mn ∨ ∃ l, a = .runningMN l
  | _ => True

theorem stOk.refl (mn : Prop) (a : TS) : stOk mn a a := by
  cases a <;> simp [stOk]

theorem stOk.trans {mn : Prop} {a b c : TS} (h1 : stOk mn a b) (h2 : stOk mn b c) : stOk mn a c := by
  cases c with
  | running w v => simp only [stOk] at h2; subst h2; exact h1
  | runningMN l =>
    simp only [stOk] at h2 ⊢
    rcases h2 with h | ⟨l', h⟩
    · exact .inl h
    · subst h; exact h1
  | _ => trivial

theorem stOk.mono {mn mn' : Prop} (hm : mn → mn') {a b : TS} (h : stOk mn a b) : stOk mn' a b := by
  cases b with
  | runningMN l => simp only [stOk] at h ⊢; exact h.imp hm id
  | running w v => exact h
  | _ => trivial

structure TRelSys (P : Prop) (t t' : Task) : Prop where
  id : t'.id = t.id
  cons : ∀ c ∈ t'.consumers, c ∈ t.consumers
  st : stOk P t.state t'.state

theorem TRelSys.refl (P : Prop) (t : Task) : TRelSys P t t := ⟨rfl, fun _ h => h, stOk.refl _ _⟩

theorem TRelSys.trans {P : Prop} {a b c : Task} (h1 : TRelSys P a b) (h2 : TRelSys P b c) : TRelSys P a c :=
  ⟨h2.id.trans h1.id, fun x hx => h1.cons x (h2.cons x hx), h1.st.trans h2.st⟩

theorem TRelSys.mono {P Q : Prop} (hpq : P → Q) {a b : Task} (h : TRelSys P a b) : TRelSys Q a b :=
  ⟨h.id, h.cons, h.st.mono hpq⟩

def TFr (P : Prop) (ts ts' : List Task) : Prop := ∀ t' ∈ ts', ∃ t ∈ ts, TRelSys P t t'

structure WRel (w w' : Worker) : Prop where
  id : w'.id = w.id
  mn : ∀ t r, w'.assign = .mn t r true → w.assign = .mn t r true

theorem WRel.refl (w : Worker) : WRel w w := ⟨rfl, fun _ _ h => h⟩
theorem WRel.trans {a b c : Worker} (h1 : WRel a b) (h2 : WRel b c) : WRel a c :=
  ⟨h2.id.trans h1.id, fun t r h => h1.mn t r (h2.mn t r h)⟩

def WFr (ws ws' : List Worker) : Prop :=
  ∀ x wk', findWorker ws' x = some wk' → ∃ wk, findWorker ws x = some wk ∧ WRel wk wk'

structure Fr (P : Prop) (s s' : State) : Prop where
  t : TFr P s.tasks s'.tasks
  w : WFr s.workers s'.workers

theorem Fr.toG {P : Prop} {s s' : State} (h : Fr P s s') : GFr (TRelSys P) WRel s s' := ⟨h.t, h.w⟩
theorem Fr.ofG {P : Prop} {s s' : State} (h : GFr (TRelSys P) WRel s s') : Fr P s s' := ⟨h.t, h.w⟩

theorem Fr.refl (P : Prop) (s : State) : Fr P s s := .ofG (.refl (TRelSys.refl P) WRel.refl s)

theorem Fr.trans {P : Prop} {a b c : State} (h1 : Fr P a b) (h2 : Fr P b c) : Fr P a c :=
  .ofG (.trans TRelSys.trans WRel.trans h1.toG h2.toG)

theorem Fr.mono {P Q : Prop} (hpq : P → Q) {a b : State} (h : Fr P a b) : Fr Q a b :=
  .ofG (h.toG.mono (TRelSys.mono hpq) id)

theorem Fr.of_eq {P : Prop} {s s' : State} (ht : s'.tasks = s.tasks) (hw : s'.workers = s.workers) : Fr P s s' :=
  .ofG (.of_eq (TRelSys.refl P) WRel.refl ht hw)

theorem Fr.setTask {P : Prop} {s : State} {told t' : Task} (hf : findTask s.tasks t'.id = some told)
    (hc : ∀ c ∈ t'.consumers, c ∈ told.consumers) (hs : stOk P told.state t'.state) :
    Fr P s (s.setTask t') :=
  .ofG (.setTask (TRelSys.refl P) WRel.refl hf ⟨(findTask_some_id hf).symm, hc, hs⟩)

theorem Fr.setState {P : Prop} {s : State} {task t' : Task} {id : TaskId} (hf : s.task? id = some task)
    (hid : t'.id = task.id) (hc : t'.consumers = task.consumers) (hs : stOk P task.state t'.state) :
    Fr P s (s.setTask t') := by
  apply Fr.setTask (told := task)
  · rw [hid, findTask_some_id hf]; exact hf
  · rw [hc]; exact fun _ h => h
  · exact hs

theorem Fr.withWorker {P : Prop} {s s' : State} {w : Nat} {f : Worker → M Worker}
    (hf : ∀ wk wk', f wk = .ok wk' → WRel wk wk') (h : s.withWorker w f = .ok s') : Fr P s s' :=
  .ofG (.withWorker (TRelSys.refl P) WRel.refl (fun wk wk' e => ⟨(hf wk wk' e).id, hf wk wk' e⟩) h)

theorem insertSn_wrel (t : TaskId) (r : Rq) (wk wk' : Worker) (h : wk.insertSn t r = .ok wk') : WRel wk wk' := by
  obtain ⟨_, _, _, _, _, _, _, rfl⟩ := insertSn_spec h
  exact ⟨rfl, fun _ _ e => nomatch e⟩

theorem prefilledToStarted_wrel (t : TaskId) (r : Rq) (wk wk' : Worker) (h : wk.prefilledToStarted t r = .ok wk') :
    WRel wk wk' := by
  obtain ⟨_, _, _, _, _, _, _, _, rfl⟩ := prefilledToStarted_spec h
  exact ⟨rfl, fun _ _ e => nomatch e⟩

theorem task?_congr {s s1 : State} {id : TaskId} {task : Task} (e : s1.tasks = s.tasks) (h : s.task? id = some task) :
    s1.task? id = some task := by
  simp only [State.task?, e]; exact h

abbrev Frc (s s' : State) : Prop := Fr False s s'

theorem Frc.ask (s : State) : Frc s (ask s) := Fr.of_eq rfl rfl
theorem CoreEq.frc {s s' : State} (h : CoreEq s s') : Frc s s' := Fr.of_eq h.t h.w

theorem TCalm.trelSys {P : Prop} {t t' : Task} (h : TCalm t t') : TRelSys P t t' := by
  cases h with
  | retract hs => exact ⟨rfl, fun _ h => h, trivial⟩
  | unconsume hc => exact ⟨rfl, fun _ h => List.mem_of_mem_erase h, stOk.refl _ _⟩
  | wake hs => exact ⟨rfl, fun _ h => h, trivial⟩

theorem TOwn.trelSys {P : Prop} {o : TaskId → Prop} {t t' : Task} (h : TOwn False o t t') : TRelSys P t t' := by
  cases h with
  | calm h => exact h.trelSys
  | own ho ha h => exact ⟨rfl, fun _ h => h, by cases h <;> trivial⟩
  | start hr => exact hr.elim

theorem TLoss.trelSys {P fail : Prop} {w : Nat} {L : TaskId → Prop} {t t' : Task} (h : TLoss w fail L t t') :
    TRelSys P t t' := by
  cases h with
  | calm h => exact h.trelSys
  | bump hl hs => exact ⟨rfl, fun _ h => h, stOk.refl _ _⟩
  | shrink hs hr => exact ⟨rfl, fun _ h => h, by simp only [stOk, hs]; exact .inr ⟨_, rfl⟩⟩
  | crash => exact ⟨rfl, fun _ h => h, stOk.refl _ _⟩
  | _ => exact ⟨rfl, fun _ h => h, trivial⟩

theorem WCalm.wrel {wk wk' : Worker} (h : WCalm wk wk') : WRel wk wk' := by
  cases h with
  | blocked b => exact ⟨rfl, fun _ _ e => e⟩
  | _ => exact ⟨rfl, fun _ _ e => by cases e⟩

theorem Desc.toFr {P er : Prop} {RT : Task → Task → Prop} {RW : Worker → Worker → Prop} {s s' : State}
    (h : Desc RT RW er s s') (ht : ∀ {t t'}, RT t t' → TRelSys P t t') (hw : ∀ {wk wk'}, RW wk wk' → WRel wk wk') :
    Fr P s s' :=
  .ofG (h.lift (TRelSys.refl P) TRelSys.trans ht WRel.refl WRel.trans hw)

theorem Desc.frc {s s' : State} (h : Desc TCalm WCalm True s s') : Frc s s' := h.toFr TCalm.trelSys WCalm.wrel

theorem Desc.frc_own {o : TaskId → Prop} {s s' : State} (h : Desc (TOwn False o) WCalm True s s') : Frc s s' :=
  h.toFr TOwn.trelSys WCalm.wrel

theorem Desc.frc_loss {w : Nat} {fail : Prop} {L : TaskId → Prop} {s s' : State}
    (h : Desc (TLoss w fail L) WCalm True s s') : Frc s s' :=
  h.toFr TLoss.trelSys WCalm.wrel

theorem retract_frc {s s' : State} {l : List TaskId} {o : Out} (h : s.retract l = .ok (s', o)) : Frc s s' :=
  (retract_desc h).frc

theorem tryRemoveRedirection_frc {s s' : State} {t : TaskId} {rq : Nat}
    (h : s.tryRemoveRedirection t rq = .ok s') : Frc s s' :=
  (tryRemoveRedirection_desc h).frc

theorem removeTask_frc {s s' : State} {id : TaskId} {st : TS} (h : s.removeTask id = .ok (s', st)) : Frc s s' :=
  (removeTask_desc h).frc

theorem removeTasksBatched_frc {ids : List TaskId} {s s' : State} (h : s.removeTasksBatched ids = .ok s') : Frc s s' :=
  (removeTasksBatched_desc ids h).frc

theorem Release.frc {s s1 : State} {id : TaskId} {task : Task} (h : Release s id task s1) : Frc s s1 :=
  h.desc.frc

theorem cancelTasks_frc {s s' : State} {ids : List TaskId} {o : Out} (h : s.cancelTasks ids = .ok (s', o)) :
    Frc s s' :=
  (cancelTasks_desc h).frc


theorem taskFailed_frc {s s' : State} {worker : Option Nat} {id : TaskId} {ret : List TaskId} {o : Out}
    (h : s.taskFailed worker id ret = .ok (s', o)) : Frc s s' :=
  (taskFailed_desc h).frc

theorem taskFinished_frc {s s' : State} {w : Nat} {id : TaskId} {o : Out} {b : Bool}
    (h : s.taskFinished w id = .ok (s', o, b)) : Frc s s' :=
  (taskFinished_desc h).frc_own

theorem requestEnabled_frc {s s' : State} {w rq rv : Nat} (h : s.requestEnabled w rq rv = .ok s') : Frc s s' :=
  (requestEnabled_desc h).frc

theorem taskReject_frc {s s' : State} {w : Nat} {id : TaskId} {rv : Option Nat} {o : Out} {b : Bool}
    (h : s.taskReject w id rv = .ok (s', o, b)) : Frc s s' :=
  (taskReject_desc h).weaken.frc_own

theorem retractResponse_frc {s s' : State} {w : Nat} {ids : List TaskId} {o : Out}
    (h : s.retractResponse w ids = .ok (s', o)) : Frc s s' :=
  (retractResponse_desc h).weaken.frc_own

theorem lostRetracting_frc {l : List Task} {s s' : State} {w : Nat} {o o' : Out}
    (h : s.lostRetracting w l o = .ok (s', o')) : Frc s s' :=
  (lostRetracting_desc (fail := True) (L := fun _ => True) l h).weaken.frc_loss

theorem dropWorker_frc (s : State) (w : Nat) : Frc s { s with workers := s.workers.filter (·.id ≠ w) } :=
  .ofG (.dropWorker (TRelSys.refl _) WRel.refl w)

theorem removeWorker_frc {s s' : State} {w : Nat} {reason : String} {f : Bool} {order : List TaskId}
    {rets : List (List TaskId)} {o : Out}
    (h : s.removeWorker w reason f order rets = .ok (s', o)) : Frc s s' := by
  obtain ⟨wk, _, d⟩ := removeWorker_desc h
  exact (dropWorker_frc s w).trans d.frc_loss


abbrev Frs (s s' : State) : Prop := Fr True s s'

theorem Frc.frs {s s' : State} (h : Frc s s') : Frs s s' := Fr.mono (fun h => h.elim) h

theorem TSched.trelSys {t t' : Task} (h : TSched t t') : TRelSys True t t' := by
  cases h with
  | placeMn ws hs _ => exact ⟨rfl, fun _ h => h, .inl trivial⟩
  | _ => exact ⟨rfl, fun _ h => h, trivial⟩

theorem WSched.wrel {wk wk' : Worker} (h : WSched wk wk') : WRel wk wk' := by
  cases h <;> exact ⟨rfl, fun _ _ e => nomatch e⟩

theorem schedule_frs {s s' : State} {sol : Solution} {o : Out} (h : s.schedule sol = .ok (s', o)) : Frs s s' :=
  (schedule_desc h).toFr TSched.trelSys WSched.wrel

end HqModel.Core
