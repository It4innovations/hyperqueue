import HqModel.Lemmas.SysWViews
import HqModel.Lemmas.CoreDescStep
/-!
The remaining server actions, none of which sends a `ComputeTasks` message: `on_cancel_tasks` (foreign to every pair),
`on_new_tasks` (foreign to the pairs of the tasks it does not add; a new task is `quiet` for everybody), `on_new_worker`
and a new resource request (no view changes). `cancelTasks_sent`: `on_cancel_tasks` tells the owner.
-/
namespace HqModel.Core
open HqModel HqModel.SysW

theorem cancelTasks_fgn {c c' : State} {ids : List TaskId} {o : Out} (hn : (taskIds c.tasks).Nodup) (hm' : MnOk c')
    (h : c.cancelTasks ids = .ok (c', o)) (w : Nat) (t : TaskId) : NPP.Fgn c c' o.msgs w t := by
  have e : cfor w t o.msgs = [] := cfor_noCompute (cancelTasks_out h).1
  refine ⟨?_, NPP.runKeep_of_fr (cancelTasks_frc h) hn fun _ _ => e, fun _ => e⟩
  rw [e]
  exact (cancelTasks_frq h).foreign hn hm' w t (fun e => e) (fun e => e)

theorem TReg.trelW {k : Prop} {R : TaskId → TaskId → Prop} {m : Mode} {t t' : Task} (h : TReg k R t t') : TRelW m t t' := by
  cases h with
  | calm _ h => exact h.trelW
  | consume => exact ⟨rfl, .refl _ _ _⟩

theorem newTasks_views {c c' : State} {nts : List NewTask} {o : Out} (hn : (taskIds c.tasks).Nodup) (hm' : MnOk c')
    (h : c.newTasks nts = .ok (c', o)) :
    (∀ w t, t ∉ nts.map (·.id) → Foreign (view c w t) [] (view c' w t)) ∧
    (∀ w t, stOf c.tasks t = none → view c' w t = .quiet ∨ view c' w t = .hot) ∧ NoCompute o.msgs ∧
    (∀ t st', stOf c'.tasks t = some st' → stOf c.tasks t ≠ none ∨ t ∈ nts.map (·.id)) := by
  have nc := (newTasks_out h).1
  have d := newTasks_descN h
  -- where a record of the final state comes from
  have back : ∀ t st', stOf c'.tasks t = some st' →
      (∃ st, stOf c.tasks t = some st ∧ SOk (fun x => calm.rel x t) (calm.acq t) st st') ∨
      (t ∈ nts.map (·.id) ∧ owner st' = none) := by
    intro t st' hs'
    obtain ⟨task1, hf1, rfl⟩ := stOf_some hs'
    have hid1 := findTask_some_id hf1
    rcases d.fr.t task1 (findTask_some_mem hf1) with ⟨t0, ht0, r⟩ | ⟨t0, ⟨nt, hnt, n, kept, rfl⟩, r⟩
    · have q : TRelW calm t0 task1 := r.lift (TRelW.refl _) TRelW.trans TReg.trelW
      have hid : t0.id = t := by rw [← q.id, hid1]
      left
      refine ⟨t0.state, ?_, hid ▸ q.st⟩
      have := stOf_of_mem hn ht0
      rwa [hid] at this
    · have q : TRelW calm (mkTask nt n kept) task1 := r.lift (TRelW.refl _) TRelW.trans TReg.trelW
      right
      refine ⟨by rw [← hid1, q.id]; exact List.mem_map_of_mem hnt, ?_⟩
      cases ho : owner task1.state with
      | none => rfl
      | some y => exact absurd (q.st.own (fun e => e) y ho) (by simp [mkTask, owner])
  have wk : WKeep calm.sch c c' := by
    intro x wk wk' hw hw'
    rcases d.fr.w x wk' hw' with ⟨wk0, hw0, r⟩ | ⟨_, hf, _⟩
    · cases hw0.symm.trans hw
      exact r.lift (WRelW.refl _) WRelW.trans WCalm.wrelW
    · exact hf.elim
  refine ⟨fun w t hnot => ?_, fun w t hnone => ?_, nc, fun t st' hs' => ?_⟩
  rotate_right
  · rcases back t st' hs' with ⟨st, a, _⟩ | ⟨a, _⟩
    · exact .inl (by rw [a]; intro e; cases e)
    · exact .inr a
  · refine foreign_of (m := calm) ⟨fun st' hs' => ?_, fun hnone => ?_⟩ wk hm' w (fun e => e) (fun e => e)
    · rcases back t st' hs' with a | ⟨a, _⟩
      · exact a
      · exact (hnot a).elim
    · cases hs' : stOf c'.tasks t with
      | none => rfl
      | some st' =>
        rcases back t st' hs' with ⟨st, a, _⟩ | ⟨a, _⟩
        · rw [hnone] at a; cases a
        · exact (hnot a).elim
  · cases hs' : stOf c'.tasks t with
    | none => exact .inr (view_none hs')
    | some st' =>
      rcases back t st' hs' with ⟨st, a, _⟩ | ⟨_, a⟩
      · rw [hnone] at a; cases a
      · exact .inl (view_quiet_of_owner hs' (by rw [a]; intro e; cases e))

theorem newTasks_runback {c c' : State} {nts : List NewTask} {o : Out} (hn : (taskIds c.tasks).Nodup)
    (h : c.newTasks nts = .ok (c', o)) {t : TaskId} {w rv : Nat} (hr : stOf c'.tasks t = some (.running w rv)) :
    stOf c.tasks t = some (.running w rv) := by
  obtain ⟨_, s1, retracted, s2, h1, hr2, rfl⟩ := newTasks_path h
  have hn1 := addNewTasks_nodup _ _ _ _ _ hn h1
  have hd := addNewTasks_tasks h1
  have h1' : stOf s1.tasks t = some (.running w rv) := NPP.runBack_of_fr (retract_frc hr2) hn1 hr
  obtain ⟨task1, hf1, hst1⟩ := stOf_some h1'
  rcases hd task1 (findTask_some_mem hf1) with ⟨t0, ht0, a, b⟩ | ⟨_, n, b⟩
  · have := stOf_of_mem hn ht0
    rw [← a, findTask_some_id hf1, ← b, hst1] at this
    exact this
  · rw [hst1] at b; cases b

theorem newTasks_runkeep {c c' : State} {nts : List NewTask} {o : Out} (hn : (taskIds c.tasks).Nodup)
    (h : c.newTasks nts = .ok (c', o)) (w : Nat) (t : TaskId) : NPP.RunKeep c c' w t (cfor w t o.msgs) :=
  fun _ hr => ⟨newTasks_runback hn h hr, cfor_noCompute (newTasks_out h).1⟩

/-- a new worker with a fresh (single-node) record changes no view -/
theorem newWorker_views {c c' : State} {wk : Worker} {o : Out} (hf : FreshWorker wk)
    (h : c.newWorker wk = .ok (c', o)) : (∀ w t, view c' w t = view c w t) ∧ o.msgs = [] := by
  simp only [State.newWorker] at h
  cases h
  refine ⟨fun w t => view_of_mnStarted (fun w t => ?_) w t rfl, rfl⟩
  unfold mnStarted State.worker?
  show (match findWorker (c.workers ++ [wk]) w with | some wk => _ | none => _) = _
  rw [findWorker_append]
  cases hw : findWorker c.workers w with
  | some wk0 => rfl
  | none =>
    dsimp only
    split
    · rename_i wk1 h1
      split at h1
      · cases h1
        unfold FreshWorker at hf
        rw [hf]
      · cases h1
    · rfl

theorem newRq_views (c : State) (rqv : Rqv) (w : Nat) (t : TaskId) : view (c.newRq rqv) w t = view c w t :=
  view_congr (a := c) (b := c.newRq rqv) rfl w t rfl

/-- `running` (the per-worker id lists of `on_cancel_tasks`) names `t` for worker `w` -/
def Names (r : List (Nat × List TaskId)) (w : Nat) (t : TaskId) : Prop := ∃ p ∈ r, p.1 = w ∧ t ∈ p.2

theorem addTo_names (acc : List (Nat × List TaskId)) (w : Nat) (t : TaskId) :
    Names (addTo acc w t) w t ∧ ∀ w' t', Names acc w' t' → Names (addTo acc w t) w' t' := by
  unfold addTo
  by_cases ha : (acc.any (·.1 == w)) = true
  · rw [if_pos ha]
    obtain ⟨p, hp, hpw⟩ := List.any_eq_true.mp ha
    have hpw : p.1 = w := by simpa using hpw
    constructor
    · refine ⟨(p.1, p.2 ++ [t]), List.mem_map.mpr ⟨p, hp, by simp [hpw]⟩, hpw, by simp⟩
    · rintro w' t' ⟨q, hq, hqw, hqt⟩
      by_cases hqe : q.1 = w
      · exact ⟨(q.1, q.2 ++ [t]), List.mem_map.mpr ⟨q, hq, by simp [hqe]⟩, hqw, by simp [hqt]⟩
      · exact ⟨q, List.mem_map.mpr ⟨q, hq, by simp [hqe]⟩, hqw, hqt⟩
  · rw [if_neg ha]
    constructor
    · exact ⟨(w, [t]), by simp, rfl, by simp⟩
    · rintro w' t' ⟨q, hq, hqw, hqt⟩
      exact ⟨q, List.mem_append_left _ hq, hqw, hqt⟩

theorem cancelLoop_names {ids : List TaskId} {s s' : State} {u u' : List TaskId} {r r' : List (Nat × List TaskId)}
    (h : s.cancelLoop ids u r = .ok (s', u', r')) :
    (∀ w t, Names r w t → Names r' w t) ∧
    ∀ id ∈ ids, ∀ st w, stOf s.tasks id = some st → owner st = some w → Names r' w id := by
  induction ids generalizing s u r with
  | nil => simp only [State.cancelLoop] at h; cases h; exact ⟨fun _ _ h => h, fun _ h => by cases h⟩
  | cons id rest ih =>
    -- the tail, from a state with the same tasks and a `running` list that names what `r1` names
    have tail : ∀ (s1 : State) (u1 : List TaskId) (r1 : List (Nat × List TaskId)), s1.tasks = s.tasks →
        (∀ w t, Names r w t → Names r1 w t) →
        (∀ st w, stOf s.tasks id = some st → owner st = some w → Names r1 w id) →
        s1.cancelLoop rest u1 r1 = .ok (s', u', r') →
        (∀ w t, Names r w t → Names r' w t) ∧
        ∀ x ∈ id :: rest, ∀ st w, stOf s.tasks x = some st → owner st = some w → Names r' w x := by
      intro s1 u1 r1 e1 hmono hid h
      obtain ⟨a, b⟩ := ih h
      refine ⟨fun w t hn => a w t (hmono w t hn), fun x hx st w hs ho => ?_⟩
      rcases List.mem_cons.mp hx with rfl | hx
      · exact a w x (hid st w hs ho)
      · exact b x hx st w (by rw [e1]; exact hs) ho
    rcases cancelLoop_cons_ok h with ⟨hno, h⟩ | ⟨task, cons, s1, r1, ht, _, harm, h⟩
    · refine tail s u r rfl (fun _ _ h => h) (fun st w hs _ => ?_) h
      rw [stOf_none hno] at hs; cases hs
    · have hst : stOf s.tasks id = some task.state := stOf_of_find ht
      have e1 : s1.tasks = s.tasks := by
        obtain ⟨s0, hrel, he⟩ := harm.release
        rcases he with rfl | rfl <;> exact hrel.tasks
      -- the owner of the task is told
      have hown : (∀ w t, Names r w t → Names r1 w t) ∧ ∀ w0, owner task.state = some w0 → Names r1 w0 id := by
        have told : ∀ w1, (∀ w t, Names r w t → Names (addTo r w1 id) w t) ∧
            ∀ w0, some w1 = some w0 → Names (addTo r w1 id) w0 id :=
          fun w1 => ⟨(addTo_names r w1 id).2, fun w0 e => by cases e; exact (addTo_names r w1 id).1⟩
        cases harm with
        | waiting hs => exact ⟨fun _ _ h => h, fun w0 ho => by rw [hs] at ho; cases ho⟩
        | sn hs _ _ => rcases hs with hs | hs <;> rw [hs] <;> exact told _
        | mn hs _ => rw [hs]; exact told _
        | retr hs _ => rw [hs]; exact told _
        | pre hs _ _ => rw [hs]; exact told _
      refine tail s1 _ r1 e1 hown.1 (fun st w hs ho => ?_) h
      rw [hst] at hs
      cases hs
      exact hown.2 w ho

/-- **`on_cancel_tasks` sends `CancelTasks` to the owner of every named task** -/
theorem cancelTasks_sent {s s' : State} {ids : List TaskId} {o : Out} (h : s.cancelTasks ids = .ok (s', o))
    (id : TaskId) (hid : id ∈ ids) (st : TS) (w : Nat) (hs : stOf s.tasks id = some st) (ho : owner st = some w) :
    ∃ l, Msg.cancel w l ∈ o.msgs ∧ id ∈ l := by
  obtain ⟨s1, unreg, running, h1, _, rfl⟩ := cancelTasks_path h
  obtain ⟨p, hp, hpw, hpt⟩ := (cancelLoop_names h1).2 id hid st w hs ho
  exact ⟨p.2, List.mem_map.mpr ⟨p, hp, by rw [hpw]⟩, hpt⟩

end HqModel.Core
