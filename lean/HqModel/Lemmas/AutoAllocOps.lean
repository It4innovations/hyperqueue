import HqModel.AutoAlloc.Spec
import HqModel.Lemmas.ListFacts
/-!
What each function of the AutoAlloc model does to a queue or to the state, case by case (`…_cases`, `…_path`, `…_spec`), and
the induction principles of its loops. The files about steps reason about the model through these.
-/
namespace HqModel.AutoAlloc

theorem State.getQueue_id (s : State) (id : Nat) (q : Queue) (h : s.getQueue id = some q) : q.id = id := by
  have := List.find?_some h
  simpa using this

theorem State.getQueue_mem (s : State) (id : Nat) (q : Queue) (h : s.getQueue id = some q) : q ∈ s.queues :=
  List.mem_of_find?_eq_some h

theorem findAlloc_id (q : Queue) (a : Nat) (al : Alloc) (h : q.findAlloc a = some al) : al.id = a := by
  have := List.find?_some h
  simpa using this

theorem State.getQueue_setQueue (s : State) (q' : Queue) (x : Nat) :
    (s.setQueue q').getQueue x = if x = q'.id then (s.getQueue x).map (fun _ => q') else s.getQueue x := by
  have h := List.find?_map_key Queue.id s.queues (fun y => if y.id = q'.id then q' else y)
    (by intro y; split <;> simp [*]) x
  unfold State.setQueue State.getQueue
  simp only [h]
  cases hq : s.queues.find? (·.id == x) with
  | none => simp
  | some q =>
    have hid : q.id = x := State.getQueue_id s x q hq
    by_cases hx : x = q'.id <;> simp [hx, hid]

theorem State.getQueue_pauseAll (s : State) (x : Nat) :
    s.pauseAll.getQueue x = (s.getQueue x).map Queue.tryPause :=
  List.find?_map_key Queue.id s.queues Queue.tryPause (fun y => by unfold Queue.tryPause; split <;> rfl) x

theorem State.getQueue_filter (s : State) (k x : Nat) :
    (s.queues.filter (·.id != k)).find? (·.id == x) = if x = k then none else s.getQueue x :=
  List.find?_filter_ne Queue.id s.queues k x

theorem State.getQueue_append (s : State) (new : List Queue) (n x : Nat) :
    ({ s with queues := s.queues ++ new, nextId := n } : State).getQueue x =
      (s.getQueue x).or (new.find? (·.id == x)) :=
  List.find?_append

theorem State.mem_setQueue {s : State} {q q' : Queue} :
    q' ∈ (s.setQueue q).queues ↔ ∃ y ∈ s.queues, (if y.id = q.id then q else y) = q' :=
  List.mem_map

theorem State.mem_pauseAll {s : State} {q' : Queue} : q' ∈ s.pauseAll.queues ↔ ∃ y ∈ s.queues, y.tryPause = q' :=
  List.mem_map

/-- an output that is an allocation lifecycle event (`AllocationStarted` / `AllocationFinished`) -/
def Out.isLifeEvent : Out → Prop
  | .evStarted _ _ => True
  | .evFinished _ _ => True
  | _ => False

/-- no allocation lifecycle event among the outputs -/
def Silent (l : List Out) : Prop := ∀ o ∈ l, ¬ o.isLifeEvent

/-- neither a lifecycle event nor a `submit_allocation` call among the outputs -/
def Quiet (l : List Out) : Prop := Silent l ∧ ∀ x n, Out.submit x n ∉ l

theorem silent_nil : Silent [] := fun _ h => nomatch h

theorem silent_cons {o : Out} {l : List Out} : Silent (o :: l) ↔ ¬ o.isLifeEvent ∧ Silent l :=
  List.forall_mem_cons

theorem silent_append {l1 l2 : List Out} : Silent (l1 ++ l2) ↔ Silent l1 ∧ Silent l2 :=
  List.forall_mem_append

/-- for a list written out in the model: look at its constructors -/
theorem Silent.of_all {l : List Out}
    (h : l.all (fun o => match o with | .evStarted .. | .evFinished .. => false | _ => true) = true) : Silent l := by
  intro o ho hl
  have h' := List.all_eq_true.mp h o ho
  unfold Out.isLifeEvent at hl
  split at hl
  · cases h'
  · cases h'
  · exact hl

theorem Quiet.of_all {l : List Out}
    (h1 : l.all (fun o => match o with | .evStarted .. | .evFinished .. => false | _ => true) = true)
    (h2 : l.all (fun o => match o with | .submit .. => false | _ => true) = true) : Quiet l :=
  ⟨Silent.of_all h1, fun _ _ hm => nomatch List.all_eq_true.mp h2 _ hm⟩

theorem Quiet.append {l1 l2 : List Out} (h1 : Quiet l1) (h2 : Quiet l2) : Quiet (l1 ++ l2) :=
  ⟨silent_append.mpr ⟨h1.1, h2.1⟩, fun x n hm => (List.mem_append.mp hm).elim (h1.2 x n) (h2.2 x n)⟩

theorem AState.isQueued_iff (st : AState) : st.isQueued = true ↔ st.rank = 0 := by
  cases st <;> simp [AState.isQueued, AState.rank]

theorem AState.isActive_iff (st : AState) : st.isActive = true ↔ st.rank ≤ 1 := by
  cases st <;> simp [AState.isActive, AState.rank]

theorem AState.rank_le (st : AState) : st.rank ≤ 2 := by
  cases st <;> simp [AState.rank]

theorem syncState_absorbing (t : Nat) (st : AState) (r : SyncReason) (h : st.isFinished = true) :
    syncState t st r = ⟨st, false, none⟩ := by
  cases st <;> simp [AState.isFinished] at h <;> cases r <;> simp [syncState]

theorem syncState_spec (t : Nat) (st : AState) (r : SyncReason) :
    st.rank ≤ (syncState t st r).st.rank ∧
    ((syncState t st r).fin.isSome = true ↔ st.rank < 2 ∧ (syncState t st r).st.rank = 2) ∧
    ((syncState t st r).started = true →
      st.rank = 0 ∧ (syncState t st r).st.rank = 1 ∧ (syncState t st r).fin = none ∧ ∃ w, r = .conn w) := by
  cases st with
  | queued e => rcases r with w | ⟨w, cr⟩ | (_ | _ | _ | _) <;> simp [syncState, AState.rank]
  | running c d e =>
    rcases r with w | ⟨w, cr⟩ | (_ | _ | _ | _)
    · simp [syncState, AState.rank]
    · simp only [syncState]
      split <;> simp [AState.rank]
    all_goals simp [syncState, AState.rank]
  | finished d =>
    rw [syncState_absorbing t _ r rfl]
    simp [AState.rank]
  | finishedUnexp c d f =>
    rw [syncState_absorbing t _ r rfl]
    simp [AState.rank]

theorem errState_spec (c : Consts) (st : AState) :
    st.rank ≤ (errState c st).1.rank ∧
    ((errState c st).2 = true ↔ st.rank < 2 ∧ (errState c st).1.rank = 2) := by
  cases st <;> simp only [errState]
  case queued e => split <;> simp [AState.rank]
  case running cn d e => split <;> simp [AState.rank]
  all_goals simp [AState.rank]

theorem errState_absorbing (c : Consts) (st : AState) (h : st.isFinished = true) : errState c st = (st, false) := by
  cases st <;> simp [AState.isFinished] at h <;> simp [errState]

theorem allocStep_rank (c : Consts) (t : Nat) (st : AState) (i : AIn) : st.rank ≤ (allocStep c t st i).rank := by
  cases i with
  | sync r => exact (syncState_spec t st r).1
  | err => exact (errState_spec c st).1

theorem allocStep_finished (c : Consts) (t : Nat) (st : AState) (i : AIn) (h : st.isFinished = true) :
    allocStep c t st i = st := by
  cases i with
  | sync r => simp [allocStep, syncState_absorbing _ _ _ h]
  | err => simp [allocStep, errState_absorbing _ _ h]

/-- feed input `i0` to the allocations with id `a0` -/
def feedMap (c : Consts) (a0 : Nat) (i0 : AIn) (y : Alloc) : Alloc :=
  if y.id = a0 then { y with st := allocStep c y.target y.st i0 } else y

/-- the queue after input `i` was fed to allocation `a` and the limiter became `lim` -/
def Queue.feed (c : Consts) (q : Queue) (a : Nat) (i : AIn) (lim : Limiter) : Queue :=
  { q with allocs := q.allocs.map (feedMap c a i), lim := lim }

theorem feedMap_id (c : Consts) (a : Nat) (i : AIn) (y : Alloc) : (feedMap c a i y).id = y.id := by
  unfold feedMap; split <;> rfl

theorem feedMap_rank (c : Consts) (a : Nat) (i : AIn) (y : Alloc) : y.st.rank ≤ (feedMap c a i y).st.rank := by
  unfold feedMap
  split
  · exact allocStep_rank c _ _ i
  · exact Nat.le_refl _

theorem feedMap_target (c : Consts) (a : Nat) (i : AIn) (y : Alloc) : (feedMap c a i y).target = y.target := by
  unfold feedMap; split <;> rfl

theorem Queue.findAlloc_feed (c : Consts) (q : Queue) (a : Nat) (i : AIn) (lim : Limiter) (b : Nat) :
    (q.feed c a i lim).findAlloc b = (q.findAlloc b).map (feedMap c a i) :=
  List.find?_map_key Alloc.id q.allocs _ (feedMap_id c a i) b

theorem Queue.sync_cases (c : Consts) (q : Queue) (a : Nat) (r : SyncReason) :
    (q.findAlloc a = none ∧ q.sync a r = (q, [])) ∨
    ∃ x, q.findAlloc a = some x ∧
      q.sync a r = (q.feed c a (.sync r) (Queue.limAfter q.lim (syncState x.target x.st r).fin),
                    Queue.syncEvents q.id a (syncState x.target x.st r)) := by
  unfold Queue.sync
  cases q.findAlloc a with
  | none => exact .inl ⟨rfl, rfl⟩
  | some x => exact .inr ⟨x, rfl, rfl⟩

theorem Queue.bumpErr_cases (c : Consts) (q : Queue) (a : Nat) :
    (q.findAlloc a = none ∧ q.bumpErr c a = (q, [])) ∨
    ∃ x, q.findAlloc a = some x ∧
      q.bumpErr c a = (q.feed c a .err q.lim, if (errState c x.st).2 then [Out.evFinished q.id a] else []) := by
  unfold Queue.bumpErr
  cases q.findAlloc a with
  | none => exact .inl ⟨rfl, rfl⟩
  | some x => exact .inr ⟨x, rfl, rfl⟩

theorem Queue.sync_outs (q : Queue) (a : Nat) (r : SyncReason) : ∀ o ∈ (q.sync a r).2, o.isLifeEvent := by
  unfold Queue.sync
  split
  · exact fun _ ho => nomatch ho
  · intro o ho
    simp only [Queue.syncEvents, List.mem_append] at ho
    rcases ho with ho | ho <;> split at ho
    · cases List.mem_singleton.mp ho; trivial
    · cases ho
    · cases List.mem_singleton.mp ho; trivial
    · cases ho

theorem Queue.bumpErr_outs (c : Consts) (q : Queue) (a : Nat) : ∀ o ∈ (q.bumpErr c a).2, o.isLifeEvent := by
  unfold Queue.bumpErr
  split
  · exact fun _ ho => nomatch ho
  · intro o ho
    split at ho
    · cases List.mem_singleton.mp ho; trivial
    · cases ho

theorem Queue.refresh_ind (c : Consts) (R : Queue → Queue → List Out → Prop) (hrefl : ∀ q, R q q [])
    (htrans : ∀ {a b d o1 o2}, R a b o1 → R b d o2 → R a d (o1 ++ o2))
    (hsync : ∀ q a x, R q (q.sync a (.ext x)).1 (q.sync a (.ext x)).2)
    (herr : ∀ q a, R q (q.bumpErr c a).1 (q.bumpErr c a).2) (q : Queue) (rep : Report) :
    R q (q.refresh c rep).1 (q.refresh c rep).2 := by
  have happ : ∀ q a st, R q (q.applyStatus c a st).1 (q.applyStatus c a st).2 := by
    intro q a st
    cases st
    case error => exact herr q a
    all_goals exact hsync q a _
  cases rep with
  | callErr ids =>
    suffices ∀ acc : Queue × List Out, R q acc.1 acc.2 →
        R q (Queue.refreshErr c ids acc).1 (Queue.refreshErr c ids acc).2 from this (q, []) (hrefl q)
    induction ids with
    | nil => exact fun _ h => h
    | cons a ys ih =>
      intro acc h
      obtain ⟨q1, outs⟩ := acc
      exact ih (_, _) (htrans h (herr q1 a))
  | statuses l =>
    suffices ∀ acc : Queue × List Out, R q acc.1 acc.2 →
        R q (Queue.refreshStatuses c l acc).1 (Queue.refreshStatuses c l acc).2 from this (q, []) (hrefl q)
    induction l with
    | nil => exact fun _ h => h
    | cons y ys ih =>
      intro acc h
      obtain ⟨q1, outs⟩ := acc
      exact ih (_, _) (htrans h (happ q1 y.1 y.2))

theorem State.refreshAll_ind (R : State → List Out → Prop)
    (hstep : ∀ s outs qid q rep, s.getQueue qid = some q → R s outs →
      R (s.setQueue (q.refresh s.consts rep).1) (outs ++ (q.refresh s.consts rep).2))
    (l : List (Nat × Report)) (acc : State × List Out) (h : R acc.1 acc.2) :
    R (State.refreshAll l acc).1 (State.refreshAll l acc).2 := by
  induction l generalizing acc with
  | nil => exact h
  | cons y ys ih =>
    obtain ⟨qid, rep⟩ := y
    obtain ⟨s, outs⟩ := acc
    simp only [State.refreshAll]
    split
    · exact ih _ h
    · rename_i q hq
      exact ih (_, _) (hstep s outs qid q rep hq h)

theorem Queue.refresh_outs (c : Consts) (q : Queue) (rep : Report) : ∀ o ∈ (q.refresh c rep).2, o.isLifeEvent :=
  Queue.refresh_ind c (fun _ _ outs => ∀ o ∈ outs, o.isLifeEvent) (fun _ _ h => nomatch h)
    (fun h1 h2 o ho => (List.mem_append.mp ho).elim (h1 o) (h2 o)) (fun q a _ => Queue.sync_outs q a _)
    (Queue.bumpErr_outs c) q rep

theorem Queue.tryPause_cases (q : Queue) :
    q.tryPause = q ∨ (q.lim.limitsReached = true ∧ q.tryPause = { q with active := false }) := by
  unfold Queue.tryPause
  split
  · rename_i h
    simp only [Bool.and_eq_true] at h
    exact .inr ⟨h.2, rfl⟩
  · exact .inl rfl

theorem Queue.tryPause_lim (q : Queue) : q.tryPause.lim = q.lim := by
  rcases q.tryPause_cases with h | ⟨_, h⟩ <;> rw [h]

theorem Queue.tryPause_spec (q : Queue) (h : q.tryPause.lim.limitsReached = true) : q.tryPause.active = false := by
  rw [Queue.tryPause_lim] at h
  unfold Queue.tryPause
  cases ha : q.active <;> simp [ha, h]

theorem grant_cons (wpa t : Nat) (rest : List Nat) (rem : Option Nat) (l : List Nat)
    (h : grant wpa (t :: rest) rem = .ok l) :
    l = [] ∨ ∃ k l', 1 ≤ k ∧ k ≤ t ∧ t ≤ wpa ∧ (∀ r, rem = some r → k ≤ r) ∧
      grant wpa rest (rem.map (· - k)) = .ok l' ∧ l = k :: l' := by
  simp only [grant] at h
  split at h
  · cases h
  · rename_i hw
    cases rem with
    | none =>
      simp only at h
      split at h
      · cases h; exact .inl rfl
      · rename_i hk
        split at h
        · cases h
        · rename_i l' hl'
          cases h
          exact .inr ⟨t, l', Nat.pos_of_ne_zero hk, Nat.le_refl _, Nat.le_of_not_lt hw, (fun r hr => by cases hr),
            hl', rfl⟩
    | some r0 =>
      simp only at h
      split at h
      · cases h; exact .inl rfl
      · rename_i hk
        split at h
        · cases h
        · rename_i l' hl'
          cases h
          exact .inr ⟨min t r0, l', Nat.pos_of_ne_zero hk, Nat.min_le_left _ _, Nat.le_of_not_lt hw,
            fun r hr => by cases hr; exact Nat.min_le_right _ _, hl', rfl⟩

theorem grant_spec (wpa : Nat) (ts : List Nat) (rem : Option Nat) (l : List Nat)
    (h : grant wpa ts rem = .ok l) :
    (∀ n ∈ l, 1 ≤ n ∧ n ≤ wpa) ∧ l.length ≤ ts.length ∧ (∀ r, rem = some r → l.sum ≤ r) := by
  induction ts generalizing rem l with
  | nil =>
    simp only [grant, Except.ok.injEq] at h
    subst h; simp
  | cons t rest ih =>
    rcases grant_cons wpa t rest rem l h with rfl | ⟨k, l', hk1, hkt, htw, hkr, hl', rfl⟩
    · simp
    · obtain ⟨h1, h2, h3⟩ := ih _ _ hl'
      refine ⟨?_, Nat.succ_le_succ h2, ?_⟩
      · intro n hn
        rcases List.mem_cons.mp hn with rfl | hn
        · exact ⟨hk1, Nat.le_trans hkt htw⟩
        · exact h1 n hn
      · intro r hr
        rw [List.sum_cons, Nat.add_comm]
        exact Nat.add_le_of_le_sub (hkr r hr) (h3 (r - k) (by simp [hr]))

theorem Queue.permit_spec (q : Queue) (r : QResp) (l : List Nat) (h : q.permit r = .ok l) :
    (∀ n ∈ l, 1 ≤ n ∧ n ≤ q.params.wpa) ∧ l.length ≤ q.params.backlog - q.queuedCount ∧
    (∀ m, q.params.mwc = some m → l.sum ≤ m - q.activeWorkers) := by
  unfold Queue.permit at h
  simp only at h
  split at h
  · simp only [Except.ok.injEq] at h; subst h; simp
  · split at h
    · cases h
    · obtain ⟨h1, h2, h3⟩ := grant_spec _ _ _ _ h
      refine ⟨h1, ?_, ?_⟩
      · refine Nat.le_trans h2 ?_
        simp only [List.length_take]
        exact Nat.min_le_left _ _
      · intro m hm
        exact h3 _ (by simp [hm])

theorem Queue.permit_hasSpace (q : Queue) (r : QResp) (n : Nat) (rest : List Nat) (h : q.permit r = .ok (n :: rest)) :
    q.hasSpace = true := by
  obtain ⟨h1, h2, h3⟩ := Queue.permit_spec q r _ h
  have hn := (h1 n (by simp)).1
  simp only [List.length_cons, List.sum_cons] at h2 h3
  unfold Queue.hasSpace
  rw [if_neg (Nat.not_le.mpr (Nat.lt_of_sub_pos (Nat.lt_of_lt_of_le (Nat.succ_pos _) h2)))]
  cases hm : q.params.mwc with
  | none => rfl
  | some m =>
    simp only [Bool.not_eq_true', decide_eq_false_iff_not]
    exact Nat.not_le.mpr (Nat.lt_of_sub_pos (Nat.lt_of_lt_of_le hn (Nat.le_trans (Nat.le_add_right _ _) (h3 m hm))))

/-! `compute_submission_permit` iterates the queued allocations in hash-map order. The result does not depend on that order,
so the order is not a choice input of the model (which uses insertion order): the discount step has a closed form in the
number of big enough allocations and the sum of all sizes (`discount_eq`). -/

theorem mul_countP_le_sum (w : Nat) (l : List Nat) : w * l.countP (w ≤ ·) ≤ l.sum := by
  induction l with
  | nil => simp
  | cons t rest ih =>
    rw [List.countP_cons, List.sum_cons]
    by_cases hw : w ≤ t
    · rw [if_pos (decide_eq_true hw), Nat.mul_succ]
      omega
    · rw [if_neg (by simpa using hw), Nat.add_zero]
      omega

/-- Step 1 of the permit in closed form: of the `c` queued allocations with at least `w` workers, `min mn c` take
a multi-node slot each, and the single-node demand shrinks by all queued workers except `w` per slot taken. -/
theorem discount_eq (w : Nat) (l : List Nat) (mn sn : Nat) :
    discount w l (mn, sn) =
      (mn - min mn (l.countP (w ≤ ·)), sn - (l.sum - w * min mn (l.countP (w ≤ ·)))) := by
  induction l generalizing mn sn with
  | nil => simp [discount]
  | cons t rest ih =>
    have hle : ∀ a, w * min a (rest.countP (w ≤ ·)) ≤ rest.sum := fun a =>
      Nat.le_trans (Nat.mul_le_mul_left w (Nat.min_le_right _ _)) (mul_countP_le_sum w rest)
    rw [discount, List.countP_cons, List.sum_cons]
    cases mn with
    | zero =>
      rw [if_neg (fun h => Nat.lt_irrefl 0 h.1), ih]
      simp only [Nat.zero_min, Nat.mul_zero, Nat.sub_zero, Nat.sub_sub]
    | succ m =>
      by_cases hw : w ≤ t
      · have := hle m
        rw [if_pos ⟨Nat.succ_pos m, hw⟩, if_pos (decide_eq_true hw), ih, Nat.add_sub_cancel, Nat.add_min_add_right,
          Nat.add_sub_add_right, Nat.mul_add_one, Nat.sub_sub]
        congr 2
        omega
      · have hd : ¬ decide (w ≤ t) = true := by simpa using hw
        rw [if_neg (fun h => hw h.2), if_neg hd, ih]
        simp only [Nat.add_zero, Nat.sub_sub, Nat.add_sub_assoc (hle (m + 1))]

theorem Limiter.status_ok_iff (l : Limiter) (now : Nat) :
    l.status now = .ok ↔ l.limitsReached = false ∧ l.elapsed now = true := by
  simp only [Limiter.limitsReached, Bool.or_eq_false_iff, decide_eq_false_iff_not]
  unfold Limiter.status
  split
  · simp [*]
  · split
    · simp [*]
    · split <;> simp [*]

/-- `q'` is `q` with the fresh Queued allocations `extra` added at the end (`AllocationQueue::add_allocation` after each
accepted submission); the limiter may differ -/
structure Queue.Grown (q q' : Queue) (extra : List Alloc) : Prop where
  allocs : q'.allocs = q.allocs ++ extra
  id : q'.id = q.id
  active : q'.active = q.active
  params : q'.params = q.params
  queued : ∀ x ∈ extra, x.st = .queued 0
  nodup : (q.allocs.map (·.id)).Nodup → ((q.allocs ++ extra).map (·.id)).Nodup

theorem Queue.Grown.same {q q' : Queue} (h1 : q'.allocs = q.allocs) (h2 : q'.id = q.id) (h3 : q'.active = q.active)
    (h4 : q'.params = q.params) : Queue.Grown q q' [] :=
  ⟨by rw [h1, List.append_nil], h2, h3, h4, nofun, by rw [List.append_nil]; exact fun h => h⟩

theorem Queue.submitLoop_q (p : List Nat) (acc res : SubAcc) (hr : Queue.submitLoop p acc = res) :
    ∃ extra, Queue.Grown acc.q res.q extra ∧ extra.map (·.target) <+: p := by
  induction p generalizing acc with
  | nil => subst hr; exact ⟨[], .same rfl rfl rfl rfl, List.nil_prefix⟩
  | cons n rest ih =>
    simp only [Queue.submitLoop] at hr
    split at hr
    · subst hr; exact ⟨[], .same rfl rfl rfl rfl, List.nil_prefix⟩
    · split at hr
      · subst hr; exact ⟨[], .same rfl rfl rfl rfl, List.nil_prefix⟩
      · rename_i a rs _ hnew
        obtain ⟨extra, g, h6⟩ := ih _ hr
        refine ⟨⟨a, n, .queued 0⟩ :: extra, ⟨g.allocs.trans (List.append_assoc _ _ _), g.id, g.active, g.params, ?_, ?_⟩,
          List.prefix_cons_inj n |>.mpr h6⟩
        · intro x hx
          rcases List.mem_cons.mp hx with rfl | hx
          · rfl
          · exact g.queued x hx
        · intro hnd
          rw [List.append_cons]
          refine g.nodup ?_
          rw [List.map_append, List.nodup_append]
          refine ⟨hnd, by simp, ?_⟩
          intro x hx y hy
          obtain rfl := List.mem_singleton.mp hy
          rintro rfl
          obtain ⟨z, hz, hzx⟩ := List.mem_map.mp hx
          exact hnew (List.any_eq_true.mpr ⟨z, hz, by simpa using hzx⟩)
    · subst hr; exact ⟨[], .same rfl rfl rfl rfl, List.nil_prefix⟩

theorem Queue.submitLoop_outs (p : List Nat) (acc res : SubAcc) (hr : Queue.submitLoop p acc = res) :
    ∃ more, res.outs = acc.outs ++ more ∧ Silent more ∧
      (∀ x n, Out.submit x n ∈ more → x = acc.q.id ∧ n ∈ p) ∧
      (∀ n rest, p = n :: rest → Out.submit acc.q.id n ∈ more) := by
  induction p generalizing acc with
  | nil => subst hr; exact ⟨[], by simp [Queue.submitLoop, Silent]⟩
  | cons k rest ih =>
    -- every round starts with the call; what follows (`tail`) is silent and calls only for later sizes
    have key : ∀ tail : List Out, Silent tail → (∀ x n, Out.submit x n ∈ tail → x = acc.q.id ∧ n ∈ rest) →
        Silent (.submit acc.q.id k :: tail) ∧
        (∀ x n, Out.submit x n ∈ Out.submit acc.q.id k :: tail → x = acc.q.id ∧ n ∈ k :: rest) ∧
        ∀ n r, k :: rest = n :: r → Out.submit acc.q.id n ∈ Out.submit acc.q.id k :: tail := by
      intro tail hs ht
      refine ⟨silent_cons.mpr ⟨fun h => h, hs⟩, fun x n hm => ?_, fun n r he => ?_⟩
      · rcases List.mem_cons.mp hm with h | h
        · cases h; exact ⟨rfl, List.mem_cons_self⟩
        · exact ⟨(ht x n h).1, List.mem_cons_of_mem _ (ht x n h).2⟩
      · cases he; exact List.mem_cons_self
    simp only [Queue.submitLoop] at hr
    split at hr
    · subst hr
      exact ⟨_, List.append_assoc _ _ _,
        key [.bad "no-submit-result"] (Silent.of_all rfl) fun _ _ h => nomatch List.mem_singleton.mp h⟩
    · split at hr
      · rename_i a rs _ _
        subst hr
        exact ⟨_, List.append_assoc _ _ _,
          key [.evQueued acc.q.id a k] (Silent.of_all rfl) fun _ _ h => nomatch List.mem_singleton.mp h⟩
      · rename_i a rs _ _
        obtain ⟨more, h1, h2, h3, _⟩ := ih _ hr
        exact ⟨_, h1.trans ((List.append_assoc _ _ _).trans (List.append_assoc _ _ _)),
          key (.evQueued acc.q.id a k :: more) (silent_cons.mpr ⟨fun h => h, h2⟩)
            fun x n h => h3 x n ((List.mem_cons.mp h).resolve_left fun e => nomatch e)⟩
    · subst hr
      exact ⟨[.submit acc.q.id k], rfl, key [] silent_nil fun _ _ h => nomatch h⟩

theorem Queue.trySubmit_cases (q : Queue) (r : QResp) (now : Nat) (res : List SubRes) :
    ((q.trySubmit r now res).q = q ∧ (q.trySubmit r now res).outs = []) ∨
    ∃ n rest, r.isEmpty = false ∧ q.active = true ∧ q.lim.status now = .ok ∧ q.permit r = .ok (n :: rest) ∧
      q.trySubmit r now res =
        Queue.submitLoop (n :: rest) ⟨{ q with lim := q.lim.onAttempt now }, [], res, [], none⟩ := by
  generalize hr : q.trySubmit r now res = a
  unfold Queue.trySubmit at hr
  simp only at hr
  split at hr
  · subst hr; exact .inl ⟨rfl, rfl⟩
  · rename_i hne
    split at hr
    · subst hr; exact .inl ⟨rfl, rfl⟩
    · rename_i hact
      split at hr
      · subst hr; exact .inl ⟨rfl, rfl⟩
      · subst hr; exact .inl ⟨rfl, rfl⟩
      · rename_i n rest hp
        split at hr
        · rename_i hst
          exact .inr ⟨n, rest, by simpa using hne, by simpa using hact, hst, hp, hr.symm⟩
        · subst hr; exact .inl ⟨rfl, rfl⟩

theorem Queue.trySubmit_run (q : Queue) (r : QResp) (now : Nat) (res : List SubRes) (n : Nat) (rest : List Nat)
    (hne : r.isEmpty = false) (hact : q.active = true) (hst : q.lim.status now = .ok)
    (hp : q.permit r = .ok (n :: rest)) :
    q.trySubmit r now res =
      Queue.submitLoop (n :: rest) ⟨{ q with lim := q.lim.onAttempt now }, [], res, [], none⟩ := by
  unfold Queue.trySubmit
  simp only [hne, hact, hp, hst, Bool.false_eq_true, if_false, Bool.not_true, if_true]

theorem Queue.trySubmit_q (q : Queue) (r : QResp) (now : Nat) (res : List SubRes) :
    ∃ extra, Queue.Grown q (q.trySubmit r now res).q extra ∧
      (extra = [] ∨ ∃ p, q.permit r = .ok p ∧ extra.map (·.target) <+: p) := by
  rcases Queue.trySubmit_cases q r now res with ⟨h, _⟩ | ⟨n, rest, _, _, _, hp, h⟩
  · rw [h]; exact ⟨[], .same rfl rfl rfl rfl, .inl rfl⟩
  · obtain ⟨extra, g, h6⟩ := Queue.submitLoop_q _ _ _ h.symm
    exact ⟨extra, ⟨g.allocs, g.id, g.active, g.params, g.queued, g.nodup⟩, .inr ⟨_, hp, h6⟩⟩

theorem Queue.trySubmit_id (q : Queue) (r : QResp) (now : Nat) (res : List SubRes) :
    (q.trySubmit r now res).q.id = q.id :=
  let ⟨_, g, _⟩ := Queue.trySubmit_q q r now res
  g.id

theorem Queue.trySubmit_silent (q : Queue) (r : QResp) (now : Nat) (res : List SubRes) :
    Silent (q.trySubmit r now res).outs := by
  rcases Queue.trySubmit_cases q r now res with ⟨_, h⟩ | ⟨n, rest, _, _, _, _, h⟩
  · rw [h]; exact silent_nil
  · obtain ⟨more, h1, h2, _⟩ := Queue.submitLoop_outs _ _ _ h.symm
    rw [h1]; exact h2

theorem Queue.trySubmit_submit (q : Queue) (r : QResp) (now : Nat) (res : List SubRes) (x n : Nat)
    (h : Out.submit x n ∈ (q.trySubmit r now res).outs) :
    x = q.id ∧ r.isEmpty = false ∧ q.active = true ∧ q.lim.status now = .ok ∧ ∃ p, q.permit r = .ok p ∧ n ∈ p := by
  rcases Queue.trySubmit_cases q r now res with ⟨_, h0⟩ | ⟨k, rest, hne, hact, hst, hp, h0⟩
  · rw [h0] at h; cases h
  · obtain ⟨more, h1, _, h3, _⟩ := Queue.submitLoop_outs _ _ _ h0.symm
    rw [h1] at h
    obtain ⟨hx, hn⟩ := h3 x n h
    exact ⟨hx, hne, hact, hst, _, hp, hn⟩

theorem submitAll_cons (now : Nat) (r : QResp) (qid : Nat) (ys : List (QResp × Nat)) (acc : TickAcc) :
    (acc.st.getQueue qid = none ∧ submitAll now ((r, qid) :: ys) acc = submitAll now ys acc) ∨
    ∃ qq acc', acc.st.getQueue qid = some qq ∧
      acc' = ⟨(acc.st.setQueue (qq.trySubmit r now acc.results).q).addA2q (qq.trySubmit r now acc.results).newIds qid,
        acc.outs ++ (qq.trySubmit r now acc.results).outs, (qq.trySubmit r now acc.results).results,
        (qq.trySubmit r now acc.results).panic⟩ ∧
      ((acc'.panic ≠ none ∧ submitAll now ((r, qid) :: ys) acc = acc') ∨
       (acc'.panic = none ∧ submitAll now ((r, qid) :: ys) acc = submitAll now ys acc')) := by
  cases hq : acc.st.getQueue qid with
  | none => exact .inl ⟨rfl, by simp only [submitAll, hq]⟩
  | some qq =>
    refine .inr ⟨qq, _, rfl, rfl, ?_⟩
    cases hp : (qq.trySubmit r now acc.results).panic with
    | some p => exact .inl ⟨nofun, by simp only [submitAll, hq, hp]⟩
    | none => exact .inr ⟨rfl, by simp only [submitAll, hq, hp]⟩

theorem submitAll_ind (now : Nat) (R : State → List Out → Prop)
    (hstep : ∀ st outs r qid q res, st.getQueue qid = some q → R st outs →
      R ((st.setQueue (q.trySubmit r now res).q).addA2q (q.trySubmit r now res).newIds qid)
        (outs ++ (q.trySubmit r now res).outs))
    (l : List (QResp × Nat)) (acc : TickAcc) (h : R acc.st acc.outs) :
    R (submitAll now l acc).st (submitAll now l acc).outs := by
  induction l generalizing acc with
  | nil => exact h
  | cons y ys ih =>
    rcases submitAll_cons now y.1 y.2 ys acc with ⟨_, e⟩ | ⟨q, acc', hq, rfl, ⟨_, e⟩ | ⟨_, e⟩⟩ <;> rw [e]
    · exact ih acc h
    · exact hstep acc.st acc.outs y.1 y.2 q acc.results hq h
    · exact ih _ (hstep acc.st acc.outs y.1 y.2 q acc.results hq h)

/-- the end of a tick whose loop over the queues returned `acc` -/
def tickDone (acc : TickAcc) : Res :=
  match acc.panic with
  | some p => ⟨acc.st, acc.outs, some p⟩
  | none =>
    ⟨acc.st.pauseAll,
     acc.outs ++ (if acc.results.isEmpty then [] else [.bad "unused-submit-results"]) ++ [.tickRes .ok], none⟩

/-- the loop over the queues as the tick runs it: after the pausing pass, on the scheduler's answer -/
def State.tickLoop (s : State) (now : Nat) (order : List Nat) (results : List SubRes) (responses : List QResp) :
    TickAcc :=
  submitAll now (responses.zip (s.pauseAll.activeIn order))
    ⟨s.pauseAll, [.query (s.pauseAll.activeIn order).length], results, none⟩

theorem tickDone_cases (acc : TickAcc) :
    (∃ p, acc.panic = some p ∧ tickDone acc = ⟨acc.st, acc.outs, some p⟩) ∨
    (acc.panic = none ∧ ∃ tail, Quiet tail ∧ tickDone acc = ⟨acc.st.pauseAll, acc.outs ++ tail, none⟩) := by
  unfold tickDone
  cases acc.panic with
  | some p => exact .inl ⟨p, rfl, rfl⟩
  | none =>
    refine .inr ⟨rfl, (if acc.results.isEmpty then [] else [.bad "unused-submit-results"]) ++ [.tickRes .ok], ?_,
      by rw [List.append_assoc]⟩
    split <;> exact Quiet.of_all rfl rfl

theorem State.tick_path (s : State) (now : Nat) (order : List Nat) (query : Query) (results : List SubRes) :
    (s.hasActiveQueues = false ∧ s.tick now order query results = ⟨s, [.tickRes .skipped], none⟩) ∨
    (∃ outs p, Quiet outs ∧ s.tick now order query results = ⟨s.pauseAll, outs, p⟩ ∧
      (((s.pauseAll.activeIn order).all fun id =>
          match s.pauseAll.getQueue id with | some q => !q.hasSpace | none => true) = true ∨
        ∀ sn mn responses, query = .ok sn mn → mergeMn mn (sn.map fun n => ⟨n, 0, 0⟩) ≠ .ok responses)) ∨
    (∃ sn mn responses, query = .ok sn mn ∧ mergeMn mn (sn.map fun n => ⟨n, 0, 0⟩) = .ok responses ∧
      s.tick now order query results = tickDone (s.tickLoop now order results responses)) := by
  generalize hr : s.tick now order query results = res
  unfold State.tick at hr
  simp only at hr
  split at hr
  · rename_i h
    exact .inl ⟨by simpa using h, hr.symm⟩
  · refine .inr ?_
    split at hr
    · rename_i h
      exact .inl ⟨_, _, Quiet.of_all rfl rfl, hr.symm, .inl (by rw [List.isEmpty_iff.mp h]; rfl)⟩
    · split at hr
      · rename_i h
        exact .inl ⟨_, _, Quiet.of_all rfl rfl, hr.symm, .inl h⟩
      · split at hr
        · exact .inl ⟨_, _, Quiet.of_all rfl rfl, hr.symm, .inr nofun⟩
        · exact .inl ⟨_, _, Quiet.of_all rfl rfl, hr.symm, .inr nofun⟩
        · rename_i sn mn
          split at hr
          · rename_i hm
            exact .inl ⟨_, _, Quiet.of_all rfl rfl, hr.symm,
              .inr fun _ _ _ hq hm' => by cases hq; rw [hm] at hm'; cases hm'⟩
          · rename_i responses hm
            exact .inr ⟨sn, mn, responses, rfl, hm, hr.symm⟩

theorem State.tick_ind (s : State) (now : Nat) (R : State → List Out → Prop) (h0 : R s [])
    (hquiet : ∀ t o outs, Quiet outs → R t o → R t (o ++ outs)) (hpause : ∀ t o, R t o → R t.pauseAll o)
    (hstep : ∀ st outs r qid q res, st.getQueue qid = some q → R st outs →
      R ((st.setQueue (q.trySubmit r now res).q).addA2q (q.trySubmit r now res).newIds qid)
        (outs ++ (q.trySubmit r now res).outs))
    (order : List Nat) (query : Query) (results : List SubRes) :
    R (s.tick now order query results).st (s.tick now order query results).outs := by
  rcases State.tick_path s now order query results with
    ⟨_, h⟩ | ⟨outs, p, hq, h, _⟩ | ⟨sn, mn, responses, _, _, h⟩ <;> rw [h]
  · exact hquiet s [] _ (Quiet.of_all rfl rfl) h0
  · exact hquiet _ [] outs hq (hpause s [] h0)
  · have hacc : R (s.tickLoop now order results responses).st (s.tickLoop now order results responses).outs :=
      submitAll_ind now R hstep _ ⟨s.pauseAll, _, results, none⟩
        (hquiet _ [] _ (Quiet.of_all rfl rfl) (hpause s [] h0))
    rcases tickDone_cases (s.tickLoop now order results responses) with ⟨p, _, h1⟩ | ⟨_, tail, ht, h1⟩ <;> rw [h1]
    · exact hacc
    · exact hquiet _ _ tail ht (hpause _ _ hacc)

theorem State.tick_main (s : State) (now : Nat) (order : List Nat) (sn : List Nat) (mn : List (Nat × Nat × Nat))
    (results : List SubRes) (responses : List QResp) (x : Nat) (qx : Queue)
    (h1 : s.hasActiveQueues = true) (hx : x ∈ s.pauseAll.activeIn order) (hqx : s.pauseAll.getQueue x = some qx)
    (hsp : qx.hasSpace = true) (hm : mergeMn mn (sn.map fun k => ⟨k, 0, 0⟩) = .ok responses) :
    s.tick now order (.ok sn mn) results = tickDone (s.tickLoop now order results responses) := by
  rcases State.tick_path s now order (.ok sn mn) results with
    ⟨h0, _⟩ | ⟨_, _, _, _, hall | hno⟩ | ⟨sn', mn', responses', hq, hm', h⟩
  · rw [h1] at h0; cases h0
  · have := List.all_eq_true.mp hall x hx
    rw [hqx] at this
    simp [hsp] at this
  · exact absurd hm (hno sn mn responses rfl)
  · cases hq
    rw [hm] at hm'; cases hm'
    exact h

theorem State.workerEvent_cases (s : State) (a : Nat) (r : SyncReason) :
    s.workerEvent a r = ⟨s, [.sched true], none⟩ ∨
    ∃ k q, a2qLookup a s.a2q = some k ∧ s.getQueue k = some q ∧
      s.workerEvent a r = ⟨s.setQueue (q.sync a r).1, (q.sync a r).2 ++ [.sched true], none⟩ := by
  unfold State.workerEvent
  split
  · exact .inl rfl
  · rename_i k hk
    split
    · exact .inl rfl
    · rename_i q hq
      exact .inr ⟨k, q, hk, hq, rfl⟩

theorem State.addQueue_cases (s : State) (p : Params) (lim : Limiter) (qid : Option Nat) :
    (∃ q ∈ s.queues, q.id = qid.getD s.nextId) ∧
      s.addQueue p lim qid = ⟨{ s with nextId := if qid.isSome then s.nextId else s.nextId + 1 }, [], some .dupQueue⟩ ∨
    s.getQueue (qid.getD s.nextId) = none ∧ ∃ outs, Quiet outs ∧
      s.addQueue p lim qid =
        ⟨{ s with queues := s.queues ++ [⟨qid.getD s.nextId, p, true, [], lim⟩],
                  nextId := if qid.isSome then s.nextId else s.nextId + 1 }, outs, none⟩ := by
  simp only [State.addQueue]
  split
  · rename_i h
    obtain ⟨q, hq, hid⟩ := List.any_eq_true.mp h
    exact .inl ⟨⟨q, hq, beq_iff_eq.mp hid⟩, rfl⟩
  · rename_i h
    simp only [Bool.not_eq_true, List.any_eq_false] at h
    exact .inr ⟨List.find?_eq_none.mpr fun x hx => Bool.eq_false_iff.mp (h x hx), _,
      by cases qid <;> exact Quiet.of_all rfl rfl, rfl⟩

theorem State.pause_cases (s : State) (k : Nat) :
    ∃ outs, Quiet outs ∧ (s.pause k = ⟨s, outs, none⟩ ∨
      ∃ q, s.getQueue k = some q ∧ s.pause k = ⟨s.setQueue { q with active := false }, outs, none⟩) := by
  unfold State.pause
  cases s.getQueue k with
  | none => exact ⟨_, Quiet.of_all rfl rfl, .inl rfl⟩
  | some q => exact ⟨_, Quiet.of_all rfl rfl, .inr ⟨q, rfl, rfl⟩⟩

theorem State.resume_cases (s : State) (k : Nat) :
    ∃ outs, Quiet outs ∧ (s.resume k = ⟨s, outs, none⟩ ∨
      ∃ q, s.getQueue k = some q ∧
        s.resume k = ⟨s.setQueue { q with active := true, lim := q.lim.onResume s.consts.resumeMask }, outs, none⟩) := by
  unfold State.resume
  cases s.getQueue k with
  | none => exact ⟨_, Quiet.of_all rfl rfl, .inl rfl⟩
  | some q => exact ⟨_, Quiet.of_all rfl rfl, .inr ⟨q, rfl, rfl⟩⟩

theorem State.refresh_cases (s : State) (reports : List (Nat × Report)) :
    ∃ tail, Quiet tail ∧ (s.refresh reports = ⟨s, tail, none⟩ ∨
      s.refresh reports = ⟨(State.refreshAll reports (s, [])).1, (State.refreshAll reports (s, [])).2 ++ tail, none⟩) := by
  unfold State.refresh
  split
  · exact ⟨_, Quiet.of_all rfl rfl, .inl rfl⟩
  · exact ⟨_, Quiet.of_all rfl rfl, .inr rfl⟩

theorem State.removeQueue_cases (s : State) (k : Nat) (force : Bool) :
    (∃ outs, Quiet outs ∧ s.removeQueue k force = ⟨s, outs, none⟩) ∨
    ∃ q outs p m, s.getQueue k = some q ∧ Quiet outs ∧
      s.removeQueue k force = ⟨{ s with queues := s.queues.filter (·.id != k), a2q := m }, outs, p⟩ := by
  generalize hr : s.removeQueue k force = res
  unfold State.removeQueue at hr
  split at hr
  · exact .inl ⟨_, Quiet.of_all rfl rfl, hr.symm⟩
  · rename_i q hq
    split at hr
    · exact .inl ⟨_, Quiet.of_all rfl rfl, hr.symm⟩
    · split at hr
      · exact .inr ⟨q, _, _, s.a2q, hq, Quiet.of_all rfl rfl, hr.symm⟩
      · rename_i m _
        refine .inr ⟨q, _, _, m, hq, Quiet.append ⟨?_, ?_⟩ (Quiet.of_all rfl rfl), hr.symm⟩
        · intro o ho
          obtain ⟨al, _, rfl⟩ := List.mem_map.mp ho
          exact fun h => h
        · intro x n hm
          obtain ⟨al, _, h⟩ := List.mem_map.mp hm
          cases h

theorem a2qLookup_remove (a b : Nat) (m : List (Nat × Nat)) :
    a2qLookup a (a2qRemove b m) = if a = b then none else a2qLookup a m := by
  unfold a2qLookup a2qRemove
  rw [List.find?_filter_ne Prod.fst]
  split <;> rfl

theorem removeA2qAll_lookup (ids : List Nat) (m m' : List (Nat × Nat)) (h : State.removeA2qAll ids m = some m')
    (a : Nat) (ha : a ∈ ids ∨ a2qLookup a m = none) : a2qLookup a m' = none := by
  induction ids generalizing m with
  | nil =>
    simp only [State.removeA2qAll, Option.some.injEq] at h
    subst h
    rcases ha with ha | ha
    · cases ha
    · exact ha
  | cons b rest ih =>
    simp only [State.removeA2qAll] at h
    split at h
    · apply ih _ h
      by_cases hab : a = b
      · right; rw [a2qLookup_remove]; simp [hab]
      · rcases ha with ha | ha
        · simp only [List.mem_cons] at ha
          rcases ha with ha | ha
          · exact absurd ha hab
          · left; exact ha
        · right; rw [a2qLookup_remove]; simp [hab, ha]
    · cases h

theorem removeA2qAll_other (ids : List Nat) (m m' : List (Nat × Nat)) (h : State.removeA2qAll ids m = some m')
    (a : Nat) (ha : a ∉ ids) : a2qLookup a m' = a2qLookup a m := by
  induction ids generalizing m with
  | nil =>
    simp only [State.removeA2qAll, Option.some.injEq] at h
    subst h; rfl
  | cons b rest ih =>
    simp only [State.removeA2qAll] at h
    simp only [List.mem_cons, not_or] at ha
    split at h
    · rw [ih _ h ha.2, a2qLookup_remove]; simp [ha.1]
    · cases h

end HqModel.AutoAlloc
