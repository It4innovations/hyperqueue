import HqModel.Stream.Header
/-!
Codec lemmas for M8 Stream: little-endian / varint / zig-zag round trips, prefix-freeness (decoding a strict
prefix of an encoding reports *end of input*, never a value and never an error) — the two halves of `Codes` — lifted
to field sequences and to `StreamChunkHeader`.
-/
namespace HqModel.Stream

@[simp] theorem leEnc_length (k n : Nat) : (leEnc k n).length = k := by
  induction k generalizing n with
  | zero => rfl
  | succ k ih => simp [leEnc, ih]

theorem leDec_leEnc (k n : Nat) (r : Bytes) : leDec k (leEnc k n ++ r) = some (n % 256 ^ k, r) := by
  induction k generalizing n with
  | zero => simp [leEnc, leDec, Nat.mod_one]
  | succ k ih =>
    simp only [leEnc, List.cons_append, leDec, ih]
    have : (UInt8.ofNat (n % 256)).toNat = n % 256 := by
      simp [UInt8.toNat_ofNat']
    rw [this, Nat.pow_succ', Nat.mod_mul]

theorem leDec_short {k : Nat} {bs : Bytes} (h : bs.length < k) : leDec k bs = none := by
  induction k generalizing bs with
  | zero => omega
  | succ k ih =>
    cases bs with
    | nil => rfl
    | cons b bs =>
      simp only [List.length_cons] at h
      simp [leDec, ih (bs := bs) (by omega)]

theorem encVarint_length_pos (n : Nat) : 0 < (encVarint n).length := by
  unfold encVarint; repeat' split
  all_goals simp

theorem encVarint_length_le (n : Nat) : (encVarint n).length ≤ 9 := by
  unfold encVarint; repeat' split
  all_goals simp

theorem decVarint_encVarint {n : Nat} (h : n < 18446744073709551616) (r : Bytes) :
    decVarint (encVarint n ++ r) = .ok n r := by
  unfold encVarint
  split
  · rename_i h1
    have : (UInt8.ofNat n).toNat = n := by simp [UInt8.toNat_ofNat']; omega
    simp [decVarint, this, h1]
  · split
    · rename_i h1 h2
      have e : n % 256 ^ 2 = n := Nat.mod_eq_of_lt (by omega)
      simp [decVarint, leDec_leEnc, e]
    · split
      · rename_i h1 h2 h3
        have e : n % 256 ^ 4 = n := Nat.mod_eq_of_lt (by omega)
        simp [decVarint, leDec_leEnc, e]
      · rename_i h1 h2 h3
        have e : n % 256 ^ 8 = n := Nat.mod_eq_of_lt (by omega)
        simp [decVarint, leDec_leEnc, e]

theorem decVarint_take_encVarint (n k : Nat) (h : k < (encVarint n).length) :
    decVarint ((encVarint n).take k) = .eof := by
  cases k with
  | zero => simp [decVarint]
  | succ k =>
    unfold encVarint at h ⊢
    split
    · rename_i h1; simp [h1] at h
    · split
      · rename_i h1 h2
        simp [h1, h2] at h
        simp [List.take_succ_cons, decVarint, leDec_short (k := 2) (bs := (leEnc 2 n).take k) (by simp; omega)]
      · split
        · rename_i h1 h2 h3
          simp [h1, h2, h3] at h
          simp [List.take_succ_cons, decVarint, leDec_short (k := 4) (bs := (leEnc 4 n).take k) (by simp; omega)]
        · rename_i h1 h2 h3
          simp [h1, h2, h3] at h
          simp [List.take_succ_cons, decVarint, leDec_short (k := 8) (bs := (leEnc 8 n).take k) (by simp; omega)]

theorem unzigzag_zigzag (n : Int) : unzigzag (zigzag n) = n := by
  unfold zigzag unzigzag
  by_cases h : n < 0
  · rw [if_pos h, if_neg (by omega)]; omega
  · rw [if_neg h, if_pos (by omega)]; omega

theorem zigzag_lt {n : Int} (lo : -9223372036854775808 ≤ n) (hi : n < 9223372036854775808) :
    zigzag n < 18446744073709551616 := by
  unfold zigzag; split <;> omega

/-- `bs` is an encoding of `x` for `dec`: followed by anything it decodes to `x` and the rest, and every strict prefix
of it is reported as end of input (never a value, never an error) -/
def Codes {α : Type} (dec : Bytes → Dec α) (x : α) (bs : Bytes) : Prop :=
  (∀ r, dec (bs ++ r) = .ok x r) ∧ ∀ k, k < bs.length → dec (bs.take k) = .eof

theorem codes_varint {n : Nat} (h : n < 18446744073709551616) : Codes decVarint n (encVarint n) :=
  ⟨decVarint_encVarint h, decVarint_take_encVarint n⟩

theorem codes_fields {ps : List (Nat → Bool)} {vs : List Nat} (hl : vs.length = ps.length)
    (hv : ∀ v ∈ vs, v < 18446744073709551616) (hp : ∀ pv ∈ ps.zip vs, pv.1 pv.2 = true) :
    Codes (decFields ps) vs (encFields vs) := by
  induction ps generalizing vs with
  | nil => cases vs <;> simp_all [Codes, decFields, encFields]
  | cons p ps ih =>
    cases vs with
    | nil => simp at hl
    | cons v vs =>
      obtain ⟨c1, c2⟩ := codes_varint (hv v (by simp))
      have hp0 : p v = true := hp (p, v) (by simp)
      obtain ⟨i1, i2⟩ := ih (vs := vs) (by simpa using hl) (fun x hx => hv x (by simp [hx]))
        (fun pv h => hp pv (by simp [h]))
      have e : encFields (v :: vs) = encVarint v ++ encFields vs := by simp [encFields]
      rw [e]
      refine ⟨fun r => ?_, fun k hk => ?_⟩
      · simp only [decFields, List.append_assoc, c1, hp0, if_true, i1]
      · by_cases hlt : k < (encVarint v).length
        · rw [List.take_append_of_le_length (by omega)]
          simp only [decFields, c2 k hlt]
        · have hk' : k - (encVarint v).length < (encFields vs).length := by
            simp only [List.length_append] at hk; omega
          rw [List.take_append, List.take_of_length_le (by omega)]
          simp only [decFields, c1, hp0, if_true, i2 _ hk']

theorem fields_lt {h : ChunkHeader} (v : h.Valid) : ∀ x ∈ h.fields, x < 18446744073709551616 := by
  have := v.time_lo; have := v.time_hi; have := v.job; have := v.task; have := v.inst
  have := v.channel; have := v.size
  have hz : zigzag h.time < 18446744073709551616 :=
    zigzag_lt (by simp only [timeMin] at *; omega) (by simp only [timeMax] at *; omega)
  intro x hx
  simp only [ChunkHeader.fields, List.mem_cons, List.not_mem_nil, or_false] at hx
  rcases hx with rfl | rfl | rfl | rfl | rfl | rfl <;> omega

theorem fields_ok {h : ChunkHeader} (v : h.Valid) : ∀ pv ∈ hdrPreds.zip h.fields, pv.1 pv.2 = true := by
  have := v.time_lo; have := v.time_hi; have := v.job; have := v.task; have := v.inst
  have := v.channel
  intro pv hpv
  simp only [hdrPreds, ChunkHeader.fields, List.zip_cons_cons, List.zip_nil_right, List.mem_cons,
    List.not_mem_nil, or_false] at hpv
  rcases hpv with rfl | rfl | rfl | rfl | rfl | rfl <;>
    simp [timeOk, u32Ok, u64Ok, unzigzag_zigzag, *]

theorem codes_hdr {h : ChunkHeader} (v : h.Valid) : Codes decHdr h (encHdr h) := by
  obtain ⟨e1, e2⟩ := codes_fields (ps := hdrPreds) (vs := h.fields) rfl (fields_lt v) (fields_ok v)
  refine ⟨fun r => ?_, fun k hk => ?_⟩
  · unfold decHdr encHdr
    rw [e1]
    simp only [ChunkHeader.fields, unzigzag_zigzag]
  · unfold decHdr encHdr
    rw [e2 k hk]

theorem encHdr_length_pos (h : ChunkHeader) : 0 < (encHdr h).length := by
  have := encVarint_length_pos (zigzag h.time)
  simp only [encHdr, encFields, ChunkHeader.fields, List.flatMap_cons, List.length_append]
  omega

end HqModel.Stream
