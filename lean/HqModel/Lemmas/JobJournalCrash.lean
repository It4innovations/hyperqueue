import HqModel.Lemmas.JobJournalEntry
import HqModel.Lemmas.JobJournalRestartSpec
import HqModel.Lemmas.JournalStep
/-!
# C07, restart clause: the crash counter recorded in `meaning J` = the failure-losses counted over the records of `J`
-/
namespace HqModel.Emit
open HqModel.Job HqModel.Journal

/-- the entry of the job agrees with the tracker on every task with id `t`; a task that does not exist (yet) has the
initial tracker -/
def CrashInv (t : Nat) (o : Option AJob) (tr : Option (List Nat) × Nat) : Prop :=
  ∀ aj, o = some aj →
    (∀ a ∈ aj.tasks, a.id = t → a.run = tr.1 ∧ a.crashes = tr.2) ∧ (t ∉ aj.tasks.map (·.id) → tr = (none, 0))

theorem CrashInv.map {t : Nat} {o : Option AJob} {tr tr' : Option (List Nat) × Nat} (h : CrashInv t o tr)
    (f : ATask → ATask) (hid : ∀ a, (f a).id = a.id)
    (hf : ∀ a, a.id = t → a.run = tr.1 → a.crashes = tr.2 → (f a).run = tr'.1 ∧ (f a).crashes = tr'.2)
    (hn : tr = (none, 0) → tr' = (none, 0)) :
    CrashInv t (o.map fun aj => mapTasks aj f) tr' := by
  intro aj' ho
  cases o with
  | none => cases ho
  | some aj =>
    simp only [Option.map_some, Option.some.injEq] at ho
    subst ho
    obtain ⟨h1, h2⟩ := h aj rfl
    refine ⟨?_, ?_⟩
    · intro a' ha' hid'
      simp only [mapTasks_tasks, List.mem_map] at ha'
      obtain ⟨a, ha, rfl⟩ := ha'
      rw [hid] at hid'
      obtain ⟨hr, hc⟩ := h1 a ha hid'
      exact hf a hid' hr hc
    · intro hnm
      refine hn (h2 ?_)
      intro hm
      apply hnm
      simp only [mapTasks_tasks, List.map_map]
      obtain ⟨a, ha, hat⟩ := List.mem_map.mp hm
      exact List.mem_map.mpr ⟨a, ha, by simp [hid, hat]⟩

theorem CrashInv.map_other {t : Nat} {o : Option AJob} {tr : Option (List Nat) × Nat} (h : CrashInv t o tr)
    (f : ATask → ATask) (hid : ∀ a, (f a).id = a.id) (hf : ∀ a, a.id = t → f a = a) :
    CrashInv t (o.map fun aj => mapTasks aj f) tr :=
  h.map f hid (fun a hat hr hc => by rw [hf a hat]; exact ⟨hr, hc⟩) id

theorem CrashInv.of_tasks_eq {t : Nat} {o : Option AJob} {tr : Option (List Nat) × Nat} {g : AJob → AJob}
    (h : CrashInv t o tr) (hg : ∀ aj, (g aj).tasks = aj.tasks) : CrashInv t (o.map g) tr := by
  intro aj' ho
  cases o with
  | none => cases ho
  | some aj =>
    simp only [Option.map_some, Option.some.injEq] at ho
    subst ho
    rw [hg]
    exact h aj rfl

theorem markF_run_in (o : Outcome) (S : List Nat) (a : ATask) (h : a.id ∈ S) :
    (markF o S a).run = none ∧ (markF o S a).crashes = a.crashes := by
  rw [markF_in o S a h]; exact ⟨rfl, rfl⟩

theorem CrashInv.mark {t : Nat} {o : Option AJob} {tr : Option (List Nat) × Nat} (h : CrashInv t o tr)
    (oc' : Outcome) (S : List Nat) :
    CrashInv t (o.map fun aj => mapTasks aj (markF oc' S)) (if t ∈ S then (none, tr.2) else tr) := by
  by_cases ht : t ∈ S
  · rw [if_pos ht]
    refine h.map _ (markF_id _ _) ?_ ?_
    · intro a hat _ hc
      have := markF_run_in oc' S a (hat ▸ ht)
      exact ⟨this.1, this.2.trans hc⟩
    · intro e; rw [e]
  · rw [if_neg ht]
    exact h.map_other _ (markF_id _ _) (fun a hat => markF_out _ _ _ (hat ▸ ht))

theorem CrashInv.step {A : AState} {job t : Nat} {tr : Option (List Nat) × Nat} (r : Record)
    (h : CrashInv t (alGet A.jobs job) tr) (hok : recordOk A r = true) :
    CrashInv t (alGet (meaningStep A r).jobs job) (trackStep job t tr r) := by
  rw [entry_eq]
  cases r with
  | submit j closed mf d =>
    simp only [entryStep, trackStep]
    by_cases hj : j = job
    · subst hj
      simp only [if_true, true_and]
      by_cases hcl : closed = true
      · simp only [hcl, if_true]
        intro aj ho
        simp only [Option.some.injEq] at ho
        subst ho
        exact ⟨fun a ha _ => ⟨(specTasks_fresh ha).2.2.2.2, (specTasks_fresh ha).2.2.2.1⟩, fun _ => rfl⟩
      · simp only [hcl, if_false, Bool.false_eq_true]
        intro aj' ho
        cases hg : alGet A.jobs j with
        | none => rw [hg] at ho; cases ho
        | some aj =>
          rw [hg] at ho
          simp only [Option.map_some, Option.some.injEq] at ho
          subst ho
          obtain ⟨h1, h2⟩ := h aj hg
          have hcl' : closed = false := by simpa using hcl
          simp only [recordOk, hcl', Bool.false_eq_true, if_false, hg, Bool.and_eq_true] at hok
          refine ⟨?_, ?_⟩
          · intro a ha hat
            simp only [List.mem_append] at ha
            rcases ha with ha | ha
            · exact h1 a ha hat
            · have hf := specTasks_fresh ha
              have hnot : t ∉ aj.tasks.map (·.id) := hat ▸ submitOk_fresh hok.2 a.id hf.2.2.1
              rw [h2 hnot]
              exact ⟨hf.2.2.2.2, hf.2.2.2.1⟩
          · intro hnm
            refine h2 (fun hm => hnm ?_)
            simp only [List.map_append, List.mem_append]
            exact .inl hm
    · simp only [hj, if_false, false_and]; exact h
  | jobOpen j mf =>
    simp only [entryStep, trackStep]
    by_cases hj : j = job
    · simp only [hj, if_true]
      intro aj ho
      simp only [Option.some.injEq] at ho
      subst ho
      exact ⟨fun a ha => (by cases ha), fun _ => rfl⟩
    · simp only [hj, if_false]; exact h
  | jobClose j =>
    simp only [entryStep, trackStep]
    split
    · exact h.of_tasks_eq (fun _ => rfl)
    · exact h
  | jobCompleted j =>
    simp only [entryStep, trackStep]
    split
    · intro aj ho; cases ho
    · exact h
  | taskStarted j t' i ws =>
    simp only [entryStep, trackStep]
    by_cases hj : j = job
    · subst hj
      simp only [if_true, true_and]
      by_cases ht : t' = t
      · subst ht
        simp only [if_true]
        simp only [recordOk, Bool.and_eq_true] at hok
        obtain ⟨aj, a0, hg, hm0, hid0, -⟩ := taskIs_elim hok.1
        intro aj' ho
        rw [hg] at ho
        cases ho
        obtain ⟨h1, -⟩ := h aj hg
        refine ⟨?_, ?_⟩
        · intro a' ha' hid'
          simp only [mapTasks_tasks, List.mem_map] at ha'
          obtain ⟨a, ha, rfl⟩ := ha'
          rw [startF_id] at hid'
          rw [startF_in i ws hid']
          exact ⟨rfl, (h1 a ha hid').2⟩
        · intro hnm
          refine absurd (List.mem_map.mpr ⟨startF t' i ws a0, ?_, (startF_id ..).trans hid0⟩) hnm
          exact List.mem_map.mpr ⟨a0, hm0, rfl⟩
      · simp only [ht, if_false]
        exact h.map_other _ (startF_id t' i ws) (fun a hat => startF_out i ws fun e => ht (e.symm.trans hat))
    · simp only [hj, if_false, false_and]; exact h
  | taskFinished j t' =>
    simp only [entryStep, trackStep]
    by_cases hj : j = job
    · simp only [hj, if_true, true_and]
      have := h.mark .finished [t']
      simp only [List.mem_singleton] at this
      by_cases ht : t' = t
      · simpa [ht] using this
      · simpa [ht, Ne.symm ht] using this
    · simp only [hj, if_false, false_and]; exact h
  | taskFailed j t' =>
    simp only [entryStep, trackStep]
    by_cases hj : j = job
    · simp only [hj, if_true, true_and]
      have := h.mark .failed [t']
      simp only [List.mem_singleton] at this
      by_cases ht : t' = t
      · simpa [ht] using this
      · simpa [ht, Ne.symm ht] using this
    · simp only [hj, if_false, false_and]; exact h
  | tasksCanceled ids =>
    simp only [entryStep, trackStep]
    have := h.mark .canceled (idsOf job ids)
    simpa only [mem_idsOf] using this
  | tasksAborted ids =>
    simp only [entryStep, trackStep]
    have := h.mark .aborted (idsOf job ids)
    simpa only [mem_idsOf] using this
  | workerLost w reason =>
    simp only [entryStep]
    refine h.map _ (fun a => (lose_fields w _ a).1) ?_ ?_
    · intro a _ hr hc
      simp only [trackStep, ATask.lose, hr]
      cases h1 : tr.1 with
      | none => simp [hr, hc, h1]
      | some l =>
        cases l with
        | nil => simp [hr, hc, h1]
        | cons root rest =>
          simp only
          by_cases hw : root = w
          · simp only [hw, if_true]
            cases reason.isFailure <;> simp [hc]
          · simp [hw, hr, hc, h1]
    · intro e; rw [e]; rfl
  | _ => exact h

theorem CrashInv.fold (job t : Nat) : ∀ (J : List Record) {A : AState} {tr : Option (List Nat) × Nat},
    producibleFrom A J = true → CrashInv t (alGet A.jobs job) tr →
    CrashInv t (alGet (J.foldl meaningStep A).jobs job) (J.foldl (trackStep job t) tr)
  | [], _, _, _, h => h
  | r :: rs, _, _, hp, h => by
    simp only [producibleFrom, Bool.and_eq_true] at hp
    exact CrashInv.fold job t rs hp.2 (h.step r hp.1)

end HqModel.Emit
