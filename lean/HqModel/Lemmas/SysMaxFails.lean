import HqModel.Lemmas.SysInv
/-!
C14 along a delivery. `Exceeded js J` — job `J` is stored, has a limit and more failed tasks than it allows;
`MaxFailsOk js J := Exceeded js J → NoLive js J`. An `error` callback for a task of `J` establishes `MaxFailsOk J`
(`taskFailed_maxfails`: the max-fails decision), every other callback keeps it (`cbStep_maxfails`), so it holds after a
delivery that contained such a callback (`route_maxfails`).
-/
namespace HqModel.Sys
open HqModel.Job

/-- (limit, number of failed tasks) of a stored job -/
def jmeta (js : Job.State) (J : Nat) : Option (Option Nat × Nat) :=
  (js.getJob J).map fun job => (job.maxFails, job.cnt.failed)

def Exceeded (js : Job.State) (J : Nat) : Prop :=
  ∃ m f, jmeta js J = some (some m, f) ∧ f > m

theorem jmeta_putJob {js : Job.State} {job job' : Job} {j : Nat} (hj : js.getJob j = some job) (hid : job'.id = j)
    (hm : job'.maxFails = job.maxFails) (hf : job'.cnt.failed = job.cnt.failed) (J : Nat) :
    jmeta (js.putJob job') J = jmeta js J := by
  simp only [jmeta, getJob_putJob, hid]
  by_cases h : J = j
  · subst h; simp [hj, hm, hf]
  · simp [h]

theorem taskStarted_meta {js js' : Job.State} {t : TaskId} {i : Nat} {ws : List Nat} {rv : Nat} {evs : List Ev}
    (h : js.taskStarted t i ws rv = .ok (js', evs)) (J : Nat) : jmeta js' J = jmeta js J := by
  obtain ⟨job, job', hj, hr, rfl, _⟩ := taskStarted_eq_ok h
  refine jmeta_putJob hj ?_ ?_ ?_ J <;>
    rcases setRunning_eq_ok hr with ⟨_, rfl⟩ | ⟨_, _, _, rfl⟩ <;> first | exact (getJob_id hj :) | rfl

theorem taskFinished_meta {js js' : Job.State} {t : TaskId} {evs : List Ev}
    (h : js.taskFinished t = .ok (js', evs)) (J : Nat) : jmeta js' J = jmeta js J := by
  obtain ⟨job, job', hj, hr, rfl⟩ := taskFinished_eq_ok h
  obtain ⟨_, rfl, _⟩ := setFinished_eq_ok hr
  refine jmeta_putJob hj ?_ ?_ ?_ J <;> first | exact (getJob_id hj :) | rfl

theorem setWaitingAll_meta {ts : List TaskId} {js js' : Job.State} (h : js.setWaitingAll ts = .ok js') (J : Nat) :
    jmeta js' J = jmeta js J := by
  induction ts generalizing js with
  | nil => simp only [Job.State.setWaitingAll] at h; cases h; rfl
  | cons t rest ih =>
    obtain ⟨job, job', hj, hw, h⟩ := setWaitingAll_cons_eq_ok h
    obtain ⟨_, rfl⟩ := setWaiting_eq_ok hw
    rw [ih h]
    refine jmeta_putJob hj ?_ ?_ ?_ J <;> first | exact (getJob_id hj :) | rfl

theorem workerLost_meta {js js' : Job.State} {w : Nat} {running : List TaskId} {reason : String} {evs : List Ev}
    (h : js.workerLost w running reason = .ok (js', evs)) (J : Nat) : jmeta js' J = jmeta js J :=
  setWaitingAll_meta (workerLost_eq_ok h).1 J

theorem workerNew_meta {js js' : Job.State} {w : Nat} {evs : List Ev}
    (h : js.workerNew w = .ok (js', evs)) (J : Nat) : jmeta js' J = jmeta js J := by
  obtain ⟨hjobs, _⟩ := workerNew_spec h
  simp only [jmeta, Job.State.getJob, hjobs]

theorem taskFailed_meta_other {js js' : Job.State} {t : TaskId} {cons ret : List TaskId} {evs : List Ev}
    (h : js.taskFailed t cons = .ok (js', evs, ret)) (J : Nat) (hJ : J ≠ t.1) : jmeta js' J = jmeta js J := by
  obtain ⟨job, job1, ev1, job2, ev2, hj, ha, hf, hcase⟩ := taskFailed_eq_ok h
  have hid2 : job2.id = t.1 := by
    obtain ⟨_, _, _, rfl, _⟩ := setFailed_eq_ok hf
    exact (abortTasks_id ha).trans (getJob_id hj)
  rcases hcase with ⟨m, job3, ev3, _, _, _, ha3, rfl, _⟩ | ⟨_, _, rfl, _⟩
  · show ((((js.putJob job2).putJob job3).getJob J).map _) = _
    simp only [jmeta, getJob_putJob, (abortTasks_id ha3).trans hid2, hid2, hJ, if_false]
  · show (((js.putJob job2).getJob J).map _) = _
    simp only [jmeta, getJob_putJob, hid2, hJ, if_false]

theorem taskFailed_maxfails {js js' : Job.State} {t : TaskId} {cons ret : List TaskId} {evs : List Ev}
    (hwf : StateWF js) (h : js.taskFailed t cons = .ok (js', evs, ret)) (hex : Exceeded js' t.1) : NoLive js' t.1 := by
  obtain ⟨js2, job2, _, hg, hB⟩ := taskFailed_spec hwf h
  rcases hB with ⟨_, _, _, hk⟩ | ⟨hno, _, rfl⟩
  · exact hk.noLive rfl
  · obtain ⟨m, f, hm, hgt⟩ := hex
    simp only [jmeta, hg, Option.map_some, Option.some.injEq, Prod.mk.injEq] at hm
    exact absurd (hm.2 ▸ hgt) (hno m hm.1)

def MaxFailsOk (js : Job.State) (J : Nat) : Prop := Exceeded js J → NoLive js J

theorem cbStep_maxfails {js js' : Job.State} {rets left : List (List TaskId)} {cb : Core.Cb} {evs : List Ev} (J : Nat)
    (hwf : StateWF js) (h : cbStep js rets cb = .ok (js', evs, left))
    (hq : MaxFailsOk js J ∨ ∃ t cons, cb = .error t cons ∧ t.1 = J) : MaxFailsOk js' J := by
  have keep : jmeta js' J = jmeta js J → (∀ x : TaskId, x.1 = J → live (tst js x) = false → live (tst js' x) = false) →
      MaxFailsOk js J → MaxFailsOk js' J := by
    intro hmeta hlive hq hex x hx
    have hex0 : Exceeded js J := by
      obtain ⟨m, f, hm, hgt⟩ := hex
      exact ⟨m, f, by rw [← hmeta]; exact hm, hgt⟩
    exact hlive x hx (hq hex0 x hx)
  have hs := cbStep_job_step h
  cases cb with
  | started t i ws rv =>
    have hj : js.taskStarted t i ws rv = .ok (js', evs) := hs
    rcases hq with hq | ⟨_, _, e, _⟩
    · refine keep (taskStarted_meta hj J) ?_ hq
      intro x _ hl
      obtain ⟨_, _, _, hv⟩ := taskStarted_spec hj
      rw [hv x]
      by_cases e : x = t
      · subst e; simp only [if_true]; rw [live_startedSt]; exact hl
      · simp only [e, if_false]; exact hl
    · cases e
  | finished t =>
    have hj : js.taskFinished t = .ok (js', evs) := hs
    rcases hq with hq | ⟨_, _, e, _⟩
    · refine keep (taskFinished_meta hj J) ?_ hq
      intro x _ hl
      obtain ⟨_, _, _, hv⟩ := taskFinished_spec hj
      rw [hv x]
      by_cases e : x = t
      · simp [e, live, TState.terminal]
      · simp only [e, if_false]; exact hl
    · cases e
  | workerNew w =>
    have hj : js.workerNew w = .ok (js', evs) := hs
    rcases hq with hq | ⟨_, _, e, _⟩
    · refine keep (workerNew_meta hj J) ?_ hq
      intro x _ hl
      obtain ⟨hjobs, _⟩ := workerNew_spec hj
      simp only [tst, hjobs] at hl ⊢; exact hl
    · cases e
  | workerLost w running reason =>
    have hj : js.workerLost w running reason = .ok (js', evs) := hs
    rcases hq with hq | ⟨_, _, e, _⟩
    · refine keep (workerLost_meta hj J) ?_ hq
      intro x _ hl
      -- a task of the running list was `running` (live) before
      obtain ⟨_, _, hall, hv⟩ := workerLost_spec hj
      rw [hv x]
      by_cases e : x ∈ running
      · have := hall x e; rw [hl] at this; cases this
      · simp only [e, if_false]; exact hl
    · cases e
  | error t cons =>
    obtain ⟨ret, hj⟩ := map_eq_ok hs
    by_cases hJ : J = t.1
    · subst hJ
      exact fun hex => taskFailed_maxfails hwf hj hex
    · rcases hq with hq | ⟨t', cons', e, ht'⟩
      · refine keep (taskFailed_meta_other hj J hJ) ?_ hq
        intro x hx hl
        -- neither half touches a task of another job
        obtain ⟨js2, _, hA, _, hB⟩ := taskFailed_spec hwf hj
        have h1 : x ≠ t := fun e => hJ (hx.symm.trans (by rw [e]))
        have h2 : x ∉ cons := fun e => hJ (hx.symm.trans (hA.job x e))
        have e2 : tst js2 x = tst js x := by rw [hA.view x, failedView, if_neg h1, if_neg h2]
        rcases hB with ⟨_, _, _, hk⟩ | ⟨_, _, rfl⟩
        · rw [hk.view x, if_neg fun e => hJ (hx.symm.trans e.1), e2]; exact hl
        · rw [e2]; exact hl
      · cases e; exact absurd ht'.symm hJ

theorem route_maxfails (J : Nat) : ∀ {cbs : List Core.Cb} {js js' : Job.State} {rets left : List (List TaskId)}
    {evs : List Ev}, StateWF js → route js rets cbs = .ok (js', evs, left) →
    (MaxFailsOk js J ∨ ∃ t cons, Core.Cb.error t cons ∈ cbs ∧ t.1 = J) → MaxFailsOk js' J := by
  intro cbs
  induction cbs with
  | nil =>
    intro js js' rets left evs _ h hq
    simp only [route] at h
    cases h
    rcases hq with hq | ⟨_, _, hm, _⟩
    · exact hq
    · cases hm
  | cons cb rest ih =>
    intro js js' rets left evs hwf h hq
    obtain ⟨js1, ev1, rets1, ev2, h1, h2, rfl⟩ := route_cons_ok h
    have hwf1 := cbStep_wf hwf h1
    rcases hq with hq | ⟨t, cons, hm, ht⟩
    · exact ih hwf1 h2 (.inl (cbStep_maxfails J hwf h1 (.inl hq)))
    · rcases List.mem_cons.mp hm with e | e
      · exact ih hwf1 h2 (.inl (cbStep_maxfails J hwf h1 (.inr ⟨t, cons, e.symm, ht⟩)))
      · exact ih hwf1 h2 (.inr ⟨t, cons, e, ht⟩)

end HqModel.Sys
