import HqModel.Lemmas.CoreDesc
/-!
The rewrites of task and worker records that occur in `Reactor.lean` and `Sched.lean`, one constructor per record
update, sorted by who performs them:

* `TCalm` / `WCalm` — what any handler may do to any record: a prefilled task is retracted, a consumer entry goes, a
  dependency counter goes down; a worker gives back a task, a prefill or its multi-node assignment, its blocked list
  changes;
* `TOwn run o` / `WOwn` — what an update handler or a retract response does to the tasks it is told about (`o`): started,
  finished, back to the queue, redirect resolved; the worker side of `task_running`;
* `TLoss w fail L` — what the loss of worker `w`, whose record lists the ids `L`, does: tasks requeued with a new
  instance id, redirects resolved, a multi-node task loses a non-root worker, and (`fail`: the loss counts as a
  failure) crash counters;
* `TSched` / `WSched` — a scheduling round: the only place where a Waiting task gets a worker. They list their own
  constructors and do not include `TCalm` / `WCalm`: a round never wakes a task, resets a multi-node worker or touches a
  blocked list (`…_sdesc` in `CoreDescSched.lean` are the descent lemmas of the worker primitives against `WSched`);
* `TReg calm R` — a new task `c` registers as a consumer of a dependency `d` (`R d c`); `calm`: the retraction that
  ends `on_new_tasks` is included.

Every constructor says which fields change, so `t'.id = t.id`, `t.inst ≤ t'.inst`, `t'.rq = t.rq` … follow by `cases`.
-/
namespace HqModel.Core

inductive TCalm : Task → Task → Prop
  /-- `process_retracted` -/
  | retract {t : Task} {w : Nat} (hs : t.state = .prefilled w) : TCalm t { t with state := .retracting w }
  /-- `remove_task` of a consumer that still waited for `t` -/
  | unconsume {t : Task} {c : TaskId} (hc : c ∈ t.consumers) : TCalm t { t with consumers := t.consumers.erase c }
  /-- a dependency finished -/
  | wake {t : Task} {n : Nat} (hs : t.state = .waiting (n + 1)) : TCalm t { t with state := .waiting n }

/-- a task starts on the worker it was sent to -/
inductive SRun : TS → TS → Prop
  | assigned (w rv : Nat) : SRun (.assigned w rv) (.running w rv)
  | prefilled (w rv : Nat) : SRun (.prefilled w) (.running w rv)
  | retracting (w rv : Nat) : SRun (.retracting w) (.running w rv)

/-- a task leaves its worker: finished, refused (back to the queue), or handed to the target of its redirect -/
inductive SEnd : TS → TS → Prop
  | finA (w rv : Nat) : SEnd (.assigned w rv) .finished
  | finR (w rv : Nat) : SEnd (.running w rv) .finished
  | finM (ws : List Nat) : SEnd (.runningMN ws) .finished
  | finT (w : Nat) : SEnd (.retracting w) .finished
  | backA (w rv : Nat) : SEnd (.assigned w rv) (.waiting 0)
  | backP (w : Nat) : SEnd (.prefilled w) (.waiting 0)
  | backT (w : Nat) : SEnd (.retracting w) (.waiting 0)
  | backM (ws : List Nat) : SEnd (.runningMN ws) (.waiting 0)
  | redirect (w target rv : Nat) : SEnd (.retracting w) (.assigned target rv)

/-- `o` = the tasks the updates or the retract response speak of; `run`: `task_running` is among the handlers -/
inductive TOwn (run : Prop) (o : TaskId → Prop) : Task → Task → Prop
  | calm {t t' : Task} (h : TCalm t t') : TOwn run o t t'
  | own {t : Task} {a st : TS} (ho : o t.id) (ha : t.state = a) (h : SEnd a st) : TOwn run o t { t with state := st }
  | start {t : Task} {a st : TS} (hr : run) (ho : o t.id) (ha : t.state = a) (h : SRun a st) :
      TOwn run o t { t with state := st }

/-- `L` = the ids listed in the record of the lost worker -/
inductive TLoss (w : Nat) (fail : Prop) (L : TaskId → Prop) : Task → Task → Prop
  | calm {t t' : Task} (h : TCalm t t') : TLoss w fail L t t'
  /-- a task of the lost worker goes back to the queue -/
  | back {t : Task} (hl : L t.id) : TLoss w fail L t { t with state := .waiting 0, inst := t.inst + 1 }
  /-- … unless it is being retracted from another worker: only the redirect to the lost worker goes -/
  | bump {t : Task} {x : Nat} (hl : L t.id) (hs : t.state = .retracting x) :
      TLoss w fail L t { t with inst := t.inst + 1 }
  /-- a task that was being retracted from the lost worker -/
  | redirect {t : Task} (target rv : Nat) (hs : t.state = .retracting w) :
      TLoss w fail L t { t with state := .assigned target rv, inst := t.inst + 1 }
  | unretract {t : Task} (hs : t.state = .retracting w) :
      TLoss w fail L t { t with state := .waiting 0, inst := t.inst + 1 }
  /-- the lost worker was a non-root worker of a multi-node task -/
  | shrink {t : Task} {root : Nat} {others : List Nat} (hs : t.state = .runningMN (root :: others)) (hr : root ≠ w) :
      TLoss w fail L t { t with state := .runningMN ((root :: others).filter (· ≠ w)) }
  | crash {t : Task} (hf : fail) : TLoss w fail L t { t with crashes := t.crashes + 1 }

inductive TSched : Task → Task → Prop
  | place {t : Task} {n : Nat} (w v : Nat) (hs : t.state = .waiting n) : TSched t { t with state := .assigned w v }
  | retract {t : Task} {w : Nat} (hs : t.state = .prefilled w) : TSched t { t with state := .retracting w }
  /-- `set_mn_task` asserts `is_free()` for every worker of the set in turn: no worker is named twice -/
  | placeMn {t : Task} (ws : List Nat) (hs : t.state = .waiting 0) (hnd : ws.Nodup) :
      TSched t { t with state := .runningMN ws }
  | prefill {t : Task} {n : Nat} (w : Nat) (hs : t.state = .waiting n) : TSched t { t with state := .prefilled w }

inductive TReg (calm : Prop) (R : TaskId → TaskId → Prop) : Task → Task → Prop
  | calm {t t' : Task} (hk : calm) (h : TCalm t t') : TReg calm R t t'
  | consume {t : Task} (c : TaskId) (hr : R t.id c) (hc : c ∉ t.consumers) :
      TReg calm R t { t with consumers := t.consumers ++ [c] }

theorem TOwn.mono {run run' : Prop} {o o' : TaskId → Prop} (hr : run → run') (ho : ∀ id, o id → o' id) {t t' : Task}
    (h : TOwn run o t t') : TOwn run' o' t t' := by
  cases h with
  | calm h => exact .calm h
  | own h1 ha h2 => exact .own (ho _ h1) ha h2
  | start h0 h1 ha h2 => exact .start (hr h0) (ho _ h1) ha h2

theorem TLoss.mono {w : Nat} {fail fail' : Prop} {L L' : TaskId → Prop} (hf : fail → fail') (hl : ∀ id, L id → L' id)
    {t t' : Task} (h : TLoss w fail L t t') : TLoss w fail' L' t t' := by
  cases h with
  | calm h => exact .calm h
  | back h => exact .back (hl _ h)
  | bump h hs => exact .bump (hl _ h) hs
  | redirect a b hs => exact .redirect a b hs
  | unretract hs => exact .unretract hs
  | shrink hs hr => exact .shrink hs hr
  | crash h => exact .crash (hf h)

theorem TReg.mono {k k' : Prop} {R R' : TaskId → TaskId → Prop} (hk : k → k') (hr : ∀ d c, R d c → R' d c) {t t' : Task}
    (h : TReg k R t t') : TReg k' R' t t' := by
  cases h with
  | calm h0 h => exact .calm (hk h0) h
  | consume c h1 h2 => exact .consume c (hr _ _ h1) h2

theorem TCalm.id {t t' : Task} (h : TCalm t t') : t'.id = t.id := by cases h <;> rfl
theorem TSched.id {t t' : Task} (h : TSched t t') : t'.id = t.id := by cases h <;> rfl

/-- a quiet rewrite changes the state of a Prefilled or a `Waiting (n + 1)` record only -/
theorem TCalm.state_eq {t t' : Task} (c : TCalm t t') {st : TS} (h1 : ∀ w, st ≠ .prefilled w)
    (h2 : ∀ n, st ≠ .waiting (n + 1)) : t'.id = t.id ∧ (t.state = st → t'.state = st) := by
  cases c with
  | retract hs => exact ⟨rfl, fun e => absurd (e ▸ hs) (h1 _)⟩
  | unconsume => exact ⟨rfl, fun e => e⟩
  | wake hs => exact ⟨rfl, fun e => absurd (e ▸ hs) (h2 _)⟩

inductive WCalm : Worker → Worker → Prop
  | removeSn {wk : Worker} {A P : List TaskId} {F F' : List Nat} (t : TaskId) (r : Rq) (ha : wk.assign = .sn A F P)
      (hf : freeAdd F wk.total r.entries = .ok F') (ht : t ∈ A) : WCalm wk { wk with assign := .sn (A.erase t) F' P }
  | removePrefill {wk : Worker} {A P : List TaskId} {F : List Nat} (t : TaskId) (ha : wk.assign = .sn A F P)
      (ht : t ∈ P) : WCalm wk { wk with assign := .sn A F (P.erase t) }
  /-- `reset_mn_task` -/
  | reset {wk : Worker} : WCalm wk wk.emptySn
  | blocked {wk : Worker} (b : List (Nat × Nat)) : WCalm wk { wk with blocked := b }

/-- `task_running` also takes resources and sets the `started` flag -/
inductive WOwn : Worker → Worker → Prop
  | calm {wk wk' : Worker} (h : WCalm wk wk') : WOwn wk wk'
  | insertSn {wk : Worker} {A P : List TaskId} {F F' : List Nat} (t : TaskId) (r : Rq) (ha : wk.assign = .sn A F P)
      (hf : freeRemove F r.entries = .ok F') (ht : t ∉ A) : WOwn wk { wk with assign := .sn (A ++ [t]) F' P }
  | start {wk : Worker} {A P : List TaskId} {F F' : List Nat} (t : TaskId) (r : Rq) (ha : wk.assign = .sn A F P)
      (hf : freeRemove F r.entries = .ok F') (hp : t ∈ P) (ht : t ∉ A) :
      WOwn wk { wk with assign := .sn (A ++ [t]) F' (P.erase t) }
  | started {wk : Worker} {t : TaskId} {r f : Bool} (ha : wk.assign = .mn t r f) :
      WOwn wk { wk with assign := .mn t r true }

inductive WSched : Worker → Worker → Prop
  | removeSn {wk : Worker} {A P : List TaskId} {F F' : List Nat} (t : TaskId) (r : Rq) (ha : wk.assign = .sn A F P)
      (hf : freeAdd F wk.total r.entries = .ok F') (ht : t ∈ A) : WSched wk { wk with assign := .sn (A.erase t) F' P }
  | removePrefill {wk : Worker} {A P : List TaskId} {F : List Nat} (t : TaskId) (ha : wk.assign = .sn A F P)
      (ht : t ∈ P) : WSched wk { wk with assign := .sn A F (P.erase t) }
  | insertSn {wk : Worker} {A P : List TaskId} {F F' : List Nat} (t : TaskId) (r : Rq) (ha : wk.assign = .sn A F P)
      (hf : freeRemove F r.entries = .ok F') (ht : t ∉ A) : WSched wk { wk with assign := .sn (A ++ [t]) F' P }
  | insertPrefill {wk : Worker} {A P : List TaskId} {F : List Nat} (t : TaskId) (ha : wk.assign = .sn A F P)
      (ht : t ∉ P) : WSched wk { wk with assign := .sn A F (P ++ [t]) }
  | setMn {wk : Worker} {F : List Nat} (t : TaskId) (root : Bool) (ha : wk.assign = .sn [] F []) :
      WSched wk { wk with assign := .mn t root false }

theorem WCalm.id {wk wk' : Worker} (h : WCalm wk wk') : wk'.id = wk.id := by cases h <;> rfl
theorem WOwn.id {wk wk' : Worker} (h : WOwn wk wk') : wk'.id = wk.id := by
  cases h with
  | calm h => exact h.id
  | _ => rfl
theorem WSched.id {wk wk' : Worker} (h : WSched wk wk') : wk'.id = wk.id := by cases h <;> rfl

theorem removeSn_wcalm {wk wk' : Worker} {t : TaskId} {r : Rq} (h : wk.removeSn t r = .ok wk') : WCalm wk wk' := by
  obtain ⟨A, F, P, F', ha, hf, ht, rfl⟩ := removeSn_spec h
  exact .removeSn t r ha hf ht

theorem removePrefill_wcalm {wk wk' : Worker} {t : TaskId} (h : wk.removePrefill t = .ok wk') : WCalm wk wk' := by
  obtain ⟨A, F, P, ha, ht, rfl⟩ := removePrefill_spec h
  exact .removePrefill t ha ht

theorem insertSn_wown {wk wk' : Worker} {t : TaskId} {r : Rq} (h : wk.insertSn t r = .ok wk') : WOwn wk wk' := by
  obtain ⟨A, F, P, F', ha, hf, ht, rfl⟩ := insertSn_spec h
  exact .insertSn t r ha hf ht

theorem prefilledToStarted_wown {wk wk' : Worker} {t : TaskId} {r : Rq} (h : wk.prefilledToStarted t r = .ok wk') :
    WOwn wk wk' := by
  obtain ⟨A, F, P, F', ha, hf, hp, ht, rfl⟩ := prefilledToStarted_spec h
  exact .start t r ha hf hp ht

theorem removeSn_wsched {wk wk' : Worker} {t : TaskId} {r : Rq} (h : wk.removeSn t r = .ok wk') : WSched wk wk' := by
  obtain ⟨A, F, P, F', ha, hf, ht, rfl⟩ := removeSn_spec h
  exact .removeSn t r ha hf ht

theorem removePrefill_wsched {wk wk' : Worker} {t : TaskId} (h : wk.removePrefill t = .ok wk') : WSched wk wk' := by
  obtain ⟨A, F, P, ha, ht, rfl⟩ := removePrefill_spec h
  exact .removePrefill t ha ht

theorem insertSn_wsched {wk wk' : Worker} {t : TaskId} {r : Rq} (h : wk.insertSn t r = .ok wk') : WSched wk wk' := by
  obtain ⟨A, F, P, F', ha, hf, ht, rfl⟩ := insertSn_spec h
  exact .insertSn t r ha hf ht

theorem insertPrefill_wsched {wk wk' : Worker} {t : TaskId} (h : wk.insertPrefill t = .ok wk') : WSched wk wk' := by
  obtain ⟨A, F, P, ha, ht, rfl⟩ := insertPrefill_spec h
  exact .insertPrefill t ha ht

end HqModel.Core
