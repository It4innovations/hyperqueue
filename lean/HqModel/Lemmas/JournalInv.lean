import HqModel.Lemmas.JournalSpec
import HqModel.Lemmas.JournalAL
/-!
The per-job part (`JobRel`) of the simulation invariant between the restorer state (`restorerFold`) and the abstract
state (`meaning`) along a producible journal. It speaks task by task (`Pw P Q`: every abstract task against ITS restorer
entry, every entry well-formed); set / map / append of the two task tables are proved for that shape once, so what a
record does is a statement about one task and one entry (`TJ`, and `TC` of JournalCrash).
-/
namespace HqModel.Journal

/-- `P` holds of every abstract task against its entry in the table `rt` (`none`: no entry), `Q` of every entry -/
def Pw (P : ATask → Option β → Prop) (Q : β → Prop) (rt : List (Nat × β)) (ts : List ATask) : Prop :=
  (∀ a ∈ ts, P a (alGet rt a.id)) ∧ ∀ t ti, alGet rt t = some ti → Q ti

section
variable {β : Type} {P P' : ATask → Option β → Prop} {Q Q' : β → Prop} {rt rt' : List (Nat × β)} {ts : List ATask}

theorem Pw.set (h : Pw P Q rt ts) (t : Nat) {f : ATask → ATask} {v : β} (hid : ∀ a, (f a).id = a.id)
    (hP : ∀ a ∈ ts, a.id = t → P (f a) (some v)) (hQ : Q v) :
    Pw P Q (alSet rt t v) (ts.map fun a => if a.id = t then f a else a) := by
  refine ⟨fun a' ha' => ?_, fun t' ti hti => ?_⟩
  · obtain ⟨a, ha, rfl⟩ := List.mem_map.1 ha'
    by_cases hat : a.id = t
    · rw [if_pos hat, hid, hat, alGet_set_self]; exact hP a ha hat
    · rw [if_neg hat, alGet_set_ne _ _ (Ne.symm hat)]; exact h.1 a ha
  · rw [alGet_set] at hti
    split at hti
    · cases hti; exact hQ
    · exact h.2 t' ti hti

theorem Pw.map (h : Pw P Q rt ts) {g : β → β} {k : ATask → ATask}
    (hget : ∀ t, alGet rt' t = (alGet rt t).map g) (hid : ∀ a, (k a).id = a.id)
    (hP : ∀ a o, P a o → P' (k a) (o.map g)) (hQ : ∀ ti, Q ti → Q' (g ti)) : Pw P' Q' rt' (ts.map k) := by
  refine ⟨fun a' ha' => ?_, fun t ti hti => ?_⟩
  · obtain ⟨a, ha, rfl⟩ := List.mem_map.1 ha'
    rw [hid, hget]; exact hP a _ (h.1 a ha)
  · rw [hget] at hti
    obtain ⟨ti0, h0, rfl⟩ := Option.map_eq_some_iff.1 hti
    exact hQ ti0 (h.2 t ti0 h0)

/-- the new `P` may use that the entry is well-formed (`CrashRel.connect`) -/
theorem Pw.imp (h : Pw P Q rt ts) (hP : ∀ a o, P a o → (∀ ti, o = some ti → Q ti) → P' a o) (hQ : ∀ ti, Q ti → Q' ti) :
    Pw P' Q' rt ts :=
  ⟨fun a ha => hP a _ (h.1 a ha) fun ti hti => h.2 _ ti hti, fun t ti hti => hQ ti (h.2 t ti hti)⟩

theorem Pw.append (h : Pw P Q rt ts) {new : List ATask} (hn : ∀ a ∈ new, P a (alGet rt a.id)) :
    Pw P Q rt (ts ++ new) :=
  ⟨fun a ha => (List.mem_append.1 ha).elim (h.1 a) (hn a), h.2⟩

end

def outcomeOpt : Option RTask → Outcome
  | none => .waiting
  | some ti => ti.state.outcome

/-- every submit of the sequence was acceptable when it was made -/
def submitsOk : List Nat → List TaskDesc → Bool
  | _, [] => true
  | have_, d :: ds => submitOk have_ d && submitsOk (have_ ++ d.ids) ds

def pairOf (a : ATask) : Nat × List Nat := (a.id, a.deps)

/-- what `JobRel` says of one task: recorded outcome and highest instance id are those of its restorer entry -/
structure TJ (a : ATask) (o : Option RTask) : Prop where
  st : a.st = outcomeOpt o
  inst : a.inst = o.bind (·.inst)

/-- a restorer entry is `Running` with an instance id, or completed -/
def OkJ (ti : RTask) : Prop := (∃ sd, ti.state = .running sd ∧ ti.inst.isSome = true) ∨ ti.state.isCompleted = true

/-- One restorer job against one abstract job. `outcome`, `inst`, `shape` are `Pw TJ OkJ` (`JobRel.pw`). `tasks`: the
abstract tasks are those of the recorded submits, in submit order, with their ids and dependencies; `known`: no restorer
entry without an abstract task, so the tasks of a new submit have no entry yet (`attach_none`); `valid`: every recorded
submit passes again what `restore_job` re-runs on it (`restoreSubmits_ok`). -/
structure JobRel (rj : RJob) (aj : AJob) : Prop where
  isOpen : rj.isOpen = aj.isOpen
  maxFails : rj.maxFails = aj.maxFails
  tasks : aj.tasks.map pairOf = rj.submits.flatMap (fun d => d.specTasks.map pairOf)
  nSubmits : aj.nSubmits = rj.submits.length
  outcome : ∀ a ∈ aj.tasks, a.st = outcomeOpt (alGet rj.tasks a.id)
  inst : ∀ a ∈ aj.tasks, a.inst = (alGet rj.tasks a.id).bind (·.inst)
  shape : ∀ t ti, alGet rj.tasks t = some ti →
    (∃ sd, ti.state = .running sd ∧ ti.inst.isSome = true) ∨ ti.state.isCompleted = true
  known : ∀ t, (alGet rj.tasks t).isSome = true → t ∈ aj.tasks.map (·.id)
  valid : submitsOk [] rj.submits = true

theorem JobRel.pw {rj : RJob} {aj : AJob} (h : JobRel rj aj) : Pw TJ OkJ rj.tasks aj.tasks :=
  ⟨fun a ha => ⟨h.outcome a ha, h.inst a ha⟩, h.shape⟩

theorem specTasks_ids (d : TaskDesc) : d.specTasks.map (·.id) = d.ids := by
  cases d <;> simp [TaskDesc.specTasks, TaskDesc.ids, List.map_map, Function.comp_def]

theorem map_id_eq_of_pairOf {l : List ATask} {m : List (Nat × List Nat)} (h : l.map pairOf = m) :
    l.map (·.id) = m.map (·.1) := by
  subst h; simp [List.map_map, Function.comp_def, pairOf]

theorem JobRel.ids {rj : RJob} {aj : AJob} (h : JobRel rj aj) : aj.tasks.map (·.id) = rj.submits.flatMap (·.ids) := by
  rw [map_id_eq_of_pairOf h.tasks]
  simp only [List.map_flatMap, List.map_map]
  congr 1
  funext d
  rw [← specTasks_ids d]
  simp [Function.comp_def, pairOf]

theorem find_some {aj : AJob} {t : Nat} {a : ATask} (h : aj.find t = some a) : a ∈ aj.tasks ∧ a.id = t := by
  unfold AJob.find at h
  exact ⟨List.mem_of_find?_eq_some h, by simpa using List.find?_some h⟩

theorem find_of_mem {aj : AJob} {d : Nat} (h : d ∈ aj.tasks.map (·.id)) : ∃ a, aj.find d = some a := by
  unfold AJob.find
  cases hf : aj.tasks.find? (·.id == d) with
  | some a => exact ⟨a, rfl⟩
  | none =>
    rw [List.find?_eq_none] at hf
    obtain ⟨a, ha, hid⟩ := List.mem_map.1 h
    exact absurd (by simpa using hid) (hf a ha)

theorem find_none_of_not_mem {aj : AJob} {d : Nat} (h : d ∉ aj.tasks.map (·.id)) : aj.find d = none := by
  unfold AJob.find
  rw [List.find?_eq_none]
  intro a ha hid
  exact h (List.mem_map.2 ⟨a, ha, by simpa using hid⟩)

theorem taskIs_elim {s : AState} {j t : Nat} {p : ATask → Bool} (h : taskIs s (j, t) p = true) :
    ∃ aj a, alGet s.jobs j = some aj ∧ a ∈ aj.tasks ∧ a.id = t ∧ p a = true := by
  unfold taskIs at h
  simp only at h
  split at h
  · rename_i aj haj
    split at h
    · rename_i a ha
      exact ⟨aj, a, haj, (find_some ha).1, (find_some ha).2, h⟩
    · simp at h
  · simp at h

theorem JobRel.tasks_pw {rj : RJob} {aj : AJob} (h : JobRel rj aj) {rt : List (Nat × RTask)} {ts : List ATask}
    (hp : Pw TJ OkJ rt ts) (hpair : ts.map pairOf = aj.tasks.map pairOf)
    (hk : ∀ t, (alGet rt t).isSome = true → (alGet rj.tasks t).isSome = true ∨ t ∈ aj.tasks.map (·.id)) :
    JobRel { rj with tasks := rt } { aj with tasks := ts } :=
  have hids : ts.map (·.id) = aj.tasks.map (·.id) := by
    rw [map_id_eq_of_pairOf hpair, map_id_eq_of_pairOf rfl]
  ⟨h.isOpen, h.maxFails, hpair.trans h.tasks, h.nSubmits, fun a ha => (hp.1 a ha).st, fun a ha => (hp.1 a ha).inst, hp.2,
    fun t ht => hids ▸ (hk t ht).elim (h.known t) id, h.valid⟩

theorem map_pairOf_congr {ts : List ATask} {k : ATask → ATask} (hk : ∀ a, pairOf (k a) = pairOf a) :
    (ts.map k).map pairOf = ts.map pairOf := by
  rw [List.map_map]; exact List.map_congr_left fun a _ => hk a

theorem JobRel.setTask {rj : RJob} {aj : AJob} (h : JobRel rj aj) (t : Nat) {f : ATask → ATask} {v : RTask}
    (hmem : t ∈ aj.tasks.map (·.id)) (hf : ∀ a, pairOf (f a) = pairOf a)
    (hst : ∀ a ∈ aj.tasks, a.id = t → TJ (f a) (some v)) (hshape : OkJ v) :
    JobRel { rj with tasks := alSet rj.tasks t v }
      { aj with tasks := aj.tasks.map fun a => if a.id = t then f a else a } :=
  h.tasks_pw (h.pw.set t (fun a => congrArg Prod.fst (hf a)) hst hshape)
    (map_pairOf_congr fun a => by split <;> first | exact hf a | rfl)
    fun t' ht' => by
      rw [alGet_set] at ht'
      split at ht'
      · rename_i e; exact Or.inr (e ▸ hmem)
      · exact Or.inl ht'

theorem JobRel.mapEntries {rj : RJob} {aj : AJob} (h : JobRel rj aj) {rt : List (Nat × RTask)} {g : RTask → RTask}
    {k : ATask → ATask} (hget : ∀ t, alGet rt t = (alGet rj.tasks t).map g)
    (hg : ∀ ti, (g ti).state = ti.state ∧ (g ti).inst = ti.inst)
    (hk : ∀ a, (k a).id = a.id ∧ (k a).deps = a.deps ∧ (k a).st = a.st ∧ (k a).inst = a.inst) :
    JobRel { rj with tasks := rt } { aj with tasks := aj.tasks.map k } :=
  h.tasks_pw
    (h.pw.map hget (fun a => (hk a).1)
      (fun a o hp => ⟨by rw [(hk a).2.2.1, hp.st]; cases o <;> simp [outcomeOpt, (hg _).1],
        by rw [(hk a).2.2.2, hp.inst]; cases o <;> simp [(hg _).2]⟩)
      fun ti hq => by unfold OkJ; rw [(hg ti).1, (hg ti).2]; exact hq)
    (map_pairOf_congr fun a => by simp [pairOf, (hk a).1, (hk a).2.1])
    fun t ht => Or.inl (by rw [hget] at ht; cases hg' : alGet rj.tasks t <;> simp_all)

theorem lose_fields (w : Nat) (b : Bool) (a : ATask) :
    (a.lose w b).id = a.id ∧ (a.lose w b).deps = a.deps ∧ (a.lose w b).st = a.st ∧ (a.lose w b).inst = a.inst := by
  unfold ATask.lose
  split
  · split <;> simp
  · simp

end HqModel.Journal
