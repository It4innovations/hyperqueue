import HqModel.Lemmas.CoreOps
/-!
The loops and the remaining handlers of `Reactor.lean`: for a loop what a successful call does with the first element
(`…_cons_ok`), for seven of them also the equation "the loop on `[x]`, then on the rest" (`NP.…_cons`; the proofs of not
stopping use those of `cancelLoop` and `addNewTasks`); one path lemma per handler. `upd1` is one update of `on_task_update` as a computation (`updateState`
without the output), opened by `upd1_cases`; `NPL.lossPart1` / `NPL.lossTail` are the two halves of `on_remove_worker`.
-/
namespace HqModel.Core

/-! ### `on_new_tasks` -/

/-- the record `on_new_tasks` creates -/
def mkTask (nt : NewTask) (n : Nat) (kept : List TaskId) : Task :=
  { id := nt.id, state := .waiting n, deps := kept, rq := nt.rq, prio := nt.prio,
    crashLimit := nt.crashLimit, inst := nt.inst, crashes := nt.crashes }

theorem registerDeps_ids : ∀ (deps : List TaskId) (ts : List Task) (id : TaskId),
    taskIds (registerDeps ts id deps).1 = taskIds ts
  | [], _, _ => rfl
  | d :: rest, ts, id => by
    simp only [registerDeps]
    cases hd : findTask ts d with
    | none => exact registerDeps_ids rest ts id
    | some dep =>
      simp only
      exact (registerDeps_ids rest _ id).trans (taskIds_putTask _ _)

/-- with no unfinished dependency the task is queued BEFORE its record is appended (the queue primitive does not read
the task map) -/
theorem addNewTasks_cons_ok {s : State} {nt : NewTask} {rest : List NewTask} {retracted : List TaskId}
    {res : State × List TaskId} (h : s.addNewTasks (nt :: rest) retracted = .ok res) :
    ∃ ts kept n, registerDeps s.tasks nt.id nt.deps = (ts, kept, n) ∧ findTask ts nt.id = none ∧
      ((n = 0 ∧ ∃ s2 r, ({ s with tasks := ts } : State).addReady (mkTask nt n kept) = .ok (s2, r) ∧
          State.addNewTasks { s2 with tasks := s2.tasks ++ [mkTask nt n kept] } rest (retracted ++ r) = .ok res) ∨
       (n ≠ 0 ∧ State.addNewTasks { s with tasks := ts ++ [mkTask nt n kept] } rest retracted = .ok res)) := by
  simp only [State.addNewTasks] at h
  generalize registerDeps s.tasks nt.id nt.deps = reg at h
  obtain ⟨ts, kept, n⟩ := reg
  refine ⟨ts, kept, n, rfl, ?_⟩
  split at h
  · cases h
  · rename_i hf
    refine ⟨by simpa using hf, ?_⟩
    split at h
    · rename_i hn
      split at h
      · cases h
      · rename_i s2 r h1
        exact .inl ⟨hn, s2, r, h1, h⟩
    · rename_i hn
      exact .inr ⟨hn, h⟩

theorem newTasks_path {s s' : State} {nts : List NewTask} {o : Out} (h : s.newTasks nts = .ok (s', o)) :
    nts ≠ [] ∧ ∃ s1 retracted s2, s.addNewTasks nts [] = .ok (s1, retracted) ∧ s1.retract retracted = .ok (s2, o) ∧
      s' = ask s2 := by
  simp only [State.newTasks] at h
  split at h
  · cases h
  · rename_i hne
    refine ⟨by simpa using hne, ?_⟩
    split at h
    · cases h
    · rename_i s1 retracted h1
      split at h
      · cases h
      · rename_i s2 out h2
        cases h
        exact ⟨s1, retracted, s2, h1, h2, rfl⟩

/-! ### `on_cancel_tasks` -/

theorem mem_unionTids {a b : List TaskId} {x : TaskId} : x ∈ unionTids a b ↔ x ∈ a ∨ x ∈ b := by
  unfold unionTids
  induction b generalizing a with
  | nil => simp
  | cons y ys ih =>
    simp only [List.foldl_cons]
    rw [ih]
    by_cases hc : a.contains y = true
    · simp only [hc, if_true, List.mem_cons]
      have : y ∈ a := by simpa using hc
      constructor
      · rintro (h | h)
        · exact Or.inl h
        · exact Or.inr (Or.inr h)
      · rintro (h | h | h)
        · exact Or.inl h
        · subst h; exact Or.inl this
        · exact Or.inr h
    · simp only [hc, List.mem_cons, Bool.false_eq_true, if_false, List.mem_append, List.not_mem_nil, or_false]
      constructor
      · rintro ((h | h) | h)
        · exact Or.inl h
        · exact Or.inr (Or.inl h)
        · exact Or.inr (Or.inr h)
      · rintro (h | h | h)
        · exact Or.inl (Or.inl h)
        · exact Or.inl (Or.inr h)
        · exact Or.inr h

theorem unionTids_nodup : ∀ (b a : List TaskId), a.Nodup → (unionTids a b).Nodup
  | [], a, h => h
  | x :: b, a, h => by
    show (unionTids (if a.contains x then a else a ++ [x]) b).Nodup
    apply unionTids_nodup b
    split
    · exact h
    · rename_i hx
      rw [List.nodup_append]
      refine ⟨h, by simp, ?_⟩
      intro y hy z hz e
      simp only [List.mem_singleton] at hz
      subst hz; subst e
      exact hx (by simpa using hy)

theorem removeTasksBatched_cons_ok {s s' : State} {t : TaskId} {rest : List TaskId}
    (h : s.removeTasksBatched (t :: rest) = .ok s') :
    ∃ s1 st, s.removeTask t = .ok (s1, st) ∧ s1.removeTasksBatched rest = .ok s' := by
  simp only [State.removeTasksBatched] at h
  split at h
  · cases h
  · rename_i s1 st h1
    exact ⟨s1, st, h1, h⟩

theorem cancelTasks_path {s s' : State} {ids : List TaskId} {o : Out} (h : s.cancelTasks ids = .ok (s', o)) :
    ∃ s1 unreg running, s.cancelLoop ids [] [] = .ok (s1, unreg, running) ∧ s1.removeTasksBatched unreg = .ok s' ∧
      o = { msgs := running.map fun p => .cancel p.1 p.2 } := by
  simp only [State.cancelTasks] at h
  split at h
  · cases h
  · rename_i s1 unreg running h1
    split at h
    · cases h
    · rename_i s2 h2
      cases h
      exact ⟨s1, unreg, running, h1, h2, rfl⟩

/-! ### `task_failed`, `task_finished`: the loops over the consumers -/

theorem removeWaitingAll_cons_ok {s s' : State} {t : TaskId} {rest : List TaskId}
    (h : s.removeWaitingAll (t :: rest) = .ok s') :
    ∃ s1 n, s.removeTask t = .ok (s1, .waiting n) ∧ s1.removeWaitingAll rest = .ok s' := by
  simp only [State.removeWaitingAll] at h
  split at h
  · cases h
  · rename_i s1 st h1
    split at h
    · rename_i n
      exact ⟨s1, n, h1, h⟩
    · cases h

theorem wakeConsumers_cons_ok {s : State} {c : TaskId} {rest retracted : List TaskId} {res : State × List TaskId}
    (h : s.wakeConsumers (c :: rest) retracted = .ok res) :
    ∃ t n, s.task? c = some t ∧ t.state = .waiting (n + 1) ∧
      ((n = 0 ∧ ∃ s2 r, Requeued s { t with state := .waiting n } s2 r ∧
          s2.wakeConsumers rest (retracted ++ r) = .ok res) ∨
       (n ≠ 0 ∧ (s.setTask { t with state := .waiting n }).wakeConsumers rest retracted = .ok res)) := by
  simp only [State.wakeConsumers] at h
  split at h
  · cases h
  · rename_i t ht
    split at h
    · rename_i n hs
      refine ⟨t, n, getTask_spec ht, hs, ?_⟩
      split at h
      · rename_i hn
        split at h
        · cases h
        · rename_i s2 r h1
          exact .inl ⟨hn, s2, r, h1, h⟩
      · rename_i hn
        exact .inr ⟨hn, h⟩
    · cases h

/-! ### `on_task_update` -/

/-- one update of `on_task_update` with its output and the unconsumed `rets` -/
def State.upd1 (s : State) (w : Nat) (u : Update) (rets : List (List TaskId)) : M (State × Out × List (List TaskId)) :=
  match u with
  | .finished t =>
    match s.taskFinished w t with
    | .error e => .error e
    | .ok (s1, o, _) => .ok (s1, o, rets)
  | .failed t =>
    match s.taskFailed (some w) t (if (s.task? t).isSome then rets.headD [] else []) with
    | .error e => .error e
    | .ok (s1, o) => .ok (s1, o, if (s.task? t).isSome then rets.tail else rets)
  | .running t rv | .runningPrefilled t rv =>
    match s.taskRunning w t rv with
    | .error e => .error e
    | .ok (s1, o) => .ok (s1, o, rets)
  | .reject t rv =>
    match s.taskReject w t rv with
    | .error e => .error e
    | .ok (s1, o, _) => .ok (s1, o, rets)
  | .enable rq rv =>
    match s.requestEnabled w rq rv with
    | .error e => .error e
    | .ok s1 => .ok (s1, {}, rets)

/-- the state change of one update of the loop of `on_task_update` -/
def State.updateState (s : State) (w : Nat) (u : Update) (rets : List (List TaskId)) : M (State × List (List TaskId)) :=
  match u with
  | .finished t =>
    match s.taskFinished w t with
    | .error e => .error e
    | .ok (s1, _, _) => .ok (s1, rets)
  | .failed t =>
    match s.taskFailed (some w) t (if (s.task? t).isSome then rets.headD [] else []) with
    | .error e => .error e
    | .ok (s1, _) => .ok (s1, if (s.task? t).isSome then rets.tail else rets)
  | .running t rv | .runningPrefilled t rv =>
    match s.taskRunning w t rv with
    | .error e => .error e
    | .ok (s1, _) => .ok (s1, rets)
  | .reject t rv =>
    match s.taskReject w t rv with
    | .error e => .error e
    | .ok (s1, _, _) => .ok (s1, rets)
  | .enable rq rv =>
    match s.requestEnabled w rq rv with
    | .error e => .error e
    | .ok s1 => .ok (s1, rets)

theorem updateState_eq (s : State) (w : Nat) (u : Update) (rets : List (List TaskId)) :
    s.updateState w u rets = (s.upd1 w u rets).map fun x => (x.1, x.2.2) := by
  cases u <;> simp only [State.updateState, State.upd1] <;> split <;> rfl

theorem upd1_updateState {s s1 : State} {w : Nat} {u : Update} {rets rets1 : List (List TaskId)} {o : Out}
    (h : s.upd1 w u rets = .ok (s1, o, rets1)) : s.updateState w u rets = .ok (s1, rets1) := by
  rw [updateState_eq, h]; rfl

theorem updateState_upd1 {s s1 : State} {w : Nat} {u : Update} {rets rets1 : List (List TaskId)}
    (h : s.updateState w u rets = .ok (s1, rets1)) : ∃ o, s.upd1 w u rets = .ok (s1, o, rets1) := by
  rw [updateState_eq] at h
  cases hx : s.upd1 w u rets with
  | error e => rw [hx] at h; cases h
  | ok x => rw [hx] at h; cases h; exact ⟨x.2.1, rfl⟩

theorem upd1_cases {s s1 : State} {w : Nat} {u : Update} {rets rets1 : List (List TaskId)} {o : Out}
    (h : s.upd1 w u rets = .ok (s1, o, rets1)) :
    (∃ t b, u = .finished t ∧ s.taskFinished w t = .ok (s1, o, b) ∧ rets1 = rets) ∨
    (∃ t, u = .failed t ∧
      s.taskFailed (some w) t (if (s.task? t).isSome then rets.headD [] else []) = .ok (s1, o) ∧
      rets1 = if (s.task? t).isSome then rets.tail else rets) ∨
    (∃ t rv, (u = .running t rv ∨ u = .runningPrefilled t rv) ∧ s.taskRunning w t rv = .ok (s1, o) ∧ rets1 = rets) ∨
    (∃ t rv b, u = .reject t rv ∧ s.taskReject w t rv = .ok (s1, o, b) ∧ rets1 = rets) ∨
    ∃ rq rv, u = .enable rq rv ∧ s.requestEnabled w rq rv = .ok s1 ∧ o = {} ∧ rets1 = rets := by
  cases u <;> simp only [State.upd1] at h <;> split at h <;> cases h
  · rename_i hx; exact .inl ⟨_, _, rfl, hx, rfl⟩
  · rename_i hx; exact .inr (.inl ⟨_, rfl, hx, rfl⟩)
  · rename_i hx; exact .inr (.inr (.inl ⟨_, _, .inl rfl, hx, rfl⟩))
  · rename_i hx; exact .inr (.inr (.inl ⟨_, _, .inr rfl, hx, rfl⟩))
  · rename_i hx; exact .inr (.inr (.inr (.inl ⟨_, _, _, rfl, hx, rfl⟩)))
  · rename_i hx; exact .inr (.inr (.inr (.inr ⟨_, _, rfl, hx, rfl, rfl⟩)))

theorem Out.add_empty (a : Out) : a.add {} = a := by
  simp [Out.add]

theorem updateLoop_head (s : State) (w : Nat) (u : Update) (rest : List Update) (rets : List (List TaskId)) (out : Out)
    (need : Bool) :
    (∃ e, s.upd1 w u rets = .error e ∧ s.updateLoop w (u :: rest) rets out need = .error e) ∨
    ∃ s1 o1 rets1 need1, s.upd1 w u rets = .ok (s1, o1, rets1) ∧
      s.updateLoop w (u :: rest) rets out need = s1.updateLoop w rest rets1 (out.add o1) need1 := by
  cases u with
  | failed t =>
    simp only [State.updateLoop, State.upd1]
    by_cases hk : (s.task? t).isSome <;> simp only [hk, if_true, Bool.false_eq_true, if_false] <;> split <;>
      simp only [*]
    all_goals first | exact .inl ⟨_, rfl, rfl⟩ | exact .inr ⟨_, _, _, _, rfl, rfl⟩
  | enable rq rv =>
    simp only [State.updateLoop, State.upd1]
    split <;> simp only [*]
    · exact .inl ⟨_, rfl, rfl⟩
    · exact .inr ⟨_, _, _, true, rfl, by rw [Out.add_empty]⟩
  | _ =>
    simp only [State.updateLoop, State.upd1]
    split <;> simp only [*]
    · exact .inl ⟨_, rfl, rfl⟩
    · exact .inr ⟨_, _, _, _, rfl, rfl⟩

theorem updateLoop_cons_ok {s : State} {w : Nat} {u : Update} {rest : List Update} {rets : List (List TaskId)} {out : Out}
    {need : Bool} {res : State × Out × Bool × List (List TaskId)}
    (h : s.updateLoop w (u :: rest) rets out need = .ok res) :
    ∃ s1 o1 rets1 need1, s.upd1 w u rets = .ok (s1, o1, rets1) ∧
      s1.updateLoop w rest rets1 (out.add o1) need1 = .ok res := by
  obtain ⟨e, _, he⟩ | ⟨s1, o1, rets1, need1, h1, he⟩ := updateLoop_head s w u rest rets out need
  · rw [he] at h; cases h
  · exact ⟨s1, o1, rets1, need1, h1, he ▸ h⟩

theorem updateLoop_state_cons_ok {s : State} {w : Nat} {u : Update} {rest : List Update} {rets : List (List TaskId)} {out : Out}
    {need : Bool} {res : State × Out × Bool × List (List TaskId)}
    (h : s.updateLoop w (u :: rest) rets out need = .ok res) :
    ∃ s1 rets' out' need', s.updateState w u rets = .ok (s1, rets') ∧ s1.updateLoop w rest rets' out' need' = .ok res := by
  obtain ⟨s1, o1, rets1, need1, h1, h2⟩ := updateLoop_cons_ok h
  exact ⟨s1, rets1, _, need1, upd1_updateState h1, h2⟩

theorem taskUpdate_path {s s' : State} {w : Nat} {us : List Update} {rets : List (List TaskId)} {o : Out}
    (h : s.taskUpdate w us rets = .ok (s', o)) :
    ∃ s1 need rets', s.updateLoop w us rets {} false = .ok (s1, o, need, rets') ∧
      s' = if need && !isPrefillUpdate us then ask s1 else s1 := by
  simp only [State.taskUpdate] at h
  split at h
  · cases h
  · rename_i s1 out need rets' h1
    cases h
    exact ⟨s1, need, rets', h1, rfl⟩

/-! ### `on_retract_response` -/

theorem retractLoop_cons_ok {s : State} {w : Nat} {id : TaskId} {rest : List TaskId} {acc : List (Nat × TaskId × Nat)}
    {res : State × List (Nat × TaskId × Nat)} (h : s.retractLoop w (id :: rest) acc = .ok res) :
    ((∀ task, s.task? id = some task → task.state ≠ .retracting w) ∧ s.retractLoop w rest acc = .ok res) ∨
    ∃ task, s.task? id = some task ∧ task.state = .retracting w ∧
      ((∃ target rv, s.redirects.find? (·.1 = id) = some (id, target, rv) ∧
          (({ s with redirects := s.redirects.filter (·.1 ≠ id) } : State).setTask
              { task with state := .assigned target rv }).retractLoop w rest (acc ++ [(target, id, rv)]) = .ok res) ∨
       (s.redirects.find? (·.1 = id) = none ∧
          (s.setTask { task with state := .waiting 0 }).retractLoop w rest acc = .ok res)) := by
  simp only [State.retractLoop] at h
  split at h
  · rename_i hn
    exact .inl ⟨fun task ht => (by rw [hn] at ht; cases ht), h⟩
  · rename_i task ht
    split at h
    · rename_i hs
      exact .inl ⟨fun task' ht' => (by rw [ht] at ht'; cases ht'; exact hs), h⟩
    · rename_i hs
      refine .inr ⟨task, ht, Classical.not_not.mp hs, ?_⟩
      split at h
      · rename_i t0 target rv hf
        have ht0 : t0 = id := (rd_mem_of_find hf).2
        subst ht0
        exact .inl ⟨target, rv, hf, h⟩
      · rename_i hf
        exact .inr ⟨hf, h⟩

theorem retractResponse_path {s s' : State} {w : Nat} {ids : List TaskId} {o : Out}
    (h : s.retractResponse w ids = .ok (s', o)) :
    ∃ items msgs, s.retractLoop w ids [] = .ok (s', items) ∧ groupCompute s' items = .ok msgs ∧ o = { msgs := msgs } := by
  simp only [State.retractResponse] at h
  split at h
  · cases h
  · rename_i s1 items h1
    split at h
    · cases h
    · rename_i msgs h2
      cases h
      exact ⟨items, msgs, h1, h2, rfl⟩

/-! ### `on_remove_worker` -/

theorem mem_of_all_contains {l A : List TaskId} (h : l.all A.contains = true) : ∀ x ∈ l, x ∈ A := by
  intro x hx
  have := List.all_eq_true.mp h x hx
  simpa using this

namespace NP

theorem nodup_of_cover {α : Type} [DecidableEq α] : ∀ (l A : List α), A.Nodup → (∀ x ∈ A, x ∈ l) → l.length = A.length →
    l.Nodup
  | [], _, _, _, _ => List.nodup_nil
  | a :: t, A, hn, hc, hl => by
    rw [List.nodup_cons]
    by_cases ha : a ∈ t
    · -- then `t` alone covers `A`, but is shorter
      have : A.length ≤ t.length := by
        apply hn.length_le_of_subset
        intro x hx
        rcases List.mem_cons.mp (hc x hx) with e | e
        · rw [e]; exact ha
        · exact e
      simp only [List.length_cons] at hl
      omega
    · refine ⟨ha, ?_⟩
      by_cases haA : a ∈ A
      · apply nodup_of_cover t (A.erase a) (hn.erase a)
        · intro x hx
          have hxA : x ∈ A := List.mem_of_mem_erase hx
          have hne : x ≠ a := fun e => by
            subst e
            exact (List.Nodup.mem_erase_iff hn).mp hx |>.1 rfl
          rcases List.mem_cons.mp (hc x hxA) with e | e
          · exact absurd e hne
          · exact e
        · rw [List.length_erase_of_mem haA]
          simp only [List.length_cons] at hl
          omega
      · have : A.length ≤ t.length := by
          apply hn.length_le_of_subset
          intro x hx
          rcases List.mem_cons.mp (hc x hx) with e | e
          · subst e; exact absurd hx haA
          · exact e
        simp only [List.length_cons] at hl
        omega

theorem order_nodup {order A : List TaskId} (hn : A.Nodup)
    (h : (order.all A.contains && A.all order.contains && order.length = A.length) = true) : order.Nodup := by
  simp only [Bool.and_eq_true, decide_eq_true_eq] at h
  exact nodup_of_cover order A hn (mem_of_all_contains h.1.2) h.2

end NP

theorem lostPrefilled_cons_ok {s s' : State} {id : TaskId} {rest : List TaskId}
    (h : s.lostPrefilled (id :: rest) = .ok s') :
    ∃ task s2, s.task? id = some task ∧
      (s.setTask { task with inst := task.inst + 1, state := .waiting 0 }).movePrefilledToReady task.rq id = .ok s2 ∧
      s2.lostPrefilled rest = .ok s' := by
  simp only [State.lostPrefilled] at h
  split at h
  · cases h
  · rename_i task ht
    split at h
    · cases h
    · rename_i s2 h2
      exact ⟨task, s2, getTask_spec ht, h2, h⟩

/-- what one iteration of the loop over the lost worker's assigned tasks decides before it requeues the record with a
raised instance: the state it goes on from, the record it writes, the `running` list. A task that was being retracted
elsewhere loses its redirect and keeps its state: `lostRetracting` deals with it -/
inductive LostArm (s : State) (id : TaskId) (task : Task) (running : List TaskId) : State → Task → List TaskId → Prop
  | running {w rv : Nat} (hs : task.state = .running w rv) :
      LostArm s id task running s { task with state := .waiting 0 } (running ++ [id])
  | retracting {w : Nat} (hs : task.state = .retracting w) (hany : s.redirects.any (·.1 = id) = true) :
      LostArm s id task running { s with redirects := s.redirects.filter (·.1 ≠ id) } task running
  | other (hnr : ∀ w rv, task.state ≠ .running w rv) (hnt : ∀ w, task.state ≠ .retracting w) :
      LostArm s id task running s { task with state := .waiting 0 } running

theorem LostArm.writes {s s0 : State} {id : TaskId} {task t' : Task} {ru ru1 : List TaskId}
    (h : LostArm s id task ru s0 t' ru1) :
    s0.tasks = s.tasks ∧ (t' = { task with state := .waiting 0 } ∨ t' = task) := by
  cases h with
  | running => exact ⟨rfl, .inl rfl⟩
  | retracting => exact ⟨rfl, .inr rfl⟩
  | other => exact ⟨rfl, .inl rfl⟩

theorem lostAssigned_cons_ok {s : State} {id : TaskId} {rest running retracted : List TaskId}
    {res : State × List TaskId × List TaskId} (h : s.lostAssigned (id :: rest) running retracted = .ok res) :
    ∃ task s0 t' running' s2 r, s.task? id = some task ∧ LostArm s id task running s0 t' running' ∧
      Requeued s0 { t' with inst := t'.inst + 1 } s2 r ∧ s2.lostAssigned rest running' (retracted ++ r) = .ok res := by
  simp only [State.lostAssigned] at h
  split at h
  · cases h
  · rename_i task ht
    have ht := getTask_spec ht
    split at h
    · rename_i w rv hs
      split at h
      · cases h
      · rename_i s2 r h1
        exact ⟨task, _, _, _, s2, r, ht, .running hs, h1, h⟩
    · rename_i w hs
      obtain ⟨hany, h⟩ := ok_of_guard_not h
      split at h
      · cases h
      · rename_i s2 r h1
        exact ⟨task, _, _, _, s2, r, ht, .retracting hs hany, h1, h⟩
    · rename_i n1 n2
      split at h
      · cases h
      · rename_i s2 r h1
        exact ⟨task, _, _, _, s2, r, ht, .other n1 n2, h1, h⟩

theorem lostRetracting_cons_ok {s : State} {w : Nat} {t0 : Task} {rest : List Task} {out : Out} {res : State × Out}
    (h : s.lostRetracting w (t0 :: rest) out = .ok res) :
    ((∀ task0, s.task? t0.id = some task0 → task0.state ≠ .retracting w) ∧ s.lostRetracting w rest out = .ok res) ∨
    ∃ task0, s.task? t0.id = some task0 ∧ task0.state = .retracting w ∧
      ((∃ target rv, s.redirects.find? (·.1 = task0.id) = some (task0.id, target, rv) ∧
          (({ s with redirects := s.redirects.filter (·.1 ≠ task0.id) } : State).setTask
              { task0 with inst := task0.inst + 1, state := .assigned target rv }).lostRetracting w rest
            (out.add { msgs := [.compute target
              [computeOne { task0 with inst := task0.inst + 1, state := .assigned target rv } (some rv) []]] }) =
            .ok res) ∨
       (s.redirects.find? (·.1 = task0.id) = none ∧
          (s.setTask { task0 with inst := task0.inst + 1, state := .waiting 0 }).lostRetracting w rest out = .ok res)) := by
  simp only [State.lostRetracting] at h
  split at h
  · rename_i hn
    exact .inl ⟨fun task ht => (by rw [hn] at ht; cases ht), h⟩
  · rename_i task0 ht
    split at h
    · rename_i hs
      exact .inl ⟨fun task' ht' => (by rw [ht] at ht'; cases ht'; exact hs), h⟩
    · rename_i hs
      refine .inr ⟨task0, ht, Classical.not_not.mp hs, ?_⟩
      split at h
      · rename_i t1 target rv hf
        have ht1 : t1 = task0.id := (rd_mem_of_find hf).2
        subst ht1
        exact .inl ⟨target, rv, hf, h⟩
      · rename_i hf
        exact .inr ⟨hf, h⟩

theorem crashLoop_cons_ok {s : State} {f : Bool} {id : TaskId} {rest : List TaskId} {rets : List (List TaskId)}
    {out : Out} {res : State × Out} (h : s.crashLoop f (id :: rest) rets out = .ok res) :
    (s.task? id = none ∧ s.crashLoop f rest rets out = .ok res) ∨
    ∃ task, s.task? id = some task ∧
      (((crashOutcome task.crashLimit f task.crashes).2 = true ∧ ∃ s2 o,
          (s.setTask { task with crashes := (crashOutcome task.crashLimit f task.crashes).1 }).taskFailed none id
            (rets.headD []) = .ok (s2, o) ∧ s2.crashLoop f rest rets.tail (out.add o) = .ok res) ∨
       ((crashOutcome task.crashLimit f task.crashes).2 = false ∧
          (s.setTask { task with crashes := (crashOutcome task.crashLimit f task.crashes).1 }).crashLoop f rest rets out =
            .ok res)) := by
  simp only [State.crashLoop] at h
  split at h
  · rename_i hn
    exact .inl ⟨hn, h⟩
  · rename_i task ht
    refine .inr ⟨task, ht, ?_⟩
    generalize crashOutcome task.crashLimit f task.crashes = c at h
    obtain ⟨crashes', fails⟩ := c
    cases fails with
    | true =>
      simp only [if_true] at h
      split at h
      · cases h
      · rename_i s2 o h1
        exact .inl ⟨rfl, s2, o, h1, h⟩
    | false =>
      simp only [Bool.false_eq_true, if_false] at h
      exact .inr ⟨rfl, h⟩

namespace NPL

/-- `on_remove_worker` up to the loop over the task map (applied to `s0` = the state without the lost worker): the
loops over the lost worker's prefilled and assigned tasks, resp. the multi-node arm; result: state, `running`,
`retracted` -/
def lossPart1 (s0 : State) (w : Nat) (a : Assign) (order : List TaskId) : M (State × List TaskId × List TaskId) :=
  match a with
  | .sn assigned _ prefilled =>
    if !(order.all assigned.contains && assigned.all order.contains && order.length = assigned.length) then
      .error (.panic "!bad-choice order")
    else
      match s0.lostPrefilled prefilled with
      | .error e => .error e
      | .ok s1 => s1.lostAssigned order [] []
  | .mn tid _ mnStarted =>
    match s0.getTask tid with
    | .error e => .error e
    | .ok task =>
      match task.state with
      | .runningMN ws =>
        match ws with
        | root :: others =>
          if root = w then
            match resetMnAll s0 others with
            | .error e => .error e
            | .ok s1 =>
              let t' := { task with state := .waiting 0, inst := task.inst + 1 }
              let s2 := s1.setTask t'
              match s2.addReady t' with
              | .error e => .error e
              | .ok (s3, r) => .ok (s3, if mnStarted then [tid] else [], r)
          else .ok (s0.setTask { task with state := .runningMN (ws.filter (· ≠ w)) }, [], [])
        | [] => .error (.panic "on_remove_worker.ws0")
      | _ => .error (.panic "on_remove_worker.unreachable")

/-- the rest of `on_remove_worker` -/
def lossTail (s1 : State) (running retracted : List TaskId) (w : Nat) (reason : String) (isFailure : Bool)
    (rets : List (List TaskId)) : M (State × Out) :=
  match s1.lostRetracting w s1.tasks {} with
  | .error e => .error e
  | .ok (s2, out1) =>
    match s2.retract retracted with
    | .error e => .error e
    | .ok (s3, out2) =>
      let out3 : Out := { cbs := [.workerLost w running reason] }
      match s3.crashLoop isFailure running rets ((out1.add out2).add out3) with
      | .error e => .error e
      | .ok (s4, out) => .ok (ask s4, out)

theorem removeWorker_eq (s : State) (w : Nat) (reason : String) (f : Bool) (order : List TaskId)
    (rets : List (List TaskId)) :
    s.removeWorker w reason f order rets =
      match s.worker? w with
      | none => .error (.panic "remove_worker.get_worker")
      | some wk =>
        match lossPart1 { s with workers := s.workers.filter (·.id ≠ w) } w wk.assign order with
        | .error e => .error e
        | .ok (s1, running, retracted) => lossTail s1 running retracted w reason f rets := by
  unfold State.removeWorker lossPart1 lossTail
  rfl

end NPL

theorem removeWorker_path {s s' : State} {w : Nat} {reason : String} {f : Bool} {order : List TaskId}
    {rets : List (List TaskId)} {o : Out} (h : s.removeWorker w reason f order rets = .ok (s', o)) :
    ∃ wk s1 running retracted, s.worker? w = some wk ∧
      NPL.lossPart1 { s with workers := s.workers.filter (·.id ≠ w) } w wk.assign order = .ok (s1, running, retracted) ∧
      NPL.lossTail s1 running retracted w reason f rets = .ok (s', o) := by
  rw [NPL.removeWorker_eq] at h
  split at h
  · cases h
  · rename_i wk hw
    split at h
    · cases h
    · rename_i s1 running retracted h1
      exact ⟨wk, s1, running, retracted, hw, h1, h⟩

theorem lossPart1_cases {s0 s1 : State} {w : Nat} {a : Assign} {order running retracted : List TaskId}
    (h : NPL.lossPart1 s0 w a order = .ok (s1, running, retracted)) :
    (∃ assigned free prefilled s01, a = .sn assigned free prefilled ∧
        (order.all assigned.contains && assigned.all order.contains && order.length = assigned.length) = true ∧
        s0.lostPrefilled prefilled = .ok s01 ∧ s01.lostAssigned order [] [] = .ok (s1, running, retracted)) ∨
    ∃ tid isRoot started task root others, a = .mn tid isRoot started ∧ s0.task? tid = some task ∧
      task.state = .runningMN (root :: others) ∧
      ((root = w ∧ ∃ s01, resetMnAll s0 others = .ok s01 ∧
          Requeued s01 { task with state := .waiting 0, inst := task.inst + 1 } s1 retracted ∧
          running = if started then [tid] else []) ∨
       (root ≠ w ∧ s1 = s0.setTask { task with state := .runningMN ((root :: others).filter (· ≠ w)) } ∧
          running = [] ∧ retracted = [])) := by
  simp only [NPL.lossPart1] at h
  split at h
  · rename_i assigned free prefilled
    obtain ⟨hperm, h⟩ := ok_of_guard_not h
    split at h
    · cases h
    · rename_i s01 h1
      exact .inl ⟨assigned, free, prefilled, s01, rfl, hperm, h1, h⟩
  · rename_i tid isRoot started
    split at h
    · cases h
    · rename_i task ht
      split at h
      · rename_i ws hs
        split at h
        · rename_i root others
          refine .inr ⟨tid, isRoot, started, task, root, others, rfl, getTask_spec ht, hs, ?_⟩
          split at h
          · rename_i hroot
            split at h
            · cases h
            · rename_i s01 h1
              split at h
              · cases h
              · rename_i s3 r h2
                cases h
                exact .inl ⟨hroot, s01, h1, h2, rfl⟩
          · rename_i hroot
            cases h
            exact .inr ⟨hroot, rfl, rfl, rfl⟩
        · cases h
      · cases h

theorem lossTail_path {s1 s' : State} {running retracted : List TaskId} {w : Nat} {reason : String} {f : Bool}
    {rets : List (List TaskId)} {o : Out} (h : NPL.lossTail s1 running retracted w reason f rets = .ok (s', o)) :
    ∃ s2 out1 s3 out2 s4, s1.lostRetracting w s1.tasks {} = .ok (s2, out1) ∧ s2.retract retracted = .ok (s3, out2) ∧
      s3.crashLoop f running rets ((out1.add out2).add { cbs := [.workerLost w running reason] }) = .ok (s4, o) ∧
      s' = ask s4 := by
  simp only [NPL.lossTail] at h
  split at h
  · cases h
  · rename_i s2 out1 h1
    split at h
    · cases h
    · rename_i s3 out2 h2
      split at h
      · cases h
      · rename_i s4 out h3
        cases h
        exact ⟨s2, out1, s3, out2, s4, h1, h2, h3, rfl⟩

theorem removeWorker_phases {s s' : State} {w : Nat} {reason : String} {f : Bool} {order : List TaskId}
    {rets : List (List TaskId)} {o : Out} (h : s.removeWorker w reason f order rets = .ok (s', o)) :
    ∃ wk s1 s2 s3 s4 running retracted out1 out2, s.worker? w = some wk ∧
      NPL.lossPart1 { s with workers := s.workers.filter (·.id ≠ w) } w wk.assign order = .ok (s1, running, retracted) ∧
      s1.lostRetracting w s1.tasks {} = .ok (s2, out1) ∧ s2.retract retracted = .ok (s3, out2) ∧
      s3.crashLoop f running rets ((out1.add out2).add { cbs := [.workerLost w running reason] }) = .ok (s4, o) ∧
      s' = ask s4 := by
  obtain ⟨wk, s1, running, retracted, hw, h1, h2⟩ := removeWorker_path h
  obtain ⟨s2, out1, s3, out2, s4, a, b, c, rfl⟩ := lossTail_path h2
  exact ⟨wk, s1, s2, s3, s4, running, retracted, out1, out2, hw, h1, a, b, c, rfl⟩

/-! ### the loops as "first element, then the rest"

Each proof splits along the `match` nesting of the model function, one `split` per `match` in the order of the source;
every leaf is `rfl`. -/

namespace NP

theorem cancelLoop_cons (s : State) (id : TaskId) (rest u : List TaskId) (r : List (Nat × List TaskId)) :
    s.cancelLoop (id :: rest) u r =
      match s.cancelLoop [id] u r with
      | .error e => .error e
      | .ok (s1, u1, r1) => s1.cancelLoop rest u1 r1 := by
  simp only [State.cancelLoop]
  split
  · rfl
  · split
    · rfl
    · split
      · rfl
      · split
        · rfl
        · split <;> rfl
      · split
        · rfl
        · split <;> rfl
      · split
        · rfl
        · split <;> rfl
      · split <;> rfl
      · split
        · rfl
        · split <;> rfl
      · rfl

theorem removeTasksBatched_cons (s : State) (t : TaskId) (rest : List TaskId) :
    s.removeTasksBatched (t :: rest) =
      match s.removeTasksBatched [t] with
      | .error e => .error e
      | .ok s1 => s1.removeTasksBatched rest := by
  simp only [State.removeTasksBatched]
  cases s.removeTask t <;> rfl

theorem removeWaitingAll_cons (s : State) (t : TaskId) (rest : List TaskId) :
    s.removeWaitingAll (t :: rest) =
      match s.removeWaitingAll [t] with
      | .error e => .error e
      | .ok s1 => s1.removeWaitingAll rest := by
  simp only [State.removeWaitingAll]
  cases s.removeTask t with
  | error e => rfl
  | ok x =>
    obtain ⟨s1, st⟩ := x
    cases st <;> rfl

theorem lostPrefilled_cons (s : State) (t : TaskId) (rest : List TaskId) :
    s.lostPrefilled (t :: rest) =
      match s.lostPrefilled [t] with
      | .error e => .error e
      | .ok s1 => s1.lostPrefilled rest := by
  simp only [State.lostPrefilled]
  split
  · rfl
  · split <;> rfl

theorem lostAssigned_cons (s : State) (t : TaskId) (rest running retracted : List TaskId) :
    s.lostAssigned (t :: rest) running retracted =
      match s.lostAssigned [t] running retracted with
      | .error e => .error e
      | .ok (s1, run1, ret1) => s1.lostAssigned rest run1 ret1 := by
  simp only [State.lostAssigned]
  split
  · rfl
  · split
    · split <;> rfl
    · split
      · rfl
      · split <;> rfl
    · split <;> rfl

theorem addNewTasks_cons (s : State) (nt : NewTask) (rest : List NewTask) (retracted : List TaskId) :
    s.addNewTasks (nt :: rest) retracted =
      match s.addNewTasks [nt] retracted with
      | .error e => .error e
      | .ok (s1, r1) => s1.addNewTasks rest r1 := by
  simp only [State.addNewTasks]
  split
  · rfl
  · split
    · split <;> rfl
    · rfl

theorem crashLoop_cons (s : State) (f : Bool) (id : TaskId) (rest : List TaskId) (rets : List (List TaskId)) (out : Out) :
    s.crashLoop f (id :: rest) rets out =
      match s.crashLoop f [id] rets out with
      | .error e => .error e
      | .ok (s1, out1) =>
        s1.crashLoop f rest
          (if (match s.task? id with
               | some task => (crashOutcome task.crashLimit f task.crashes).2
               | none => false) then rets.tail else rets) out1 := by
  cases ht : s.task? id with
  | none => simp only [State.crashLoop, ht, Bool.false_eq_true, if_false]
  | some task =>
    simp only [State.crashLoop, ht]
    split
    · split <;> rfl
    · rfl

end NP

end HqModel.Core
