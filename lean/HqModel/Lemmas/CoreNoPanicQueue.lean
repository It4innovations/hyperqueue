import HqModel.Lemmas.CoreNoPanicBase
/-!
`NpQ D R s` ties the queues to the task map: an id stored in a ready list or a prefill set belongs to a task of that
request and priority in a matching state, and every Prefilled task is in the prefill set of its queue, except the ids
of `R` (disposed, not yet retracted) and the tasks `D` whose worker side is being taken apart. The file is organised
around `NpQ.sub` (what the invariant reads of a state) and `setTask_npqR` (one record replaced); the pure list
vocabulary — `rPairs`, `rIds`, `qIds`, `pfIds` — is in `CoreOpsQueue.lean`.
-/
namespace HqModel.Core

open NP

theorem NpQ.ready_nodup {D R} {s : State} (h : NpQ D R s) {i : Nat} {q : Queue} (hq : s.queues[i]? = some q) :
    (rIds q.ready).Nodup := by
  rw [rIds_eq_map_rPairs]
  have hwf := h.wf q (List.mem_of_getElem? hq)
  have hnd := rPairs_nodup hwf
  rw [List.Nodup, List.pairwise_map]
  refine List.Pairwise.imp_of_mem ?_ hnd
  intro x y hx hy hne exy
  apply hne
  obtain ⟨p1, id1⟩ := x
  obtain ⟨p2, id2⟩ := y
  simp only at exy
  subst exy
  obtain ⟨e1, he1, rfl, hm1⟩ := mem_rPairs.mp hx
  obtain ⟨e2, he2, rfl, hm2⟩ := mem_rPairs.mp hy
  obtain ⟨t1, ht1, _, hp1, _⟩ := (h.rg' hq he1 hm1).elim
  obtain ⟨t2, ht2, _, hp2, _⟩ := (h.rg' hq he2 hm2).elim
  rw [ht1] at ht2; cases ht2
  rw [← hp1, ← hp2]

/-- ready list and prefill set of a queue are disjoint (an id of the prefill set is not in `R`, a Prefilled task in a
ready list is) -/
theorem NpQ.ready_prefill_disjoint {D R} {s : State} (h : NpQ D R s) {i : Nat} {q : Queue}
    (hq : s.queues[i]? = some q) {id : TaskId} (h1 : id ∈ rIds q.ready) (h2 : id ∈ pfIds q) : False := by
  obtain ⟨e, he, hm⟩ := mem_rIds.mp h1
  obtain ⟨t, ht, _, _, hs⟩ := (h.rg' hq he hm).elim
  obtain ⟨pp, ts, hp, h2⟩ := mem_pfIds.mp h2
  obtain ⟨t', w, ht', _, _, hr, hs'⟩ := (h.pg' hq hp h2).elim
  rw [ht] at ht'; cases ht'
  rcases hs with hs | ⟨⟨w', hs⟩, _⟩ | ⟨_, hs⟩
  · rw [hs] at hs'; cases hs'
  · rw [hs] at hs'; cases hs'
  · exact hr hs

theorem NpQ.rq_of_mem {D R} {s : State} (h : NpQ D R s) {i : Nat} {q : Queue} (hq : s.queues[i]? = some q)
    {id : TaskId} (hm : id ∈ qIds q) : ∃ t, s.task? id = some t ∧ t.rq = i := by
  rcases mem_qIds.mp hm with hm | hm
  · obtain ⟨e, he, hx⟩ := mem_rIds.mp hm
    obtain ⟨t, ht, hr, _⟩ := (h.rg' hq he hx).elim
    exact ⟨t, ht, hr⟩
  · obtain ⟨pp, ts, hp, hm⟩ := mem_pfIds.mp hm
    obtain ⟨t, _, ht, hr, _⟩ := (h.pg' hq hp hm).elim
    exact ⟨t, ht, hr⟩

theorem NpQ.queue_unique {D R} {s : State} (h : NpQ D R s) {i j : Nat} {q q' : Queue}
    (hq : s.queues[i]? = some q) (hq' : s.queues[j]? = some q') {id : TaskId} (h1 : id ∈ qIds q) (h2 : id ∈ qIds q') :
    i = j := by
  obtain ⟨t1, ht1, e1⟩ := h.rq_of_mem hq h1
  obtain ⟨t2, ht2, e2⟩ := h.rq_of_mem hq' h2
  rw [ht1] at ht2; cases ht2
  rw [← e1, ← e2]

end HqModel.Core

namespace HqModel.Core.NPC

open HqModel.Core.NP

/-- `q'` holds only ids of `q`, under the same priorities -/
structure Shrunk (q q' : Queue) : Prop where
  wf : ReadyWf q.ready → ReadyWf q'.ready
  pairs : ∀ x ∈ rPairs q'.ready, x ∈ rPairs q.ready
  pnd : (pfIds q).Nodup → (pfIds q').Nodup
  pf : ∀ pp ts, q'.prefill = some (pp, ts) → ∃ ts0, q.prefill = some (pp, ts0) ∧ ∀ x ∈ ts, x ∈ ts0

theorem Shrunk.refl (q : Queue) : Shrunk q q := ⟨id, fun _ h => h, id, fun _ ts hp => ⟨ts, hp, fun _ h => h⟩⟩

theorem Shrunk.pfIds {q q' : Queue} (h : Shrunk q q') {x : TaskId} (hx : x ∈ pfIds q') : x ∈ pfIds q := by
  obtain ⟨pp, ts, hp, hm⟩ := mem_pfIds.mp hx
  obtain ⟨ts0, h0, hs⟩ := h.pf pp ts hp
  exact mem_pfIds.mpr ⟨pp, ts0, h0, hs x hm⟩

theorem shrunk_remove (q : Queue) (t : TaskId) (p : Int) : Shrunk q (q.remove t p) := by
  rcases remove_cases q t p with ⟨pp, ts, hp, _, _, e⟩ | ⟨_, e⟩ <;> rw [e]
  · refine ⟨id, fun _ h => h, ?_, ?_⟩
    · simp only [pfIds, hp]; exact fun h => h.erase t
    · intro pp' ts' e'; cases e'; exact ⟨ts, hp, fun _ hx => List.mem_of_mem_erase hx⟩
  · exact ⟨readyRemove_wf, fun _ => mem_rPairs_readyRemove_sub, id, fun _ ts hp => ⟨ts, hp, fun _ h => h⟩⟩

theorem shrunk_erase {q : Queue} {pp : Int} {ts : List TaskId} (hp : q.prefill = some (pp, ts)) (id : TaskId) :
    Shrunk q { q with prefill := if (ts.erase id).isEmpty then none else some (pp, ts.erase id) } := by
  refine ⟨fun h => h, fun _ h => h, ?_, ?_⟩
  · rw [pfIds_ite]; simp only [pfIds, hp]; exact fun h => h.erase id
  · intro pp' ts' e
    obtain ⟨rfl, rfl⟩ := prefill_ite_some e
    exact ⟨ts, hp, fun _ hx => List.mem_of_mem_erase hx⟩

/-- the states allowed for an id stored in a ready list -/
def RState (R : List TaskId) (rd : List (TaskId × Nat × Nat)) (id : TaskId) (st : TS) : Prop :=
  st = .waiting 0 ∨ ((∃ w, st = .retracting w) ∧ ∀ x ∈ rd, x.1 ≠ id) ∨ ((∃ w, st = .prefilled w) ∧ id ∈ R)

theorem RState.mono {R R' rd rd' id st} (h : RState R rd id st) (hr : ∀ x ∈ rd', x.1 = id → x ∈ rd)
    (hR : id ∈ R → id ∈ R') : RState R' rd' id st := by
  rcases h with h | ⟨h1, h2⟩ | ⟨h1, h2⟩
  · exact Or.inl h
  · exact Or.inr (Or.inl ⟨h1, fun x hx e => h2 x (hr x hx e) e⟩)
  · exact Or.inr (Or.inr ⟨h1, hR h2⟩)

theorem not_rstate {R rd id} {st : TS} (h1 : st ≠ .waiting 0) (h2 : ∀ w, st ≠ .retracting w)
    (h3 : ∀ w, st ≠ .prefilled w) : ¬ RState R rd id st := by
  rintro (e | ⟨⟨w, e⟩, _⟩ | ⟨⟨w, e⟩, _⟩)
  · exact h1 e
  · exact h2 w e
  · exact h3 w e

theorem readyGood_iff {R} {s : State} {i : Nat} {p : Int} {id : TaskId} :
    ReadyGood R s i p id ↔ ∃ t, s.task? id = some t ∧ t.rq = i ∧ t.prio = p ∧ RState R s.redirects id t.state :=
  ⟨fun h => h.elim, fun ⟨_, a, b, c, d⟩ => ReadyGood.intro a b c d⟩

theorem pfGood_iff {R} {s : State} {i : Nat} {pp : Int} {id : TaskId} :
    PfGood R s i pp id ↔ ∃ t w, s.task? id = some t ∧ t.rq = i ∧ t.prio = pp ∧ id ∉ R ∧ t.state = .prefilled w :=
  ⟨fun h => h.elim, fun ⟨_, _, a, b, c, d, e⟩ => PfGood.intro a b c d e⟩

theorem isPrefilled_iff {s : State} {id : TaskId} :
    IsPrefilled s id ↔ ∃ t w, s.task? id = some t ∧ t.state = .prefilled w :=
  ⟨fun h => h.elim, fun ⟨_, _, a, b⟩ => IsPrefilled.intro a b⟩

theorem inPrefill_iff {s : State} {t : Task} : InPrefill s t ↔ ∃ q, s.queues[t.rq]? = some q ∧ t.id ∈ pfIds q := by
  unfold InPrefill
  cases h : s.queues[t.rq]? with
  | none => simp
  | some q => simp

/-- the record of `x`, if there is one, keeps (state, request, priority) from `s` to `s'` -/
def SameKey (s s' : State) (x : TaskId) : Prop :=
  ∀ t, s.task? x = some t → ∃ t', s'.task? x = some t' ∧ key t' = key t

theorem SameKey.of_eq {s s' : State} {x : TaskId} (h : s'.task? x = s.task? x) : SameKey s s' x :=
  fun t ht => ⟨t, h.trans ht, rfl⟩

theorem _root_.HqModel.Core.ReadyGood.of_key {R R'} {s s' : State} {i : Nat} {p : Int} {x : TaskId}
    (h : ReadyGood R s i p x) (hk : SameKey s s' x) (hr : ∀ r ∈ s'.redirects, r.1 = x → r ∈ s.redirects)
    (hR : x ∈ R → x ∈ R') : ReadyGood R' s' i p x := by
  obtain ⟨t, a, b, c, d⟩ := readyGood_iff.mp h
  obtain ⟨t', a', k⟩ := hk t a
  obtain ⟨k1, k2, k3⟩ := key_eq k
  exact readyGood_iff.mpr ⟨t', a', k2.trans b, k3.trans c, k1 ▸ d.mono hr hR⟩

theorem _root_.HqModel.Core.PfGood.of_key {R R'} {s s' : State} {i : Nat} {p : Int} {x : TaskId}
    (h : PfGood R s i p x) (hk : SameKey s s' x) (hR : x ∈ R' → x ∈ R) : PfGood R' s' i p x := by
  obtain ⟨t, w, a, b, c, d, e⟩ := pfGood_iff.mp h
  obtain ⟨t', a', k⟩ := hk t a
  obtain ⟨k1, k2, k3⟩ := key_eq k
  exact pfGood_iff.mpr ⟨t', w, a', k2.trans b, k3.trans c, fun hx => d (hR hx), k1.trans e⟩

theorem _root_.HqModel.Core.IsPrefilled.of_key {s s' : State} {x : TaskId} (h : IsPrefilled s x)
    (hk : SameKey s s' x) : IsPrefilled s' x := by
  obtain ⟨t, w, a, b⟩ := isPrefilled_iff.mp h
  obtain ⟨t', a', k⟩ := hk t a
  exact isPrefilled_iff.mpr ⟨t', w, a', (key_eq k).1.trans b⟩

theorem _root_.HqModel.Core.ReadyGood.of_eq {R} {s s' : State} {i : Nat} {p : Int} {x : TaskId}
    (h : ReadyGood R s i p x) (ht : s'.task? x = s.task? x)
    (hr : ∀ r ∈ s'.redirects, r.1 = x → r ∈ s.redirects) : ReadyGood R s' i p x :=
  h.of_key (.of_eq ht) hr id

theorem _root_.HqModel.Core.PfGood.of_eq {R} {s s' : State} {i : Nat} {p : Int} {x : TaskId}
    (h : PfGood R s i p x) (ht : s'.task? x = s.task? x) : PfGood R s' i p x :=
  h.of_key (.of_eq ht) id

theorem _root_.HqModel.Core.InPrefill.of_queues {s s' : State} {t : Task} (h : InPrefill s t)
    (hq : s'.queues = s.queues) : InPrefill s' t := by
  unfold InPrefill at h ⊢; rw [hq]; exact h

theorem _root_.HqModel.Core.InPrefill.of_rec {s : State} {t t' : Task} (h : InPrefill s t)
    (hr : t'.rq = t.rq) (hi : t'.id = t.id) : InPrefill s t' := by
  unfold InPrefill at h ⊢; rw [hr, hi]; exact h

/-- what `NpQ` says about queue `i` -/
structure QOk (R : List TaskId) (s : State) (i : Nat) (q : Queue) : Prop where
  wf : ReadyWf q.ready
  rg : ∀ x ∈ rPairs q.ready, ReadyGood R s i x.1 x.2
  pnd : (pfIds q).Nodup
  pg : ∀ pp ts, q.prefill = some (pp, ts) → ∀ id ∈ ts, PfGood R s i pp id

theorem npq_iff {D R} {s : State} : NpQ D R s ↔ (∀ (i : Nat) (q : Queue), s.queues[i]? = some q → QOk R s i q) ∧
    (∀ t ∈ s.tasks, (∃ w, t.state = .prefilled w) → t.id ∉ R → ¬ D t.id → InPrefill s t) ∧ R.Nodup ∧
    ∀ id ∈ R, IsPrefilled s id := by
  constructor
  · intro h
    refine ⟨fun i q hq => ⟨h.wf q (List.mem_of_getElem? hq), ?_, h.pnd q (List.mem_of_getElem? hq), fun pp ts hp id hid => h.pg' hq hp hid⟩,
      h.pin, h.rnd, h.rpre⟩
    rintro ⟨p, id⟩ hx
    obtain ⟨e, he, e1, hm⟩ := mem_rPairs.mp hx
    subst e1
    exact h.rg' hq he hm
  · rintro ⟨h1, h2, h3, h4⟩
    refine ⟨?_, ?_, ?_, ?_, h2, h3, h4⟩
    · intro q hq
      obtain ⟨i, hi⟩ := List.getElem?_of_mem hq
      exact (h1 i q hi).wf
    · rintro ⟨q, i⟩ hp e he id hid
      have hi := List.mem_zipIdx_iff_getElem?.mp hp
      exact (h1 i q hi).rg (e.1, id) (mem_rPairs.mpr ⟨e, he, rfl, hid⟩)
    · intro q hq
      obtain ⟨i, hi⟩ := List.getElem?_of_mem hq
      exact (h1 i q hi).pnd
    · rintro ⟨q, i⟩ hp pp ts hpf id hid
      have hi := List.mem_zipIdx_iff_getElem?.mp hp
      exact (h1 i q hi).pg pp ts hpf id hid

theorem _root_.HqModel.Core.NpQ.qok {D R} {s : State} (h : NpQ D R s) {i : Nat} {q : Queue}
    (hq : s.queues[i]? = some q) : QOk R s i q := (npq_iff.mp h).1 i q hq

theorem _root_.HqModel.Core.NpQ.wf' {D R} {s : State} (h : NpQ D R s) {i : Nat} {q : Queue}
    (hq : s.queues[i]? = some q) : ReadyWf q.ready := (h.qok hq).wf

theorem _root_.HqModel.Core.NpQ.pin' {D R} {s : State} (h : NpQ D R s) {id : TaskId} {t : Task}
    (ht : s.task? id = some t) (hp : ∃ w, t.state = .prefilled w) (hr : id ∉ R) (hd : ¬ D id) : InPrefill s t := by
  have hid : t.id = id := findTask_some_id ht
  exact h.pin t (findTask_some_mem ht) hp (by rw [hid]; exact hr) (by rw [hid]; exact hd)

/-- `id` is in no ready list and in no prefill set -/
def NoQ (s : State) (id : TaskId) : Prop := ∀ (i : Nat) (q : Queue), s.queues[i]? = some q → id ∉ rIds q.ready ∧ id ∉ pfIds q

theorem NoQ.of_queues {s s' : State} {id : TaskId} (h : NoQ s id) (hq : s'.queues = s.queues) : NoQ s' id := by
  unfold NoQ; rw [hq]; exact h

theorem task?_congr {s s' : State} (ht : s'.tasks = s.tasks) (x : TaskId) : s'.task? x = s.task? x := by
  unfold State.task?; rw [ht]

theorem task?_setTask_self {s : State} {t' told : Task} (hf : s.task? t'.id = some told) :
    (s.setTask t').task? t'.id = some t' := by
  rw [task?_setTask, if_pos rfl, hf]; rfl

theorem findTask_of_mem {ts : List Task} (hn : (taskIds ts).Nodup) {t : Task} (h : t ∈ ts) :
    findTask ts t.id = some t :=
  mem_find_of_nodup hn h

theorem _root_.HqModel.Core.NpQ.task_of_ready {D R} {s : State} (h : NpQ D R s) {i : Nat} {q : Queue}
    (hq : s.queues[i]? = some q) {p : Int} {id : TaskId} (hx : (p, id) ∈ rPairs q.ready) :
    ∃ t, s.task? id = some t ∧ t.rq = i ∧ t.prio = p ∧ RState R s.redirects id t.state :=
  readyGood_iff.mp ((h.qok hq).rg _ hx)

theorem _root_.HqModel.Core.NpQ.task_of_pf {D R} {s : State} (h : NpQ D R s) {i : Nat} {q : Queue}
    (hq : s.queues[i]? = some q) {id : TaskId} (hx : id ∈ pfIds q) :
    ∃ t w pp ts, q.prefill = some (pp, ts) ∧ id ∈ ts ∧ s.task? id = some t ∧ t.rq = i ∧ t.prio = pp ∧ id ∉ R ∧
      t.state = .prefilled w := by
  obtain ⟨pp, ts, hp, hm⟩ := mem_pfIds.mp hx
  obtain ⟨t, w, a⟩ := pfGood_iff.mp ((h.qok hq).pg pp ts hp id hm)
  exact ⟨t, w, pp, ts, hp, hm, a⟩

theorem _root_.HqModel.Core.NpQ.not_ready {D R} {s : State} (h : NpQ D R s) {id : TaskId} {t : Task}
    (hf : s.task? id = some t) (hs : ¬ RState R s.redirects id t.state) {i : Nat} {q : Queue}
    (hq : s.queues[i]? = some q) : id ∉ rIds q.ready := by
  intro hm
  obtain ⟨p, hp⟩ := mem_rIds_iff_pairs.mp hm
  obtain ⟨t', ht', _, _, hs'⟩ := h.task_of_ready hq hp
  rw [hf] at ht'; cases ht'
  exact hs hs'

theorem _root_.HqModel.Core.NpQ.not_pf {D R} {s : State} (h : NpQ D R s) {id : TaskId} {t : Task}
    (hf : s.task? id = some t) (hs : ∀ w, t.state ≠ .prefilled w) {i : Nat} {q : Queue}
    (hq : s.queues[i]? = some q) : id ∉ pfIds q := by
  intro hm
  obtain ⟨t', w, _, _, _, _, ht', _, _, _, hs'⟩ := h.task_of_pf hq hm
  rw [hf] at ht'; cases ht'
  exact hs w hs'

theorem _root_.HqModel.Core.NpQ.noQ {D R} {s : State} (h : NpQ D R s) {id : TaskId} {t : Task}
    (hf : s.task? id = some t) (hs : ¬ RState R s.redirects id t.state) (hp : ∀ w, t.state ≠ .prefilled w) :
    NoQ s id := by
  intro i q hq
  exact ⟨h.not_ready hf hs hq, h.not_pf hf hp hq⟩

theorem _root_.HqModel.Core.NpQ.noQ_none {D R} {s : State} (h : NpQ D R s) {id : TaskId}
    (hf : s.task? id = none) : NoQ s id := by
  intro i q hq
  constructor
  · intro hm
    obtain ⟨p, hp⟩ := mem_rIds_iff_pairs.mp hm
    obtain ⟨t', ht', _⟩ := h.task_of_ready hq hp
    rw [hf] at ht'; cases ht'
  · intro hm
    obtain ⟨t', w, _, _, _, _, ht', _⟩ := h.task_of_pf hq hm
    rw [hf] at ht'; cases ht'

theorem _root_.HqModel.Core.NpQ.not_pf_of_R {D R} {s : State} (h : NpQ D R s) {id : TaskId} (hr : id ∈ R)
    {i : Nat} {q : Queue} (hq : s.queues[i]? = some q) : id ∉ pfIds q := by
  intro hm
  obtain ⟨_, _, _, _, _, _, _, _, _, hn, _⟩ := h.task_of_pf hq hm
  exact hn hr

theorem _root_.HqModel.Core.NpQ.not_R {D R} {s : State} (h : NpQ D R s) {id : TaskId} {t : Task}
    (hf : s.task? id = some t) (hs : ∀ w, t.state ≠ .prefilled w) : id ∉ R := fun hr => by
  obtain ⟨t', w, a, b⟩ := isPrefilled_iff.mp (h.rpre _ hr)
  rw [hf] at a; cases a
  exact hs w b

/-- **the invariant is monotone in the content of the queues and reads, of the ids that are stored, only (state,
request, priority) and whether there is a redirect**: if every queue only lost ids, the stored ids kept their keys
and got no new redirect, and the Prefilled tasks of `s'` are in their prefill sets, then `s'` satisfies it -/
theorem _root_.HqModel.Core.NpQ.sub {D D' : TaskId → Prop} {R} {s s' : State} (h : NpQ D R s)
    (hq : ∀ (j : Nat) (q' : Queue), s'.queues[j]? = some q' → ∃ q, s.queues[j]? = some q ∧ Shrunk q q')
    (hk : ∀ x, (x ∈ R ∨ ¬ NoQ s' x) → SameKey s s' x)
    (hr : ∀ r ∈ s'.redirects, ¬ NoQ s' r.1 → r ∈ s.redirects)
    (hpin : ∀ t ∈ s'.tasks, (∃ w, t.state = .prefilled w) → t.id ∉ R → ¬ D' t.id → InPrefill s' t) :
    NpQ D' R s' := by
  refine npq_iff.mpr ⟨?_, hpin, h.rnd, fun id hid => (h.rpre id hid).of_key (hk id (Or.inl hid))⟩
  intro j q' hq'
  obtain ⟨q, hqj, hs⟩ := hq j q' hq'
  have hok := h.qok hqj
  refine ⟨hs.wf hok.wf, ?_, hs.pnd hok.pnd, ?_⟩
  · intro x hx
    have hst : ¬ NoQ s' x.2 := fun hn => (hn j q' hq').1 (mem_rIds_iff_pairs.mpr ⟨x.1, hx⟩)
    exact (hok.rg x (hs.pairs x hx)).of_key (hk _ (Or.inr hst)) (fun r hr' e => hr r hr' (e ▸ hst)) id
  · intro pp ts hp x hx
    obtain ⟨ts0, hp0, hs0⟩ := hs.pf pp ts hp
    have hst : ¬ NoQ s' x := fun hn => (hn j q' hq').2 (mem_pfIds.mpr ⟨pp, ts, hp, hx⟩)
    exact (hok.pg pp ts0 hp0 x (hs0 x hx)).of_key (hk _ (Or.inr hst)) id

theorem _root_.HqModel.Core.NpQ.frame {D R} {s s' : State} (h : NpQ D R s) (ht : s'.tasks = s.tasks)
    (hq : s'.queues = s.queues) (hr : ∀ x ∈ s'.redirects, x ∈ s.redirects) : NpQ D R s' :=
  h.sub (fun _ q' hq' => ⟨q', hq ▸ hq', Shrunk.refl q'⟩) (fun x _ => .of_eq (task?_congr ht x))
    (fun r hr' _ => hr r hr') (fun t ht' hp hR hD => (h.pin t (ht ▸ ht') hp hR hD).of_queues hq)

theorem withWorker_npq {D R} {s s' : State} {w : Nat} {f : Worker → M Worker} (h : NpQ D R s)
    (heq : s.withWorker w f = .ok s') : NpQ D R s' := by
  obtain ⟨wk, wk', _, _, rfl⟩ := withWorker_spec heq
  exact h.frame rfl rfl (fun _ hx => hx)

theorem setWorker_npq {D R} {s : State} (w : Worker) (h : NpQ D R s) : NpQ D R (s.setWorker w) :=
  h.frame rfl rfl (fun _ hx => hx)

theorem ask_npq {D R} {s : State} (h : NpQ D R s) : NpQ D R (ask s) := h.frame rfl rfl (fun _ hx => hx)

/-- **general move lemma**: the record of `t'.id` is replaced by `t'` (same request, same priority); the new state
must be compatible with where the id is stored; the id may leave the accumulator (`R' = R` without it) -/
theorem setTask_npqR {D D' : TaskId → Prop} {R R' : List TaskId} {s : State} {t' told : Task} (h : NpQ D R s)
    (hf : s.task? t'.id = some told) (hrq : t'.rq = told.rq) (hp : t'.prio = told.prio)
    (hsub : ∀ x ∈ R', x ∈ R) (hsup : ∀ x ∈ R, x ≠ t'.id → x ∈ R') (hnd : R'.Nodup)
    (hready : (∃ (i : Nat) (q : Queue), s.queues[i]? = some q ∧ t'.id ∈ rIds q.ready) → RState R' s.redirects t'.id t'.state)
    (hpf : (∃ (i : Nat) (q : Queue), s.queues[i]? = some q ∧ t'.id ∈ pfIds q) → ∃ w, t'.state = .prefilled w)
    (hR : t'.id ∈ R' → ∃ w, t'.state = .prefilled w)
    (hpin : (∃ w, t'.state = .prefilled w) → t'.id ∉ R' → ¬ D' t'.id → InPrefill s t')
    (hD : ∀ x, x ≠ t'.id → D x → D' x) : NpQ D' R' (s.setTask t') := by
  have hself := task?_setTask_self hf
  have hoth : ∀ x, x ≠ t'.id → SameKey s (s.setTask t') x :=
    fun x hx => .of_eq (by rw [task?_setTask, if_neg hx])
  refine ⟨h.wf, ?_, h.pnd, ?_, ?_, hnd, ?_⟩
  · intro p hpm e he id hid
    have hq := List.mem_zipIdx_iff_getElem?.mp hpm
    have hg := h.rg p hpm e he id hid
    by_cases e1 : id = t'.id
    · subst e1
      obtain ⟨t, a, b, c, _⟩ := readyGood_iff.mp hg
      rw [hf] at a; cases a
      exact readyGood_iff.mpr ⟨t', hself, hrq.trans b, hp.trans c, hready ⟨p.2, p.1, hq, mem_rIds.mpr ⟨e, he, hid⟩⟩⟩
    · exact hg.of_key (hoth id e1) (fun _ hx _ => hx) (fun hx => hsup id hx e1)
  · intro p hpm pp ts hpre id hid
    have hq := List.mem_zipIdx_iff_getElem?.mp hpm
    have hg := h.pg p hpm pp ts hpre id hid
    by_cases e1 : id = t'.id
    · subst e1
      obtain ⟨t, w, a, b, c, d, _⟩ := pfGood_iff.mp hg
      rw [hf] at a; cases a
      obtain ⟨w', hw'⟩ := hpf ⟨p.2, p.1, hq, mem_pfIds.mpr ⟨pp, ts, hpre, hid⟩⟩
      exact pfGood_iff.mpr ⟨t', w', hself, hrq.trans b, hp.trans c, fun hx => d (hsub _ hx), hw'⟩
    · exact hg.of_key (hoth id e1) (hsub id)
  · intro x hx hpre hxR hxD
    rcases mem_putTask' hx with e | ⟨hm, hne⟩
    · subst e; exact hpin hpre hxR hxD
    · exact h.pin x hm hpre (fun hr => hxR (hsup _ hr hne)) (fun hd => hxD (hD _ hne hd))
  · intro id hid
    by_cases e1 : id = t'.id
    · subst e1
      obtain ⟨w', hw'⟩ := hR hid
      exact isPrefilled_iff.mpr ⟨t', w', hself, hw'⟩
    · exact (h.rpre id (hsub id hid)).of_key (hoth id e1)

theorem setTask_npq {D D' : TaskId → Prop} {R : List TaskId} {s : State} {t' told : Task} (h : NpQ D R s)
    (hf : s.task? t'.id = some told) (hrq : t'.rq = told.rq) (hp : t'.prio = told.prio)
    (hready : (∃ (i : Nat) (q : Queue), s.queues[i]? = some q ∧ t'.id ∈ rIds q.ready) → RState R s.redirects t'.id t'.state)
    (hpf : (∃ (i : Nat) (q : Queue), s.queues[i]? = some q ∧ t'.id ∈ pfIds q) → ∃ w, t'.state = .prefilled w)
    (hR : t'.id ∈ R → ∃ w, t'.state = .prefilled w)
    (hpin : (∃ w, t'.state = .prefilled w) → t'.id ∉ R → ¬ D' t'.id → InPrefill s t')
    (hD : ∀ x, x ≠ t'.id → D x → D' x) : NpQ D' R (s.setTask t') :=
  setTask_npqR h hf hrq hp (fun _ hx => hx) (fun _ hx _ => hx) h.rnd hready hpf hR hpin hD

/-- the old state is neither a ready-list state nor Prefilled (Assigned, Running, RunningMultiNode, Finished,
`Waiting (n+1)`, Retracting with a redirect): the id is stored nowhere; the new state is not Prefilled -/
theorem setTask_npq_unq {D : TaskId → Prop} {R : List TaskId} {s : State} {t' told : Task} (h : NpQ D R s)
    (hf : s.task? t'.id = some told) (hrq : t'.rq = told.rq) (hp : t'.prio = told.prio)
    (hold : ¬ RState R s.redirects t'.id told.state) (hold2 : ∀ w, told.state ≠ .prefilled w)
    (hnew : ∀ w, t'.state ≠ .prefilled w) : NpQ D R (s.setTask t') :=
  have hnq := h.noQ hf hold hold2
  setTask_npq h hf hrq hp (fun ⟨i, q, hq, hm⟩ => absurd hm (hnq i q hq).1) (fun ⟨i, q, hq, hm⟩ => absurd hm (hnq i q hq).2)
    (fun hr => absurd hr (h.not_R hf hold2)) (fun ⟨w, hw⟩ => absurd hw (hnew w)) (fun _ _ hd => hd)

end HqModel.Core.NPC
