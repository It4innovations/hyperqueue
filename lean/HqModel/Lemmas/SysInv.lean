import HqModel.Lemmas.SysJobRequests
import HqModel.Lemmas.SysCoreSpec
/-!
The coupling invariant between the job layer (M4) and the core (M1) — `Coupled0`, `Coupled`, kept by a step in which the
core only descends (`Coupled0.of_fr`) — and what a delivery of callbacks is judged by: `GoodR`, which composes along
`route_append` (`GoodR.append`). `cbStep_job_step`: a delivered callback is a step of the job layer; `coreStep_ok_iff`,
`run_cons_ok`, `route_cons_ok`: the inversions of `coreStep`, `run`, `route`.
-/
namespace HqModel.Sys
open HqModel

/-- `ids` — the keys of the core's task map are exactly the tasks that are non-terminal in the job layer; `sent` — `js.sent`
is the same set; `started` — a task that is started in the core (`Core.hot`) is `running` in the job layer; `cons` —
registered consumers belong to the job of the task they wait for; `workers` — every worker of the core is known to the job
layer; `wf`, `nd` — `StateWF` of the job layer, distinct task ids in the core -/
structure Coupled0 (js : Job.State) (c : Core.State) : Prop where
  wf : Job.StateWF js
  nd : (Core.taskIds c.tasks).Nodup
  ids : ∀ t, t ∈ Core.taskIds c.tasks ↔ live (tst js t) = true
  sent : ∀ t, t ∈ js.sent ↔ live (tst js t) = true
  started : ∀ t, Core.hot c t → tst js t = some .running
  cons : Core.ConsJob c.tasks
  workers : ∀ x wk, Core.findWorker c.workers x = some wk → x ∈ js.workers

/-- with the core's structural invariant `InvF`: it holds at operation boundaries and between the updates of one message;
inside `on_remove_worker` only `Coupled0` is carried -/
structure Coupled (s : State) : Prop where
  c0 : Coupled0 s.job s.core
  inv : Core.InvF s.core

theorem coupled0_init : Coupled0 {} {} := by
  refine ⟨Job.init_wf, List.nodup_nil, ?_, ?_, ?_, ?_, ?_⟩
  · intro t; simp [Core.taskIds, tst, tstJ, Job.findJob, live]
  · intro t; simp [tst, tstJ, Job.findJob, live]
  · rintro t (⟨w, v, h⟩ | ⟨l, h, _⟩) <;> simp [Core.stOf, Core.findTask] at h
  · intro t ht; cases ht
  · intro x wk h; simp [Core.findWorker] at h

theorem coupled_init : Coupled {} := ⟨coupled0_init, Core.invF_init⟩

/-- the coupling after a step in which the core only descends (`Fr P`) and starts nothing: it is enough that the job
layer's view is the old one on the tasks still started and that the three registries agree again -/
theorem Coupled0.of_fr {P : Prop} {js js' : Job.State} {c c' : Core.State} (h : Coupled0 js c) (f : Core.Fr P c c')
    (hhot : ∀ t, Core.hot c' t → Core.hot c t)
    (wf : Job.StateWF js') (nd : (Core.taskIds c'.tasks).Nodup) (hw : js'.workers = js.workers)
    (ids : ∀ t, t ∈ Core.taskIds c'.tasks ↔ live (tst js' t) = true) (sent : ∀ t, t ∈ js'.sent ↔ live (tst js' t) = true)
    (hview : ∀ t, Core.hot c' t → tst js' t = tst js t) : Coupled0 js' c' := by
  refine ⟨wf, nd, ids, sent, ?_, h.cons.of_desc f.t (·.id) (·.cons), ?_⟩
  · intro t ht
    rw [hview t ht]
    exact h.started t (hhot t ht)
  · intro x wk' hx
    obtain ⟨wk, h0, _⟩ := f.w x wk' hx
    rw [hw]
    exact h.workers x wk h0

theorem Coupled0.of_frc {js js' : Job.State} {c c' : Core.State} (h : Coupled0 js c) (f : Core.Frc c c')
    (wf : Job.StateWF js') (nd : (Core.taskIds c'.tasks).Nodup) (hw : js'.workers = js.workers)
    (ids : ∀ t, t ∈ Core.taskIds c'.tasks ↔ live (tst js' t) = true) (sent : ∀ t, t ∈ js'.sent ↔ live (tst js' t) = true)
    (hview : ∀ t, Core.hot c' t → tst js' t = tst js t) : Coupled0 js' c' :=
  h.of_fr f (fun _ => Core.hot_of_frc f h.nd) wf nd hw ids sent hview

theorem Coupled0.core_silent {js : Job.State} {c c' : Core.State} (h : Coupled0 js c) (f : Core.Frc c c')
    (e : Core.taskIds c'.tasks = Core.taskIds c.tasks) : Coupled0 js c' :=
  h.of_frc f h.wf (by rw [e]; exact h.nd) rfl (by intro t; rw [e]; exact h.ids t) h.sent fun _ _ => rfl

theorem Coupled0.core_sched {js : Job.State} {c c' : Core.State} (h : Coupled0 js c) (hi : Core.Inv c)
    (f : Core.Frs c c') (e : Core.taskIds c'.tasks = Core.taskIds c.tasks) : Coupled0 js c' :=
  h.of_fr f (fun _ => Core.hot_of_frs f hi) h.wf (by rw [e]; exact h.nd) rfl (by intro t; rw [e]; exact h.ids t) h.sent
    fun _ _ => rfl

theorem Coupled0.core_eq {js : Job.State} {c c' : Core.State} (h : Coupled0 js c) (ht : c'.tasks = c.tasks)
    (hw : c'.workers = c.workers) : Coupled0 js c' :=
  h.core_silent (Core.Fr.of_eq ht hw) (by rw [ht])

theorem coupled_initState (reserve max : Nat) : Coupled (initState reserve max) := by
  have e : Core.CoreEq ({} : Core.State) (initState reserve max).core := ⟨rfl, rfl, rfl, rfl⟩
  exact ⟨coupled0_init.core_eq rfl rfl, ⟨e.inv Core.invF_init.inv, e.twi Core.invF_init.tw⟩⟩

theorem initState_default : initState 1 1 = {} := rfl

/-- a delivery that does not fail in the job layer: either the `rets` check stopped it, or it succeeded, left
exactly `rets'` unmatched and re-established the coupling with the core state `c'` -/
def GoodR (c' : Core.State) (rets' : List (List TaskId)) :
    Except Stop (Job.State × List Job.Ev × List (List TaskId)) → Prop
  | .ok (js', _, left) => left = rets' ∧ Coupled0 js' c'
  | .error .badRets => True
  | .error _ => False

theorem route_nil (js : Job.State) (rets : List (List TaskId)) : route js rets [] = .ok (js, [], rets) := rfl

theorem route_single (js : Job.State) (rets : List (List TaskId)) (cb : Core.Cb) :
    route js rets [cb] = (cbStep js rets cb).map fun r => (r.1, r.2.1 ++ [], r.2.2) := by
  simp only [route]
  cases h : cbStep js rets cb with
  | error e => rfl
  | ok r => obtain ⟨a, b, c⟩ := r; rfl

theorem route_append (js : Job.State) (rets : List (List TaskId)) (a b : List Core.Cb) :
    route js rets (a ++ b) =
      match route js rets a with
      | .error e => .error e
      | .ok (js1, ev1, rets1) =>
        match route js1 rets1 b with
        | .error e => .error e
        | .ok (js2, ev2, rets2) => .ok (js2, ev1 ++ ev2, rets2) := by
  induction a generalizing js rets with
  | nil =>
    simp only [List.nil_append, route]
    cases route js rets b with
    | error e => rfl
    | ok r => obtain ⟨x, y, z⟩ := r; simp
  | cons cb rest ih =>
    simp only [List.cons_append, route]
    cases cbStep js rets cb with
    | error e => rfl
    | ok r =>
      obtain ⟨j1, e1, r1⟩ := r
      simp only [ih]
      cases route j1 r1 rest with
      | error e => rfl
      | ok r2 =>
        obtain ⟨j2, e2, r2'⟩ := r2
        simp only
        cases route j2 r2' b with
        | error e => rfl
        | ok r3 => obtain ⟨j3, e3, r3'⟩ := r3; simp [List.append_assoc]

theorem GoodR.append {js : Job.State} {rets rets1 rets2 : List (List TaskId)} {c1 c2 : Core.State} {a b : List Core.Cb}
    (h1 : GoodR c1 rets1 (route js rets a))
    (h2 : ∀ js1, Coupled0 js1 c1 → GoodR c2 rets2 (route js1 rets1 b)) :
    GoodR c2 rets2 (route js rets (a ++ b)) := by
  rw [route_append]
  cases hr : route js rets a with
  | error e => rw [hr] at h1; cases e <;> first | exact h1 | trivial
  | ok r =>
    obtain ⟨j1, e1, r1⟩ := r
    rw [hr] at h1
    obtain ⟨rfl, hc⟩ := h1
    have := h2 j1 hc
    simp only
    cases hr2 : route j1 r1 b with
    | error e => rw [hr2] at this; cases e <;> first | exact this | trivial
    | ok r2 =>
      obtain ⟨j2, e2, r2'⟩ := r2
      rw [hr2] at this
      exact this

theorem GoodR.nil {js : Job.State} {rets : List (List TaskId)} {c : Core.State} (h : Coupled0 js c) :
    GoodR c rets (route js rets []) := ⟨rfl, h⟩

theorem GoodR.mono {c1 c2 : Core.State} {rets' : List (List TaskId)}
    {x : Except Stop (Job.State × List Job.Ev × List (List TaskId))} (h : GoodR c1 rets' x)
    (hm : ∀ js, Coupled0 js c1 → Coupled0 js c2) : GoodR c2 rets' x := by
  cases x with
  | error e => cases e <;> exact h
  | ok r => obtain ⟨a, b, c⟩ := r; exact ⟨h.1, hm _ h.2⟩

theorem cbStep_job_step {js js' : Job.State} {rets left : List (List TaskId)} {cb : Core.Cb} {evs : List Job.Ev}
    (h : cbStep js rets cb = .ok (js', evs, left)) : Job.step js (cbOp cb) = .ok (js', evs) := by
  cases cb with
  | started _ _ _ _ | finished _ | workerNew _ | workerLost _ _ _ =>
    simp only [cbStep] at h
    split at h
    · cases h
    · rename_i js1 ev1 hj; cases h; exact hj
  | error t cons =>
    simp only [cbStep] at h
    split at h
    · cases h
    · rename_i js1 ev1 ret hj
      split at h
      · cases h
      · split at h
        · cases h; simp [cbOp, Job.step, hj, Except.map]
        · cases h

theorem cbStep_wf {js js' : Job.State} {rets left : List (List TaskId)} {cb : Core.Cb} {evs : List Job.Ev}
    (hwf : Job.StateWF js) (h : cbStep js rets cb = .ok (js', evs, left)) : Job.StateWF js' :=
  Job.step_wf hwf (cbStep_job_step h)

theorem route_cons_ok {js js' : Job.State} {rets left : List (List TaskId)} {cb : Core.Cb} {rest : List Core.Cb}
    {evs : List Job.Ev} (h : route js rets (cb :: rest) = .ok (js', evs, left)) :
    ∃ js1 ev1 rets1 ev2, cbStep js rets cb = .ok (js1, ev1, rets1) ∧ route js1 rets1 rest = .ok (js', ev2, left) ∧
      evs = ev1 ++ ev2 := by
  simp only [route] at h
  split at h
  · cases h
  · rename_i js1 ev1 rets1 h1
    split at h
    · cases h
    · rename_i js2 ev2 rets2 h2
      cases h
      exact ⟨js1, ev1, rets1, ev2, h1, h2, rfl⟩

theorem run_cons_ok {s s' : State} {op : Op} {ops : List Op} {outs : List Out} (h : run s (op :: ops) = .ok (s', outs)) :
    ∃ s1 o1 os, step s op = .ok (s1, o1) ∧ run s1 ops = .ok (s', os) ∧ outs = o1 :: os := by
  simp only [run] at h
  split at h
  · cases h
  · rename_i s1 o1 h1
    split at h
    · cases h
    · rename_i s2 os h2
      cases h
      exact ⟨s1, o1, os, h1, h2, rfl⟩

theorem coreStep_ok_iff {s s' : State} {cop : Core.Op} {rets : List (List TaskId)} {evs0 : List Job.Ev} {resp : Resp}
    {o : Out} : coreStep s cop rets evs0 resp = .ok (s', o) ↔
      ∃ c' out j' evs, Core.step s.core cop = .ok (c', out) ∧ route s.job rets out.cbs = .ok (j', evs, []) ∧
        s' = { job := j', core := c' } ∧ o = { evs := evs0 ++ evs, core := out, resp := resp } := by
  unfold coreStep
  constructor
  · intro h
    split at h
    · cases h
    · rename_i c' out hs
      split at h
      · cases h
      · rename_i j' evs left hr
        split at h
        · rename_i hl
          cases h
          exact ⟨c', out, j', evs, hs, by rw [hr, List.isEmpty_iff.mp hl], rfl, rfl⟩
        · cases h
  · rintro ⟨c', out, j', evs, hs, hr, rfl, rfl⟩
    rw [hs]
    simp only [hr]
    rfl

theorem coreStep_core {s s' : State} {cop : Core.Op} {rets : List (List TaskId)} {evs0 : List Job.Ev} {resp : Resp}
    {o : Out} (h : coreStep s cop rets evs0 resp = .ok (s', o)) : Core.step s.core cop = .ok (s'.core, o.core) := by
  obtain ⟨_, _, _, _, hs, _, rfl, rfl⟩ := coreStep_ok_iff.mp h
  exact hs

end HqModel.Sys
