import HqModel.Lemmas.CoreInvSound
/-!
`Res4`: the resource equation of the core model — `free + Σ reserved = total` for every single-node worker, without
truncation — with the exactness of `WorkerResources::remove` / `add` under the non-saturation condition `NoSat`.

Parts: amounts, the reservation of a task, the equation and its generic moves (`Res4.mv_insert`, `Res4.mv_erase`, …);
the equation along the primitives of `Model.lean` and `remove_task`.
(Its side conditions stand at the head of `CoreInvKeep`.)
-/
namespace HqModel.Core

/-! ### amounts -/

/-- what an entry reserves on a worker with total vector `total` (`all` = the whole resource) -/
def entryAmt (total : List Nat) (e : RqEntry) : Nat :=
  match e.pol with
  | .amount a => a
  | .all => getD total e.res

/-- the amount of resource `r` a request reserves -/
def need (total : List Nat) : List RqEntry → Nat → Nat
  | [], _ => 0
  | e :: rest, r => (if e.res = r then entryAmt total e else 0) + need total rest r

/-- **non-saturation**: `WorkerResources::remove` (saturating subtraction, `all` zeroes the component) subtracts
exactly the requested amounts, entry by entry -/
def NoSat (total : List Nat) : List Nat → List RqEntry → Prop
  | _, [] => True
  | F, e :: rest =>
    match e.pol with
    | .amount a => a ≤ getD F e.res ∧ NoSat total (setAt F e.res (getD F e.res - a)) rest
    | .all => getD F e.res = getD total e.res ∧ NoSat total (setAt F e.res 0) rest

instance NoSat.decidable (total : List Nat) : ∀ (es : List RqEntry) (F : List Nat), Decidable (NoSat total F es)
  | [], _ => isTrue trivial
  | e :: rest, F => by
    unfold NoSat
    cases hp : e.pol with
    | amount a =>
      simp only
      have := NoSat.decidable total rest (setAt F e.res (getD F e.res - a))
      infer_instance
    | all =>
      simp only
      have := NoSat.decidable total rest (setAt F e.res 0)
      infer_instance

theorem getD_setAt (l : List Nat) (i j v : Nat) (h : i < l.length) :
    getD (setAt l i v) j = if i = j then v else getD l j := by
  split
  · rename_i e; subst e; exact getD_setAt_eq l i v h
  · rename_i e; exact getD_setAt_ne l i j v e

theorem freeRemove_need (total : List Nat) : ∀ (es : List RqEntry) (F F' : List Nat),
    freeRemove F es = .ok F' → NoSat total F es → ∀ r, getD F' r + need total es r = getD F r
  | [], F, F', h, _, r => by cases h; rfl
  | e :: rest, F, F', h, hn, r => by
    rw [freeRemove] at h
    obtain ⟨hlen, h⟩ := ok_of_guard h
    have key : ∃ v, v + entryAmt total e = getD F e.res ∧ freeRemove (setAt F e.res v) rest = .ok F' ∧
        NoSat total (setAt F e.res v) rest := by
      unfold NoSat at hn
      unfold entryAmt
      cases hp : e.pol with
      | amount a => rw [hp] at h hn; exact ⟨_, Nat.sub_add_cancel hn.1, h, hn.2⟩
      | all => rw [hp] at h hn; exact ⟨0, (Nat.zero_add _).trans hn.1.symm, h, hn.2⟩
    obtain ⟨v, hv, h1, hn1⟩ := key
    have ih := freeRemove_need total rest _ F' h1 hn1 r
    rw [getD_setAt _ _ _ _ (Nat.lt_of_not_ge hlen)] at ih
    rw [need]
    by_cases e1 : e.res = r
    · rw [if_pos e1] at ih ⊢
      rw [e1] at hv
      rw [← hv, ← ih, Nat.add_left_comm, Nat.add_comm]
    · rw [if_neg e1] at ih ⊢
      rw [Nat.zero_add]
      exact ih

/-- the bound is needed at the `all` entries only: `add` sets such a component to the total, so it must have been zero -/
theorem freeAdd_need (total : List Nat) : ∀ (es : List RqEntry) (F F' : List Nat),
    freeAdd F total es = .ok F' →
    (∀ e ∈ es, e.pol = .all → getD F e.res + need total es e.res ≤ getD total e.res) →
    ∀ r, getD F' r = getD F r + need total es r
  | [], F, F', h, _, r => by cases h; rfl
  | e :: rest, F, F', h, hb, r => by
    rw [freeAdd] at h
    obtain ⟨hlen, h⟩ := ok_of_guard h
    have hlt := Nat.lt_of_not_ge hlen
    have h1 : freeAdd (setAt F e.res (getD F e.res + entryAmt total e)) total rest = .ok F' := by
      cases hp : e.pol with
      | amount a => rw [hp] at h; simp only [entryAmt, hp]; exact h
      | all =>
        have hb0 := hb e List.mem_cons_self hp
        rw [need, if_pos rfl] at hb0
        rw [hp] at h
        simp only [entryAmt, hp] at hb0 ⊢
        rw [show getD F e.res + getD total e.res = getD total e.res by omega]
        exact h
    have hb1 : ∀ e' ∈ rest, e'.pol = .all →
        getD (setAt F e.res (getD F e.res + entryAmt total e)) e'.res + need total rest e'.res ≤ getD total e'.res := by
      intro e' he' hp'
      have := hb e' (List.mem_cons_of_mem _ he') hp'
      rw [need] at this
      rw [getD_setAt _ _ _ _ hlt]
      by_cases e1 : e.res = e'.res
      · rw [if_pos e1] at this ⊢
        rw [e1, Nat.add_assoc]
        exact this
      · rw [if_neg e1] at this ⊢
        rw [Nat.zero_add] at this
        exact this
    have ih := freeAdd_need total rest _ F' h1 hb1 r
    rw [getD_setAt _ _ _ _ hlt] at ih
    rw [need]
    by_cases e1 : e.res = r
    · rw [if_pos e1] at ih ⊢
      rw [ih, e1, Nat.add_assoc]
    · rw [if_neg e1] at ih ⊢
      rw [Nat.zero_add]
      exact ih

/-- **release restores the reservation**, any policy and repeated resources included: after a `remove` that did not
saturate, `add` of the same entries gives back every component -/
theorem freeAdd_freeRemove (total : List Nat) {es : List RqEntry} {F F1 F2 : List Nat} (h1 : freeRemove F es = .ok F1)
    (hn : NoSat total F es) (hle : ∀ e ∈ es, e.pol = .all → getD F e.res ≤ getD total e.res)
    (h2 : freeAdd F1 total es = .ok F2) (r : Nat) : getD F2 r = getD F r := by
  have k := freeRemove_need total es F F1 h1 hn
  rw [freeAdd_need total es F1 F2 h2 (fun e he hp => (k e.res).symm ▸ hle e he hp) r]
  exact k r

theorem need_of_not_mem (total : List Nat) {r : Nat} :
    ∀ {es : List RqEntry}, (∀ e ∈ es, e.res ≠ r) → need total es r = 0
  | [], _ => rfl
  | e :: rest, h => by
    rw [need, if_neg (h e List.mem_cons_self), need_of_not_mem total fun e' he' => h e' (List.mem_cons_of_mem _ he')]

/-! `Fits` (explicit amounts on distinct resources that fit) is the special case of `NoSat` in which `need` is read off
the entry: the exactness of `remove` / `add` for a fitting request follows from the two equations above. -/

theorem Fits.idx {F : List Nat} :
    ∀ {es : List RqEntry}, Fits F es → ∀ e ∈ es, e.res < F.length ∧ ∃ a, e.pol = .amount a
  | [], _, _, he => nomatch he
  | _ :: _, ⟨h1, ⟨a, h2, _⟩, _, h5⟩, e', he' => by
    rcases List.mem_cons.mp he' with rfl | he'
    · exact ⟨h1, a, h2⟩
    · exact Fits.idx h5 e' he'

theorem Fits.noSat (total : List Nat) {F : List Nat} : ∀ {es : List RqEntry}, Fits F es → NoSat total F es
  | [], _ => trivial
  | e :: rest, ⟨_, ⟨a, h2, h3⟩, h4, h5⟩ => by
    unfold NoSat
    rw [h2]
    exact ⟨h3, Fits.noSat total (Fits_setAt h4 h5)⟩

theorem Fits.need (total : List Nat) {F : List Nat} :
    ∀ {es : List RqEntry}, Fits F es → ∀ e ∈ es, ∀ a, e.pol = .amount a → need total es e.res = a
  | [], _, _, he, _, _ => nomatch he
  | e :: rest, ⟨_, _, h4, h5⟩, e', he', a, ha => by
    rw [Core.need]
    rcases List.mem_cons.mp he' with rfl | he'
    · rw [if_pos rfl, need_of_not_mem total h4]
      simp only [entryAmt, ha, Nat.add_zero]
    · rw [if_neg (h4 e' he').symm, Nat.zero_add]
      exact Fits.need total h5 e' he' a ha

theorem fitsNow_noSat (total : List Nat) : ∀ (es : List RqEntry) (F : List Nat),
    fitsNow F total es = true → (es.map (·.res)).Nodup → NoSat total F es
  | [], _, _, _ => trivial
  | e :: rest, F, h, hnd => by
    simp only [List.map_cons, List.nodup_cons] at hnd
    simp only [fitsNow, List.all_cons, Bool.and_eq_true, decide_eq_true_eq] at h
    obtain ⟨⟨hlt, he⟩, hrest⟩ := h
    have key : ∀ v, fitsNow (setAt F e.res v) total rest = true := by
      intro v
      simp only [fitsNow, List.all_eq_true, Bool.and_eq_true, decide_eq_true_eq] at hrest ⊢
      intro e' he'
      obtain ⟨h1, h2⟩ := hrest e' he'
      have hne : e.res ≠ e'.res := fun eq => hnd.1 (List.mem_map.mpr ⟨e', he', eq.symm⟩)
      refine ⟨by rw [length_setAt]; exact h1, ?_⟩
      rw [getD_setAt_ne _ _ _ _ hne]; exact h2
    unfold NoSat
    cases hp : e.pol with
    | amount a =>
      simp only [hp, decide_eq_true_eq] at he ⊢
      exact ⟨he, fitsNow_noSat total rest _ (key _) hnd.2⟩
    | all =>
      simp only [hp, beq_iff_eq] at he ⊢
      exact ⟨he, fitsNow_noSat total rest _ (key _) hnd.2⟩

/-! ### the reservation of a task -/

def rqEntries (rqs : List Rqv) (rq v : Nat) : Option (List RqEntry) :=
  match rqs[rq]? with
  | none => none
  | some rqv => (rqv[v]?).map (·.entries)

theorem rqEntries_of_rq {s : State} {rq v : Nat} {r : Rq} (h : s.rq rq v = .ok r) :
    rqEntries s.rqs rq v = some r.entries := by
  obtain ⟨rqv, hq, hv⟩ := rq_ok_iff.mp h
  simp [rqEntries, hq, hv]

theorem rqEntries_append {rqs : List Rqv} {rq v : Nat} {es : List RqEntry} (l : List Rqv)
    (h : rqEntries rqs rq v = some es) : rqEntries (rqs ++ l) rq v = some es := by
  unfold rqEntries at h ⊢
  cases hq : rqs[rq]? with
  | none => simp [hq] at h
  | some rqv =>
    have : rq < rqs.length := by
      rcases Nat.lt_or_ge rq rqs.length with h1 | h1
      · exact h1
      · rw [List.getElem?_eq_none h1] at hq; cases hq
    rw [List.getElem?_append_left this, hq]
    rw [hq] at h; exact h

/-- the variant a task holds its reservation with -/
def variantOf (rd : List (TaskId × Nat × Nat)) (t : TaskId) : TS → Option Nat
  | .assigned _ v => some v
  | .running _ v => some v
  | .retracting _ => (rd.find? (·.1 = t)).map (·.2.2)
  | _ => none

/-- the request entries task `t` holds reserved on the worker that has it in `assigned_tasks` -/
def resvOf (ts : List Task) (rd : List (TaskId × Nat × Nat)) (rqs : List Rqv) (t : TaskId) : Option (List RqEntry) :=
  match findTask ts t with
  | none => none
  | some task =>
    match variantOf rd t task.state with
    | none => none
    | some v => rqEntries rqs task.rq v

theorem resvOf_of_find {ts rd rqs t} {task : Task} (h : findTask ts t = some task) :
    resvOf ts rd rqs t = (variantOf rd t task.state).bind (rqEntries rqs task.rq) := by
  unfold resvOf; rw [h]; simp only; cases variantOf rd t task.state <;> rfl

theorem resvOf_put_ne {ts : List Task} {t' : Task} {rd rqs} {u : TaskId} (h : u ≠ t'.id) :
    resvOf (putTask ts t') rd rqs u = resvOf ts rd rqs u := by
  unfold resvOf; rw [findTask_putTask, if_neg h]

theorem resvOf_put_self {ts : List Task} {t' told : Task} {rd rqs} {t : TaskId} (ht : findTask ts t'.id = some told)
    (hid : t'.id = t) : resvOf (putTask ts t') rd rqs t = (variantOf rd t t'.state).bind (rqEntries rqs t'.rq) := by
  subst hid
  have : findTask (putTask ts t') t'.id = some t' := by rw [findTask_putTask, if_pos rfl, ht]; rfl
  exact resvOf_of_find this

theorem resvOf_rd_congr {ts rd rd' rqs} {u : TaskId}
    (h : rd'.find? (·.1 = u) = rd.find? (·.1 = u)) : resvOf ts rd' rqs u = resvOf ts rd rqs u := by
  unfold resvOf
  cases findTask ts u with
  | none => rfl
  | some task =>
    have : variantOf rd' u task.state = variantOf rd u task.state := by
      cases task.state <;> simp only [variantOf]
      rw [h]
    simp only [this]

theorem find_filter_ne {rd : List (TaskId × Nat × Nat)} {t u : TaskId} (h : u ≠ t) :
    (rd.filter (·.1 ≠ t)).find? (·.1 = u) = rd.find? (·.1 = u) := by
  induction rd with
  | nil => rfl
  | cons x xs ih =>
    rw [List.filter_cons]
    by_cases hx : x.1 = t
    · have hxu : ¬ x.1 = u := fun e => h (e.symm.trans hx)
      rw [if_neg (by simp [hx]), List.find?_cons_of_neg (by simpa using hxu)]
      exact ih
    · rw [if_pos (by simp [hx]), List.find?_cons, List.find?_cons]
      split
      · rfl
      · exact ih

theorem find_append_ne {rd : List (TaskId × Nat × Nat)} {t u : TaskId} {w v : Nat} (h : u ≠ t) :
    (rd ++ [(t, w, v)]).find? (·.1 = u) = rd.find? (·.1 = u) := by
  rw [List.find?_append]
  cases rd.find? (·.1 = u) with
  | some x => rfl
  | none =>
    have : ¬ t = u := fun e => h e.symm
    simp [List.find?, this]

theorem find_append_self_of_none {rd : List (TaskId × Nat × Nat)} {t : TaskId} {w v : Nat}
    (h : ∀ x v', (t, x, v') ∉ rd) : (rd ++ [(t, w, v)]).find? (·.1 = t) = some (t, w, v) := by
  rw [List.find?_append]
  have : rd.find? (·.1 = t) = none := by
    rw [List.find?_eq_none]
    intro x hx
    obtain ⟨a, b, c⟩ := x
    simp only [decide_eq_true_eq]
    intro e; subst e; exact h b c hx
  rw [this]; simp [List.find?]

/-! ### the resource equation -/

/-- Σ over the assigned set of what each task has reserved of resource `r` -/
def sumNeed (total : List Nat) (ts : List Task) (rd : List (TaskId × Nat × Nat)) (rqs : List Rqv)
    (A : List TaskId) (r : Nat) : Nat :=
  (A.map fun t => need total ((resvOf ts rd rqs t).getD []) r).sum

theorem sumNeed_congr {total ts rd rqs ts' rd' rqs'} {A : List TaskId} (r : Nat)
    (h : ∀ t ∈ A, resvOf ts' rd' rqs' t = resvOf ts rd rqs t) :
    sumNeed total ts' rd' rqs' A r = sumNeed total ts rd rqs A r := by
  unfold sumNeed
  congr 1
  apply List.map_congr_left
  intro t ht
  rw [h t ht]

theorem sumNeed_append {total ts rd rqs} (A : List TaskId) (t : TaskId) (r : Nat) :
    sumNeed total ts rd rqs (A ++ [t]) r = sumNeed total ts rd rqs A r + need total ((resvOf ts rd rqs t).getD []) r := by
  simp [sumNeed, List.sum_append]

theorem sumNeed_erase {total ts rd rqs} {A : List TaskId} {t : TaskId} (h : t ∈ A) (r : Nat) :
    sumNeed total ts rd rqs A r =
      need total ((resvOf ts rd rqs t).getD []) r + sumNeed total ts rd rqs (A.erase t) r := by
  induction A with
  | nil => cases h
  | cons x xs ih =>
    by_cases e : x = t
    · subst e; simp [sumNeed]
    · have hx : t ∈ xs := by
        simp only [List.mem_cons] at h
        rcases h with h | h
        · exact absurd h.symm e
        · exact h
      have := ih hx
      rw [List.erase_cons_tail (by simpa using e)]
      simp only [sumNeed, List.map_cons, List.sum_cons] at this ⊢
      omega

/-- **`ResInv`** on the four components: for every single-node worker every task in `assigned_tasks` has a
determined reservation, and `free r + Σ reserved r = total r` for every resource `r` -/
def Res4 (ts : List Task) (ws : List Worker) (rd : List (TaskId × Nat × Nat)) (rqs : List Rqv) : Prop :=
  ∀ w wk A F P, findWorker ws w = some wk → wk.assign = .sn A F P →
    (∀ t ∈ A, (resvOf ts rd rqs t).isSome) ∧
    ∀ r, getD F r + sumNeed wk.total ts rd rqs A r = getD wk.total r

def Res (s : State) : Prop := Res4 s.tasks s.workers s.redirects s.rqs

theorem CoreEq.res {s s' : State} (h : CoreEq s s') (hr : Res s) : Res s' := by
  unfold Res; rw [h.t, h.w, h.r, h.q]; exact hr

theorem mem_asgW_of {ws : List Worker} {w : Nat} {wk : Worker} {A F P} (hw : findWorker ws w = some wk)
    (ha : wk.assign = .sn A F P) {t : TaskId} (ht : t ∈ A) : t ∈ asgW ws w := by
  rw [asgW_of_sn hw ha]; exact ht

theorem Res4.congr {ts ws rd rqs ts' rd' rqs'} (h : Res4 ts ws rd rqs)
    (hres : ∀ u x, u ∈ asgW ws x → resvOf ts' rd' rqs' u = resvOf ts rd rqs u) : Res4 ts' ws rd' rqs' := by
  intro w wk A F P hw ha
  obtain ⟨h1, h2⟩ := h w wk A F P hw ha
  have hc : ∀ t ∈ A, resvOf ts' rd' rqs' t = resvOf ts rd rqs t := fun t ht => hres t w (mem_asgW_of hw ha ht)
  refine ⟨fun t ht => by rw [hc t ht]; exact h1 t ht, fun r => ?_⟩
  rw [sumNeed_congr r hc]; exact h2 r

theorem Res4.put_worker {ts ws rd rqs ts' rd' rqs'} (h : Res4 ts ws rd rqs) {wk wk' : Worker}
    (hw : findWorker ws wk'.id = some wk)
    (hres : ∀ u x, x ≠ wk'.id → u ∈ asgW ws x → resvOf ts' rd' rqs' u = resvOf ts rd rqs u)
    (hnew : ∀ A F P, wk'.assign = .sn A F P →
      (∀ t ∈ A, (resvOf ts' rd' rqs' t).isSome) ∧ ∀ r, getD F r + sumNeed wk'.total ts' rd' rqs' A r = getD wk'.total r) :
    Res4 ts' (putWorker ws wk') rd' rqs' := by
  intro w wk0 A F P hw0 ha
  rw [findWorker_putWorker] at hw0
  split at hw0
  · rename_i e
    rw [e, hw] at hw0
    simp only [Option.map_some, Option.some.injEq] at hw0
    subst hw0
    exact hnew A F P ha
  · rename_i e
    obtain ⟨h1, h2⟩ := h w wk0 A F P hw0 ha
    have hc : ∀ t ∈ A, resvOf ts' rd' rqs' t = resvOf ts rd rqs t :=
      fun t ht => hres t w e (mem_asgW_of hw0 ha ht)
    refine ⟨fun t ht => by rw [hc t ht]; exact h1 t ht, fun r => ?_⟩
    rw [sumNeed_congr r hc]; exact h2 r

theorem Res4.put_same {ts ws rd rqs} (h : Res4 ts ws rd rqs) {wk wk' : Worker}
    (hw : findWorker ws wk'.id = some wk) (ht : wk'.total = wk.total)
    (hs : ∀ A F P, wk'.assign = .sn A F P → ∃ P0, wk.assign = .sn A F P0) :
    Res4 ts (putWorker ws wk') rd rqs := by
  refine h.put_worker hw (fun _ _ _ _ => rfl) ?_
  intro A F P ha
  obtain ⟨P0, ha0⟩ := hs A F P ha
  have := h wk'.id wk A F P0 hw ha0
  rw [ht]; exact this

theorem Res4.put_empty {ts ws rd rqs} (h : Res4 ts ws rd rqs) {wk wk' : Worker}
    (hw : findWorker ws wk'.id = some wk)
    (hs : ∀ A F P, wk'.assign = .sn A F P → A = [] ∧ F = wk'.total) :
    Res4 ts (putWorker ws wk') rd rqs := by
  refine h.put_worker hw (fun _ _ _ _ => rfl) ?_
  intro A F P ha
  obtain ⟨rfl, rfl⟩ := hs A F P ha
  exact ⟨fun t ht => (by cases ht), fun r => (by simp [sumNeed])⟩

/-- **insert**: a task that is in no assigned set gets a reservation `es` on `w`; `remove` did not saturate -/
theorem Res4.mv_insert {ts ws rd rqs ts' rd'} (h : Res4 ts ws rd rqs) {t : TaskId} {es : List RqEntry}
    {wk wk' : Worker} {A F P F' P'}
    (hw : findWorker ws wk'.id = some wk) (ha : wk.assign = .sn A F P) (ha' : wk'.assign = .sn (A ++ [t]) F' P')
    (htot : wk'.total = wk.total) (hfr : freeRemove F es = .ok F') (hns : NoSat wk.total F es)
    (hfree : ∀ x, t ∉ asgW ws x)
    (hres : ∀ u, u ≠ t → resvOf ts' rd' rqs u = resvOf ts rd rqs u)
    (hrt : resvOf ts' rd' rqs t = some es) :
    Res4 ts' (putWorker ws wk') rd' rqs := by
  refine h.put_worker hw (fun u x _ hu => hres u (fun e => hfree x (e ▸ hu))) ?_
  intro A0 F0 P0 ha0
  rw [ha'] at ha0; cases ha0
  obtain ⟨h1, h2⟩ := h wk'.id wk A F P hw ha
  have hA : ∀ u ∈ A, u ≠ t := fun u hu e => hfree wk'.id (e ▸ mem_asgW_of hw ha hu)
  have hc : ∀ u ∈ A, resvOf ts' rd' rqs u = resvOf ts rd rqs u := fun u hu => hres u (hA u hu)
  refine ⟨?_, ?_⟩
  · intro u hu
    rcases List.mem_append.mp hu with h3 | h3
    · rw [hc u h3]; exact h1 u h3
    · simp only [List.mem_singleton] at h3; subst h3; rw [hrt]; rfl
  · intro r
    rw [sumNeed_append, sumNeed_congr r hc, hrt, htot, ← h2 r, ← freeRemove_need wk.total es F F' hfr hns r]
    rw [Nat.add_assoc, Nat.add_comm (need wk.total es r)]
    rfl

/-- **erase**: the task leaves the assigned set of `w`, `add` gives back its reservation -/
theorem Res4.mv_erase {ts ws rd rqs ts' rd'} (h : Res4 ts ws rd rqs) {t : TaskId} {es : List RqEntry}
    {wk wk' : Worker} {A F P F' P'}
    (hw : findWorker ws wk'.id = some wk) (ha : wk.assign = .sn A F P) (ha' : wk'.assign = .sn (A.erase t) F' P')
    (htot : wk'.total = wk.total) (hfa : freeAdd F wk.total es = .ok F') (hm : t ∈ A) (hnd : A.Nodup)
    (hother : ∀ x, x ≠ wk'.id → t ∉ asgW ws x)
    (hres : ∀ u, u ≠ t → resvOf ts' rd' rqs u = resvOf ts rd rqs u)
    (hrt : resvOf ts rd rqs t = some es) :
    Res4 ts' (putWorker ws wk') rd' rqs := by
  refine h.put_worker hw (fun u x hx hu => hres u (fun e => hother x hx (e ▸ hu))) ?_
  intro A0 F0 P0 ha0
  rw [ha'] at ha0; cases ha0
  obtain ⟨h1, h2⟩ := h wk'.id wk A F P hw ha
  have hA : ∀ u ∈ A.erase t, u ≠ t := fun u hu e => by
    rw [e, List.Nodup.mem_erase_iff hnd] at hu; exact hu.1 rfl
  have hc : ∀ u ∈ A.erase t, resvOf ts' rd' rqs u = resvOf ts rd rqs u := fun u hu => hres u (hA u hu)
  refine ⟨?_, ?_⟩
  · intro u hu
    rw [hc u hu]; exact h1 u (List.mem_of_mem_erase hu)
  · intro r
    -- the sum over the old set is the reservation of `t` plus the sum over the rest
    have hs : ∀ r, sumNeed wk.total ts rd rqs A r = need wk.total es r + sumNeed wk.total ts rd rqs (A.erase t) r :=
      fun r => by rw [sumNeed_erase hm r, hrt]; rfl
    have hadd := freeAdd_need wk.total es F F' hfa (fun e _ _ => by
      rw [← h2 e.res, hs e.res, ← Nat.add_assoc]; exact Nat.le_add_right _ _) r
    rw [sumNeed_congr r hc, htot, hadd, Nat.add_assoc, ← hs r]
    exact h2 r

theorem Res4.mv_new_worker {ts ws rd rqs} (h : Res4 ts ws rd rqs) {wk : Worker} (hf : wk.assign = .sn [] wk.total []) :
    Res4 ts (ws ++ [wk]) rd rqs := by
  intro w wk0 A F P hw0 ha
  rw [findWorker_append] at hw0
  cases hfw : findWorker ws w with
  | some y =>
    rw [hfw] at hw0; cases hw0
    exact h w wk0 A F P hfw ha
  | none =>
    rw [hfw] at hw0
    simp only at hw0
    split at hw0
    · cases hw0
      rw [hf] at ha; cases ha
      exact ⟨fun t ht => (by cases ht), fun r => (by simp [sumNeed])⟩
    · cases hw0

theorem Res4.mv_drop_worker {ts ws rd rqs} (h : Res4 ts ws rd rqs) (w : Nat) : Res4 ts (ws.filter (·.id ≠ w)) rd rqs := by
  intro x wk0 A F P hw0 ha
  rw [findWorker_filter] at hw0
  split at hw0
  · cases hw0
  · exact h x wk0 A F P hw0 ha

theorem Res4.mv_rqs_append {ts ws rd rqs} (h : Res4 ts ws rd rqs) (l : List Rqv) : Res4 ts ws rd (rqs ++ l) := by
  intro w wk A F P hw ha
  obtain ⟨h1, h2⟩ := h w wk A F P hw ha
  have hc : ∀ t ∈ A, resvOf ts rd (rqs ++ l) t = resvOf ts rd rqs t := by
    intro t ht
    have := h1 t ht
    unfold resvOf at this ⊢
    cases hf : findTask ts t with
    | none => rfl
    | some task =>
      rw [hf] at this
      simp only at this ⊢
      cases hv : variantOf rd t task.state with
      | none => rfl
      | some v =>
        rw [hv] at this
        simp only at this ⊢
        cases he : rqEntries rqs task.rq v with
        | none => rw [he] at this; cases this
        | some es => rw [rqEntries_append l he]
  refine ⟨fun t ht => by rw [hc t ht]; exact h1 t ht, fun r => ?_⟩
  rw [sumNeed_congr r hc]; exact h2 r

/-! ## the equation along the primitives and `remove_task`

Where a lemma reads something off the structural invariant (that the tasks a worker holds are in the map, that a task is
free) it assumes it of the state it starts from. -/

/-- `Inv` and `Res` as one hypothesis (the field `ir` of `C05Inv`) -/
structure IR (s : State) : Prop where
  inv : Inv s
  res : Res s

/-! ### how the reservation of a task is read off -/

theorem resvOf_assigned {ts rd} {s : State} {t : TaskId} {task : Task} {w v : Nat} {r : Rq}
    (ht : findTask ts t = some task) (hs : task.state = .assigned w v ∨ task.state = .running w v)
    (hr : s.rq task.rq v = .ok r) : resvOf ts rd s.rqs t = some r.entries := by
  rw [resvOf_of_find ht]
  rcases hs with hs | hs <;> rw [hs] <;> simp only [variantOf, Option.bind_some] <;> exact rqEntries_of_rq hr

theorem resvOf_retracting {ts rd} {s : State} {t : TaskId} {task : Task} {w0 w v : Nat} {r : Rq}
    (ht : findTask ts t = some task) (hs : task.state = .retracting w0)
    (hf : rd.find? (·.1 = t) = some (t, w, v)) (hr : s.rq task.rq v = .ok r) :
    resvOf ts rd s.rqs t = some r.entries := by
  rw [resvOf_of_find ht, hs]
  simp only [variantOf, hf, Option.map_some, Option.bind_some]
  exact rqEntries_of_rq hr

/-- a task in a state without reservation is in no assigned set: changing it does not change any sum -/
theorem Res4.put_free {ts ws rd rqs rd'} (h : Res4 ts ws rd rqs) {t' : Task}
    (hna : ∀ x, t'.id ∉ asgW ws x)
    (hrd : ∀ u, u ≠ t'.id → rd'.find? (·.1 = u) = rd.find? (·.1 = u)) :
    Res4 (putTask ts t') ws rd' rqs := by
  refine h.congr ?_
  intro u x hu
  have hne : u ≠ t'.id := fun e => hna x (e ▸ hu)
  rw [resvOf_put_ne hne]
  exact resvOf_rd_congr (hrd u hne)

theorem Res4.put_same_resv {ts ws rd rqs rd'} (h : Res4 ts ws rd rqs) {t' told : Task}
    (ht : findTask ts t'.id = some told)
    (hrd : ∀ u, u ≠ t'.id → rd'.find? (·.1 = u) = rd.find? (·.1 = u))
    (hsame : (variantOf rd' t'.id t'.state).bind (rqEntries rqs t'.rq) =
      (variantOf rd t'.id told.state).bind (rqEntries rqs told.rq)) :
    Res4 (putTask ts t') ws rd' rqs := by
  refine h.congr ?_
  intro u x _
  by_cases hne : u = t'.id
  · subst hne
    rw [resvOf_put_self ht rfl, resvOf_of_find ht, hsame]
  · rw [resvOf_put_ne hne]
    exact resvOf_rd_congr (hrd u hne)

theorem Res4.consRel {ts ts' ws rd rqs} {c : Option TaskId} (h : Res4 ts ws rd rqs) (hr : ConsRel c ts ts') :
    Res4 ts' ws rd rqs := by
  refine h.congr ?_
  intro u x _
  unfold resvOf
  cases hf : findTask ts u with
  | none => rw [(hr.2 u).1 hf]
  | some task =>
    obtain ⟨task', hf', e1, e2, _⟩ := (hr.2 u).2 task hf
    rw [hf']; simp only [e1, e2]

theorem Res4.erase {ts ws rd rqs} (h : Res4 ts ws rd rqs) (hn : (taskIds ts).Nodup) {t : TaskId}
    (hna : ∀ x, t ∉ asgW ws x) : Res4 (eraseTask ts t) ws rd rqs := by
  refine h.congr ?_
  intro u x hu
  have hne : u ≠ t := fun e => hna x (e ▸ hu)
  unfold resvOf
  rw [findTask_eraseTask hn, if_neg hne]

/-- a task is appended: every task a worker holds is found in `ts` already (`LS3`), before the new record -/
theorem Res4.append {ts ws rd rqs} (h : Res4 ts ws rd rqs) {task : Task} (hls : LS3 ts ws rd)
    (hn : findTask ts task.id = none) : Res4 (ts ++ [task]) ws rd rqs := by
  refine h.congr ?_
  intro u x hu
  obtain ⟨st, hs, _⟩ := hls.a1 x u hu
  obtain ⟨tk, hf, _⟩ := stOf_some hs
  unfold resvOf
  rw [findTask_append, hf]

theorem Res.setTask_idle {s : State} (hr : Res s) {t' told : Task} (ht : findTask s.tasks t'.id = some told)
    (h1 : variantOf s.redirects t'.id told.state = none) (h2 : variantOf s.redirects t'.id t'.state = none) :
    Res (s.setTask t') :=
  hr.put_same_resv (rd' := s.redirects) ht (fun _ _ => rfl) (by rw [h1, h2]; rfl)

/-- resolving the redirect of a Retracting task keeps its reservation: the variant of the redirect becomes the
variant of the assignment -/
theorem Res.resolve_redirect {s : State} (hr : Res s) {t' task : Task} {w0 target trv : Nat}
    (ht : findTask s.tasks t'.id = some task) (hs : task.state = .retracting w0)
    (hf : s.redirects.find? (·.1 = t'.id) = some (t'.id, target, trv)) (hq : t'.rq = task.rq)
    (hs' : t'.state = .assigned target trv) :
    Res (({ s with redirects := s.redirects.filter (·.1 ≠ t'.id) } : State).setTask t') :=
  hr.put_same_resv (rd' := s.redirects.filter (·.1 ≠ t'.id)) ht (fun _ hu => find_filter_ne hu)
    (by rw [hs', hs, hq]; simp [variantOf, hf])

/-! ### `remove_task`, a new request, `insert_prefill` -/

theorem removeTask_res {s s' : State} {id : TaskId} {st : TS} (hi : Inv s) (hr : Res s) (hf : Free s id)
    (h : s.removeTask id = .ok (s', st)) : Res s' := by
  obtain ⟨_, hw, hrd, hq, hc⟩ := removeTask_spec h
  unfold Res; rw [hw, hrd, hq]
  exact (Res4.erase hr hi.nd hf.na).consRel hc

theorem newRq_res {s : State} (rqv : Rqv) (hr : Res s) : Res (s.newRq rqv) :=
  hr.mv_rqs_append [rqv]

theorem insertPrefill_res {s s1 : State} {ts : List Task} {rd : List (TaskId × Nat × Nat)} {rqs : List Rqv}
    (hr : Res4 ts s.workers rd rqs) {w : Nat} {id : TaskId} (h : s.withWorker w (·.insertPrefill id) = .ok s1) :
    Res4 ts s1.workers rd rqs := by
  obtain ⟨wk, wk', hfw, hf, rfl⟩ := withWorker_spec h
  obtain ⟨A, F, P, ha, _, rfl⟩ := insertPrefill_spec hf
  exact hr.put_same (wk := wk) (wk' := { wk with assign := .sn A F (P ++ [id]) })
    (by rw [findWorker_some_id hfw]; exact hfw) rfl
    (fun A' F' P' ha' => by cases ha'; exact ⟨P, ha⟩)

end HqModel.Core
