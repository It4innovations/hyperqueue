import HqModel.Lemmas.SysWViews
/-!
`on_retract_response` (`retractLoop` + `groupCompute`), one of the places where the reactor hands a Retracting task to
its redirect target: a forward specification on `stOf` with the `ComputeTasks` items sent (`retractLoop_rslv`: `Rslv` of
`Lemmas/SysWViews.lean` for every task; `groupCompute_items`: the messages carry exactly the items), then per pair
(`retractResponse_key`, `retractResponse_pairs`).
-/
namespace HqModel.Core
open HqModel HqModel.SysW

/-- what the item list of `on_retract_response` (entries `(target, task, variant)`) holds for worker `x` and task `t`, as
the `ComputeTasks` items of `cfor` -/
def itemsTo (x : Nat) (t : TaskId) (l : List (Nat × TaskId × Nat)) : List (Option Nat) :=
  (l.filter fun it => it.1 = x ∧ it.2.1 = t).map fun it => some it.2.2

theorem itemsTo_append (x : Nat) (t : TaskId) (a b : List (Nat × TaskId × Nat)) :
    itemsTo x t (a ++ b) = itemsTo x t a ++ itemsTo x t b := by simp [itemsTo]

theorem itemsTo_single (x : Nat) (t id : TaskId) (tg rv : Nat) :
    itemsTo x t [(tg, id, rv)] = if tg = x ∧ id = t then [some rv] else [] := by
  by_cases h : tg = x ∧ id = t <;> simp [itemsTo, h]

theorem retractLoop_rslv (w : Nat) : ∀ (ids : List TaskId) (s s' : State) (acc acc' : List (Nat × TaskId × Nat)),
    s.retractLoop w ids acc = .ok (s', acc') →
    ∃ new, acc' = acc ++ new ∧ s'.workers = s.workers ∧
      ∀ t, Rslv w (t ∈ ids) (stOf s.tasks t) (stOf s'.tasks t) fun x => itemsTo x t new
  | [], s, s', acc, acc', h => by
    simp only [State.retractLoop] at h; cases h
    exact ⟨[], by simp, rfl, fun t => .same rfl fun _ => rfl⟩
  | id :: rest, s, s', acc, acc', h => by
    rcases retractLoop_cons_ok h with ⟨_, h⟩ | ⟨task, ht, hret, ⟨target, rv, _, h⟩ | ⟨_, h⟩⟩ <;>
      obtain ⟨new, h1, h2, h3⟩ := retractLoop_rslv w rest _ _ _ _ h
    · exact ⟨new, h1, h2, fun t => (h3 t).mono (List.mem_cons_of_mem _)⟩
    · refine ⟨[(target, id, rv)] ++ new, by rw [h1, List.append_assoc], h2, fun t => ?_⟩
      simp only [itemsTo_append]
      refine ((Rslv.put (nt := { task with state := .assigned target rv }) (sent := fun t x => itemsTo x t [(target, id, rv)])
        ht hret rfl (.assigned target rv trivial rfl rfl fun x => ?_) (fun t x e => ?_) t).mono
          fun e => e ▸ List.mem_cons_self).trans ((h3 t).mono (List.mem_cons_of_mem _))
      · exact (itemsTo_single ..).trans (by simp)
      · exact (itemsTo_single ..).trans (if_neg fun c => e c.2.symm)
    · exact ⟨new, h1, h2, fun t => by
        simpa using ((Rslv.put (nt := { task with state := .waiting 0 }) (sent := fun _ _ => []) ht hret rfl
          (.requeued trivial rfl rfl fun _ => rfl) (fun _ _ _ => rfl) t).mono
            fun e => e ▸ List.mem_cons_self).trans ((h3 t).mono (List.mem_cons_of_mem _))⟩

theorem groupComputeAux_cfor (s : State) (items : List (Nat × TaskId × Nat)) (w' : Nat) (t : TaskId) :
    ∀ (tgts : List Nat) (msgs : List Msg), groupComputeAux s items tgts = .ok msgs →
    cfor w' t msgs = tgts.flatMap fun tg => if tg = w' then itemsTo tg t items else []
  | [], msgs, h => by simp only [groupComputeAux] at h; cases h; rfl
  | tg :: rest, msgs, h => by
    simp only [groupComputeAux] at h
    split at h
    · cases h
    · rename_i l hl
      split at h
      · cases h
      · rename_i ms hms
        cases h
        rw [cfor_cons, groupComputeAux_cfor s items w' t rest ms hms, cfor_compute, List.flatMap_cons]
        congr 1
        split
        · rw [computeItems_items s t _ _ hl]
          simp only [itemsTo, List.filter_filter]
          congr 2
          funext x
          rw [Bool.and_comm, Bool.decide_and]
        · rfl

/-- the messages of `groupCompute` carry, for every worker and task, exactly the items of the list -/
theorem groupCompute_items {s : State} {items : List (Nat × TaskId × Nat)} {msgs : List Msg} (x : Nat) (t : TaskId)
    (h : groupCompute s items = .ok msgs) : cfor x t msgs = itemsTo x t items := by
  unfold groupCompute at h
  rw [groupComputeAux_cfor s items x t _ _ h,
    flatMap_at _ x _ (NP.nodup_eraseDups _) fun a _ hne => if_neg hne, if_pos rfl]
  split
  · rfl
  · rename_i hx
    refine (List.map_eq_nil_iff.mpr (List.filter_eq_nil_iff.mpr fun it hit c => hx ?_)).symm
    rw [List.mem_eraseDups]
    exact List.mem_map.mpr ⟨it, hit, (of_decide_eq_true c).1⟩

/-- `on_retract_response` for one pair: the view and the items are as before, or the task was being retracted from the
responding worker and is ownerless now, or Assigned to its redirect target with exactly one item -/
theorem retractResponse_key {c c' : State} {w : Nat} {ids : List TaskId} {o : Out}
    (h : c.retractResponse w ids = .ok (c', o)) (w' : Nat) (t : TaskId) :
    (view c' w' t = view c w' t ∧ cfor w' t o.msgs = []) ∨
    (t ∈ ids ∧ stOf c.tasks t = some (.retracting w) ∧
      ((view c' w' t = .quiet ∧ cfor w' t o.msgs = []) ∨
       ∃ rv, view c' w' t = .asg rv ∧ cfor w' t o.msgs = [some rv])) := by
  obtain ⟨items, msgs, h1, hg, rfl⟩ := retractResponse_path h
  obtain ⟨new, e1, ew, hall⟩ := retractLoop_rslv w ids c c' [] items h1
  obtain rfl : items = new := e1
  rw [show cfor w' t _ = _ from groupCompute_items w' t hg]
  exact (hall t).pair ew w'

/-- **`on_retract_response`** in terms of views: for the responding worker `w` and a task `t` it was Retracting from, the
view changes as `Own resp` allows; everything else changes as by a foreign action -/
theorem retractResponse_views {c c' : State} {w : Nat} {ids : List TaskId} {o : Out}
    (h : c.retractResponse w ids = .ok (c', o)) :
    (∀ w' t, (w' ≠ w ∨ t ∉ ids) → Foreign (view c w' t) (cfor w' t o.msgs) (view c' w' t)) ∧
    (∀ t, Own .resp (view c w t) (cfor w t o.msgs) (view c' w t)) ∧
    (∀ w' t, stOf c.tasks t = none → cfor w' t o.msgs = []) := by
  have key := retractResponse_key h
  refine ⟨fun w' t hc => ?_, fun t => ?_, fun w' t hnone => ?_⟩
  · rcases key w' t with ⟨a, b⟩ | ⟨m, a, hcase⟩
    · rw [a, b]; exact Foreign.same _
    · have hw' : w' ≠ w := by
        rcases hc with hc | hc
        · exact hc
        · exact (hc m).elim
      have q0 : view c w' t = .quiet := view_quiet_of_owner a (by intro e; cases e; exact hw' rfl)
      rw [q0]
      rcases hcase with ⟨b, c0⟩ | ⟨rv, b, c0⟩
      · rw [b, c0]; exact Foreign.same _
      · rw [b, c0]; exact Foreign.asg rv
  · rcases key w t with ⟨a, b⟩ | ⟨m, a, hcase⟩
    · rw [a, b]
      exact ⟨fun e => e, fun e => .inr (.inr (.inl ⟨e, rfl⟩))⟩
    · have q0 : view c w t = .pre := by rw [view_some a]; simp [viewSt]
      rw [q0]
      refine ⟨fun e => (by cases e), fun _ => ?_⟩
      rcases hcase with ⟨b, c0⟩ | ⟨rv, b, c0⟩
      · exact .inr (.inl ⟨b, c0⟩)
      · exact .inr (.inr (.inr ⟨rv, b, c0⟩))
  · rcases key w' t with ⟨_, b⟩ | ⟨_, a, _⟩
    · exact b
    · rw [hnone] at a; cases a

theorem retractResponse_pairs {c c' : State} {w : Nat} {ids : List TaskId} {o : Out} (hn : (taskIds c.tasks).Nodup)
    (h : c.retractResponse w ids = .ok (c', o)) :
    (∀ w' t, (w' ≠ w ∨ t ∉ ids) → NPP.Fgn c c' o.msgs w' t) ∧ (∀ t, NPP.Ownd .resp c c' o.msgs w t) := by
  obtain ⟨v1, v2, v3⟩ := retractResponse_views h
  -- nothing is sent for a task that is Running
  have rk : ∀ w' t, NPP.RunKeep c c' w' t (cfor w' t o.msgs) := fun w' t =>
    NPP.runKeep_of_fr (retractResponse_frc h) hn fun rv hs => by
      rcases retractResponse_key h w' t with ⟨_, b⟩ | ⟨_, a, _⟩
      · exact b
      · rw [hs] at a; cases a
  exact ⟨fun w' t hc => ⟨v1 w' t hc, rk w' t, v3 w' t⟩,
    fun t => ⟨v2 t, fun rv hr => .inl ⟨⟨rv, (rk w t rv hr).1⟩, (rk w t rv hr).2⟩⟩⟩

end HqModel.Core
