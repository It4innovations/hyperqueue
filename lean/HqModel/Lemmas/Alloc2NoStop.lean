import HqModel.Lemmas.Alloc2Full
/-!
`try_allocate` / `is_enabled` never stop in a reachable state, every policy on every kind of resource. The step that
needs an argument of its own is the strict admission path: the second `group_solver` call (on the empty worker,
`static_info.all_resources`) has the same `vars[r][g]` index ranges as the first, and is feasible whenever the per-entry
test passed on the current free state, so its `.unwrap()` cannot fail. At the end `tryAllocate_plain_claim`: with
distinct resource ids an entry that does not go through the group solver is answered by `claim_resources` on the pool
of the state.
-/
namespace HqModel.Alloc

/-- the `vars[r][group]` index check of one weight item, computed from the skeleton `sk` of the problem alone -/
def oobSk (sk : List (Nat × Nat)) (w : Weight) : Bool :=
  match posOf (sk.map (·.1)) w.r1, posOf (sk.map (·.1)) w.r2 with
  | some p1, some p2 =>
    match sk[p1]?, sk[p2]? with
    | some (_, n1), some (_, n2) => !(decide (w.g1 < n1 ∧ w.g2 < n2))
    | _, _ => false
  | _, _ => false

/-- the skeleton of the problem: resource id and number of variables (groups) of every coupled entry -/
def Lp.sk (lp : Lp) : List (Nat × Nat) := lp.entries.map (fun x => (x.1, x.2.coefs.length))

theorem weightTerm_isNone (lp : Lp) (w : Weight) : (weightTerm lp [] w).isNone = oobSk lp.sk w := by
  unfold weightTerm oobSk Lp.sk
  have hm : (lp.entries.map (fun x => (x.1, x.2.coefs.length))).map (·.1) = lp.entries.map (·.1) := by
    rw [List.map_map]; rfl
  rw [hm]
  dsimp only
  cases posOf (lp.entries.map (·.1)) w.r1 with
  | none => rfl
  | some p1 =>
    cases posOf (lp.entries.map (·.1)) w.r2 with
    | none => rfl
    | some p2 =>
      dsimp only
      simp only [List.getElem?_map]
      cases lp.entries[p1]? with
      | none => rfl
      | some x1 =>
        cases lp.entries[p2]? with
        | none => rfl
        | some x2 =>
          obtain ⟨r1, e1⟩ := x1
          obtain ⟨r2, e2⟩ := x2
          simp only [Option.map_some]
          by_cases hc : w.g1 < e1.coefs.length ∧ w.g2 < e2.coefs.length
          · simp [hc]
          · simp [hc]

theorem weightOob_eq (lp : Lp) : lp.weightOob = lp.weights.any (oobSk lp.sk) := by
  unfold Lp.weightOob
  congr 1
  funext w
  exact weightTerm_isNone lp w

theorem mkLp_sk (free : List CState) (coupled : List Entry) (ws : List Weight) :
    (mkLp free coupled ws).sk = coupled.map (fun e => (e.rid, (free[e.rid]?.getD []).length)) := by
  simp only [Lp.sk, mkLp, List.map_map]
  apply List.map_congr_left
  intro e _
  simp [entryLp_coefs_length]

theorem weightOob_congr {free free' : List CState} {coupled : List Entry} {ws : List Weight}
    (h : ∀ e ∈ coupled, (free[e.rid]?.getD []).length = (free'[e.rid]?.getD []).length) :
    (mkLp free coupled ws).weightOob = (mkLp free' coupled ws).weightOob := by
  rw [weightOob_eq, weightOob_eq, mkLp_sk, mkLp_sk]
  have : coupled.map (fun e => (e.rid, (free[e.rid]?.getD []).length)) =
      coupled.map (fun e => (e.rid, (free'[e.rid]?.getD []).length)) := by
    apply List.map_congr_left
    intro e he
    rw [h e he]
  rw [this]
  rfl

section reach
variable {s₀ s : State}

theorem allFree_lp_feasible (hinv : Inv2 (univOf s₀.pools) s) (hf : InitFacts s₀) (hst : Static s₀ s)
    {rq : Request} (hentries : ∀ e ∈ rq, entryHasResources s.pools s.concise e = true) :
    (mkLp s.allFree (coupledEntries s.pools rq) s.weights).optimum ≠ none := by
  apply lp_optimum_ne_none
  intro e he
  obtain ⟨hin, hrel, full, gs, hp⟩ := coupled_info he
  obtain ⟨gs₀, c, hctx⟩ := gctx hinv hf hst hp
  refine ⟨_, hctx.allFree, ?_, ?_⟩
  · intro g hg kv hkv
    obtain ⟨g₀, hg₀, rfl⟩ := List.mem_map.mp hg
    rw [hctx.fresh g₀ hg₀] at hkv
    cases hkv
  · have h1 := admitted_le hp hctx.conc hrel (hentries e hin)
    have h2 := hctx.maxAlloc_le
    have h3 : full ≤ CState.maxAlloc (gs₀.map (fun g => (⟨g.free.length, g.fracs⟩ : CGroup))) := by
      rw [maxAlloc_eq, hctx.full]
      have : totalUnits (gs₀.map (fun g => (⟨g.free.length, g.fracs⟩ : CGroup))) =
          (gs₀.map (·.free.length)).sum := by
        simp [totalUnits, Function.comp_def]
      rw [this]
      exact Nat.le_add_right _ _
    omega

theorem allFree_weightOob (hinv : Inv2 (univOf s₀.pools) s) (hf : InitFacts s₀) (hst : Static s₀ s)
    {rq : Request} (hw : (mkLp s.concise (coupledEntries s.pools rq) s.weights).weightOob = false) :
    (mkLp s.allFree (coupledEntries s.pools rq) s.weights).weightOob = false := by
  rw [← hw]
  apply weightOob_congr
  intro e he
  obtain ⟨-, -, full, gs, hp⟩ := coupled_info he
  obtain ⟨gs₀, c, hctx⟩ := gctx hinv hf hst hp
  rw [hctx.allFree, hctx.conc]
  simp [hctx.clen]

theorem hasResources_nostop (hinv : Inv2 (univOf s₀.pools) s) (hf : InitFacts s₀) (hst : Static s₀ s)
    (rq : Request) (sols : List (Option SolRec))
    (hw : (mkLp s.concise (coupledEntries s.pools rq) s.weights).weightOob = false) :
    NoStop (hasResources s rq sols) := by
  intro er herr
  unfold hasResources at herr
  split at herr
  · cases herr
  · rename_i hall
    have hentries : ∀ e ∈ rq, entryHasResources s.pools s.concise e = true := by
      apply List.all_eq_true.mp
      simpa using hall
    dsimp only at herr
    split at herr
    · cases herr
    · split at herr
      · cases herr; rfl
      · rename_i r1 sols1
        split at herr
        · rename_i e₁ hgs
          simp only [Except.error.injEq] at herr
          subst herr
          exact groupSolver_nostop r1 hw _ hgs
        · cases herr
        · split at herr
          · cases herr
          · split at herr
            · cases herr; rfl
            · rename_i r2 sols2
              split at herr
              · rename_i e₂ hgs
                simp only [Except.error.injEq] at herr
                subst herr
                exact groupSolver_nostop r2 (allFree_weightOob hinv hf hst hw) _ hgs
              · rename_i hgs
                exact absurd (groupSolver_none hgs).2 (allFree_lp_feasible hinv hf hst hentries)
              · cases herr

theorem tryAllocate_nostop_full (hinv : Inv2 (univOf s₀.pools) s) (hU : ∀ r g, (univOf s₀.pools r g).Nodup)
    (hf : InitFacts s₀) (hst : Static s₀ s) (h : Nat) (rq : Request) (ch : Choices)
    (hnd : (rq.map (·.rid)).Nodup) (hcap : ∀ e ∈ rq, s.pools[e.rid]? ≠ some .empty)
    (hpos : ∀ e ∈ coupledEntries s.pools rq, (e.policy = .tight ∨ e.policy = .forceTight) → 0 < e.amount)
    (hw : (mkLp s.concise (coupledEntries s.pools rq) s.weights).weightOob = false) :
    NoStop (tryAllocate s h rq ch) :=
  tryAllocate_nostop_core hinv hU h rq ch (hasResources_nostop hinv hf hst rq ch.sols hw)
    (fun hhr => claimResources_nostop_core hinv hnd hcap hw (hasResources_true hhr)
      (fun e he ht => ⟨fun _ _ hp => gvals_of_inv hinv.inv hst.keys hp, hpos e he ht⟩))

theorem isEnabled_nostop_full (hinv : Inv2 (univOf s₀.pools) s) (hf : InitFacts s₀) (hst : Static s₀ s)
    (rq : Request) (ch : Choices)
    (hw : (mkLp s.concise (coupledEntries s.pools rq) s.weights).weightOob = false) :
    NoStop (isEnabled s rq ch) := by
  intro er herr
  unfold isEnabled at herr
  split at herr
  · rename_i e hhr
    simp only [Except.error.injEq] at herr
    subst herr
    exact hasResources_nostop hinv hf hst rq ch.sols hw _ hhr
  · cases herr
  · cases herr; rfl

end reach

theorem claimPlain_subset {picks : Choices} {pools pools' : List Pool} {rq : Request} {al al' : Allocation}
    (h : claimPlain picks pools rq al = .ok (pools', al')) {ra : RAlloc} (hra : ra ∈ al) : ra ∈ al' :=
  claimPlain_fold (P := fun _ al' => ra ∈ al') (rq₀ := rq) (fun _ _ _ h => List.mem_append_left _ h)
    (fun _ he => he) h hra

theorem claimCoupled_subset {picks : Choices} {pools pools' : List Pool} {es : List Entry} {sets : List (List Nat)}
    {al al' : Allocation} (h : claimCoupled picks pools es sets al = .ok (pools', al')) {ra : RAlloc}
    (hra : ra ∈ al) : ra ∈ al' :=
  claimCoupled_fold (P := fun _ al' => ra ∈ al') (rq₀ := es) (fun _ _ _ h => List.mem_append_left _ h)
    (fun _ he => he) h hra

theorem claimPlain_mem {picks : Choices} {pools pools' : List Pool} {rq : Request} {al al' : Allocation}
    (hnd : (rq.map (·.rid)).Nodup) (h : claimPlain picks pools rq al = .ok (pools', al')) {e : Entry} (he : e ∈ rq)
    {pool : Pool} (hp : pools[e.rid]? = some pool)
    (hnc : (pool.isGroups && e.policy.relevantForCoupling) = false) :
    ∃ p' ra, pool.claim e (picks.pick e.rid) = .ok (p', ra) ∧ ra ∈ al' := by
  induction rq generalizing pools al with
  | nil => cases he
  | cons x xs ih =>
    obtain ⟨hx, hxs⟩ := List.nodup_cons.mp hnd
    simp only [claimPlain] at h
    split at h
    · cases h
    · rename_i poolx hpx
      rcases List.mem_cons.mp he with rfl | he'
      · rw [hp] at hpx
        cases hpx
        rw [hnc] at h
        simp only [Bool.false_eq_true, if_false] at h
        split at h
        · cases h
        · rename_i p' ra hc
          exact ⟨p', ra, hc, claimPlain_subset h (by simp)⟩
      · have hne : e.rid ≠ x.rid := fun heq => hx (List.mem_map.mpr ⟨e, he', heq⟩)
        split at h
        · exact ih hxs h he' hp
        · split at h
          · cases h
          · refine ih hxs h he' ?_
            simp only [setPool]
            rw [List.getElem?_set_ne (fun h' => hne h'.symm)]
            exact hp

theorem tryAllocate_plain_claim {s s' : State} {h : Nat} {rq : Request} {ch : Choices} {al : Allocation}
    (hstep : tryAllocate s h rq ch = .ok (some al, s')) (hnd : (rq.map (·.rid)).Nodup) {e : Entry} (he : e ∈ rq)
    {pool : Pool} (hp : s.pools[e.rid]? = some pool)
    (hnc : (pool.isGroups && e.policy.relevantForCoupling) = false) :
    entryHasResources s.pools s.concise e = true ∧
      ∃ p' ra, pool.claim e (ch.pick e.rid) = .ok (p', ra) ∧ ra ∈ al := by
  obtain ⟨cache, sols, pools, concise, hhr, hcl, -, -⟩ := tryAllocate_some hstep
  obtain ⟨pools1, al1, h1, hrest⟩ := claimResources_cases hcl
  obtain ⟨p', ra, hc, hra⟩ := claimPlain_mem hnd h1 he hp hnc
  refine ⟨hasResources_true hhr e he, p', ra, hc, ?_⟩
  rcases hrest with ⟨-, rfl⟩ | ⟨sol, al2, h2, rfl⟩
  · exact hra
  · exact (normalize_perm al2).mem_iff.mpr (claimCoupled_subset h2 hra)

theorem init_groups {d : Descriptor} {s₀ : State} (h : State.init d = some s₀) {rid full : Nat} {gs₀ : List Group}
    (hp : s₀.pools[rid]? = some (.groups full gs₀)) :
    ∃ sizes, full = sizes.sum * FPU ∧ gs₀ = groupsFrom 0 sizes := by
  rcases (init_spec h).1 _ (List.mem_of_getElem? hp) with h0 | ⟨k, hk⟩
  · cases h0
  · cases k with
    | groups sizes =>
      simp only [Pool.new, Pool.groups.injEq] at hk
      exact ⟨sizes, hk.1, hk.2⟩
    | list n => simp [Pool.new] at hk
    | range a b => simp [Pool.new] at hk
    | sum size => simp [Pool.new] at hk

end HqModel.Alloc
