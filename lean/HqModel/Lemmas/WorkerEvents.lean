import HqModel.Lemmas.WorkerBasic
/-!
What a step emits: the events of `prefill_loop` (`Offer`, `prefillLoop_spec`), the facts about
`handle_task_future`'s tail that C01 / C02 / C04 read (`taskEnd_spec`).
-/
namespace HqModel.Worker

/-- the events of one `prefill_loop` with allocation `h` over the waiting tasks `bl`, top first: a task that is hard
rejected says nothing, one whose launch fails leaves a failed launcher call, the first that starts (`true`) ends the
loop; when none is left `h` is released (`false`) -/
inductive Offer (rv h : Nat) : List Task → Bool → List Out → Prop
  | start (x : Task) (rest : List Task) : Offer rv h (x :: rest) true [.launch x.id x.inst rv h true]
  | release : Offer rv h [] false [.release h]
  | fail (x : Task) {rest c evs} : Offer rv h rest c evs → Offer rv h (x :: rest) c (.launch x.id x.inst rv h false :: evs)
  | skip (x : Task) {rest c evs} : Offer rv h rest c evs → Offer rv h (x :: rest) c evs

theorem Offer.mem {rv h : Nat} {bl : List Task} {c : Bool} {evs : List Out} (ho : Offer rv h bl c evs) {o : Out}
    (hm : o ∈ evs) : (∃ x ∈ bl, ∃ ok, o = .launch x.id x.inst rv h ok) ∨ o = .release h := by
  induction ho with
  | start x rest => exact .inl ⟨x, List.mem_cons_self, true, List.mem_singleton.mp hm⟩
  | release => exact .inr (List.mem_singleton.mp hm)
  | fail x _ ih =>
    rcases List.mem_cons.mp hm with rfl | hm
    · exact .inl ⟨x, List.mem_cons_self, false, rfl⟩
    · exact (ih hm).imp_left fun ⟨y, hy, h⟩ => ⟨y, List.mem_cons_of_mem _ hy, h⟩
  | skip x _ ih => exact (ih hm).imp_left fun ⟨y, hy, h⟩ => ⟨y, List.mem_cons_of_mem _ hy, h⟩

theorem Offer.handle {rv h : Nat} {bl : List Task} {c : Bool} {evs : List Out} (ho : Offer rv h bl c evs)
    {t i rv' h' : Nat} {ok : Bool} (hm : Out.launch t i rv' h' ok ∈ evs) : h' = h := by
  rcases ho.mem hm with ⟨x, _, ok', he⟩ | he
  · cases he; rfl
  · cases he

theorem Offer.started {rv h : Nat} {bl : List Task} {evs : List Out} (ho : Offer rv h bl true evs) :
    (∃ x ∈ bl, Out.launch x.id x.inst rv h true ∈ evs) ∧ Out.release h ∉ evs := by
  generalize hc : true = c at ho
  induction ho with
  | start x rest => exact ⟨⟨x, List.mem_cons_self, List.mem_singleton.mpr rfl⟩, by simp⟩
  | release => cases hc
  | fail x _ ih =>
    obtain ⟨⟨y, hy, hm⟩, hr⟩ := ih hc
    exact ⟨⟨y, List.mem_cons_of_mem _ hy, List.mem_cons_of_mem _ hm⟩, by simpa using hr⟩
  | skip x _ ih =>
    obtain ⟨⟨y, hy, hm⟩, hr⟩ := ih hc
    exact ⟨⟨y, List.mem_cons_of_mem _ hy, hm⟩, hr⟩

theorem Offer.released {rv h : Nat} {bl : List Task} {evs : List Out} (ho : Offer rv h bl false evs) :
    Out.release h ∈ evs ∧ ∀ t i rv' h', Out.launch t i rv' h' true ∉ evs := by
  generalize hc : false = c at ho
  induction ho with
  | start x rest => cases hc
  | release => exact ⟨List.mem_singleton.mpr rfl, by simp⟩
  | fail x _ ih =>
    obtain ⟨hm, hr⟩ := ih hc
    refine ⟨List.mem_cons_of_mem _ hm, fun t i rv' h' hmem => ?_⟩
    rcases List.mem_cons.mp hmem with heq | hmem
    · cases heq
    · exact hr t i rv' h' hmem
  | skip x _ ih => exact ih hc

/-- (`rqs`, `remaining`, `bkeys`: nothing here reads them; they are part of what the function does) -/
theorem prefillLoop_spec {rq rv h : Nat} : ∀ (bl : List Task) {a a' : Acc} {c : Bool},
    prefillLoop rq rv h bl a = .ok (a', c) →
    ∃ evs more, a'.ev = a.ev ++ evs ∧ a'.upd = a.upd ++ more ∧ Offer rv h bl c evs ∧
      a'.s.blocked = a.s.blocked ∧ a'.s.rqs = a.s.rqs ∧ a'.s.remaining = a.s.remaining ∧ a'.s.bkeys = a.s.bkeys ∧
      a'.s.live = (if c then a.s.live else a.s.live.erase h) ∧ (c = false → a'.s.running = a.s.running)
  | [], a, a', c, hs => by
    simp only [prefillLoop] at hs
    cases hs
    exact ⟨_, [], rfl, (List.append_nil _).symm, .release, rfl, rfl, rfl, rfl, rfl, fun _ => rfl⟩
  | x :: rest, a, a', c, hs => by
    simp only [prefillLoop] at hs
    split at hs
    · cases hs
    · rename_i a1 hts
      cases hs
      rcases tryStart_cases hts with ⟨_, _, e⟩ | ⟨_, _, e | e | ⟨_, e⟩ | ⟨_, e⟩⟩ <;> cases e
      exact ⟨_, _, rfl, rfl, .start _ _, rfl, rfl, rfl, rfl, rfl, fun hc => nomatch hc⟩
    · rename_i a1 hts
      obtain ⟨evs, more, e1, e2, e3, e⟩ := prefillLoop_spec rest hs
      -- a task that does not start leaves the state as it was, the popped backlog aside: `e` carries over
      rcases tryStart_cases hts with ⟨_, _, e'⟩ | ⟨_, _, e' | e' | ⟨_, e'⟩ | ⟨_, e'⟩⟩ <;> cases e'
      · exact ⟨evs, _ :: more, e1, by rw [e2, List.append_assoc]; rfl, .skip _ e3, e⟩
      · exact ⟨_ :: evs, _ :: more, by rw [e1, List.append_assoc]; rfl, by rw [e2, List.append_assoc]; rfl,
          .fail _ e3, e⟩

theorem taskEnd_spec {s s' : State} {t : Nat} {res : TaskResult} {en : List ((Nat × Nat) × Bool)}
    {outs : List Out} (hs : taskEnd s t res en = .ok (s', outs)) :
    ∃ r, s.running.find? (fun x => x.task.id == t) = some r ∧ ∃ used evs more,
      Offer r.rv r.h (s.backlog r.task.rq) used evs ∧
      outs = evs ++ (if resultUpdates t res ++ more = [] then [] else [.updates (resultUpdates t res ++ more)]) ∧
      (used = true → s'.live = s.live ∧ s'.blocked = s.blocked) ∧
      (used = false → s'.live = s.live.erase r.h ∧ s'.running = s.running.filter (fun x => x.task.id != t) ∧
        (s.blocked ≠ [] → (en.map (·.1)).isPerm s.blocked = true ∧
          s'.blocked = s.blocked.filter (fun k => (k, true) ∉ en) ∧
          ∀ k, (k, true) ∈ en → Update.enable k.1 k.2 ∈ more) ∧
        (s.blocked = [] → s'.blocked = [])) := by
  obtain ⟨r, a, used, bl', upd', hr, hpl, rfl, rfl, hfin⟩ := taskEnd_ok hs
  refine ⟨r, hr, used, ?_⟩
  obtain ⟨evs, more, e1, e2, e3, e4, -, -, -, e8, e9⟩ := prefillLoop_spec _ hpl
  rw [List.nil_append] at e1
  rcases hfin with ⟨hu, hb, hperm, rfl, rfl⟩ | ⟨hc, rfl, rfl⟩
  · refine ⟨evs, more ++ ((en.filter (·.2)).map (·.1)).map (fun k => .enable k.1 k.2), e3, ?_,
      fun h => (Bool.false_ne_true (hu.symm.trans h)).elim, fun _ => ⟨by rw [e8, hu]; rfl, e9 hu, fun _ => ?_, fun h => absurd (e4 ▸ h) hb⟩⟩
    · simp only [finish, e1, e2, List.append_assoc]
    · have hmem : ∀ k, k ∈ (en.filter (·.2)).map (·.1) ↔ (k, true) ∈ en := by
        intro k
        simp only [List.mem_map, List.mem_filter]
        constructor
        · rintro ⟨⟨k', b⟩, ⟨hk, rfl⟩, rfl⟩; exact hk
        · exact fun hk => ⟨(k, true), ⟨hk, rfl⟩, rfl⟩
      refine ⟨e4 ▸ hperm, ?_, fun k hk => ?_⟩
      · show a.s.blocked.filter _ = _
        rw [e4]
        exact List.filter_congr fun k _ => by simp [hmem]
      · exact List.mem_append_right _ (List.mem_map.mpr ⟨k, (hmem k).mpr hk, rfl⟩)
  · refine ⟨evs, more, e3, by simp only [finish, e1, e2], fun hu => ⟨by rw [e8, hu]; rfl, e4⟩,
      fun hu => ⟨by rw [e8, hu]; rfl, e9 hu, fun hb => absurd ⟨hu, e4 ▸ hb⟩ hc, fun hb => e4.trans hb⟩⟩

theorem mem_batch {evs : List Out} {us : List Update} {o : Out} :
    o ∈ evs ++ (if us = [] then [] else [.updates us]) ↔ o ∈ evs ∨ (us ≠ [] ∧ o = .updates us) :=
  mem_finish (a := { s := {}, ev := evs, upd := us })

theorem mem_finish_launch {a : Acc} {t i rv h : Nat} {ok : Bool}
    (hm : Out.launch t i rv h ok ∈ (finish a).2) : Out.launch t i rv h ok ∈ a.ev := by
  rcases mem_finish.mp hm with h | ⟨_, h⟩
  · exact h
  · cases h

theorem mem_finish_release {a : Acc} {h : Nat}
    (hm : Out.release h ∈ (finish a).2) : Out.release h ∈ a.ev := by
  rcases mem_finish.mp hm with h | ⟨_, h⟩
  · exact h
  · cases h

end HqModel.Worker
