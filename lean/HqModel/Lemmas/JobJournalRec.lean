import HqModel.Lemmas.JobJournalSim
/-!
# One record at a time: what each record the job layer writes does to `meaning`, and why `recordOk` holds

`Leads A recs s'`: appended to a journal that means `A`, the records `recs` are all allowed, keep `DepOk` at every
record boundary, and afterwards the job-layer state `s'` and the meaning of the journal satisfy `Inv` again.

`meaningStep` as an equation between whole states, for a job that HAS an entry (`updTask_eq`, `batch_eq`, …): the form
`Inv.put` consumes. Per entry and without that hypothesis: `entry_eq` of `JobJournalEntry.lean`.
-/
namespace HqModel.Emit
open HqModel.Job HqModel.Journal

def Leads (A : AState) (recs : List Record) (s' : State) : Prop :=
  goodFrom A recs ∧ Inv s' (recs.foldl meaningStep A)

theorem Leads.nil {s : State} {A : AState} (h : Inv s A) : Leads A [] s := ⟨h.dep, h⟩

theorem Leads.one {s s' : State} {A : AState} {r : Record} (h : Inv s A) (hok : recordOk A r = true)
    (h' : Inv s' (meaningStep A r)) : Leads A [r] s' := ⟨⟨h.dep, hok, h'.dep⟩, h'⟩

theorem Leads.append {A : AState} {l m : List Record} {s1 s2 : State} (h1 : Leads A l s1)
    (h2 : Leads (l.foldl meaningStep A) m s2) : Leads A (l ++ m) s2 :=
  ⟨(goodFrom_append A l m).mpr ⟨h1.1, h2.1⟩, by rw [List.foldl_append]; exact h2.2⟩

theorem Leads.congr {A : AState} {l : List Record} {s1 s2 : State} (h : Leads A l s1)
    (hj : s2.jobs = s1.jobs) (hc : s2.jobCtr = s1.jobCtr) : Leads A l s2 :=
  ⟨h.1, h.2.congr hj hc rfl⟩

def setO (o : Outcome) (a : ATask) : ATask := { a with st := o, run := none }

def markF (o : Outcome) (S : List Nat) (a : ATask) : ATask := if a.id ∈ S then setO o a else a

def startF (t inst : Nat) (ws : List Nat) (a : ATask) : ATask :=
  if a.id = t then { a with inst := some (max inst (a.inst.getD 0)), run := some ws } else a

theorem markF_in (o : Outcome) (S : List Nat) (a : ATask) (h : a.id ∈ S) : markF o S a = setO o a := if_pos h

theorem markF_out (o : Outcome) (S : List Nat) (a : ATask) (h : a.id ∉ S) : markF o S a = a := if_neg h

theorem markF_nil (o : Outcome) (a : ATask) : markF o [] a = a := markF_out o [] a List.not_mem_nil

theorem updTask_eq {A : AState} {j : Nat} {aj : AJob} (h : alGet A.jobs j = some aj) (t : Nat) (f : ATask → ATask) :
    updTask A j t f = { A with jobs := alSet A.jobs j (mapTasks aj fun a => if a.id = t then f a else a) } := by
  simp only [updTask, h, mapTasks]

theorem markF_cons (o : Outcome) (t : Nat) (S : List Nat) (a : ATask) :
    markF o S (if a.id = t then setO o a else a) = markF o (t :: S) a := by
  unfold markF
  by_cases h1 : a.id = t
  · by_cases h2 : a.id ∈ S <;> simp [h1, setO] <;> simp [← h1, h2]
  · by_cases h2 : a.id ∈ S <;> simp [h1, h2]

theorem batch_eq (o : Outcome) (j : Nat) : ∀ (ids : List (Nat × Nat)) (A : AState) (aj : AJob),
    alGet A.jobs j = some aj → (∀ p ∈ ids, p.1 = j) →
    ids.foldl (setOutcome o) A = { A with jobs := alSet A.jobs j (mapTasks aj (markF o (ids.map (·.2)))) } := by
  intro ids
  induction ids with
  | nil =>
    intro A aj h _
    simp only [List.foldl_nil, List.map_nil, mapTasks_id aj _ (markF_nil o), alSet_same h]
  | cons p rest ih =>
    intro A aj h hown
    have hp : p.1 = j := hown p (by simp)
    simp only [List.foldl_cons, List.map_cons]
    have e1 : setOutcome o A p =
        { A with jobs := alSet A.jobs j (mapTasks aj fun a => if a.id = p.2 then setO o a else a) } := by
      unfold setOutcome
      rw [hp, updTask_eq h]
      rfl
    rw [e1, ih _ (mapTasks aj fun a => if a.id = p.2 then setO o a else a) (alGet_set_self _ _ _)
      (fun q hq => hown q (by simp [hq]))]
    simp only [alSet_alSet]
    congr 2
    unfold mapTasks
    simp only [List.map_map]
    congr 1
    apply List.map_congr_left
    intro a _
    exact markF_cons o p.2 _ a

theorem step_started {A : AState} {j : Nat} {aj : AJob} (h : alGet A.jobs j = some aj) (t inst : Nat) (ws : List Nat) :
    meaningStep A (.taskStarted j t inst ws) = { A with jobs := alSet A.jobs j (mapTasks aj (startF t inst ws)) } := by
  simp only [meaningStep]
  rw [updTask_eq h]
  rfl

theorem step_outcome {A : AState} {j : Nat} {aj : AJob} (h : alGet A.jobs j = some aj) (o : Outcome) (t : Nat) :
    setOutcome o A (j, t) = { A with jobs := alSet A.jobs j (mapTasks aj (markF o [t])) } := by
  have := batch_eq o j [(j, t)] A aj h (by simp)
  simpa using this

theorem markF_id (o : Outcome) (S : List Nat) (a : ATask) : (markF o S a).id = a.id := by
  unfold markF setO; split <;> rfl

theorem markF_deps (o : Outcome) (S : List Nat) (a : ATask) : (markF o S a).deps = a.deps := by
  unfold markF setO; split <;> rfl

theorem markF_inst (o : Outcome) (S : List Nat) (a : ATask) : (markF o S a).inst = a.inst := by
  unfold markF setO; split <;> rfl

theorem startF_in {t : Nat} (i : Nat) (ws : List Nat) {a : ATask} (h : a.id = t) :
    startF t i ws a = { a with inst := some (max i (a.inst.getD 0)), run := some ws } := if_pos h

theorem startF_out {t : Nat} (i : Nat) (ws : List Nat) {a : ATask} (h : a.id ≠ t) : startF t i ws a = a := if_neg h

theorem startF_id (t i : Nat) (ws : List Nat) (a : ATask) : (startF t i ws a).id = a.id := by
  unfold startF; split <;> rfl

theorem startF_deps (t i : Nat) (ws : List Nat) (a : ATask) : (startF t i ws a).deps = a.deps := by
  unfold startF; split <;> rfl

theorem startF_st (t i : Nat) (ws : List Nat) (a : ATask) : (startF t i ws a).st = a.st := by
  unfold startF; split <;> rfl

theorem JSim.mark {job job' : Job} {aj : AJob} (h : JSim job aj) (o : Outcome) (S : List Nat)
    (target : Job.TState) (ho : oc target = o) (hr : target ≠ .running)
    (hop : job'.isOpen = job.isOpen) (hk : keys job'.tasks = keys job.tasks)
    (hin : ∀ k ∈ S, k ∈ keys job.tasks → lookup job'.tasks k = some target)
    (hout : ∀ k, k ∉ S → lookup job'.tasks k = lookup job.tasks k) :
    JSim job' (mapTasks aj (markF o S)) := by
  refine h.map (markF o S) (markF_id o S) hop hk ?_
  intro a ha x hx hs hi
  by_cases hm : a.id ∈ S
  · rw [markF_in o S a hm]
    exact ⟨target, hin _ hm (mem_keys_of_lookup hx), ho.symm, fun e => absurd e hr⟩
  · rw [markF_out o S a hm]
    exact ⟨x, by rw [hout _ hm]; exact hx, hs, hi⟩

theorem JDep.mark {aj : AJob} (h : JDep aj) (o : Outcome) (S : List Nat) (ho : o ≠ .waiting)
    (hc : o = .finished ∨ ∀ a ∈ aj.tasks, a.st = .waiting → a.id ∉ S → ∀ d ∈ a.deps, d ∉ S) :
    JDep (mapTasks aj (markF o S)) := by
  refine h.map (markF o S) (markF_id o S) (markF_deps o S) ?_ ?_
  · intro a _ hw
    by_cases hm : a.id ∈ S
    · rw [markF_in o S a hm] at hw; exact absurd hw ho
    · rwa [markF_out o S a hm] at hw
  · intro a ha hwa hw d hd b _ hbid hb
    have hm : a.id ∉ S := by
      intro hm; rw [markF_in o S a hm] at hw; exact ho hw
    by_cases hd' : b.id ∈ S
    · rcases hc with hc | hc
      · right; rw [markF_in o S b hd']; exact hc
      · exact absurd (hbid ▸ hd') (hc a ha hwa hm d hd)
    · rwa [markF_out o S b hd']

end HqModel.Emit
