import HqModel.Lemmas.CoreNoPanicQueue
/-!
The queue primitives `queueRemove`, `removePrefilled`, `addReady` on a state that satisfies `NpQ`.
-/
namespace HqModel.Core.NPC

open HqModel.Core.NP

theorem _root_.HqModel.Core.NpQ.pf_unique {D R} {s : State} (h : NpQ D R s) {i j : Nat} {q q' : Queue}
    (hq : s.queues[i]? = some q) (hq' : s.queues[j]? = some q') {id : TaskId} (h1 : id ∈ pfIds q)
    (h2 : id ∈ pfIds q') : i = j :=
  h.queue_unique hq hq' (mem_qIds.mpr (Or.inr h1)) (mem_qIds.mpr (Or.inr h2))

theorem _root_.HqModel.Core.NpQ.shrink {D D' : TaskId → Prop} {R} {s s' : State} (h : NpQ D R s)
    (ht : s'.tasks = s.tasks) (hr : ∀ x ∈ s'.redirects, x ∈ s.redirects)
    (hq : ∀ (j : Nat) (q' : Queue), s'.queues[j]? = some q' → ∃ q, s.queues[j]? = some q ∧ Shrunk q q')
    (hpin : ∀ t ∈ s.tasks, (∃ w, t.state = .prefilled w) → ¬ D' t.id → InPrefill s t → InPrefill s' t)
    (hD : ∀ x, D x → D' x) : NpQ D' R s' :=
  h.sub hq (fun x _ => .of_eq (task?_congr ht x)) (fun r hr' _ => hr r hr')
    (fun t ht' hp hR hD' => hpin t (ht ▸ ht') hp hD' (h.pin t (ht ▸ ht') hp hR (fun hd => hD' (hD _ hd))))

theorem getElem?_set_of_get {qs : List Queue} {i : Nat} {q : Queue} (hq : qs[i]? = some q) (q' : Queue) (j : Nat) :
    (qs.set i q')[j]? = if j = i then some q' else qs[j]? := by
  have hlt : i < qs.length := (List.getElem?_eq_some_iff.mp hq).1
  rw [List.getElem?_set]
  by_cases e : i = j
  · simp [e, e ▸ hlt]
  · rw [if_neg e, if_neg (fun e' => e e'.symm)]

theorem getElem?_set_cases {qs : List Queue} {i : Nat} {q q' : Queue} (hq : qs[i]? = some q) {j : Nat} {qq : Queue}
    (hj : (qs.set i q')[j]? = some qq) : (j = i ∧ qq = q') ∨ (j ≠ i ∧ qs[j]? = some qq) := by
  rw [getElem?_set_of_get hq] at hj
  split at hj
  · rename_i e; cases hj; exact .inl ⟨e, rfl⟩
  · rename_i e; exact .inr ⟨e, hj⟩

theorem modifyQueue_of_get {qs : List Queue} {i : Nat} {q : Queue} (hq : qs[i]? = some q) (f : Queue → Queue) :
    modifyQueue qs i f = qs.set i (f q) := by
  unfold modifyQueue; rw [hq]

theorem inPrefill_set {s : State} {i : Nat} {q q' : Queue} {t : Task} (hq : s.queues[i]? = some q)
    (h : InPrefill s t) (hc : t.rq = i → t.id ∈ pfIds q → t.id ∈ pfIds q') :
    InPrefill { s with queues := s.queues.set i q' } t := by
  rw [inPrefill_iff] at h ⊢
  obtain ⟨q1, hq1, hm1⟩ := h
  rw [show _ = _ from getElem?_set_of_get hq q' t.rq]
  split
  · rename_i e
    rw [e, hq] at hq1; cases hq1
    exact ⟨q', rfl, hc e hm1⟩
  · exact ⟨q1, hq1, hm1⟩

theorem _root_.HqModel.Core.NpQ.set_queue {D D' : TaskId → Prop} {R} {s : State} {i : Nat} {q q' : Queue}
    (h : NpQ D R s) (hq : s.queues[i]? = some q) (hs : Shrunk q q')
    (cov : ∀ x ∈ pfIds q, x ∈ pfIds q' ∨ D' x) (hD : ∀ x, D x → D' x) :
    NpQ D' R { s with queues := s.queues.set i q' } := by
  refine h.shrink rfl (fun _ hx => hx) ?_ ?_ hD
  · intro j qq hj
    rcases getElem?_set_cases hq hj with ⟨rfl, rfl⟩ | ⟨_, hj⟩
    · exact ⟨q, hq, hs⟩
    · exact ⟨qq, hj, Shrunk.refl qq⟩
  · exact fun t _ _ hD' hin => inPrefill_set hq hin (fun _ hm => (cov _ hm).resolve_right hD')

theorem _root_.HqModel.Core.NpQ.noQ_of_set {D R} {s : State} {i : Nat} {q q' : Queue} (h : NpQ D R s)
    (hq : s.queues[i]? = some q) {id : TaskId} (hin : id ∈ qIds q) (hout : id ∉ qIds q') :
    NoQ { s with queues := s.queues.set i q' } id := by
  intro j qq hj
  have : id ∉ qIds qq := by
    rcases getElem?_set_cases hq hj with ⟨_, rfl⟩ | ⟨e, hj⟩
    · exact hout
    · exact fun hm => e (h.queue_unique hj hq hm hin)
  exact ⟨fun hm => this (mem_qIds.mpr (Or.inl hm)), fun hm => this (mem_qIds.mpr (Or.inr hm))⟩

theorem queueRemove_npq {D R} {s s' : State} {rq : Nat} {id : TaskId} {p : Int} (h : NpQ D R s)
    (heq : s.queueRemove rq id p = .ok s') : NpQ (fun x => D x ∨ x = id) R s' := by
  obtain ⟨hlt, rfl⟩ := queueRemove_ok_iff.mp heq
  have hq : s.queues[rq]? = some s.queues[rq] := List.getElem?_eq_getElem hlt
  rw [modifyQueue_of_get hq]
  refine h.set_queue hq (shrunk_remove _ id p) ?_ (fun _ hd => Or.inl hd)
  intro x hx
  by_cases e : x = id
  · exact Or.inr (Or.inr e)
  · exact Or.inl (mem_pfIds_remove p hx e)

theorem queueRemove_noQ {D R} {s s' : State} {id : TaskId} {task : Task} (h : NpQ D R s)
    (hf : s.task? id = some task) (heq : s.queueRemove task.rq id task.prio = .ok s') : NoQ s' id := by
  obtain ⟨hlt, rfl⟩ := queueRemove_ok_iff.mp heq
  have hq : s.queues[task.rq]? = some s.queues[task.rq] := List.getElem?_eq_getElem hlt
  generalize s.queues[task.rq] = q at hq
  have hok := h.qok hq
  intro j q' hq'
  rw [show _ = _ from getElem?_modifyQueue _ _ _ _, hq] at hq'
  split at hq'
  · cases hq'
    show id ∉ rIds (q.remove id task.prio).ready ∧ id ∉ pfIds (q.remove id task.prio)
    rcases remove_cases q id task.prio with ⟨pp0, ts0, hp0, hpp, hm0, e⟩ | ⟨hn, e⟩ <;> rw [e]
    · constructor
      · intro hm
        exact h.ready_prefill_disjoint hq hm (mem_pfIds.mpr ⟨pp0, ts0, hp0, hm0⟩)
      · simp only [pfIds]
        have hnd : ts0.Nodup := by simpa [pfIds, hp0] using hok.pnd
        intro hm
        exact (hnd.mem_erase_iff.mp hm).1 rfl
    · constructor
      · intro hm
        obtain ⟨p, hp⟩ := mem_rIds_iff_pairs.mp hm
        obtain ⟨hp1, hp2⟩ := (mem_rPairs_readyRemove hok.wf).mp hp
        obtain ⟨t, a, _, c, _⟩ := h.task_of_ready hq hp1
        rw [hf] at a; cases a
        exact hp2 (by rw [c])
      · intro hm
        obtain ⟨pp, ts, hp, hmt⟩ := mem_pfIds.mp hm
        obtain ⟨t, w, a, _, c, _⟩ := pfGood_iff.mp (hok.pg pp ts hp id hmt)
        rw [hf] at a; cases a
        exact hn pp ts hp ⟨c, hmt⟩
  · rename_i hne
    have : id ∉ qIds q' := fun hm => by
      obtain ⟨t, a, b⟩ := h.rq_of_mem hq' hm
      rw [hf] at a; cases a
      exact hne b.symm
    exact ⟨fun hm => this (mem_qIds.mpr (Or.inl hm)), fun hm => this (mem_qIds.mpr (Or.inr hm))⟩

theorem removePrefilled_npq {D R} {s s' : State} {rq : Nat} {id : TaskId} (h : NpQ D R s)
    (heq : s.removePrefilled rq id = .ok s') : NpQ (fun x => D x ∨ x = id) R s' ∧ NoQ s' id := by
  obtain ⟨q, pp, ts, hq, hp, hm, rfl⟩ := removePrefilled_ok_iff.mp heq
  have hpq : pfIds q = ts := by simp only [pfIds, hp]
  have hnd : ts.Nodup := hpq ▸ (h.qok hq).pnd
  have hpfq : id ∈ pfIds q := hpq ▸ hm
  constructor
  · refine h.set_queue hq (shrunk_erase hp id) ?_ (fun _ hd => Or.inl hd)
    intro x hx
    rw [pfIds_ite]
    by_cases e : x = id
    · exact Or.inr (Or.inr e)
    · exact Or.inl ((List.mem_erase_of_ne e).mpr (hpq ▸ hx))
  · refine h.noQ_of_set hq (mem_qIds.mpr (Or.inr hpfq)) ?_
    intro hm'
    rcases mem_qIds.mp hm' with hm' | hm'
    · exact h.ready_prefill_disjoint hq hm' hpfq
    · rw [pfIds_ite] at hm'
      exact (hnd.mem_erase_iff.mp hm').1 rfl

/-- what `add_ready_task` does to queue `j` -/
def addQ (t : Task) (j : Nat) (q : Queue) : Queue :=
  if j = t.rq then
    { (q.checkDispose t.prio).1 with ready := readyAdd (q.checkDispose t.prio).1.ready t.id t.prio }
  else (q.checkDispose t.prio).1

theorem addQ_prefill (t : Task) (j : Nat) (q : Queue) : (addQ t j q).prefill = (q.checkDispose t.prio).1.prefill := by
  unfold addQ; split <;> rfl

theorem addQ_ready_wf {t : Task} {j : Nat} {q : Queue} (h : ReadyWf q.ready) : ReadyWf (addQ t j q).ready := by
  unfold addQ
  split
  · exact readyAdd_wf (checkDispose_ready_wf h)
  · exact checkDispose_ready_wf h

theorem mem_rPairs_addQ {t : Task} {j : Nat} {q : Queue} {x : Int × TaskId} :
    x ∈ rPairs (addQ t j q).ready ↔ (j = t.rq ∧ x = (t.prio, t.id)) ∨ x ∈ rPairs q.ready ∨
      ∃ pp ts, q.prefill = some (pp, ts) ∧ pp < t.prio ∧ x.1 = pp ∧ x.2 ∈ ts := by
  unfold addQ
  split
  · rename_i e
    simp only [mem_rPairs_readyAdd, mem_rPairs_checkDispose, e, true_and]
  · rename_i e
    simp only [mem_rPairs_checkDispose, e, false_and, false_or]

theorem getElem?_disposeAdd (qs : List Queue) (t : Task) (j : Nat) :
    (modifyQueue (disposeAll qs t.prio).1 t.rq fun q => { q with ready := readyAdd q.ready t.id t.prio })[j]? =
      (qs[j]?).map (addQ t j) := by
  simp only [getElem?_modifyQueue, getElem?_disposeAll]
  unfold addQ
  split
  · rename_i e
    subst e
    cases qs[t.rq]? <;> simp
  · rename_i e
    cases qs[j]? <;> simp

theorem mem_disposed {s : State} {p : Int} {x : TaskId} :
    x ∈ (disposeAll s.queues p).2 ↔
      ∃ (i : Nat) (q : Queue) (pp : Int) (ts : List TaskId), s.queues[i]? = some q ∧ q.prefill = some (pp, ts) ∧ pp < p ∧ x ∈ ts := by
  rw [mem_disposeAll_snd]
  constructor
  · rintro ⟨q, hq, hx⟩
    obtain ⟨i, hi⟩ := List.getElem?_of_mem hq
    obtain ⟨pp, ts, a, b, c⟩ := mem_checkDispose_snd.mp hx
    exact ⟨i, q, pp, ts, hi, a, b, c⟩
  · rintro ⟨i, q, pp, ts, hi, a, b, c⟩
    exact ⟨q, List.mem_of_getElem? hi, mem_checkDispose_snd.mpr ⟨pp, ts, a, b, c⟩⟩

theorem addReady_npq {D R} {s s' : State} {t t0 : Task} {r : List TaskId} (h : NpQ D R s)
    (hf : s.task? t.id = some t0) (hrq : t0.rq = t.rq) (hp : t0.prio = t.prio)
    (hs : t0.state = .waiting 0 ∨ ((∃ w, t0.state = .retracting w) ∧ ∀ x ∈ s.redirects, x.1 ≠ t.id))
    (heq : s.addReady t = .ok (s', r)) : NpQ D (R ++ r) s' := by
  obtain ⟨_, hre, rfl⟩ := addReady_ok_iff.mp heq
  have ht : ∀ {qs}, ({ s with queues := qs } : State).tasks = s.tasks := rfl
  have hr : ∀ {qs}, ({ s with queues := qs } : State).redirects = s.redirects := rfl
  have hget := getElem?_disposeAdd s.queues t
  have htk : ∀ {qs} x, ({ s with queues := qs } : State).task? x = s.task? x := fun _ => rfl
  have hmr : ∀ x, x ∈ r ↔ ∃ (i : Nat) (q : Queue) (pp : Int) (ts : List TaskId),
      s.queues[i]? = some q ∧ q.prefill = some (pp, ts) ∧ pp < t.prio ∧ x ∈ ts := by
    intro x; rw [hre]; exact mem_disposed
  -- an id of a prefill set that is kept is not retracted
  have hkeep : ∀ (j : Nat) (q : Queue) (pp : Int) (ts : List TaskId), s.queues[j]? = some q → q.prefill = some (pp, ts) →
      ¬ pp < t.prio → ∀ id ∈ ts, id ∉ r := by
    intro j q pp ts hq hpf hnl id hid hin
    obtain ⟨i, q2, pp2, ts2, hq2, hpf2, hlt2, hid2⟩ := (hmr id).mp hin
    have e := h.pf_unique hq hq2 (mem_pfIds.mpr ⟨pp, ts, hpf, hid⟩) (mem_pfIds.mpr ⟨pp2, ts2, hpf2, hid2⟩)
    subst e
    rw [hq] at hq2; cases hq2
    rw [hpf] at hpf2; cases hpf2
    exact hnl hlt2
  refine npq_iff.mpr ⟨?_, ?_, ?_, ?_⟩
  · intro j q' hq'
    rw [hget] at hq'
    cases hq : s.queues[j]? with
    | none => rw [hq] at hq'; cases hq'
    | some q =>
      rw [hq] at hq'
      simp only [Option.map_some, Option.some.injEq] at hq'
      subst hq'
      have hok := h.qok hq
      refine ⟨addQ_ready_wf hok.wf, ?_, ?_, ?_⟩
      · rintro ⟨xp, xid⟩ hx
        rcases mem_rPairs_addQ.mp hx with ⟨e1, e2⟩ | hx1 | ⟨pp, ts, hpf, hlt, e1, e2⟩
        · simp only [Prod.mk.injEq] at e2
          obtain ⟨rfl, rfl⟩ := e2
          refine readyGood_iff.mpr ⟨t0, by rw [htk]; exact hf, hrq.trans e1.symm, hp, ?_⟩
          rcases hs with hs | ⟨hs1, hs2⟩
          · exact Or.inl hs
          · exact Or.inr (Or.inl ⟨hs1, by rw [hr]; exact hs2⟩)
        · exact (hok.rg _ hx1).of_key (.of_eq (htk _)) (fun y hy _ => hr ▸ hy) (List.mem_append_left _)
        · simp only at e1 e2
          subst e1
          obtain ⟨t1, w, a, b, c, _, e⟩ := pfGood_iff.mp (hok.pg _ ts hpf xid e2)
          refine readyGood_iff.mpr ⟨t1, by rw [htk]; exact a, b, c, Or.inr (Or.inr ⟨⟨w, e⟩, ?_⟩)⟩
          exact List.mem_append_right _ ((hmr xid).mpr ⟨j, q, _, ts, hq, hpf, hlt, e2⟩)
      · have : pfIds (addQ t j q) = pfIds q ∨ pfIds (addQ t j q) = [] := by
          simp only [pfIds, addQ_prefill]
          rcases checkDispose_cases q t.prio with ⟨pp, ts, _, _, e⟩ | ⟨_, e⟩ <;> rw [e]
          · exact Or.inr rfl
          · exact Or.inl rfl
        rcases this with e | e <;> rw [e]
        · exact hok.pnd
        · simp
      · intro pp ts hpf id hid
        rw [addQ_prefill, checkDispose_prefill] at hpf
        exact (hok.pg pp ts hpf.1 id hid).of_key (.of_eq (htk _))
          (fun hin => (List.mem_append.mp hin).resolve_right (hkeep j q pp ts hq hpf.1 hpf.2 id hid))
  · rw [ht]
    intro t1 htm hpre hR hD
    have hR1 : t1.id ∉ R := fun e => hR (List.mem_append_left _ e)
    have hR2 : t1.id ∉ r := fun e => hR (List.mem_append_right _ e)
    have hin := h.pin t1 htm hpre hR1 hD
    rw [inPrefill_iff] at hin ⊢
    obtain ⟨q, hq, hm⟩ := hin
    refine ⟨addQ t t1.rq q, by rw [hget, hq]; rfl, ?_⟩
    obtain ⟨pp, ts, hpf, hmt⟩ := mem_pfIds.mp hm
    refine mem_pfIds.mpr ⟨pp, ts, ?_, hmt⟩
    rw [addQ_prefill, checkDispose_prefill]
    refine ⟨hpf, fun hlt => hR2 ((hmr _).mpr ⟨t1.rq, q, pp, ts, hq, hpf, hlt, hmt⟩)⟩
  · rw [List.nodup_append]
    refine ⟨h.rnd, ?_, ?_⟩
    · rw [hre]
      refine disposeAll_snd_nodup (fun q hq => h.pnd q hq) ?_
      rw [List.pairwise_iff_getElem]
      intro i j hi hj hij x hx hx'
      have e := h.pf_unique (List.getElem?_eq_getElem hi) (List.getElem?_eq_getElem hj) hx hx'
      omega
    · intro x hx y hy exy
      subst exy
      obtain ⟨i, q, pp, ts, hq, hpf, _, hid⟩ := (hmr x).mp hy
      exact h.not_pf_of_R hx hq (mem_pfIds.mpr ⟨pp, ts, hpf, hid⟩)
  · intro id hid
    rcases List.mem_append.mp hid with h1 | h1
    · exact (h.rpre id h1).of_key (.of_eq (htk _))
    · obtain ⟨i, q, pp, ts, hq, hpf, _, hm⟩ := (hmr id).mp h1
      obtain ⟨t1, w, a, _, _, _, e⟩ := pfGood_iff.mp ((h.qok hq).pg pp ts hpf id hm)
      exact isPrefilled_iff.mpr ⟨t1, w, by rw [htk]; exact a, e⟩

end HqModel.Core.NPC
