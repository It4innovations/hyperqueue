import HqModel.Lemmas.CoreNoPanicQueueSched
/-!
Proactive filling (`prefillWorker` with its local loops `back` and `mark`) under `NpQ`, and the whole round
(`schedule_npq`). Inside `prefillWorker` the clause `pg` of `NpQ` is transiently false for the ids just moved from the
ready list into the prefill set; `NpJ K s` is `NpQ noD [] s` with `pg` weakened for these pending ids `K`. For the round
only uniqueness of the task ids is needed besides `NpQ`: a successful `take_tasks` returns exactly `Σ counts` ids and
`deal` places all of them, so the conditions on the solution play no role for preservation.
-/
namespace HqModel.Core.NPD

open NP NPC

/-- `NpQ noD [] s` in index / lookup form with `pg` weakened for the pending ids `K`: an id of a prefill set is `PfGood`,
or it is pending and still satisfies `ReadyGood` for the same (queue, priority); the pending ids are distinct, in no
ready list, and in the prefill set of their queue -/
structure NpJ (K : List TaskId) (s : State) : Prop where
  wf : ∀ (i : Nat) (q : Queue), s.queues[i]? = some q → ReadyWf q.ready
  rg : ∀ (i : Nat) (q : Queue), s.queues[i]? = some q → ∀ x ∈ rPairs q.ready, ReadyGood [] s i x.1 x.2
  pnd : ∀ (i : Nat) (q : Queue), s.queues[i]? = some q → (pfIds q).Nodup
  pg : ∀ (i : Nat) (q : Queue), s.queues[i]? = some q → ∀ pp ts, q.prefill = some (pp, ts) → ∀ id ∈ ts,
    PfGood [] s i pp id ∨ (id ∈ K ∧ ReadyGood [] s i pp id)
  pin : ∀ id t, s.task? id = some t → (∃ w, t.state = .prefilled w) → InPrefill s t
  knd : K.Nodup
  kq : ∀ id ∈ K, (∀ q ∈ s.queues, id ∉ rIds q.ready) ∧ ∃ t, s.task? id = some t ∧ InPrefill s t
  /-- a pending id is still what an id of a ready list is (`Waiting 0`, or Retracting without a redirect); the
  preservation of `NpQ` does not read it, the progress proof does (`NpJ.pending`) -/
  krg : ∀ id ∈ K, ∃ i pp, ReadyGood [] s i pp id

theorem npj_of_npq {s : State} (h : NpQ noD [] s) : NpJ [] s :=
  ⟨fun _ _ hq => h.wf' hq, fun _ _ hq _ hx => (h.qok hq).rg _ hx, fun _ _ hq => (h.qok hq).pnd,
   fun _ _ hq _ _ hp _ hid => Or.inl (h.pg' hq hp hid),
   fun _ _ ht hp => h.pin' ht hp (by simp) (fun e => e), List.nodup_nil, fun _ hid => (by cases hid),
   fun _ hid => (by cases hid)⟩

theorem NpJ.npq {s : State} (h : NpJ [] s) (hn : (taskIds s.tasks).Nodup) : NpQ noD [] s := by
  refine npq_iff.mpr ⟨fun i q hq => ⟨h.wf i q hq, h.rg i q hq, h.pnd i q hq, ?_⟩,
    fun t ht hp _ _ => h.pin t.id t (mem_find_of_nodup hn ht) hp, List.nodup_nil, fun _ h => by cases h⟩
  intro pp ts hp id hid
  rcases h.pg i q hq pp ts hp id hid with a | ⟨a, _⟩
  · exact a
  · cases a

theorem NpJ.perm {K K' : List TaskId} {s : State} (h : NpJ K s) (hp : K.Perm K') : NpJ K' s :=
  ⟨h.wf, h.rg, h.pnd,
   fun i q hq pp ts hpf id hid => (h.pg i q hq pp ts hpf id hid).imp (fun a => a) (fun a => ⟨hp.mem_iff.mp a.1, a.2⟩),
   h.pin, hp.nodup_iff.mp h.knd, fun id hid => h.kq id (hp.mem_iff.mpr hid),
   fun id hid => h.krg id (hp.mem_iff.mpr hid)⟩

/-- the ids `take_tasks_for_prefill` pops are tasks of request `rq` with the top priority that are
`Waiting 0` or Retracting without a redirect -/
theorem taken_readyGood {D : TaskId → Prop} {s : State} {rq : Nat} {q : Queue} (h : NpQ D [] s)
    (hq : s.queues[rq]? = some q) (size : Nat) :
    ∀ id ∈ (takeFromFirst q.ready size).2, ReadyGood [] s rq (topPrio q.ready) id :=
  fun _ hid => (h.qok hq).rg _ (takeFromFirst_taken_mem hid)

/-- what `NpJ` says about a pending id: a task that is `Waiting 0` or Retracting without a redirect, in the prefill set
of its queue -/
theorem NpJ.pending {K : List TaskId} {s : State} (h : NpJ K s) {id : TaskId} (hid : id ∈ K) :
    ∃ t, s.task? id = some t ∧ InPrefill s t ∧
      (t.state = .waiting 0 ∨ ((∃ w, t.state = .retracting w) ∧ ∀ x ∈ s.redirects, x.1 ≠ id)) := by
  obtain ⟨_, t, ht, hin⟩ := h.kq id hid
  obtain ⟨i, pp, hg⟩ := h.krg id hid
  obtain ⟨t', ht', _, _, hs⟩ := hg.elim
  rw [ht] at ht'; cases ht'
  refine ⟨t, ht, hin, ?_⟩
  rcases hs with a | a | ⟨_, a⟩
  · exact Or.inl a
  · exact Or.inr a
  · cases a

/-- the prefill set after `take_tasks_for_prefill` (its priority assertion passed), as `prefillWorker_path` has it -/
theorem prefillSet_cases {q : Queue} {p : Int} {taken : List TaskId} {pf : Int × List TaskId}
    (hpf : (match q.prefill with
        | some (pp, ts) => if pp ≠ p then (.error (.panic "take_tasks_for_prefill.assert_priority") : M (Int × List TaskId))
            else .ok (pp, ts ++ taken)
        | none => .ok (p, taken)) = .ok pf) :
    (q.prefill = none ∧ pf = (p, taken)) ∨ ∃ ts, q.prefill = some (p, ts) ∧ pf = (p, ts ++ taken) := by
  split at hpf
  · rename_i pp ts hpre
    split at hpf
    · cases hpf
    · rename_i hpp
      simp only [ne_eq, Decidable.not_not] at hpp
      cases hpf
      exact .inr ⟨ts, hpp ▸ hpre, hpp ▸ rfl⟩
  · rename_i hpre
    cases hpf
    exact .inl ⟨hpre, rfl⟩

theorem npj_start {s : State} {rq size : Nat} {q : Queue} {p : Int} {ids0 : List TaskId}
    {more : List (Int × List TaskId)} {pf : Int × List TaskId}
    (h : NpQ noD [] s) (hq : s.queues[rq]? = some q) (hready : q.ready = (p, ids0) :: more)
    (hpf : (q.prefill = none ∧ pf = (p, (takeFromFirst q.ready size).2)) ∨
      ∃ ts, q.prefill = some (p, ts) ∧ pf = (p, ts ++ (takeFromFirst q.ready size).2)) :
    NpJ (takeFromFirst q.ready size).2
      { s with queues := s.queues.set rq { ready := (takeFromFirst q.ready size).1, prefill := some pf } } := by
  have hlt : rq < s.queues.length := by
    obtain ⟨hl, _⟩ := List.getElem?_eq_some_iff.mp hq; exact hl
  have hI := takeFromFirst_ids q.ready size
  have hrn := h.ready_nodup hq
  have htop : topPrio q.ready = p := by rw [hready]; rfl
  have hshape : pf.1 = p ∧ (∀ x ∈ pfIds q, x ∈ pf.2) ∧ (∀ x ∈ (takeFromFirst q.ready size).2, x ∈ pf.2) ∧
      (∀ x ∈ pf.2, x ∈ pfIds q ∨ x ∈ (takeFromFirst q.ready size).2) ∧
      (∀ pp ts, q.prefill = some (pp, ts) → pp = p) ∧ pf.2.Nodup := by
    have hnd0 := hrn
    rw [hI, List.nodup_append] at hnd0
    rcases hpf with ⟨hpre, rfl⟩ | ⟨ts, hpre, rfl⟩
    · have e : pfIds q = [] := by simp [pfIds, hpre]
      refine ⟨rfl, ?_, fun _ hx => hx, fun _ hx => Or.inr hx, ?_, hnd0.1⟩
      · intro x hx; rw [e] at hx; cases hx
      · intro pp' ts' hh; rw [hpre] at hh; cases hh
    · have e : pfIds q = ts := by simp [pfIds, hpre]
      refine ⟨rfl, ?_, ?_, ?_, ?_, ?_⟩
      · intro x hx; rw [e] at hx; exact List.mem_append.mpr (Or.inl hx)
      · intro x hx; exact List.mem_append.mpr (Or.inr hx)
      · intro x hx; rw [e]; exact List.mem_append.mp hx
      · intro pp' ts' hh; rw [hpre] at hh; cases hh; rfl
      · show (ts ++ (takeFromFirst q.ready size).2).Nodup
        rw [List.nodup_append]
        refine ⟨e ▸ (h.qok hq).pnd, hnd0.1, ?_⟩
        intro a ha b hb eab
        subst eab
        exact h.ready_prefill_disjoint hq (by rw [hI]; exact List.mem_append.mpr (Or.inl hb)) (e ▸ ha)
  obtain ⟨hp1, hsub1, hsub2, hcov, hpp, hpnd⟩ := hshape
  have hpfIds : pfIds ({ ready := (takeFromFirst q.ready size).1, prefill := some pf } : Queue) = pf.2 := rfl
  refine ⟨?wf, ?rg, ?pnd, ?pg, ?pin, ?knd, ?kq, ?krg⟩
  case krg =>
    intro x hx
    exact ⟨rq, topPrio q.ready, taken_readyGood h hq size x hx⟩
  case wf =>
    intro j qq hj
    rcases getElem?_set_cases hq hj with ⟨_, rfl⟩ | ⟨_, hj'⟩
    · exact takeFromFirst_wf (h.wf' hq) _
    · exact h.wf' hj'
  case rg =>
    intro j qq hj x hx
    rcases getElem?_set_cases hq hj with ⟨rfl, rfl⟩ | ⟨_, hj'⟩
    · exact (h.qok hq).rg _ (takeFromFirst_rest_sub hx)
    · exact (h.qok hj').rg _ hx
  case pnd =>
    intro j qq hj
    rcases getElem?_set_cases hq hj with ⟨_, rfl⟩ | ⟨_, hj'⟩
    · rw [hpfIds]; exact hpnd
    · exact (h.qok hj').pnd
  case pg =>
    intro j qq hj pp ts hpre x hx
    rcases getElem?_set_cases hq hj with ⟨rfl, rfl⟩ | ⟨_, hj'⟩
    · simp only [Option.some.injEq] at hpre
      subst hpre
      simp only at hp1 hx
      subst hp1
      rcases hcov x hx with a | a
      · left
        unfold pfIds at a
        split at a
        · rename_i pp0 ts0 hp0
          have := hpp pp0 ts0 hp0
          subst this
          exact (h.pg' hq hp0 a)
        · cases a
      · right
        refine ⟨a, ?_⟩
        have := takeFromFirst_taken_mem a
        rw [htop] at this
        exact (h.qok hq).rg _ this
    · exact Or.inl (h.pg' hj' hpre hx)
  case pin =>
    intro x t hxt hpr
    have hin := h.pin' (s := s) hxt hpr (by simp) (fun e => e)
    exact inPrefill_set hq hin (fun _ hm => hpfIds ▸ hsub1 _ hm)
  case knd =>
    rw [hI, List.nodup_append] at hrn; exact hrn.1
  case kq =>
    intro x hx
    have hxr : x ∈ rIds q.ready := by rw [hI]; exact List.mem_append.mpr (Or.inl hx)
    constructor
    · intro qq hqq hm
      obtain ⟨j, hj⟩ := List.mem_iff_getElem?.mp hqq
      rcases getElem?_set_cases hq hj with ⟨_, rfl⟩ | ⟨hne, hj'⟩
      · rw [hI, List.nodup_append] at hrn
        exact hrn.2.2 x hx x hm rfl
      · apply hne
        refine h.queue_unique hj' hq (id := x) ?_ ?_
        · rw [qIds_eq']; exact List.mem_append.mpr (Or.inl hm)
        · rw [qIds_eq']; exact List.mem_append.mpr (Or.inl hxr)
    · obtain ⟨e, he, hm⟩ := mem_rIds.mp hxr
      obtain ⟨t, ht, hrq, _⟩ := (h.rg' hq he hm).elim
      refine ⟨t, ht, ?_⟩
      have hid : t.id = x := findTask_some_id ht
      unfold InPrefill
      show (match (s.queues.set rq _)[t.rq]? with | some q => t.id ∈ pfIds q | none => False)
      rw [hrq, List.getElem?_set_self hlt, hid]
      exact hsub2 x hx

theorem npj_move {K : List TaskId} {s s' : State} {rq : Nat} {id : TaskId} {t : Task} {w0 : Nat}
    (h : NpJ (id :: K) s) (ht : s.task? id = some t) (hs : t.state = .retracting w0)
    (hm : s.movePrefilledToReady rq id = .ok s') : NpJ K s' := by
  obtain ⟨q, pp, ts, hq, hpre, htm, rfl⟩ := movePrefilledToReady_ok_iff.mp hm
  have hnd : ts.Nodup := by have := h.pnd rq q hq; simpa [pfIds, hpre] using this
  have hknd := List.nodup_cons.mp h.knd
  have hrg : ReadyGood [] s rq pp id := by
    rcases h.pg rq q hq pp ts hpre id htm with a | a
    · obtain ⟨t', w, ht', _, _, _, hs'⟩ := a.elim
      rw [ht] at ht'; cases ht'
      rw [hs] at hs'; cases hs'
    · exact a.2
  have hpfIds : pfIds ({ ready := readyAdd q.ready id pp, prefill := if (ts.erase id).isEmpty then none else some (pp, ts.erase id) } : Queue) = ts.erase id :=
    pfIds_ite _ _ _
  have hpq : pfIds q = ts := by simp [pfIds, hpre]
  have hinp : ∀ t' : Task, t'.id ≠ id → InPrefill s t' → InPrefill { s with queues := s.queues.set rq { ready := readyAdd q.ready id pp, prefill := if (ts.erase id).isEmpty then none else some (pp, ts.erase id) } } t' := by
    intro t' hne hin
    refine inPrefill_set hq hin ?_
    intro _ hmem
    rw [hpfIds, List.Nodup.mem_erase_iff hnd]
    rw [hpq] at hmem
    exact ⟨hne, hmem⟩
  refine ⟨?wf, ?rg, ?pnd, ?pg, ?pin, hknd.2, ?kq, ?krg⟩
  case krg =>
    intro x hx
    obtain ⟨i, pp', hg⟩ := h.krg x (List.mem_cons_of_mem _ hx)
    exact ⟨i, pp', hg⟩
  case wf =>
    intro j qq hj
    rcases getElem?_set_cases hq hj with ⟨_, rfl⟩ | ⟨_, hj'⟩
    · exact readyAdd_wf (h.wf rq q hq)
    · exact h.wf j qq hj'
  case rg =>
    intro j qq hj x hx
    rcases getElem?_set_cases hq hj with ⟨rfl, rfl⟩ | ⟨_, hj'⟩
    · rcases mem_rPairs_readyAdd.mp hx with e | e
      · subst e; exact hrg
      · exact (h.rg _ q hq x e)
    · exact (h.rg j qq hj' x hx)
  case pnd =>
    intro j qq hj
    rcases getElem?_set_cases hq hj with ⟨_, rfl⟩ | ⟨_, hj'⟩
    · rw [hpfIds]; exact List.Sublist.nodup List.erase_sublist hnd
    · exact h.pnd j qq hj'
  case pg =>
    intro j qq hj pp' ts' hpre' x hx
    rcases getElem?_set_cases hq hj with ⟨rfl, rfl⟩ | ⟨hjne, hj'⟩
    · simp only at hpre'
      split at hpre'
      · cases hpre'
      · cases hpre'
        have hx' := (List.Nodup.mem_erase_iff hnd).mp hx
        rcases h.pg _ q hq pp ts hpre x hx'.2 with a | a
        · exact Or.inl a
        · refine Or.inr ⟨?_, a.2⟩
          rcases List.mem_cons.mp a.1 with e | e
          · exact absurd e hx'.1
          · exact e
    · exact (h.pg j qq hj' pp' ts' hpre' x hx).imp (fun a => a) (fun a => by
        refine ⟨?_, a.2⟩
        rcases List.mem_cons.mp a.1 with e | e
        · -- `id` is in the prefill set of queue `rq` only
          exfalso
          subst e
          obtain ⟨t1, ht1, hr1, _⟩ := a.2.elim
          obtain ⟨t2, ht2, hr2, _⟩ := hrg.elim
          rw [ht1] at ht2; cases ht2
          exact hjne (hr1.symm.trans hr2)
        · exact e)
  case pin =>
    intro x t' hxt hpr
    have hin := h.pin x t' hxt hpr
    refine hinp t' ?_ hin
    intro e
    have hid : t'.id = x := findTask_some_id hxt
    rw [hid] at e; subst e
    change s.task? x = some t' at hxt
    rw [ht] at hxt; cases hxt
    obtain ⟨w, hw⟩ := hpr
    rw [hs] at hw; cases hw
  case kq =>
    intro x hx
    have hxne : x ≠ id := fun e => hknd.1 (e ▸ hx)
    obtain ⟨a, t', ht', hin'⟩ := h.kq x (List.mem_cons_of_mem _ hx)
    constructor
    · intro qq hqq hmem
      obtain ⟨j, hj⟩ := List.mem_iff_getElem?.mp hqq
      rcases getElem?_set_cases hq hj with ⟨_, rfl⟩ | ⟨_, hj'⟩
      · obtain ⟨p', hp'⟩ := mem_rIds_iff_pairs.mp hmem
        rcases mem_rPairs_readyAdd.mp hp' with e | e
        · simp only [Prod.mk.injEq] at e; exact hxne e.2
        · exact a q (List.mem_of_getElem? hq) (mem_rIds_iff_pairs.mpr ⟨p', e⟩)
      · exact a qq (List.mem_of_getElem? hj') hmem
    · refine ⟨t', ht', hinp t' ?_ hin'⟩
      rw [findTask_some_id ht']; exact hxne

theorem prefillBack_npj {rq : Nat} {l : List TaskId} {s s' : State} {keep keep' : List TaskId}
    (h : NpJ (l ++ keep) s) (hb : State.prefillWorker.back rq s l keep = .ok (s', keep')) : NpJ keep' s' := by
  refine prefillBack_ind (P := fun l s keep => NpJ (l ++ keep) s) ?_ ?_ h hb
  · intro id rest s keep t w s2 h0 ht hs hm
    exact npj_move (K := rest ++ keep) h0 (getTask_spec ht) hs hm
  · intro id rest s keep t h0 _ _
    -- (id :: rest) ++ keep ~ rest ++ (keep ++ [id])
    refine h0.perm ?_
    have : (id :: rest ++ keep).Perm (rest ++ keep ++ [id]) := (List.perm_append_singleton id (rest ++ keep)).symm
    simpa [List.append_assoc] using this

theorem npj_markStep {K : List TaskId} {s s' : State} {id : TaskId} {t : Task} {n w : Nat}
    (h : NpJ (id :: K) s) (ht : s.task? id = some t) (hs : t.state = .waiting n)
    (htasks : s'.tasks = putTask s.tasks { t with state := .prefilled w }) (hq : s'.queues = s.queues)
    (hr : s'.redirects = s.redirects) : NpJ K s' := by
  have hid : t.id = id := findTask_some_id ht
  have hknd := List.nodup_cons.mp h.knd
  have hother : ∀ x, x ≠ id → s'.task? x = s.task? x := by
    intro x hx
    show findTask s'.tasks x = findTask s.tasks x
    rw [htasks, findTask_putTask]
    simp only [hid, hx, if_false]
  have hself : s'.task? id = some { t with state := .prefilled w } := by
    show findTask s'.tasks id = _
    rw [htasks, findTask_putTask]
    simp only [hid, if_true]
    change (s.task? id).map _ = _
    rw [ht]; rfl
  have hkid := (h.kq id List.mem_cons_self)
  refine ⟨?wf, ?rg, ?pnd, ?pg, ?pin, hknd.2, ?kq, ?krg⟩
  case krg =>
    intro x hx
    have hxne : x ≠ id := fun e => hknd.1 (e ▸ hx)
    obtain ⟨i, pp', hg⟩ := h.krg x (List.mem_cons_of_mem _ hx)
    exact ⟨i, pp', hg.of_eq (hother x hxne) (fun y hy _ => hr ▸ hy)⟩
  case wf =>
    intro j qq hj; rw [hq] at hj; exact h.wf j qq hj
  case rg =>
    intro j qq hj x hx
    rw [hq] at hj
    have hne : x.2 ≠ id := by
      intro e
      exact hkid.1 qq (List.mem_of_getElem? hj) (e ▸ mem_rIds_iff_pairs.mpr ⟨x.1, hx⟩)
    exact (h.rg j qq hj x hx).of_eq (hother _ hne) (fun y hy _ => hr ▸ hy)
  case pnd =>
    intro j qq hj; rw [hq] at hj; exact h.pnd j qq hj
  case pg =>
    intro j qq hj pp ts hpre x hx
    rw [hq] at hj
    by_cases e : x = id
    · subst e
      left
      rcases h.pg j qq hj pp ts hpre x hx with a | a
      · obtain ⟨t', w', ht', _, _, _, hs'⟩ := a.elim
        rw [ht] at ht'; cases ht'
        rw [hs] at hs'; cases hs'
      · obtain ⟨t', ht', hrq, hp, _⟩ := a.2.elim
        rw [ht] at ht'; cases ht'
        exact PfGood.intro hself hrq hp (by simp) rfl
    · rcases h.pg j qq hj pp ts hpre x hx with a | a
      · exact Or.inl (a.of_eq (hother x e))
      · refine Or.inr ⟨?_, a.2.of_eq (hother x e) (fun y hy _ => hr ▸ hy)⟩
        rcases List.mem_cons.mp a.1 with e' | e'
        · exact absurd e' e
        · exact e'
  case pin =>
    intro x t' hxt hpr
    by_cases e : x = id
    · subst e
      rw [hself] at hxt; cases hxt
      obtain ⟨t0, ht0, hin⟩ := hkid.2
      rw [ht] at ht0; cases ht0
      exact (hin.of_rec (t' := { t with state := .prefilled w }) rfl rfl).of_queues hq
    · rw [hother x e] at hxt
      exact (h.pin x t' hxt hpr).of_queues hq
  case kq =>
    intro x hx
    have hxne : x ≠ id := fun e => hknd.1 (e ▸ hx)
    obtain ⟨a, t', ht', hin'⟩ := h.kq x (List.mem_cons_of_mem _ hx)
    refine ⟨?_, t', (hother x hxne).trans ht', hin'.of_queues hq⟩
    rw [hq]; exact a

theorem prefillMark_npj {w : Nat} {l : List TaskId} {s s' : State} (h : NpJ l s)
    (hm : State.prefillWorker.mark w s l = .ok s') : NpJ [] s' := by
  refine prefillMark_ind (P := fun l s => NpJ l s) ?_ h hm
  intro id rest s t n s2 h0 ht hs hw
  obtain ⟨_, _, _, _, rfl⟩ := withWorker_spec hw
  exact npj_markStep h0 (getTask_spec ht) hs rfl rfl rfl

theorem prefillWorker_npq {s s' : State} {m m' : List WUpdate} {rq size w : Nat} (h : NpQ noD [] s)
    (hn : (taskIds s.tasks).Nodup) (hp : s.prefillWorker m rq size w = .ok (s', m')) : NpQ noD [] s' := by
  have hn' : (taskIds s'.tasks).Nodup := by rw [prefillWorker_stable hp]; exact hn
  obtain ⟨q, p, ids, more, pf, s2, keep, hq, hready, hpf, hb, hm, _⟩ := prefillWorker_path hp
  have hJ := npj_start (size := size) h hq hready hpf
  exact (prefillMark_npj (prefillBack_npj (by simpa using hJ) hb) hm).npq hn'

theorem prefillWorkers_npq {ws : List Nat} {s s' : State} {m m' : List WUpdate} {rq size : Nat} (h : NpQ noD [] s)
    (hn : (taskIds s.tasks).Nodup) (hp : s.prefillWorkers m rq size ws = .ok (s', m')) : NpQ noD [] s' :=
  (prefillWorkers_ind (P := fun _ s _ => NpQ noD [] s ∧ (taskIds s.tasks).Nodup)
    (fun _ _ _ _ _ _ h0 h1 => ⟨prefillWorker_npq h0.1 h0.2 h1, prefillWorker_stable h1 ▸ h0.2⟩) ⟨h, hn⟩ hp).1

theorem proactive_npq {n : Nat} {s s' : State} {m m' : List WUpdate} {orders : List (Nat × List Nat)} {top : Int}
    {rq : Nat} (h : NpQ noD [] s) (hn : (taskIds s.tasks).Nodup)
    (hp : s.proactive m orders top n rq = .ok (s', m')) : NpQ noD [] s' :=
  (proactive_ind (P := fun s _ => NpQ noD [] s ∧ (taskIds s.tasks).Nodup)
    (fun _ _ _ _ _ _ _ _ h0 _ _ h1 =>
      ⟨prefillWorkers_npq h0.1 h0.2 h1, prefillWorkers_ids _ _ _ _ _ _ _ h1 ▸ h0.2⟩) ⟨h, hn⟩ hp).1

theorem schedule_npq {s s' : State} {sol : Solution} {out : Out} (h : NpQ noD [] s) (hn : (taskIds s.tasks).Nodup)
    (hp : s.schedule sol = .ok (s', out)) : NpQ noD [] s' := by
  obtain ⟨s1, m1, s2, mnTasks, s3, m3, _, _, top, n, h1, h2, _, h3, _, _, rfl, _⟩ := schedule_path hp
  have n1 : (taskIds s1.tasks).Nodup := by rw [mapSn_ids _ _ _ _ _ _ h1]; exact hn
  have n2 : (taskIds s2.tasks).Nodup := by rw [mapMn_ids _ _ _ _ _ h2]; exact n1
  exact (proactive_npq (mapMn_npq (mapSn_npq h hn h1) n1 h2) n2 h3).frame
    rfl rfl (fun _ hx => hx)

end HqModel.Core.NPD
