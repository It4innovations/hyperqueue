import HqModel.Lemmas.CoreInvAct
import HqModel.Lemmas.OkAnd
/-!
`Inv` along `step` and `run`: `step_inv` (every operation keeps `Inv` under `OpOk2`: the reactor as a chain of acts,
`Act.kept`; a scheduling round, `schedule_inv`), `RunOk`, `run_inv` for runs from the empty core, the clauses of `Inv` in
the vocabulary of the model, the witness that the Reject side condition is necessary. Of the resource equation what is
said without its step theorem (`step_kept` / `c05_step_full` are in `CoreInvFull`): `C05Inv`, `NoSaturation`, the
equation in the vocabulary of the model, the run of the F29 witness.

Side conditions: the theorems assume `OpOk2` (for `Inv`, `InvF`) and `StepHyp4 ∧ NoSaturation` = `OpOk4` (for `C05Full`).
`OpOk3` (on `UpdOk3`) and `StepHyp` are the forms with the additional clause `RdIn`, which follows from the invariant; no
theorem assumes them (`OpOk3.ok2`, `StepHyp.iff_hyp4` say how they relate to the others).
-/
namespace HqModel.Core

/-! ## `Inv` along `step` and `run` -/

/-- `Good`, with the consumer clause over the task list (decidable) -/
def GoodD (s : State) (i : Nat) (id : TaskId) : Prop :=
  (∀ task, findTask s.tasks id = some task → task.rq = i) ∧ ∀ dt ∈ s.tasks, id ∉ dt.consumers

instance (s : State) (i : Nat) (id : TaskId) : Decidable (GoodD s i id) := by
  unfold GoodD
  have : Decidable (∀ task, findTask s.tasks id = some task → task.rq = i) := by
    cases h : findTask s.tasks id with
    | none => exact isTrue (fun _ e => by cases e)
    | some task =>
      by_cases hq : task.rq = i
      · exact isTrue (fun t e => by cases e; exact hq)
      · exact isFalse (fun hh => hq (hh task rfl))
  infer_instance

/-- **decidable queue condition** for a state in which a scheduling round starts: every id in ready/prefill
queue `i` is (if known) a task of request `i`, and no task of the map lists it as a consumer -/
def QueueOkD (s : State) : Prop := ∀ p ∈ s.queues.zipIdx, ∀ id ∈ qIds p.1, GoodD s p.2 id

instance (s : State) : Decidable (QueueOkD s) := by unfold QueueOkD; infer_instance

theorem QueueOkD.ok {s : State} (h : QueueOkD s) : QueueOk s := by
  intro i q hq id hid task ht
  have hm : (q, i) ∈ s.queues.zipIdx := List.mem_zipIdx_iff_getElem?.mpr hq
  obtain ⟨g1, g2⟩ := h (q, i) hm id hid
  exact ⟨g1 task ht, fun d dt hd => g2 dt (findTask_some_mem hd)⟩

/-- side conditions of the operations under which `Inv` is preserved -/
def OpOk2 (s : State) : Op → Prop
  | .newWorker w => FreshWorker w
  | .update w us rets => UpdatesOk UpdProto s w us rets
  | .schedule sol => QueueOkD s ∧ SolMnOk s sol
  | _ => True

instance (s : State) (op : Op) : Decidable (OpOk2 s op) := by
  cases op <;> simp only [OpOk2] <;> infer_instance

theorem OpOk2.side {s : State} {op : Op} (hi : Inv s) (hok : OpOk2 s op) (hs : ∀ sol, op ≠ .schedule sol) : OpSide sideI [] s op := by
  cases op with
  | newWorker w => exact hok
  | removeWorker w reason f order rets =>
    exact fun wk hw => ⟨(hi.lost_side hw).1, trivial, fun A F P ha => ⟨(hi.lost_side hw).2 A F P ha, fun _ _ _ _ => trivial⟩⟩
  | newRq rqv => trivial
  | newTasks nts => exact ⟨fun _ _ _ _ => trivial, fun _ _ => trivial⟩
  | update w us rets => exact UpdatesOk.mono (fun _ _ _ => UpdProto.side) _ _ _ hok
  | cancel ids => trivial
  | retracted w ids => trivial
  | schedule sol => exact (hs sol rfl).elim

theorem step_inv {s s' : State} {op : Op} {out : Out} (hi : Inv s) (hok : OpOk2 s op)
    (h : step s op = .ok (s', out)) : Inv s' := by
  by_cases hs : ∃ sol, op = .schedule sol
  · obtain ⟨sol, rfl⟩ := hs
    exact schedule_inv hi hok.1.ok hok.2 h
  · exact ((step_acts (hok.side hi fun sol e => hs ⟨sol, e⟩) h).keptI (hi := hi)).inv

/-- the side condition holds for every operation of a run, each evaluated in the state it is applied to -/
def RunOk (P : State → Op → Prop) (s : State) : List Op → Prop
  | [] => True
  | op :: ops =>
    P s op ∧
    match step s op with
    | .ok (s1, _) => RunOk P s1 ops
    | .error _ => True

instance RunOk.decidable (P : State → Op → Prop) [∀ s op, Decidable (P s op)] :
    ∀ (ops : List Op) (s : State), Decidable (RunOk P s ops)
  | [], _ => isTrue trivial
  | op :: ops, s => by
    simp only [RunOk]
    cases h : step s op with
    | error e => simp only; infer_instance
    | ok r =>
      obtain ⟨s1, o⟩ := r
      simp only
      have := RunOk.decidable P ops s1
      infer_instance

theorem RunOk.mono {P Q : State → Op → Prop} (hpq : ∀ s op, P s op → Q s op) (ops : List Op) :
    ∀ s, RunOk P s ops → RunOk Q s ops := by
  induction ops with
  | nil => intro _ _; trivial
  | cons op rest ih =>
    intro s h
    simp only [RunOk] at h ⊢
    refine ⟨hpq _ _ h.1, ?_⟩
    have h2 := h.2
    split
    · rename_i s1 o he
      rw [he] at h2
      exact ih _ h2
    · trivial

theorem run_induction_ok {P : State → Prop} {C : State → Op → Prop}
    (hstep : ∀ s s' op out, P s → C s op → step s op = .ok (s', out) → P s')
    (ops : List Op) : ∀ (s s' : State) (out : Out), P s → RunOk C s ops → run s ops = .ok (s', out) → P s' := by
  induction ops with
  | nil => intro s s' out hp _ h; cases h; exact hp
  | cons op rest ih =>
    intro s s' out hp hok h
    obtain ⟨s1, o1, o2, h1, h2, _⟩ := run_cons_ok h
    simp only [RunOk, h1] at hok
    exact ih _ _ _ (hstep _ _ _ _ hp hok.1 h1) hok.2 h2

theorem inv_init : Inv {} := by
  refine ⟨List.nodup_nil, ⟨?_, ?_, ?_, ?_, List.nodup_nil, ?_, ?_⟩, ?_, ?_⟩
  · intro w t h; cases h
  · intro w t h; cases h
  · intro w t h; cases h
  · intro t w v h; cases h
  · intro w; exact List.nodup_nil
  · intro w; exact List.nodup_nil
  · intro d dt h; cases h
  · intro t task l h; cases h

/-- **`Inv` holds in every state of every run** from the empty core whose operations satisfy `OpOk2` -/
theorem run_inv {s : State} {ops : List Op} {out : Out} (hok : RunOk OpOk2 {} ops)
    (h : run {} ops = .ok (s, out)) : Inv s :=
  run_induction_ok (P := Inv) (C := OpOk2) (fun _ _ _ _ hp hc hs => step_inv hp hc hs) ops _ _ _ inv_init hok h

/-! ### the components of `Inv` in the vocabulary of the model -/

/-- every id in `assigned_tasks` of a worker is a task Assigned / Running there, or Retracting with a redirect
to that worker -/
theorem Inv.assigned_sound {s : State} (hi : Inv s) {w : Nat} {wk : Worker} {A : List TaskId} {F : List Nat}
    {P : List TaskId} (hw : s.worker? w = some wk) (ha : wk.assign = .sn A F P) {t : TaskId} (ht : t ∈ A) :
    ∃ task, s.task? t = some task ∧
      ((∃ v, task.state = .assigned w v) ∨ (∃ v, task.state = .running w v) ∨
       (∃ w0 v, task.state = .retracting w0 ∧ (t, w, v) ∈ s.redirects)) := by
  obtain ⟨st, h1, h2⟩ := hi.ls.a1 w t (mem_asgW_of hw ha ht)
  obtain ⟨task, hf, rfl⟩ := stOf_some h1
  refine ⟨task, hf, ?_⟩
  cases hs : task.state <;> rw [hs] at h2 <;> simp only [Holds_assigned, Holds_running, Holds_retracting,
    Holds_waiting, Holds_prefilled, Holds_runningMN, Holds_finished] at h2
  · subst h2; exact Or.inl ⟨_, rfl⟩
  · obtain ⟨v, hv⟩ := h2; exact Or.inr (Or.inr ⟨_, v, rfl, hv⟩)
  · subst h2; exact Or.inr (Or.inl ⟨_, rfl⟩)

/-- every id in `prefilled_tasks` of a worker is a task Prefilled there -/
theorem Inv.prefilled_sound {s : State} (hi : Inv s) {w : Nat} {wk : Worker} {A : List TaskId} {F : List Nat}
    {P : List TaskId} (hw : s.worker? w = some wk) (ha : wk.assign = .sn A F P) {t : TaskId} (ht : t ∈ P) :
    ∃ task, s.task? t = some task ∧ task.state = .prefilled w := by
  have h1 := hi.ls.a2 w t (preW_of_sn hw ha ▸ ht)
  obtain ⟨task, hf, e⟩ := stOf_some h1
  exact ⟨task, hf, e⟩

/-- a worker in a multi-node assignment for `t`: `t` is RunningMultiNode on a list containing the worker -/
theorem Inv.mn_sound {s : State} (hi : Inv s) {w : Nat} {wk : Worker} {t : TaskId} {root st : Bool}
    (hw : s.worker? w = some wk) (ha : wk.assign = .mn t root st) :
    ∃ task l, s.task? t = some task ∧ task.state = .runningMN l ∧ w ∈ l := by
  obtain ⟨l, h1, h2⟩ := hi.ls.m1 w t (mnW_of_mn hw ha)
  obtain ⟨task, hf, e⟩ := stOf_some h1
  exact ⟨task, l, hf, e, h2⟩

/-- the sets of a worker have no duplicates -/
theorem Inv.sets_nodup {s : State} (hi : Inv s) {w : Nat} {wk : Worker} {A : List TaskId} {F : List Nat}
    {P : List TaskId} (hw : s.worker? w = some wk) (ha : wk.assign = .sn A F P) : A.Nodup ∧ P.Nodup := by
  have h1 := hi.ls.nda w
  have h2 := hi.ls.ndp w
  rw [asgW_of_find hw] at h1
  rw [preW_of_find hw] at h2
  simp only [wAsg, wPre, ha] at h1 h2
  exact ⟨h1, h2⟩

/-- a task has a redirect only when it is Retracting, and at most one -/
theorem Inv.redirect_sound {s : State} (hi : Inv s) {t : TaskId} {w v : Nat} (h : (t, w, v) ∈ s.redirects) :
    (∃ task w0, s.task? t = some task ∧ task.state = .retracting w0) ∧
    ∀ w' v', (t, w', v') ∈ s.redirects → w' = w ∧ v' = v := by
  obtain ⟨w0, h1⟩ := hi.ls.d1 t w v h
  obtain ⟨task, hf, e⟩ := stOf_some h1
  exact ⟨⟨task, w0, hf, e⟩, fun w' v' h' => rd_unique hi.ls.d2 h' h⟩

/-! ### the Reject side condition is necessary -/

/-- a run that satisfies every side condition: two workers, one request, one task, placed on worker 1 -/
def rejectWitnessOps : List Op :=
  [.newWorker { id := 1, assign := .sn [] [10000] [], total := [10000] },
   .newWorker { id := 2, assign := .sn [] [10000] [], total := [10000] },
   .newRq [{ entries := [⟨0, .amount 10000⟩] }],
   .newTasks [{ id := (1, 0), rq := 0, prio := 0, crashLimit := .max 5, deps := [] }],
   .schedule { sn := [{ rq := 0, v := 0, counts := [(1, 1)], taken := [(1, 0)] }] }]

/-- a Reject for that task from worker 2, which the task is not assigned to -/
def rejectWitnessOp : Op := .update 2 [.reject (1, 0) (some 0)] []

/-- **`task_reject` from a wrong worker breaks the invariant**: after a run that satisfies all side conditions the
task (1,0) is Assigned to worker 1; the Reject of worker 2 is accepted ("Rejection from invalid worker" is only
logged), the task becomes Waiting and goes back to the queue, but stays in `assigned_tasks` of worker 1 with its
reservation. Hence the side condition `RejectOk` (which fails for this operation) cannot be dropped. -/
theorem reject_breaks_inv :
    ∃ s s' out out', RunOk OpOk2 {} rejectWitnessOps ∧ run {} rejectWitnessOps = .ok (s, out) ∧ Inv s ∧
      ¬ OpOk2 s rejectWitnessOp ∧ step s rejectWitnessOp = .ok (s', out') ∧ ¬ Inv s' := by
  have hok : RunOk OpOk2 {} rejectWitnessOps := by decide +kernel
  -- in `s'` the task is Waiting and still in the assigned set of worker 1
  obtain ⟨⟨s, out⟩, hrun, hev⟩ := Run.of_okAnd (x := run {} rejectWitnessOps) (c := fun r =>
    Run.okAnd (step r.1 rejectWitnessOp) fun r' => decide (¬ OpOk2 r.1 rejectWitnessOp ∧
      (1, 0) ∈ asgW r'.1.workers 1 ∧ stOf r'.1.tasks (1, 0) = some (.waiting 0))) (by decide +kernel)
  obtain ⟨⟨s', out'⟩, hstep, hd⟩ := Run.of_okAnd hev
  obtain ⟨h1, h2, h3⟩ := of_decide_eq_true hd
  refine ⟨s, s', out, out', hok, hrun, run_inv hok hrun, h1, hstep, fun hi' => ?_⟩
  obtain ⟨st, e1, e2⟩ := hi'.ls.a1 1 (1, 0) h2
  rw [h3] at e1; cases e1
  exact e2

/-! ## the resource equation: `C05Inv` and its side conditions -/

/-- structure (`Inv`), resource equation (`Res`), well-formed requests -/
structure C05Inv (s : State) : Prop where
  ir : IR s
  rqs : RqsOk s.rqs

/-- the side conditions with the redirect-target clause `RdIn` (no theorem assumes this form; `c05_step_full` is stated on
`OpOk4`, which has the clauses below without `RdIn`).
* `newWorker`: a fresh single-node record (what `Worker::new` builds);
* `newRq`: the request names every resource index once (`ResourceRequest::validate`);
* `update`: per message, in the state in which the reactor processes it: a Reject of an Assigned task comes from
  its worker and variant (`RejectOk`), a Running/RunningPrefilled of a Prefilled or Retracting task does not
  saturate the worker's free vector (`RunNoSat`, cf. finding F29);
* `schedule`: the queue/dependency clause `QueueOkD` of the sanity checks holds in the state the round starts from,
  multi-node placements are for multi-node requests; here also the redirect-target clause `RdIn`, which follows from the
  invariant. (Non-saturation of the placements needs NO hypothesis: the model rejects an overbooking placement as
  `!bad-choice`.) -/
def OpOk3 (s : State) : Op → Prop
  | .newWorker w => FreshWorker w
  | .newRq rqv => RqvOk rqv
  | .update w us rets => UpdatesOk UpdOk3 s w us rets
  | .schedule sol => QueueOkD s ∧ SolMnOk s sol ∧ RdIn s
  | _ => True

instance (s : State) (op : Op) : Decidable (OpOk3 s op) := by
  cases op <;> simp only [OpOk3] <;> infer_instance

theorem OpOk3.ok2 {s : State} {op : Op} (h : OpOk3 s op) : OpOk2 s op := by
  cases op <;> simp only [OpOk3, OpOk2] at h ⊢ <;> try exact h
  · exact UpdatesOk.mono (fun _ _ _ h => h.proto) _ _ _ h
  · exact ⟨h.1, h.2.1⟩

theorem UpdatesOk.and {P Q : State → Nat → Update → Prop} {w : Nat} (us : List Update) :
    ∀ (s : State) (rets : List (List TaskId)), UpdatesOk P s w us rets → UpdatesOk Q s w us rets →
      UpdatesOk (fun s w u => P s w u ∧ Q s w u) s w us rets := by
  induction us with
  | nil => intro _ _ _ _; trivial
  | cons u rest ih =>
    intro s rets h1 h2
    simp only [UpdatesOk] at h1 h2 ⊢
    refine ⟨⟨h1.1, h2.1⟩, ?_⟩
    have a := h1.2
    have b := h2.2
    split
    · rename_i s1 rets' he
      rw [he] at a b
      exact ih _ _ a b
    · trivial

/-- non-saturation of the booking a Running / RunningPrefilled message makes -/
def UpdNoSat (s : State) (w : Nat) : Update → Prop
  | .running t rv => RunNoSat s w t rv
  | .runningPrefilled t rv => RunNoSat s w t rv
  | _ => True

instance (s : State) (w : Nat) (u : Update) : Decidable (UpdNoSat s w u) := by
  cases u <;> simp only [UpdNoSat] <;> infer_instance

/-- **`NoSaturation s op`** — the decidable per-step side condition of `c05_inv_partial`: every
Running / RunningPrefilled message of a task-update operation that makes `task_running` book a request
(`task_from_prefilled_to_started` for a Prefilled task, `insert_sn_task` for a Retracting task) finds the request
fitting into the reporting worker's free vector, in the state in which the reactor processes the message.
All other operations: no condition (placements of a scheduling round are validated by the model itself). -/
def NoSaturation (s : State) : Op → Prop
  | .update w us rets => UpdatesOk UpdNoSat s w us rets
  | _ => True

instance (s : State) (op : Op) : Decidable (NoSaturation s op) := by
  cases op <;> simp only [NoSaturation] <;> infer_instance

/-- `StepHyp4` with the redirect-target clause `RdIn` in the scheduling round (`StepHyp.iff_hyp4`) -/
def StepHyp (s : State) : Op → Prop
  | .newWorker w => FreshWorker w
  | .newRq rqv => RqvOk rqv
  | .update w us rets => UpdatesOk UpdProto s w us rets
  | .schedule sol => QueueOkD s ∧ SolMnOk s sol ∧ RdIn s
  | _ => True

instance (s : State) (op : Op) : Decidable (StepHyp s op) := by
  cases op <;> simp only [StepHyp] <;> infer_instance

/-! ### the resource equation in the vocabulary of the model -/

/-- the request entries task `t` holds reserved (`[]` when it holds none) -/
def State.reserved (s : State) (t : TaskId) : List RqEntry := (resvOf s.tasks s.redirects s.rqs t).getD []

/-- a task Assigned / Running with variant `v` holds the entries of variant `v` of its request -/
theorem reserved_assigned {s : State} {t : TaskId} {task : Task} {w v : Nat} {r : Rq} (ht : s.task? t = some task)
    (hs : task.state = .assigned w v ∨ task.state = .running w v) (hr : s.rq task.rq v = .ok r) :
    s.reserved t = r.entries := by
  unfold State.reserved
  rw [resvOf_assigned (s := s) ht hs hr]; rfl

/-- a Retracting task holds the entries of the variant recorded in its redirect -/
theorem reserved_retracting {s : State} {t : TaskId} {task : Task} {w0 w v : Nat} {r : Rq} (hd2 : (s.redirects.map (·.1)).Nodup)
    (ht : s.task? t = some task) (hs : task.state = .retracting w0) (hm : (t, w, v) ∈ s.redirects)
    (hr : s.rq task.rq v = .ok r) : s.reserved t = r.entries := by
  unfold State.reserved
  rw [resvOf_retracting (s := s) ht hs (rd_find_of_mem hd2 hm) hr]; rfl

/-- **`ResInv`**: for every single-node worker and every resource index `r`:
`free r + Σ_{t ∈ assigned_tasks} need(t) r = total r`, no truncation, `Policy.all` = the whole `total r` -/
theorem C05Inv.resinv {s : State} (hi : C05Inv s) {w : Nat} {wk : Worker} {A : List TaskId} {F : List Nat}
    {P : List TaskId} (hw : s.worker? w = some wk) (ha : wk.assign = .sn A F P) (r : Nat) :
    getD F r + (A.map fun t => need wk.total (s.reserved t) r).sum = getD wk.total r :=
  (hi.ir.res w wk A F P hw ha).2 r

/-- every task in `assigned_tasks` has a determined reservation: it is Assigned/Running with a valid variant of
its request, or Retracting with a redirect that names a valid variant -/
theorem C05Inv.reserved_known {s : State} (hi : C05Inv s) {w : Nat} {wk : Worker} {A : List TaskId} {F : List Nat}
    {P : List TaskId} (hw : s.worker? w = some wk) (ha : wk.assign = .sn A F P) {t : TaskId} (ht : t ∈ A) :
    (resvOf s.tasks s.redirects s.rqs t).isSome :=
  (hi.ir.res w wk A F P hw ha).1 t ht

/-- executable form of the equation for one worker and resource -/
def resAtB (s : State) (w r : Nat) : Bool :=
  match s.worker? w with
  | some wk =>
    match wk.assign with
    | .sn A F _ => getD F r + (A.map fun t => need wk.total (s.reserved t) r).sum == getD wk.total r
    | .mn .. => true
  | none => true

theorem Res.resAtB {s : State} (h : Res s) (w r : Nat) : resAtB s w r = true := by
  unfold Core.resAtB
  cases hw : s.worker? w with
  | none => rfl
  | some wk =>
    simp only
    cases ha : wk.assign with
    | mn a b c => rfl
    | sn A F P =>
      simp only
      have := (h w wk A F P hw ha).2 r
      simpa [sumNeed, State.reserved] using this

/-! ### F29: the side condition `RunNoSat` is necessary -/

/-- a run that satisfies every side condition: one worker with one unit of resource 0, three tasks that need the
whole unit. Round 1 assigns task 0 and prefills task 1 on the worker; task 0 is cancelled (its reservation is
released at once); round 2 assigns task 2 to the worker: the unit is booked again. -/
def f29Ops : List Op :=
  [.newWorker { id := 1, assign := .sn [] [10000] [], total := [10000] },
   .newRq [{ entries := [⟨0, .amount 10000⟩] }],
   .newTasks [{ id := (1, 0), rq := 0, prio := 0, crashLimit := .max 5, deps := [] },
              { id := (1, 1), rq := 0, prio := 0, crashLimit := .max 5, deps := [] },
              { id := (1, 2), rq := 0, prio := 0, crashLimit := .max 5, deps := [] }],
   .schedule { sn := [{ rq := 0, v := 0, counts := [(1, 1)], taken := [(1, 0)] }], prefillOrders := [(0, [1])] },
   .cancel [(1, 0)],
   .schedule { sn := [{ rq := 0, v := 0, counts := [(1, 1)], taken := [(1, 2)] }] }]

/-- the worker reuses the allocation of the cancelled task for its backlog task 1 and reports RunningPrefilled -/
def f29Op : Op := .update 1 [.runningPrefilled (1, 1) 0] []

end HqModel.Core
