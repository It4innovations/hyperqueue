/-!
Facts about lists that the lemma files of more than one model use.
-/
namespace List

theorem filter_length_mono {α} {p q : α → Bool} {l : List α} (h : ∀ a ∈ l, p a = true → q a = true) :
    (l.filter p).length ≤ (l.filter q).length := by
  rw [← countP_eq_length_filter, ← countP_eq_length_filter]
  exact countP_mono_left h

theorem nodup_map_inj {α β} {f : α → β} : ∀ {l : List α}, (l.map f).Nodup → ∀ {a b}, a ∈ l → b ∈ l → f a = f b → a = b
  | [], _, _, _, ha, _, _ => nomatch ha
  | x :: xs, h, a, b, ha, hb, hab => by
    simp only [map_cons, nodup_cons, mem_map, not_exists, not_and] at h
    rcases mem_cons.mp ha with rfl | ha' <;> rcases mem_cons.mp hb with rfl | hb'
    · rfl
    · exact absurd hab.symm (h.1 b hb')
    · exact absurd hab (h.1 a ha')
    · exact nodup_map_inj h.2 ha' hb' hab

theorem find?_map_key {α : Type} (key : α → Nat) (l : List α) (f : α → α) (hf : ∀ y, key (f y) = key y) (x : Nat) :
    (l.map f).find? (key · == x) = (l.find? (key · == x)).map f := by
  simp [find?_map, Function.comp_def, hf]

theorem find?_filter_ne {α : Type} (key : α → Nat) (l : List α) (k x : Nat) :
    (l.filter (key · != k)).find? (key · == x) = if x = k then none else l.find? (key · == x) := by
  rw [find?_filter]
  by_cases hx : x = k
  · subst hx
    simp only [if_true, find?_eq_none]
    intro y _; simp
  · simp only [hx, if_false]
    congr 1
    funext y
    by_cases hy : key y = x
    · simp [hy, hx]
    · simp [hy]

end List
