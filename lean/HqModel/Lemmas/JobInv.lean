import HqModel.Lemmas.JobBasic
/-!
What every operation of `Job` returns when it succeeds (`…_eq_ok`: the new job written out), and that it preserves
`JobWF`.

The loop `markAll` has no closed form; a successful call is described from four sides: `markAll_frame` (what it leaves
alone), `MarkSpec` (per-state counts, for `JobWF`), `MarkHist` (the task table point by point, for the history and
journal proofs), `markAll_all` (membership, without unique keys: C08, C14).
-/
namespace HqModel.Job

theorem setRunning_eq_ok {job job' : Job} {t : Nat} (e : job.setRunning t = .ok job') :
    (lookup job.tasks t = some .waiting ∧
      job' = { job with tasks := setState job.tasks t .running,
                        cnt := { job.cnt with running := job.cnt.running + 1 } }) ∨
    (∃ x, lookup job.tasks t = some x ∧ x ≠ .waiting ∧ job' = job) := by
  unfold Job.setRunning at e
  split at e
  · cases e
  · rename_i hl; cases e; exact .inl ⟨hl, rfl⟩
  · rename_i x hnw hl; cases e; exact .inr ⟨x, hl, hnw, rfl⟩

theorem setFinished_eq_ok {job job' : Job} {t : Nat} {evs : List Ev} (e : job.setFinished t = .ok (job', evs)) :
    lookup job.tasks t = some .running ∧
    job' = { job with tasks := setState job.tasks t .finished,
                      cnt := { job.cnt with running := job.cnt.running - 1, finished := job.cnt.finished + 1 } } ∧
    evs = [.finished (job.id, t)] ++ job'.checkTermination := by
  unfold Job.setFinished at e
  split at e
  · cases e
  · rename_i hl; cases e; exact ⟨hl, rfl, rfl⟩
  · cases e

theorem setWaiting_eq_ok {job job' : Job} {t : Nat} (e : job.setWaiting t = .ok job') :
    lookup job.tasks t = some .running ∧
    job' = { job with tasks := setState job.tasks t .waiting,
                      cnt := { job.cnt with running := job.cnt.running - 1 } } := by
  unfold Job.setWaiting at e
  split at e
  · cases e
  · rename_i hl; cases e; exact ⟨hl, rfl⟩
  · cases e

/-- `set_failed_state` accepts a Running or a Waiting task (a failure before the first start); only a Running task
leaves the `running` counter -/
theorem setFailed_eq_ok {job job' : Job} {t : Nat} {evs : List Ev} (e : job.setFailed t = .ok (job', evs)) :
    ∃ a, (a = .running ∨ a = .waiting) ∧ lookup job.tasks t = some a ∧
      job' = { job with tasks := setState job.tasks t .failed,
                        cnt := { job.cnt with running := job.cnt.running - if a = .running then 1 else 0,
                                              failed := job.cnt.failed + 1 } } ∧
      evs = [.failed (job.id, t)] ++ job'.checkTermination := by
  unfold Job.setFailed at e
  split at e
  · cases e
  · rename_i hl; cases e; exact ⟨.running, .inl rfl, hl, rfl, rfl⟩
  · rename_i hl; cases e; exact ⟨.waiting, .inr rfl, hl, rfl, rfl⟩
  · cases e

theorem setWaiting_spec {job job' : Job} {t : Nat} (e : job.setWaiting t = .ok job') :
    lookup job.tasks t = some .running ∧ job'.tasks = setState job.tasks t .waiting ∧
    job'.cnt.running = job.cnt.running - 1 := by
  obtain ⟨hl, rfl⟩ := setWaiting_eq_ok e
  exact ⟨hl, rfl, rfl⟩

theorem JobWF.setTask {job : Job} {t : Nat} {a b : TState} {c : Counters} (w : JobWF job)
    (hl : lookup job.tasks t = some a)
    (hc : c.running + (if a = .running then 1 else 0) = job.cnt.running + (if b = .running then 1 else 0) ∧
      c.finished + (if a = .finished then 1 else 0) = job.cnt.finished + (if b = .finished then 1 else 0) ∧
      c.failed + (if a = .failed then 1 else 0) = job.cnt.failed + (if b = .failed then 1 else 0) ∧
      c.canceled + (if a = .canceled then 1 else 0) = job.cnt.canceled + (if b = .canceled then 1 else 0) ∧
      c.aborted + (if a = .aborted then 1 else 0) = job.cnt.aborted + (if b = .aborted then 1 else 0)) :
    JobWF { job with tasks := setState job.tasks t b, cnt := c } := by
  have key : ∀ {x : TState} {cx jx : Nat}, jx = countS job.tasks x →
      cx + (if a = x then 1 else 0) = jx + (if b = x then 1 else 0) → cx = countS (setState job.tasks t b) x := by
    intro x cx jx hj h
    subst hj
    exact Nat.add_right_cancel (h.trans (countS_setState x w.nodup hl).symm)
  exact ⟨by rw [keys_setState]; exact w.nodup, key w.running hc.1, key w.finished hc.2.1, key w.failed hc.2.2.1,
    key w.canceled hc.2.2.2.1, key w.aborted hc.2.2.2.2⟩

theorem lookup_running_pos {job : Job} {t : Nat} (h : JobWF job) (hl : lookup job.tasks t = some .running) :
    0 < job.cnt.running := by
  rw [h.running]; exact countS_pos hl

theorem JobWF.setRunning {job job' : Job} {t : Nat} (h : JobWF job) (e : job.setRunning t = .ok job') :
    JobWF job' := by
  rcases setRunning_eq_ok e with ⟨hl, rfl⟩ | ⟨_, _, _, rfl⟩
  · exact h.setTask hl ⟨rfl, rfl, rfl, rfl, rfl⟩
  · exact h

theorem JobWF.setWaiting {job job' : Job} {t : Nat} (h : JobWF job) (e : job.setWaiting t = .ok job') :
    JobWF job' := by
  obtain ⟨hl, rfl⟩ := setWaiting_eq_ok e
  exact h.setTask hl ⟨Nat.sub_add_cancel (lookup_running_pos h hl), rfl, rfl, rfl, rfl⟩

theorem JobWF.setFinished {job job' : Job} {t : Nat} {evs : List Ev} (h : JobWF job)
    (e : job.setFinished t = .ok (job', evs)) : JobWF job' := by
  obtain ⟨hl, rfl, -⟩ := setFinished_eq_ok e
  exact h.setTask hl ⟨Nat.sub_add_cancel (lookup_running_pos h hl), rfl, rfl, rfl, rfl⟩

theorem JobWF.setFailed {job job' : Job} {t : Nat} {evs : List Ev} (h : JobWF job)
    (e : job.setFailed t = .ok (job', evs)) : JobWF job' := by
  obtain ⟨a, ha, hl, rfl, -⟩ := setFailed_eq_ok e
  rcases ha with rfl | rfl
  · exact h.setTask hl ⟨Nat.sub_add_cancel (lookup_running_pos h hl), rfl, rfl, rfl, rfl⟩
  · exact h.setTask hl ⟨rfl, rfl, rfl, rfl, rfl⟩

theorem markAll_cons_eq_ok {job job' : Job} {target : TState} {site : String} {j t : Nat} {rest : List TaskId}
    (e : job.markAll target site ((j, t) :: rest) = .ok job') :
    j = job.id ∧ ∃ a, lookup job.tasks t = some a ∧ (a = .running ∨ a = .waiting) ∧
      Job.markAll { job with tasks := setState job.tasks t target,
                             cnt := { job.cnt with running := job.cnt.running - if a = .running then 1 else 0 } }
        target site rest = .ok job' := by
  simp only [Job.markAll] at e
  split at e
  · cases e
  · rename_i hj
    refine ⟨by simpa using hj, ?_⟩
    split at e
    · cases e
    · rename_i hl; exact ⟨.running, hl, .inl rfl, e⟩
    · rename_i hl; exact ⟨.waiting, hl, .inr rfl, e⟩
    · cases e

theorem markAll_frame {target : TState} {site : String} :
    ∀ {ids : List TaskId} {a b : Job}, a.markAll target site ids = .ok b →
      b.id = a.id ∧ b.isOpen = a.isOpen ∧ b.maxFails = a.maxFails ∧ keys b.tasks = keys a.tasks ∧
      b.cnt.finished = a.cnt.finished ∧ b.cnt.failed = a.cnt.failed ∧ b.cnt.canceled = a.cnt.canceled ∧
      b.cnt.aborted = a.cnt.aborted
  | [], a, b, e => by simp only [Job.markAll] at e; cases e; exact ⟨rfl, rfl, rfl, rfl, rfl, rfl, rfl, rfl⟩
  | (_, _) :: rest, a, b, e => by
    obtain ⟨-, _, -, -, e'⟩ := markAll_cons_eq_ok e
    obtain ⟨h1, h2, h3, h4, h5, h6, h7, h8⟩ := markAll_frame e'
    exact ⟨h1, h2, h3, h4.trans (keys_setState ..), h5, h6, h7, h8⟩

theorem markAll_keys {target : TState} {site : String} {ids : List TaskId} {a b : Job}
    (e : a.markAll target site ids = .ok b) : keys b.tasks = keys a.tasks := (markAll_frame e).2.2.2.1

/-- what `markAll` guarantees when it succeeds (target ∈ {canceled, aborted}) -/
structure MarkSpec (target : TState) (job job' : Job) (n : Nat) : Prop where
  id : job'.id = job.id
  isOpen : job'.isOpen = job.isOpen
  maxFails : job'.maxFails = job.maxFails
  keys : keys job'.tasks = keys job.tasks
  running : job'.cnt.running = countS job'.tasks .running
  finished : job'.cnt.finished = job.cnt.finished
  failed : job'.cnt.failed = job.cnt.failed
  canceled : job'.cnt.canceled = job.cnt.canceled
  aborted : job'.cnt.aborted = job.cnt.aborted
  cFinished : countS job'.tasks .finished = countS job.tasks .finished
  cFailed : countS job'.tasks .failed = countS job.tasks .failed
  cTarget : countS job'.tasks target = countS job.tasks target + n
  cOther : ∀ x, x ≠ target → x ≠ .running → x ≠ .waiting → countS job'.tasks x = countS job.tasks x

theorem markAll_spec {target : TState} {site : String} (ht1 : target ≠ .running) (ht2 : target ≠ .waiting)
    (ht3 : target ≠ .finished) (ht4 : target ≠ .failed) :
    ∀ {ids : List TaskId} {job job' : Job}, (keys job.tasks).Nodup →
      job.cnt.running = countS job.tasks .running →
      job.markAll target site ids = .ok job' → MarkSpec target job job' ids.length
  | [], job, job', _, hr, e => by
    simp only [Job.markAll] at e
    cases e
    exact ⟨rfl, rfl, rfl, rfl, hr, rfl, rfl, rfl, rfl, rfl, rfl, rfl, fun _ _ _ _ => rfl⟩
  | (_, t) :: rest, job, job', hnd, hr, e => by
    obtain ⟨-, a, hl, ha, e'⟩ := markAll_cons_eq_ok e
    -- `n x`: how the move of `t` from `a` to `target` changes the number of tasks in state `x`
    have n := fun x => countS_setState (b := target) x hnd hl
    have hax : ∀ x, x ≠ .running → x ≠ .waiting → ¬ a = x := by
      rintro x h1 h2 rfl; exact ha.elim h1 h2
    have s := markAll_spec ht1 ht2 ht3 ht4 (ids := rest) (by rw [keys_setState]; exact hnd)
      (by have := n .running
          rw [if_neg ht1, Nat.add_zero, ← hr] at this
          exact Nat.sub_eq_of_eq_add this.symm) e'
    refine ⟨s.id, s.isOpen, s.maxFails, s.keys.trans (keys_setState ..), s.running, s.finished, s.failed,
      s.canceled, s.aborted, ?_, ?_, ?_, ?_⟩
    · have := n .finished
      rw [if_neg (hax _ (by decide) (by decide)), if_neg ht3] at this
      exact s.cFinished.trans this
    · have := n .failed
      rw [if_neg (hax _ (by decide) (by decide)), if_neg ht4] at this
      exact s.cFailed.trans this
    · have := n target
      rw [if_neg (hax _ ht1 ht2), if_pos rfl, Nat.add_zero] at this
      rw [s.cTarget, this]
      exact Nat.add_right_comm ..
    · intro x h1 h2 h3
      have := n x
      rw [if_neg (hax x h2 h3), if_neg h1.symm] at this
      exact (s.cOther x h1 h2 h3).trans this

/-- what a successful `markAll` did, in terms of `lookup` -/
structure MarkHist (target : TState) (a b : Job) (ids : List TaskId) : Prop where
  nodup : ids.Nodup
  own : ∀ p ∈ ids, p.1 = a.id
  before : ∀ p ∈ ids, ∃ st, lookup a.tasks p.2 = some st ∧ st.terminal = false
  after : ∀ p ∈ ids, lookup b.tasks p.2 = some target
  other : ∀ k, (a.id, k) ∉ ids → lookup b.tasks k = lookup a.tasks k
  id : b.id = a.id
  isOpen : b.isOpen = a.isOpen

theorem MarkHist.refl (target : TState) (a : Job) : MarkHist target a a [] :=
  ⟨.nil, fun _ h => absurd h List.not_mem_nil, fun _ h => absurd h List.not_mem_nil,
    fun _ h => absurd h List.not_mem_nil, fun _ _ => rfl, rfl, rfl⟩

theorem markAll_hist (target : TState) (site : String) (htt : target.terminal = true) :
    ∀ (ids : List TaskId) (a b : Job), a.markAll target site ids = .ok b → MarkHist target a b ids
  | [], a, b, e => by simp only [Job.markAll] at e; cases e; exact .refl _ _
  | (j, t) :: rest, a, b, e => by
    obtain ⟨rfl, st, hl, hst, e'⟩ := markAll_cons_eq_ok e
    have hst : st.terminal = false := by rcases hst with rfl | rfl <;> rfl
    have h := markAll_hist target site htt rest _ b e'
    have hlk : ∀ k, lookup (setState a.tasks t target) k = if k = t then some target else lookup a.tasks k :=
      lookup_setState_of hl target
    -- `t` is not among the rest: otherwise `markAll` would have found it terminal
    have hnot : (a.id, t) ∉ rest := by
      intro hm
      obtain ⟨st', hl', hst'⟩ := h.before (a.id, t) hm
      simp only [hlk, if_true] at hl'
      cases hl'
      rw [htt] at hst'; cases hst'
    refine ⟨List.nodup_cons.mpr ⟨hnot, h.nodup⟩, ?_, ?_, ?_, ?_, h.id, h.isOpen⟩
    · intro p hp
      rcases List.mem_cons.mp hp with rfl | hp
      · rfl
      · exact h.own p hp
    · intro p hp
      rcases List.mem_cons.mp hp with rfl | hp
      · exact ⟨st, hl, hst⟩
      · obtain ⟨st', hl', hst'⟩ := h.before p hp
        rw [hlk] at hl'
        by_cases hk : p.2 = t
        · simp only [hk, if_true] at hl'; cases hl'; rw [htt] at hst'; cases hst'
        · simp only [hk, if_false] at hl'; exact ⟨st', hl', hst'⟩
    · intro p hp
      rcases List.mem_cons.mp hp with rfl | hp
      · rw [h.other t hnot, hlk]; simp
      · exact h.after p hp
    · intro k hk
      simp only [List.mem_cons, not_or] at hk
      have hkt : k ≠ t := fun e => hk.1 (by rw [e])
      rw [h.other k hk.2, hlk]; simp [hkt]

theorem MarkHist.lookup {target : TState} {a b : Job} {ids : List TaskId} (h : MarkHist target a b ids) (x : Nat) :
    lookup b.tasks x = if x ∈ ids.map (·.2) then some target else lookup a.tasks x := by
  by_cases hx : x ∈ ids.map (·.2)
  · obtain ⟨p, hp, rfl⟩ := List.mem_map.mp hx
    rw [if_pos hx]; exact h.after p hp
  · rw [if_neg hx]; exact h.other x fun hm => hx (List.mem_map.mpr ⟨_, hm, rfl⟩)

theorem markAll_all {target : TState} {site : String} (htt : target.terminal = true) :
    ∀ (ids : List TaskId) (job job' : Job), job.markAll target site ids = .ok job' →
      (∀ p ∈ job'.tasks, p.2.terminal = true ∨ (p ∈ job.tasks ∧ (job.id, p.1) ∉ ids))
  | [], job, job', e, p, hp => by
    simp only [Job.markAll] at e; cases e
    exact .inr ⟨hp, List.not_mem_nil⟩
  | (j, t) :: rest, job, job', e, p, hp => by
    obtain ⟨rfl, _, -, -, e'⟩ := markAll_cons_eq_ok e
    rcases markAll_all htt rest _ job' e' p hp with h | h
    · exact .inl h
    · rcases mem_setState h.1 with h2 | h2
      · exact .inl (by rw [h2.2]; exact htt)
      · refine .inr ⟨h2.2, ?_⟩
        simp only [List.mem_cons, not_or]
        exact ⟨fun heq => h2.1 (Prod.mk.inj heq).2, h.2⟩

theorem setCancel_eq_ok {job job' : Job} {ids : List TaskId} {evs : List Ev}
    (e : job.setCancel ids = .ok (job', evs)) :
    (ids = [] ∧ job' = job ∧ evs = []) ∨
    (ids ≠ [] ∧ ∃ job1, job.markAll .canceled "set_cancel_state" ids = .ok job1 ∧
      job' = { job1 with cnt := { job1.cnt with canceled := job1.cnt.canceled + ids.length } } ∧
      evs = [.jobCancel job.id, .canceled ids] ++ job'.checkTermination) := by
  unfold Job.setCancel at e
  split at e
  · rename_i he; cases e; exact .inl ⟨List.isEmpty_iff.mp he, rfl, rfl⟩
  · rename_i he
    split at e
    · cases e
    · rename_i job1 hm; cases e
      exact .inr ⟨fun h => he (h ▸ rfl), job1, hm, rfl, rfl⟩

theorem abortTasks_eq_ok {job job' : Job} {ids : List TaskId} {evs : List Ev}
    (e : job.abortTasks ids = .ok (job', evs)) :
    (ids = [] ∧ job' = job ∧ evs = []) ∨
    (ids ≠ [] ∧ ∃ job1, job.markAll .aborted "abort_tasks" ids = .ok job1 ∧
      job' = { job1 with cnt := { job1.cnt with aborted := job1.cnt.aborted + ids.length } } ∧
      evs = [.aborted ids] ++ job'.checkTermination) := by
  unfold Job.abortTasks at e
  split at e
  · rename_i he; cases e; exact .inl ⟨List.isEmpty_iff.mp he, rfl, rfl⟩
  · rename_i he
    split at e
    · cases e
    · rename_i job1 hm; cases e
      exact .inr ⟨fun h => he (h ▸ rfl), job1, hm, rfl, rfl⟩

/-- `set_cancel_state` as a whole, also for an empty list: what it did to the task table, and what it left alone -/
theorem setCancel_hist {job job' : Job} {ids : List TaskId} {evs : List Ev}
    (e : job.setCancel ids = .ok (job', evs)) :
    MarkHist .canceled job job' ids ∧ job'.maxFails = job.maxFails ∧ job'.cnt.failed = job.cnt.failed := by
  rcases setCancel_eq_ok e with ⟨rfl, rfl, -⟩ | ⟨-, job1, hm, rfl, -⟩
  · exact ⟨.refl _ _, rfl, rfl⟩
  · have h := markAll_hist .canceled _ rfl _ _ _ hm
    have f := markAll_frame hm
    exact ⟨⟨h.nodup, h.own, h.before, h.after, h.other, h.id, h.isOpen⟩, f.2.2.1, f.2.2.2.2.2.1⟩

theorem abortTasks_hist {job job' : Job} {ids : List TaskId} {evs : List Ev}
    (e : job.abortTasks ids = .ok (job', evs)) :
    MarkHist .aborted job job' ids ∧ job'.maxFails = job.maxFails ∧ job'.cnt.failed = job.cnt.failed := by
  rcases abortTasks_eq_ok e with ⟨rfl, rfl, -⟩ | ⟨-, job1, hm, rfl, -⟩
  · exact ⟨.refl _ _, rfl, rfl⟩
  · have h := markAll_hist .aborted _ rfl _ _ _ hm
    have f := markAll_frame hm
    exact ⟨⟨h.nodup, h.own, h.before, h.after, h.other, h.id, h.isOpen⟩, f.2.2.1, f.2.2.2.2.2.1⟩

theorem setCancel_id {job job' : Job} {ids : List TaskId} {evs : List Ev}
    (h : job.setCancel ids = .ok (job', evs)) : job'.id = job.id := (setCancel_hist h).1.id

theorem abortTasks_id {job job' : Job} {ids : List TaskId} {evs : List Ev}
    (h : job.abortTasks ids = .ok (job', evs)) : job'.id = job.id := (abortTasks_hist h).1.id

theorem JobWF.setCancel {job job' : Job} {ids : List TaskId} {evs : List Ev} (h : JobWF job)
    (e : job.setCancel ids = .ok (job', evs)) : JobWF job' := by
  rcases setCancel_eq_ok e with ⟨-, rfl, -⟩ | ⟨-, job1, hm, rfl, -⟩
  · exact h
  · have s := markAll_spec (by decide) (by decide) (by decide) (by decide) h.nodup h.running hm
    exact ⟨by rw [s.keys]; exact h.nodup, s.running, by rw [s.finished, h.finished, s.cFinished],
      by rw [s.failed, h.failed, s.cFailed], by simp only []; rw [s.canceled, h.canceled, s.cTarget],
      by rw [s.aborted, h.aborted, s.cOther .aborted (by decide) (by decide) (by decide)]⟩

theorem JobWF.abortTasks {job job' : Job} {ids : List TaskId} {evs : List Ev} (h : JobWF job)
    (e : job.abortTasks ids = .ok (job', evs)) : JobWF job' := by
  rcases abortTasks_eq_ok e with ⟨-, rfl, -⟩ | ⟨-, job1, hm, rfl, -⟩
  · exact h
  · have s := markAll_spec (by decide) (by decide) (by decide) (by decide) h.nodup h.running hm
    exact ⟨by rw [s.keys]; exact h.nodup, s.running, by rw [s.finished, h.finished, s.cFinished],
      by rw [s.failed, h.failed, s.cFailed],
      by rw [s.canceled, h.canceled, s.cOther .canceled (by decide) (by decide) (by decide)],
      by simp only []; rw [s.aborted, h.aborted, s.cTarget]⟩

theorem attach_eq_ok : ∀ (ids : List Nat) {job job' : Job}, job.attach ids = .ok job' →
    ids.Nodup ∧ (∀ i ∈ ids, lookup job.tasks i = none) ∧
      job' = { job with tasks := job.tasks ++ ids.map (·, .waiting) }
  | [], job, job', e => by simp only [Job.attach] at e; cases e; simp
  | t :: rest, job, job', e => by
    simp only [Job.attach] at e
    split at e
    · cases e
    · rename_i hl
      obtain ⟨hnd, hnone, rfl⟩ := attach_eq_ok rest e
      have hfree : ∀ i ∈ rest, t ≠ i ∧ lookup job.tasks i = none := by
        intro i hi
        have := hnone i hi
        simp only [lookup_append, Option.or_eq_none_iff, lookup] at this
        exact ⟨fun e => by simp [e] at this, this.1⟩
      refine ⟨List.nodup_cons.mpr ⟨fun hm => (hfree t hm).1 rfl, hnd⟩, ?_, by simp⟩
      intro i hi
      rcases List.mem_cons.mp hi with rfl | hi
      · exact hl
      · exact (hfree i hi).2

theorem attach_id (ids : List Nat) {job job' : Job} (e : job.attach ids = .ok job') : job'.id = job.id := by
  obtain ⟨-, -, rfl⟩ := attach_eq_ok ids e; rfl

theorem attach_isOpen (ids : List Nat) {a b : Job} (e : a.attach ids = .ok b) : b.isOpen = a.isOpen := by
  obtain ⟨-, -, rfl⟩ := attach_eq_ok ids e; rfl

theorem attach_lookup (ids : List Nat) {a b : Job} (e : a.attach ids = .ok b) (k : Nat) :
    lookup b.tasks k = lookup a.tasks k ∨ (lookup a.tasks k = none ∧ lookup b.tasks k = some .waiting) := by
  obtain ⟨-, -, rfl⟩ := attach_eq_ok ids e
  simp only [lookup_append, lookup_map_const]
  cases lookup a.tasks k with
  | some x => exact .inl rfl
  | none => by_cases hk : k ∈ ids <;> simp [hk]

theorem attach_nonempty {ids : List Nat} {a b : Job} (hne : ids ≠ []) (e : a.attach ids = .ok b) :
    ∃ k, lookup b.tasks k = some .waiting := by
  obtain ⟨-, hnone, rfl⟩ := attach_eq_ok ids e
  obtain ⟨t, rest, rfl⟩ := List.exists_cons_of_ne_nil hne
  exact ⟨t, by simp [lookup_append, hnone t, lookup]⟩

theorem JobWF.attach (ids : List Nat) {job job' : Job} (w : JobWF job) (e : job.attach ids = .ok job') :
    JobWF job' := by
  obtain ⟨hnd, hnone, rfl⟩ := attach_eq_ok ids e
  have cnt : ∀ x, x ≠ .waiting → countS (job.tasks ++ ids.map (·, .waiting)) x = countS job.tasks x := by
    intro x hx; rw [countS_append, countS_map_waiting, if_neg hx]; rfl
  refine ⟨?_, by rw [cnt _ (by decide)]; exact w.running, by rw [cnt _ (by decide)]; exact w.finished,
    by rw [cnt _ (by decide)]; exact w.failed, by rw [cnt _ (by decide)]; exact w.canceled,
    by rw [cnt _ (by decide)]; exact w.aborted⟩
  have hk : keys (job.tasks ++ ids.map (·, .waiting)) = keys job.tasks ++ ids := by
    simp [keys, List.map_map, Function.comp_def]
  rw [hk, List.nodup_append]
  exact ⟨w.nodup, hnd, fun a ha b hb e => lookup_eq_none_iff.mp (hnone b hb) (e ▸ ha)⟩

theorem emptyJob_wf (j : Nat) (o : Bool) (mf : Option Nat) :
    JobWF { id := j, isOpen := o, maxFails := mf } :=
  ⟨by simp [keys], rfl, rfl, rfl, rfl, rfl⟩

end HqModel.Job
