import HqModel.Journal.Spec
/-! Lemmas of the specification's own definitions: `producibleFrom` over `++`, membership in `AState.pending`. -/
namespace HqModel.Journal

theorem producibleFrom_append : ∀ (l m : List Record) (A : AState),
    producibleFrom A (l ++ m) = (producibleFrom A l && producibleFrom (l.foldl meaningStep A) m)
  | [], _, _ => rfl
  | r :: l, m, A => by
    simp only [List.cons_append, producibleFrom, List.foldl_cons, producibleFrom_append l m, Bool.and_assoc]

theorem mem_pending {A : AState} {job t i c : Nat} {deps : List Nat} (h : (job, t, deps, i, c) ∈ A.pending) :
    ∃ ja ∈ A.jobs, ∃ a ∈ ja.2.tasks, ja.1 = job ∧ a.id = t ∧ a.st = .waiting ∧
      deps = a.deps.filter (fun d => !ja.2.isTerminal d) ∧
      i = (match a.inst with | some x => x + 1 | none => 0) ∧ c = a.crashes := by
  simp only [AState.pending, AJob.pending, List.mem_flatMap, List.mem_map, List.mem_filter, beq_iff_eq,
    Prod.mk.injEq] at h
  obtain ⟨ja, hja, _, ⟨a, ⟨ha, hw⟩, rfl⟩, h1, h2, h3, h4, h5⟩ := h
  exact ⟨ja, hja, a, ha, h1, h2, hw, h3.symm, h4.symm, h5.symm⟩

end HqModel.Journal
