import HqModel.Lemmas.JournalPruneEq
import HqModel.Lemmas.JournalPrune2Wf
/-!
The invariant behind the patched (stateful) pruner `prune2`: on the unpruned side every task of a live job that is
`Running` runs on workers that are in `task_worker_ids` (they came from a kept `TaskStarted` earlier in the file).
Hence a `WorkerLost w` the patched pruner drops changes no crash counter of a live job (`increaseCrash_eq_self`).
It is needed for what `Map::get` returns (`RInv`) and for what `values_mut()` visits (`RInvL`): both are `TInv` at a
reading `M` of "entry of the table", and `tinv_step` is proved once for any reading that follows `alSet` / `alDel` / `alMap`.
-/
namespace HqModel.Journal

/-- every `Running` task of the list runs on workers of `acc` -/
def TasksIn (acc : List Nat) (ts : List (Nat × RTask)) : Prop :=
  ∀ kv, kv ∈ ts → ∀ sd, kv.2.state = .running sd → ∀ w, w ∈ sd.workers → w ∈ acc

def JInv (acc : List Nat) (o : Option RJob) : Prop := ∀ rj, o = some rj → TasksIn acc rj.tasks

/-- `Running` tasks of live jobs run on workers of `acc` -/
def RInv (live : Nat → Bool) (acc : List Nat) (R : Restorer) : Prop :=
  ∀ j, live j = true → JInv acc (alGet R.jobs j)

/-- `Running` tasks of every live entry of the table run on workers of `acc` (over list members, so that it speaks
about what `values_mut()` visits) -/
def RInvL (live : Nat → Bool) (acc : List Nat) (jobs : List (Nat × RJob)) : Prop :=
  ∀ kv, kv ∈ jobs → live kv.1 = true → TasksIn acc kv.2.tasks

theorem rinv_init (live : Nat → Bool) (acc : List Nat) : RInv live acc ({} : Restorer) :=
  fun _ _ _ e => by cases e

theorem tasksIn_nil (acc : List Nat) : TasksIn acc [] := fun _ h => nomatch h

theorem tasksIn_mono {acc acc' : List Nat} (hsub : ∀ w, w ∈ acc → w ∈ acc') {ts : List (Nat × RTask)}
    (h : TasksIn acc ts) : TasksIn acc' ts := fun kv hkv sd hsd w hw => hsub w (h kv hkv sd hsd w hw)

theorem tasksIn_set {acc : List Nat} {ts : List (Nat × RTask)} (h : TasksIn acc ts) (t : Nat) (v : RTask)
    (hv : ∀ sd, v.state = .running sd → ∀ w, w ∈ sd.workers → w ∈ acc) : TasksIn acc (alSet ts t v) := by
  intro kv hkv
  rcases mem_alSet hkv with h1 | h1
  · exact h kv h1
  · subst h1; exact hv

theorem increaseCrash_tasksIn {acc : List Nat} {rj : RJob} (h : TasksIn acc rj.tasks) (w : Nat) :
    TasksIn acc (rj.increaseCrash w).tasks := by
  intro kv hkv sd hsd
  obtain ⟨kv0, h0, rfl⟩ := mem_alMap (f := bump w true) (l := rj.tasks) hkv
  exact h kv0 h0 sd ((bump_state w true kv0.2).1 ▸ hsd)

theorem termTask_tasksIn {mk : Option Started → TState} (hmk : ∀ s sd, mk s ≠ .running sd) {acc : List Nat}
    {ts : List (Nat × RTask)} (h : TasksIn acc ts) (t : Nat) : TasksIn acc (termTask mk ts t) := by
  obtain ⟨ti', s, e, hs, _⟩ := termTask_eq mk ts t
  rw [e]
  exact tasksIn_set h t ti' fun sd hsd => absurd (hs ▸ hsd) (hmk s sd)

theorem increaseCrash_eq_self {acc : List Nat} {rj : RJob} (h : TasksIn acc rj.tasks) {w : Nat} (hw : ¬ w ∈ acc) :
    rj.increaseCrash w = rj := by
  rw [increaseCrash_eq]
  have : alMap (bump w true) rj.tasks = rj.tasks := by
    refine alMap_eq_self _ _ fun kv hkv => ?_
    unfold bump
    rw [if_pos rfl]
    split
    · rename_i sd hsd
      split
      · rename_i hh
        exfalso
        have : sd.workers.head? = some w := by simpa using hh
        exact hw (h kv hkv sd hsd w (List.mem_of_mem_head? this))
      · rfl
    · rfl
  rw [this]

theorem jobStep_tasks {x : Record} {o : Option RJob} {rj1 : RJob} (hs : jobStep x o = .ok (some rj1)) :
    rj1.tasks = [] ∨ ∃ rj, o = some rj ∧ (rj1.tasks = rj.tasks ∨ ∃ t v, rj1.tasks = alSet rj.tasks t v ∧
      ∀ sd, v.state = .running sd → ∃ j i, x = .taskStarted j t i sd.workers) := by
  cases x
  case submit j c mf d =>
    cases c
    · cases o <;> cases hs; exact Or.inr ⟨_, rfl, Or.inl rfl⟩
    · cases hs; exact Or.inl rfl
  case jobOpen j mf => cases hs; exact Or.inl rfl
  case jobClose j => cases o <;> cases hs; exact Or.inr ⟨_, rfl, Or.inl rfl⟩
  case jobCancel j => cases o <;> cases hs; exact Or.inr ⟨_, rfl, Or.inl rfl⟩
  case jobCompleted j => cases hs
  case taskStarted j t i ws =>
    cases o <;> cases hs
    exact Or.inr ⟨_, rfl, Or.inr ⟨t, _, rfl, fun sd e => by cases e; exact ⟨j, i, rfl⟩⟩⟩
  case taskFinished j t =>
    cases o with
    | none => cases hs
    | some rj =>
      simp only [jobStep] at hs
      cases h2 : alGet rj.tasks t with
      | none => rw [h2] at hs; cases hs
      | some ti =>
        rw [h2] at hs
        cases h3 : ti.state <;> simp only [h3] at hs <;> cases hs
        exact Or.inr ⟨_, rfl, Or.inr ⟨t, _, rfl, fun _ e => nomatch e⟩⟩
  case taskFailed j t =>
    cases o with
    | none => cases hs
    | some rj =>
      simp only [jobStep] at hs
      cases h2 : alGet rj.tasks t with
      | none => rw [h2] at hs; cases hs; exact Or.inr ⟨_, rfl, Or.inr ⟨t, _, rfl, fun _ e => nomatch e⟩⟩
      | some ti =>
        rw [h2] at hs
        cases h3 : ti.state <;> simp only [h3] at hs <;> cases hs <;>
          exact Or.inr ⟨_, rfl, Or.inr ⟨t, _, rfl, fun _ e => nomatch e⟩⟩
  all_goals cases hs; exact Or.inr ⟨_, rfl, Or.inl rfl⟩

theorem jobStep_jinv (lj acc : List Nat) (x : Record) (j : Nat) (hj : jobOf x = some j) (hl : lj.contains j = true)
    {o o1 : Option RJob} (h : JInv acc o) (hs : jobStep x o = .ok o1) : JInv (taskWorkersStep lj acc x) o1 := by
  intro rj1 e1
  subst e1
  rcases jobStep_tasks hs with e | ⟨rj, rfl, e | ⟨t, v, e, hv⟩⟩ <;> rw [e]
  · exact tasksIn_nil _
  · exact tasksIn_mono (taskWorkersStep_mono lj acc x) (h rj rfl)
  · refine tasksIn_set (tasksIn_mono (taskWorkersStep_mono lj acc x) (h rj rfl)) t v fun sd hsd w hw => ?_
    obtain ⟨j', i, rfl⟩ := hv sd hsd
    cases hj
    simp only [taskWorkersStep, hl, if_true]
    exact List.mem_append_right _ hw

/-- a reading `M jobs k v` of "`v` is an entry of `jobs` under key `k`" that follows the table operations -/
structure AlMem (M : List (Nat × RJob) → Nat → RJob → Prop) : Prop where
  of_get : ∀ {l k v}, alGet l k = some v → M l k v
  set : ∀ {l k v k' v'}, M (alSet l k v) k' v' → M l k' v' ∨ (k' = k ∧ v' = v)
  del : ∀ {l k k' v'}, M (alDel l k) k' v' → M l k' v'
  map : ∀ {f l k v'}, M (alMap f l) k v' → ∃ v, M l k v ∧ v' = f v

theorem alMem_get : AlMem fun l k v => alGet l k = some v where
  of_get h := h
  set h := by
    rw [alGet_set] at h
    split at h
    · rename_i e; exact Or.inr ⟨e.symm, (Option.some.inj h).symm⟩
    · exact Or.inl h
  del h := by
    rw [alGet_del] at h
    split at h
    · cases h
    · exact h
  map h := by
    rw [alGet_map] at h
    obtain ⟨v, hv, e⟩ := Option.map_eq_some_iff.1 h
    exact ⟨v, hv, e.symm⟩

theorem alMem_mem : AlMem fun l k v => (k, v) ∈ l where
  of_get := alGet_mem
  set h := (mem_alSet h).imp_right fun e => ⟨congrArg Prod.fst e, congrArg Prod.snd e⟩
  del := mem_alDel
  map h := by
    obtain ⟨⟨k0, v0⟩, h0, e⟩ := mem_alMap h
    cases e
    exact ⟨v0, h0, rfl⟩

def TInv (M : List (Nat × RJob) → Nat → RJob → Prop) (live : Nat → Bool) (acc : List Nat) (jobs : List (Nat × RJob)) :
    Prop :=
  ∀ k v, M jobs k v → live k = true → TasksIn acc v.tasks

theorem rinv_iff_tinv {live : Nat → Bool} {acc : List Nat} {R : Restorer} :
    RInv live acc R ↔ TInv (fun l k v => alGet l k = some v) live acc R.jobs :=
  ⟨fun h k v hm hl => h k hl v hm, fun h k hl v hm => h k v hm hl⟩

theorem rinvL_iff_tinv {live : Nat → Bool} {acc : List Nat} {jobs : List (Nat × RJob)} :
    RInvL live acc jobs ↔ TInv (fun l k v => (k, v) ∈ l) live acc jobs :=
  ⟨fun h k v hm => h (k, v) hm, fun h kv hm => h kv.1 kv.2 hm⟩

theorem tinv_batch {M : List (Nat × RJob) → Nat → RJob → Prop} (hM : AlMem M) {live : Nat → Bool} {acc : List Nat}
    {f : List (Nat × RTask) → Nat → List (Nat × RTask)} (hf : ∀ ts t, TasksIn acc ts → TasksIn acc (f ts t)) :
    ∀ (ids : List (Nat × Nat)) (jobs : List (Nat × RJob)), TInv M live acc jobs →
      TInv M live acc (ids.foldl (batchStep f) jobs) := by
  intro ids
  induction ids with
  | nil => intro jobs h; exact h
  | cons id ids ih =>
    intro jobs h
    refine ih _ fun k v hm hl => ?_
    unfold batchStep at hm
    cases hg : alGet jobs id.1 with
    | none => rw [hg] at hm; exact h k v hm hl
    | some rj =>
      rw [hg] at hm
      rcases hM.set hm with h1 | ⟨rfl, rfl⟩
      · exact h k v h1 hl
      · exact hf _ _ (h _ rj (hM.of_get hg) hl)

theorem tinv_step {M : List (Nat × RJob) → Nat → RJob → Prop} (hM : AlMem M) (lj : List Nat) {acc : List Nat}
    {jobs jobs1 : List (Nat × RJob)} (x : Record) (h : TInv M (fun j => lj.contains j) acc jobs)
    (hs : jobsStep jobs x = .ok jobs1) : TInv M (fun j => lj.contains j) (taskWorkersStep lj acc x) jobs1 := by
  cases hb : batchOf x with
  | some p =>
    obtain ⟨mk, con, ids⟩ := p
    rw [jobsStep_batch hb] at hs
    cases hs
    obtain ⟨rfl, hmk, hc⟩ := batchOf_con hb
    rw [taskWorkersStep_of_jobOf_none lj acc (hc ids).2.1]
    exact tinv_batch hM (fun ts t ht => termTask_tasksIn hmk ht t) ids jobs h
  | none =>
    cases hj : jobOf x with
    | some j =>
      have hm := taskWorkersStep_mono lj acc x
      obtain ⟨o1, e1, rfl⟩ := jobsStep_single_ok hj hs
      intro k v hkv hl
      cases o1 with
      | none => exact tasksIn_mono hm (h k v (hM.del hkv) hl)
      | some v1 =>
        rcases hM.set hkv with h1 | ⟨rfl, rfl⟩
        · exact tasksIn_mono hm (h k v h1 hl)
        · exact jobStep_jinv lj acc x k hj hl (fun rj e => h k rj (hM.of_get e) hl) e1 v rfl
    | none =>
      rw [taskWorkersStep_of_jobOf_none lj acc hj]
      cases hl : lostOf x with
      | some p =>
        obtain ⟨w, reason⟩ := p
        obtain rfl := lostOf_eq hl
        cases hs
        cases reason.isFailure with
        | false => exact h
        | true =>
          intro k v hkv hl
          obtain ⟨v0, h0, rfl⟩ := hM.map (f := (·.increaseCrash w)) (l := jobs) hkv
          exact increaseCrash_tasksIn (h k v0 h0 hl) w
      | none =>
        cases (jobsStep_inert hj hb hl jobs).symm.trans hs
        exact h

end HqModel.Journal
