import HqModel.Lemmas.CoreMsgReactor
import HqModel.Lemmas.CoreInvSched
import HqModel.Lemmas.CoreDescSched
import HqModel.Lemmas.CoreSchedItems
/-!
Message-level facts: one scheduling round.

Inside a round a task record changes only in its state (`SRel`: instance id and crash counter are untouched), and
only a Waiting task changes its class (Waiting / held = Assigned, Prefilled, Retracting / locked): `TRound.srel`, by
cases on what a round can have done to a record. The messages are built from the per-worker update list, the
multi-node list and the final state; by the bookkeeping of the round (`SI`, `CoreSchedItems.lean`) every id in either
list was Waiting when the round began and is placed now.
-/
namespace HqModel.Core

structure SRel (t t' : Task) : Prop where
  id : t'.id = t.id
  inst : t'.inst = t.inst
  crashes : t'.crashes = t.crashes
  keep : ¬ isWaiting t.state → ¬ isWaiting t'.state ∧ (locked t'.state ↔ locked t.state) ∧
    (slocked t'.state ↔ slocked t.state)

theorem SRel.refl (t : Task) : SRel t t := ⟨rfl, rfl, rfl, fun h => ⟨h, Iff.rfl, Iff.rfl⟩⟩

theorem SRel.toTRel {cr : Prop} {t t' : Task} (h : SRel t t') : TRel False cr t t' :=
  ⟨h.id, Nat.le_of_eq h.inst.symm, Nat.le_of_eq h.crashes.symm, fun f => f.elim,
    fun hl => Or.inl ((h.keep (locked_not_waiting (locked_of_slocked hl))).2.2.mpr hl),
    fun _ => Or.inr (Or.inr (Or.inr (fun f => f.elim))), fun f => f.elim, fun _ => h.crashes⟩

theorem TRound.srel {t t' : Task} (h : TRound t t') : SRel t t' := by
  cases h with
  | same => exact SRel.refl _
  | retract hs => exact ⟨rfl, rfl, rfl, fun _ => ⟨fun x => x, by rw [hs]; exact Iff.rfl, by rw [hs]; exact Iff.rfl⟩⟩
  | place _ _ hs | prefill _ hs | prefillRetract _ hs | placeMn _ hs _ =>
    exact ⟨rfl, rfl, rfl, fun hw => absurd (hs ▸ trivial) hw⟩

def uIds (u : WUpdate) : List TaskId := u.assigned.map (·.1) ++ u.prefills

/-- all ids that will be named in the single-node compute messages -/
def mIds (m : List WUpdate) : List TaskId := (m.map uIds).flatten

theorem mem_mIds {m : List WUpdate} {x : TaskId} (h : x ∈ mIds m) :
    (∃ w, aItems m w x ≠ []) ∨ ∃ w, pItems m w x ≠ [] := by
  obtain ⟨_, hl, hx⟩ := List.mem_flatten.mp h
  obtain ⟨u, hu, rfl⟩ := List.mem_map.mp hl
  rcases List.mem_append.mp hx with h1 | h1
  · obtain ⟨a, ha, rfl⟩ := List.mem_map.mp h1
    exact .inl ⟨u.w, List.ne_nil_of_mem (mem_items (selA a.1) hu
      (List.mem_map_of_mem (List.mem_filter.mpr ⟨ha, decide_eq_true rfl⟩)))⟩
  · exact .inr ⟨u.w, List.ne_nil_of_mem (mem_items (selP x) hu (List.mem_filter.mpr ⟨h1, decide_eq_true rfl⟩))⟩

/-- every id of the update list is in the map and held: Assigned, Prefilled or Retracting -/
def MH (s : State) (m : List WUpdate) : Prop :=
  ∀ x ∈ mIds m, ∃ t, findTask s.tasks x = some t ∧ ¬ isWaiting t.state ∧ ¬ locked t.state

theorem SI.mh {c0 s : State} {m : List WUpdate} {acc : List TaskId} (h : SI c0 s m acc) : MH s m := by
  intro x hx
  obtain ⟨_, _, hs⟩ := h.of_item (mem_mIds hx)
  rcases hs with ⟨w, v, e⟩ | ⟨w, e⟩ <;> obtain ⟨t, hf, hs⟩ := stOf_some e <;>
    exact ⟨t, hf, by rw [hs]; simp, by rw [hs]; simp⟩

theorem msgsOfAll_spec (s : State) (m : List WUpdate) (ms : List Msg) (h : msgsOfAll s m = .ok ms) :
    ∀ p ∈ sends ms, ∃ x ∈ mIds m, ∃ t, findTask s.tasks x = some t ∧ p = (t.id, t.inst) := by
  induction m generalizing ms with
  | nil => cases h; exact fun _ hp => nomatch hp
  | cons u rest ih =>
    obtain ⟨l, ms', hl, hms, rfl⟩ := msgsOfAll_cons_ok h
    intro p hp
    simp only [sends_append, List.mem_append] at hp
    rcases hp with (hp | hp) | hp
    · split at hp <;> simp at hp
    · split at hp
      · simp at hp
      · simp only [sends_cons, sendsOf_compute, sends_nil, List.append_nil, List.mem_map] at hp
        obtain ⟨x, hx, rfl⟩ := hp
        obtain ⟨y, hy, t, hf, e⟩ := computeList_spec _ _ _ hl x hx
        refine ⟨y.1, ?_, t, hf, e⟩
        simp only [mIds, List.map_cons, List.flatten_cons, List.mem_append, uIds]
        left
        simp only [List.mem_append, List.mem_map] at hy
        rcases hy with ⟨a, ha, rfl⟩ | ⟨a, ha, rfl⟩
        · exact Or.inr ha
        · exact Or.inl (List.mem_map.mpr ⟨a, ha, rfl⟩)
    · obtain ⟨x, hx, r⟩ := ih _ hms p hp
      refine ⟨x, ?_, r⟩
      simp only [mIds, List.map_cons, List.flatten_cons, List.mem_append]
      exact Or.inr hx

theorem mnMsgs_spec (s : State) (l : List TaskId) (ms : List Msg) (h : mnMsgs s l = .ok ms) :
    ∀ p ∈ sends ms, ∃ x ∈ l, ∃ t, findTask s.tasks x = some t ∧ p = (t.id, t.inst) ∧ ∃ ws, t.state = .runningMN ws := by
  induction l generalizing ms with
  | nil => cases h; exact fun _ hp => nomatch hp
  | cons id rest ih =>
    obtain ⟨t, root, ws, ms', ht, hs, hms, rfl⟩ := mnMsgs_cons_ok h
    intro p hp
    simp only [sends_cons, sendsOf_compute, List.map_cons, List.map_nil, List.mem_append, List.mem_singleton,
      computeOne] at hp
    rcases hp with hp | hp
    · exact ⟨id, List.mem_cons_self, t, getTask_spec ht, hp, _, hs⟩
    · obtain ⟨x, hx, r⟩ := ih _ hms p hp
      exact ⟨x, List.mem_cons_of_mem _ hx, r⟩

/-- **one scheduling round**: every `(task, instance)` named in a compute message is the current instance of a task
that is not Waiting when the round ends; when the round started the task was not locked and its instance id was no
larger (the same: `TRound.srel`) -/
theorem schedule_fx {s s' : State} {sol : Solution} {o : Out} (hn : (taskIds s.tasks).Nodup)
    (h : s.schedule sol = .ok (s', o)) :
    Tr False s (sends o.msgs) s' ∧ starts o.cbs = [] ∧
    (∀ p ∈ sends o.msgs, ∃ t', findTask s'.tasks p.1 = some t' ∧ ¬ isWaiting t'.state) ∧
    ∀ p ∈ sends o.msgs, ∃ t ∈ s.tasks, t.id = p.1 ∧ t.inst ≤ p.2 ∧ ¬ locked t.state := by
  have d := schedule_desc h
  have hn' : (taskIds s'.tasks).Nodup := d.frame.nodup hn
  obtain ⟨s3, m, mn, msgs, mm, si, hmsgs, hmm, rfl, rfl⟩ := schedule_si h
  have hall : ∀ p ∈ sends (msgs ++ mm), ∃ t', findTask s3.tasks p.1 = some t' ∧ t'.inst = p.2 ∧
      ¬ isWaiting t'.state ∧ ∃ n, stOf s.tasks p.1 = some (.waiting n) := by
    intro p hp
    simp only [sends_append, List.mem_append] at hp
    rcases hp with hp | hp
    · obtain ⟨x, hx, t, hf, rfl⟩ := msgsOfAll_spec _ _ _ hmsgs p hp
      obtain ⟨n, h0, _⟩ := si.of_item (mem_mIds hx)
      obtain ⟨t2, hf2, hw, _⟩ := si.mh x hx
      cases hf.symm.trans hf2
      exact ⟨t, by rw [findTask_some_id hf]; exact hf, rfl, hw, n, by rw [findTask_some_id hf]; exact h0⟩
    · obtain ⟨x, hx, t, hf, rfl, ws, hs⟩ := mnMsgs_spec _ _ _ hmm p hp
      obtain ⟨n, _, h0, _⟩ := si.mem_acc.mp hx
      exact ⟨t, by rw [findTask_some_id hf]; exact hf, rfl, by simp [hs], n, by rw [findTask_some_id hf]; exact h0⟩
  have hpre : ∀ p ∈ sends (msgs ++ mm), ∃ t ∈ s.tasks, t.id = p.1 ∧ t.inst ≤ p.2 ∧ ¬ locked t.state := by
    intro p hp
    obtain ⟨t', hf', hi, _, n, h0⟩ := hall p hp
    obtain ⟨t, hf, hs⟩ := stOf_some h0
    obtain ⟨t0, hf0, r⟩ := d.round hn hf'
    cases hf0.symm.trans hf
    exact ⟨t, findTask_some_mem hf, findTask_some_id hf, Nat.le_of_eq (r.srel.inst.symm.trans hi), by rw [hs]; simp⟩
  refine ⟨Tr.of_current hn' (fun p hp => ?_) (fun p hp => ?_), rfl, fun p hp => ?_, hpre⟩
  · obtain ⟨t', a, b, _⟩ := hall p hp
    exact ⟨t', a, b⟩
  · obtain ⟨t, ht, a, b, _⟩ := hpre p hp
    exact ⟨t, ht, a, b, fun f => f.elim, fun f => f.elim⟩
  · obtain ⟨t', a, _, c, _⟩ := hall p hp
    exact ⟨t', a, c⟩

end HqModel.Core
