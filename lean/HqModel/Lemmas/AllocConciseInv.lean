import HqModel.Lemmas.AllocInv
import HqModel.Lemmas.AllocExact
import HqModel.Lemmas.AllocConcise
/-!
`ConciseOK`: the `ConciseFreeResources` of the allocator is, for every resource, the function of the held entries that
`CInv` / `SumCInv` describe. `free_resources.remove` / `add` of an allocation whose entries stay within what
conservation allows never panic and keep that description (`conciseRemove_pc`, `conciseAdd_pc`).
-/
namespace HqModel.Alloc

/-- Pool and concise state of one resource: what the concise state `c` must be, given the kind of the pool (tag,
number of groups, free amount of a sum pool) and the held entries `L`. -/
def PC (U : Nat → List Nat) (tag n free : Nat) (c : CState) (L : List AIdx) : Prop :=
  (tag = 0 ∧ c = []) ∨ ((tag = 1 ∨ tag = 2) ∧ CInv c n U L) ∨ (tag = 3 ∧ SumCInv c free)

theorem PC.congr {U : Nat → List Nat} {tag n free : Nat} {c : CState} {L L' : List AIdx}
    (h : PC U tag n free c L) (hp : L.Perm L') : PC U tag n free c L' := by
  rcases h with h | ⟨ht, hc⟩ | h
  · exact .inl h
  · exact .inr (.inl ⟨ht, hc.congr (fun g i => heldBy_perm hp g i)⟩)
  · exact .inr (.inr h)

structure ConciseOK (U : Nat → Nat → List Nat) (s : State) : Prop where
  len : s.concise.length = s.pools.length
  pc : ∀ (rid : Nat) (p : Pool) (c : CState), s.pools[rid]? = some p → s.concise[rid]? = some c →
    PC (U rid) p.tag p.ngroups p.sumFree c (heldOf s.live rid)

theorem ConciseOK.cinv {U} {s : State} (h : ConciseOK U s) {rid : Nat} {p : Pool} {c : CState}
    (hp : s.pools[rid]? = some p) (hc : s.concise[rid]? = some c) (ht : p.tag = 1 ∨ p.tag = 2) :
    CInv c p.ngroups (U rid) (heldOf s.live rid) := by
  rcases h.pc rid p c hp hc with ⟨h0, -⟩ | ⟨-, hci⟩ | ⟨h3, -⟩
  · omega
  · exact hci
  · omega

theorem ConciseOK.sumCInv {U} {s : State} (h : ConciseOK U s) {rid full free : Nat} {c : CState}
    (hp : s.pools[rid]? = some (.sum full free)) (hc : s.concise[rid]? = some c) : SumCInv c free := by
  rcases h.pc rid _ c hp hc with ⟨h0, -⟩ | ⟨h12, -⟩ | ⟨-, hs⟩
  · cases h0
  · rcases h12 with h | h <;> cases h
  · exact hs

/-- what `remove` / `add` on the concise state need of one resource allocation `ra`, given the kind of its pool -/
structure RaOk (tag n : Nat) (ra : RAlloc) : Prop where
  ne0 : tag ≠ 0
  grp : ∀ e ∈ ra.indices, e.group < n ∨ tag = 3
  shape : (tag = 1 ∨ tag = 2) → n = 1 → Shape ra.amount ra.indices
  sum : tag = 3 → ra.indices = []

theorem Inv.heldOf_nil {U} {s : State} (hinv : Inv U s) {r : Nat} (hp : s.pools[r]? = none) : heldOf s.live r = [] := by
  unfold heldOf raEntries
  simp only [List.flatMap_eq_nil_iff]
  intro x hx ra hra
  split
  · rename_i hrid
    obtain ⟨p, hp', -⟩ := hinv.rids x hx ra hra
    rw [hrid, hp] at hp'
    cases hp'
  · rfl

theorem Inv.heldBound {U} {s : State} (hinv : Inv U s) (r : Nat) : HeldBound (U r) (heldOf s.live r) := by
  intro g i
  cases hp : s.pools[r]? with
  | none => simp [hinv.heldOf_nil hp]
  | some p =>
    have := (hinv.pools.pool r p hp).conserve g i
    omega

theorem mem_heldOf {live : List (Nat × Allocation)} {x : Nat × Allocation} {ra : RAlloc} {e : AIdx}
    (hx : x ∈ live) (hra : ra ∈ x.2) (he : e ∈ ra.indices) : e ∈ heldOf live ra.rid := by
  simp only [heldOf, raEntries, List.mem_flatMap]
  exact ⟨x, hx, ra, hra, by simp [he]⟩

theorem conciseRemove_pc {U : Nat → Nat → List Nat} {tag n : Nat → Nat} {al : Allocation} {cs : List CState}
    {H : Nat → List AIdx} {F : Nat → Nat}
    (hU : ∀ r g, (U r g).Nodup)
    (hpc : ∀ r c, cs[r]? = some c → PC (U r) (tag r) (n r) (F r) c (H r))
    (hra : ∀ ra ∈ al, ra.rid < cs.length ∧ RaOk (tag ra.rid) (n ra.rid) ra)
    (hb : ∀ r, HeldBound (U r) (H r ++ raEntries r al))
    (hsum : ∀ r, tag r = 3 → raAmount r al ≤ F r) :
    ∃ cs', conciseRemove cs al = .ok cs' ∧ cs'.length = cs.length ∧
      ∀ r c, cs'[r]? = some c → PC (U r) (tag r) (n r) (F r - raAmount r al) c (H r ++ raEntries r al) := by
  induction al generalizing cs H F with
  | nil =>
    refine ⟨cs, rfl, rfl, fun r c hc => ?_⟩
    simpa using hpc r c hc
  | cons ra ras ih =>
    obtain ⟨hlt, hok⟩ := hra ra (by simp)
    obtain ⟨c, hc⟩ : ∃ c, cs[ra.rid]? = some c := ⟨cs[ra.rid], by simp [hlt]⟩
    have hpc0 := hpc ra.rid c hc
    have hstep : ∃ c', c.remove ra = .ok c' ∧
        PC (U ra.rid) (tag ra.rid) (n ra.rid) (F ra.rid - ra.amount) c' (H ra.rid ++ ra.indices) := by
      rcases hpc0 with ⟨ht, -⟩ | ⟨ht, hci⟩ | ⟨ht, hsc⟩
      · exact absurd ht hok.ne0
      · have hb' : HeldBound (U ra.rid) (H ra.rid ++ ra.indices) := by
          have := hb ra.rid
          rw [raEntries_cons, if_pos rfl, ← List.append_assoc] at this
          exact this.prefix
        have hg : ∀ e ∈ ra.indices, e.group < n ra.rid := by
          intro e he
          rcases hok.grp e he with h | h
          · exact h
          · rcases ht with h1 | h2 <;> omega
        obtain ⟨c', hr, inv⟩ := remove_cinv (hU ra.rid) hci hb' hg (hok.shape ht)
        exact ⟨c', hr, .inr (.inl ⟨ht, inv⟩)⟩
      · have hle : ra.amount ≤ F ra.rid := by
          have := hsum ra.rid ht
          rw [raAmount_cons, if_pos rfl] at this
          omega
        obtain ⟨c', hr, inv⟩ := sum_remove hsc (hok.sum ht) hle
        exact ⟨c', hr, .inr (.inr ⟨ht, inv⟩)⟩
    obtain ⟨c', hr, hpc'⟩ := hstep
    let H' : Nat → List AIdx := fun r => H r ++ (if ra.rid = r then ra.indices else [])
    let F' : Nat → Nat := fun r => F r - (if ra.rid = r then ra.amount else 0)
    have hpcs : ∀ r c₁, (cs.set ra.rid c')[r]? = some c₁ → PC (U r) (tag r) (n r) (F' r) c₁ (H' r) := by
      intro r c₁ hc₁
      rcases getElem?_set_cases hc₁ with ⟨rfl, rfl⟩ | ⟨hr', hc₁⟩
      · simpa [H', F'] using hpc'
      · simpa [H', F', Ne.symm hr'] using hpc r c₁ hc₁
    have hra' : ∀ ra' ∈ ras, ra'.rid < (cs.set ra.rid c').length ∧ RaOk (tag ra'.rid) (n ra'.rid) ra' := by
      intro ra' h'
      simpa using hra ra' (List.mem_cons_of_mem _ h')
    have hb' : ∀ r, HeldBound (U r) (H' r ++ raEntries r ras) := by
      intro r
      have := hb r
      rw [raEntries_cons, ← List.append_assoc] at this
      exact this
    have hsum' : ∀ r, tag r = 3 → raAmount r ras ≤ F' r := by
      intro r ht
      have := hsum r ht
      rw [raAmount_cons] at this
      show raAmount r ras ≤ F r - _
      omega
    obtain ⟨cs', hrest, hlen, hfin⟩ := ih hpcs hra' hb' hsum'
    refine ⟨cs', ?_, by simpa using hlen, fun r c₁ hc₁ => ?_⟩
    · simp [conciseRemove, hc, hr, hrest]
    · have := hfin r c₁ hc₁
      have e1 : H' r ++ raEntries r ras = H r ++ raEntries r (ra :: ras) := by
        simp [H', raEntries_cons]
      have e2 : F' r - raAmount r ras = F r - raAmount r (ra :: ras) := by
        simp only [F', raAmount_cons]; omega
      rw [e1, e2] at this
      exact this

theorem conciseAdd_pc {U : Nat → Nat → List Nat} {tag n : Nat → Nat} {al : Allocation} {cs : List CState}
    {O : Nat → List AIdx} {F : Nat → Nat}
    (hU : ∀ r g, (U r g).Nodup)
    (hpc : ∀ r c, cs[r]? = some c → PC (U r) (tag r) (n r) (F r) c (raEntries r al ++ O r))
    (hra : ∀ ra ∈ al, ra.rid < cs.length ∧ RaOk (tag ra.rid) (n ra.rid) ra)
    (hb : ∀ r, HeldBound (U r) (raEntries r al ++ O r)) :
    ∃ cs', conciseAdd cs al = .ok cs' ∧ cs'.length = cs.length ∧
      ∀ r c, cs'[r]? = some c → PC (U r) (tag r) (n r) (F r + raAmount r al) c (O r) := by
  induction al generalizing cs F with
  | nil =>
    refine ⟨cs, rfl, rfl, fun r c hc => ?_⟩
    simpa using hpc r c hc
  | cons ra ras ih =>
    obtain ⟨hlt, hok⟩ := hra ra (by simp)
    obtain ⟨c, hc⟩ : ∃ c, cs[ra.rid]? = some c := ⟨cs[ra.rid], by simp [hlt]⟩
    have hpc0 := hpc ra.rid c hc
    rw [raEntries_cons, if_pos rfl, List.append_assoc] at hpc0
    have hstep : ∃ c', c.add ra = .ok c' ∧
        PC (U ra.rid) (tag ra.rid) (n ra.rid) (F ra.rid + ra.amount) c' (raEntries ra.rid ras ++ O ra.rid) := by
      rcases hpc0 with ⟨ht, -⟩ | ⟨ht, hci⟩ | ⟨ht, hsc⟩
      · exact absurd ht hok.ne0
      · have hb' : HeldBound (U ra.rid) (ra.indices ++ (raEntries ra.rid ras ++ O ra.rid)) := by
          have := hb ra.rid
          rw [raEntries_cons, if_pos rfl, List.append_assoc] at this
          exact this
        have hg : ∀ e ∈ ra.indices, e.group < n ra.rid := by
          intro e he
          rcases hok.grp e he with h | h
          · exact h
          · rcases ht with h1 | h2 <;> omega
        obtain ⟨c', hr, inv⟩ := add_cinv (hU ra.rid) hci hb' hg (hok.shape ht)
        exact ⟨c', hr, .inr (.inl ⟨ht, inv⟩)⟩
      · obtain ⟨c', hr, inv⟩ := sum_add hsc (hok.sum ht)
        exact ⟨c', hr, .inr (.inr ⟨ht, inv⟩)⟩
    obtain ⟨c', hr, hpc'⟩ := hstep
    let F' : Nat → Nat := fun r => F r + (if ra.rid = r then ra.amount else 0)
    have hpcs : ∀ r c₁, (cs.set ra.rid c')[r]? = some c₁ →
        PC (U r) (tag r) (n r) (F' r) c₁ (raEntries r ras ++ O r) := by
      intro r c₁ hc₁
      rcases getElem?_set_cases hc₁ with ⟨rfl, rfl⟩ | ⟨hr', hc₁⟩
      · simpa [F'] using hpc'
      · have := hpc r c₁ hc₁
        rw [raEntries_cons, if_neg (Ne.symm hr'), List.nil_append] at this
        simpa [F', Ne.symm hr'] using this
    have hra' : ∀ ra' ∈ ras, ra'.rid < (cs.set ra.rid c').length ∧ RaOk (tag ra'.rid) (n ra'.rid) ra' := by
      intro ra' h'
      simpa using hra ra' (List.mem_cons_of_mem _ h')
    have hb' : ∀ r, HeldBound (U r) (raEntries r ras ++ O r) := by
      intro r
      have := hb r
      rw [raEntries_cons, List.append_assoc] at this
      intro g i
      have h2 := this g i
      rw [heldBy_append] at h2
      omega
    obtain ⟨cs', hrest, hlen, hfin⟩ := ih hpcs hra' hb'
    refine ⟨cs', ?_, by simpa using hlen, fun r c₁ hc₁ => ?_⟩
    · simp [conciseAdd, hc, hr, hrest]
    · have := hfin r c₁ hc₁
      have e2 : F' r + raAmount r ras = F r + raAmount r (ra :: ras) := by
        simp only [F', raAmount_cons]; omega
      rw [e2] at this
      exact this

section pools
variable {U : Nat → Nat → List Nat} {pools : List Pool} {al : Allocation} {cs : List CState}

theorem conciseRemove_pools {H : Nat → List AIdx} (hU : ∀ r g, (U r g).Nodup) (hlen : cs.length = pools.length)
    (hpc : ∀ r p c, pools[r]? = some p → cs[r]? = some c → PC (U r) p.tag p.ngroups p.sumFree c (H r))
    (hra : ∀ ra ∈ al, ∃ p, pools[ra.rid]? = some p ∧ RaOk p.tag p.ngroups ra)
    (hb : ∀ r, HeldBound (U r) (H r ++ raEntries r al))
    (hsum : ∀ r p, pools[r]? = some p → p.tag = 3 → raAmount r al ≤ p.sumFree) :
    ∃ cs', conciseRemove cs al = .ok cs' ∧ cs'.length = pools.length ∧ ∀ r p c, pools[r]? = some p →
      cs'[r]? = some c → PC (U r) p.tag p.ngroups (p.sumFree - raAmount r al) c (H r ++ raEntries r al) := by
  have key := conciseRemove_pc (tag := fun r => (pools[r]?.map Pool.tag).getD 0)
    (n := fun r => (pools[r]?.map Pool.ngroups).getD 0) (F := fun r => (pools[r]?.map Pool.sumFree).getD 0)
    (cs := cs) hU ?_ ?_ hb ?_
  · obtain ⟨cs', h1, h2, h3⟩ := key
    exact ⟨cs', h1, h2.trans hlen, fun r p c hp hc => by simpa [hp] using h3 r c hc⟩
  · intro r c hc
    obtain ⟨p, hp⟩ := exists_get (hlen ▸ lt_length_of_getElem? hc : r < pools.length)
    simpa [hp] using hpc r p c hp hc
  · intro ra hmem
    obtain ⟨p, hp, hok⟩ := hra ra hmem
    exact ⟨hlen ▸ lt_length_of_getElem? hp, by simpa [hp] using hok⟩
  · intro r ht
    cases hp : pools[r]? with
    | none => simp [hp] at ht
    | some p => simpa [hp] using hsum r p hp (by simpa [hp] using ht)

theorem conciseAdd_pools {O : Nat → List AIdx} (hU : ∀ r g, (U r g).Nodup) (hlen : cs.length = pools.length)
    (hpc : ∀ r p c, pools[r]? = some p → cs[r]? = some c →
      PC (U r) p.tag p.ngroups p.sumFree c (raEntries r al ++ O r))
    (hra : ∀ ra ∈ al, ∃ p, pools[ra.rid]? = some p ∧ RaOk p.tag p.ngroups ra)
    (hb : ∀ r, HeldBound (U r) (raEntries r al ++ O r)) :
    ∃ cs', conciseAdd cs al = .ok cs' ∧ cs'.length = pools.length ∧ ∀ r p c, pools[r]? = some p →
      cs'[r]? = some c → PC (U r) p.tag p.ngroups (p.sumFree + raAmount r al) c (O r) := by
  have key := conciseAdd_pc (tag := fun r => (pools[r]?.map Pool.tag).getD 0)
    (n := fun r => (pools[r]?.map Pool.ngroups).getD 0) (F := fun r => (pools[r]?.map Pool.sumFree).getD 0)
    (cs := cs) hU ?_ ?_ hb
  · obtain ⟨cs', h1, h2, h3⟩ := key
    exact ⟨cs', h1, h2.trans hlen, fun r p c hp hc => by simpa [hp] using h3 r c hc⟩
  · intro r c hc
    obtain ⟨p, hp⟩ := exists_get (hlen ▸ lt_length_of_getElem? hc : r < pools.length)
    simpa [hp] using hpc r p c hp hc
  · intro ra hmem
    obtain ⟨p, hp, hok⟩ := hra ra hmem
    exact ⟨hlen ▸ lt_length_of_getElem? hp, by simpa [hp] using hok⟩

end pools

end HqModel.Alloc
