import HqModel.Lemmas.CoreAct
/-!
`on_remove_worker`, `on_new_tasks` and `on_new_worker` as chains of acts. The ids the removed record listed wait in `L`
until the loop that visits them has requeued them. That `L` is empty again after the two loops needs the lists of the
record to name no task twice (a consequence of the structural invariant, a hypothesis here) and the recorded `order` to
rearrange `assigned_tasks` (what the model's test of `order` gives then: `NP.order_nodup`). What a family is told of the
states of the listed tasks (`sd.lostP`, `sd.lostA`) is asked for the state before the worker goes and carried along the
loops, which rewrite no record but the one they visit.
-/
namespace HqModel.Core

variable {sd : Side}

theorem lostPrefilled_task?_head {s s2 : State} {t : TaskId} {task : Task} (ht : s.task? t = some task)
    (h1 : (s.setTask { task with inst := task.inst + 1, state := .waiting 0 }).movePrefilledToReady task.rq t = .ok s2)
    {x : TaskId} (hx : x ≠ t) : s2.task? x = s.task? x := by
  have e2 : s2.task? x = (s.setTask { task with inst := task.inst + 1, state := .waiting 0 }).task? x := by
    obtain ⟨_, _, _, _, _, _, rfl⟩ := movePrefilledToReady_ok_iff.mp h1; rfl
  rw [e2, task?_setTask]
  refine if_neg fun e => hx ?_
  rw [e, show ({ task with inst := task.inst + 1, state := TS.waiting 0 } : Task).id = task.id from rfl,
    findTask_some_id ht]

theorem lostPrefilled_task?_ne : ∀ (ids : List TaskId) {s s' : State}, s.lostPrefilled ids = .ok s' →
    ∀ x, x ∉ ids → s'.task? x = s.task? x
  | [], _, _, h, _, _ => by cases h; rfl
  | t :: rest, s, s', h, x, hx => by
    obtain ⟨task, s2, ht, h1, h2⟩ := lostPrefilled_cons_ok h
    rw [lostPrefilled_task?_ne rest h2 x fun hm => hx (List.mem_cons_of_mem _ hm)]
    exact lostPrefilled_task?_head ht h1 fun e => hx (e ▸ List.mem_cons_self)

theorem lostPrefilled_acts {D R f p U} : ∀ (ids : List TaskId) {L : List TaskId} {s s' : State},
    s.lostPrefilled ids = .ok s' → ids.Nodup → (∀ x ∈ ids, x ∈ L) →
    (∀ id ∈ ids, ∀ task, s.task? id = some task → sd.lostP task.state) →
    Acts sd (⟨D, R, f, p, U, L⟩, s) (⟨D, R, f, p, U, L.filter (· ∉ ids)⟩, s')
  | [], L, _, _, h, _, _, _ => by
    cases h
    rw [List.filter_eq_self.mpr fun _ _ => by simp]
    exact .refl _
  | t :: rest, L, s, _, h, hn, hd, hst => by
    obtain ⟨task, s2, ht, h1, h2⟩ := lostPrefilled_cons_ok h
    obtain ⟨hn1, hn2⟩ := List.nodup_cons.mp hn
    have := lostPrefilled_acts (D := D) (R := R) (f := f) (p := p) (U := U) rest (L := L.filter (· ≠ t)) h2 hn2
      (fun x hx => List.mem_filter.mpr ⟨hd x (List.mem_cons_of_mem _ hx), by
        have : x ≠ t := fun e => hn1 (e ▸ hx)
        simpa using this⟩)
      (fun x hx tk htk => hst x (List.mem_cons_of_mem _ hx) tk (by
        rw [lostPrefilled_task?_head ht h1 fun e => hn1 (e ▸ hx)] at htk; exact htk))
    rw [filter_ne_filter] at this
    exact .step (.lostPrefilled ht (hd t List.mem_cons_self) (hst t List.mem_cons_self task ht) h1) this

theorem Requeued.task?_ne {s s2 : State} {t' : Task} {r : List TaskId} (h : Requeued s t' s2 r) {x : TaskId}
    (hx : x ≠ t'.id) : s2.task? x = s.task? x := by
  obtain ⟨_, _, rfl⟩ := h.eq
  exact (findTask_putTask _ _ _).trans (if_neg hx)

theorem lostAssigned_acts {D f p U} : ∀ (ids : List TaskId) {L : List TaskId} {s : State} {ru re : List TaskId}
    {res : State × List TaskId × List TaskId}, s.lostAssigned ids ru re = .ok res → ids.Nodup → (∀ x ∈ ids, x ∈ L) →
    (∀ id ∈ ids, ∀ task, s.task? id = some task → sd.lostA task.state) →
    Acts sd (⟨D, re, f, p, U, L⟩, s) (⟨D, res.2.2, f, p, U, L.filter (· ∉ ids)⟩, res.1)
  | [], L, _, _, _, _, h, _, _, _ => by
    cases h
    rw [List.filter_eq_self.mpr fun _ _ => by simp]
    exact .refl _
  | t :: rest, L, s, ru, re, res, h, hn, hd, hst => by
    obtain ⟨task, s0, t', ru', s2, r, ht, hc, hq, h2⟩ := lostAssigned_cons_ok h
    obtain ⟨hn1, hn2⟩ := List.nodup_cons.mp hn
    have hid : task.id = t := findTask_some_id ht
    have hkeep : ∀ x ∈ rest, s2.task? x = s.task? x := fun x hx => by
      have hne : x ≠ t := fun e => hn1 (e ▸ hx)
      cases hc <;> exact hq.task?_ne (hid ▸ hne)
    have := lostAssigned_acts (D := D) (f := f) (p := p) (U := U) rest (L := L.filter (· ≠ t)) h2 hn2
      (fun x hx => List.mem_filter.mpr ⟨hd x (List.mem_cons_of_mem _ hx), by
        have : x ≠ t := fun e => hn1 (e ▸ hx)
        simpa using this⟩)
      (fun x hx tk htk => hst x (List.mem_cons_of_mem _ hx) tk (by rw [← hkeep x hx]; exact htk))
    rw [filter_ne_filter] at this
    have hl := hd t List.mem_cons_self
    have hrq := hst t List.mem_cons_self task ht
    refine .step ?_ this
    cases hc with
    | running hs => exact .lostRequeue ht hl (by rw [hs]; exact nofun) hrq hq
    | retracting hs hany => exact .lostRedirect ht hl hs hany hq
    | other _ hnt => exact .lostRequeue ht hl hnt hrq hq

theorem lostRetracting_acts {R f p U} {w : Nat} : ∀ (l : List Task) {s : State} {out : Out} {res : State × Out},
    s.lostRetracting w l out = .ok res → Acts sd (⟨[], R, f, p, U, []⟩, s) (⟨[], R, f, p, U, []⟩, res.1)
  | [], _, _, _, h => by cases h; exact .refl _
  | t0 :: rest, s, _, _, h => by
    rcases lostRetracting_cons_ok h with ⟨_, h1⟩ | ⟨task0, ht, hs, ⟨target, rv, hf, h1⟩ | ⟨hf, h1⟩⟩
    · exact lostRetracting_acts rest h1
    · have ht' : s.task? task0.id = some task0 := by rw [findTask_some_id ht]; exact ht
      exact .step (.resolve (task0.inst + 1) ht' hs hf) (lostRetracting_acts rest h1)
    · have ht' : s.task? task0.id = some task0 := by rw [findTask_some_id ht]; exact ht
      exact .step (.unretract (task0.inst + 1) ht' hs hf) (lostRetracting_acts rest h1)

theorem crashLoop_acts {U} {fl : Bool} : ∀ (ids : List TaskId) {s : State} {rets : List (List TaskId)} {out : Out}
    {res : State × Out}, s.crashLoop fl ids rets out = .ok res → Acts sd (.idle U, s) (.idle U, res.1)
  | [], _, _, _, _, h => by cases h; exact .refl _
  | id :: rest, _, _, _, _, h => by
    rcases crashLoop_cons_ok h with ⟨_, h1⟩ | ⟨task, ht, ⟨_, s2, o, hf, h1⟩ | ⟨_, h1⟩⟩
    · exact crashLoop_acts rest h1
    · exact .step (.crash _ ht) ((taskFailed_acts hf).trans (crashLoop_acts rest h1))
    · exact .step (.crash _ ht) (crashLoop_acts rest h1)

/-- what `on_remove_worker` of the worker with record `wk` asks for: the lists of the record name no task twice; what the
family is told of the record and of the states the tasks it lists are requeued from -/
abbrev LostSide (sd : Side) (s : State) (wk : Worker) : Prop :=
  wk.assign.ids.Nodup ∧ sd.lost s wk ∧
    ∀ A F P, wk.assign = .sn A F P → (∀ id ∈ P, ∀ task, s.task? id = some task → sd.lostP task.state) ∧
      ∀ id ∈ A, ∀ task, s.task? id = some task → sd.lostA task.state

theorem lossPart1_acts {U} {s s1 : State} {w : Nat} {wk : Worker} {order running retracted : List TaskId}
    (hw : s.worker? w = some wk)
    (h : NPL.lossPart1 { s with workers := s.workers.filter (·.id ≠ w) } w wk.assign order = .ok (s1, running, retracted))
    (hl : LostSide sd s wk) : Acts sd (.idle U, s) (⟨[], retracted, none, [], U, []⟩, s1) := by
  obtain ⟨hnd, hL, hrq⟩ := hl
  rcases lossPart1_cases h with ⟨A, F, P, s01, ha, hperm, hp, hla⟩ |
    ⟨tid, isRoot, started, task, root, others, ha, ht, hs, hc⟩
  · rw [ha] at hnd
    obtain ⟨hP, hA, hdis⟩ := List.nodup_append.mp hnd
    have hon := NP.order_nodup hA hperm
    simp only [Bool.and_eq_true, decide_eq_true_eq] at hperm
    have hoA := mem_of_all_contains hperm.1.1
    have hAo := mem_of_all_contains hperm.1.2
    have hnp : ∀ x ∈ order, x ∉ P := fun x hx hxp => hdis x hxp x (hoA x hx) rfl
    have a0 := Act.dropSn (sd := sd) (D := []) (R := []) (f := none) (p := []) (U := U) (L := []) hw ha hL
    rw [List.append_nil] at a0
    have a1 := lostPrefilled_acts (sd := sd) (D := []) (R := []) (f := none) (p := []) (U := U) P (L := P ++ A) hp hP
      (fun x hx => List.mem_append_left _ hx) (hrq A F P ha).1
    have a2 := lostAssigned_acts (sd := sd) (D := []) (f := none) (p := []) (U := U) order
      (L := (P ++ A).filter (· ∉ P)) hla hon
      (fun x hx => List.mem_filter.mpr ⟨List.mem_append_right _ (hoA x hx), by simpa using hnp x hx⟩)
      (fun x hx tk htk => (hrq A F P ha).2 x (hoA x hx) tk (by
        rw [lostPrefilled_task?_ne P hp x (hnp x hx)] at htk; exact htk))
    have e : ((P ++ A).filter (· ∉ P)).filter (· ∉ order) = [] := List.filter_eq_nil_iff.mpr fun x hx => by
      obtain ⟨hx1, hx2⟩ := List.mem_filter.mp hx
      have hx2 : x ∉ P := by simpa using hx2
      simpa using hAo x ((List.mem_append.mp hx1).resolve_left hx2)
    rw [e] at a2
    exact (Acts.step a0 a1).trans a2
  · rcases hc with ⟨rfl, s01, hr, hq, _⟩ | ⟨hne, rfl, _, rfl⟩
    · have ht1 : s01.task? tid = some task := by
        rw [State.task?, congrArg State.tasks (resetMnAll_eq _ hr)]; exact ht
      refine .step (.dropMnRoot hw ha hL ht hs hr) ?_
      have := Act.requeue (sd := sd) (D := [tid]) (R := []) (f := none) (p := []) (U := U) (L := []) (task.inst + 1) ht1
        List.mem_cons_self (by rw [hs]; exact nofun) hq
      simpa using Star.single this
    · exact .single (.dropMnOther hw ha hL ht hs hne)

theorem removeWorker_acts {U} {s s' : State} {w : Nat} {reason : String} {fl : Bool} {order : List TaskId}
    {rets : List (List TaskId)} {o : Out}
    (hnd : ∀ wk, s.worker? w = some wk → LostSide sd s wk)
    (h : s.removeWorker w reason fl order rets = .ok (s', o)) : Acts sd (.idle U, s) (.idle U, s') := by
  obtain ⟨wk, s1, s2, s3, s4, running, retracted, out1, out2, hw, h1, h2, h3, h4, rfl⟩ := removeWorker_phases h
  exact (((lossPart1_acts hw h1 (hnd wk hw)).trans (lostRetracting_acts _ h2)).trans (retract_acts h3)).trans
    (Star.tail (crashLoop_acts _ h4) .ask)

/-- the default of the last hypothesis closes it for a `Side` with `newTask := fun _ => True` -/
theorem addNewTasks_acts {D L} : ∀ (nts : List NewTask) {U : List TaskId} {s : State} {r : List TaskId}
    {res : State × List TaskId}, s.addNewTasks nts r = .ok res →
    (∀ pre nt post, nts = pre ++ nt :: post → sd.fresh (U ++ pre.map (·.id)) nt.id) →
    ∀ (_ : ∀ nt ∈ nts, sd.newTask nt := by intros; exact trivial),
    Acts sd (⟨D, r, none, [], U, L⟩, s) (⟨D, res.2, none, [], U ++ nts.map (·.id), L⟩, res.1)
  | [], U, _, _, _, h, _, _ => by cases h; simpa using Star.refl _
  | nt :: rest, U, s, r, res, h, hf, hN => by
    obtain ⟨ts, kept, n, hreg, hnone, hc⟩ := addNewTasks_cons_ok h
    have hU : sd.fresh U nt.id := by simpa using hf [] nt rest rfl
    have hf' : ∀ pre x post, rest = pre ++ x :: post → sd.fresh (U ++ [nt.id] ++ pre.map (·.id)) x.id :=
      fun pre x post e => by simpa using hf (nt :: pre) x post (by rw [e]; rfl)
    have e : U ++ (nt :: rest).map (·.id) = U ++ [nt.id] ++ rest.map (·.id) := by simp
    rw [e]
    rcases hc with ⟨rfl, s2, r2, ha, h2⟩ | ⟨hn, h2⟩
    · exact .step (.newReady hreg hnone hU ha (hN nt List.mem_cons_self))
        (addNewTasks_acts rest h2 hf' fun x hx => hN x (List.mem_cons_of_mem _ hx))
    · exact .step (.newWaiting hreg hnone hn hU (hN nt List.mem_cons_self))
        (addNewTasks_acts rest h2 hf' fun x hx => hN x (List.mem_cons_of_mem _ hx))

theorem newTasks_acts {U} {s s' : State} {nts : List NewTask} {o : Out}
    (hf : ∀ pre nt post, nts = pre ++ nt :: post → sd.fresh (U ++ pre.map (·.id)) nt.id)
    (h : s.newTasks nts = .ok (s', o)) (hN : ∀ nt ∈ nts, sd.newTask nt := by intros; exact trivial) :
    Acts sd (.idle U, s) (.idle (U ++ nts.map (·.id)), s') := by
  obtain ⟨_, s1, retracted, s2, h1, h2, rfl⟩ := newTasks_path h
  exact Star.tail ((addNewTasks_acts nts h1 hf hN).trans (retract_acts h2)) .ask

theorem newWorker_acts {g : Gh} {s s' : State} {w : Worker} {o : Out} (hW : sd.worker s w)
    (h : s.newWorker w = .ok (s', o)) : Acts sd (g, s) (g, s') := by
  cases h
  exact Star.tail (.single (.newWorker w hW)) .ask

end HqModel.Core
