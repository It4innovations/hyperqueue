import HqModel.Lemmas.AutoAllocOps
/-!
`submit_allocation` is called by ticks only (`step_submit`), and where the calls of a tick come from (C17 `c17_silent`,
`c17_pause`, `c17_resume_live`): the loop over the queues runs `queue_try_submit` on each queue as the pausing pass left it
(`submitAll_runs`, `State.tickLoop_runs`); what that pass leaves is `State.pauseAll_spec`, `State.pauseAll_active`.
-/
namespace HqModel.AutoAlloc

theorem zip_snd_nodup {α β : Type} (l1 : List α) (l2 : List β) (h : l2.Nodup) : ((l1.zip l2).map (·.2)).Nodup := by
  induction l1 generalizing l2 with
  | nil => simp
  | cons a as ih =>
    cases l2 with
    | nil => simp
    | cons b bs =>
      simp only [List.zip_cons_cons, List.map_cons, List.nodup_cons] at h ⊢
      refine ⟨fun hb => h.1 ?_, ih bs h.2⟩
      obtain ⟨⟨a', b'⟩, hab, rfl⟩ := List.mem_map.mp hb
      exact (List.of_mem_zip hab).2

theorem step_submit (s : State) (e : Ev) (x n : Nat) (h : Out.submit x n ∈ (step s e).outs) :
    ∃ now order query results, e = .tick now order query results := by
  have quiet : ∀ {outs : List Out}, Quiet outs → Out.submit x n ∈ outs → False := fun hq => hq.2 x n
  have life : ∀ {outs : List Out}, (∀ o ∈ outs, o.isLifeEvent) → Out.submit x n ∈ outs → False := fun hl hm => hl _ hm
  have worker : ∀ a r, Out.submit x n ∈ (s.workerEvent a r).outs → False := by
    intro a r h
    rcases State.workerEvent_cases s a r with h0 | ⟨k, q, _, _, h0⟩ <;> rw [h0] at h
    · exact quiet (Quiet.of_all rfl rfl) h
    · exact (List.mem_append.mp h).elim (life (Queue.sync_outs q a r)) (quiet (Quiet.of_all rfl rfl))
  cases e with
  | tick now order query results => exact ⟨_, _, _, _, rfl⟩
  | workerConnected w a => exact (worker a _ h).elim
  | workerLost w a crashed => exact (worker a _ h).elim
  | jobSubmitted => exact (quiet (Quiet.of_all rfl rfl) h).elim
  | addQueue p lim qid =>
    have h : Out.submit x n ∈ (s.addQueue p lim qid).outs := h
    rcases State.addQueue_cases s p lim qid with ⟨_, h0⟩ | ⟨_, outs, hq, h0⟩ <;> rw [h0] at h
    · cases h
    · exact (quiet hq h).elim
  | removeQueue k f =>
    have h : Out.submit x n ∈ (s.removeQueue k f).outs := h
    rcases State.removeQueue_cases s k f with ⟨outs, hq, h0⟩ | ⟨q, outs, p, m, _, hq, h0⟩ <;> rw [h0] at h <;>
      exact (quiet hq h).elim
  | pause k =>
    have h : Out.submit x n ∈ (s.pause k).outs := h
    obtain ⟨outs, hq, h0 | ⟨_, _, h0⟩⟩ := State.pause_cases s k <;> rw [h0] at h <;> exact (quiet hq h).elim
  | resume k =>
    have h : Out.submit x n ∈ (s.resume k).outs := h
    obtain ⟨outs, hq, h0 | ⟨_, _, h0⟩⟩ := State.resume_cases s k <;> rw [h0] at h <;> exact (quiet hq h).elim
  | refresh reports =>
    have h : Out.submit x n ∈ (s.refresh reports).outs := h
    obtain ⟨tail, hq, h0 | h0⟩ := State.refresh_cases s reports <;> rw [h0] at h
    · exact (quiet hq h).elim
    · refine ((List.mem_append.mp h).elim (life ?_) (quiet hq)).elim
      exact State.refreshAll_ind (fun _ outs => ∀ o ∈ outs, o.isLifeEvent)
        (fun _ _ _ q rep _ h o ho => (List.mem_append.mp ho).elim (h o) (Queue.refresh_outs _ q rep o))
        reports (s, []) (fun _ ho => nomatch ho)

/-- The loop over the queues, whose ids are distinct, runs `queue_try_submit` on queues as they were when the loop
started: its outputs are those of the runs `(answer, queue, scripted results)` in turn, and unless it stops at a panic
every listed queue that exists has its run. -/
theorem submitAll_runs (now : Nat) (l : List (QResp × Nat)) (acc : TickAcc) (hnd : (l.map (·.2)).Nodup) :
    ∃ runs : List (QResp × Queue × List SubRes),
      (submitAll now l acc).outs = acc.outs ++ runs.flatMap (fun t => (t.2.1.trySubmit t.1 now t.2.2).outs) ∧
      (∀ t ∈ runs, (t.1, t.2.1.id) ∈ l ∧ acc.st.getQueue t.2.1.id = some t.2.1) ∧
      ((submitAll now l acc).panic = none → ∀ r x qu, (r, x) ∈ l → acc.st.getQueue x = some qu →
        ∃ res, (r, qu, res) ∈ runs) := by
  induction l generalizing acc with
  | nil => exact ⟨[], (List.append_nil _).symm, nofun, fun _ _ _ _ h => nomatch h⟩
  | cons y ys ih =>
    obtain ⟨r, qid⟩ := y
    obtain ⟨hqid, hnd⟩ := List.nodup_cons.mp hnd
    -- a queue listed later is not the one of this round
    have later : ∀ {r' x}, (r', x) ∈ ys → x ≠ qid := fun h e => hqid (e ▸ List.mem_map.mpr ⟨_, h, rfl⟩)
    rcases submitAll_cons now r qid ys acc with ⟨hq, h⟩ | ⟨qq, acc', hq, hacc, h⟩
    · obtain ⟨runs, h1, h2, h3⟩ := ih acc hnd
      rw [h]
      refine ⟨runs, h1, fun t ht => ⟨List.mem_cons_of_mem _ (h2 t ht).1, (h2 t ht).2⟩, fun hnp r' x qu hm hx => ?_⟩
      rcases List.mem_cons.mp hm with e | hm
      · cases e; rw [hq] at hx; cases hx
      · exact h3 hnp r' x qu hm hx
    · have hid := State.getQueue_id _ _ _ hq
      have hst : ∀ x, x ≠ qid → acc'.st.getQueue x = acc.st.getQueue x := fun x hx => by
        rw [hacc]
        exact (State.getQueue_setQueue _ _ x).trans
          (if_neg fun e => hx (e.trans ((Queue.trySubmit_id _ _ _ _).trans hid)))
      have houts : acc'.outs = acc.outs ++ (qq.trySubmit r now acc.results).outs := by rw [hacc]
      rcases h with ⟨hp, h⟩ | ⟨hp, h⟩ <;> rw [h]
      · exact ⟨[(r, qq, acc.results)], by rw [houts, List.flatMap_singleton],
          fun t ht => by cases List.mem_singleton.mp ht; exact ⟨by rw [hid]; exact List.mem_cons_self, by rw [hid]; exact hq⟩,
          fun hnp => absurd hnp hp⟩
      · obtain ⟨runs, h1, h2, h3⟩ := ih acc' hnd
        refine ⟨(r, qq, acc.results) :: runs, by rw [h1, houts, List.flatMap_cons, List.append_assoc], fun t ht => ?_,
          fun hnp r' x qu hm hx => ?_⟩
        · rcases List.mem_cons.mp ht with rfl | ht
          · exact ⟨by rw [hid]; exact List.mem_cons_self, by rw [hid]; exact hq⟩
          · exact ⟨List.mem_cons_of_mem _ (h2 t ht).1, (hst _ (later (h2 t ht).1)).symm.trans (h2 t ht).2⟩
        · rcases List.mem_cons.mp hm with e | hm
          · cases e
            rw [hq] at hx; cases hx
            exact ⟨_, List.mem_cons_self⟩
          · obtain ⟨res, hr⟩ := h3 hnp r' x qu hm ((hst x (later hm)).trans hx)
            exact ⟨res, List.mem_cons_of_mem _ hr⟩

theorem State.activeIn_nodup (s : State) (order : List Nat) (h : order.Nodup) : (s.activeIn order).Nodup :=
  List.Nodup.sublist List.filter_sublist h

theorem State.tickLoop_runs (s : State) (now : Nat) (order : List Nat) (results : List SubRes) (responses : List QResp)
    (hnd : order.Nodup) :
    ∃ runs : List (QResp × Queue × List SubRes),
      (s.tickLoop now order results responses).outs =
        [.query (s.pauseAll.activeIn order).length] ++ runs.flatMap (fun t => (t.2.1.trySubmit t.1 now t.2.2).outs) ∧
      (∀ t ∈ runs, (t.1, t.2.1.id) ∈ responses.zip (s.pauseAll.activeIn order) ∧
        s.pauseAll.getQueue t.2.1.id = some t.2.1) ∧
      ((s.tickLoop now order results responses).panic = none → ∀ r x qu,
        (r, x) ∈ responses.zip (s.pauseAll.activeIn order) → s.pauseAll.getQueue x = some qu →
        ∃ res, (r, qu, res) ∈ runs) :=
  submitAll_runs now _ _ (zip_snd_nodup _ _ (State.activeIn_nodup _ _ hnd))

theorem submitAll_panic_head (now : Nat) (r : QResp) (qid : Nat) (ys : List (QResp × Nat)) (acc : TickAcc) (qq : Queue)
    (hq : acc.st.getQueue qid = some qq) (p : Panic) (hp : (qq.trySubmit r now acc.results).panic = some p) :
    (submitAll now ((r, qid) :: ys) acc).panic = some p := by
  simp only [submitAll, hq, hp]

theorem Queue.tryPause_active (q : Queue) (h : q.tryPause.active = true) : q.tryPause = q := by
  rcases q.tryPause_cases with h' | ⟨_, h'⟩
  · exact h'
  · rw [h'] at h; cases h

theorem State.pauseAll_spec (s : State) : ∀ q ∈ s.pauseAll.queues, q.lim.limitsReached = true → q.active = false := by
  intro q hq hl
  obtain ⟨y, _, rfl⟩ := State.mem_pauseAll.mp hq
  exact Queue.tryPause_spec y hl

theorem State.pauseAll_active (s : State) (x : Nat) (qu : Queue) (h : s.pauseAll.getQueue x = some qu)
    (ha : qu.active = true) : s.getQueue x = some qu := by
  rw [State.getQueue_pauseAll] at h
  cases hq : s.getQueue x with
  | none => rw [hq] at h; cases h
  | some q0 =>
    rw [hq] at h
    obtain rfl := Option.some.inj h
    rw [Queue.tryPause_active q0 ha]

end HqModel.AutoAlloc
