import HqModel.Lemmas.CoreDesc
/-!
The reactor as a program over *acts*. Every handler of `reactor.rs` is a sequence of the same few state changes; `Act`
lists them, each with the model's own success equations as arguments. Between two acts the invariants of the core
hold only up to the work still to be done, which is what the model's loops carry in their accumulators: `Gh` names
those, `Act` relates (accumulators, state) pairs, and a handler that succeeds is a chain of acts from idle to idle
(`…_acts`). A family of invariants states its invariant for a pair and proves one lemma by cases on `Act`.

The scheduling round is not under it: its invariants are relative to the state the round started from, a parameter
and not an accumulator.
-/
namespace HqModel.Core

/-- The accumulators, in the model's terms.
* `D`: tasks whose worker side has been released while their record still shows the old state: `unreg` of
  `on_cancel_tasks` between its two loops, the failed / finished / rejected task until its record is rewritten or erased.
* `R`: ids `add_ready_task` disposed from a prefill set that `process_retracted` has not seen yet (the `retracted`
  vectors); their records are still Prefilled.
* `fin`, `pend`: the task `task_finished` has marked Finished and not yet removed; the rest of its consumer list.
* `L`: the ids the record of a removed single-node worker listed and `on_remove_worker` has not requeued yet.
* `U`: every task id submitted so far. -/
structure Gh where
  D : List TaskId := []
  R : List TaskId := []
  fin : Option TaskId := none
  pend : List TaskId := []
  U : List TaskId := []
  L : List TaskId := []

/-- the accumulators at the boundaries of an operation -/
abbrev Gh.idle (U : List TaskId) : Gh := { U := U }

/-- What a family is told about the acts that keep an invariant only under a condition the code does not check
(`task_reject` from a worker that does not hold the task, `task_running` that books resources, the loops of
`on_remove_worker` that write a record without looking at it …). The conditions differ from family to family and are
defined where the families are: an act carries `sd.…` of what it has at hand, a family chooses the predicates
(`{ Side.any with … }`), and the `…_acts` lemmas ask their caller for the fact. `stale` goes with `Act.stale`; `fin`
gets the state `finish` overwrites; `run` the arguments of `task_running`; `fresh` the ids submitted so far and the new
id, `newTask` the new task (`newWaiting`, `newReady`); `worker`, `rq` what `newWorker`, `newRq` add; `lost` the state
and the record of the worker a `drop…` removes; `lostP` / `lostA` the state `lostPrefilled` / `lostRequeue` overwrites. -/
structure Side where
  stale : Prop
  fin : TS → Prop
  run : State → Nat → TaskId → Nat → Prop
  fresh : List TaskId → TaskId → Prop
  worker : State → Worker → Prop
  rq : Rqv → Prop
  lost : State → Worker → Prop
  lostP : TS → Prop
  lostA : TS → Prop
  newTask : NewTask → Prop

/-- nothing is told -/
def Side.any : Side :=
  ⟨True, fun _ => True, fun _ _ _ _ => True, fun _ _ => True, fun _ _ => True, fun _ => True, fun _ _ => True,
    fun _ => True, fun _ => True, fun _ => True⟩

/-- `c'` is told no more than `c` -/
structure Side.le (c c' : Side) : Prop where
  stale : c.stale → c'.stale
  fin : ∀ st, c.fin st → c'.fin st
  run : ∀ s w id rv, c.run s w id rv → c'.run s w id rv
  fresh : ∀ U id, c.fresh U id → c'.fresh U id
  worker : ∀ s w, c.worker s w → c'.worker s w
  rq : ∀ r, c.rq r → c'.rq r
  lost : ∀ s wk, c.lost s wk → c'.lost s wk
  lostP : ∀ st, c.lostP st → c'.lostP st
  lostA : ∀ st, c.lostA st → c'.lostA st
  newTask : ∀ nt, c.newTask nt → c'.newTask nt

/-- A premise about an accumulator (`id ∈ D`, a pattern `x :: p`, `none`, `[]`) says where in its handler the act can
occur. -/
inductive Act (sd : Side) : Gh × State → Gh × State → Prop
  /-- the worker side gives up `id` (`remove_sn_task`, `remove_prefill_task` + `remove_prefilled`, `try_remove_redirection`,
  `reset_mn_task`, by the state of the task); the record is untouched -/
  | release {D R f p U L} {s s1 : State} {id : TaskId} {task : Task} (ht : s.task? id = some task)
      (h : Release s id task s1) : Act sd (⟨D, R, f, p, U, L⟩, s) (⟨id :: D, R, f, p, U, L⟩, s1)
  /-- `task_finished` after the release: `task.state = Finished` -/
  | finish {D R U L} {s : State} {id : TaskId} {task : Task} (ht : s.task? id = some task) (hd : id ∈ D)
      (hs : ∀ n, task.state ≠ .waiting n) (hr : sd.fin task.state) :
      Act sd (⟨D, R, none, [], U, L⟩, s)
        (⟨D.filter (· ≠ id), R, some id, task.consumers, U, L⟩, s.setTask { task with state := .finished })
  /-- `decrease_unfinished_deps` of the next consumer, other dependencies remain -/
  | wake {D R f p U L} {s : State} {x : TaskId} {t : Task} {n : Nat} (ht : s.task? x = some t)
      (hs : t.state = .waiting (n + 1)) (hn : n ≠ 0) :
      Act sd (⟨D, R, f, x :: p, U, L⟩, s) (⟨D, R, f, p, U, L⟩, s.setTask { t with state := .waiting n })
  /-- `decrease_unfinished_deps` of the next consumer to zero: `add_ready_task`, which may dispose prefill sets (`r`) -/
  | wakeReady {D R f p U L} {s s2 : State} {x : TaskId} {t : Task} {r : List TaskId} (ht : s.task? x = some t)
      (hs : t.state = .waiting 1) (h : Requeued s { t with state := .waiting 0 } s2 r) :
      Act sd (⟨D, R, f, x :: p, U, L⟩, s) (⟨D, R ++ r, f, p, U, L⟩, s2)
  /-- a released task goes back: `Waiting{0}` and `add_ready_task` (the tail of `task_reject`; the multi-node task of a lost
  root worker) -/
  | requeue {D R f p U L} {s s2 : State} {id : TaskId} {task : Task} {r : List TaskId} (i : Nat)
      (ht : s.task? id = some task) (hd : id ∈ D) (hs : ∀ n, task.state ≠ .waiting (n + 1))
      (h : Requeued s { task with state := .waiting 0, inst := i } s2 r) :
      Act sd (⟨D, R, f, p, U, L⟩, s) (⟨D.filter (· ≠ id), R ++ r, f, p, U, L⟩, s2)
  /-- `task_reject` of an Assigned task from another worker or for another variant (only logged): requeued WITHOUT
  `remove_sn_task`, so the id stays in the worker's set -/
  | stale {D R f p U L} {s s2 : State} {id : TaskId} {task : Task} {w' rv' : Nat} {r : List TaskId} (hP : sd.stale)
      (ht : s.task? id = some task) (hs : task.state = .assigned w' rv')
      (h : Requeued s { task with state := .waiting 0 } s2 r) :
      Act sd (⟨D, R, f, p, U, L⟩, s) (⟨D, R ++ r, f, p, U, L⟩, s2)
  /-- one id of `process_retracted` -/
  | retract {D R f p U L} {s s1 : State} {t : TaskId} {task : Task} {w : Nat} (ht : s.task? t = some task)
      (hs : task.state = .prefilled w) (hw : s.withWorker w (·.removePrefill t) = .ok s1) :
      Act sd (⟨D, t :: R, f, p, U, L⟩, s) (⟨D, R, f, p, U, L⟩, s1.setTask { task with state := .retracting w })
  /-- `on_cancel_tasks` adds `collect_recursive_consumers` of a cancelled task to `unreg` -/
  | doom {D R f p U L} {s : State} {id : TaskId} {task : Task} {cons : List TaskId} (ht : s.task? id = some task)
      (hc : s.recursiveConsumers task = .ok cons) : Act sd (⟨D, R, f, p, U, L⟩, s) (⟨cons ++ D, R, f, p, U, L⟩, s)
  /-- `remove_task` of a task in repair (second loop of `on_cancel_tasks`, the failed task of `task_failed`) -/
  | erase {D R f p U L} {s s' : State} {id : TaskId} {st : TS} (h : s.removeTask id = .ok (s', st)) (hd : id ∈ D)
      (hf : f = none) : Act sd (⟨D, R, f, p, U, L⟩, s) (⟨D.filter (· ≠ id), R, f, p, U, L⟩, s')
  /-- `remove_task` of a consumer of a failed task, asserted Waiting. Only where no task is being finished: a woken consumer of
  a task that is being finished is still in its consumer list. -/
  | eraseW {g : Gh} {s s' : State} {id : TaskId} {n : Nat} (h : s.removeTask id = .ok (s', .waiting n))
      (hf : g.fin = none) : Act sd (g, s) (g, s')
  /-- `remove_task` of the finished task, all consumers woken -/
  | eraseFin {D R U L} {s s' : State} {id : TaskId} (h : s.removeTask id = .ok (s', .finished)) :
      Act sd (⟨D, R, some id, [], U, L⟩, s) (⟨D, R, none, [], U, L⟩, s')
  /-- `redirects.remove(id)` hits: the Retracting task becomes Assigned to the target (`task_reject`, `on_retract_response`) -/
  | resolve {R f p U} {s : State} {id : TaskId} {task : Task} {w target trv : Nat} (i : Nat)
      (ht : s.task? id = some task) (hs : task.state = .retracting w)
      (hf : s.redirects.find? (·.1 = id) = some (id, target, trv)) :
      Act sd (⟨[], R, f, p, U, []⟩, s)
        (⟨[], R, f, p, U, []⟩, ({ s with redirects := s.redirects.filter (·.1 ≠ id) } : State).setTask
          { task with state := .assigned target trv, inst := i })
  /-- `redirects.remove(id)` misses: the Retracting task becomes Waiting; its id is in the ready list already -/
  | unretract {R f p U} {s : State} {id : TaskId} {task : Task} {w : Nat} (i : Nat) (ht : s.task? id = some task)
      (hs : task.state = .retracting w) (hf : s.redirects.find? (·.1 = id) = none) :
      Act sd (⟨[], R, f, p, U, []⟩, s) (⟨[], R, f, p, U, []⟩, s.setTask { task with state := .waiting 0, inst := i })
  /-- `task_running`. TRAP: only where `D = R = L = []`. It is the one act that gives a worker a task: were `id` in `D` or `L`, a
  task in repair would be held again, and a disposed id of `R` that starts would stay in `R` with a Running record, on which
  `process_retracted` stops. In `on_task_update` it occurs between handlers, where all three are empty. -/
  | run {f p U} {s s' : State} {w : Nat} {id : TaskId} {rv : Nat} {task : Task} {ws : List Nat}
      (ht : s.task? id = some task) (h : RunningArm s w id rv task s' ws) (hS : sd.run s w id rv) :
      Act sd (⟨[], [], f, p, U, []⟩, s) (⟨[], [], f, p, U, []⟩, s')
  /-- `block_request` (`task_reject`) / `unblock_request` (`request_enabled`) -/
  | block {g : Gh} {s : State} {w : Nat} {wk : Worker} (b : List (Nat × Nat)) (hw : s.worker? w = some wk) :
      Act sd (g, s) (g, s.setWorker { wk with blocked := b })
  /-- `scheduler_state.schedule()` is requested -/
  | ask {g : Gh} {s : State} : Act sd (g, s) (g, ask s)
  /-- `on_remove_worker` of a worker with a single-node record: the tasks it listed wait in `L` -/
  | dropSn {D R f p U L} {s : State} {w : Nat} {wk : Worker} {A P : List TaskId} {F : List Nat}
      (hw : s.worker? w = some wk) (ha : wk.assign = .sn A F P) (hL : sd.lost s wk) :
      Act sd (⟨D, R, f, p, U, L⟩, s) (⟨D, R, f, p, U, P ++ A ++ L⟩, { s with workers := s.workers.filter (·.id ≠ w) })
  /-- `on_remove_worker` of the root of a multi-node task, with `reset_mn_task` on the other workers in the same act: only
  then nobody holds the task; `requeue` follows -/
  | dropMnRoot {D R f p U L} {s s1 : State} {w : Nat} {wk : Worker} {t : TaskId} {ro st : Bool} {task : Task}
      {others : List Nat} (hw : s.worker? w = some wk) (ha : wk.assign = .mn t ro st) (hL : sd.lost s wk)
      (ht : s.task? t = some task) (hs : task.state = .runningMN (w :: others))
      (h : resetMnAll { s with workers := s.workers.filter (·.id ≠ w) } others = .ok s1) :
      Act sd (⟨D, R, f, p, U, L⟩, s) (⟨t :: D, R, f, p, U, L⟩, s1)
  /-- `on_remove_worker` of another worker of a multi-node task: it leaves the task's list -/
  | dropMnOther {g : Gh} {s : State} {w : Nat} {wk : Worker} {t : TaskId} {ro st : Bool} {task : Task} {root : Nat}
      {others : List Nat} (hw : s.worker? w = some wk) (ha : wk.assign = .mn t ro st) (hL : sd.lost s wk)
      (ht : s.task? t = some task) (hs : task.state = .runningMN (root :: others)) (hr : root ≠ w) :
      Act sd (g, s)
        (g, ({ s with workers := s.workers.filter (·.id ≠ w) } : State).setTask
          { task with state := .runningMN ((root :: others).filter (· ≠ w)) })
  /-- `on_remove_worker`, loop over `prefilled_tasks`: `move_prefilled_task_to_ready`; the loop does not look at the record -/
  | lostPrefilled {D R f p U L} {s s2 : State} {id : TaskId} {task : Task} (ht : s.task? id = some task) (hl : id ∈ L)
      (hq : sd.lostP task.state)
      (h : (s.setTask { task with inst := task.inst + 1, state := .waiting 0 }).movePrefilledToReady task.rq id = .ok s2) :
      Act sd (⟨D, R, f, p, U, L⟩, s) (⟨D, R, f, p, U, L.filter (· ≠ id)⟩, s2)
  /-- `on_remove_worker`, loop over `assigned_tasks`, a task that is not Retracting: `add_ready_task` -/
  | lostRequeue {D R f p U L} {s s2 : State} {id : TaskId} {task : Task} {r : List TaskId} (ht : s.task? id = some task)
      (hl : id ∈ L) (hs : ∀ x, task.state ≠ .retracting x) (hq : sd.lostA task.state)
      (h : Requeued s { task with state := .waiting 0, inst := task.inst + 1 } s2 r) :
      Act sd (⟨D, R, f, p, U, L⟩, s) (⟨D, R ++ r, f, p, U, L.filter (· ≠ id)⟩, s2)
  /-- `on_remove_worker`, loop over `assigned_tasks`, a task Retracting elsewhere and redirected to the lost worker: the
  redirect goes, the record keeps its state and is queued -/
  | lostRedirect {D R f p U L} {s s2 : State} {id : TaskId} {task : Task} {x : Nat} {r : List TaskId}
      (ht : s.task? id = some task) (hl : id ∈ L) (hs : task.state = .retracting x)
      (hany : s.redirects.any (·.1 = id) = true)
      (h : Requeued { s with redirects := s.redirects.filter (·.1 ≠ id) } { task with inst := task.inst + 1 } s2 r) :
      Act sd (⟨D, R, f, p, U, L⟩, s) (⟨D, R ++ r, f, p, U, L.filter (· ≠ id)⟩, s2)
  /-- `increment_crash_counter` -/
  | crash {g : Gh} {s : State} {id : TaskId} {task : Task} (n : Nat) (ht : s.task? id = some task) :
      Act sd (g, s) (g, s.setTask { task with crashes := n })
  /-- `on_new_tasks`, a task with unfinished dependencies. Only where no task is being finished, as the dependency count of
  the new record is computed from what is Finished now. -/
  | newWaiting {D R U L} {s : State} {nt : NewTask} {ts : List Task} {kept : List TaskId} {n : Nat}
      (hreg : registerDeps s.tasks nt.id nt.deps = (ts, kept, n)) (hnone : findTask ts nt.id = none) (hn : n ≠ 0)
      (hU : sd.fresh U nt.id) (hN : sd.newTask nt) :
      Act sd (⟨D, R, none, [], U, L⟩, s)
        (⟨D, R, none, [], U ++ [nt.id], L⟩, { s with tasks := ts ++ [mkTask nt n kept] })
  /-- `on_new_tasks`, a task without unfinished dependencies: `add_ready_task` first, then the record is appended -/
  | newReady {D R U L} {s s2 : State} {nt : NewTask} {ts : List Task} {kept r : List TaskId}
      (hreg : registerDeps s.tasks nt.id nt.deps = (ts, kept, 0)) (hnone : findTask ts nt.id = none)
      (hU : sd.fresh U nt.id) (h : ({ s with tasks := ts } : State).addReady (mkTask nt 0 kept) = .ok (s2, r))
      (hN : sd.newTask nt) :
      Act sd (⟨D, R, none, [], U, L⟩, s)
        (⟨D, R ++ r, none, [], U ++ [nt.id], L⟩, { s2 with tasks := s2.tasks ++ [mkTask nt 0 kept] })
  /-- `on_new_worker` -/
  | newWorker {g : Gh} {s : State} (w : Worker) (hW : sd.worker s w) :
      Act sd (g, s) (g, { s with workers := s.workers ++ [w] })
  /-- a new resource request with its (empty) queue -/
  | newRq {g : Gh} {s : State} (rqv : Rqv) (hq : sd.rq rqv) : Act sd (g, s) (g, s.newRq rqv)

abbrev Acts (sd : Side) := Star (Act sd)

variable {sd : Side}

theorem Acts.step {a b c : Gh × State} (h : Act sd a b) (h' : Acts sd b c) : Acts sd a c :=
  (Star.single h).trans h'

theorem Act.weaken {sd' : Side} (hle : sd.le sd') {a b : Gh × State} (h : Act sd a b) : Act sd' a b := by
  cases h with
  | release ht h => exact .release ht h
  | finish ht hd hs hr => exact .finish ht hd hs (hle.fin _ hr)
  | wake ht hs hn => exact .wake ht hs hn
  | wakeReady ht hs h => exact .wakeReady ht hs h
  | requeue i ht hd hs h => exact .requeue i ht hd hs h
  | stale hP ht hs h => exact .stale (hle.stale hP) ht hs h
  | retract ht hs hw => exact .retract ht hs hw
  | doom ht hc => exact .doom ht hc
  | erase h hd hf => exact .erase h hd hf
  | eraseW h hf => exact .eraseW h hf
  | eraseFin h => exact .eraseFin h
  | resolve i ht hs hf => exact .resolve i ht hs hf
  | unretract i ht hs hf => exact .unretract i ht hs hf
  | run ht h hS => exact .run ht h (hle.run _ _ _ _ hS)
  | block b hw => exact .block b hw
  | ask => exact .ask
  | dropSn hw ha hL => exact .dropSn hw ha (hle.lost _ _ hL)
  | dropMnRoot hw ha hL ht hs h => exact .dropMnRoot hw ha (hle.lost _ _ hL) ht hs h
  | dropMnOther hw ha hL ht hs hr => exact .dropMnOther hw ha (hle.lost _ _ hL) ht hs hr
  | lostPrefilled ht hl hq h => exact .lostPrefilled ht hl (hle.lostP _ hq) h
  | lostRequeue ht hl hs hq h => exact .lostRequeue ht hl hs (hle.lostA _ hq) h
  | lostRedirect ht hl hs hany h => exact .lostRedirect ht hl hs hany h
  | crash n ht => exact .crash n ht
  | newWaiting hreg hnone hn hU hN => exact .newWaiting hreg hnone hn (hle.fresh _ _ hU) (hle.newTask _ hN)
  | newReady hreg hnone hU h hN => exact .newReady hreg hnone (hle.fresh _ _ hU) h (hle.newTask _ hN)
  | newWorker w hW => exact .newWorker w (hle.worker _ _ hW)
  | newRq rqv hq => exact .newRq rqv (hle.rq _ hq)

theorem Acts.weaken {sd' : Side} (hle : sd.le sd') {a b : Gh × State} (h : Acts sd a b) : Acts sd' a b :=
  h.mono fun r => r.weaken hle

theorem processRetracted_acts {D f p U L} : ∀ (l : List TaskId) {s s' : State} {acc acc' : List (Nat × TaskId)},
    s.processRetracted l acc = .ok (s', acc') → Acts sd (⟨D, l, f, p, U, L⟩, s) (⟨D, [], f, p, U, L⟩, s')
  | [], _, _, _, _, h => by cases h; exact .refl _
  | t :: rest, _, _, _, _, h => by
    obtain ⟨task, w, s1, ht, hs, hw, h1⟩ := processRetracted_cons_ok h
    exact .step (.retract ht hs hw) (processRetracted_acts rest h1)

theorem retract_acts {D f p U L} {l : List TaskId} {s s' : State} {o : Out} (h : s.retract l = .ok (s', o)) :
    Acts sd (⟨D, l, f, p, U, L⟩, s) (⟨D, [], f, p, U, L⟩, s') := by
  obtain ⟨_, h1, _⟩ := retract_ok_iff.mp h
  exact processRetracted_acts l h1

theorem wakeConsumers_acts {D f U L} : ∀ (cs : List TaskId) {s s' : State} {r r' : List TaskId},
    s.wakeConsumers cs r = .ok (s', r') → Acts sd (⟨D, r, f, cs, U, L⟩, s) (⟨D, r', f, [], U, L⟩, s')
  | [], _, _, _, _, h => by cases h; exact .refl _
  | c :: rest, _, _, _, _, h => by
    obtain ⟨t, n, ht, hs, h1⟩ := wakeConsumers_cons_ok h
    rcases h1 with ⟨rfl, s2, r2, hq, h2⟩ | ⟨hn, h2⟩
    · exact .step (.wakeReady ht hs hq) (wakeConsumers_acts rest h2)
    · exact .step (.wake ht hs hn) (wakeConsumers_acts rest h2)

theorem taskFinished_acts {U} {s s' : State} {w : Nat} {id : TaskId} {o : Out} {b : Bool}
    (hN : ∀ task, s.task? id = some task → sd.fin task.state)
    (h : s.taskFinished w id = .ok (s', o, b)) : Acts sd (.idle U, s) (.idle U, s') := by
  rcases taskFinished_path h with ⟨_, rfl, _⟩ | ⟨task, s1, s3, retracted, s4, out, ht, hp, h3, h4, h5, _⟩
  · exact .refl _
  · have ht1 : s1.task? id = some task := by rw [State.task?, hp.release.tasks]; exact ht
    have hnw : ∀ n, task.state ≠ .waiting n := by
      rcases hp.state with ⟨_, e⟩ | ⟨_, e⟩ | ⟨_, e⟩ | e <;> rw [e] <;> exact nofun
    refine .step (.release ht hp.release) (.step (.finish ht1 List.mem_cons_self hnw (hN task ht)) ?_)
    rw [show ([id].filter (· ≠ id)) = [] by simp]
    exact ((wakeConsumers_acts _ h3).trans (retract_acts h4)).trans (.single (.eraseFin h5))

theorem rejectTail_acts {D f p U L} {s1 : State} {id : TaskId} {task : Task} {res : State × Out × Bool}
    (ht : s1.task? id = some task) (hd : id ∈ D) (hs : ∀ n, task.state ≠ .waiting (n + 1))
    (h : rejectTail s1 task = .ok res) : Acts sd (⟨D, [], f, p, U, L⟩, s1) (⟨D.filter (· ≠ id), [], f, p, U, L⟩, res.1) := by
  obtain ⟨s2, r, s3, out, hq, hr, rfl⟩ := rejectTail_ok_iff.mp h
  exact .step (.requeue task.inst ht hd hs hq) (retract_acts hr)

theorem taskReject_acts {U} {s : State} {w : Nat} {id : TaskId} {rv : Option Nat} {res : State × Out × Bool}
    (hP : sd.stale ∨ ∀ task w' rv', s.task? id = some task → task.state = .assigned w' rv' → w = w' ∧ rv = some rv')
    (h : s.taskReject w id rv = .ok res) : Acts sd (.idle U, s) (.idle U, res.1) := by
  rcases taskReject_cases h with ⟨_, rfl⟩ | ⟨task, wk0, ht, hw, ha⟩
  · exact .refl _
  · have f0 : Act sd (.idle U, s) (.idle U, s.setWorker (wk0.blockRq task.rq rv)) := by
      cases rv with
      | none => exact .block wk0.blocked hw
      | some v => exact .block _ hw
    refine .step f0 ?_
    have ht0 : (s.setWorker (wk0.blockRq task.rq rv)).task? id = some task := ht
    -- the arms only read the state and the worker record after the blocking
    generalize s.setWorker (wk0.blockRq task.rq rv) = s0 at ha ht0
    generalize wk0.blockRq task.rq rv = wk at ha
    have tail : ∀ {s1 : State}, Release s0 id task s1 → (∀ n, task.state ≠ .waiting (n + 1)) →
        rejectTail s1 task = .ok res → Acts sd (.idle U, s0) (.idle U, res.1) := fun hr hs h1 =>
      .step (.release ht0 hr)
        (by simpa using rejectTail_acts (D := [id]) (by rw [State.task?, hr.tasks]; exact ht0) List.mem_cons_self hs h1)
    cases ha with
    | stale hs hne h1 =>
      obtain ⟨s2, r, s3, out, hq, hr, rfl⟩ := rejectTail_ok_iff.mp h1
      refine .step (.stale (hP.elim (fun h => h) fun hp => ?_) ht0 hs hq) (retract_acts hr)
      obtain ⟨e1, e2⟩ := hp task _ _ ht hs
      exact (hne.elim (· e1) (· e2)).elim
    | sn hs _ hr h1 h2 => exact tail (.sn (.inl hs) hr h1) (by rw [hs]; exact nofun) h2
    | pre hs h1 h2 h3 => exact tail (.pre' hs h1 h2) (by rw [hs]; exact nofun) h3
    | otherRetracting => exact .refl _
    | redirected hs hf => exact .single (.resolve task.inst ht0 hs hf)
    | retr hs hf h1 => exact tail (.retr hs (by simp only [State.tryRemoveRedirection, hf])) (by rw [hs]; exact nofun) h1
    | mnIgnored => exact .refl _
    | mn hs _ h1 h2 => exact tail (.mn hs (resetMnChecked_resetMnAll _ h1)) (by rw [hs]; exact nofun) h2

theorem filter_ne_filter (D : List TaskId) (t : TaskId) (rest : List TaskId) :
    (D.filter (· ≠ t)).filter (· ∉ rest) = D.filter (· ∉ t :: rest) := by
  rw [List.filter_filter]
  exact List.filter_congr fun x _ => by
    by_cases h1 : x ∈ rest <;> by_cases h2 : x = t <;> simp [h1, h2]

/-- The second loop of `on_cancel_tasks`. An id leaves `D` by `filter`, not `erase`: `unreg` names no id twice, but a
cancelled task that is also a recursive consumer of an earlier one enters `D` twice. -/
theorem removeTasksBatched_acts {R p U L} : ∀ (ids : List TaskId) {D : List TaskId} {s s' : State},
    s.removeTasksBatched ids = .ok s' → ids.Nodup → (∀ x ∈ ids, x ∈ D) →
    Acts sd (⟨D, R, none, p, U, L⟩, s) (⟨D.filter (· ∉ ids), R, none, p, U, L⟩, s')
  | [], D, _, _, h, _, _ => by
    cases h
    rw [List.filter_eq_self.mpr fun _ _ => by simp]
    exact .refl _
  | t :: rest, D, _, _, h, hn, hd => by
    obtain ⟨s1, st, h1, h2⟩ := removeTasksBatched_cons_ok h
    obtain ⟨hn1, hn2⟩ := List.nodup_cons.mp hn
    have := removeTasksBatched_acts (R := R) (p := p) (U := U) (L := L) rest (D := D.filter (· ≠ t)) h2 hn2
      fun x hx => List.mem_filter.mpr ⟨hd x (List.mem_cons_of_mem _ hx), by
        have : x ≠ t := fun e => hn1 (e ▸ hx)
        simpa using this⟩
    rw [filter_ne_filter] at this
    exact .step (.erase h1 (hd t List.mem_cons_self) rfl) this

theorem removeWaitingAll_acts {g : Gh} (hf : g.fin = none) : ∀ (ids : List TaskId) {s s' : State},
    s.removeWaitingAll ids = .ok s' → Acts sd (g, s) (g, s')
  | [], _, _, h => by cases h; exact .refl _
  | t :: rest, _, _, h => by
    obtain ⟨s1, n, h1, h2⟩ := removeWaitingAll_cons_ok h
    exact .step (.eraseW h1 hf) (removeWaitingAll_acts hf rest h2)

theorem cancelLoop_acts {R f p U L} : ∀ (ids : List TaskId) {D : List TaskId} {s : State} {u : List TaskId}
    {r : List (Nat × List TaskId)} {res : State × List TaskId × List (Nat × List TaskId)},
    s.cancelLoop ids u r = .ok res → (∀ x, x ∈ D ↔ x ∈ u) → u.Nodup →
    ∃ D', Acts sd (⟨D, R, f, p, U, L⟩, s) (⟨D', R, f, p, U, L⟩, res.1) ∧ (∀ x, x ∈ D' ↔ x ∈ res.2.1) ∧ res.2.1.Nodup
  | [], D, _, _, _, _, h, hd, hn => by cases h; exact ⟨D, .refl _, hd, hn⟩
  | id :: rest, D, s, u, r, res, h, hd, hn => by
    rcases cancelLoop_cons_ok h with ⟨_, h1⟩ | ⟨task, cons, s1, r1, ht, hc, ha, h1⟩
    · exact cancelLoop_acts rest h1 hd hn
    · obtain ⟨s0, hr, e⟩ := ha.release
      obtain ⟨D', a, b, c⟩ := cancelLoop_acts (R := R) (f := f) (p := p) (U := U) (L := L) rest (D := id :: (cons ++ D)) h1
        (fun x => by simp only [List.mem_cons, List.mem_append, mem_unionTids, hd, List.not_mem_nil, or_false]
                     constructor
                     · rintro (h | h | h)
                       · exact .inl (.inr h)
                       · exact .inr h
                       · exact .inl (.inl h)
                     · rintro ((h | h) | h)
                       · exact .inr (.inr h)
                       · exact .inl h
                       · exact .inr (.inl h))
        (unionTids_nodup _ _ (unionTids_nodup _ _ hn))
      refine ⟨D', .step (.doom ht hc) (.step (.release ht hr) ?_), b, c⟩
      rcases e with rfl | rfl
      · exact .step .ask a
      · exact a

theorem cancelTasks_acts {U} {s s' : State} {ids : List TaskId} {o : Out} (h : s.cancelTasks ids = .ok (s', o)) :
    Acts sd (.idle U, s) (.idle U, s') := by
  obtain ⟨s1, unreg, running, h1, h2, _⟩ := cancelTasks_path h
  obtain ⟨D', a, b, c⟩ := cancelLoop_acts (sd := sd) (R := []) (f := none) (p := []) (U := U) (L := []) ids (D := []) h1
    (fun _ => Iff.rfl) .nil
  have := removeTasksBatched_acts (sd := sd) (R := []) (p := []) (U := U) (L := []) unreg (D := D') h2 c
    fun x hx => (b x).mpr hx
  rw [List.filter_eq_nil_iff.mpr fun x hx => by simpa using (b x).mp hx] at this
  exact a.trans this

theorem taskFailed_acts {U} {s s' : State} {worker : Option Nat} {id : TaskId} {ret : List TaskId} {o : Out}
    (h : s.taskFailed worker id ret = .ok (s', o)) : Acts sd (.idle U, s) (.idle U, s') := by
  rcases taskFailed_path h with ⟨_, rfl, _⟩ | ⟨task, s1, cons, s2, s3, st, ht, hp, _, h2, h3, hr⟩
  · exact .refl _
  · have a : Acts sd (.idle U, s) (.idle U, s3) :=
      .step (.release ht hp) (.tail (removeWaitingAll_acts rfl cons h2)
        (by simpa using Act.erase (sd := sd) (D := [id]) (R := []) (f := none) (p := []) (U := U) (L := []) h3 List.mem_cons_self rfl))
    rcases hr with ⟨_, rfl, _⟩ | ⟨o2, _, h4, _⟩
    · exact a
    · exact a.trans (cancelTasks_acts h4)

theorem taskRunning_acts {U} {s s' : State} {w : Nat} {id : TaskId} {rv : Nat} {o : Out} (hS : sd.run s w id rv)
    (h : s.taskRunning w id rv = .ok (s', o)) : Acts sd (.idle U, s) (.idle U, s') := by
  rcases taskRunning_cases h with ⟨_, rfl, _⟩ | ⟨task, ws, ht, ha, _⟩
  · exact .refl _
  · exact .single (.run ht ha hS)

theorem requestEnabled_acts {g : Gh} {s s' : State} {w rq rv : Nat} (h : s.requestEnabled w rq rv = .ok s') :
    Acts sd (g, s) (g, s') := by
  obtain ⟨wk, wk', hw, hf, rfl⟩ := withWorker_spec h
  cases hf
  exact .single (.block _ hw)

theorem retractLoop_acts {R f p U} {w : Nat} : ∀ (ids : List TaskId) {s : State} {acc : List (Nat × TaskId × Nat)}
    {res : State × List (Nat × TaskId × Nat)}, s.retractLoop w ids acc = .ok res →
    Acts sd (⟨[], R, f, p, U, []⟩, s) (⟨[], R, f, p, U, []⟩, res.1)
  | [], _, _, _, h => by cases h; exact .refl _
  | id :: rest, _, _, _, h => by
    rcases retractLoop_cons_ok h with ⟨_, h1⟩ | ⟨task, ht, hs, ⟨target, rv, hf, h1⟩ | ⟨hf, h1⟩⟩
    · exact retractLoop_acts rest h1
    · exact .step (.resolve task.inst ht hs hf) (retractLoop_acts rest h1)
    · exact .step (.unretract task.inst ht hs hf) (retractLoop_acts rest h1)

theorem retractResponse_acts {U} {s s' : State} {w : Nat} {ids : List TaskId} {o : Out}
    (h : s.retractResponse w ids = .ok (s', o)) : Acts sd (.idle U, s) (.idle U, s') := by
  obtain ⟨items, _, h1, _⟩ := retractResponse_path h
  exact retractLoop_acts ids h1

/-- what a family is told (`sd`) about one update, in the state in which it is processed -/
def UpdSide (sd : Side) (s : State) (w : Nat) : Update → Prop
  | .reject id rv =>
    sd.stale ∨ ∀ task w' rv', s.task? id = some task → task.state = .assigned w' rv' → w = w' ∧ rv = some rv'
  | .finished id => ∀ task, s.task? id = some task → sd.fin task.state
  | .running id rv | .runningPrefilled id rv => sd.run s w id rv
  | _ => True

theorem updateState_acts {U} {s s1 : State} {w : Nat} {u : Update} {rets rets1 : List (List TaskId)}
    (hu : UpdSide sd s w u) (h : s.updateState w u rets = .ok (s1, rets1)) : Acts sd (.idle U, s) (.idle U, s1) := by
  obtain ⟨o, h⟩ := updateState_upd1 h
  rcases upd1_cases h with ⟨t, b, rfl, h1, _⟩ | ⟨t, rfl, h1, _⟩ | ⟨t, rv, rfl | rfl, h1, _⟩ | ⟨t, rv, b, rfl, h1, _⟩ |
    ⟨rq, rv, rfl, h1, _⟩
  · exact taskFinished_acts hu h1
  · exact taskFailed_acts h1
  · exact taskRunning_acts hu h1
  · exact taskRunning_acts hu h1
  · exact taskReject_acts hu h1
  · exact requestEnabled_acts h1

end HqModel.Core
