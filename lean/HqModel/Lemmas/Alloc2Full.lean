import HqModel.Lemmas.Alloc2Keys
/-!
A grouped resource in a reachable state against the pool `ResourceAllocator::new` created (`GCtx`):
`amount_max_alloc ≤ full_size`, with equality only when every index of every group is free. So an admitted `all`
(`max_alloc == full_size`) finds every index free, and whatever is admitted on the current free state is feasible for
the MILP on the empty worker.
-/
namespace HqModel.Alloc

/-- a grouped resource `rid` of a reachable state `s`, its concise state `c`, and the pool `gs₀` it was created as -/
structure GCtx (s₀ s : State) (rid full : Nat) (gs gs₀ : List Group) (c : CState) : Prop where
  pool : s.pools[rid]? = some (.groups full gs)
  pool₀ : s₀.pools[rid]? = some (.groups full gs₀)
  len : gs₀.length = gs.length
  full : full = (gs₀.map (·.free.length)).sum * FPU
  fresh : ∀ g ∈ gs₀, g.fracs = []
  allFree : s.allFree[rid]? = some (gs₀.map (fun g => ⟨g.free.length, g.fracs⟩))
  conc : s.concise[rid]? = some c
  cinv : CInv c gs.length (univOf s₀.pools rid) (heldOf s.live rid)
  pinv : PoolInv gs (univOf s₀.pools rid) (heldOf s.live rid)
  univ : ∀ g, univOf s₀.pools rid g = (gs₀[g]?.map (·.free)).getD []

theorem gctx {s₀ s : State} (hinv : Inv2 (univOf s₀.pools) s) (hf : InitFacts s₀) (hst : Static s₀ s)
    {rid full : Nat} {gs : List Group} (hp : s.pools[rid]? = some (.groups full gs)) :
    ∃ gs₀ c, GCtx s₀ s rid full gs gs₀ c := by
  have hlt : rid < s₀.pools.length := by rw [hst.kinds.1]; exact lt_length_of_getElem? hp
  obtain ⟨p₀, hp₀⟩ := exists_get hlt
  obtain ⟨ht, hfs, hn⟩ := hst.kinds.2 rid p₀ _ hp₀ hp
  have hr : rid < s.concise.length := by rw [hinv.concise.len]; exact lt_length_of_getElem? hp
  obtain ⟨c, hc⟩ := exists_get hr
  have hpool := hinv.inv.pools.pool rid _ hp
  cases p₀ with
  | groups full₀ gs₀ =>
    simp only [Pool.fullSize] at hfs
    subst hfs
    simp only [Pool.ngroups, Pool.groupsOf] at hn
    have hfull := hf.full _ (List.mem_of_getElem? hp₀)
    have hfresh := hf.fresh _ (List.mem_of_getElem? hp₀)
    refine ⟨gs₀, c, hp, hp₀, hn.symm, hfull, fun g hg => (hfresh.1 g hg).1, ?_, hc,
      hinv.concise.cinv hp hc (.inr rfl), hpool, ?_⟩
    · rw [hst.allFree, hf.allFree, List.getElem?_map, hp₀]
      rfl
    · intro g
      simp [univOf, hp₀, Pool.groupsOf]
  | empty => simp [Pool.tag] at ht
  | indices _ _ => simp [Pool.tag] at ht
  | sum _ _ => simp [Pool.tag] at ht

section ctx
variable {s₀ s : State} {rid full : Nat} {gs gs₀ : List Group} {c : CState}

theorem GCtx.clen (h : GCtx s₀ s rid full gs gs₀ c) : c.length = gs₀.length := by rw [h.cinv.len, h.len]

theorem GCtx.univ_of (h : GCtx s₀ s rid full gs gs₀ c) {g : Nat} {g₀ : Group} (hg : gs₀[g]? = some g₀) :
    univOf s₀.pools rid g = g₀.free := by
  rw [h.univ g, hg]; rfl

theorem GCtx.units_le (h : GCtx s₀ s rid full gs gs₀ c) {g : Nat} {cg : CGroup} {g₀ : Group}
    (hcg : c[g]? = some cg) (hg : gs₀[g]? = some g₀) : cg.units ≤ g₀.free.length := by
  rw [h.cinv.units g cg hcg, h.univ_of hg]
  exact List.length_filter_le _ _

theorem GCtx.pointwise (h : GCtx s₀ s rid full gs gs₀ c) :
    ∀ (i x y : Nat), (c.map (·.units))[i]? = some x → (gs₀.map (·.free.length))[i]? = some y → x ≤ y := by
  intro i x y hx hy
  simp only [List.getElem?_map] at hx hy
  cases hcg : c[i]? with
  | none => simp [hcg] at hx
  | some cg =>
    cases hg : gs₀[i]? with
    | none => simp [hg] at hy
    | some g₀ =>
      simp only [hcg, hg, Option.map_some, Option.some.injEq] at hx hy
      subst hx hy
      exact h.units_le hcg hg

theorem GCtx.total_le (h : GCtx s₀ s rid full gs gs₀ c) : totalUnits c ≤ (gs₀.map (·.free.length)).sum :=
  (sum_pointwise _ _ (by simp [h.clen]) h.pointwise).1

/-- a positive free fraction somewhere ⇒ some index is partially held ⇒ not all indices are free -/
theorem GCtx.frac_pos (h : GCtx s₀ s rid full gs gs₀ c) (hpos : 0 < maxFrac c) :
    totalUnits c < (gs₀.map (·.free.length)).sum := by
  obtain ⟨cg, hcg, kv, hkv, hle⟩ := (le_maxFrac_iff c 1 (by omega)).mp hpos
  obtain ⟨gi, hgi⟩ := List.getElem?_of_mem hcg
  have hgl : gi < gs₀.length := by rw [← h.clen]; exact lt_length_of_getElem? hgi
  obtain ⟨g₀, hg₀⟩ := exists_get hgl
  have h1 := fget_of_mem (h.cinv.nodup gi cg hgi) hkv
  have h2 := h.cinv.fracs gi cg hgi kv.1
  rw [fracOf_of_fget h1] at h2
  have hheld : heldBy (heldOf s.live rid) gi kv.1 ≠ 0 := by
    intro h0
    rw [if_pos h0] at h2
    omega
  have hmem : kv.1 ∈ univOf s₀.pools rid gi := by
    have := h.pinv.conserve gi kv.1
    apply List.count_pos_iff.mp
    rcases Nat.eq_zero_or_pos ((univOf s₀.pools rid gi).count kv.1) with hz | hz
    · rw [hz] at this; omega
    · exact hz
  have hlt : cg.units < g₀.free.length := by
    rw [h.cinv.units gi cg hgi, ← h.univ_of hg₀]
    unfold freeCount
    apply List.length_filter_lt_length_iff_exists.mpr
    exact ⟨kv.1, hmem, by simpa using hheld⟩
  obtain ⟨hle', heq⟩ := sum_pointwise _ _ (by simp [h.clen]) h.pointwise
  rcases Nat.lt_or_ge (totalUnits c) ((gs₀.map (·.free.length)).sum) with hlt' | hge
  · exact hlt'
  · exfalso
    have := heq (by unfold totalUnits at hge; omega)
    have e1 : (c.map (·.units))[gi]? = some cg.units := by simp [hgi]
    have e2 : (gs₀.map (·.free.length))[gi]? = some g₀.free.length := by simp [hg₀]
    rw [this, e2] at e1
    simp only [Option.some.injEq] at e1
    omega

theorem GCtx.vals (h : GCtx s₀ s rid full gs gs₀ c) : ∀ g ∈ c, ∀ kv ∈ g.fracs, kv.2 < FPU := h.cinv.vals

theorem GCtx.maxAlloc_lt (h : GCtx s₀ s rid full gs gs₀ c) (hpos : 0 < maxFrac c) : c.maxAlloc < full := by
  rw [maxAlloc_eq, h.full]
  have hF := maxFrac_lt c h.vals
  have := Nat.mul_le_mul_right FPU (Nat.succ_le_of_lt (h.frac_pos hpos))
  rw [Nat.succ_mul] at this
  omega

theorem GCtx.maxAlloc_le (h : GCtx s₀ s rid full gs gs₀ c) : c.maxAlloc ≤ full := by
  rcases Nat.eq_zero_or_pos (maxFrac c) with h0 | hpos
  · rw [maxAlloc_eq, h.full, h0, Nat.add_zero]
    exact Nat.mul_le_mul_right FPU h.total_le
  · exact Nat.le_of_lt (h.maxAlloc_lt hpos)

theorem GCtx.all_units (h : GCtx s₀ s rid full gs gs₀ c) (heq : c.maxAlloc = full) :
    c.map (·.units) = gs₀.map (·.free.length) := by
  apply (sum_pointwise _ _ (by simp [h.clen]) h.pointwise).2
  rcases Nat.eq_zero_or_pos (maxFrac c) with h0 | hpos
  · rw [maxAlloc_eq, h.full, h0, Nat.add_zero] at heq
    exact Nat.eq_of_mul_eq_mul_right FPU_pos heq
  · exact absurd heq (Nat.ne_of_lt (h.maxAlloc_lt hpos))

theorem GCtx.all_free (h : GCtx s₀ s rid full gs gs₀ c) (heq : c.maxAlloc = full) {gi : Nat} {g g₀ : Group}
    (hg : gs[gi]? = some g) (hg₀ : gs₀[gi]? = some g₀) : g.free.Perm g₀.free := by
  have hcl : gi < c.length := by rw [h.clen]; exact lt_length_of_getElem? hg₀
  obtain ⟨cg, hcg⟩ := exists_get hcl
  have hunits : cg.units = g₀.free.length := by
    have := h.all_units heq
    have e1 : (c.map (·.units))[gi]? = some cg.units := by simp [hcg]
    rw [this] at e1
    simpa [hg₀] using e1.symm
  -- nothing is held of any index of the group, so the filter of `group_summary` keeps all of them
  have hU := h.univ_of hg₀
  have h1 := h.cinv.units gi cg hcg
  rw [hunits, hU] at h1
  have hall := List.length_filter_eq_length_iff.mp h1.symm
  have hperm := (group_summary h.pinv hg).1
  rwa [hU, List.filter_eq_self.mpr hall] at hperm

end ctx

/-! ### `all`: the claim returns what it returns on the freshly created pool -/

theorem claimAllAux_perm (gid : Nat) (gs gs₀ : List Group) (hlen : gs.length = gs₀.length)
    (h : ∀ (i : Nat) (g g₀ : Group), gs[i]? = some g → gs₀[i]? = some g₀ → g.free.Perm g₀.free) :
    (claimAllAux gid gs).2.Perm (claimAllAux gid gs₀).2 := by
  induction gs generalizing gid gs₀ with
  | nil =>
    cases gs₀ with
    | nil => exact .refl _
    | cons _ _ => simp at hlen
  | cons g rest ih =>
    cases gs₀ with
    | nil => simp at hlen
    | cons g₀ rest₀ =>
      simp only [claimAllAux]
      apply List.Perm.append
      · have h0 := h 0 g g₀ rfl rfl
        exact ((List.reverse_perm g.free).trans (h0.trans (List.reverse_perm g₀.free).symm)).map _
      · exact ih (gid + 1) rest₀ (by simpa using hlen)
          (fun i g' g₀' hg hg₀ => h (i + 1) g' g₀' (by simpa using hg) (by simpa using hg₀))

theorem groupsFrom_flatten (off : Nat) (sizes : List Nat) :
    (((groupsFrom off sizes).map (·.free)).flatten).Perm (List.range' off sizes.sum) := by
  induction sizes generalizing off with
  | nil => simp [groupsFrom]
  | cons n ns ih =>
    simp only [groupsFrom, List.map_cons, List.flatten_cons, List.sum_cons]
    rw [List.range'_append_1 |>.symm]
    exact List.Perm.append (by unfold stackRange; exact List.reverse_perm _) (ih (off + n))

end HqModel.Alloc
