import HqModel.Lemmas.CoreMsgSched
import HqModel.Lemmas.CoreInvStep
import HqModel.Lemmas.CoreDescStep
/-!
Message-level facts: every operation, every run.

The side condition "no task id is submitted twice" (`Op.newIds`, `allNewIds`, `NoIdReuse`) that the statements of C03,
C05, C06 and C07 assume, and the induction over such a run (`run_ind`: the ids submitted so far, the output so far) —
`CoreQueue*` stands on both. `step_evoN` / `step_fx`: what one operation (any of the eight) does to the task records
and which sends / starts it emits; `step_ready`: C03 on the message level; `Hist`, `Hist.of_run`: the history invariant
of C06; `run_task_mono`, `step_crashes`: instance ids and crash counters along a run (C06, C07).
-/
namespace HqModel.Core

def allNewIds (ops : List Op) : List TaskId := (ops.map Op.newIds).flatten

/-- **no task id is submitted twice** (HyperQueue never reuses a task id inside one server run; the job layer
attaches fresh ids, `C02.c02_submit_ids`) -/
def NoIdReuse (ops : List Op) : Prop := (allNewIds ops).Nodup

instance (ops : List Op) : Decidable (NoIdReuse ops) := by unfold NoIdReuse; infer_instance

/-- the loss of a worker that counts as a crash of the tasks running there -/
def Op.isFailureLoss : Op → Prop
  | .removeWorker _ _ f _ _ => f = true
  | _ => False

instance (op : Op) : Decidable op.isFailureLoss := by
  cases op <;> simp only [Op.isFailureLoss] <;> infer_instance

/-- every rewrite of a task record that an operation performs is within `TRel` — with the flag `nw` (no task is placed)
for every operation but a scheduling round; only the loss of a worker by failure has a rewrite that touches the crash
counter (`TLoss.crash`) -/
theorem Op.trel {nw : Prop} {op : Op} (hop : nw → ∀ sol, op ≠ .schedule sol) {t t' : Task} (h : op.TOf t t') :
    TRel nw (¬ op.isFailureLoss) t t' := by
  cases op with
  | removeWorker w reason f order rets => exact TLoss.trel h
  | newTasks nts => exact TReg.trel h
  | update w us rets => exact TOwn.trel h
  | retracted w ids => exact TOwn.trel h
  | schedule sol => exact h.tround.srel.toTRel.mono (fun n => (hop n sol rfl).elim) id
  | newWorker | newRq | cancel => exact TCalm.trel h

/-- like `Evo`, but tasks with an id in `ids` may be new -/
def EvoN (nw cr : Prop) (ids : List TaskId) (s s' : State) : Prop :=
  ∀ t' ∈ s'.tasks, (∃ t ∈ s.tasks, TRel nw cr t t') ∨ t'.id ∈ ids

theorem EvoN.find {nw cr : Prop} {ids : List TaskId} {s s' : State} (e : EvoN nw cr ids s s')
    (hn : (taskIds s.tasks).Nodup) {id : TaskId} (hid : id ∉ ids) {t t' : Task}
    (ht : s.task? id = some t) (ht' : s'.task? id = some t') : TRel nw cr t t' := by
  rcases e t' (findTask_some_mem ht') with ⟨t0, ht0, r⟩ | h1
  · cases eq_of_mem_of_find hn ht0 (r.id.symm.trans (findTask_some_id ht')) ht
    exact r
  · exact absurd (findTask_some_id ht' ▸ h1) hid

/-- **the task records after an operation** descend (`TRel`) from records before it, or carry a submitted id: the
descent of `step` read through `Op.trel` -/
theorem step_evoN {s s' : State} {op : Op} {o : Out} (h : step s op = .ok (s', o)) :
    EvoN False (¬ op.isFailureLoss) op.newIds s s' := by
  intro t' ht'
  have lift : ∀ {t}, Star op.TOf t t' → TRel False (¬ op.isFailureLoss) t t' := fun r =>
    r.lift (TRel.refl _ _) TRel.trans (Op.trel fun f => f.elim)
  rcases (step_desc h).fr.t t' ht' with ⟨t, ht, r⟩ | ⟨t0, hnew, r⟩
  · exact .inl ⟨t, ht, lift r⟩
  · refine .inr ?_
    rw [(lift r).id]
    cases op with
    | newTasks nts => obtain ⟨nt, hnt, _, _, rfl⟩ := hnew; exact List.mem_map_of_mem hnt
    | _ => exact hnew.elim

/-- **one operation**: task records only move forward (`TRel`; the crash counter is unchanged unless the operation
is the loss of a worker by failure), new records only for submitted ids; the sends it emits — in particular
(third clause) a task that was locked (Running / RunningMultiNode / Finished) when the operation began is only
sent with a strictly larger instance id — and the tasks its `started` callbacks name -/
theorem step_fx {s s' : State} {op : Op} {o : Out} (hn : (taskIds s.tasks).Nodup) (h : step s op = .ok (s', o)) :
    EvoN False (¬ op.isFailureLoss) op.newIds s s' ∧ Tr False s (sends o.msgs) s' ∧
    (∀ p ∈ sends o.msgs, ∃ t ∈ s.tasks, t.id = p.1 ∧ t.inst ≤ p.2 ∧ (locked t.state → t.inst < p.2)) ∧
    ∀ q ∈ starts o.cbs, ∃ t ∈ s.tasks, t.id = q.1 := by
  refine ⟨step_evoN h, ?_⟩
  have silent : sends o.msgs = [] → starts o.cbs = [] → Tr False s (sends o.msgs) s' ∧
      (∀ p ∈ sends o.msgs, ∃ t ∈ s.tasks, t.id = p.1 ∧ t.inst ≤ p.2 ∧ (locked t.state → t.inst < p.2)) ∧
      ∀ q ∈ starts o.cbs, ∃ t ∈ s.tasks, t.id = q.1 := fun a b => by
    rw [a, b]; exact ⟨Tr.nil _ _ _, fun _ hp => (nomatch hp), fun _ hq => (nomatch hq)⟩
  cases op with
  | newWorker w => cases h; exact silent rfl rfl
  | removeWorker w reason f order rets => exact (removeWorker_fx (nw := True) hn h).weaken
  | newRq rqv => cases h; exact silent rfl rfl
  | newTasks nts => exact silent (sends_of_noCompute (newTasks_out h).1) (by rw [(newTasks_out h).2]; rfl)
  | cancel ids => exact silent (sends_of_noCompute (cancelTasks_out h).1) (by rw [(cancelTasks_out h).2]; rfl)
  | update w us rets => exact (taskUpdate_fx (nw := True) (cr := True) hn h).weaken
  | retracted w ids => exact (retractResponse_fx (nw := True) (cr := True) hn h).weaken
  | schedule sol =>
    obtain ⟨b, c, _, d⟩ := schedule_fx hn h
    refine ⟨b, fun p hp => ?_, fun q hq => ?_⟩
    · obtain ⟨t, ht, e1, e2, e3⟩ := d p hp
      exact ⟨t, ht, e1, e2, fun hl => absurd hl e3⟩
    · rw [c] at hq; cases hq

theorem schedule_trk {s s' : State} {sol : Solution} {o : Out} (hi : Inv s) (hq : QueueOk s) (hm : SolMnOk s sol)
    (h : s.schedule sol = .ok (s', o)) : Inv s' ∧ Trk s s' :=
  have k := schedule_kept hi hq hm h
  ⟨k.1.inv, k.2⟩

/-- a task of the map that is not Waiting is nobody's registered consumer (`CW3`) -/
theorem ready_of_not_waiting {s : State} (hi : Inv s) {x : TaskId}
    (h : ∃ t ∈ s.tasks, t.id = x ∧ ¬ isWaiting t.state) :
    (∃ t, findTask s.tasks x = some t) ∧ ∀ dt ∈ s.tasks, x ∉ dt.consumers := by
  obtain ⟨t, ht, hid, hw⟩ := h
  have hf : findTask s.tasks x = some t := hid ▸ mem_find_of_nodup hi.nd ht
  refine ⟨⟨t, hf⟩, fun dt hdt hc => hw ?_⟩
  exact hi.cw dt.id dt (mem_find_of_nodup hi.nd hdt) x hc t.state (stOf_of_find hf)

/-- **C03 on the message level, one operation**: every task named in a compute message emitted by an operation
applied to a state satisfying the invariant is a task of that state's map, and no task of that map lists it as a
consumer (= every dependency it was registered for has finished and left the map) -/
theorem step_ready {s s' : State} {op : Op} {o : Out} (hi : Inv s) (hok : OpOk2 s op)
    (h : step s op = .ok (s', o)) :
    ∀ p ∈ sends o.msgs, (∃ t, findTask s.tasks p.1 = some t) ∧ ∀ dt ∈ s.tasks, p.1 ∉ dt.consumers := by
  have of_fx : ∀ {cr : Prop}, Fx True cr s (sends o.msgs) (starts o.cbs) s' →
      ∀ p ∈ sends o.msgs, (∃ t, findTask s.tasks p.1 = some t) ∧ ∀ dt ∈ s.tasks, p.1 ∉ dt.consumers := by
    intro cr f p hp
    obtain ⟨t, ht, hid, _, _, hw⟩ := f.tr.lo p hp
    exact ready_of_not_waiting hi ⟨t, ht, hid, hw trivial⟩
  have of_nil : sends o.msgs = [] →
      ∀ p ∈ sends o.msgs, (∃ t, findTask s.tasks p.1 = some t) ∧ ∀ dt ∈ s.tasks, p.1 ∉ dt.consumers := by
    intro e p hp; rw [e] at hp; cases hp
  cases op with
  | newWorker w => cases h; exact of_nil rfl
  | removeWorker w reason f order rets => exact of_fx (removeWorker_fx (nw := True) hi.nd h)
  | newRq rqv => cases h; exact of_nil rfl
  | newTasks nts => exact of_nil (sends_of_noCompute (newTasks_out h).1)
  | cancel ids => exact of_nil (sends_of_noCompute (cancelTasks_out h).1)
  | update w us rets => exact of_fx (taskUpdate_fx (nw := True) (cr := True) hi.nd h)
  | retracted w ids => exact of_fx (retractResponse_fx (nw := True) (cr := True) hi.nd h)
  | schedule sol =>
    have h' : s.schedule sol = .ok (s', o) := h
    obtain ⟨_, _, hpost, _⟩ := schedule_fx hi.nd h'
    obtain ⟨hi', trk⟩ := schedule_trk hi hok.1.ok hok.2 h'
    intro p hp
    obtain ⟨t', hf', hw'⟩ := hpost p hp
    -- not a consumer in the post-state, and consumer lists are those of the pre-state
    have hk := trk.skel p.1
    rw [hf'] at hk
    cases hf : findTask s.tasks p.1 with
    | none => rw [hf] at hk; cases hk
    | some t =>
      refine ⟨⟨t, rfl⟩, fun dt hdt hc => hw' ?_⟩
      have hd := mem_find_of_nodup hi.nd hdt
      have hk2 := trk.skel dt.id
      rw [hd] at hk2
      cases hd' : findTask s'.tasks dt.id with
      | none => rw [hd'] at hk2; cases hk2
      | some dt' =>
        rw [hd'] at hk2
        simp only [Option.map_some, Option.some.injEq, Prod.mk.injEq] at hk2
        exact hi'.cw dt.id dt' hd' p.1 (hk2.2 ▸ hc) t'.state (stOf_of_find hf')

/-- the history invariant: `H` = all sends so far, `S` = all starts so far, `U` = all ids submitted so far.
(What an announced start means for the task — it stays locked — needs the worker records and the global invariant:
`StK` in `Lemmas/CoreMsgStart.lean`.) -/
structure Hist (s : State) (H S : List (TaskId × Nat)) (U : List TaskId) : Prop where
  nd : (taskIds s.tasks).Nodup
  mono : Mono H
  hi : ∀ p ∈ H, ∀ t ∈ s.tasks, t.id = p.1 → p.2 ≤ t.inst
  ids : ∀ t ∈ s.tasks, t.id ∈ U
  hids : ∀ p ∈ H, p.1 ∈ U
  sids : ∀ q ∈ S, q.1 ∈ U

theorem Hist.init : Hist {} [] [] [] :=
  ⟨List.nodup_nil, List.Pairwise.nil, fun _ h => (by cases h), fun _ h => (by cases h),
    fun _ h => (by cases h), fun _ h => (by cases h)⟩

theorem Hist.step {s s' : State} {H S : List (TaskId × Nat)} {U : List TaskId} {op : Op} {o : Out}
    (hh : Hist s H S U) (hfresh : ∀ x ∈ op.newIds, x ∉ U) (h : step s op = .ok (s', o)) :
    Hist s' (H ++ sends o.msgs) (S ++ starts o.cbs) (U ++ op.newIds) := by
  obtain ⟨e, tr, _, sx⟩ := step_fx hh.nd h
  -- `Tr.comp` once more, with `EvoN` for `Evo`: a record whose id was submitted before is not new (`hfresh`)
  have old : ∀ t' ∈ s'.tasks, t'.id ∈ U → ∃ t ∈ s.tasks, TRel False (¬ op.isFailureLoss) t t' := by
    intro t' ht' hu
    rcases e t' ht' with h1 | h1
    · exact h1
    · exact absurd hu (hfresh _ h1)
  refine ⟨step_nodup hh.nd h, ?_, ?_, ?_, ?_, ?_⟩
  · exact hh.mono.append tr.mono hh.hi fun q hq => (tr.lo q hq).imp fun _ h => ⟨h.1, h.2.1, h.2.2.1⟩
  · intro p hp t' ht' hid
    rcases List.mem_append.mp hp with h1 | h1
    · obtain ⟨t, ht, r⟩ := old t' ht' (hid ▸ hh.hids p h1)
      exact Nat.le_trans (hh.hi p h1 t ht (r.id ▸ hid)) r.inst
    · exact tr.hi p h1 t' ht' hid
  · intro t' ht'
    rcases e t' ht' with ⟨t, ht, r⟩ | h1
    · exact List.mem_append_left _ (r.id ▸ hh.ids t ht)
    · exact List.mem_append_right _ h1
  · intro p hp
    rcases List.mem_append.mp hp with h1 | h1
    · exact List.mem_append_left _ (hh.hids p h1)
    · obtain ⟨t, ht, hid, _⟩ := tr.lo p h1
      exact List.mem_append_left _ (hid ▸ hh.ids t ht)
  · intro q hq
    rcases List.mem_append.mp hq with h1 | h1
    · exact List.mem_append_left _ (hh.sids q h1)
    · obtain ⟨t, ht, hid⟩ := sx q h1
      exact List.mem_append_left _ (hid ▸ hh.ids t ht)

theorem allNewIds_cons (op : Op) (ops : List Op) : allNewIds (op :: ops) = op.newIds ++ allNewIds ops := by
  simp [allNewIds]

theorem RunOk.of_true : ∀ (ops : List Op) (s : State), RunOk (fun _ _ => True) s ops
  | [], _ => True.intro
  | op :: ops, s => ⟨True.intro, by split; exact RunOk.of_true ops _; exact True.intro⟩

/-- **induction over a run that submits no task id twice**: `U` = the ids submitted so far, `acc` = the output so
far; the step sees the side condition of the operation and that its new ids are fresh -/
theorem run_ind {I : List TaskId → State → Out → Prop} {C : State → Op → Prop}
    (hstep : ∀ U s acc op s1 o1, I U s acc → C s op → (∀ x ∈ op.newIds, x ∉ U) → op.newIds.Nodup →
      step s op = .ok (s1, o1) → I (U ++ op.newIds) s1 (acc.add o1)) :
    ∀ (ops : List Op) {U : List TaskId} {s s' : State} {acc out : Out}, I U s acc → RunOk C s ops →
      (U ++ allNewIds ops).Nodup → run s ops = .ok (s', out) → I (U ++ allNewIds ops) s' (acc.add out)
  | [], U, s, _, acc, _, hi, _, _, h => by
    cases h
    rw [show U ++ allNewIds [] = U from List.append_nil U, Out.add_empty]
    exact hi
  | op :: ops, U, s, s', acc, out, hi, hok, hnd, h => by
    obtain ⟨s1, o1, o2, h1, h2, rfl⟩ := run_cons_ok h
    rw [allNewIds_cons, ← List.append_assoc] at hnd ⊢
    have hok' : C s op ∧ RunOk C s1 ops := by simpa only [RunOk, h1] using hok
    have hnd1 := (List.nodup_append.mp hnd).1
    have := run_ind hstep ops (hstep U s acc op s1 o1 hi hok'.1
      (fun x hx hu => (List.nodup_append.mp hnd1).2.2 x hu x hx rfl) (List.nodup_append.mp hnd1).2.1 h1) hok'.2 hnd h2
    rwa [show (acc.add o1).add o2 = acc.add (o1.add o2) by simp [Out.add, List.append_assoc]] at this

theorem Hist.of_run {ops : List Op} {s : State} {out : Out} (hr : NoIdReuse ops) (h : Core.run {} ops = .ok (s, out)) :
    Hist s (sends out.msgs) (starts out.cbs) (allNewIds ops) := by
  have := run_ind (I := fun U s acc => Hist s (sends acc.msgs) (starts acc.cbs) U) (C := fun _ _ => True)
    (fun U s acc op s1 o1 hh _ hf _ h1 => by simpa using hh.step hf h1) ops (acc := {}) Hist.init
    (RunOk.of_true _ _) (by simpa [NoIdReuse] using hr) h
  simpa using this

theorem run_append (pre : List Op) : ∀ (s s1 s2 : State) (o1 o2 : Out) (rest : List Op),
    run s pre = .ok (s1, o1) → run s1 rest = .ok (s2, o2) → run s (pre ++ rest) = .ok (s2, o1.add o2) := by
  induction pre with
  | nil =>
    intro s s1 s2 o1 o2 rest h1 h2
    cases h1
    simp only [List.nil_append, h2]
    rfl
  | cons op pre ih =>
    intro s s1 s2 o1 o2 rest h1 h2
    obtain ⟨sa, oa, ob, ha, hb, rfl⟩ := run_cons_ok h1
    simp only [List.cons_append, run, ha, ih _ _ _ _ _ _ hb h2]
    simp [Out.add, List.append_assoc]

theorem RunOk.split {P : State → Op → Prop} (pre : List Op) : ∀ (s s1 : State) (o1 : Out) (rest : List Op),
    RunOk P s (pre ++ rest) → run s pre = .ok (s1, o1) → RunOk P s pre ∧ RunOk P s1 rest := by
  induction pre with
  | nil =>
    intro s s1 o1 rest h hr
    cases hr
    exact ⟨trivial, h⟩
  | cons op pre ih =>
    intro s s1 o1 rest h hr
    obtain ⟨sa, oa, ob, ha, hb, rfl⟩ := run_cons_ok hr
    simp only [List.cons_append, RunOk, ha] at h ⊢
    obtain ⟨a, b⟩ := ih _ _ _ _ h.2 hb
    exact ⟨⟨h.1, a⟩, b⟩

theorem run_desc (ops : List Op) : ∀ (s s' : State) (out : Out), run s ops = .ok (s', out) →
    EvoN False False (allNewIds ops) s s' := by
  induction ops with
  | nil =>
    intro s s' out h t' ht'
    cases h
    exact Or.inl ⟨t', ht', TRel.refl _ _ _⟩
  | cons op rest ih =>
    intro s s' out h t' ht'
    obtain ⟨s1, o1, o2, h1, h2, rfl⟩ := run_cons_ok h
    rw [allNewIds_cons]
    rcases ih _ _ _ h2 t' ht' with ⟨t1, ht1, r1⟩ | h3
    · rcases step_evoN h1 t1 ht1 with ⟨t, ht, r⟩ | h4
      · exact Or.inl ⟨t, ht, (r.mono id (fun f => f.elim)).trans r1⟩
      · exact Or.inr (List.mem_append_left _ (r1.id ▸ h4))
    · exact Or.inr (List.mem_append_right _ h3)

theorem run_task_mono {ops : List Op} {s s' : State} {out : Out} (hn : (taskIds s.tasks).Nodup)
    (h : run s ops = .ok (s', out)) {id : TaskId} (hid : id ∉ allNewIds ops) {t t' : Task}
    (ht : s.task? id = some t) (ht' : s'.task? id = some t') : t.inst ≤ t'.inst ∧ t.crashes ≤ t'.crashes :=
  have r := (run_desc ops _ _ _ h).find hn hid ht ht'
  ⟨r.inst, r.crashes⟩

theorem step_crashes {s s' : State} {op : Op} {o : Out} (hn : (taskIds s.tasks).Nodup)
    (h : step s op = .ok (s', o)) {id : TaskId} (hid : id ∉ op.newIds) {t t' : Task}
    (ht : s.task? id = some t) (ht' : s'.task? id = some t') :
    t.inst ≤ t'.inst ∧ t.crashes ≤ t'.crashes ∧ (¬ op.isFailureLoss → t'.crashes = t.crashes) :=
  have r := (step_evoN h).find hn hid ht ht'
  ⟨r.inst, r.crashes, r.creq⟩

end HqModel.Core
