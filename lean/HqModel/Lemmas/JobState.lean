import HqModel.Lemmas.JobInv
/-!
The state level of the job layer: what each operation of `State` returns when it succeeds (`…_eq_ok`), every `step`
as a sequence of elementary job transitions (`step_shape`: `JobOp`, `Puts`, `Shape`) — the form the history and
journal proofs work over — and `StateWF` after every step and run.
-/
namespace HqModel.Job

/-- how `step` wraps the operations that also return a response -/
theorem map_eq_ok {ε α β γ : Type} {x : Except ε (α × β × γ)} {a : α} {b : β}
    (h : x.map (fun r => (r.1, r.2.1)) = .ok (a, b)) : ∃ c, x = .ok (a, b, c) := by
  cases x with
  | error _ => cases h
  | ok r => cases h; exact ⟨r.2.2, rfl⟩

theorem step_close {s s' : State} {j : Nat} {evs : List Ev} (h : step s (.close j) = .ok (s', evs)) :
    ∃ r, s.closeJob j = (s', evs, r) := by
  cases h; exact ⟨_, rfl⟩

theorem step_forget {s s' : State} {j : Nat} {allowed : List Status} {evs : List Ev}
    (h : step s (.forget j allowed) = .ok (s', evs)) : evs = [] ∧ ∃ b, s.forgetJob j allowed = .ok (s', b) := by
  simp only [step] at h
  cases hf : s.forgetJob j allowed with
  | error _ => rw [hf] at h; cases h
  | ok r => rw [hf] at h; cases h; exact ⟨rfl, r.2, rfl⟩

theorem getJob_id {s : State} {j : Nat} {job : Job} (h : s.getJob j = some job) : job.id = j :=
  (findJob_some h).2

theorem getJob_wf {s : State} {j : Nat} {job : Job} (hs : StateWF s) (h : s.getJob j = some job) : JobWF job :=
  hs.jobs job (findJob_some h).1

theorem getJob_putJob (s : State) (b : Job) (j : Nat) :
    (s.putJob b).getJob j = if j = b.id then (s.getJob j).map (fun _ => b) else s.getJob j :=
  findJob_replaceJob ..

theorem getJob_putJob_self {s : State} {j : Nat} {job job' : Job} (hg : s.getJob j = some job) (hid : job'.id = j) :
    (s.putJob job').getJob j = some job' := by
  rw [getJob_putJob, if_pos hid.symm, hg]; rfl

theorem stateWF_congr {s s' : State} (h : StateWF s) (hj : s'.jobs = s.jobs) (hc : s'.jobCtr = s.jobCtr) :
    StateWF s' :=
  ⟨by rw [hj]; exact h.jobs, by rw [hj]; exact h.ids, by rw [hj, hc]; exact h.below⟩

theorem StateWF.putJob {s : State} {job job' : Job} (h : StateWF s) (hj : s.getJob job.id = some job)
    (hid : job'.id = job.id) (hw : JobWF job') : StateWF (s.putJob job') := by
  refine ⟨?_, ?_, ?_⟩
  · intro x hx
    rcases mem_replaceJob hx with rfl | hx
    · exact hw
    · exact h.jobs x hx
  · simp only [State.putJob, replaceJob_ids]; exact h.ids
  · intro x hx
    rcases mem_replaceJob hx with rfl | hx
    · simp only [State.putJob]; rw [hid]; exact h.below job (findJob_some hj).1
    · exact h.below x hx

theorem StateWF.addJob {s : State} {job : Job} (h : StateWF s) (hid : job.id = s.jobCtr) (hw : JobWF job)
    (l : List TaskId) :
    StateWF { s with jobs := s.jobs ++ [job], jobCtr := s.jobCtr + 1, sent := l } := by
  refine ⟨?_, ?_, ?_⟩
  · intro x hx
    rcases List.mem_append.mp hx with hx | hx
    · exact h.jobs x hx
    · exact List.mem_singleton.mp hx ▸ hw
  · simp only [List.map_append, List.map_cons, List.map_nil]
    rw [List.nodup_append]
    refine ⟨h.ids, by simp, ?_⟩
    intro a ha b hb
    obtain ⟨x, hx, rfl⟩ := List.mem_map.mp ha
    have := h.below x hx
    rw [List.mem_singleton.mp hb]
    omega
  · intro x hx
    rcases List.mem_append.mp hx with hx | hx
    · exact Nat.lt_succ_of_lt (h.below x hx)
    · rw [List.mem_singleton.mp hx, hid]; exact Nat.lt_succ_self _

theorem StateWF.forget {s : State} (h : StateWF s) (j : Nat) :
    StateWF { s with jobs := s.jobs.filter (·.id != j) } :=
  ⟨fun x hx => h.jobs x (List.mem_filter.mp hx).1, (List.filter_sublist.map _).nodup h.ids,
    fun x hx => h.below x (List.mem_filter.mp hx).1⟩

theorem init_wf : StateWF ({} : State) :=
  ⟨fun _ h => absurd h List.not_mem_nil, .nil, fun _ h => absurd h List.not_mem_nil⟩

theorem openJob_eq_ok {s s' : State} {mf : Option Nat} {evs : List Ev} {j : Nat}
    (h : s.openJob mf = .ok (s', evs, j)) :
    s' = { s with jobs := s.jobs ++ [{ id := s.jobCtr, isOpen := true, maxFails := mf }], jobCtr := s.jobCtr + 1 } ∧
    evs = [.jobOpen s.jobCtr] ∧ j = s.jobCtr := by
  simp only [State.openJob] at h
  split at h
  · cases h
  · cases h; exact ⟨rfl, rfl, rfl⟩

theorem validateGraph_ne_ok (jo : Option Job) : ∀ (g : List (Nat × List Nat)) (seen : List Nat) (j : Nat),
    validateGraph jo g seen ≠ some (.ok j)
  | [], _, _ => nofun
  | (t, deps) :: rest, seen, j => by
    simp only [validateGraph]
    split
    · nofun
    · split
      · nofun
      · exact validateGraph_ne_ok jo rest _ j

theorem validateSubmit_ne_ok (jo : Option Job) (d : TaskDesc) (j : Nat) : validateSubmit jo d ≠ some (.ok j) := by
  cases d with
  | array ids en =>
    cases jo with
    | none => nofun
    | some jb =>
      simp only [validateSubmit]
      cases firstSome (fun t => if (lookup jb.tasks t).isSome = true then some t else none) ids.iter <;> nofun
  | graph g =>
    simp only [validateSubmit]
    split
    · nofun
    · exact validateGraph_ne_ok jo g [] j

theorem submit_cases {s s' : State} {jid mf : Option Nat} {d : TaskDesc} {evs : List Ev} {resp : SubmitResp}
    {core : List TaskId} (h : s.submit jid mf d = .ok (s', evs, resp, core)) :
    (s' = s ∧ evs = [] ∧ core = [] ∧ ∀ j, resp ≠ .ok j) ∨
    (∃ j job job', jid = some j ∧ s.getJob j = some job ∧ job.isOpen = true ∧
      validateSubmit (some job) d = none ∧ badDep job d = none ∧
      job.attach (fillIdsOpen job d).jobIds = .ok job' ∧
      s' = { s.putJob job' with sent := s.sent ++ core } ∧ evs = [.submit j false] ∧ resp = .ok j ∧
      core = (fillIdsOpen job d).coreIds.map fun t => (j, t)) ∨
    (∃ job', jid = none ∧ validateSubmit none d = none ∧
      ({ id := s.jobCtr, isOpen := false, maxFails := mf } : Job).attach (fillIdsNew d).jobIds = .ok job' ∧
      s' = { s with jobs := s.jobs ++ [job'], jobCtr := s.jobCtr + 1, sent := s.sent ++ core } ∧
      evs = [.submit s.jobCtr true] ∧ resp = .ok s.jobCtr ∧
      core = (fillIdsNew d).coreIds.map fun t => (s.jobCtr, t)) := by
  have rej : ∀ r, (∀ j, r ≠ .ok j) →
      Except.ok (ε := Stop) (s, ([] : List Ev), r, ([] : List TaskId)) = .ok (s', evs, resp, core) →
      s' = s ∧ evs = [] ∧ core = [] ∧ ∀ j, resp ≠ .ok j := by
    rintro r hr ⟨⟩; exact ⟨rfl, rfl, rfl, hr⟩
  simp only [State.submit] at h
  split at h
  · rename_i err hv
    refine .inl (rej err ?_ h)
    exact fun j e => validateSubmit_ne_ok _ d j (e ▸ hv)
  · rename_i hv
    split at h
    · rename_i j
      split at h
      · exact .inl (rej _ (by intro _ e; cases e) h)
      · rename_i job hj
        rw [Option.bind_some, hj] at hv
        split at h
        · exact .inl (rej _ (by intro _ e; cases e) h)
        · rename_i hopen
          split at h
          · exact .inl (rej _ (by intro _ e; cases e) h)
          · rename_i hbd
            split at h
            · cases h
            · rename_i job' ha
              cases h
              exact .inr (.inl ⟨j, job, job', rfl, hj, by simpa using hopen, hv, hbd, ha, rfl, rfl, rfl, rfl⟩)
    · split at h
      · cases h
      · split at h
        · cases h
        · rename_i job' ha
          cases h
          exact .inr (.inr ⟨job', rfl, hv, ha, rfl, rfl, rfl, rfl⟩)

theorem closeJob_eq {s s' : State} {j : Nat} {evs : List Ev} {r : CloseResp} (h : s.closeJob j = (s', evs, r)) :
    (s' = s ∧ evs = [] ∧ r ≠ .closed) ∨
    (∃ job, s.getJob j = some job ∧ job.isOpen = true ∧ s' = s.putJob { job with isOpen := false } ∧
      evs = [.jobClose j] ++ ({ job with isOpen := false } : Job).checkTermination ∧ r = .closed) := by
  simp only [State.closeJob] at h
  split at h
  · cases h; exact .inl ⟨rfl, rfl, by decide⟩
  · rename_i job hj
    split at h
    · rename_i hop; cases h; exact .inr ⟨job, hj, hop, rfl, rfl, rfl⟩
    · cases h; exact .inl ⟨rfl, rfl, by decide⟩

theorem cancelJob_eq_ok {s s' : State} {j : Nat} {evs : List Ev} {r : CancelResp}
    (h : s.cancelJob j = .ok (s', evs, r)) :
    (s.getJob j = none ∧ s' = s ∧ evs = [] ∧ r = .invalidJob) ∨
    (∃ job, s.getJob j = some job ∧ job.nonFinishedTaskIds = [] ∧ s' = s ∧ evs = [] ∧
      r = .canceled [] job.nTasks) ∨
    (∃ job job', s.getJob j = some job ∧ job.nonFinishedTaskIds ≠ [] ∧
      job.setCancel (job.nonFinishedTaskIds.map fun t => (j, t)) = .ok (job', evs) ∧
      s' = { s.putJob job' with sent := removeAll s.sent (job.nonFinishedTaskIds.map fun t => (j, t)) } ∧
      r = .canceled job.nonFinishedTaskIds (job.nTasks - job.nonFinishedTaskIds.length)) := by
  simp only [State.cancelJob] at h
  split at h
  · rename_i hj; cases h; exact .inl ⟨hj, rfl, rfl, rfl⟩
  · rename_i job hj
    split at h
    · rename_i he; cases h; exact .inr (.inl ⟨job, hj, List.isEmpty_iff.mp he, rfl, rfl, rfl⟩)
    · rename_i he
      split at h
      · cases h
      · rename_i job' evs' hc
        cases h
        exact .inr (.inr ⟨job, job', hj, fun e => he (e ▸ rfl), hc, rfl, rfl⟩)

theorem forgetJob_eq_ok {s s' : State} {j : Nat} {allowed : List Status} {b : Bool}
    (h : s.forgetJob j allowed = .ok (s', b)) :
    (s' = s ∧ b = false) ∨
    (∃ job, s.getJob j = some job ∧ job.isTerminated = true ∧
      s' = { s with jobs := s.jobs.filter (·.id != j) } ∧ b = true) := by
  simp only [State.forgetJob] at h
  split at h
  · cases h; exact .inl ⟨rfl, rfl⟩
  · rename_i job hj
    split at h
    · cases h; exact .inl ⟨rfl, rfl⟩
    · rename_i ht
      split at h
      · cases h
      · split at h
        · cases h; exact .inr ⟨job, hj, by simpa using ht, rfl, rfl⟩
        · cases h; exact .inl ⟨rfl, rfl⟩

theorem taskStarted_eq_ok {s s' : State} {t : TaskId} {i rv : Nat} {ws : List Nat} {evs : List Ev}
    (h : s.taskStarted t i ws rv = .ok (s', evs)) :
    ∃ job job', s.getJob t.1 = some job ∧ job.setRunning t.2 = .ok job' ∧ s' = s.putJob job' ∧
      evs = [.started t i ws rv] := by
  simp only [State.taskStarted] at h
  split at h
  · cases h
  · rename_i job hj
    split at h
    · cases h
    · rename_i job' hr; cases h; exact ⟨job, job', hj, hr, rfl, rfl⟩

theorem taskFinished_eq_ok {s s' : State} {t : TaskId} {evs : List Ev} (h : s.taskFinished t = .ok (s', evs)) :
    ∃ job job', s.getJob t.1 = some job ∧ job.setFinished t.2 = .ok (job', evs) ∧
      s' = { s.putJob job' with sent := removeAll s.sent [t] } := by
  simp only [State.taskFinished] at h
  split at h
  · cases h
  · rename_i job hj
    split at h
    · cases h
    · rename_i job' evs' hr; cases h; exact ⟨job, job', hj, hr, rfl⟩

theorem taskFailed_eq_ok {s s' : State} {t : TaskId} {cons ret : List TaskId} {evs : List Ev}
    (h : s.taskFailed t cons = .ok (s', evs, ret)) :
    ∃ job job1 ev1 job2 ev2, s.getJob t.1 = some job ∧ job.abortTasks cons = .ok (job1, ev1) ∧
      job1.setFailed t.2 = .ok (job2, ev2) ∧
      ((∃ m job3 ev3, job2.maxFails = some m ∧ job2.cnt.failed > m ∧
          ret = job2.nonFinishedTaskIds.map (fun x => (job2.id, x)) ∧ job2.abortTasks ret = .ok (job3, ev3) ∧
          s' = { ({ s.putJob job2 with sent := removeAll s.sent (t :: cons) } : State).putJob job3 with
                  sent := removeAll (removeAll s.sent (t :: cons)) ret } ∧
          evs = ev1 ++ ev2 ++ ev3) ∨
       ((∀ m, job2.maxFails = some m → ¬ job2.cnt.failed > m) ∧ ret = [] ∧
          s' = { s.putJob job2 with sent := removeAll s.sent (t :: cons) } ∧ evs = ev1 ++ ev2)) := by
  simp only [State.taskFailed] at h
  split at h
  · cases h
  · rename_i job hj
    split at h
    · cases h
    · rename_i job1 ev1 ha
      split at h
      · cases h
      · rename_i job2 ev2 hf
        refine ⟨job, job1, ev1, job2, ev2, hj, ha, hf, ?_⟩
        split at h
        · rename_i m hm
          split at h
          · rename_i hgt
            split at h
            · cases h
            · rename_i job3 ev3 ha3
              cases h
              exact .inl ⟨m, job3, ev3, hm, hgt, rfl, ha3, rfl, rfl⟩
          · rename_i hle
            cases h
            exact .inr ⟨fun m' hm' => (by rw [hm] at hm'; cases hm'; exact hle), rfl, rfl, rfl⟩
        · rename_i hn
          cases h
          exact .inr ⟨fun m' hm' => (by rw [hn] at hm'; cases hm'), rfl, rfl, rfl⟩

theorem workerNew_eq_ok {s s' : State} {w : Nat} {evs : List Ev} (h : s.workerNew w = .ok (s', evs)) :
    s' = { s with workers := s.workers ++ [w] } ∧ evs = [.workerNew w] ∧ w ∉ s.workers := by
  simp only [State.workerNew] at h
  split at h
  · cases h
  · rename_i hc; cases h; exact ⟨rfl, rfl, by simpa using hc⟩

theorem setWaitingAll_cons_eq_ok {s s' : State} {t : TaskId} {rest : List TaskId}
    (h : s.setWaitingAll (t :: rest) = .ok s') :
    ∃ job job', s.getJob t.1 = some job ∧ job.setWaiting t.2 = .ok job' ∧
      (s.putJob job').setWaitingAll rest = .ok s' := by
  simp only [State.setWaitingAll] at h
  split at h
  · cases h
  · rename_i job hj
    split at h
    · cases h
    · rename_i job' hw; exact ⟨job, job', hj, hw, h⟩

theorem workerLost_eq_ok {s s' : State} {w : Nat} {running : List TaskId} {reason : String} {evs : List Ev}
    (h : s.workerLost w running reason = .ok (s', evs)) :
    s.setWaitingAll running = .ok s' ∧ evs = [.workerLost w reason] := by
  simp only [State.workerLost] at h
  split at h
  · cases h
  · rename_i s1 hs
    split at h
    · cases h
    · cases h; exact ⟨hs, rfl⟩

/-- events that carry no task outcome, no start and no job completion -/
def Ev.quiet : Ev → Bool
  | .jobOpen _ | .submit _ _ | .workerNew _ | .workerLost _ _ => true
  | _ => false

/-- the events about workers: they say nothing about any job. `Shape` states this, not `quiet`, of the events beside
its transitions, because the journal proofs need that such events create no job (`jobOpen`, `submit` are quiet). -/
def Ev.worker : Ev → Bool
  | .workerNew _ | .workerLost _ _ => true
  | _ => false

theorem Ev.quiet_of_worker {l : List Ev} (h : ∀ x ∈ l, x.worker = true) : ∀ x ∈ l, x.quiet = true := by
  intro x hx
  have := h x hx
  cases x <;> first | rfl | cases this

/-- the elementary transitions of one job, with the events they emit -/
inductive JobOp : Job → Job → List Ev → Prop
  | running {a b : Job} {t : Nat} (i : Nat) (ws : List Nat) (rv : Nat) :
      a.setRunning t = .ok b → JobOp a b [.started (a.id, t) i ws rv]
  | finished {a b : Job} {t : Nat} {e : List Ev} : a.setFinished t = .ok (b, e) → JobOp a b e
  | failed {a b : Job} {t : Nat} {e : List Ev} : a.setFailed t = .ok (b, e) → JobOp a b e
  | waiting {a b : Job} {t : Nat} : a.setWaiting t = .ok b → JobOp a b []
  | cancel {a b : Job} {ids : List TaskId} {e : List Ev} : a.setCancel ids = .ok (b, e) → JobOp a b e
  | abort {a b : Job} {ids : List TaskId} {e : List Ev} : a.abortTasks ids = .ok (b, e) → JobOp a b e
  | attach {a b : Job} {ids : List Nat} : a.isOpen = true → a.attach ids = .ok b → JobOp a b [.submit a.id false]
  | close {a : Job} : a.isOpen = true →
      JobOp a { a with isOpen := false } ([.jobClose a.id] ++ ({ a with isOpen := false } : Job).checkTermination)

theorem JobOp.id_eq {a b : Job} {e : List Ev} (h : JobOp a b e) : b.id = a.id := by
  cases h with
  | running i ws rv hr =>
    rcases setRunning_eq_ok hr with ⟨-, rfl⟩ | ⟨_, -, -, rfl⟩
    · rfl
    · rfl
  | finished hr =>
    obtain ⟨-, rfl, -⟩ := setFinished_eq_ok hr
    rfl
  | failed hr =>
    obtain ⟨_, -, -, rfl, -⟩ := setFailed_eq_ok hr
    rfl
  | waiting hr =>
    obtain ⟨-, rfl⟩ := setWaiting_eq_ok hr
    rfl
  | cancel hr => exact setCancel_id hr
  | abort hr => exact abortTasks_id hr
  | attach _ hr => exact attach_id _ hr
  | close _ => rfl

theorem JobOp.wf {a b : Job} {e : List Ev} (h : JobOp a b e) (w : JobWF a) : JobWF b := by
  cases h with
  | running i ws rv hr => exact w.setRunning hr
  | finished hr => exact w.setFinished hr
  | failed hr => exact w.setFailed hr
  | waiting hr => exact w.setWaiting hr
  | cancel hr => exact w.setCancel hr
  | abort hr => exact w.abortTasks hr
  | attach _ hr => exact JobWF.attach _ w hr
  | close _ => exact ⟨w.nodup, w.running, w.finished, w.failed, w.canceled, w.aborted⟩

theorem JobOp.keep {a b : Job} {e : List Ev} (h : JobOp a b e) :
    ∀ x, (lookup a.tasks x).isSome = true → (lookup b.tasks x).isSome = true := by
  have set : ∀ {t : Nat} {st tgt : TState}, lookup a.tasks t = some st → ∀ x, (lookup a.tasks x).isSome = true →
      (lookup (setState a.tasks t tgt) x).isSome = true := by
    intro t st tgt hl x hx
    rw [lookup_setState_of hl]
    split
    · rfl
    · exact hx
  have mark : ∀ {tgt : TState} {ids : List TaskId}, MarkHist tgt a b ids → ∀ x, (lookup a.tasks x).isSome = true →
      (lookup b.tasks x).isSome = true := by
    intro tgt ids mh x hx
    rw [mh.lookup]
    split
    · rfl
    · exact hx
  cases h with
  | running i ws rv hr =>
    rcases setRunning_eq_ok hr with ⟨hl, rfl⟩ | ⟨_, -, -, rfl⟩
    · exact set hl
    · exact fun _ hx => hx
  | finished hr => obtain ⟨hl, rfl, -⟩ := setFinished_eq_ok hr; exact set hl
  | failed hr => obtain ⟨_, -, hl, rfl, -⟩ := setFailed_eq_ok hr; exact set hl
  | waiting hr => obtain ⟨hl, rfl⟩ := setWaiting_eq_ok hr; exact set hl
  | cancel hr => exact mark (setCancel_hist hr).1
  | abort hr => exact mark (abortTasks_hist hr).1
  | attach _ hr =>
    intro x hx
    rcases attach_lookup _ hr x with hl | hl
    · rw [hl]; exact hx
    · rw [hl.2]; rfl
  | close _ => exact fun _ hx => hx

/-- a sequence of elementary transitions, each applied to the job currently stored under its id -/
inductive Puts : List Job → List Job → List Ev → Prop
  | nil (jobs : List Job) : Puts jobs jobs []
  | cons {jobs jobs' : List Job} {a b : Job} {e e' : List Ev} :
      findJob jobs a.id = some a → JobOp a b e → Puts (replaceJob jobs b) jobs' e' → Puts jobs jobs' (e ++ e')

theorem Puts.get {s : State} {j : Nat} {a b : Job} {e : List Ev} (hj : s.getJob j = some a) (h : JobOp a b e) :
    Puts s.jobs (s.putJob b).jobs e := by
  have := Puts.cons (by rw [getJob_id hj]; exact hj) h (Puts.nil _)
  rwa [List.append_nil] at this

theorem Puts.append {l1 l2 l3 : List Job} {e1 e2 : List Ev} (h1 : Puts l1 l2 e1) (h2 : Puts l2 l3 e2) :
    Puts l1 l3 (e1 ++ e2) := by
  induction h1 with
  | nil _ => exact h2
  | cons hj hop _ ih => rw [List.append_assoc]; exact Puts.cons hj hop (ih h2)

theorem Puts.ind {I : List Job → Nat → List Ev → Prop} {ctr : Nat}
    (hput : ∀ {jobs evs e a b}, I jobs ctr evs → findJob jobs a.id = some a → JobOp a b e →
      I (replaceJob jobs b) ctr (evs ++ e))
    {jobs jobs' : List Job} {e : List Ev} (hp : Puts jobs jobs' e) :
    ∀ {evs}, I jobs ctr evs → I jobs' ctr (evs ++ e) := by
  induction hp with
  | nil _ => intro evs h; rwa [List.append_nil]
  | cons hj hop _ ih => intro evs h; rw [← List.append_assoc]; exact ih (hput h hj hop)

/-- the shape of one `step`: what it does to the job list and the job counter, and the events it emits (`sent` and
`workers` play no role in the history properties) -/
inductive Shape (s : State) (op : Op) (s' : State) (evs : List Ev) : Prop
  | same (hj : s'.jobs = s.jobs) (hc : s'.jobCtr = s.jobCtr) (hq : ∀ x ∈ evs, x.worker = true)
  /-- a new job (open and empty, or closed with the tasks of a submit) gets the next id; the one event says so -/
  | add (o : Bool) (mf : Option Nat) (ids : List Nat) (job : Job)
      (ha : ({ id := s.jobCtr, isOpen := o, maxFails := mf } : Job).attach ids = .ok job)
      (hj : s'.jobs = s.jobs ++ [job]) (hc : s'.jobCtr = s.jobCtr + 1)
      (he : evs = [if o = true then .jobOpen s.jobCtr else .submit s.jobCtr true])
      (ho : o = true ∨ ∃ mf' d, op = .submit none mf' d ∧ ids = (fillIdsNew d).jobIds)
  /-- elementary transitions of stored jobs, followed by events about workers -/
  | puts (e tail : List Ev) (hp : Puts s.jobs s'.jobs e) (hc : s'.jobCtr = s.jobCtr) (he : evs = e ++ tail)
      (hq : ∀ x ∈ tail, x.worker = true)
  | forget (j : Nat) (job : Job) (hj : findJob s.jobs j = some job) (ht : job.isTerminated = true)
      (hjobs : s'.jobs = s.jobs.filter (·.id != j)) (hc : s'.jobCtr = s.jobCtr) (he : evs = [])

theorem Shape.add_quiet {s : State} {o : Bool} :
    ∀ x ∈ [if o = true then Ev.jobOpen s.jobCtr else Ev.submit s.jobCtr true], x.quiet = true := by
  cases o <;> exact List.forall_mem_singleton.mpr rfl

theorem setWaitingAll_puts : ∀ (ts : List TaskId) {s s' : State}, s.setWaitingAll ts = .ok s' →
    Puts s.jobs s'.jobs [] ∧ s'.jobCtr = s.jobCtr
  | [], s, s', e => by simp only [State.setWaitingAll] at e; cases e; exact ⟨Puts.nil _, rfl⟩
  | t :: rest, s, s', e => by
    obtain ⟨job, job', hj, hw, e'⟩ := setWaitingAll_cons_eq_ok e
    have ih := setWaitingAll_puts rest e'
    exact ⟨(Puts.get hj (.waiting hw)).append ih.1, ih.2⟩

theorem step_shape {s s' : State} {op : Op} {evs : List Ev} (e : step s op = .ok (s', evs)) :
    Shape s op s' evs := by
  have nil : ∀ x ∈ ([] : List Ev), x.worker = true := fun _ h => absurd h List.not_mem_nil
  have put1 : ∀ {j a b l e}, s.getJob j = some a → JobOp a b e → Shape s op { s.putJob b with sent := l } e :=
    fun hj hop => .puts _ [] (Puts.get hj hop) rfl (List.append_nil _).symm nil
  cases op with
  | openJob mf =>
    obtain ⟨_, h⟩ := map_eq_ok e
    obtain ⟨rfl, rfl, -⟩ := openJob_eq_ok h
    exact .add true mf [] _ rfl rfl rfl rfl (.inl rfl)
  | submit j mf d =>
    obtain ⟨⟨_, _⟩, h⟩ := map_eq_ok e
    rcases submit_cases h with ⟨rfl, rfl, -⟩ | ⟨j, job, job', -, hj, hop, -, -, ha, rfl, rfl, -⟩ |
      ⟨job', rfl, -, ha, rfl, rfl, -⟩
    · exact .same rfl rfl nil
    · cases getJob_id hj
      exact put1 hj (.attach hop ha)
    · exact .add false mf _ job' ha rfl rfl rfl (.inr ⟨mf, d, rfl, rfl⟩)
  | close j =>
    obtain ⟨_, hc⟩ := step_close e
    rcases closeJob_eq hc with ⟨rfl, rfl, -⟩ | ⟨job, hj, hop, rfl, rfl, -⟩
    · exact .same rfl rfl nil
    · cases getJob_id hj
      exact put1 (l := s.sent) hj (.close hop)
  | cancel j =>
    obtain ⟨_, h⟩ := map_eq_ok e
    rcases cancelJob_eq_ok h with ⟨-, rfl, rfl, -⟩ | ⟨_, -, -, rfl, rfl, -⟩ | ⟨job, job', hj, -, hc, rfl, -⟩
    · exact .same rfl rfl nil
    · exact .same rfl rfl nil
    · exact put1 hj (.cancel hc)
  | forget j allowed =>
    obtain ⟨rfl, _, h⟩ := step_forget e
    rcases forgetJob_eq_ok h with ⟨rfl, -⟩ | ⟨job, hj, ht, rfl, -⟩
    · exact .same rfl rfl nil
    · exact .forget j job hj ht rfl rfl rfl
  | started t i ws rv =>
    obtain ⟨tj, tk⟩ := t
    obtain ⟨job, job', hj, hr, rfl, rfl⟩ := taskStarted_eq_ok e
    cases getJob_id hj
    exact put1 (l := s.sent) hj (.running i ws rv hr)
  | finished t =>
    obtain ⟨job, job', hj, hr, rfl⟩ := taskFinished_eq_ok e
    exact put1 hj (.finished hr)
  | failed t cons =>
    obtain ⟨ret, h⟩ := map_eq_ok e
    obtain ⟨job, job1, ev1, job2, ev2, hj, ha, hf, h3⟩ := taskFailed_eq_ok h
    have id1 := abortTasks_id ha
    have id2 : job2.id = job1.id := (JobOp.failed hf).id_eq
    have hid := getJob_id hj
    -- the first two phases as two consecutive puts
    have p12 : Puts s.jobs (s.putJob job2).jobs (ev1 ++ ev2) := by
      have := (Puts.get hj (.abort ha)).append
        (Puts.get (getJob_putJob_self hj (id1.trans hid)) (.failed hf))
      rwa [show ((s.putJob job1).putJob job2).jobs = (s.putJob job2).jobs from
        replaceJob_replaceJob _ _ _ id2.symm] at this
    rcases h3 with ⟨m, job3, ev3, -, -, -, ha3, rfl, rfl⟩ | ⟨-, -, rfl, rfl⟩
    · refine .puts _ [] (p12.append (Puts.get (s := { s.putJob job2 with sent := _ }) (j := t.1) ?_ (.abort ha3)))
        rfl (List.append_nil _).symm nil
      exact getJob_putJob_self hj ((id2.trans id1).trans hid)
    · exact .puts _ [] p12 rfl (List.append_nil _).symm nil
  | workerNew w =>
    obtain ⟨rfl, rfl, -⟩ := workerNew_eq_ok e
    exact .same rfl rfl (List.forall_mem_singleton.mpr rfl)
  | workerLost w running reason =>
    obtain ⟨hs, rfl⟩ := workerLost_eq_ok e
    have := setWaitingAll_puts _ hs
    exact .puts [] _ this.1 this.2 rfl (List.forall_mem_singleton.mpr rfl)

theorem Puts.wf {jobs jobs' : List Job} {e : List Ev} (hp : Puts jobs jobs' e) {ctr : Nat} {ws : List Nat}
    {l : List TaskId} (h : StateWF ⟨jobs, ctr, ws, l⟩) : StateWF ⟨jobs', ctr, ws, l⟩ := by
  induction hp with
  | nil _ => exact h
  | cons hj hop _ ih => exact ih (h.putJob hj hop.id_eq (hop.wf (getJob_wf h hj)))

theorem step_wf {s s' : State} {op : Op} {evs : List Ev} (h : StateWF s) (e : step s op = .ok (s', evs)) :
    StateWF s' := by
  cases step_shape e with
  | same hj hc _ => exact stateWF_congr h hj hc
  | add o mf ids job ha hj hc _ _ =>
    exact stateWF_congr (h.addJob (attach_id _ ha) (JobWF.attach _ (emptyJob_wf _ _ _) ha) s.sent) hj hc
  | puts _ _ hp hc _ _ => exact stateWF_congr (hp.wf (ctr := s.jobCtr) (ws := s.workers) (l := s.sent) h) rfl hc
  | forget j _ _ _ hjobs hc _ =>
    exact stateWF_congr (h.forget j) hjobs hc

theorem run_cons_eq_ok {s s' : State} {op : Op} {ops : List Op} {evs : List Ev}
    (h : run s (op :: ops) = .ok (s', evs)) :
    ∃ s1 ev1 ev2, step s op = .ok (s1, ev1) ∧ run s1 ops = .ok (s', ev2) ∧ evs = ev1 ++ ev2 := by
  simp only [run] at h
  split at h
  · cases h
  · rename_i s1 ev1 hs
    split at h
    · cases h
    · rename_i s2 ev2 hr
      cases h
      exact ⟨s1, ev1, ev2, hs, hr, rfl⟩

theorem run_append_eq (a b : List Op) (s : State) :
    run s (a ++ b) =
      match run s a with
      | .error e => .error e
      | .ok (s1, ev1) =>
        match run s1 b with
        | .error e => .error e
        | .ok (s2, ev2) => .ok (s2, ev1 ++ ev2) := by
  induction a generalizing s with
  | nil =>
    simp only [List.nil_append, run]
    cases run s b with
    | error e => rfl
    | ok r => obtain ⟨x, y⟩ := r; simp
  | cons op rest ih =>
    simp only [List.cons_append, run]
    cases step s op with
    | error e => rfl
    | ok r =>
      obtain ⟨s1, e1⟩ := r
      simp only [ih]
      cases run s1 rest with
      | error e => rfl
      | ok r2 =>
        obtain ⟨s2, e2⟩ := r2
        simp only
        cases run s2 b with
        | error e => rfl
        | ok r3 => obtain ⟨s3, e3⟩ := r3; simp [List.append_assoc]

theorem run_append (a b : List Op) {s s' : State} {evs : List Ev} (h : run s (a ++ b) = .ok (s', evs)) :
    ∃ s1 e1 e2, run s a = .ok (s1, e1) ∧ run s1 b = .ok (s', e2) ∧ evs = e1 ++ e2 := by
  rw [run_append_eq] at h
  cases ha : run s a with
  | error e => rw [ha] at h; cases h
  | ok r =>
    obtain ⟨s1, e1⟩ := r
    simp only [ha] at h
    cases hb : run s1 b with
    | error e => rw [hb] at h; cases h
    | ok r2 =>
      obtain ⟨s2, e2⟩ := r2
      rw [hb] at h
      cases h
      exact ⟨s1, e1, e2, rfl, hb, rfl⟩

theorem run_wf : ∀ (ops : List Op) {s s' : State} {evs : List Ev}, StateWF s → run s ops = .ok (s', evs) → StateWF s'
  | [], s, s', evs, h, e => by simp only [run] at e; cases e; exact h
  | op :: ops, s, s', evs, h, e => by
    obtain ⟨s1, _, _, hs, hr, -⟩ := run_cons_eq_ok e
    exact run_wf ops (step_wf h hs) hr

end HqModel.Job
