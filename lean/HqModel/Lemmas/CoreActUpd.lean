import HqModel.Lemmas.CoreActLoss
import HqModel.Lemmas.CoreDescStep
import HqModel.Lemmas.CoreInvSound
/-!
`on_task_update` and `Core.step` as chains of acts. What a family is told about an update (`UpdSide sd`) or an operation
(`OpSide sd`) is judged in the state in which the reactor processes it: for the updates of one message that is the
state the earlier updates left, which is how `UpdatesOk` (`CoreInvSound.lean`, the reason this file comes after it)
threads a condition through `updateLoop`.
-/
namespace HqModel.Core

variable {sd : Side}

theorem updateLoop_acts {U} {w : Nat} : ∀ (us : List Update) {s : State} {rets : List (List TaskId)} {out : Out}
    {need : Bool} {res : State × Out × Bool × List (List TaskId)}, UpdatesOk (UpdSide sd) s w us rets →
    s.updateLoop w us rets out need = .ok res → Acts sd (.idle U, s) (.idle U, res.1)
  | [], _, _, _, _, _, _, h => by cases h; exact .refl _
  | u :: rest, s, rets, _, _, _, hok, h => by
    obtain ⟨s1, rets1, out1, need1, h1, h2⟩ := updateLoop_state_cons_ok h
    simp only [UpdatesOk, h1] at hok
    exact (updateState_acts hok.1 h1).trans (updateLoop_acts rest hok.2 h2)

theorem taskUpdate_acts {U} {s s' : State} {w : Nat} {us : List Update} {rets : List (List TaskId)} {o : Out}
    (hok : UpdatesOk (UpdSide sd) s w us rets) (h : s.taskUpdate w us rets = .ok (s', o)) :
    Acts sd (.idle U, s) (.idle U, s') := by
  obtain ⟨s1, need, rets', h1, rfl⟩ := taskUpdate_path h
  have := updateLoop_acts (U := U) us hok h1
  split
  · exact this.tail .ask
  · exact this

/-- what a family is told (`sd`) about one operation -/
def OpSide (sd : Side) (U : List TaskId) (s : State) : Op → Prop
  | .newWorker w => sd.worker s w
  | .removeWorker w _ _ _ _ => ∀ wk, s.worker? w = some wk → LostSide sd s wk
  | .newRq rqv => sd.rq rqv
  | .newTasks nts => (∀ pre nt post, nts = pre ++ nt :: post → sd.fresh (U ++ pre.map (·.id)) nt.id) ∧
      ∀ nt ∈ nts, sd.newTask nt
  | .update w us rets => UpdatesOk (UpdSide sd) s w us rets
  | .cancel _ | .retracted _ _ => True
  | .schedule _ => False

theorem step_acts {U} {s s' : State} {op : Op} {out : Out} (hop : OpSide sd U s op) (h : step s op = .ok (s', out)) :
    Acts sd (.idle U, s) (.idle (U ++ op.newIds), s') := by
  have keep : op.newIds = [] → Acts sd (.idle U, s) (.idle U, s') →
      Acts sd (.idle U, s) (.idle (U ++ op.newIds), s') := fun e a => by rw [e, List.append_nil]; exact a
  cases op with
  | newTasks nts => exact newTasks_acts hop.1 h hop.2
  | schedule sol => exact hop.elim
  | newWorker w => exact keep rfl (newWorker_acts hop h)
  | removeWorker w reason f order rets => exact keep rfl (removeWorker_acts hop h)
  | newRq rqv => simp only [step] at h; cases h; exact keep rfl (.single (.newRq rqv hop))
  | cancel ids => exact keep rfl (cancelTasks_acts h)
  | update w us rets => exact keep rfl (taskUpdate_acts hop h)
  | retracted w ids => exact keep rfl (retractResponse_acts h)

end HqModel.Core
