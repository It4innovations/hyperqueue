import HqModel.Lemmas.CoreQueueAct
import HqModel.Lemmas.CoreDescSched
/-!
The queue / dependency invariant: one scheduling round, every operation, every run.

`schedule_q` — a round only takes ids out of the queues or moves them inside a queue, never changes a request id or a
consumer list (`Trk`: `schedule_trk`, from `Inv` and `QueueOk` — a consequence of `QInv`) and writes only states that
are neither Waiting nor Finished (`schedule_pre`, by cases on `TRound`). A task that left the Waiting state is listed
by nobody because of the clause `CW3` of `Inv` in the post-state. `step_q` — a round by `schedule_q`, every other
operation as a chain of acts.
`runOk_strengthen` — along a run in which no task id is submitted twice the side condition `QueueOkD` of a scheduling
round is a consequence of the other side conditions, so the run satisfies the stronger side conditions (`OpOk4` /
`OpOk2`) and every theorem stated for those applies.
-/
namespace HqModel.Core

/-! ### the side conditions of the statements: those of `InvF` without the queue clause -/

/-- `StepHyp4` without `QueueOkD`: only facts about the inputs of the operation (and `SolMnOk`: multi-node
placements only for multi-node requests) -/
def StepHyp5 (s : State) : Op → Prop
  | .newWorker w => FreshWorker w
  | .newRq rqv => RqvOk rqv
  | .update w us rets => UpdatesOk UpdProto s w us rets
  | .schedule sol => SolMnOk s sol
  | _ => True

instance (s : State) (sol : Solution) : Decidable (SolMnOk s sol) := by unfold SolMnOk; infer_instance

instance (s : State) (op : Op) : Decidable (StepHyp5 s op) := by
  cases op <;> simp only [StepHyp5] <;> infer_instance

/-- all remaining side conditions of one operation: `StepHyp5` and `NoSaturation` -/
def OpOk5 (s : State) (op : Op) : Prop := StepHyp5 s op ∧ NoSaturation s op

instance (s : State) (op : Op) : Decidable (OpOk5 s op) := by unfold OpOk5; infer_instance

/-- `OpOk2` without `QueueOkD` -/
def OpOk2q (s : State) : Op → Prop
  | .newWorker w => FreshWorker w
  | .update w us rets => UpdatesOk UpdProto s w us rets
  | .schedule sol => SolMnOk s sol
  | _ => True

instance (s : State) (op : Op) : Decidable (OpOk2q s op) := by
  cases op <;> simp only [OpOk2q] <;> infer_instance

theorem StepHyp5.hyp4 {s : State} {op : Op} (h : StepHyp5 s op) (hq : QueueOkD s) : StepHyp4 s op := by
  cases op <;> simp only [StepHyp5, StepHyp4] at h ⊢ <;> first | exact h | exact ⟨hq, h⟩

theorem OpOk5.ok4 {s : State} {op : Op} (h : OpOk5 s op) (hq : QueueOkD s) : OpOk4 s op := ⟨h.1.hyp4 hq, h.2⟩

theorem OpOk2q.ok2 {s : State} {op : Op} (h : OpOk2q s op) (hq : QueueOkD s) : OpOk2 s op := by
  cases op <;> simp only [OpOk2q, OpOk2] at h ⊢ <;> first | exact h | exact ⟨hq, h⟩

theorem OpOk2.ok2q {s : State} {op : Op} (h : OpOk2 s op) : OpOk2q s op := by
  cases op <;> simp only [OpOk2q, OpOk2] at h ⊢ <;> first | exact h | exact h.2

theorem OpOk5.ok2q {s : State} {op : Op} (h : OpOk5 s op) : OpOk2q s op := by
  obtain ⟨h1, _⟩ := h
  cases op <;> simp only [StepHyp5, OpOk2q] at h1 ⊢ <;> first | exact h1 | trivial

theorem OpOk4.ok5 {s : State} {op : Op} (h : OpOk4 s op) : OpOk5 s op := by
  obtain ⟨h1, h2⟩ := h
  refine ⟨?_, h2⟩
  cases op <;> simp only [StepHyp5, StepHyp4] at h1 ⊢ <;> first | exact h1 | exact h1.2

theorem OpOk2q.sol {s : State} {op : Op} (h : OpOk2q s op) : ∀ sol, op = .schedule sol → SolMnOk s sol := by
  intro sol e; subst e; exact h

theorem schedule_pre {s s' : State} {sol : Solution} {o : Out} (hn : (taskIds s.tasks).Nodup)
    (h : s.schedule sol = .ok (s', o)) {id : TaskId} {t' : Task} (hf' : findTask s'.tasks id = some t') :
    ∃ t, findTask s.tasks id = some t ∧ t'.rq = t.rq ∧ t'.consumers = t.consumers ∧
      (t'.state = t.state ∨ (¬ isWaiting t'.state ∧ t'.state ≠ .finished)) := by
  obtain ⟨t, hf, r⟩ := (schedule_desc h).round hn hf'
  refine ⟨t, hf, ?_⟩
  cases r with
  | same => exact ⟨rfl, rfl, .inl rfl⟩
  | _ => exact ⟨rfl, rfl, .inr ⟨fun x => x, fun e => nomatch e⟩⟩

/-! ### the invariant gives the queue condition a scheduling round needs -/

/-- **the decidable queue / dependency clause of the sanity checks follows from the invariant** -/
theorem QInv.queueOkD {U : List TaskId} {pend : List TaskId} {s : State} (h : QInv U none pend s) : QueueOkD s := by
  intro p hp id hid
  obtain ⟨q, i⟩ := p
  have hq : s.queues[i]? = some q := List.mem_zipIdx_iff_getElem?.mp hp
  obtain ⟨_, g2, g3, _⟩ := h.qg i q hq id hid
  refine ⟨g2, fun dt hdt hc => ?_⟩
  have := g3 dt hdt hc
  cases this

theorem QInv.queueOk {U : List TaskId} {pend : List TaskId} {s : State} (h : QInv U none pend s) : QueueOk s :=
  h.queueOkD.ok

/-! ### listers depend only on ids and consumer lists -/

theorem nL_eq_of_skel {f : Option TaskId} (ts : List Task) : ∀ (ts' : List Task), (taskIds ts).Nodup →
    taskIds ts' = taskIds ts →
    (∀ id, (findTask ts' id).map (fun t => (t.rq, t.consumers)) = (findTask ts id).map (fun t => (t.rq, t.consumers))) →
    ∀ c, nL f ts' c = nL f ts c := by
  induction ts with
  | nil =>
    intro ts' _ hids _ c
    cases ts' with
    | nil => rfl
    | cons a b => simp [taskIds] at hids
  | cons y ys ih =>
    intro ts' hn hids hsk c
    cases ts' with
    | nil => simp [taskIds] at hids
    | cons y' ys' =>
      simp only [taskIds, List.map_cons, List.cons.injEq] at hids
      simp only [taskIds, List.map_cons, List.nodup_cons] at hn
      obtain ⟨hid, hids'⟩ := hids
      have h0 := hsk y.id
      simp only [findTask, hid, if_true, Option.map_some, Option.some.injEq, Prod.mk.injEq] at h0
      have hl : lst f c y' = lst f c y := by simp only [lst, hid, h0.2]
      have hrest := ih ys' hn.2 hids' (by
        intro id
        by_cases e : id = y.id
        · subst e
          rw [findTask_none_of_not_mem (ts := ys) hn.1, findTask_none_of_not_mem (ts := ys') (by
            show y.id ∉ taskIds ys'
            rw [show taskIds ys' = taskIds ys from hids']; exact hn.1)]
        · have h1 := hsk id
          have e1 : ¬ y.id = id := fun x => e x.symm
          have e2 : ¬ y'.id = id := by rw [hid]; exact e1
          simpa only [findTask, e1, e2, if_false] using h1) c
      simp only [nL, List.countP_cons, hl] at hrest ⊢
      omega

theorem schedule_q {U : List TaskId} {s s' : State} {sol : Solution} {o : Out} (hq : QInv U none [] s) (hi : Inv s)
    (hm : SolMnOk s sol) (h : s.schedule sol = .ok (s', o)) : QInv U none [] s' := by
  obtain ⟨hi', trk⟩ := schedule_trk hi hq.queueOk hm h
  have hids : taskIds s'.tasks = taskIds s.tasks := schedule_stable h
  have hfind' : ∀ t' ∈ s'.tasks, findTask s'.tasks t'.id = some t' := fun t' ht' => mem_find_of_nodup hi'.nd ht'
  have hnl : ∀ c, nL none s'.tasks c = nL none s.tasks c := nL_eq_of_skel s.tasks s'.tasks hq.nd hids trk.skel
  refine ⟨hi'.nd, ?_, ?_, ?_, ?_, ?_, ?_⟩
  · intro t' ht'
    obtain ⟨t, hf, _⟩ := schedule_pre hq.nd h (hfind' t' ht')
    have := hq.uT t (findTask_some_mem hf)
    rw [findTask_some_id hf] at this; exact this
  · intro t' ht' c hc
    obtain ⟨t, hf, _, e, _⟩ := schedule_pre hq.nd h (hfind' t' ht')
    exact hq.uC t (findTask_some_mem hf) c (e ▸ hc)
  · intro t' ht'
    obtain ⟨t, hf, _, e, _⟩ := schedule_pre hq.nd h (hfind' t' ht')
    rw [e]; exact hq.cnd t (findTask_some_mem hf)
  · intro t' ht' hfin
    obtain ⟨t, hf, _, _, e⟩ := schedule_pre hq.nd h (hfind' t' ht')
    rcases e with e | e
    · have := hq.fin t (findTask_some_mem hf) (e ▸ hfin)
      cases this
    · exact absurd hfin e.2
  · intro c t' hc
    simp only [owed_nil, Nat.add_zero]
    obtain ⟨t, hf, _, _, e⟩ := schedule_pre hq.nd h hc
    rcases e with e | e
    · rw [hnl, e]
      have := hq.cnt c t hf
      simpa using this
    · -- the task left the Waiting state: by `CW3` in the post-state nobody lists it
      have : nL none s'.tasks c = 0 := by
        rw [nL_zero]
        intro dt hdt hcm
        have := hi'.cw dt.id dt (hfind' dt hdt) c hcm t'.state (stOf_of_find hc)
        exact absurd this e.1
      omega
  · intro i q' hq' x hx
    obtain ⟨q, hq0, hx0⟩ := trk.qsub i q' hq' x hx
    obtain ⟨g1, g2, g3, g4⟩ := hq.qg i q hq0 x hx0
    refine ⟨g1, ?_, ?_, ?_⟩
    rotate_left 2
    · intro t' ht'
      obtain ⟨t, hf, _, _, e⟩ := schedule_pre hq.nd h ht'
      rcases e with e | e
      · rw [e]; exact g4 t hf
      · exact slack_of_not_waiting e.1
    · intro t' ht'
      obtain ⟨t, hf, e, _⟩ := schedule_pre hq.nd h ht'
      rw [e]; exact g2 t hf
    · intro dt' hdt' hc
      obtain ⟨dt, hf, _, e, _⟩ := schedule_pre hq.nd h (hfind' dt' hdt')
      have := g3 dt (findTask_some_mem hf) (e ▸ hc)
      cases this

theorem qinv_init : QInv [] none [] {} := by
  refine ⟨List.nodup_nil, ?_, ?_, ?_, ?_, ?_, ?_⟩
  · intro t h; cases h
  · intro t h; cases h
  · intro t h; cases h
  · intro t h; cases h
  · intro c t h; cases h
  · intro i q h; simp at h

/-- **every operation keeps the invariant**: a scheduling round by `schedule_q`, every other operation as a chain of
acts (`step_acts`, `Act.q`) -/
theorem step_q {U : List TaskId} {s s' : State} {op : Op} {out : Out} (hq : QInv U none [] s) (hi : Inv s)
    (hsol : ∀ sol, op = .schedule sol → SolMnOk s sol)
    (hfresh : ∀ x ∈ op.newIds, x ∉ U) (hnd : op.newIds.Nodup)
    (h : step s op = .ok (s', out)) : QInv (U ++ op.newIds) none [] s' := by
  by_cases hs : ∃ sol, op = .schedule sol
  · obtain ⟨sol, rfl⟩ := hs
    rw [show (Op.schedule sol).newIds = [] from rfl, List.append_nil]
    exact schedule_q hq hi (hsol sol rfl) h
  · exact (step_acts (OpSide.q hi hfresh hnd fun sol e => hs ⟨sol, e⟩) h).idle_q hq

/-- the invariant `P` (which contains `Inv`) and `QInv` along a run whose operations satisfy `C` (which does not
contain `QueueOkD`): the run satisfies `C ∧ QueueOkD` -/
theorem runOk_strengthen {P : State → Prop} {C : State → Op → Prop} (hP : ∀ s, P s → Inv s)
    (hC : ∀ s op, C s op → OpOk2q s op)
    (hstep : ∀ s s' op out, P s → QueueOkD s → C s op → step s op = .ok (s', out) → P s')
    (ops : List Op) : ∀ (s : State) (U : List TaskId), P s → QInv U none [] s → (U ++ allNewIds ops).Nodup →
      RunOk C s ops → RunOk (fun s op => C s op ∧ QueueOkD s) s ops := by
  -- not by `run_ind`: `RunOk` also speaks of a run that stops, there is no `run s ops = .ok _` to induct along
  induction ops with
  | nil => intro _ _ _ _ _ _; trivial
  | cons op rest ih =>
    intro s U hp hq hnd hok
    simp only [RunOk] at hok ⊢
    refine ⟨⟨hok.1, hq.queueOkD⟩, ?_⟩
    have hok2 := hok.2
    split
    · rename_i s1 o1 h1
      rw [h1] at hok2
      rw [allNewIds_cons] at hnd
      have hnd' : (U ++ op.newIds ++ allNewIds rest).Nodup := by rw [List.append_assoc]; exact hnd
      have hfresh : ∀ x ∈ op.newIds, x ∉ U := by
        intro x hx hu
        rw [List.nodup_append] at hnd
        exact hnd.2.2 x hu x (List.mem_append_left _ hx) rfl
      have hndo : op.newIds.Nodup := by
        rw [List.nodup_append] at hnd
        exact (List.nodup_append.mp hnd.2.1).1
      exact ih s1 (U ++ op.newIds) (hstep _ _ _ _ hp hq.queueOkD hok.1 h1)
        (step_q hq (hP s hp) (hC s op hok.1).sol hfresh hndo h1) hnd' hok2
    · trivial

theorem run_q_gen {P : State → Prop} {C : State → Op → Prop} (hP : ∀ s, P s → Inv s)
    (hC : ∀ s op, C s op → OpOk2q s op)
    (hstep : ∀ s s' op out, P s → QueueOkD s → C s op → step s op = .ok (s', out) → P s')
    (ops : List Op) : ∀ (s s' : State) (out : Out) (U : List TaskId), P s → QInv U none [] s →
      (U ++ allNewIds ops).Nodup → RunOk C s ops → run s ops = .ok (s', out) →
      P s' ∧ QInv (U ++ allNewIds ops) none [] s' :=
  fun _ _ _ _ hp hq hnd hok h =>
    run_ind (I := fun U s _ => P s ∧ QInv U none [] s)
      (fun _ s _ op _ _ ⟨hp, hq⟩ hc hf hn h1 =>
        ⟨hstep _ _ _ _ hp hq.queueOkD hc h1, step_q hq (hP s hp) (hC s op hc).sol hf hn h1⟩)
      ops (acc := {}) ⟨hp, hq⟩ hok hnd h

/-- **the queue clause is redundant** (full side conditions): a run from the empty core that satisfies `OpOk5`
and submits no id twice satisfies `OpOk4` -/
theorem runOk4_of_runOk5 {ops : List Op} (hok : RunOk OpOk5 {} ops) (hr : NoIdReuse ops) : RunOk OpOk4 {} ops := by
  have := runOk_strengthen (P := C05Full) (C := OpOk5) (fun s h => h.invF.inv) (fun _ _ h => h.ok2q)
    (fun s s' op out hp hq hc hs => c05_step_full hp (hc.1.hyp4 hq) hc.2 hs) ops {} [] c05_full_init qinv_init
    (by simpa [NoIdReuse] using hr) hok
  exact RunOk.mono (fun s op h => h.1.ok4 h.2) ops _ this

/-- … and the structural side conditions: `OpOk2q` + no id reuse ⇒ `OpOk2` -/
theorem runOk2_of_runOk2q {ops : List Op} (hok : RunOk OpOk2q {} ops) (hr : NoIdReuse ops) : RunOk OpOk2 {} ops := by
  have := runOk_strengthen (P := InvF) (C := OpOk2q) (fun s h => h.inv) (fun _ _ h => h)
    (fun s s' op out hp hq hc hs => step_invF hp (hc.ok2 hq) hs) ops {} [] invF_init qinv_init
    (by simpa [NoIdReuse] using hr) hok
  exact RunOk.mono (fun s op h => h.1.ok2 h.2) ops _ this

/-- **`C05Full ∧ QInv` in every reachable state** -/
theorem run_queue_full {ops : List Op} {s : State} {out : Out} (hok : RunOk OpOk5 {} ops) (hr : NoIdReuse ops)
    (h : run {} ops = .ok (s, out)) : C05Full s ∧ QInv (allNewIds ops) none [] s := by
  have := run_q_gen (P := C05Full) (C := OpOk5) (fun s h => h.invF.inv) (fun _ _ h => h.ok2q)
    (fun s s' op out hp hq hc hs => c05_step_full hp (hc.1.hyp4 hq) hc.2 hs) ops {} s out [] c05_full_init qinv_init
    (by simpa [NoIdReuse] using hr) hok h
  simpa using this

/-- **`InvF ∧ QInv` in every reachable state** (no saturation condition) -/
theorem run_queue_invF {ops : List Op} {s : State} {out : Out} (hok : RunOk OpOk2q {} ops) (hr : NoIdReuse ops)
    (h : run {} ops = .ok (s, out)) : InvF s ∧ QInv (allNewIds ops) none [] s := by
  have := run_q_gen (P := InvF) (C := OpOk2q) (fun s h => h.inv) (fun _ _ h => h)
    (fun s s' op out hp hq hc hs => step_invF hp (hc.ok2 hq) hs) ops {} s out [] invF_init qinv_init
    (by simpa [NoIdReuse] using hr) hok h
  simpa using this

end HqModel.Core
