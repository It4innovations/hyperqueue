import HqModel.Lemmas.JournalPrune2List
/-!
`prune2` commutes with `load_event_file` on the job table (list level), and what follows for
`restore_jobs_and_queues`.
-/
namespace HqModel.Journal

theorem prune2_fold_full (lj lw : List Nat) : ∀ (J : List Record) (acc : List Nat) (R R' R1 : Restorer),
    R'.jobs = alFilter (fun j => lj.contains j) R.jobs → SameFrame R R' →
    RInvL (fun j => lj.contains j) acc R.jobs → restorerFoldFrom R J = .ok R1 →
    ∃ R1', restorerFoldFrom R' (prune2From lj lw acc J) = .ok R1' ∧
      R1'.jobs = alFilter (fun j => lj.contains j) R1.jobs ∧ SameFrame R1 R1' := by
  intro J
  induction J with
  | nil => intro acc R R' R1 hl hf _ hs; cases hs; exact ⟨R', rfl, hl, hf⟩
  | cons x xs ih =>
    intro acc R R' R1 hl hf hinv hs
    obtain ⟨R2, hx, hs⟩ := restorerFoldFrom_cons_ok.1 hs
    have hjs := (restorerStep_ok hx).1
    have hfilt := jobsStep_filter lj lw acc R.jobs R2.jobs x hinv hjs
    have he := (prune2Record_pruned lj lw acc x).effect
    have hinv2 : RInvL (fun j => lj.contains j) (taskWorkersStep lj acc x) R2.jobs :=
      rinvL_iff_tinv.2 (tinv_step alMem_mem lj x (rinvL_iff_tinv.1 hinv) hjs)
    rw [prune2From_cons]
    cases hp : prune2Record lj lw acc x with
    | none =>
      rw [hp] at hfilt he
      exact ih _ R2 R' R1 (hl.trans hfilt.symm) (hf.skip hx he) hinv2 hs
    | some y =>
      rw [hp] at hfilt he
      obtain ⟨R2', hs', hj2, hf2⟩ := hf.both hx he (by rw [hl]; exact hfilt)
      obtain ⟨R1', hf', hr⟩ := ih _ R2 R2' R1 hj2 hf2 hinv2 hs
      exact ⟨R1', restorerFoldFrom_cons_ok.2 ⟨R2', hs', hf'⟩, hr⟩

theorem fold_common_eq : ∀ (K : List Record) (R R' R1 : Restorer), R'.jobs = R.jobs → SameFrame R R' →
    restorerFoldFrom R K = .ok R1 → ∃ R1', restorerFoldFrom R' K = .ok R1' ∧ R1'.jobs = R1.jobs ∧ SameFrame R1 R1' := by
  intro K
  induction K with
  | nil => intro R R' R1 hj hf hs; cases hs; exact ⟨R', rfl, hj, hf⟩
  | cons x xs ih =>
    intro R R' R1 hj hf hs
    obtain ⟨R2, hx, hs⟩ := restorerFoldFrom_cons_ok.1 hs
    obtain ⟨R2', hs', hj2, hf2⟩ := hf.both hx ⟨fun _ => rfl, rfl, rfl⟩ (hj ▸ (restorerStep_ok hx).1)
    obtain ⟨R1', hf', hr⟩ := ih R2 R2' R1 hj2 hf2 hs
    exact ⟨R1', restorerFoldFrom_cons_ok.2 ⟨R2', hs', hf'⟩, hr⟩

/-- the loop over the jobs does not look at the queues -/
theorem restoreJobsFrom_queues : ∀ (l : List (Nat × RJob)) (acc acc' X : Restored),
    acc'.jobs = acc.jobs → acc'.batches = acc.batches → restoreJobsFrom l acc = .ok X →
    restoreJobsFrom l acc' = .ok { X with queues := acc'.queues } := by
  intro l
  induction l with
  | nil =>
    intro acc acc' X e1 e2 hs
    simp only [restoreJobsFrom, Except.ok.injEq] at hs ⊢
    subst hs
    cases acc'; cases acc
    simp only at e1 e2
    subst e1; subst e2; rfl
  | cons a rest ih =>
    intro acc acc' X e1 e2 hs
    obtain ⟨id, j⟩ := a
    simp only [restoreJobsFrom] at hs ⊢
    cases hr : restoreJob id j with
    | error e => simp [hr] at hs
    | ok v =>
      obtain ⟨rj, bs⟩ := v
      simp only [hr] at hs ⊢
      have := ih _ { acc' with jobs := acc'.jobs ++ [rj], batches := acc'.batches ++ bs } X
        (by simp only [e1]) (by simp only [e2]) hs
      exact this

theorem restoreJobs_of_jobs_eq (R R' : Restorer) (X : Restored) (hj : R'.jobs = R.jobs) (hq : R'.queues = R.queues)
    (hs : restoreJobs R = .ok X) :
    ∃ X', restoreJobs R' = .ok X' ∧ X'.jobs = X.jobs ∧ X'.batches = X.batches ∧
      X'.queues.map (·.1) = X.queues.map (·.1) := by
  unfold restoreJobs at hs ⊢
  rw [hj]
  have := restoreJobsFrom_queues R.jobs { queues := R.queues.map fun q => (q.1, (alGet R.queueRes q.1).isSome) }
    { queues := R'.queues.map fun q => (q.1, (alGet R'.queueRes q.1).isSome) } X rfl rfl hs
  refine ⟨_, this, rfl, rfl, ?_⟩
  -- the loop never writes `queues`: run it against itself to read `X.queues` off the initial accumulator
  have hX : X.queues = R.queues.map fun q => (q.1, (alGet R.queueRes q.1).isSome) := by
    have h2 := restoreJobsFrom_queues R.jobs { queues := R.queues.map fun q => (q.1, (alGet R.queueRes q.1).isSome) }
      { queues := R.queues.map fun q => (q.1, (alGet R.queueRes q.1).isSome) } X rfl rfl hs
    rw [hs] at h2
    simp only [Except.ok.injEq] at h2
    exact congrArg Restored.queues h2
  simp only [hX, hq, List.map_map]
  rfl

end HqModel.Journal
