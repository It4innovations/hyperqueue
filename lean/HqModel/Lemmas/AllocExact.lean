import HqModel.Alloc.Run
import HqModel.Lemmas.AllocShape
import HqModel.Lemmas.AllocInv
/-!
What one successful claim on a pool establishes (`ClaimStep`), carried through the loops of `claim_resources`
(`claimResources_fold`): `tryAllocate` preserves **Conserve**, and what it returns is, per request entry, exactly the
requested amount, whole indices first, at most one fractional entry and it is last. Then the case lemmas of the three
operations and the induction over reachable states they give (`Reach.rec_ops`).
-/
namespace HqModel.Alloc

/-- `ra` is an exact answer to entry `e` on a pool with tag `tag` and size `full` -/
def ExactFor (tag full : Nat) (e : Entry) (ra : RAlloc) : Prop :=
  ra.rid = e.rid ∧ ra.amount = e.amountOr full ∧
    ((tag = 3 ∧ ra.indices = []) ∨
     (tag = 1 ∧ Shape ra.amount ra.indices) ∨
     (tag = 2 ∧ e.policy ≠ .all ∧ Shape ra.amount ra.indices) ∨
     (tag = 2 ∧ e.policy = .all ∧ WholeOnly ra.indices))

theorem claimAllAux_whole (gid : Nat) (gs : List Group) : WholeOnly (claimAllAux gid gs).2 := by
  induction gs generalizing gid with
  | nil => exact WholeOnly.nil
  | cons g rest ih =>
    simp only [claimAllAux]
    apply WholeOnly.append
    · intro e he
      simp only [List.mem_map] at he
      obtain ⟨i, -, rfl⟩ := he
      rfl
    · exact ih (gid + 1)

/-- what a successful claim of entry `e` on pool `p` establishes -/
structure ClaimStep (e : Entry) (p p' : Pool) (ra : RAlloc) : Prop where
  claims : Claims p.groupsOf [] p'.groupsOf ra.indices
  exact : ExactFor p.tag p.fullSize e ra
  tag : p'.tag = p.tag
  full : p'.fullSize = p.fullSize
  sum : ∀ full free', p' = .sum full free' → ∃ free, p = .sum full free ∧ free' + ra.amount = free

theorem ClaimStep.ngroups {e p p' ra} (h : ClaimStep e p p' ra) : p'.ngroups = p.ngroups := h.claims.length_eq

theorem ClaimStep.ne {e p p' ra} (h : ClaimStep e p p' ra) : p' ≠ .empty := by
  rintro rfl
  have ht := h.tag
  rcases h.exact.2.2 with ⟨t, -⟩ | ⟨t, -⟩ | ⟨t, -⟩ | ⟨t, -⟩ <;> rw [t] at ht <;> cases ht

theorem ClaimStep.groups {e : Entry} {full : Nat} {gs gs' : List Group} {l : List AIdx} (hpol : e.policy ≠ .all)
    (c : Claims gs [] gs' l) (hs : Shape e.amount l) :
    ClaimStep e (.groups full gs) (.groups full gs') ⟨e.rid, e.amount, l⟩ where
  claims := c
  exact := ⟨rfl, by cases hp : e.policy <;> simp_all [Entry.amountOr], .inr (.inr (.inl ⟨rfl, hpol, hs⟩))⟩
  tag := rfl
  full := rfl
  sum := nofun

theorem Pool.claim_step {p p' : Pool} {e : Entry} {pick : Option Nat} {ra : RAlloc}
    (h : p.claim e pick = .ok (p', ra)) : ClaimStep e p p' ra := by
  cases p with
  | empty => simp [Pool.claim] at h
  | indices full g =>
    simp only [Pool.claim] at h
    split at h
    · cases h
    · rename_i g1 acc1 h1
      split at h
      · cases h
      · rename_i g2 acc2 h2
        simp only [Except.ok.injEq, Prod.mk.injEq] at h
        obtain ⟨rfl, rfl⟩ := h
        obtain ⟨c1, -⟩ := takeIndices_claims (gs := [g]) h1 rfl
        have c2 := takeFracOrSplit_claims (gs := [g1]) h2 rfl (Nat.mod_lt _ FPU_pos)
        obtain ⟨ws, hw, hl, hacc1, -, -⟩ := takeIndices_shape h1
        refine ⟨c1.trans c2, ⟨rfl, rfl, .inr (.inl ⟨rfl, ws, hw, hl, ?_⟩)⟩, rfl, rfl, nofun⟩
        rcases takeFracOrSplit_shape h2 with ⟨h0, hacc2, -⟩ | ⟨hne, f, hf, -, hacc2⟩
        · exact .inl ⟨h0, by simp [hacc2, hacc1]⟩
        · exact .inr ⟨f, hf, hne, by simp [hacc2, hacc1]⟩
  | groups full gs =>
    simp only [Pool.claim] at h
    split at h
    · cases h
    · cases h
    · cases h
    · cases h
    · rename_i hpol
      split at h
      · cases h
      · rename_i gs' acc hc
        simp only [Except.ok.injEq, Prod.mk.injEq] at h
        obtain ⟨rfl, rfl⟩ := h
        exact .groups (by simp [hpol]) (claimScatter_claims hc) (claimScatter_shape hc)
    · rename_i hpol
      simp only [Except.ok.injEq, Prod.mk.injEq] at h
      obtain ⟨rfl, rfl⟩ := h
      have c := claimAllAux_claims [] gs []
      simp only [List.nil_append, List.length_nil] at c
      exact ⟨c, ⟨rfl, by simp [Entry.amountOr, hpol, Pool.fullSize],
        .inr (.inr (.inr ⟨rfl, hpol, claimAllAux_whole 0 gs⟩))⟩, rfl, rfl, nofun⟩
  | sum full free =>
    simp only [Pool.claim] at h
    split at h
    · cases h
    · simp only [Except.ok.injEq, Prod.mk.injEq] at h
      obtain ⟨rfl, rfl⟩ := h
      refine ⟨.refl, ⟨rfl, rfl, .inl ⟨rfl, rfl⟩⟩, rfl, rfl, ?_⟩
      intro full' free' heq
      simp only [Pool.sum.injEq] at heq
      obtain ⟨rfl, rfl⟩ := heq
      exact ⟨free, rfl, by show free - e.amountOr full + e.amountOr full = free; omega⟩

theorem Pool.claimWithMask_step {p p' : Pool} {e : Entry} {set : List Nat} {pick : Option Nat} {ra : RAlloc}
    (h : p.claimWithMask e set pick = .ok (p', ra)) : ClaimStep e p p' ra := by
  cases p with
  | groups full gs =>
    cases hpol : e.policy with
    | scatter | all => simp [Pool.claimWithMask, hpol] at h
    | compact | forceCompact =>
      simp only [Pool.claimWithMask, hpol] at h
      split at h
      · cases h
      · rename_i gs' acc hc
        simp only [Except.ok.injEq, Prod.mk.injEq] at h
        obtain ⟨rfl, rfl⟩ := h
        exact .groups (by simp [hpol]) (claimScatter_claims hc) (claimScatter_shape hc)
    | tight | forceTight =>
      simp only [Pool.claimWithMask, hpol] at h
      split at h
      · cases h
      · rename_i gs' acc hc
        simp only [Except.ok.injEq, Prod.mk.injEq] at h
        obtain ⟨rfl, rfl⟩ := h
        exact .groups (by simp [hpol]) (claimTight_claims hc) (claimTight_shape hc)
  | empty => simp [Pool.claimWithMask] at h
  | indices _ _ => simp [Pool.claimWithMask] at h
  | sum _ _ => simp [Pool.claimWithMask] at h

section fold
variable {P : List Pool → Allocation → Prop} {picks : Choices} {rq₀ : Request}
  (hstep : ∀ {pools : List Pool} {al : Allocation} {e : Entry} {p p' : Pool} {ra : RAlloc}, e ∈ rq₀ →
    pools[e.rid]? = some p → ClaimStep e p p' ra → P pools al → P (pools.set e.rid p') (al ++ [ra]))
include hstep

theorem claimPlain_fold {pools pools' : List Pool} {rq : Request} {al al' : Allocation}
    (hsub : ∀ e ∈ rq, e ∈ rq₀) (h : claimPlain picks pools rq al = .ok (pools', al')) (h0 : P pools al) :
    P pools' al' := by
  induction rq generalizing pools al with
  | nil =>
    simp only [claimPlain, Except.ok.injEq, Prod.mk.injEq] at h
    obtain ⟨rfl, rfl⟩ := h
    exact h0
  | cons e es ih =>
    have hsub' : ∀ e' ∈ es, e' ∈ rq₀ := fun e' he' => hsub e' (List.mem_cons_of_mem _ he')
    simp only [claimPlain] at h
    split at h
    · cases h
    · rename_i pool hp
      split at h
      · exact ih hsub' h h0
      · split at h
        · cases h
        · rename_i pool' ra hc
          exact ih hsub' h (hstep (hsub e (List.mem_cons_self ..)) hp (Pool.claim_step hc) h0)

theorem claimCoupled_fold {pools pools' : List Pool} {es : List Entry} {sets : List (List Nat)}
    {al al' : Allocation} (hsub : ∀ e ∈ es, e ∈ rq₀)
    (h : claimCoupled picks pools es sets al = .ok (pools', al')) (h0 : P pools al) : P pools' al' := by
  induction es generalizing pools al sets with
  | nil =>
    simp only [claimCoupled, Except.ok.injEq, Prod.mk.injEq] at h
    obtain ⟨rfl, rfl⟩ := h
    exact h0
  | cons e es ih =>
    cases sets with
    | nil =>
      simp only [claimCoupled, Except.ok.injEq, Prod.mk.injEq] at h
      obtain ⟨rfl, rfl⟩ := h
      exact h0
    | cons set sets =>
      simp only [claimCoupled] at h
      split at h
      · cases h
      · rename_i pool hp
        split at h
        · cases h
        · rename_i pool' ra hc
          exact ih (fun e' he' => hsub e' (List.mem_cons_of_mem _ he')) h
            (hstep (hsub e (List.mem_cons_self ..)) hp (Pool.claimWithMask_step hc) h0)

end fold

theorem claimResources_cases {s : State} {rq : Request} {ch : Choices} {sols sols' : List (Option SolRec)}
    {pools' : List Pool} {al : Allocation} (h : claimResources s rq ch sols = .ok (pools', al, sols')) :
    ∃ pools1 al1, claimPlain ch s.pools rq [] = .ok (pools1, al1) ∧
      ((pools' = pools1 ∧ al = al1) ∨ ∃ (sol : SolRec) (al2 : Allocation),
        claimCoupled ch pools1 (coupledEntries s.pools rq) sol.sets al1 = .ok (pools', al2) ∧ al = normalize al2) := by
  unfold claimResources at h
  split at h
  · cases h
  · rename_i pools1 al1 h1
    refine ⟨pools1, al1, h1, ?_⟩
    dsimp only at h
    split at h
    · simp only [Except.ok.injEq, Prod.mk.injEq] at h
      exact .inl ⟨h.1.symm, h.2.1.symm⟩
    · split at h
      · cases h
      · split at h
        · cases h
        · cases h
        · rename_i sol _
          split at h
          · cases h
          · rename_i pools2 al2 h2
            simp only [Except.ok.injEq, Prod.mk.injEq] at h
            obtain ⟨rfl, rfl, -⟩ := h
            exact .inr ⟨sol, al2, h2, rfl⟩

theorem claimResources_fold {P : List Pool → Allocation → Prop} {s : State} {rq : Request} {ch : Choices}
    {sols sols' : List (Option SolRec)} {pools' : List Pool} {al : Allocation}
    (hstep : ∀ {pools : List Pool} {al : Allocation} {e : Entry} {p p' : Pool} {ra : RAlloc}, e ∈ rq →
      pools[e.rid]? = some p → ClaimStep e p p' ra → P pools al → P (pools.set e.rid p') (al ++ [ra]))
    (hperm : ∀ {pools : List Pool} {al al' : Allocation}, al'.Perm al → P pools al → P pools al')
    (h : claimResources s rq ch sols = .ok (pools', al, sols')) (h0 : P s.pools []) : P pools' al := by
  obtain ⟨pools1, al1, h1, hrest⟩ := claimResources_cases h
  have p1 := claimPlain_fold hstep (fun _ he => he) h1 h0
  rcases hrest with ⟨rfl, rfl⟩ | ⟨sol, al2, h2, rfl⟩
  · exact p1
  · exact hperm (normalize_perm al2) (claimCoupled_fold hstep (fun e he => (List.mem_filter.mp he).1) h2 p1)

/-- every resource allocation of `al` answers some entry of `rq` exactly (w.r.t. the pools `pools₀`) -/
def AllExact (pools₀ : List Pool) (rq : Request) (al : Allocation) : Prop :=
  ∀ ra ∈ al, ∃ e ∈ rq, ∃ p, pools₀[e.rid]? = some p ∧ ExactFor p.tag p.fullSize e ra

theorem claimResources_exact {s : State} {rq : Request} {ch : Choices} {sols sols' : List (Option SolRec)}
    {pools' : List Pool} {al : Allocation} (hcl : claimResources s rq ch sols = .ok (pools', al, sols')) :
    AllExact s.pools rq al ∧ SameKinds s.pools pools' := by
  refine claimResources_fold (P := fun pools al => AllExact s.pools rq al ∧ SameKinds s.pools pools) ?_ ?_ hcl
    ⟨nofun, SameKinds.refl _⟩
  · intro pools al e p p' ra he hp st ⟨hal, hk⟩
    refine ⟨fun ra' hra' => ?_, hk.set hp st.tag st.full st.ngroups⟩
    rcases List.mem_append.mp hra' with hra' | hra'
    · exact hal ra' hra'
    · obtain rfl := List.mem_singleton.mp hra'
      obtain ⟨p₀, hp₀⟩ := exists_get (hk.1 ▸ lt_length_of_getElem? hp : e.rid < s.pools.length)
      obtain ⟨t, f, -⟩ := hk.2 e.rid p₀ p hp₀ hp
      exact ⟨e, he, p₀, hp₀, by rw [← t, ← f]; exact st.exact⟩
  · intro pools al al' hp ⟨hal, hk⟩
    exact ⟨fun ra hra => hal ra (hp.mem_iff.mp hra), hk⟩

theorem claimResources_building {U} {s : State} {rq : Request} {ch : Choices} {sols sols' : List (Option SolRec)}
    {pools' : List Pool} {al : Allocation} {H A}
    (h : claimResources s rq ch sols = .ok (pools', al, sols')) (hinv : PoolsInv U s.pools H A) :
    Building U pools' H A al := by
  refine claimResources_fold (P := fun pools al => Building U pools H A al) ?_ ?_ h
    ⟨hinv.congr (fun r => by simp) (fun r => by simp), nofun⟩
  · intro pools al e p p' ra _ hp st hb
    have hpool : PoolInv p'.groupsOf (U e.rid) ((H e.rid ++ raEntries e.rid al) ++ ([] ++ ra.indices)) :=
      st.claims.inv (by simpa using hb.1.pool e.rid p hp)
    exact building_step hb hp st.exact.1 (by simpa using hpool) st.ne st.sum
  · intro pools al al' hp hb
    exact ⟨hb.1.congr (fun r => List.Perm.append_left _ (raEntries_perm hp.symm r))
      (fun r => by rw [raAmount_perm hp r]), fun ra hra => hb.2 ra (hp.mem_iff.mp hra)⟩

theorem tryAllocate_none {s s' : State} {h : Nat} {rq : Request} {ch : Choices}
    (hstep : tryAllocate s h rq ch = .ok (none, s')) :
    ∃ cache, hasResources s rq ch.sols = .ok (false, cache, []) ∧ s' = { s with cache := cache } := by
  unfold tryAllocate at hstep
  split at hstep
  · cases hstep
  · rename_i cache hhas
    simp only [Except.ok.injEq, Prod.mk.injEq] at hstep
    exact ⟨cache, hhas, hstep.2.symm⟩
  · cases hstep
  · split at hstep
    · cases hstep
    · cases hstep
    · split at hstep
      · cases hstep
      · simp at hstep

theorem tryAllocate_some {s s' : State} {h : Nat} {rq : Request} {ch : Choices} {al : Allocation}
    (hstep : tryAllocate s h rq ch = .ok (some al, s')) :
    ∃ cache sols pools concise, hasResources s rq ch.sols = .ok (true, cache, sols) ∧
      claimResources s rq ch sols = .ok (pools, al, []) ∧ conciseRemove s.concise al = .ok concise ∧
      s' = { s with pools := pools, concise := concise, cache := cache, live := (h, al) :: s.live } := by
  unfold tryAllocate at hstep
  split at hstep
  · cases hstep
  · cases hstep
  · cases hstep
  · rename_i cache sols hhas
    split at hstep
    · cases hstep
    · cases hstep
    · rename_i pools al' hcl
      split at hstep
      · cases hstep
      · rename_i concise hcr
        simp only [Except.ok.injEq, Prod.mk.injEq, Option.some.injEq] at hstep
        obtain ⟨rfl, rfl⟩ := hstep
        exact ⟨cache, sols, pools, concise, hhas, hcl, hcr, rfl⟩

theorem isEnabled_ok {s s' : State} {rq : Request} {ch : Choices} {b : Bool}
    (hstep : isEnabled s rq ch = .ok (b, s')) :
    ∃ cache, hasResources s rq ch.sols = .ok (b, cache, []) ∧ s' = { s with cache := cache } := by
  unfold isEnabled at hstep
  split at hstep
  · cases hstep
  · rename_i b' cache hhas
    simp only [Except.ok.injEq, Prod.mk.injEq] at hstep
    obtain ⟨rfl, rfl⟩ := hstep
    exact ⟨cache, hhas, rfl⟩
  · cases hstep

theorem release_some {s s' : State} {h : Nat} (hr : release s h = some (.ok s')) :
    ∃ al concise pools, liveGet s.live h = some al ∧ conciseAdd s.concise al = .ok concise ∧
      releasePools s.pools al = .ok pools ∧
      s' = { s with pools := pools, concise := concise, live := liveErase s.live h } := by
  unfold release at hr
  split at hr
  · cases hr
  · rename_i al hg
    simp only [Option.some.injEq] at hr
    split at hr
    · cases hr
    · rename_i concise hadd
      split at hr
      · cases hr
      · rename_i pools hrel
        exact ⟨al, concise, pools, hg, hadd, hrel, (Except.ok.inj hr).symm⟩

theorem Reach.rec_ops {s₀ : State} {P : State → Prop} (h0 : P s₀)
    (hen : ∀ {s s' rq ch b}, P s → isEnabled s rq ch = .ok (b, s') → P s')
    (hal : ∀ {s s' h rq ch r}, P s → tryAllocate s h rq ch = .ok (r, s') → P s')
    (hrel : ∀ {s s' h}, P s → release s h = some (.ok s') → P s') {s : State} (hr : Reach s₀ s) : P s := by
  induction hr with
  | init => exact h0
  | @step s s' op _ hstep ih =>
    cases op with
    | enabled rq ch =>
      simp only [Alloc.step, Option.some.injEq] at hstep
      cases hr : isEnabled s rq ch with
      | error e => simp [hr, Except.map] at hstep
      | ok v =>
        simp only [hr, Except.map, Except.ok.injEq] at hstep
        subst hstep
        exact hen ih hr
    | alloc h rq ch =>
      simp only [Alloc.step, Option.some.injEq] at hstep
      cases hr : tryAllocate s h rq ch with
      | error e => simp [hr, Except.map] at hstep
      | ok v =>
        simp only [hr, Except.map, Except.ok.injEq] at hstep
        subst hstep
        exact hal ih hr
    | release h => exact hrel ih hstep

theorem claimResources_inv {U} {s : State} {rq : Request} {ch : Choices} {sols sols' : List (Option SolRec)}
    {pools' : List Pool} {al : Allocation} (h : Nat) (hinv : Inv U s)
    (hcl : claimResources s rq ch sols = .ok (pools', al, sols')) :
    Inv U { s with pools := pools', live := (h, al) :: s.live } := by
  have hb := claimResources_building hcl hinv.pools
  refine ⟨hb.1.congr (fun r => ?_) (fun r => ?_), fun x hx ra hra => ?_⟩
  · show (heldOf s.live r ++ raEntries r al).Perm (heldOf ((h, al) :: s.live) r)
    rw [heldOf_cons]
    exact List.perm_append_comm
  · show heldAmount s.live r + raAmount r al = heldAmount ((h, al) :: s.live) r
    rw [heldAmount_cons, Nat.add_comm]
  · rcases List.mem_cons.mp hx with rfl | hx
    · exact hb.2 ra hra
    · obtain ⟨p, hp, hne⟩ := hinv.rids x hx ra hra
      exact (claimResources_exact hcl).2.ne_empty hp hne

theorem tryAllocate_inv {U} {s s' : State} {h : Nat} {rq : Request} {ch : Choices} {r : Option Allocation}
    (hinv : Inv U s) (hstep : tryAllocate s h rq ch = .ok (r, s')) : Inv U s' := by
  cases r with
  | none =>
    obtain ⟨cache, -, rfl⟩ := tryAllocate_none hstep
    exact ⟨hinv.pools, hinv.rids⟩
  | some al =>
    obtain ⟨cache, sols, pools, concise, -, hcl, -, rfl⟩ := tryAllocate_some hstep
    have := claimResources_inv h hinv hcl
    exact ⟨this.pools, this.rids⟩

theorem isEnabled_inv {U} {s s' : State} {rq : Request} {ch : Choices} {b : Bool}
    (hinv : Inv U s) (hstep : isEnabled s rq ch = .ok (b, s')) : Inv U s' := by
  obtain ⟨cache, -, rfl⟩ := isEnabled_ok hstep
  exact ⟨hinv.pools, hinv.rids⟩

theorem tryAllocate_exact {s s' : State} {h : Nat} {rq : Request} {ch : Choices} {al : Allocation}
    (hstep : tryAllocate s h rq ch = .ok (some al, s')) :
    AllExact s.pools rq al ∧ SameKinds s.pools s'.pools := by
  obtain ⟨cache, sols, pools, concise, -, hcl, -, rfl⟩ := tryAllocate_some hstep
  exact claimResources_exact hcl

end HqModel.Alloc
