import HqModel.Lemmas.SysWPipeOk
import HqModel.Lemmas.WorkerMoves
/-!
The worker side (M2) of the pipeline invariants for ONE task id `n`, along the message loop of `Lemmas/WorkerMoves.lean`:
whatever the loop is asked to do, what it says about `n` is nothing, or exactly ONE event after which `n` waits in no
backlog (`Tr`, kept by every move: `Tr.mv`); while `n` is in no backlog and no item for it is to come, no move is about
it (`Off`). No server contract and no well-formedness of the worker state is assumed.
-/
namespace HqModel.Worker

/-- the entries of the message still to come -/
def Mode.es : Mode → List Entry
  | .idle es => es
  | .hand es _ _ _ _ _ => es
  | .flight es _ _ _ => es

end HqModel.Worker

namespace HqModel.SysW
open HqModel HqModel.Worker

/-- the events about `n` among the updates collected so far -/
def EA (n : Nat) (a : Acc) : List Ev := a.upd.flatMap (evsW n)

def D (P : List Ev) : Prop := (∃ rv rest, P = .run rv :: rest) ∨ (∃ rest, P = .fail :: rest)

theorem D.append {P : List Ev} (h : D P) (X : List Ev) : D (P ++ X) := by
  rcases h with ⟨rv, rest, rfl⟩ | ⟨rest, rfl⟩
  · exact .inl ⟨rv, rest ++ X, rfl⟩
  · exact .inr ⟨rest ++ X, rfl⟩

theorem EA_upd {n : Nat} {a a' : Acc} {us : List Update} (h : a'.upd = a.upd ++ us) :
    EA n a' = EA n a ++ us.flatMap (evsW n) := by
  simp [EA, h]

structure SameHold (n : Nat) (s s' : Worker.State) : Prop where
  run : isRun s' n ↔ isRun s n
  bl : ∀ rq, bcount s' n rq = bcount s n rq

theorem SameHold.refl (n : Nat) (s : Worker.State) : SameHold n s s := ⟨Iff.rfl, fun _ => rfl⟩

theorem SameHold.trans {n : Nat} {a b c : Worker.State} (h1 : SameHold n a b) (h2 : SameHold n b c) : SameHold n a c :=
  ⟨h2.run.trans h1.run, fun rq => (h2.bl rq).trans (h1.bl rq)⟩

theorem SameHold.free {n : Nat} {s s' : Worker.State} (h : SameHold n s s') (hf : Free s n) : Free s' n :=
  ⟨fun hr => hf.1 (h.run.mp hr), fun rq => by rw [h.bl]; exact hf.2 rq⟩

theorem SameHold.back {n : Nat} {s s' : Worker.State} (h : SameHold n s s') (hb : Back s n) : Back s' n := by
  obtain ⟨h1, rq0, h2, h3⟩ := hb
  exact ⟨fun hr => h1 (h.run.mp hr), rq0, by rw [h.bl]; exact h2, fun rq hrq => by rw [h.bl]; exact h3 rq hrq⟩

theorem SameHold.of_eq {n : Nat} {s s' : Worker.State} (hr : s'.running = s.running) (hb : s'.backlog = s.backlog) :
    SameHold n s s' :=
  ⟨by simp only [isRun, hr], fun rq => by simp only [bcount, hb]⟩

theorem bcount_setBacklog (s : Worker.State) (n rq : Nat) (l : List Task) (r : Nat) :
    bcount (setBacklog s rq l) n r = if r = rq then (l.filter fun x => x.id = n).length else bcount s n r := by
  simp only [bcount, setBacklog_backlog]
  split <;> rfl

theorem isRun_started (s : Worker.State) (x : Task) (rv h n : Nat) :
    isRun (started s x rv h) n ↔ isRun s n ∨ x.id = n := by
  simp only [isRun, started, List.mem_append, List.mem_singleton]
  constructor
  · rintro ⟨r, hr | hr, e⟩
    · exact .inl ⟨r, hr, e⟩
    · subst hr; exact .inr e
  · rintro (⟨r, hr, e⟩ | e)
    · exact ⟨r, .inl hr, e⟩
    · exact ⟨_, .inr rfl, e⟩

theorem sameHold_pop_other {n rq : Nat} {s : Worker.State} {x : Task} {rest : List Task}
    (hbl : s.backlog rq = x :: rest) (hx : x.id ≠ n) : SameHold n s (setBacklog s rq rest) := by
  refine ⟨Iff.rfl, fun r => ?_⟩
  rw [bcount_setBacklog]
  split
  · rename_i e; subst e
    simp [bcount, hbl, hx]
  · rfl

theorem sameHold_release {n rq : Nat} {s : Worker.State} (hbl : [] = s.backlog rq) (l : List Nat) :
    SameHold n s { setBacklog s rq [] with live := l } := by
  refine ⟨Iff.rfl, fun r => ?_⟩
  show bcount (setBacklog s rq []) n r = _
  rw [bcount_setBacklog]
  split
  · rename_i e; subst e; simp [bcount, ← hbl]
  · rfl

theorem sameHold_insertBlocked (n : Nat) (s : Worker.State) (k : Nat × Nat) : SameHold n s (insertBlocked s k) := by
  unfold insertBlocked
  split
  · exact SameHold.refl _ _
  · exact SameHold.of_eq rfl rfl

theorem sameHold_push_other {n : Nat} (s : Worker.State) (x : Task) (bk : List Nat) (hx : x.id ≠ n) :
    SameHold n s { setBacklog s x.rq (x :: s.backlog x.rq) with bkeys := bk } := by
  refine ⟨Iff.rfl, fun r => ?_⟩
  show bcount (setBacklog s x.rq (x :: s.backlog x.rq)) n r = _
  rw [bcount_setBacklog]
  split
  · rename_i e; subst e; simp [bcount, hx]
  · rfl

/-- the items of a `ComputeTasks` message for `n` -/
def itemsW (n : Nat) (es : List Entry) : List (Option Nat) := (es.filter fun e => e.task.id = n).map (·.rv)

theorem itemsW_cons (n : Nat) (e : Entry) (es : List Entry) :
    itemsW n (e :: es) = if e.task.id = n then e.rv :: itemsW n es else itemsW n es := by
  simp only [itemsW, List.filter_cons]
  split <;> simp_all

theorem itemsW_cons_ne {n : Nat} {e : Entry} (hx : e.task.id ≠ n) (es : List Entry) : itemsW n (e :: es) = itemsW n es := by
  rw [itemsW_cons, if_neg hx]

namespace NPP

/-- the two events that make the core panic when the task is Running on the reporting worker
(`task_running.unreachable`, `task_reject.unreachable`) -/
def isRR : Ev → Bool
  | .run _ => true
  | .rej _ => true
  | _ => false

def Calm (P : List Ev) : Prop := ∀ e ∈ P, isRR e = false

theorem Calm.nil : Calm [] := fun _ h => by cases h

theorem Calm.append {P Q : List Ev} (hp : Calm P) (hq : Calm Q) : Calm (P ++ Q) := by
  intro e he
  rcases List.mem_append.mp he with h | h
  · exact hp e h
  · exact hq e h

theorem Calm.tail {e : Ev} {P : List Ev} (h : Calm (e :: P)) : Calm P := fun x hx => h x (List.mem_cons_of_mem _ hx)

theorem Calm.head {e : Ev} {P : List Ev} (h : Calm (e :: P)) : isRR e = false := h e List.mem_cons_self

def NB (s : Worker.State) (n : Nat) : Prop := ∀ rq, bcount s n rq = 0

theorem NB.of_free {s : Worker.State} {n : Nat} (h : Free s n) : NB s n := h.2

def RunLast (E : List Ev) (s' : Worker.State) (n : Nat) : Prop :=
  ∀ rv rest, E = .run rv :: rest → rest = [] ∧ NB s' n

theorem not_nb_of_mem {s : Worker.State} {n rq : Nat} {x : Task} (hx : x ∈ s.backlog rq) (hid : x.id = n) :
    ¬ NB s n := by
  intro hf
  have := hf rq
  simp only [bcount, List.length_eq_zero_iff, List.filter_eq_nil_iff] at this
  exact this x hx (by simp [hid])

theorem nb_of_sublist {n : Nat} {s s' : Worker.State} (h : ∀ rq, (s'.backlog rq).Sublist (s.backlog rq)) (hn : NB s n) :
    NB s' n := fun rq =>
  Nat.eq_zero_of_le_zero ((hn rq) ▸ ((h rq).filter _).length_le)

theorem nb_pop_self {n rq : Nat} {s : Worker.State} {x : Task} {rest : List Task} (hbl : x :: rest = s.backlog rq)
    (hx : x.id = n) (hb : Back s n) : NB (setBacklog s rq rest) n := by
  obtain ⟨_, rq0, h2, h3⟩ := hb
  have hc : bcount s n rq = ((rest.filter fun y => y.id = n).length) + 1 := by
    simp only [bcount, ← hbl, List.filter_cons, hx, decide_true, if_true, List.length_cons]
  have hrq : rq = rq0 := Classical.byContradiction fun hne => by have := h3 rq hne; omega
  subst hrq
  intro r
  rw [bcount_setBacklog]
  split
  · omega
  · rename_i hne; exact h3 r hne

end NPP
open NPP

theorem SameHold.nb {n : Nat} {s s' : Worker.State} (h : SameHold n s s') (hn : NB s n) : NB s' n :=
  fun rq => by rw [h.bl]; exact hn rq

/-- the next move is about `n`: its entry comes next, it is in hand, or it is on top of the backlog that is being tried -/
def about (n : Nat) (a : Acc) : Mode → Prop
  | .idle (e :: _) => e.task.id = n
  | .idle [] => False
  | .hand _ _ _ _ _ x => x.id = n
  | .flight _ rq _ _ => ∃ x rest, a.s.backlog rq = x :: rest ∧ x.id = n

def inHand (n : Nat) : Mode → Prop
  | .hand _ _ _ _ _ x => x.id = n
  | _ => False

theorem _root_.HqModel.Worker.Mv.other {n : Nat} {m m' : Mode} {a a' : Acc} (hm : Mv m a m' a') (h : ¬ about n a m) :
    SameHold n a.s a'.s ∧ EA n a' = EA n a ∧ itemsW n m'.es = itemsW n m.es ∧ ¬ inHand n m' := by
  cases hm with
  | @push _ e es _ => exact ⟨sameHold_push_other a.s e.task _ h, rfl, (itemsW_cons_ne h es).symm, id⟩
  | @block _ e es rv _ _ =>
    exact ⟨sameHold_insertBlocked n a.s _, by simp [EA, evsW, show e.task.id ≠ n from h], (itemsW_cons_ne h es).symm, id⟩
  | @alloc _ e es _ _ _ _ _ => exact ⟨SameHold.of_eq rfl rfl, rfl, (itemsW_cons_ne h es).symm, h⟩
  | @reject _ _ _ _ _ _ x => exact ⟨SameHold.refl _ _, by simp [EA, evsW, show x.id ≠ n from h], rfl, id⟩
  | @fail _ _ _ _ _ _ x => exact ⟨SameHold.refl _ _, by simp [EA, evsW, show x.id ≠ n from h], rfl, id⟩
  | @start _ _ _ _ _ p x _ =>
    have hx : x.id ≠ n := h
    exact ⟨⟨by rw [isRun_started]; simp [hx], fun _ => rfl⟩, by cases p <;> simp [EA, evsW, hx], rfl, id⟩
  | @pop _ _ _ _ _ x rest hbl =>
    have hx : x.id ≠ n := fun e => h ⟨x, rest, hbl, e⟩
    exact ⟨sameHold_pop_other hbl hx, rfl, rfl, hx⟩
  | release hbl => exact ⟨sameHold_release hbl.symm _, rfl, rfl, id⟩

/-- since `a0` nothing was about `n`: no item for it is to come, it is not in hand, it is held as in `a0`, and nothing
was said about it -/
structure Off (n : Nat) (a0 : Acc) (m : Mode) (a : Acc) : Prop where
  items : itemsW n m.es = []
  hand : ¬ inHand n m
  hold : SameHold n a0.s a.s
  said : EA n a = EA n a0

theorem Off.mv {n : Nat} {a0 : Acc} (hn : NB a0.s n) {m m' : Mode} {a a' : Acc} (hm : Mv m a m' a')
    (h : Off n a0 m a) : Off n a0 m' a' := by
  have hab : ¬ about n a m := by
    intro hab
    cases m with
    | idle es =>
      cases es with
      | nil => exact hab
      | cons e es =>
        have := h.items
        rw [show (Mode.idle (e :: es)).es = e :: es from rfl, itemsW_cons, if_pos (show e.task.id = n from hab)] at this
        cases this
    | hand => exact h.hand hab
    | flight es rq rv hh =>
      obtain ⟨x, rest, hbl, hx⟩ := hab
      exact not_nb_of_mem (rq := rq) (hbl ▸ List.mem_cons_self) hx (h.hold.nb hn)
  obtain ⟨g1, g2, g3, g4⟩ := hm.other hab
  exact ⟨g3.trans h.items, g4, h.hold.trans g1, g2.trans h.said⟩

theorem _root_.HqModel.Worker.Path.off {n : Nat} {m m' : Mode} {a a' : Acc} (hp : Path m a m' a') (hi : itemsW n m.es = [])
    (hh : ¬ inHand n m) (hn : NB a.s n) : SameHold n a.s a'.s ∧ EA n a' = EA n a :=
  have := hp.preserves (I := Off n a) (Off.mv hn) ⟨hi, hh, SameHold.refl _ _, rfl⟩
  ⟨this.hold, this.said⟩

/-- the one thing `try_start_task` (called with variant `rv`) says about the task it is called for, and what the worker
holds of it afterwards -/
inductive Said (rv : Nat) (s : Worker.State) (n : Nat) : Ev → Prop
  | run (h : NB s n) : Said rv s n (.run rv)
  | fail (h : Free s n) : Said rv s n .fail
  | rej (h : Free s n) : Said rv s n (.rej (some rv))

theorem Said.nb {rv n : Nat} {s : Worker.State} {e : Ev} (h : Said rv s n e) : NB s n := by
  cases h with
  | run h => exact h
  | fail h => exact h.2
  | rej h => exact h.2

theorem Said.sameHold {rv n : Nat} {s s' : Worker.State} {e : Ev} (hs : SameHold n s s') (h : Said rv s n e) :
    Said rv s' n e := by
  cases h with
  | run h => exact .run (hs.nb h)
  | fail h => exact .fail (hs.free h)
  | rej h => exact .rej (hs.free h)

/-- `n` waits in a backlog and nothing was said, or the one thing was said; `v` = the variant of the assigned item of
the message for `n`, if there is one (then `n` never waits, and the one thing is said with that variant) -/
def Wt (n : Nat) (v : Option Nat) (P : List Ev) (s : Worker.State) : Prop :=
  (P = [] ∧ Back s n ∧ v = none) ∨ ∃ e rv, P = [e] ∧ Said rv s n e ∧ (v = none ∨ v = some rv)

theorem Wt.sameHold {n : Nat} {v : Option Nat} {P : List Ev} {s s' : Worker.State} (hs : SameHold n s s')
    (h : Wt n v P s) : Wt n v P s' :=
  h.imp (fun ⟨a, b, c⟩ => ⟨a, hs.back b, c⟩) fun ⟨e, rv, a, b, c⟩ => ⟨e, rv, a, b.sameHold hs, c⟩

/-- `n` outside the hand: `Wt`, or its item (`v`) is among the entries `es` still to come and it is not held -/
def Tq (n : Nat) (v : Option Nat) (es : List Entry) (a : Acc) : Prop :=
  (itemsW n es = [] ∧ Wt n v (EA n a) a.s) ∨ (itemsW n es = [v] ∧ EA n a = [] ∧ Free a.s n)

/-- … and in hand (from its item: with the variant `v`; or popped from its backlog): not held, nothing said yet -/
def Tr (n : Nat) (v : Option Nat) : Mode → Acc → Prop
  | .hand es _ rv _ _ x, a =>
    if x.id = n then itemsW n es = [] ∧ EA n a = [] ∧ Free a.s n ∧ (v = none ∨ v = some rv) else Tq n v es a
  | .idle es, a => Tq n v es a
  | .flight es _ _ _, a => Tq n v es a

theorem Tr.tq {n : Nat} {v : Option Nat} {m : Mode} {a : Acc} (hh : ¬ inHand n m) : Tr n v m a ↔ Tq n v m.es a := by
  cases m with
  | hand es rq rv h p x => exact iff_of_eq (if_neg hh)
  | idle es => exact Iff.rfl
  | flight es rq rv h => exact Iff.rfl

theorem Tr.mv {n : Nat} {v : Option Nat} {m m' : Mode} {a a' : Acc} (hm : Mv m a m' a') (h : Tr n v m a) :
    Tr n v m' a' := by
  by_cases hab : about n a m
  · cases hm with
    | @push _ e es hrv =>
      have hx : e.task.id = n := hab
      have h : Tq n v (e :: es) a := h
      rw [Tq, itemsW_cons, if_pos hx, hrv] at h
      rcases h with ⟨h, _⟩ | ⟨h, he, hf⟩
      · cases h
      · obtain ⟨rfl, hes⟩ := List.cons.inj h
        refine .inl ⟨hes, .inl ⟨he, ⟨hf.1, e.task.rq, ?_, fun r hr => ?_⟩, rfl⟩⟩
        · show bcount (setBacklog a.s e.task.rq (e.task :: a.s.backlog e.task.rq)) n e.task.rq = 1
          rw [bcount_setBacklog]
          have := hf.2 e.task.rq
          simp only [bcount] at this
          simp [hx, this]
        · show bcount (setBacklog a.s e.task.rq (e.task :: a.s.backlog e.task.rq)) n r = 0
          rw [bcount_setBacklog, if_neg hr]
          exact hf.2 r
    | @block _ e es rv hrv _ =>
      have hx : e.task.id = n := hab
      have h : Tq n v (e :: es) a := h
      rw [Tq, itemsW_cons, if_pos hx, hrv] at h
      rcases h with ⟨h, _⟩ | ⟨h, he, hf⟩
      · cases h
      · obtain ⟨rfl, hes⟩ := List.cons.inj h
        exact .inl ⟨hes, .inr ⟨.rej (some rv), rv, by simp [EA, evsW, hx, show a.upd.flatMap (evsW n) = [] from he],
          .rej ((sameHold_insertBlocked n a.s _).free hf), .inr rfl⟩⟩
    | @alloc _ e es rv hh hrv _ _ =>
      have hx : e.task.id = n := hab
      have h : Tq n v (e :: es) a := h
      rw [Tq, itemsW_cons, if_pos hx, hrv] at h
      rcases h with ⟨h, _⟩ | ⟨h, he, hf⟩
      · cases h
      · obtain ⟨rfl, hes⟩ := List.cons.inj h
        show Tr n (some rv) (.hand es e.task.rq rv hh false e.task) _
        rw [Tr, if_pos hx]
        exact ⟨hes, he, (SameHold.of_eq rfl rfl).free hf, .inr rfl⟩
    | @reject _ es _ rv _ _ x =>
      have hx : x.id = n := hab
      rw [Tr, if_pos hx] at h
      obtain ⟨hes, he, hf, hv⟩ := h
      exact .inl ⟨hes, .inr ⟨.rej (some rv), rv, by simp [EA, evsW, hx, show a.upd.flatMap (evsW n) = [] from he],
        .rej hf, hv⟩⟩
    | @fail _ es _ rv _ _ x =>
      have hx : x.id = n := hab
      rw [Tr, if_pos hx] at h
      obtain ⟨hes, he, hf, hv⟩ := h
      exact .inl ⟨hes, .inr ⟨.fail, rv, by simp [EA, evsW, hx, show a.upd.flatMap (evsW n) = [] from he], .fail hf, hv⟩⟩
    | @start _ es _ rv hh p x _ =>
      have hx : x.id = n := hab
      rw [Tr, if_pos hx] at h
      obtain ⟨hes, he, hf, hv⟩ := h
      exact .inl ⟨hes, .inr ⟨.run rv, rv,
        by cases p <;> simp [EA, evsW, hx, show a.upd.flatMap (evsW n) = [] from he],
        .run (hf.2 : NB (started a.s x rv hh) n), hv⟩⟩
    | @pop _ es rq rv hh x rest hbl =>
      -- the waiting copy of `n` is popped
      obtain ⟨x', rest', hbl', hx⟩ := hab
      obtain ⟨rfl, rfl⟩ := List.cons.inj (hbl.symm.trans hbl')
      have hmem : x ∈ a.s.backlog rq := hbl ▸ List.mem_cons_self
      show Tr n v (.hand es rq rv hh true x) _
      rw [Tr, if_pos hx]
      rcases (h : Tq n v es a) with ⟨hes, ⟨he, hb, hv⟩ | ⟨_, _, _, hsd, _⟩⟩ | ⟨_, _, hf⟩
      · exact ⟨hes, he, ⟨hb.1, nb_pop_self hbl.symm hx hb⟩, .inl hv⟩
      · exact (not_nb_of_mem hmem hx hsd.nb).elim
      · exact (not_nb_of_mem hmem hx hf.2).elim
    | release hbl =>
      obtain ⟨_, _, hbl', _⟩ := hab
      rw [hbl] at hbl'; cases hbl'
  · have hh : ¬ inHand n m := by
      cases m with
      | hand => exact hab
      | idle => exact id
      | flight => exact id
    obtain ⟨g1, g2, g3, g4⟩ := hm.other hab
    refine (Tr.tq g4).mpr ?_
    have := (Tr.tq hh).mp h
    rw [Tq, g3, g2]
    exact this.imp (fun ⟨x, y⟩ => ⟨x, y.sameHold g1⟩) fun ⟨x, y, z⟩ => ⟨x, y, g1.free z⟩

theorem _root_.HqModel.Worker.Path.tr {n : Nat} {v : Option Nat} {m : Mode} {es' : List Entry} {a a' : Acc} (hp : Path m a (.idle es') a')
    (hh : ¬ inHand n m) (h : Tq n v m.es a) : Tq n v es' a' :=
  hp.preserves (I := Tr n v) Tr.mv ((Tr.tq hh).mpr h)

/-- since `a0` no message other than the update batch was added, and the key list of the backlog stayed duplicate-free -/
def Mute (a0 a : Acc) : Prop :=
  (∀ o ∈ a.ev, o ∈ a0.ev ∨ outMsg o = none) ∧ (a0.s.bkeys.Nodup → a.s.bkeys.Nodup)

theorem Mute.mv {a0 : Acc} {m m' : Mode} {a a' : Acc} (hm : Mv m a m' a') (hg : Mute a0 a) : Mute a0 a' := by
  obtain ⟨hev, hk⟩ := hg
  have ev : ∀ o', outMsg o' = none → ∀ o ∈ a.ev ++ [o'], o ∈ a0.ev ∨ outMsg o = none := by
    intro o' ho' o ho
    rcases List.mem_append.mp ho with ho | ho
    · exact hev o ho
    · exact .inr (List.mem_singleton.mp ho ▸ ho')
  cases hm with
  | @push _ e =>
    refine ⟨hev, fun h0 => ?_⟩
    show (if e.task.rq ∈ a.s.bkeys then a.s.bkeys else e.task.rq :: a.s.bkeys).Nodup
    split
    · exact hk h0
    · exact List.nodup_cons.mpr ⟨‹_›, hk h0⟩
  | block => exact ⟨hev, fun h0 => (insertBlocked_bkeys ..).symm ▸ hk h0⟩
  | alloc | pop | reject => exact ⟨hev, hk⟩
  | fail | start | release => exact ⟨ev _ rfl, hk⟩

theorem _root_.HqModel.Worker.Path.mute {m m' : Mode} {a a' : Acc} (hp : Path m a m' a') : Mute a a' :=
  hp.preserves (I := fun _ => Mute a) Mute.mv ⟨fun _ h => .inl h, id⟩

end HqModel.SysW
