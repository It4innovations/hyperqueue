/-!
A concrete run is evaluated once, by the kernel: `okAnd x c` says that the computation `x` succeeds and that the Boolean
test `c` holds of its value; `of_okAnd` gives the value back with both facts. Nested, it follows a run by a further step.
-/
namespace HqModel.Run

variable {ε α : Type}

/-- the computation succeeds and `c` is true of its value -/
def okAnd (x : Except ε α) (c : α → Bool) : Bool :=
  match x with
  | .ok a => c a
  | .error _ => false

theorem of_okAnd {x : Except ε α} {c : α → Bool} (h : okAnd x c = true) : ∃ a, x = .ok a ∧ c a = true := by
  cases x with
  | ok a => exact ⟨a, rfl, h⟩
  | error e => cases h

end HqModel.Run
