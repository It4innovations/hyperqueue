import HqModel.Lemmas.JournalPrune2
/-!
The `prune2` simulation at the level of `Map::get` (`prel2_fold_prune2`: `sim_step` of JournalPruneEq at the entry
relation `Eq`, from ANY two restorers with equal live entries, under `RInv`). Props/C12Fixed.lean does not use it: it
needs the job TABLES equal as lists and goes through `prune2_fold_full` (JournalPrune2Restore).
-/
namespace HqModel.Journal

/-- restorer on the journal (`R`) vs. restorer on the `prune2`d journal (`R'`): live jobs have EQUAL entries (crash
counters included), non-live jobs have no entry in `R'`; queues, queue high-water mark and uid agree. -/
structure PRel2 (live : Nat → Bool) (R R' : Restorer) : Prop where
  jobs : ∀ j, live j = true → alGet R.jobs j = alGet R'.jobs j
  dead : ∀ j, live j = false → alGet R'.jobs j = none
  queues : R'.queues = R.queues
  maxQueue : R'.maxQueue = R.maxQueue
  uid : R'.uid = R.uid

theorem PRel2.toPRel {live : Nat → Bool} {R R' : Restorer} (h : PRel2 live R R') : PRel live R R' :=
  ⟨fun j hj => by rw [h.jobs j hj]; rfl, h.dead, h.queues, h.maxQueue, h.uid⟩

theorem PRel2.sim {live : Nat → Bool} {R R' : Restorer} (h : PRel2 live R R') : Sim Eq live R R' :=
  ⟨⟨h.jobs, h.dead⟩, h.queues, h.maxQueue, h.uid⟩

theorem Sim.prel2 {live : Nat → Bool} {R R' : Restorer} (h : Sim Eq live R R') : PRel2 live R R' :=
  ⟨h.1.1, h.1.2, h.2.1, h.2.2.1, h.2.2.2⟩

theorem prune2Record_pruned (lj lw acc : List Nat) (x : Record) :
    Pruned (fun j => lj.contains j) x (prune2Record lj lw acc x) := by
  rw [prune2Record_eq]
  cases hl : lostOf x with
  | some p => obtain ⟨w, r⟩ := p; obtain rfl := lostOf_eq hl; exact ite_some_or _ _
  | none => exact pruneRecord_pruned lj lw x

theorem prune2Record_drop {lj lw acc : List Nat} {jobs : List (Nat × RJob)}
    (hinv : TInv (fun l k v => alGet l k = some v) (fun j => lj.contains j) acc jobs) {w : Nat} {r : LostReason}
    (hnone : prune2Record lj lw acc (.workerLost w r) = none) (j : Nat) (hl : lj.contains j = true) :
    (alGet jobs j).map (·.increaseCrash w) = alGet jobs j := by
  have hw : ¬ w ∈ acc := by
    intro hmem
    have : acc.contains w = true := List.contains_iff_mem.2 hmem
    simp only [prune2Record, this, Bool.or_true, if_true] at hnone
    cases hnone
  cases hg : alGet jobs j with
  | none => rfl
  | some rj => exact congrArg some (increaseCrash_eq_self (hinv j rj hg hl) hw)

theorem prel2_fold_prune2 (lj lw : List Nat) : ∀ (J : List Record) (acc : List Nat) (R R' R1 : Restorer),
    PRel2 (fun j => lj.contains j) R R' → RInv (fun j => lj.contains j) acc R → restorerFoldFrom R J = .ok R1 →
    ∃ R1', restorerFoldFrom R' (prune2From lj lw acc J) = .ok R1' ∧ PRel2 (fun j => lj.contains j) R1 R1' := by
  have key : ∀ (J : List Record) (acc : List Nat) (R R' R1 : Restorer),
      Sim Eq (fun j => lj.contains j) R R' →
      TInv (fun l k v => alGet l k = some v) (fun j => lj.contains j) acc R.jobs → restorerFoldFrom R J = .ok R1 →
      ∃ R1', restorerFoldFrom R' (prune2From lj lw acc J) = .ok R1' ∧ Sim Eq (fun j => lj.contains j) R1 R1' := by
    intro J
    induction J with
    | nil => intro acc R R' R1 h _ hs; cases hs; exact ⟨R', rfl, h⟩
    | cons x xs ih =>
      intro acc R R' R1 h hinv hs
      obtain ⟨R2, hx, hs⟩ := restorerFoldFrom_cons_ok.1 hs
      rw [prune2From_cons]
      exact (sim_step entryRel_eq h x _ (prune2Record_pruned lj lw acc x)
        (fun w r e hnone j hl => prune2Record_drop hinv (e ▸ hnone) j hl) hx).fold fun R2' hrel =>
          ih _ R2 R2' R1 hrel (tinv_step alMem_get lj x hinv (restorerStep_ok hx).1) hs
  intro J acc R R' R1 h hinv hs
  obtain ⟨R1', hf, hr⟩ := key J acc R R' R1 h.sim (rinv_iff_tinv.1 hinv) hs
  exact ⟨R1', hf, hr.prel2⟩

/-- what C12 compares at the level of the restorer, crash counters INCLUDED: every job entry (submits, open flag,
per-task state, last instance, crash counter), the allocation queues, the queue high-water mark, the uid -/
structure SameView2 (R R' : Restorer) : Prop where
  jobs : ∀ j, alGet R.jobs j = alGet R'.jobs j
  queues : R'.queues = R.queues
  maxQueue : R'.maxQueue = R.maxQueue
  uid : R'.uid = R.uid

end HqModel.Journal
