import HqModel.Lemmas.CoreNoPanicOkModel
/-!
C09 progress: the functions of one scheduling round succeed (or refuse the recorded solution with a `!bad…` site) from
local facts about the state they are applied to, and the counting argument of `process_proactive_filling`: `HeadOk s
rq p k` (the first entry of queue `rq` has priority `p` and at least `k` ids; the prefill set, if any, has priority `p`),
which one call of `prefillWorker` with size `n` takes from `n + k` to `k` (`prefillWorker_head`).
-/

namespace HqModel.Core

namespace NP

theorem setMnAll_ok (id : TaskId) : ∀ (ws : List Nat) (s : State) (first : Bool), ws.Nodup →
    (∀ w ∈ ws, ∃ wk, s.worker? w = some wk ∧ wk.isFree = true) → ∃ s', setMnAll s id ws first = .ok s'
  | [], s, _, _, _ => ⟨s, rfl⟩
  | w :: rest, s, first, hnd, h => by
    obtain ⟨wk, hw, hf⟩ := h w List.mem_cons_self
    have hwid : wk.id = w := findWorker_some_id hw
    have hww := withWorker_ok (f := fun x => x.setMn id first) hw (setMn_ok (t := id) (root := first) hf)
    simp only [setMnAll, hww]
    apply setMnAll_ok id rest _ false (List.nodup_cons.mp hnd).2
    intro x hx
    have hne : x ≠ w := fun e => (List.nodup_cons.mp hnd).1 (e ▸ hx)
    obtain ⟨wkx, hwx, hfx⟩ := h x (List.mem_cons_of_mem _ hx)
    exact ⟨wkx, (worker?_setWorker_ne (by rw [hwid]; exact hne)).trans hwx, hfx⟩

theorem mapMnSets_one_ok {s : State} {rq : Nat} {ws : List Nat} {acc : List TaskId} {q : Queue}
    (hq : s.queues[rq]? = some q) (hne : q.ready ≠ []) (hent : ∀ e ∈ q.ready, e.2 ≠ [])
    (hnd : ws.Nodup) (hws : ∀ w ∈ ws, ∃ wk, s.worker? w = some wk ∧ wk.isFree = true)
    (hhead : ∀ e ∈ q.ready, ∀ id ∈ e.2, ∃ task, s.task? id = some task ∧ task.state = .waiting 0) :
    ∃ r, s.mapMnSets rq [ws] acc = .ok r := by
  simp only [State.mapMnSets, hq]
  cases hr : q.ready with
  | nil => exact absurd hr hne
  | cons e more =>
    obtain ⟨p, ids⟩ := e
    have hmem : (p, ids) ∈ q.ready := by rw [hr]; exact List.mem_cons_self
    cases hi : ids with
    | nil => exact absurd hi (hent (p, ids) hmem)
    | cons id ids' =>
      simp only
      obtain ⟨task, ht, hs⟩ := hhead (p, ids) hmem id (by rw [hi]; exact List.mem_cons_self)
      obtain ⟨s2, h2⟩ := setMnAll_ok id ws
        { s with queues := s.queues.set rq { q with ready := if ids'.isEmpty then more else (p, ids') :: more } }
        true hnd hws
      simp only [h2]
      have ht2 : s2.task? id = some task := by rw [task?_eq, setMnAll_tasks _ _ _ _ _ h2]; exact ht
      simp only [getTask_ok ht2, hs, ne_eq, not_true_eq_false, if_false]
      exact ⟨_, rfl⟩

/-- what `create_task_mapping` may find for an id it took from a queue -/
def Placeable (s : State) (id : TaskId) (task : Task) : Prop :=
  (∃ n, task.state = .waiting n) ∨
  ((∃ old, task.state = .retracting old) ∧ s.redirects.find? (·.1 = id) = none) ∨
  (∃ old wk A F P, task.state = .prefilled old ∧ s.worker? old = some wk ∧ wk.assign = .sn A F P ∧ id ∈ P ∧
    s.redirects.any (·.1 = id) = false)

theorem placeSn_np {s : State} {m : List WUpdate} {v : Nat} {r : Rq} {id : TaskId} {w : Nat}
    (hw : ∃ wk A F P, s.worker? w = some wk ∧ wk.assign = .sn A F P ∧ id ∉ A ∧ F.length = wk.total.length)
    {task : Task} (ht : s.task? id = some task) (hp : Placeable s id task) :
    NoCorePanic (s.placeSn m v r id w) := by
  obtain ⟨wk, A, F, P, hfw, ha, hna, hF⟩ := hw
  have hwid : wk.id = w := findWorker_some_id hfw
  by_cases hfit : fitsNow F wk.total r.entries = true
  · obtain ⟨F', hins, _⟩ := insertSn_ok (wk := wk) (t := id) (r := r) ha hna (fitsNow_idx hfit)
    have hww := withWorker_ok (f := fun x => x.insertSn id r) hfw hins
    have ht1 : (s.setWorker { wk with assign := .sn (A ++ [id]) F' P }).getTask id = .ok task := getTask_ok ht
    apply NoCorePanic.of_ok
    rcases hp with ⟨n, hs⟩ | ⟨⟨old, hs⟩, hnone⟩ | ⟨old, wk', A', F'', P', hs, hfw', ha', hm', hnr⟩
    · simp only [State.placeSn, hfw, ha, hfit, Bool.not_true, Bool.false_eq_true, if_false, hww, ht1, hs]
      exact ⟨_, rfl⟩
    · have : (s.setWorker { wk with assign := .sn (A ++ [id]) F' P }).redirects.find? (·.1 = id) = none := hnone
      simp only [State.placeSn, hfw, ha, hfit, Bool.not_true, Bool.false_eq_true, if_false, hww, ht1, hs, this]
      exact ⟨_, rfl⟩
    · -- the record of the old worker after the insertion on `w`
      have hold : ∃ wk2 A2 F2, (s.setWorker { wk with assign := .sn (A ++ [id]) F' P }).worker? old = some wk2 ∧
          wk2.assign = .sn A2 F2 P' := by
        by_cases ho : old = w
        · subst ho
          rw [hfw] at hfw'; cases hfw'
          rw [ha] at ha'; cases ha'
          exact ⟨{ wk with assign := .sn (A ++ [id]) F' P }, A ++ [id], F', worker?_setWorker_self hwid hfw, rfl⟩
        · exact ⟨wk', A', F'', (worker?_setWorker_ne (by rw [hwid]; exact ho)).trans hfw', ha'⟩
      obtain ⟨wk2, A2, F2, hfw2, ha2⟩ := hold
      have hww2 := withWorker_ok (f := fun x => x.removePrefill id) hfw2 (removePrefill_ok ha2 hm')
      have : ((s.setWorker { wk with assign := .sn (A ++ [id]) F' P }).setWorker
          { wk2 with assign := .sn A2 F2 (P'.erase id) }).redirects.any (·.1 = id) = false := hnr
      simp only [State.placeSn, hfw, ha, hfit, Bool.not_true, Bool.false_eq_true, if_false, hww, ht1, hs, hww2, this]
      exact ⟨_, rfl⟩
  · simp only [State.placeSn, hfw, ha, hfit, Bool.not_false, if_true]
    exact NoCorePanic.bang (by simp)

theorem prefillBack_ok (rq : Nat) : ∀ (l : List TaskId) (s : State) (keep : List TaskId), l.Nodup →
    (∀ id ∈ l, (s.task? id).isSome = true) →
    (∀ id ∈ l, ∃ q pp ts, s.queues[rq]? = some q ∧ q.prefill = some (pp, ts) ∧ id ∈ ts) →
    ∃ r, State.prefillWorker.back rq s l keep = .ok r
  | [], s, keep, _, _, _ => ⟨_, rfl⟩
  | id :: rest, s, keep, hnd, hin, hpf => by
    have h1 := hin id List.mem_cons_self
    cases ht : s.task? id with
    | none => rw [ht] at h1; cases h1
    | some t =>
      simp only [State.prefillWorker.back, getTask_ok ht]
      have hnd' := (List.nodup_cons.mp hnd).2
      split
      · obtain ⟨q, pp, ts, hq, hp, hm⟩ := hpf id List.mem_cons_self
        obtain ⟨s2, h2⟩ := movePrefilledToReady_ok hq hp hm
        simp only [h2]
        apply prefillBack_ok rq rest s2 keep hnd'
        · intro x hx
          rw [task?_eq, movePrefilledToReady_tasks h2]
          exact hin x (List.mem_cons_of_mem _ hx)
        · intro x hx
          have hne : x ≠ id := fun e => (List.nodup_cons.mp hnd).1 (e ▸ hx)
          obtain ⟨q', pp', ts', hq', hp', hm'⟩ := hpf x (List.mem_cons_of_mem _ hx)
          obtain ⟨q2, a, b, c⟩ := movePrefilledToReady_prefill h2 hq' hp' hne hm'
          exact ⟨q2, pp', _, a, b, c⟩
      · exact prefillBack_ok rq rest s _ hnd' (fun x hx => hin x (List.mem_cons_of_mem _ hx))
          (fun x hx => hpf x (List.mem_cons_of_mem _ hx))

theorem prefillMark_ok (w : Nat) : ∀ (l : List TaskId) (s : State), l.Nodup →
    (∀ id ∈ l, ∃ t n, s.task? id = some t ∧ t.state = .waiting n) →
    (∃ wk A F P, s.worker? w = some wk ∧ wk.assign = .sn A F P ∧ ∀ id ∈ l, id ∉ P) →
    ∃ s', State.prefillWorker.mark w s l = .ok s'
  | [], s, _, _, _ => ⟨_, rfl⟩
  | id :: rest, s, hnd, hin, hw => by
    obtain ⟨t, n, ht, hs⟩ := hin id List.mem_cons_self
    obtain ⟨wk, A, F, P, hfw, ha, hnp⟩ := hw
    have hwid : wk.id = w := findWorker_some_id hfw
    have hid : t.id = id := findTask_some_id ht
    have hfw1 : (s.setTask { t with state := .prefilled w }).worker? w = some wk := hfw
    have hww := withWorker_ok (f := fun x => x.insertPrefill id) hfw1
      (insertPrefill_ok ha (hnp id List.mem_cons_self))
    simp only [State.prefillWorker.mark, getTask_ok ht, hs, hww]
    apply prefillMark_ok w rest _ (List.nodup_cons.mp hnd).2
    · intro x hx
      have hne : x ≠ id := fun e => (List.nodup_cons.mp hnd).1 (e ▸ hx)
      obtain ⟨tx, nx, htx, hsx⟩ := hin x (List.mem_cons_of_mem _ hx)
      exact ⟨tx, nx, (task?_setTask_ne (by rw [hid]; exact hne)).trans htx, hsx⟩
    · refine ⟨{ wk with assign := .sn A F (P ++ [id]) }, A, F, P ++ [id], worker?_setWorker_self hwid hfw1, rfl, ?_⟩
      · intro x hx hm
        have hne : x ≠ id := fun e => (List.nodup_cons.mp hnd).1 (e ▸ hx)
        rcases List.mem_append.mp hm with h1 | h1
        · exact hnp x (List.mem_cons_of_mem _ hx) h1
        · simp only [List.mem_singleton] at h1; exact hne h1

theorem msgsOfAll_ok (s : State) : ∀ (m : List WUpdate),
    (∀ u ∈ m, (∀ id ∈ u.prefills, (s.task? id).isSome = true) ∧ ∀ a ∈ u.assigned, (s.task? a.1).isSome = true) →
    ∃ r, msgsOfAll s m = .ok r
  | [], _ => ⟨_, rfl⟩
  | u :: rest, h => by
    obtain ⟨h1, h2⟩ := h u List.mem_cons_self
    obtain ⟨l, hl⟩ := computeList_ok s ((u.prefills.map fun id => (id, none)) ++ (u.assigned.map fun a => (a.1, some a.2)))
      (by
        intro x hx
        rcases List.mem_append.mp hx with hx | hx
        · obtain ⟨id, hid, rfl⟩ := List.mem_map.mp hx; exact h1 id hid
        · obtain ⟨a, ha, rfl⟩ := List.mem_map.mp hx; exact h2 a ha)
    obtain ⟨ms, hms⟩ := msgsOfAll_ok s rest (fun x hx => h x (List.mem_cons_of_mem _ hx))
    simp only [msgsOfAll, hl, hms]
    exact ⟨_, rfl⟩

theorem mnMsgs_ok (s : State) : ∀ (l : List TaskId),
    (∀ id ∈ l, ∃ t root ws, s.task? id = some t ∧ t.state = .runningMN (root :: ws)) → ∃ r, mnMsgs s l = .ok r
  | [], _ => ⟨_, rfl⟩
  | id :: rest, h => by
    obtain ⟨t, root, ws, ht, hs⟩ := h id List.mem_cons_self
    obtain ⟨ms, hms⟩ := mnMsgs_ok s rest (fun x hx => h x (List.mem_cons_of_mem _ hx))
    simp only [mnMsgs, getTask_ok ht, hs, hms]
    exact ⟨_, rfl⟩

def HeadOk (s : State) (rq : Nat) (p : Int) (k : Nat) : Prop :=
  ∃ q ids rest, s.queues[rq]? = some q ∧ q.ready = (p, ids) :: rest ∧ k ≤ ids.length ∧
    ∀ pp ts, q.prefill = some (pp, ts) → pp = p

theorem HeadOk.mono {s : State} {rq : Nat} {p : Int} {k k' : Nat} (h : HeadOk s rq p k) (hk : k' ≤ k) :
    HeadOk s rq p k' := by
  obtain ⟨q, ids, rest, a, b, c, d⟩ := h
  exact ⟨q, ids, rest, a, b, Nat.le_trans hk c, d⟩

theorem insertTid_length_ge (t : TaskId) : ∀ (l : List TaskId), l.length ≤ (insertTid t l).length
  | [] => by simp [insertTid]
  | y :: ys => by
    simp only [insertTid]
    split
    · exact Nat.le_refl _
    · split
      · simp
      · simp only [List.length_cons]
        have := insertTid_length_ge t ys
        omega

theorem movePrefilledToReady_head {s s' : State} {rq : Nat} {id : TaskId} {p : Int} {k : Nat}
    (h : s.movePrefilledToReady rq id = .ok s') (hh : HeadOk s rq p k) : HeadOk s' rq p k := by
  obtain ⟨q, ids, rest, hq, hr, hk, hp⟩ := hh
  obtain ⟨q', pp, ts, hq', hpf, _, rfl⟩ := movePrefilledToReady_ok_iff.mp h
  rw [hq] at hq'
  cases hq'
  cases hp pp ts hpf
  have hlt : rq < s.queues.length := (List.getElem?_eq_some_iff.mp hq).1
  refine ⟨_, insertTid id ids, rest, List.getElem?_set_self hlt, ?_, Nat.le_trans hk (insertTid_length_ge id ids), ?_⟩
  · simp only [hr, readyAdd, if_true]
  · intro pp' ts' e
    simp only at e
    split at e
    · cases e
    · cases e; rfl

theorem prefillBack_head {rq : Nat} {p : Int} {k : Nat} {l : List TaskId} {s s' : State} {keep keep' : List TaskId}
    (h : State.prefillWorker.back rq s l keep = .ok (s', keep')) (hh : HeadOk s rq p k) : HeadOk s' rq p k :=
  prefillBack_ind (P := fun _ s _ => HeadOk s rq p k) (fun _ _ _ _ _ _ _ h0 _ _ hm => movePrefilledToReady_head hm h0)
    (fun _ _ _ _ _ h0 _ _ => h0) hh h

theorem prefillMark_queues {w : Nat} {l : List TaskId} {s s' : State} (h : State.prefillWorker.mark w s l = .ok s') :
    s'.queues = s.queues :=
  prefillMark_ind (P := fun _ s1 => s1.queues = s.queues)
    (fun _ _ _ _ _ _ h0 _ _ h2 => by obtain ⟨_, _, _, _, rfl⟩ := withWorker_spec h2; exact h0) rfl h

theorem prefillWorker_head {s s' : State} {m m' : List WUpdate} {rq n w : Nat} {p : Int} {k : Nat}
    (h : s.prefillWorker m rq n w = .ok (s', m')) (hh : HeadOk s rq p (n + k)) (hk : 1 ≤ k) : HeadOk s' rq p k := by
  obtain ⟨q, ids, rest, hq, hr, hlen, hp⟩ := hh
  obtain ⟨q', p', ids', more, pf, s2, keep, hq', hr', hpf, hb, hm, _⟩ := prefillWorker_path h
  rw [hq] at hq'
  cases hq'
  rw [hr] at hr'
  cases hr'
  have hlt : rq < s.queues.length := (List.getElem?_eq_some_iff.mp hq).1
  have hdrop : (ids.drop n).isEmpty = false := by
    have : (ids.drop n).length ≥ 1 := by rw [List.length_drop]; omega
    cases he : ids.drop n with
    | nil => rw [he] at this; simp at this
    | cons a b => rfl
  have hpf1 : pf.1 = p := by rcases hpf with ⟨_, rfl⟩ | ⟨_, _, rfl⟩ <;> rfl
  have h1 : HeadOk
      ({ s with queues := s.queues.set rq { ready := (takeFromFirst q.ready n).1, prefill := some pf } } : State)
      rq p k := by
    refine ⟨_, ids.drop n, rest, List.getElem?_set_self hlt, ?_, ?_, ?_⟩
    · simp only [hr, takeFromFirst, hdrop, Bool.false_eq_true, if_false]
    · rw [List.length_drop]; omega
    · intro pp ts e
      simp only [Option.some.injEq] at e
      rw [← hpf1, e]
  obtain ⟨q', ids', rest', a, b, c, d⟩ := prefillBack_head hb h1
  exact ⟨q', ids', rest', by rw [prefillMark_queues hm]; exact a, b, c, d⟩

end NP

end HqModel.Core
