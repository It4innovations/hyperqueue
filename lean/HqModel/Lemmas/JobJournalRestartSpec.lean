import HqModel.Journal.Spec
/-!
# What the restart clauses of C06 and C07 say about a journal — definitions only (imports only model files)

`NoStartBeforeCreate J`, the hypothesis of `C06.c06_restart` beside `Producible`, and `crashCount J job t`, the
conclusion of `C07.c07_restart`: both read off the records of `J` alone.
-/
namespace HqModel.Emit
open HqModel.Journal

/-- the job a record creates (`JobOpen`, or a `Submit` that creates a closed job) -/
def createdJob : Record → Option Nat
  | .jobOpen j _ => some j
  | .submit j true _ _ => some j
  | _ => none

def startedJob : Record → Option Nat
  | .taskStarted j _ _ _ => some j
  | _ => none

/-- no record creates a job id for which an EARLIER record reports a task start (`seen` = jobs with a start so far) -/
def noStartBeforeCreate : List Nat → List Record → Bool
  | _, [] => true
  | seen, r :: rs =>
    (match createdJob r with | some j => !seen.contains j | none => true) &&
      noStartBeforeCreate (match startedJob r with | some j => j :: seen | none => seen) rs

/-- job ids are not created again after one of their tasks started (the server issues job ids from a counter that
restarts above every id of the journal, C11; `Producible` alone allows the id of a COMPLETED job to come back) -/
def NoStartBeforeCreate (J : List Record) : Prop := noStartBeforeCreate [] J = true

instance (J : List Record) : Decidable (NoStartBeforeCreate J) := inferInstanceAs (Decidable (_ = true))

/-- What the records say about task `(job, t)`: `(run, crashes)` — the workers of its current run (root first; `none`:
not recorded running) and the number of failure-losses of the root worker while it was recorded running.
* a record that creates `job` starts from `(none, 0)`;
* `TaskStarted job t _ ws`: the task runs on `ws` (a later start replaces the run);
* `TaskFinished / TaskFailed job t`, a `TasksCanceled / TasksAborted` that contains `(job, t)`: the run ends;
* `WorkerLost w reason` while the task runs with ROOT `w`: the run ends; if `reason` is a failure
  (connection / heartbeat lost) it counts as a crash. The loss of a non-root worker changes nothing. -/
def trackStep (job t : Nat) (tr : Option (List Nat) × Nat) : Record → Option (List Nat) × Nat
  | .jobOpen j _ => if j = job then (none, 0) else tr
  | .submit j closed _ _ => if j = job ∧ closed = true then (none, 0) else tr
  | .taskStarted j t' _ ws => if j = job ∧ t' = t then (some ws, tr.2) else tr
  | .taskFinished j t' => if j = job ∧ t' = t then (none, tr.2) else tr
  | .taskFailed j t' => if j = job ∧ t' = t then (none, tr.2) else tr
  | .tasksCanceled ids => if (job, t) ∈ ids then (none, tr.2) else tr
  | .tasksAborted ids => if (job, t) ∈ ids then (none, tr.2) else tr
  | .workerLost w reason =>
    match tr.1 with
    | some (root :: _) => if root = w then (none, if reason.isFailure then tr.2 + 1 else tr.2) else tr
    | _ => tr
  | _ => tr

/-- **the number of crashes of task `(job, t)` the journal `J` records** -/
def crashCount (J : List Record) (job t : Nat) : Nat := (J.foldl (trackStep job t) (none, 0)).2

end HqModel.Emit
