import HqModel.Lemmas.SysJob
/-!
The tako callbacks of the job layer (`process_task_started`, `…_finished`, `…_failed`, `on_worker_new`, `on_worker_lost`)
and `cancel_job` through the view `tst`: what a successful call did (`…_spec`) and when a call cannot panic (`…_ok`).
`process_task_failed` is stated in two halves: the consumers become `aborted` and the task `failed` (`FailedA`), then the
max-fails decision; that decision and `cancel_job` end alike, by giving every non-terminal task of one job a terminal state
and taking it out of `sent` (`Killed`) — which is why `cancel_job` stands here and not with the other client requests.
-/
namespace HqModel.Sys
open HqModel.Job

/-- everything but the job table and `sent` is unchanged -/
structure SameRest (js js' : Job.State) : Prop where
  workers : js'.workers = js.workers
  jobCtr : js'.jobCtr = js.jobCtr
  ids : js'.jobs.map (·.id) = js.jobs.map (·.id)

theorem SameRest.refl (js : Job.State) : SameRest js js := ⟨rfl, rfl, rfl⟩
theorem SameRest.trans {a b c : Job.State} (h1 : SameRest a b) (h2 : SameRest b c) : SameRest a c :=
  ⟨h2.workers.trans h1.workers, h2.jobCtr.trans h1.jobCtr, h2.ids.trans h1.ids⟩

theorem SameRest.putJob (js : Job.State) (job : Job) : SameRest js (js.putJob job) :=
  ⟨rfl, rfl, replaceJob_ids _ _⟩

theorem taskStarted_spec {js js' : Job.State} {t : TaskId} {i : Nat} {ws : List Nat} {rv : Nat} {evs : List Ev}
    (h : js.taskStarted t i ws rv = .ok (js', evs)) :
    SameRest js js' ∧ js'.sent = js.sent ∧ (tst js t).isSome ∧
    ∀ x, tst js' x = if x = t then startedSt (tst js t) else tst js x := by
  obtain ⟨job, job', hj, hr, rfl, _⟩ := taskStarted_eq_ok h
  obtain ⟨m, hs, hl⟩ := setRunning_spec hr
  rw [show tst js t = lookup job.tasks t.2 from tst_of_getJob hj t.2]
  exact ⟨SameRest.putJob _ _, rfl, hs, tst_putJob_point hj (m.id.trans (getJob_id hj)) hl⟩

theorem taskStarted_ok {js : Job.State} {t : TaskId} (i : Nat) (ws : List Nat) (rv : Nat) (h : (tst js t).isSome) :
    ∃ r, js.taskStarted t i ws rv = .ok r := by
  obtain ⟨job, hj, hl⟩ := getJob_of_tst h
  unfold Job.State.taskStarted
  rw [hj]
  obtain ⟨job', hr⟩ := setRunning_ok (job := job) (t := t.2) (by rw [hl]; exact h)
  simp only [hr]
  exact ⟨_, rfl⟩

theorem taskFinished_spec {js js' : Job.State} {t : TaskId} {evs : List Ev}
    (h : js.taskFinished t = .ok (js', evs)) :
    SameRest js js' ∧ js'.sent = removeAll js.sent [t] ∧ tst js t = some .running ∧
    ∀ x, tst js' x = if x = t then some .finished else tst js x := by
  obtain ⟨job, job', hj, hr, rfl⟩ := taskFinished_eq_ok h
  obtain ⟨m, hs, hl⟩ := setFinished_spec hr
  exact ⟨⟨rfl, rfl, replaceJob_ids _ _⟩, rfl, (tst_of_getJob hj t.2).trans hs,
    tst_putJob_point (js := js) hj (m.id.trans (getJob_id hj)) hl⟩

theorem taskFinished_ok {js : Job.State} {t : TaskId} (h : tst js t = some .running) :
    ∃ r, js.taskFinished t = .ok r := by
  obtain ⟨job, hj, hl⟩ := getJob_of_tst (js := js) (t := t) (by rw [h]; rfl)
  unfold Job.State.taskFinished
  rw [hj]
  obtain ⟨r, hr⟩ := setFinished_ok (job := job) (t := t.2) (by rw [hl]; exact h)
  simp only [hr]
  exact ⟨_, rfl⟩

theorem workerNew_spec {js js' : Job.State} {w : Nat} {evs : List Ev} (h : js.workerNew w = .ok (js', evs)) :
    js'.jobs = js.jobs ∧ js'.sent = js.sent ∧ js'.jobCtr = js.jobCtr ∧ js'.workers = js.workers ++ [w] ∧
    w ∉ js.workers := by
  obtain ⟨rfl, _, hw⟩ := workerNew_eq_ok h
  exact ⟨rfl, rfl, rfl, rfl, hw⟩

theorem workerNew_ok {js : Job.State} {w : Nat} (h : w ∉ js.workers) : ∃ r, js.workerNew w = .ok r := by
  unfold Job.State.workerNew
  have : js.workers.contains w = false := by simpa using h
  simp only [this]
  exact ⟨_, rfl⟩

theorem setWaitingAll_spec {ts : List TaskId} {js js' : Job.State} (h : js.setWaitingAll ts = .ok js') :
    SameRest js js' ∧ js'.sent = js.sent ∧ (∀ t ∈ ts, live (tst js t) = true) ∧
    ∀ x, tst js' x = if x ∈ ts then some .waiting else tst js x := by
  induction ts generalizing js with
  | nil =>
    simp only [Job.State.setWaitingAll] at h
    cases h
    exact ⟨SameRest.refl _, rfl, by simp, by simp⟩
  | cons t rest ih =>
    obtain ⟨job, job', hj, hw, h⟩ := setWaitingAll_cons_eq_ok h
    obtain ⟨m, hs, hl⟩ := setWaiting_spec' hw
    obtain ⟨a, b, c, d⟩ := ih h
    have htt : live (tst js t) = true := by rw [show tst js t = _ from tst_of_getJob hj t.2, hs]; rfl
    have h1 := tst_putJob_point (js := js) hj (m.id.trans (getJob_id hj)) hl
    refine ⟨(SameRest.putJob _ _).trans a, b, ?_, ?_⟩
    · intro u hu
      rcases List.mem_cons.mp hu with e | e
      · exact e ▸ htt
      · have := c u e
        rw [h1] at this
        split at this
        · rename_i hut; exact hut ▸ htt
        · exact this
    · intro x
      rw [d x, h1 x]
      by_cases hx : x ∈ rest
      · simp [hx]
      · by_cases hxt : x = t <;> simp [hx, hxt]

theorem setWaitingAll_ok : ∀ (ts : List TaskId) (js : Job.State), ts.Nodup → (∀ t ∈ ts, tst js t = some .running) →
    ∃ js', js.setWaitingAll ts = .ok js' := by
  intro ts
  induction ts with
  | nil => intro js _ _; exact ⟨js, rfl⟩
  | cons t rest ih =>
    intro js hnd hall
    simp only [List.nodup_cons] at hnd
    have ht := hall t (by simp)
    obtain ⟨job, hj, hl⟩ := getJob_of_tst (js := js) (t := t) (by rw [ht]; rfl)
    obtain ⟨job', hw⟩ := setWaiting_ok (job := job) (t := t.2) (by rw [hl]; exact ht)
    simp only [Job.State.setWaitingAll, hj, hw]
    apply ih _ hnd.2
    intro u hu
    obtain ⟨m, _, hlk⟩ := setWaiting_spec' hw
    rw [tst_putJob_point hj (m.id.trans (getJob_id hj)) hlk, if_neg fun e : u = t => hnd.1 (e ▸ hu)]
    exact hall u (by simp [hu])

theorem workerLost_spec {js js' : Job.State} {w : Nat} {running : List TaskId} {reason : String} {evs : List Ev}
    (h : js.workerLost w running reason = .ok (js', evs)) :
    SameRest js js' ∧ js'.sent = js.sent ∧ (∀ t ∈ running, live (tst js t) = true) ∧
    ∀ x, tst js' x = if x ∈ running then some .waiting else tst js x :=
  setWaitingAll_spec (workerLost_eq_ok h).1

theorem workerLost_ok {js : Job.State} {w : Nat} {running : List TaskId} (reason : String) (hw : w ∈ js.workers)
    (hnd : running.Nodup) (hall : ∀ t ∈ running, tst js t = some .running) :
    ∃ r, js.workerLost w running reason = .ok r := by
  obtain ⟨js', hs⟩ := setWaitingAll_ok running js hnd hall
  unfold Job.State.workerLost
  rw [hs]
  have : js'.workers.contains w = true := by
    rw [(setWaitingAll_spec hs).1.workers]; simpa using hw
  simp only [this]
  exact ⟨_, rfl⟩


theorem map_snd_map_pair (j : Nat) (l : List Nat) : (l.map fun x => ((j, x) : TaskId)).map (·.2) = l := by
  induction l with
  | nil => rfl
  | cons a as ih => simp only [List.map_cons, ih]

theorem nodup_snd_of_same_fst {l : List TaskId} {j : Nat} (hj : ∀ p ∈ l, p.1 = j) (hn : l.Nodup) :
    (l.map (·.2)).Nodup := by
  induction l with
  | nil => simp
  | cons p rest ih =>
    simp only [List.nodup_cons, List.map_cons] at hn ⊢
    refine ⟨?_, ih (fun q hq => hj q (by simp [hq])) hn.2⟩
    intro hm
    obtain ⟨q, hq, he⟩ := List.mem_map.mp hm
    have : q = p := Prod.ext ((hj q (by simp [hq])).trans (hj p (by simp)).symm) he
    exact hn.1 (this ▸ hq)

theorem mem_map_snd_iff {l : List TaskId} {j : Nat} (hj : ∀ p ∈ l, p.1 = j) (x : Nat) :
    x ∈ l.map (·.2) ↔ (j, x) ∈ l := by
  constructor
  · intro h
    obtain ⟨q, hq, he⟩ := List.mem_map.mp h
    have : q = (j, x) := Prod.ext (hj q hq) he
    exact this ▸ hq
  · intro h; exact List.mem_map.mpr ⟨(j, x), h, rfl⟩

theorem mem_map_pair {j : Nat} {l : List Nat} {x : TaskId} :
    x ∈ l.map (fun t => ((j, t) : TaskId)) ↔ x.1 = j ∧ x.2 ∈ l := by
  constructor
  · intro hx; obtain ⟨y, hy, rfl⟩ := List.mem_map.mp hx; exact ⟨rfl, hy⟩
  · rintro ⟨rfl, h2⟩; exact List.mem_map.mpr ⟨x.2, h2, rfl⟩

def NoLive (js : Job.State) (J : Nat) : Prop := ∀ x : TaskId, x.1 = J → live (tst js x) = false

theorem nonFinished_markable {job : Job} (hw : JobWF job) {j : Nat} (hid : job.id = j) :
    (∀ p ∈ job.nonFinishedTaskIds.map (fun t => ((j, t) : TaskId)), p.1 = job.id) ∧
    ((job.nonFinishedTaskIds.map fun t => ((j, t) : TaskId)).map (·.2)).Nodup ∧
    ∀ p ∈ job.nonFinishedTaskIds.map (fun t => ((j, t) : TaskId)), live (lookup job.tasks p.2) = true := by
  refine ⟨fun p hp => ?_, by rw [map_snd_map_pair]; exact nonFinished_nodup hw.nodup, fun p hp => ?_⟩
  · obtain ⟨x, _, rfl⟩ := List.mem_map.mp hp; exact hid.symm
  · obtain ⟨x, hx, rfl⟩ := List.mem_map.mp hp
    exact (mem_nonFinished_iff hw.nodup x).mp hx

/-- `js'` is `js` after every non-terminal task of job `j` — `ids` lists them — got the state `v` and left `sent`:
what a client cancel (`v = canceled`) and the max-fails decision (`v = aborted`) do -/
structure Killed (js : Job.State) (j : Nat) (v : TState) (ids : List TaskId) (js' : Job.State) : Prop where
  rest : SameRest js js'
  ids : ∀ x, x ∈ ids ↔ x.1 = j ∧ live (tst js x) = true
  view : ∀ x, tst js' x = if x.1 = j ∧ live (tst js x) = true then some v else tst js x
  sent : ∀ x, x ∈ js'.sent ↔ x ∈ js.sent ∧ ¬ (x.1 = j ∧ live (tst js x) = true)

theorem Killed.none {js : Job.State} {j : Nat} (v : TState) (hno : NoLive js j) :
    Killed js j v [] js := by
  have : ∀ x : TaskId, ¬ (x.1 = j ∧ live (tst js x) = true) := fun x hc => by rw [hno x hc.1] at hc; cases hc.2
  exact ⟨SameRest.refl _, fun x => ⟨nofun, fun h => (this x h).elim⟩, fun x => (if_neg (this x)).symm,
    fun x => ⟨fun h => ⟨h, this x⟩, fun h => h.1⟩⟩

theorem Killed.put {js : Job.State} {job job' : Job} {j : Nat} {v : TState} (hwf : StateWF js) (hj : js.getJob j = some job)
    (m : SameMeta job job')
    (hl : ∀ x, lookup job'.tasks x = if x ∈ job.nonFinishedTaskIds then some v else lookup job.tasks x) :
    Killed js j v (job.nonFinishedTaskIds.map fun t => (j, t))
      { js.putJob job' with sent := removeAll js.sent (job.nonFinishedTaskIds.map fun t => (j, t)) } := by
  have hin : ∀ x : TaskId, x ∈ job.nonFinishedTaskIds.map (fun t => (j, t)) ↔ x.1 = j ∧ live (tst js x) = true := by
    intro x
    rw [mem_map_pair, mem_nonFinished_iff (getJob_wf hwf hj).nodup, ← tst_of_getJob hj]
    exact and_congr_right fun h1 => by rw [← h1]
  refine ⟨⟨rfl, rfl, replaceJob_ids _ _⟩, hin, ?_, fun x => ?_⟩
  · refine tst_putJob_ext hj (m.id.trans (getJob_id hj)) (fun x => ?_) (fun x hx => ?_)
    · simp only [hl, mem_nonFinished_iff (getJob_wf hwf hj).nodup, true_and, tst_of_getJob hj]
    · exact if_neg fun e => hx e.1
  · show x ∈ removeAll js.sent _ ↔ _
    rw [mem_removeAll, hin]

theorem Killed.noLive {js js' : Job.State} {j : Nat} {v : TState} {ids : List TaskId} (h : Killed js j v ids js')
    (hv : v.terminal = true) : NoLive js' j := by
  intro x hx
  rw [h.view x]
  cases hl : live (tst js x) with
  | false => rw [if_neg fun e => by cases e.2]; exact hl
  | true => rw [if_pos ⟨hx, rfl⟩]; simp [live, hv]

/-- the view after `process_task_failed`, before the max-fails abort -/
def failedView (js : Job.State) (t : TaskId) (cons : List TaskId) (x : TaskId) : Option TState :=
  if x = t then some .failed else if x ∈ cons then some .aborted else tst js x

/-- the first half of `process_task_failed`: the consumers become `aborted`, the task `failed`, and they leave `sent` -/
structure FailedA (js : Job.State) (t : TaskId) (cons : List TaskId) (js2 : Job.State) : Prop where
  rest : SameRest js js2
  job : ∀ c ∈ cons, c.1 = t.1
  view : ∀ x, tst js2 x = failedView js t cons x
  sent : ∀ x, x ∈ js2.sent ↔ x ∈ js.sent ∧ x ≠ t ∧ x ∉ cons
  wf : StateWF js2

/-- the second half happens exactly when the job has a limit and now more failed tasks than it allows: then ALL tasks of
the job that are still non-terminal are aborted and handed back to the core -/
theorem taskFailed_spec {js js' : Job.State} {t : TaskId} {cons ret : List TaskId} {evs : List Ev}
    (hwf : StateWF js) (h : js.taskFailed t cons = .ok (js', evs, ret)) :
    ∃ js2 job2, FailedA js t cons js2 ∧ js2.getJob t.1 = some job2 ∧
      ((∃ m, job2.maxFails = some m ∧ job2.cnt.failed > m ∧ Killed js2 t.1 .aborted ret js') ∨
       ((∀ m, job2.maxFails = some m → ¬ job2.cnt.failed > m) ∧ ret = [] ∧ js' = js2)) := by
  obtain ⟨job, job1, ev1, job2, ev2, hj, ha, hf, hcase⟩ := taskFailed_eq_ok h
  have hid := getJob_id hj
  obtain ⟨m1, hc1, hl1⟩ := abortTasks_spec ha
  obtain ⟨m2, hlive2, hl2⟩ := setFailed_spec hf
  have hw2 := ((getJob_wf hwf hj).abortTasks ha).setFailed hf
  have hid2 : job2.id = t.1 := (m2.id.trans m1.id).trans hid
  have hcons : ∀ c ∈ cons, c.1 = t.1 := fun c hc => (hc1 c hc).trans hid
  have hv2 : ∀ x : Nat, lookup job2.tasks x = failedView js t cons (t.1, x) := by
    intro x
    rw [hl2, hl1, ← tst_of_getJob hj x]
    simp only [failedView, mem_map_snd_iff hcons]
    by_cases hx : x = t.2
    · subst hx; simp
    · have : ¬ (t.1, x) = t := fun e => hx (by rw [← e])
      simp [hx, this]
  have hg2 : (js.putJob job2).getJob t.1 = some job2 := getJob_putJob_self hj hid2
  have hA : FailedA js t cons { js.putJob job2 with sent := removeAll js.sent (t :: cons) } := by
    refine ⟨⟨rfl, rfl, replaceJob_ids _ _⟩, hcons, ?_, fun x => ?_,
      stateWF_congr (hwf.putJob (hid ▸ hj) (hid2.trans hid.symm) hw2) rfl rfl⟩
    · exact tst_putJob_ext hj hid2 hv2 fun x hx1 => by
        have h1 : ¬ x = t := fun e => hx1 (by rw [e])
        have h2 : x ∉ cons := fun e => hx1 (hcons x e)
        simp [failedView, h1, h2]
    · show x ∈ removeAll js.sent (t :: cons) ↔ _
      rw [mem_removeAll]; simp [not_or]
  refine ⟨_, job2, hA, hg2, ?_⟩
  rcases hcase with ⟨m, job3, ev3, hm, hgt, rfl, ha3, rfl, _⟩ | ⟨hno, rfl, rfl, _⟩
  · obtain ⟨m3, _, hl3⟩ := abortTasks_spec ha3
    rw [hid2, map_snd_map_pair] at hl3
    rw [hid2]
    exact .inl ⟨m, hm, hgt, Killed.put (js := { js.putJob job2 with sent := removeAll js.sent (t :: cons) }) hA.wf hg2 m3 hl3⟩
  · exact .inr ⟨hno, rfl, rfl⟩

theorem taskFailed_ok {js : Job.State} {t : TaskId} {cons : List TaskId} (hwf : StateWF js)
    (hj : ∀ c ∈ cons, c.1 = t.1) (hnd : cons.Nodup) (ht : t ∉ cons)
    (hlc : ∀ c ∈ cons, live (tst js c) = true) (hlt : live (tst js t) = true) :
    ∃ r, js.taskFailed t cons = .ok r := by
  obtain ⟨st, hst, _⟩ := live_some hlt
  obtain ⟨job, hg, hl⟩ := getJob_of_tst (js := js) (t := t) (by rw [hst]; rfl)
  have hid := getJob_id hg
  have hw := getJob_wf hwf hg
  have hcj : ∀ p ∈ cons, p.1 = job.id := fun p hp => (hj p hp).trans hid.symm
  obtain ⟨r1, ha⟩ := abortTasks_ok (job := job) hcj (nodup_snd_of_same_fst hj hnd) (by
    intro p hp
    rw [← tst_of_getJob hg, ← hj p hp]; exact hlc p hp)
  obtain ⟨job1, ev1⟩ := r1
  obtain ⟨m1, _, hl1⟩ := abortTasks_spec ha
  have hw1 := hw.abortTasks ha
  have hlt1 : live (lookup job1.tasks t.2) = true := by
    have : (t.1, t.2) ∉ cons := ht
    simp only [hl1, mem_map_snd_iff hj, this, if_false, hl]; exact hlt
  obtain ⟨r2, hf⟩ := setFailed_ok hlt1
  obtain ⟨job2, ev2⟩ := r2
  have hw2 := hw1.setFailed hf
  simp only [Job.State.taskFailed, hg, ha, hf]
  split
  · split
    · obtain ⟨a, b, c⟩ := nonFinished_markable hw2 rfl
      obtain ⟨r3, ha3⟩ := abortTasks_ok a b c
      rw [ha3]; exact ⟨_, rfl⟩
    · exact ⟨_, rfl⟩
  · exact ⟨_, rfl⟩

theorem cancelJob_spec {js js' : Job.State} {j : Nat} {evs : List Ev} {resp : CancelResp} (hwf : StateWF js)
    (h : js.cancelJob j = .ok (js', evs, resp)) :
    ∃ ts, Killed js j .canceled (ts.map fun t => (j, t)) js' ∧
      ((resp = .invalidJob ∧ ts = []) ∨ ∃ n, resp = .canceled ts n) := by
  rcases cancelJob_eq_ok h with ⟨hn, e, _, rfl⟩ | ⟨job, hj, he', e, _, rfl⟩ | ⟨job, job', hj, _, hc, rfl, rfl⟩
  · subst e
    refine ⟨[], .none _ fun x hx => ?_, .inl ⟨rfl, rfl⟩⟩
    simp only [tst, tstJ]
    rw [hx, show findJob js'.jobs j = none from hn]; rfl
  · subst e
    refine ⟨[], .none _ fun x hx => ?_, .inr ⟨_, rfl⟩⟩
    have := not_congr (mem_nonFinished_iff (getJob_wf hwf hj).nodup x.2)
    rw [he', ← tst_of_getJob hj, ← hx] at this
    simpa using this
  · obtain ⟨m, _, hl⟩ := setCancel_spec hc
    rw [map_snd_map_pair] at hl
    exact ⟨_, .put hwf hj m hl, .inr ⟨_, rfl⟩⟩

theorem cancelJob_ok {js : Job.State} (hwf : StateWF js) (j : Nat) : ∃ r, js.cancelJob j = .ok r := by
  simp only [Job.State.cancelJob]
  split
  · exact ⟨_, rfl⟩
  · rename_i job hj
    have hid := getJob_id hj
    have hw := getJob_wf hwf hj
    split
    · exact ⟨_, rfl⟩
    · obtain ⟨a, b, c⟩ := nonFinished_markable hw hid
      obtain ⟨r, hr⟩ := setCancel_ok a b c
      rw [hr]; exact ⟨_, rfl⟩

end HqModel.Sys
