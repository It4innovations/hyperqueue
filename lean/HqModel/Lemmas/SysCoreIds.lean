import HqModel.Lemmas.SysCoreFrame
/-!
The exact effect of the removing functions of the core on the key set of the task map (`removeTask_exact`,
`removeTasksBatched_exact`, `cancelTasks_spec`), and `ConsJob` — registered consumers belong to the job of the task they
wait for — with what follows from it: the recursive consumers reported in an `error` callback are tasks of the failed
task's job (`recursiveConsumers_job`), a key that `on_cancel_tasks` removes belongs to the job of a named id.
-/
namespace HqModel.Core

theorem mem_ids_iff {ts : List Task} {t : TaskId} : t ∈ taskIds ts ↔ (findTask ts t).isSome = true := by
  constructor
  · intro h
    cases hf : findTask ts t with
    | none => exact absurd h (not_mem_of_findTask_none hf)
    | some x => rfl
  · intro h
    cases hf : findTask ts t with
    | none => rw [hf] at h; cases h
    | some x =>
      have := findTask_some_mem hf
      have hid := findTask_some_id hf
      exact List.mem_map.mpr ⟨x, this, hid⟩

theorem mem_ids_of_task? {s : State} {t : TaskId} {task : Task} (h : s.task? t = some task) : t ∈ taskIds s.tasks :=
  mem_ids_iff.mpr (by rw [show findTask s.tasks t = some task from h]; rfl)

theorem mem_ids_eraseTask {ts : List Task} (hn : (taskIds ts).Nodup) (id t : TaskId) :
    t ∈ taskIds (eraseTask ts id) ↔ t ∈ taskIds ts ∧ t ≠ id := by
  rw [mem_ids_iff, mem_ids_iff, findTask_eraseTask hn]
  by_cases h : t = id
  · simp [h]
  · simp [h]

theorem removeTask_ids {s s' : State} {id : TaskId} {st : TS} (h : s.removeTask id = .ok (s', st)) :
    taskIds s'.tasks = taskIds (eraseTask s.tasks id) ∧ ∃ task, s.task? id = some task ∧ st = task.state := by
  obtain ⟨task, ht, hst, -⟩ := removeTask_cases h
  refine ⟨?_, task, ht, hst⟩
  exact removeTask_ind (R := fun s s' => taskIds s'.tasks = taskIds (eraseTask s.tasks id)) h rfl
    (fun f hq => by obtain ⟨_, rfl⟩ := queueRemove_ok_iff.mp hq; exact f) fun f hc => (removeConsumers_ids _ _ _ _ hc).trans f

theorem removeTask_exact {s s' : State} {id : TaskId} {st : TS} (hn : (taskIds s.tasks).Nodup)
    (h : s.removeTask id = .ok (s', st)) :
    id ∈ taskIds s.tasks ∧ ∀ t, t ∈ taskIds s'.tasks ↔ t ∈ taskIds s.tasks ∧ t ≠ id := by
  obtain ⟨e, task, ht, _⟩ := removeTask_ids h
  exact ⟨mem_ids_of_task? ht, fun t => by rw [e]; exact mem_ids_eraseTask hn id t⟩

theorem removeTasksBatched_exact {l : List TaskId} {s s' : State} (hn : (taskIds s.tasks).Nodup)
    (h : s.removeTasksBatched l = .ok s') :
    l.Nodup ∧ (∀ t ∈ l, t ∈ taskIds s.tasks) ∧ ∀ t, t ∈ taskIds s'.tasks ↔ t ∈ taskIds s.tasks ∧ t ∉ l := by
  induction l generalizing s with
  | nil => simp only [State.removeTasksBatched] at h; cases h; simp
  | cons x rest ih =>
    obtain ⟨s1, st, h1, h⟩ := removeTasksBatched_cons_ok h
    obtain ⟨hx, he⟩ := removeTask_exact hn h1
    obtain ⟨a, b, c⟩ := ih ((removeTask_sub h1).nodup hn) h
    refine ⟨List.nodup_cons.mpr ⟨fun hm => ((he x).mp (b x hm)).2 rfl, a⟩, ?_, ?_⟩
    · intro t ht
      rcases List.mem_cons.mp ht with e | e
      · subst e; exact hx
      · exact ((he t).mp (b t e)).1
    · intro t
      rw [c t, he t]
      simp only [List.mem_cons, not_or]
      constructor
      · rintro ⟨⟨h1, h2⟩, h3⟩; exact ⟨h1, h2, h3⟩
      · rintro ⟨h1, h2, h3⟩; exact ⟨⟨h1, h2⟩, h3⟩

/-- every registered consumer of a task belongs to the task's job (`build_tasks_graph` only creates dependencies
inside one job) -/
def ConsJob (ts : List Task) : Prop := ∀ task ∈ ts, ∀ c ∈ task.consumers, c.1 = task.id.1

theorem ConsJob.of_desc {R : Task → Task → Prop} {ts ts' : List Task} (h : ConsJob ts)
    (f : ∀ t' ∈ ts', ∃ t ∈ ts, R t t') (hid : ∀ {t t'}, R t t' → t'.id = t.id)
    (hc : ∀ {t t'}, R t t' → ∀ c ∈ t'.consumers, c ∈ t.consumers) : ConsJob ts' := by
  intro t' ht' c hc'
  obtain ⟨t, ht, r⟩ := f t' ht'
  rw [hid r]
  exact h t ht c (hc r c hc')

theorem collectConsumers_job {ts : List Task} (hcj : ConsJob ts) {j fuel : Nat} {stack out res : List TaskId}
    (hs : ∀ c ∈ stack, c.1 = j) (ho : ∀ c ∈ out, c.1 = j)
    (h : collectConsumers ts fuel stack out = .ok res) : ∀ c ∈ res, c.1 = j := by
  induction fuel generalizing stack out with
  | zero => simp only [collectConsumers] at h; cases h; exact ho
  | succ n ih =>
    cases stack with
    | nil => simp only [collectConsumers] at h; cases h; exact ho
    | cons t rest =>
      simp only [collectConsumers] at h
      split at h
      · cases h
      · rename_i task ht
        have htj : t.1 = j := hs t (by simp)
        have hnew : ∀ c ∈ task.consumers, c.1 = j := by
          intro c hc
          have := hcj task (findTask_some_mem ht) c hc
          rw [findTask_some_id ht] at this
          exact this.trans htj
        apply ih _ _ h
        · intro c hc
          rcases List.mem_append.mp hc with e | e
          · exact hs c (by simp [e])
          · exact hnew c (List.mem_filter.mp e).1
        · intro c hc
          rcases List.mem_append.mp hc with e | e
          · exact ho c e
          · exact hnew c (List.mem_filter.mp (List.mem_eraseDups.mp e)).1

theorem recursiveConsumers_job {s : State} {id : TaskId} {task : Task} {cons : List TaskId} (hcj : ConsJob s.tasks)
    (ht : s.task? id = some task) (h : s.recursiveConsumers task = .ok cons) : ∀ c ∈ cons, c.1 = id.1 := by
  simp only [State.recursiveConsumers] at h
  have h0 : ∀ c ∈ task.consumers.eraseDups, c.1 = id.1 := by
    intro c hc
    have := hcj task (findTask_some_mem ht) c (List.mem_eraseDups.mp hc)
    rw [findTask_some_id ht] at this
    exact this
  exact collectConsumers_job hcj h0 h0 h

theorem cancelLoop_cons {s : State} {id : TaskId} {rest u : List TaskId} {r : List (Nat × List TaskId)}
    {res : State × List TaskId × List (Nat × List TaskId)} (h : s.cancelLoop (id :: rest) u r = .ok res) :
    (s.task? id = none ∧ s.cancelLoop rest u r = .ok res) ∨
    ∃ (task : Task) (cons : List TaskId) (s1 : State) (r1 : List (Nat × List TaskId)),
      s.task? id = some task ∧ s.recursiveConsumers task = .ok cons ∧ s1.tasks = s.tasks ∧
      s1.cancelLoop rest (unionTids (unionTids u [id]) cons) r1 = .ok res := by
  rcases cancelLoop_cons_ok h with h0 | ⟨task, cons, s1, r1, ht, hc, arm, h1⟩
  · exact .inl h0
  · obtain ⟨s0, rel, e⟩ := arm.release
    exact .inr ⟨task, cons, s1, r1, ht, hc, by rcases e with rfl | rfl <;> exact rel.tasks, h1⟩

/-- `u'` is the set `to_unregister` of `on_cancel_tasks` -/
theorem cancelLoop_unreg {ids : List TaskId} {s s' : State} {u u' : List TaskId}
    {r r' : List (Nat × List TaskId)} (hcj : ConsJob s.tasks)
    (h : s.cancelLoop ids u r = .ok (s', u', r')) :
    (∀ t ∈ u, t ∈ u') ∧ (∀ t ∈ ids, t ∈ taskIds s.tasks → t ∈ u') ∧
    (∀ t ∈ u', t ∈ u ∨ ∃ x ∈ ids, t.1 = x.1) := by
  induction ids generalizing s u r with
  | nil =>
    simp only [State.cancelLoop] at h
    cases h
    exact ⟨fun _ h => h, (fun _ h => nomatch h), fun t h => Or.inl h⟩
  | cons id rest ih =>
    rcases cancelLoop_cons h with ⟨hn, h1⟩ | ⟨task, cons, s1, r1, ht, hc, e1, h1⟩
    · obtain ⟨a, b, c⟩ := ih hcj h1
      refine ⟨a, ?_, ?_⟩
      · intro t ht hm
        rcases List.mem_cons.mp ht with e | e
        · subst e
          have := mem_ids_iff.mp hm
          rw [show findTask s.tasks t = none from hn] at this
          cases this
        · exact b t e hm
      · intro t ht
        rcases c t ht with e | ⟨x, hx, e⟩
        · exact .inl e
        · exact .inr ⟨x, List.mem_cons_of_mem _ hx, e⟩
    · obtain ⟨a, b, c⟩ := ih (by rw [e1]; exact hcj) h1
      have hjob := recursiveConsumers_job hcj ht hc
      refine ⟨?_, ?_, ?_⟩
      · intro t ht
        exact a t (mem_unionTids.mpr (.inl (mem_unionTids.mpr (.inl ht))))
      · intro t ht hm
        rcases List.mem_cons.mp ht with e | e
        · subst e
          exact a t (mem_unionTids.mpr (.inl (mem_unionTids.mpr (.inr (by simp)))))
        · exact b t e (by rw [e1]; exact hm)
      · intro t ht
        rcases c t ht with e | ⟨x, hx, e⟩
        · rcases mem_unionTids.mp e with e1 | e1
          · rcases mem_unionTids.mp e1 with e2 | e2
            · exact .inl e2
            · simp only [List.mem_singleton] at e2
              exact .inr ⟨id, by simp, by rw [e2]⟩
          · exact .inr ⟨id, by simp, hjob t e1⟩
        · exact .inr ⟨x, List.mem_cons_of_mem _ hx, e⟩

theorem cancelTasks_spec {s s' : State} {ids : List TaskId} {o : Out} (hn : (taskIds s.tasks).Nodup)
    (hcj : ConsJob s.tasks) (h : s.cancelTasks ids = .ok (s', o)) :
    o.cbs = [] ∧ (∀ t ∈ ids, t ∉ taskIds s'.tasks) ∧ (∀ t ∈ taskIds s'.tasks, t ∈ taskIds s.tasks) ∧
    (∀ t ∈ taskIds s.tasks, t ∉ taskIds s'.tasks → ∃ x ∈ ids, t.1 = x.1) := by
  obtain ⟨s1, unreg, running, h1, h2, rfl⟩ := cancelTasks_path h
  have e1 := cancelLoop_tasks _ _ _ _ _ _ _ h1
  obtain ⟨_, b, c⟩ := cancelLoop_unreg hcj h1
  obtain ⟨_, _, f⟩ := removeTasksBatched_exact (by rw [e1]; exact hn) h2
  refine ⟨rfl, ?_, ?_, ?_⟩
  · intro t ht hm
    have := (f t).mp hm
    exact this.2 (b t ht (by rw [← e1]; exact this.1))
  · intro t hm
    have := (f t).mp hm
    rw [e1] at this; exact this.1
  · intro t hm hnm
    have : t ∈ unreg := by
      apply Classical.byContradiction
      intro hu
      exact hnm ((f t).mpr ⟨by rw [e1]; exact hm, hu⟩)
    rcases c t this with e | e
    · cases e
    · exact e

end HqModel.Core
