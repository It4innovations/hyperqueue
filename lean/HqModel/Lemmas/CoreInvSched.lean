import HqModel.Lemmas.CoreInvSound
import HqModel.Lemmas.CoreOpsQueue
/-!
What one scheduling round (`create_task_mapping`, proactive filling) needs beside the moves of `CoreInvMoves`. A round is
the only place where a task leaves the Waiting state, and `Inv` says "registered consumers of a live task are Waiting" and
"RunningMultiNode ⇒ multi-node request": so the round assumes the queue / dependency half of the repo's sanity checks of
the state it starts from (`QueueOk`) and multi-node placements only for multi-node requests (`SolMnOk`). `Trk s0 s`
relates the state at the start of the round to a later one, so that `QueueOk s0` is read in `s` (`Trk.good`).
-/
namespace HqModel.Core

/-- `create_task_mapping`, Retracting arm with an earlier redirect: the reservation moves from the old target
to `w`, the redirect is replaced (order of the updates as in the code: insert on `w` first) -/
theorem LS3.mv_reredirect {ts ws rd} (h : LS3 ts ws rd) {t : TaskId} {old ov v : Nat}
    {wk1 wk1' wk2 wk2' : Worker}
    (hs : stOf ts t = some (.retracting old)) (hr : (t, wk2'.id, ov) ∈ rd)
    (hw1 : findWorker ws wk1'.id = some wk1) (hni : t ∉ wAsg wk1)
    (hA1 : wAsg wk1' = wAsg wk1 ++ [t]) (hP1 : wPre wk1' = wPre wk1) (hM1 : wMn wk1' = wMn wk1)
    (hw2 : findWorker (putWorker ws wk1') wk2'.id = some wk2)
    (hA2 : wAsg wk2' = (wAsg wk2).erase t) (hP2 : wPre wk2' = wPre wk2) (hM2 : wMn wk2' = wMn wk2) :
    LS3 ts (putWorker (putWorker ws wk1') wk2') (rd.filter (·.1 ≠ t) ++ [(t, wk1'.id, v)]) := by
  have c := h.at hs
  have nd1 := nodup_asgW_put_insert hw1 hA1 hni h.nda
  have m1 := mem_asgW_put_insert hw1 hA1
  have m2 := mem_asgW_put_erase hw2 hA2 (nd1 _)
  have p : ∀ x, preW (putWorker (putWorker ws wk1') wk2') x = preW ws x := fun x =>
    (preW_put_same hw2 hP2 x).trans (preW_put_same hw1 hP1 x)
  have q : ∀ x, mnW (putWorker (putWorker ws wk1') wk2') x = mnW ws x := fun x =>
    (mnW_put_same hw2 hM2 x).trans (mnW_put_same hw1 hM1 x)
  refine h.frame t (fun _ _ => rfl) ?_ (fun x u _ => by rw [p]) (fun x u _ => by rw [q]) ?_ ?_ ?_ ?_ ?_
    (rd_filter_append_nodup h.d2 t _ v) (nodup_asgW_put_erase hw2 hA2 nd1) (fun x => p x ▸ h.ndp x)
  · intro x u hu; simp only [m2, m1, hu, and_false, false_or, not_false_eq_true, and_true]
  · intro u x v' hu
    simp only [List.mem_append, rd_filter_mem, List.mem_singleton, Prod.mk.injEq, hu, false_and, or_false, ne_eq,
      not_false_eq_true, and_true]
  · -- the reservation is on `w`, where the new redirect points; at the old target it is erased
    intro x hx
    refine ⟨_, hs, ?_⟩
    rcases (m2 x t).mp hx with ⟨hx1, hne⟩
    rcases (m1 x t).mp hx1 with ⟨e, _⟩ | hx0
    · exact ⟨v, List.mem_append.mpr (Or.inr (by rw [e]; exact List.mem_singleton.mpr rfl))⟩
    · obtain ⟨v', hv'⟩ := c.a x hx0
      exact absurd ⟨(rd_unique h.d2 hv' hr).1, rfl⟩ hne
  · intro x hx; rw [p] at hx; exact nomatch c.p x hx
  · intro x hx; rw [q] at hx; exact (c.m x hx).elim fun _ e => nomatch e.1
  · exact fun _ _ _ => ⟨old, hs⟩

/-- the task `id` (if known) has request `i` and is not a registered consumer of any task in the map -/
def Good (s : State) (i : Nat) (id : TaskId) : Prop :=
  ∀ task, findTask s.tasks id = some task → task.rq = i ∧ ∀ d dt, findTask s.tasks d = some dt → id ∉ dt.consumers

/-- **the queue / dependency clause of the sanity checks** assumed of the state before a scheduling round: every
id in ready/prefill queue `i` that is a task of the map has request `i` and is not a registered consumer of a task in
the map (= it has no unfinished dependency); an id that is no task satisfies `Good` vacuously -/
def QueueOk (s : State) : Prop := ∀ (i : Nat) (q : Queue), s.queues[i]? = some q → ∀ id ∈ qIds q, Good s i id

/-- the relation between the state at the start of the round and a later state of the same round: requests and
consumer lists are the same, the queues only lose ids or move them inside the same queue -/
structure Trk (s0 s : State) : Prop where
  rqs : s.rqs = s0.rqs
  skel : ∀ id, (findTask s.tasks id).map (fun t => (t.rq, t.consumers)) =
    (findTask s0.tasks id).map (fun t => (t.rq, t.consumers))
  qsub : ∀ (i : Nat) (q : Queue), s.queues[i]? = some q → ∀ id ∈ qIds q, ∃ q0, s0.queues[i]? = some q0 ∧ id ∈ qIds q0

theorem Trk.refl (s : State) : Trk s s := ⟨rfl, fun _ => rfl, fun _ q hq _ hid => ⟨q, hq, hid⟩⟩
theorem Trk.trans {a b c : State} (h1 : Trk a b) (h2 : Trk b c) : Trk a c := by
  refine ⟨h2.rqs.trans h1.rqs, fun id => (h2.skel id).trans (h1.skel id), ?_⟩
  intro i q hq id hid
  obtain ⟨q1, hq1, hid1⟩ := h2.qsub i q hq id hid
  exact h1.qsub i q1 hq1 id hid1

theorem Trk.of_eq {s s' : State} (ht : s'.tasks = s.tasks) (hq : s'.queues = s.queues) (hr : s'.rqs = s.rqs) : Trk s s' :=
  ⟨hr, fun _ => by rw [ht], fun i q hq' id hid => ⟨q, by rw [← hq]; exact hq', hid⟩⟩

theorem Trk.of_put {s s' : State} {t' told : Task} (hf : findTask s.tasks t'.id = some told)
    (hq : t'.rq = told.rq) (hc : t'.consumers = told.consumers)
    (ht : s'.tasks = putTask s.tasks t') (hqq : s'.queues = s.queues) (hr : s'.rqs = s.rqs) : Trk s s' := by
  refine ⟨hr, ?_, fun i q hq' id hid => ⟨q, by rw [← hqq]; exact hq', hid⟩⟩
  intro id
  rw [ht, findTask_putTask]
  split
  · rename_i e; rw [e, hf]; simp [hq, hc]
  · rfl

theorem Trk.good {s0 s : State} (h : Trk s0 s) {i : Nat} {id : TaskId} (hg : Good s0 i id) : Good s i id := by
  intro task ht
  have h1 := h.skel id
  rw [ht] at h1
  cases h0 : findTask s0.tasks id with
  | none => rw [h0] at h1; cases h1
  | some task0 =>
    rw [h0] at h1
    simp only [Option.map_some, Option.some.injEq, Prod.mk.injEq] at h1
    obtain ⟨g1, g2⟩ := hg task0 h0
    refine ⟨h1.1.trans g1, ?_⟩
    intro d dt hd
    have h2 := h.skel d
    rw [hd] at h2
    cases hd0 : findTask s0.tasks d with
    | none => rw [hd0] at h2; cases h2
    | some dt0 =>
      rw [hd0] at h2
      simp only [Option.map_some, Option.some.injEq, Prod.mk.injEq] at h2
      rw [h2.2]; exact g2 d dt0 hd0

theorem takeFromFirst_sub (ready : List (Int × List TaskId)) (c : Nat) (id : TaskId) :
    (id ∈ rIds (takeFromFirst ready c).1 → id ∈ rIds ready) ∧ (id ∈ (takeFromFirst ready c).2 → id ∈ rIds ready) := by
  rw [NPD.takeFromFirst_ids ready c]
  exact ⟨List.mem_append_right _, List.mem_append_left _⟩

theorem takeFromQueue_sub (fuel : Nat) (ready : List (Int × List TaskId)) (count : Nat) (acc : List TaskId)
    (ready' : List (Int × List TaskId)) (res : List TaskId)
    (h : takeFromQueue fuel ready count acc = .ok (ready', res)) :
    (∀ id ∈ rIds ready', id ∈ rIds ready) ∧ (∀ id ∈ res, id ∈ acc ∨ id ∈ rIds ready) := by
  obtain ⟨tk, h1, h2, _⟩ := NPD.takeFromQueue_ids h
  rw [h1, h2]
  exact ⟨fun _ h => List.mem_append_right _ h, fun _ h => (List.mem_append.mp h).imp_right (List.mem_append_left _)⟩

theorem takeTasks_sub {q q' : Queue} {count : Nat} {taken : List TaskId} (h : q.takeTasks count taken = .ok q') :
    (∀ id ∈ qIds q', id ∈ qIds q) ∧ (∀ id ∈ taken, id ∈ qIds q) := by
  rcases takeTasks_cases h with ⟨hpre, ready', hq, rfl⟩ |
    ⟨pp, pset, ready1, res1, k, picks, ready', res3, hpre, hx, _, _, hpicks, _, _, hq, hres, rfl⟩
  · obtain ⟨a, b⟩ := takeFromQueue_sub _ _ _ _ _ _ hq
    simp only [qIds_eq, hpre, List.append_nil]
    exact ⟨a, fun id hid => (b id hid).resolve_left (fun h => nomatch h)⟩
  · -- first entry of the ready list, then the prefill set, then the ready list again
    have hx' : (∀ id ∈ rIds ready1, id ∈ rIds q.ready) ∧ (∀ id ∈ res1, id ∈ rIds q.ready) := by
      rcases hx with ⟨rfl, rfl⟩ | ⟨rfl, rfl⟩
      · exact ⟨fun id hid => (takeFromFirst_sub q.ready count id).1 hid,
          fun id hid => (takeFromFirst_sub q.ready count id).2 hid⟩
      · exact ⟨fun _ h => h, fun _ h => nomatch h⟩
    obtain ⟨a, b⟩ := takeFromQueue_sub _ _ _ _ _ _ hq
    simp only [qIds_eq, hpre, List.mem_append]
    constructor
    · rintro id (h1 | h1)
      · exact Or.inl (hx'.1 id (a id h1))
      · right
        split at h1
        · rename_i hh
          split at hh
          · cases hh
          · cases hh; exact (List.mem_filter.mp h1).1
        · cases h1
    · intro id hid
      rw [← hres] at hid
      rcases List.mem_append.mp hid with h1 | h1
      · rcases List.mem_append.mp h1 with h2 | h2
        · exact Or.inl (hx'.2 id h2)
        · exact Or.inr (hpicks id h2)
      · exact (b id h1).elim (fun h => nomatch h) (fun h2 => Or.inl (hx'.1 id h2))

theorem deal_sub (fuel : Nat) (counts : List (Nat × Nat)) (tasks : List TaskId) (acc : List (TaskId × Nat)) :
    ∀ p ∈ deal fuel counts tasks acc, p ∈ acc ∨ p.1 ∈ tasks := by
  obtain ⟨dealt, left, h1, h2, _⟩ := NPD.deal_spec fuel counts tasks acc
  rw [h1, h2]
  exact fun p hp => (List.mem_append.mp hp).imp_right fun h =>
    List.mem_append_left _ (List.mem_map_of_mem (f := (·.1)) h)

theorem Trk.of_queue_set {s : State} {i : Nat} {q q' : Queue} (hq : s.queues[i]? = some q)
    (hsub : ∀ id ∈ qIds q', id ∈ qIds q) : Trk s { s with queues := s.queues.set i q' } := by
  refine ⟨rfl, fun _ => rfl, ?_⟩
  intro j qj hj id hid
  simp only [List.getElem?_set] at hj
  split at hj
  · rename_i e
    subst e
    split at hj
    · cases hj; exact ⟨q, hq, hsub id hid⟩
    · cases hj
  · exact ⟨qj, hj, hid⟩

/-- the ids an entry takes from the queue of its request and deals to the workers are in that queue, and the queue
has only lost ids -/
theorem dealt_good {s0 s : State} (hq0 : QueueOk s0) (ht : Trk s0 s) {e : SnEntry} {q q' : Queue}
    (hq : s.queues[e.rq]? = some q) (htk : q.takeTasks (e.counts.map (·.2)).sum e.taken = .ok q') :
    Trk s0 { s with queues := s.queues.set e.rq q' } ∧
      ∀ p ∈ deal (e.taken.length + 1) e.counts e.taken [], Good s0 e.rq p.1 := by
  obtain ⟨a, b⟩ := takeTasks_sub htk
  refine ⟨ht.trans (Trk.of_queue_set hq a), fun p hp' => ?_⟩
  rcases deal_sub _ _ _ _ p hp' with h1 | h1
  · cases h1
  · obtain ⟨q0, hq0', hid0⟩ := ht.qsub e.rq q hq p.1 (b _ h1)
    exact hq0 e.rq q0 hq0' p.1 hid0

theorem setMnAll_spec (l : List Nat) (s s' : State) (id : TaskId) (first : Bool) (h : setMnAll s id l first = .ok s') :
    s'.tasks = s.tasks ∧ s'.redirects = s.redirects ∧ s'.rqs = s.rqs ∧ s'.queues = s.queues ∧
    (∀ x, asgW s'.workers x = asgW s.workers x) ∧ (∀ x, preW s'.workers x = preW s.workers x) ∧
    (∀ x, mnW s'.workers x = if x ∈ l then some id else mnW s.workers x) ∧ (∀ x ∈ l, mnW s.workers x = none) := by
  induction l generalizing s first with
  | nil =>
    cases h
    exact ⟨rfl, rfl, rfl, rfl, fun _ => rfl, fun _ => rfl, fun _ => by simp, fun _ hx => by cases hx⟩
  | cons w rest ih =>
    obtain ⟨s1, hw, h⟩ := setMnAll_cons_ok h
    obtain ⟨wk, wk', hfw, hf, rfl⟩ := withWorker_spec hw
    obtain ⟨⟨F, ha⟩, rfl⟩ := setMn_spec hf
    have hwid : wk.id = w := findWorker_some_id hfw
    have hfw' : findWorker s.workers ({ wk with assign := .mn id first false } : Worker).id = some wk := by
      simpa [hwid] using hfw
    obtain ⟨a, b, c, d, e, f, g, k⟩ := ih _ _ h
    have hA : ∀ x, asgW (putWorker s.workers { wk with assign := .mn id first false }) x = asgW s.workers x :=
      asgW_put_same hfw' (by simp [wAsg, ha])
    have hP : ∀ x, preW (putWorker s.workers { wk with assign := .mn id first false }) x = preW s.workers x :=
      preW_put_same hfw' (by simp [wPre, ha])
    have hM : ∀ x, mnW (putWorker s.workers { wk with assign := .mn id first false }) x =
        if x = w then some id else mnW s.workers x := by
      intro x; rw [mnW_put hfw']; simp [wMn, hwid]
    have hMw : mnW s.workers w = none := by rw [mnW_of_find hfw]; simp [wMn, ha]
    refine ⟨a, b, c, d, fun x => (e x).trans (hA x), fun x => (f x).trans (hP x), ?_, ?_⟩
    · intro x
      rw [g x]
      change (if x ∈ rest then some id else mnW (putWorker s.workers _) x) = _
      rw [hM x]
      by_cases h1 : x ∈ rest <;> by_cases h2 : x = w <;> simp [h1, h2]
    · intro x hx
      simp only [List.mem_cons] at hx
      rcases hx with rfl | hx
      · exact hMw
      · have := k x hx
        change mnW (putWorker s.workers _) x = none at this
        rw [hM x] at this
        split at this
        · cases this
        · exact this

theorem LS3.mv_mn_place {ts ws ws' rd} (h : LS3 ts ws rd) {t' told : Task} {l : List Nat}
    (ht : findTask ts t'.id = some told) (hf : Free3 ws rd t'.id) (hs' : t'.state = .runningMN l)
    (hA : ∀ x, asgW ws' x = asgW ws x) (hP : ∀ x, preW ws' x = preW ws x)
    (hM : ∀ x, mnW ws' x = if x ∈ l then some t'.id else mnW ws x) (hN : ∀ x ∈ l, mnW ws x = none) :
    LS3 (putTask ts t') ws' rd := by
  have hself : stOf (putTask ts t') t'.id = some (.runningMN l) := by rw [stOf_put ht, if_pos rfl, hs']
  refine h.frame t'.id (fun u hu => by rw [stOf_put ht, if_neg hu]) (fun x u _ => by rw [hA]) (fun x u _ => by rw [hP])
    ?_ (fun _ _ _ _ => Iff.rfl) ?_ ?_ ?_ ?_ h.d2 (fun x => hA x ▸ h.nda x) (fun x => hP x ▸ h.ndp x)
  · intro x u hu; rw [hM]; split
    · rename_i hx; rw [hN x hx]
      exact ⟨fun e => absurd (Option.some.inj e).symm hu, fun e => nomatch e⟩
    · exact Iff.rfl
  · intro x hx; rw [hA] at hx; exact absurd hx (hf.na x)
  · intro x hx; rw [hP] at hx; exact absurd hx (hf.np x)
  · intro x hx; rw [hM] at hx
    refine ⟨l, hself, ?_⟩
    split at hx
    · assumption
    · exact absurd hx (hf.nm x)
  · intro x v hx; exact absurd hx (hf.nr x v)

theorem readyAdd_sub (ready : List (Int × List TaskId)) (t : TaskId) (p : Int) (x : TaskId)
    (h : x ∈ rIds (readyAdd ready t p)) : x = t ∨ x ∈ rIds ready := by
  obtain ⟨q, hq⟩ := NP.mem_rIds_iff_pairs.mp h
  rcases NPC.mem_rPairs_readyAdd.mp hq with e | e
  · exact .inl (Prod.mk.inj e).2
  · exact .inr (NP.mem_rIds_iff_pairs.mpr ⟨q, e⟩)

theorem movePrefilledToReady_trk {s s' : State} {rq : Nat} {t : TaskId} (h : s.movePrefilledToReady rq t = .ok s') :
    Trk s s' := by
  obtain ⟨q, pp, ts, hq, hpre, htm, rfl⟩ := movePrefilledToReady_ok_iff.mp h
  refine Trk.of_queue_set hq ?_
  intro x hx
  rw [qIds_eq] at hx ⊢
  simp only [List.mem_append, hpre] at hx ⊢
  rcases hx with h1 | h1
  · rcases readyAdd_sub _ _ _ _ h1 with h2 | h2
    · subst h2; exact Or.inr htm
    · exact Or.inl h2
  · right
    split at h1
    · rename_i hh
      split at hh
      · cases hh
      · cases hh; exact List.mem_of_mem_erase h1
    · cases h1

theorem prefillBack_spec (rq : Nat) (l : List TaskId) (s s' : State) (keep keep' : List TaskId)
    (h : State.prefillWorker.back rq s l keep = .ok (s', keep')) :
    CoreEq s s' ∧ Trk s s' ∧ ∀ x ∈ keep', x ∈ keep ∨ x ∈ l := by
  -- every id kept or still to be visited is one of `keep` or `l`
  have key := prefillBack_ind
    (P := fun l1 s1 keep1 => CoreEq s s1 ∧ Trk s s1 ∧ ∀ x, x ∈ keep1 ∨ x ∈ l1 → x ∈ keep ∨ x ∈ l)
    (fun id rest _ _ _ _ _ hp _ _ hm =>
      ⟨hp.1.trans (movePrefilledToReady_core hm), hp.2.1.trans (movePrefilledToReady_trk hm),
        fun x hx => hp.2.2 x (hx.imp_right (List.mem_cons_of_mem _))⟩)
    (fun id rest _ _ _ hp _ _ =>
      ⟨hp.1, hp.2.1, fun x hx => hp.2.2 x (by
        rcases hx with h1 | h1
        · rcases List.mem_append.mp h1 with h2 | h2
          · exact Or.inl h2
          · exact Or.inr (by simp [List.mem_singleton.mp h2])
        · exact Or.inr (List.mem_cons_of_mem _ h1))⟩)
    ⟨CoreEq.refl _, Trk.refl _, fun _ hx => hx⟩ h
  exact ⟨key.1, key.2.1, fun x hx => key.2.2 x (Or.inl hx)⟩

/-- side condition of a `schedule` operation on the solution: multi-node placements only for multi-node requests -/
def SolMnOk (s : State) (sol : Solution) : Prop := ∀ e ∈ sol.mn, isMultiNodeRq s.rqs e.rq = true

instance (s : State) (sol : Solution) : Decidable (SolMnOk s sol) := by unfold SolMnOk; infer_instance

end HqModel.Core
