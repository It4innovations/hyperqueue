import HqModel.Lemmas.JournalCrash
/-! Preservation of `Inv` by every record of a producible journal (`recordOk`). -/
namespace HqModel.Journal

theorem completed_outcome_ne {s : TState} (h : s.isCompleted = true) : s.outcome ≠ .waiting := by
  cases s <;> simp_all [TState.isCompleted, TState.outcome]

theorem JobRel.running_entry {rj : RJob} {aj : AJob} (h : JobRel rj aj) {a : ATask} (ha : a ∈ aj.tasks)
    (hst : a.st = .waiting) (hi : a.inst.isSome = true) :
    ∃ ti sd, alGet rj.tasks a.id = some ti ∧ ti.state = .running sd := by
  have h1 := h.inst a ha
  have h2 := h.outcome a ha
  cases hget : alGet rj.tasks a.id with
  | none => rw [hget] at h1; simp [h1] at hi
  | some ti =>
    rcases h.shape _ ti hget with ⟨sd, hsd, _⟩ | hc
    · exact ⟨ti, sd, rfl, hsd⟩
    · rw [hget, hst] at h2
      exact absurd h2.symm (completed_outcome_ne hc)

theorem mem_ids {aj : AJob} {a : ATask} {t : Nat} (ha : a ∈ aj.tasks) (hid : a.id = t) : t ∈ aj.tasks.map (·.id) :=
  List.mem_map.2 ⟨a, ha, hid⟩

theorem completed_not_running {s : TState} (h : s.isCompleted = true) : ∀ sd, s ≠ .running sd := by
  intro sd e; subst e; cases h

theorem JR.setTask {conn : List Nat} {mw : Nat} {rj : RJob} {aj : AJob} (h : JR conn mw rj aj) {t : Nat}
    (hmem : t ∈ aj.tasks.map (·.id)) {f : ATask → ATask} {v : RTask} (hf : ∀ a, pairOf (f a) = pairOf a)
    (hv : ∀ a ∈ aj.tasks, a.id = t → TJ (f a) (some v) ∧ TC conn (f a) (some v)) (hj : OkJ v) (hc : OkC mw v) :
    JR conn mw { rj with tasks := alSet rj.tasks t v }
      { aj with tasks := aj.tasks.map fun a => if a.id = t then f a else a } :=
  ⟨h.1.setTask t hmem hf (fun a ha e => (hv a ha e).1) hj,
   h.2.setTask t (fun a => congrArg Prod.fst (hf a)) (fun a ha e => (hv a ha e).2) hc⟩

variable {R : Restorer} {A : AState}

theorem step_taskStarted (h : Inv R A) {j t i : Nat} {ws : List Nat}
    (hok : recordOk A (.taskStarted j t i ws) = true) :
    ∃ R', restorerStep R (.taskStarted j t i ws) = .ok R' ∧ Inv R' (meaningStep A (.taskStarted j t i ws)) := by
  simp only [recordOk, Bool.and_eq_true, List.all_eq_true, decide_eq_true_eq] at hok
  obtain ⟨aj, a, haj, hamem, haid, hp⟩ := taskIs_elim hok.1
  obtain ⟨rj, hrj, hr⟩ := h.getJob haj
  simp only [Bool.and_eq_true, beq_iff_eq] at hp
  refine ⟨_, by simp only [restorerStep, hrj]; rfl, ?_⟩
  simp only [meaningStep, updTask, haj]
  refine h.setJob j (hr.setTask (mem_ids hamem haid) (fun _ => rfl) (fun a0 ha0 hid0 => ?_) (Or.inl ⟨_, rfl, rfl⟩) ?_)
  · -- every task with id `t` has the state and instance of `a`: both are read off the same restorer entry
    have e1 : a0.st = a.st := by rw [hr.1.outcome a0 ha0, hr.1.outcome a hamem, hid0, haid]
    have e2 : a0.inst = a.inst := by rw [hr.1.inst a0 ha0, hr.1.inst a hamem, hid0, haid]
    refine ⟨⟨e1.trans hp.1, ?_⟩, (by show a0.crashes = _; rw [hr.2.crash a0 ha0, hid0]; rfl),
      fun ws' hws' => ⟨_, i, rfl, (by cases hws'; rfl)⟩, fun hn => nomatch hn⟩
    show some (max i (a0.inst.getD 0)) = some i
    rw [e2]
    cases hai : a.inst with
    | none => exact congrArg some (Nat.max_eq_left (Nat.zero_le i))
    | some i0 =>
      rw [hai] at hp
      exact congrArg some (Nat.max_eq_left (Nat.le_of_lt (of_decide_eq_true hp.2)))
  · intro sd root hsd hh
    cases hsd
    exact hok.2 root (List.mem_of_mem_head? hh)

/-- the step shared by `TaskFinished`, `TaskFailed` and one element of a `TasksCanceled` / `TasksAborted` batch -/
theorem JR.terminal {conn : List Nat} {mw : Nat} {rj : RJob} {aj : AJob} (h : JR conn mw rj aj) {t : Nat}
    (hmem : t ∈ aj.tasks.map (·.id)) {o : Outcome} {ti' : RTask} (ho : ti'.state.outcome = o)
    (hc : ti'.state.isCompleted = true) (hi : ti'.inst = (alGet rj.tasks t).bind (·.inst))
    (hcr : ti'.crash = ((alGet rj.tasks t).map (·.crash)).getD 0) :
    JR conn mw { rj with tasks := alSet rj.tasks t ti' }
      { aj with tasks := aj.tasks.map fun a => if a.id = t then { a with st := o, run := none } else a } :=
  h.setTask hmem (fun _ => rfl)
    (fun a0 ha0 hid0 => ⟨⟨ho.symm, (h.1.inst a0 ha0).trans (hid0 ▸ hi.symm)⟩, (h.2.crash a0 ha0).trans (hid0 ▸ hcr.symm),
      fun _ hws => (nomatch hws), fun _ _ sd _ e hsd => absurd (Option.some.inj e ▸ hsd) (completed_not_running hc sd)⟩)
    (Or.inr hc) fun sd _ hsd => absurd hsd (completed_not_running hc sd)

theorem step_taskFinished (h : Inv R A) {j t : Nat} (hok : recordOk A (.taskFinished j t) = true) :
    ∃ R', restorerStep R (.taskFinished j t) = .ok R' ∧ Inv R' (meaningStep A (.taskFinished j t)) := by
  obtain ⟨aj, a, haj, hamem, haid, hp⟩ := taskIs_elim hok
  obtain ⟨rj, hrj, hr⟩ := h.getJob haj
  simp only [Bool.and_eq_true, beq_iff_eq] at hp
  obtain ⟨ti, sd, hti, hsd⟩ := hr.1.running_entry hamem hp.1 hp.2
  rw [haid] at hti
  refine ⟨_, by simp only [restorerStep, hrj, hti, hsd]; rfl, ?_⟩
  simp only [meaningStep, setOutcome, updTask, haj]
  exact h.setJob j (hr.terminal (ti' := { ti with state := .finished sd }) (mem_ids hamem haid) rfl rfl
    (by rw [hti]; rfl) (by rw [hti]; rfl))

theorem step_taskFailed (h : Inv R A) {j t : Nat} (hok : recordOk A (.taskFailed j t) = true) :
    ∃ R', restorerStep R (.taskFailed j t) = .ok R' ∧ Inv R' (meaningStep A (.taskFailed j t)) := by
  obtain ⟨aj, a, haj, hamem, haid, hp⟩ := taskIs_elim hok
  obtain ⟨rj, hrj, hr⟩ := h.getJob haj
  simp only [beq_iff_eq] at hp
  simp only [meaningStep, setOutcome, updTask, haj]
  cases hti : alGet rj.tasks t with
  | none =>
    -- the task fails before its first start: `entry(..).or_insert_with(Waiting)` then `Failed { started_data: None }`
    refine ⟨_, by simp only [restorerStep, hrj, hti]; rfl, ?_⟩
    exact h.setJob j (hr.terminal (ti' := ⟨.failed none, none, 0⟩) (mem_ids hamem haid) rfl rfl
      (by rw [hti]; rfl) (by rw [hti]; rfl))
  | some ti =>
    have hout := hr.1.outcome a hamem
    rw [haid, hti, hp] at hout
    rcases hr.1.shape t ti hti with ⟨sd, hsd, _⟩ | hc
    · refine ⟨_, by simp only [restorerStep, hrj, hti, hsd]; rfl, ?_⟩
      exact h.setJob j (hr.terminal (ti' := { ti with state := .failed (some sd) }) (mem_ids hamem haid) rfl rfl
        (by rw [hti]; rfl) (by rw [hti]; rfl))
    · exact absurd hout.symm (completed_outcome_ne hc)

def TaskExists (A : AState) (id : Nat × Nat) : Prop :=
  ∀ aj, alGet A.jobs id.1 = some aj → id.2 ∈ aj.tasks.map (·.id)

theorem updTask_frame (A : AState) (j t : Nat) (f : ATask → ATask) :
    updTask A j t f = { A with jobs := (updTask A j t f).jobs } := by
  unfold updTask
  split <;> rfl

theorem setOutcome_frame (o : Outcome) (A : AState) (id : Nat × Nat) :
    setOutcome o A id = { A with jobs := (setOutcome o A id).jobs } :=
  updTask_frame ..

/-- A batch of outcomes writes the job table only. -/
theorem foldl_setOutcome_frame (o : Outcome) (ids : List (Nat × Nat)) : ∀ A : AState,
    ids.foldl (setOutcome o) A = { A with jobs := (ids.foldl (setOutcome o) A).jobs } := by
  induction ids with
  | nil => exact fun _ => rfl
  | cons p rest ih =>
    -- writing `jobs` over a state forgets what its `jobs` were
    exact fun A => (ih _).trans (congrArg
      (fun X : AState => { X with jobs := (rest.foldl (setOutcome o) (setOutcome o A p)).jobs }) (setOutcome_frame o A p))

theorem setOutcome_exists (o : Outcome) (A : AState) (id id' : Nat × Nat) (h : TaskExists A id') :
    TaskExists (setOutcome o A id) id' := by
  unfold setOutcome updTask
  cases hj : alGet A.jobs id.1 with
  | none => simpa using h
  | some aj =>
    simp only
    intro aj' haj'
    simp only [alGet_set] at haj'
    split at haj'
    · rename_i e
      cases haj'
      have := h aj (e ▸ hj)
      simp only [List.map_map]
      have hc : (fun a : ATask => (if a.id = id.2 then { a with st := o, run := none } else a).id) = fun a => a.id := by
        funext a; split <;> rfl
      simpa [Function.comp_def, hc] using this
    · exact h aj' haj'

theorem batch_one (conn : List Nat) (mw : Nat) {o : Outcome} {mk : Option Started → TState}
    (hmk : ∀ s, (mk s).outcome = o ∧ (mk s).isCompleted = true)
    {rjobs : List (Nat × RJob)} {A : AState} (h : AlRel (JR conn mw) rjobs A.jobs) (id : Nat × Nat)
    (he : TaskExists A id) : AlRel (JR conn mw) (batchStep (termTask mk) rjobs id) (setOutcome o A id).jobs := by
  unfold batchStep setOutcome updTask
  rcases h.get id.1 with ⟨h1, h2⟩ | ⟨rj, aj, h1, h2, hrel, hcr⟩
  · simp only [h1, h2]; exact h
  · simp only [h1, h2]
    obtain ⟨ti', s, e1, es, e4, e5⟩ := termTask_eq mk rj.tasks id.2
    rw [e1]
    exact h.set id.1 (JR.terminal ⟨hrel, hcr⟩ (he aj h2) (es ▸ (hmk s).1) (es ▸ (hmk s).2) e4 e5)

theorem batch_fold (conn : List Nat) (mw : Nat) {o : Outcome} {mk : Option Started → TState}
    (hmk : ∀ s, (mk s).outcome = o ∧ (mk s).isCompleted = true) :
    ∀ (ids : List (Nat × Nat)) (rjobs : List (Nat × RJob)) (A : AState), AlRel (JR conn mw) rjobs A.jobs →
      (∀ id ∈ ids, TaskExists A id) →
      AlRel (JR conn mw) (ids.foldl (batchStep (termTask mk)) rjobs) (ids.foldl (setOutcome o) A).jobs := by
  intro ids
  induction ids with
  | nil => exact fun _ _ h _ => h
  | cons id ids ih =>
    exact fun _ A h he => ih _ _ (batch_one conn mw hmk h id (he id List.mem_cons_self))
      fun id' hid' => setOutcome_exists o A id id' (he id' (List.mem_cons_of_mem _ hid'))

theorem taskIs_exists {A : AState} {id : Nat × Nat} {p : ATask → Bool} (h : taskIs A id p = true) : TaskExists A id := by
  obtain ⟨aj, a, haj, hamem, haid, _⟩ := taskIs_elim (j := id.1) (t := id.2) h
  intro aj' haj'
  rw [haj] at haj'; cases haj'
  exact mem_ids hamem haid

theorem step_batch (h : Inv R A) {o : Outcome} {mk : Option Started → TState}
    (hmk : ∀ s, (mk s).outcome = o ∧ (mk s).isCompleted = true) {ids : List (Nat × Nat)}
    (hok : (ids.all fun id => taskIs A id fun a => a.st == .waiting) = true) :
    Inv { R with jobs := ids.foldl (batchStep (termTask mk)) R.jobs } (ids.foldl (setOutcome o) A) := by
  rw [foldl_setOutcome_frame]
  exact ⟨batch_fold A.workers A.maxWorker hmk ids R.jobs A h.jobs
    fun id hid => taskIs_exists (List.all_eq_true.1 hok id hid), h.queues, h.maxJob, h.maxWorker, h.maxQueue, h.uid⟩

theorem specTasks_fresh {d : TaskDesc} {a : ATask} (h : a ∈ d.specTasks) :
    a.st = .waiting ∧ a.inst = none ∧ a.id ∈ d.ids ∧ a.crashes = 0 ∧ a.run = none := by
  cases d with
  | array ids e =>
    simp only [TaskDesc.specTasks, List.mem_map] at h
    obtain ⟨i, hi, rfl⟩ := h
    exact ⟨rfl, rfl, by simpa [TaskDesc.ids] using hi, rfl, rfl⟩
  | graph ts =>
    simp only [TaskDesc.specTasks, List.mem_map] at h
    obtain ⟨t, ht, rfl⟩ := h
    exact ⟨rfl, rfl, by simp only [TaskDesc.ids, List.mem_map]; exact ⟨t, ht, rfl⟩, rfl, rfl⟩

theorem submitOk_fresh {have_ : List Nat} {d : TaskDesc} (h : submitOk have_ d = true) :
    ∀ i ∈ d.ids, i ∉ have_ := by
  cases d with
  | array ids e =>
    simp only [submitOk, Bool.and_eq_true, List.all_eq_true] at h
    intro i hi
    have := h.1.1.2 i (by simpa [TaskDesc.ids] using hi)
    simpa using this
  | graph ts =>
    simp only [submitOk, Bool.and_eq_true, List.all_eq_true] at h
    intro i hi
    simp only [TaskDesc.ids, List.mem_map] at hi
    obtain ⟨t, ht, rfl⟩ := hi
    have := (h.1.1 t ht).1
    simpa using this

theorem submitOk_nodup {have_ : List Nat} {d : TaskDesc} (h : submitOk have_ d = true) : d.ids.Nodup := by
  cases d with
  | array ids e =>
    simp only [submitOk, Bool.and_eq_true, decide_eq_true_eq] at h
    exact h.1.2
  | graph ts =>
    simp only [submitOk, Bool.and_eq_true, decide_eq_true_eq] at h
    exact h.1.2

theorem submitsOk_append (h : List Nat) (l : List TaskDesc) (d : TaskDesc) :
    submitsOk h (l ++ [d]) = (submitsOk h l && submitOk (h ++ l.flatMap (·.ids)) d) := by
  induction l generalizing h with
  | nil => simp [submitsOk]
  | cons x xs ih =>
    simp only [List.cons_append, submitsOk, ih, List.flatMap_cons, List.append_assoc, Bool.and_assoc]

theorem JR.fresh (conn : List Nat) (mw : Nat) (mf : Option Nat) (op : Bool) {ds : List TaskDesc} {ts : List ATask}
    (ht : ts.map pairOf = ds.flatMap fun d => d.specTasks.map pairOf)
    (hf : ∀ a ∈ ts, a.st = .waiting ∧ a.inst = none ∧ a.crashes = 0 ∧ a.run = none)
    (hv : submitsOk [] ds = true) : JR conn mw ⟨mf, ds, [], op⟩ ⟨op, mf, ts, ds.length⟩ :=
  ⟨⟨rfl, rfl, ht, rfl, fun a ha => (hf a ha).1, fun a ha => (hf a ha).2.1, fun _ _ hti => (by cases hti),
      fun _ ht => (by cases ht), hv⟩,
    ⟨fun a ha => (hf a ha).2.2.1, fun a ha ws hr => (by rw [(hf a ha).2.2.2] at hr; cases hr),
      fun _ _ _ _ _ _ h1 => (by cases h1), fun _ _ _ _ h1 => (by cases h1)⟩⟩

theorem attach_none {rj : RJob} {aj : AJob} (h : JobRel rj aj) (d : TaskDesc)
    (hok : submitOk (aj.tasks.map (·.id)) d = true) : ∀ a ∈ d.specTasks, alGet rj.tasks a.id = none := by
  intro a ha
  cases hget : alGet rj.tasks a.id with
  | none => rfl
  | some ti => exact absurd (h.known a.id (by rw [hget]; rfl)) (submitOk_fresh hok a.id (specTasks_fresh ha).2.2.1)

theorem JobRel.attach {rj : RJob} {aj : AJob} (h : JobRel rj aj) (d : TaskDesc)
    (hok : submitOk (aj.tasks.map (·.id)) d = true) :
    JobRel { rj with submits := rj.submits ++ [d] }
      { aj with tasks := aj.tasks ++ d.specTasks, nSubmits := aj.nSubmits + 1 } := by
  have hp := h.pw.append fun a ha =>
    attach_none h d hok a ha ▸ (⟨(specTasks_fresh ha).1, (specTasks_fresh ha).2.1⟩ : TJ a none)
  refine ⟨h.isOpen, h.maxFails, ?_, ?_, fun a ha => (hp.1 a ha).st, fun a ha => (hp.1 a ha).inst, hp.2, ?_, ?_⟩
  · simp only [List.map_append, List.flatMap_append, h.tasks]; simp
  · simp [h.nSubmits]
  · intro t ht
    rw [List.map_append]
    exact List.mem_append_left _ (h.known t ht)
  · simp only [submitsOk_append, List.nil_append, Bool.and_eq_true]
    exact ⟨h.valid, by rw [← h.ids]; exact hok⟩

theorem TC.fresh {conn : List Nat} {a : ATask} (hc : a.crashes = 0) (hr : a.run = none) : TC conn a none :=
  ⟨hc, fun _ h => (nomatch hr.symm.trans h), fun _ _ _ _ e => (nomatch e)⟩

theorem CrashRel.attach {conn : List Nat} {mw : Nat} {rj : RJob} {aj : AJob} (h : CrashRel conn mw rj aj) (d : TaskDesc)
    (hnone : ∀ a ∈ d.specTasks, alGet rj.tasks a.id = none) :
    CrashRel conn mw { rj with submits := rj.submits ++ [d] }
      { aj with tasks := aj.tasks ++ d.specTasks, nSubmits := aj.nSubmits + 1 } :=
  crashRel_iff.2 ((crashRel_iff.1 h).append fun a ha =>
    hnone a ha ▸ TC.fresh (specTasks_fresh ha).2.2.2.1 (specTasks_fresh ha).2.2.2.2)

theorem step_submit (h : Inv R A) {j : Nat} {closed : Bool} {mf : Option Nat} {d : TaskDesc}
    (hok : recordOk A (.submit j closed mf d) = true) :
    ∃ R', restorerStep R (.submit j closed mf d) = .ok R' ∧ Inv R' (meaningStep A (.submit j closed mf d)) := by
  cases closed with
  | true =>
    simp only [recordOk, if_true, Bool.and_eq_true] at hok
    refine ⟨_, by simp only [restorerStep, if_true]; rfl, ?_⟩
    simp only [meaningStep, if_true, Restorer.addJob]
    exact ⟨h.jobs.set j (JR.fresh _ _ mf false (ds := [d]) (List.append_nil _).symm
        (fun a ha => ⟨(specTasks_fresh ha).1, (specTasks_fresh ha).2.1, (specTasks_fresh ha).2.2.2⟩)
        (by simp only [submitsOk, hok.2]; rfl)), h.queues, congrArg (max · j) h.maxJob, h.maxWorker, h.maxQueue, h.uid⟩
  | false =>
    simp only [recordOk, Bool.false_eq_true, if_false] at hok
    cases haj : alGet A.jobs j with
    | none => simp [haj] at hok
    | some aj =>
      simp only [haj, Bool.and_eq_true] at hok
      obtain ⟨rj, hrj, hrel, hcr⟩ := h.getJob haj
      refine ⟨_, by simp only [restorerStep, Bool.false_eq_true, if_false, hrj]; rfl, ?_⟩
      simp only [meaningStep, Bool.false_eq_true, if_false, haj]
      exact h.setJob j ⟨hrel.attach d hok.2, hcr.attach d (attach_none hrel d hok.2)⟩

theorem step_jobOpen (h : Inv R A) {j : Nat} {mf : Option Nat} :
    ∃ R', restorerStep R (.jobOpen j mf) = .ok R' ∧ Inv R' (meaningStep A (.jobOpen j mf)) := by
  refine ⟨_, rfl, ?_⟩
  simp only [meaningStep, Restorer.addJob]
  exact ⟨h.jobs.set j (JR.fresh _ _ mf true (ds := []) rfl (fun _ ha => nomatch ha) rfl), h.queues,
    congrArg (max · j) h.maxJob, h.maxWorker, h.maxQueue, h.uid⟩

theorem step_jobClose (h : Inv R A) {j : Nat} (hok : recordOk A (.jobClose j) = true) :
    ∃ R', restorerStep R (.jobClose j) = .ok R' ∧ Inv R' (meaningStep A (.jobClose j)) := by
  simp only [recordOk] at hok
  cases haj : alGet A.jobs j with
  | none => simp [haj] at hok
  | some aj =>
    obtain ⟨rj, hrj, hrel, hcr⟩ := h.getJob haj
    refine ⟨_, by simp only [restorerStep, hrj]; rfl, ?_⟩
    simp only [meaningStep, haj]
    -- only the first field reads `isOpen`, but the updated job is a new index: both relations are rebuilt from their fields
    exact h.setJob j ⟨⟨rfl, hrel.maxFails, hrel.tasks, hrel.nSubmits, hrel.outcome, hrel.inst, hrel.shape, hrel.known,
      hrel.valid⟩, ⟨hcr.crash, hcr.run1, hcr.run2, hcr.run3⟩⟩

theorem step_jobCancel (h : Inv R A) {j : Nat} (hok : recordOk A (.jobCancel j) = true) :
    ∃ R', restorerStep R (.jobCancel j) = .ok R' ∧ Inv R' (meaningStep A (.jobCancel j)) := by
  simp only [recordOk] at hok
  cases haj : alGet A.jobs j with
  | none => simp [haj] at hok
  | some aj =>
    obtain ⟨rj, hrj, _⟩ := h.getJob haj
    exact ⟨R, by simp only [restorerStep, hrj], h⟩

theorem step_workerLost (h : Inv R A) {w : Nat} {reason : LostReason} (hok : recordOk A (.workerLost w reason) = true) :
    ∃ R', restorerStep R (.workerLost w reason) = .ok R' ∧ Inv R' (meaningStep A (.workerLost w reason)) := by
  have hw : w ∈ A.workers := by simpa [recordOk] using hok
  simp only [restorerStep, meaningStep]
  cases hf : reason.isFailure with
  | true =>
    exact ⟨_, rfl, h.jobs.map (Q := JR (A.workers.filter (· != w)) A.maxWorker) _ _ fun rj _ hr =>
        ⟨(hr.1.workerLost w true).1, hr.2.workerLost w true hw (increaseCrash_get rj w)⟩,
      h.queues, h.maxJob, h.maxWorker, h.maxQueue, h.uid⟩
  | false =>
    -- the restorer does nothing: `bump w false` is the identity
    exact ⟨_, rfl, h.jobs.mapRight (Q := JR (A.workers.filter (· != w)) A.maxWorker) _ fun rj _ hr =>
        ⟨(hr.1.workerLost w false).2, hr.2.workerLost w false hw fun t => by cases alGet rj.tasks t <;> rfl⟩,
      h.queues, h.maxJob, h.maxWorker, h.maxQueue, h.uid⟩

theorem step_inv (h : Inv R A) (x : Record) (hok : recordOk A x = true) :
    ∃ R', restorerStep R x = .ok R' ∧ Inv R' (meaningStep A x) := by
  cases x with
  | serverStart uid =>
    refine ⟨_, rfl, ?_⟩
    simp only [meaningStep]
    exact ⟨h.jobs.imp (fun _ _ hr => ⟨hr.1, hr.2.mono (conn' := []) (fun x hx => by simp at hx) (Nat.le_refl _)⟩),
      h.queues, h.maxJob, h.maxWorker, h.maxQueue, rfl⟩
  | serverStop => exact ⟨_, rfl, h⟩
  | workerConnected w alloc =>
    have hw : A.maxWorker < w := by simpa [recordOk] using hok
    have hinv : ∀ qr, Inv { R with maxWorker := max R.maxWorker w, queueRes := qr }
        { A with maxWorker := max A.maxWorker w, workers := w :: A.workers } :=
      fun qr => ⟨h.jobs.imp (fun _ _ hr => ⟨hr.1, hr.2.connect hw⟩), h.queues, h.maxJob, congrArg (max · w) h.maxWorker,
        h.maxQueue, h.uid⟩
    simp only [restorerStep, meaningStep]
    cases alloc with
    | none => exact ⟨_, rfl, hinv _⟩
    | some a =>
      simp only
      cases alGet R.allocQueue a with
      | none => exact ⟨_, rfl, hinv _⟩
      | some q => exact ⟨_, rfl, hinv _⟩
  | workerLost w reason => exact step_workerLost h hok
  | workerOverview w => exact ⟨_, rfl, h⟩
  | submit j c mf d => exact step_submit h hok
  | jobOpen j mf => exact step_jobOpen h
  | jobClose j => exact step_jobClose h hok
  | jobCancel j => exact step_jobCancel h hok
  | jobCompleted j =>
    exact ⟨_, rfl, ⟨h.jobs.del j, h.queues, h.maxJob, h.maxWorker, h.maxQueue, h.uid⟩⟩
  | taskStarted j t i ws => exact step_taskStarted h hok
  | taskFinished j t => exact step_taskFinished h hok
  | taskFailed j t => exact step_taskFailed h hok
  | tasksCanceled ids =>
    exact ⟨_, rfl, step_batch h (mk := .canceled) (fun _ => ⟨rfl, rfl⟩) (Bool.and_eq_true_iff.1 hok).1⟩
  | tasksAborted ids =>
    exact ⟨_, rfl, step_batch h (mk := .aborted) (fun _ => ⟨rfl, rfl⟩) (Bool.and_eq_true_iff.1 hok).1⟩
  | queueCreated q =>
    simp only [recordOk, Option.isNone_iff_eq_none] at hok
    rw [← h.queues] at hok
    refine ⟨_, by simp only [restorerStep, hok]; rfl, ?_⟩
    exact ⟨h.jobs, congrArg (alSet · q ()) h.queues, h.maxJob, h.maxWorker, congrArg (max · q) h.maxQueue, h.uid⟩
  | queueRemoved q =>
    exact ⟨_, rfl, ⟨h.jobs, congrArg (alDel · q) h.queues, h.maxJob, h.maxWorker, h.maxQueue, h.uid⟩⟩
  | allocQueued q a => exact ⟨_, rfl, ⟨h.jobs, h.queues, h.maxJob, h.maxWorker, h.maxQueue, h.uid⟩⟩
  | allocStarted q a => exact ⟨_, rfl, h⟩
  | allocFinished q a => exact ⟨_, rfl, h⟩

theorem fold_inv : ∀ (J : List Record) (R : Restorer) (A : AState), Inv R A → producibleFrom A J = true →
    ∃ R', restorerFoldFrom R J = .ok R' ∧ Inv R' (J.foldl meaningStep A) := by
  intro J
  induction J with
  | nil => intro R A h _; exact ⟨R, rfl, h⟩
  | cons x xs ih =>
    intro R A h hp
    simp only [producibleFrom, Bool.and_eq_true] at hp
    obtain ⟨R1, h1, hinv1⟩ := step_inv h x hp.1
    obtain ⟨R2, h2, hinv2⟩ := ih R1 _ hinv1 hp.2
    exact ⟨R2, restorerFoldFrom_cons_ok.2 ⟨R1, h1, h2⟩, hinv2⟩

end HqModel.Journal
