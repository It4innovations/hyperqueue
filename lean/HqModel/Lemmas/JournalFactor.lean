import HqModel.Lemmas.JournalAL
/-!
`load_event_file` component by component. One record acts on the job table (`jobsStep`; a single-job record reads
and writes only the entry of its job, `jobStep`), on the allocation queues (`queuesStep`) and on the remaining
fields (`restStep`) independently: `restorerStep_eq`. At the end of the file: how a successful step, fold and `restore`
are taken apart (`restorerStep_ok`, `restorerFoldFrom_cons_ok`, `restorerFoldFrom_append`, `restore_ok_iff`).
-/
namespace HqModel.Journal

/-- the job id a record introduces (`Submit` of a new job, `JobOpen`) -/
def createsJob : Record → Option Nat
  | .submit j true _ _ => some j
  | .jobOpen j _ => some j
  | _ => none

def createsWorker : Record → Option Nat
  | .workerConnected w _ => some w
  | _ => none

def createsQueue : Record → Option Nat
  | .queueCreated q => some q
  | _ => none

def startOf : Record → Option String
  | .serverStart u => some u
  | _ => none

def jobOf : Record → Option Nat
  | .submit j _ _ _ | .jobOpen j _ | .jobClose j | .jobCancel j | .jobCompleted j
  | .taskStarted j _ _ _ | .taskFinished j _ | .taskFailed j _ => some j
  | _ => none

/-- the effect of a single-job record on the restorer entry of its job (`none` = no entry) -/
def jobStep : Record → Option RJob → Except Stop (Option RJob)
  | .submit _ closed mf d, o =>
    if closed then .ok (some ⟨mf, [d], [], false⟩)
    else match o with
      | some j => .ok (some { j with submits := j.submits ++ [d] })
      | none => .ok none
  | .jobOpen _ mf, _ => .ok (some ⟨mf, [], [], true⟩)
  | .jobClose _, o =>
    match o with
    | some j => .ok (some { j with isOpen := false })
    | none => .error (.panic .jobCloseUnwrap)
  | .jobCancel _, o =>
    match o with
    | some j => .ok (some j)
    | none => .error (.panic .jobCancelUnwrap)
  | .jobCompleted _, _ => .ok none
  | .taskStarted _ t i ws, o =>
    match o with
    | some j => .ok (some { j with tasks := alSet j.tasks t ⟨.running ⟨i, ws⟩, some i, ((alGet j.tasks t).map (·.crash)).getD 0⟩ })
    | none => .ok none
  | .taskFinished _ t, o =>
    match o with
    | some j =>
      match alGet j.tasks t with
      | none => .error (.panic .taskFinishedUnwrap)
      | some ti =>
        match ti.state with
        | .running sd => .ok (some { j with tasks := alSet j.tasks t { ti with state := .finished sd } })
        | _ => .error (.panic .taskFinishedState)
    | none => .ok none
  | .taskFailed _ t, o =>
    match o with
    | some j =>
      match alGet j.tasks t with
      | none => .ok (some { j with tasks := alSet j.tasks t ⟨.failed none, none, 0⟩ })
      | some ti =>
        match ti.state with
        | .waiting => .ok (some { j with tasks := alSet j.tasks t { ti with state := .failed none } })
        | .running sd => .ok (some { j with tasks := alSet j.tasks t { ti with state := .failed (some sd) } })
        | _ => .error (.panic .taskFailedState)
    | none => .ok none
  | _, o => .ok o

/-- `cancelTask` and `abortTask` with the target state (`Canceled` / `Aborted`, keeping the started data) as a
parameter; the proofs about a batch use `cancelTask = termTask .canceled` (likewise `abortTask`) as a definitional equality -/
def termTask (mk : Option Started → TState) (ts : List (Nat × RTask)) (t : Nat) : List (Nat × RTask) :=
  match alGet ts t with
  | some ti =>
    alSet ts t { ti with state := match ti.state with
      | .running sd => mk (some sd)
      | _ => mk none }
  | none => alSet ts t { state := mk none, inst := none, crash := 0 }

theorem cancelTask_eq_term : cancelTask = termTask .canceled := rfl
theorem abortTask_eq_term : abortTask = termTask .aborted := rfl

theorem termTask_eq (mk : Option Started → TState) (ts : List (Nat × RTask)) (t : Nat) :
    ∃ ti' s, termTask mk ts t = alSet ts t ti' ∧ ti'.state = mk s ∧
      ti'.inst = (alGet ts t).bind (·.inst) ∧ ti'.crash = ((alGet ts t).map (·.crash)).getD 0 := by
  unfold termTask
  cases alGet ts t with
  | none => exact ⟨_, _, rfl, rfl, rfl, rfl⟩
  | some ti => obtain ⟨st, i, c⟩ := ti; cases st <;> exact ⟨_, _, rfl, rfl, rfl, rfl⟩

/-- the crash bump of `increase_crash_counters` on one entry; `b`: the loss is a failure (`bump w false` is the identity) -/
def bump (w : Nat) (b : Bool) (t : RTask) : RTask :=
  if b then
    match t.state with
    | .running sd => if sd.workers.head? == some w then { t with crash := t.crash + 1 } else t
    | _ => t
  else t

theorem bump_state (w : Nat) (b : Bool) (t : RTask) : (bump w b t).state = t.state ∧ (bump w b t).inst = t.inst := by
  unfold bump
  split
  · split
    · split <;> simp
    · simp
  · simp

theorem increaseCrash_eq (rj : RJob) (w : Nat) :
    rj.increaseCrash w = { rj with tasks := alMap (bump w true) rj.tasks } := rfl

theorem increaseCrash_get (rj : RJob) (w : Nat) (t : Nat) :
    alGet (rj.increaseCrash w).tasks t = (alGet rj.tasks t).map (bump w true) := by
  rw [increaseCrash_eq]; exact alGet_map _ _ t

/-- a `TasksCanceled` / `TasksAborted` batch: the target state, the constructor, the task ids -/
def batchOf : Record → Option ((Option Started → TState) × (List (Nat × Nat) → Record) × List (Nat × Nat))
  | .tasksCanceled ids => some (.canceled, .tasksCanceled, ids)
  | .tasksAborted ids => some (.aborted, .tasksAborted, ids)
  | _ => none

def lostOf : Record → Option (Nat × LostReason)
  | .workerLost w reason => some (w, reason)
  | _ => none

/-- The effect of one record on the job table alone. A record touches the entry of one job (`jobOf`), the entries of
the tasks of a batch (`batchOf`), the crash counters of every job (`lostOf`), or nothing. -/
def jobsStep (jobs : List (Nat × RJob)) (x : Record) : Except Stop (List (Nat × RJob)) :=
  match jobOf x with
  | some j =>
    match jobStep x (alGet jobs j) with
    | .ok o1 => .ok (alPut jobs j o1)
    | .error e => .error e
  | none =>
    match batchOf x with
    | some (mk, _, ids) => .ok (ids.foldl (batchStep (termTask mk)) jobs)
    | none =>
      match lostOf x with
      | some (w, reason) => .ok (if reason.isFailure then alMap (·.increaseCrash w) jobs else jobs)
      | none => .ok jobs

theorem batchOf_con {x : Record} {mk : Option Started → TState} {con : List (Nat × Nat) → Record} {ids : List (Nat × Nat)}
    (h : batchOf x = some (mk, con, ids)) :
    x = con ids ∧ (∀ s sd, mk s ≠ .running sd) ∧
      ∀ ids', batchOf (con ids') = some (mk, con, ids') ∧ jobOf (con ids') = none ∧ lostOf (con ids') = none := by
  cases x <;> cases h <;> exact ⟨rfl, fun _ _ => TState.noConfusion, fun _ => ⟨rfl, rfl, rfl⟩⟩

theorem lostOf_eq {x : Record} {w : Nat} {reason : LostReason} (h : lostOf x = some (w, reason)) :
    x = .workerLost w reason := by
  cases x <;> cases h; rfl

theorem jobsStep_single {x : Record} {j : Nat} (hj : jobOf x = some j) (jobs : List (Nat × RJob)) :
    jobsStep jobs x = match jobStep x (alGet jobs j) with
      | .ok o1 => .ok (alPut jobs j o1)
      | .error e => .error e := by
  simp only [jobsStep, hj]

theorem jobsStep_single_ok {x : Record} {j : Nat} (hj : jobOf x = some j) {jobs jobs1 : List (Nat × RJob)}
    (hs : jobsStep jobs x = .ok jobs1) : ∃ o1, jobStep x (alGet jobs j) = .ok o1 ∧ jobs1 = alPut jobs j o1 := by
  rw [jobsStep_single hj] at hs
  cases e1 : jobStep x (alGet jobs j) with
  | error e => rw [e1] at hs; cases hs
  | ok o1 => rw [e1] at hs; cases hs; exact ⟨o1, rfl, rfl⟩

theorem jobsStep_batch {x : Record} {mk : Option Started → TState} {con : List (Nat × Nat) → Record}
    {ids : List (Nat × Nat)} (hb : batchOf x = some (mk, con, ids)) (jobs : List (Nat × RJob)) :
    jobsStep jobs x = .ok (ids.foldl (batchStep (termTask mk)) jobs) := by
  obtain ⟨rfl, _, hc⟩ := batchOf_con hb
  simp only [jobsStep, (hc _).1, (hc _).2.1]

theorem jobsStep_inert {x : Record} (hj : jobOf x = none) (hb : batchOf x = none) (hl : lostOf x = none)
    (jobs : List (Nat × RJob)) : jobsStep jobs x = .ok jobs := by
  simp only [jobsStep, hj, hb, hl]

theorem jobsStep_lost (w : Nat) (reason : LostReason) (jobs : List (Nat × RJob)) :
    jobsStep jobs (.workerLost w reason) =
      .ok (if reason.isFailure then alMap (·.increaseCrash w) jobs else jobs) := rfl

def queuesStep (qs : List (Nat × Unit)) : Record → Except Stop (List (Nat × Unit))
  | .queueCreated q =>
    match alGet qs q with
    | some _ => .error (.panic .queueCreatedAssert)
    | none => .ok (alSet qs q ())
  | .queueRemoved q => .ok (alDel qs q)
  | _ => .ok qs

/-- the effect of one record on the fields other than `jobs` and `queues`, field by field; it never fails -/
def restStep (r : Restorer) (x : Record) : Restorer :=
  { r with
    maxJob := (createsJob x).elim r.maxJob (max r.maxJob)
    maxWorker := (createsWorker x).elim r.maxWorker (max r.maxWorker)
    maxQueue := (createsQueue x).elim r.maxQueue (max r.maxQueue)
    uid := (startOf x).getD r.uid
    queueRes := match x with
      | .workerConnected _ (some a) =>
        match alGet r.allocQueue a with
        | some q => alSet r.queueRes q ()
        | none => r.queueRes
      | _ => r.queueRes
    allocQueue := match x with
      | .allocQueued q a => alSet r.allocQueue a q
      | _ => r.allocQueue }

theorem restorerStep_eq (r : Restorer) (x : Record) :
    restorerStep r x = (jobsStep r.jobs x).bind fun jobs =>
      (queuesStep r.queues x).map fun qs => { restStep r x with jobs := jobs, queues := qs } := by
  cases x
  case workerConnected w alloc =>
    simp only [restorerStep, restStep]
    cases alloc with
    | none => rfl
    | some a => simp only; cases alGet r.allocQueue a <;> rfl
  case workerLost w reason =>
    simp only [restorerStep, jobsStep, jobOf, batchOf, lostOf]
    cases reason.isFailure <;> rfl
  case submit j c mf d =>
    cases c with
    | true => rfl
    | false =>
      simp only [restorerStep, jobsStep, jobOf, jobStep, Bool.false_eq_true, if_false]
      cases h : alGet r.jobs j with
      | none => simp only [alPut_get h]; rfl
      | some rj => rfl
  case jobClose j =>
    simp only [restorerStep, jobsStep, jobOf, jobStep]
    cases h : alGet r.jobs j <;> rfl
  case jobCancel j =>
    simp only [restorerStep, jobsStep, jobOf, jobStep]
    cases h : alGet r.jobs j with
    | none => rfl
    | some rj => simp only [alPut_get h]; rfl
  case taskStarted j t i ws =>
    simp only [restorerStep, jobsStep, jobOf, jobStep]
    cases h : alGet r.jobs j with
    | none => simp only [alPut_get h]; rfl
    | some rj => rfl
  case taskFinished j t =>
    simp only [restorerStep, jobsStep, jobOf, jobStep]
    cases h : alGet r.jobs j with
    | none => simp only [alPut_get h]; rfl
    | some rj =>
      simp only
      cases alGet rj.tasks t with
      | none => rfl
      | some ti => simp only; cases ti.state <;> rfl
  case taskFailed j t =>
    simp only [restorerStep, jobsStep, jobOf, jobStep]
    cases h : alGet r.jobs j with
    | none => simp only [alPut_get h]; rfl
    | some rj =>
      simp only
      cases alGet rj.tasks t with
      | none => rfl
      | some ti => simp only; cases ti.state <;> rfl
  case queueCreated q =>
    simp only [restorerStep, jobsStep, jobOf, queuesStep]
    cases alGet r.queues q <;> rfl
  all_goals rfl

theorem restorerStep_ok {r r' : Restorer} {x : Record} (h : restorerStep r x = .ok r') :
    jobsStep r.jobs x = .ok r'.jobs ∧ queuesStep r.queues x = .ok r'.queues ∧
      r' = { restStep r x with jobs := r'.jobs, queues := r'.queues } := by
  rw [restorerStep_eq] at h
  cases hj : jobsStep r.jobs x with
  | error e => rw [hj] at h; cases h
  | ok jobs =>
    cases hq : queuesStep r.queues x with
    | error e => rw [hj, hq] at h; cases h
    | ok qs => rw [hj, hq] at h; cases h; exact ⟨rfl, rfl, rfl⟩

theorem restorerFoldFrom_cons_ok {r r' : Restorer} {x : Record} {xs : List Record} :
    restorerFoldFrom r (x :: xs) = .ok r' ↔ ∃ r1, restorerStep r x = .ok r1 ∧ restorerFoldFrom r1 xs = .ok r' := by
  simp only [restorerFoldFrom]
  cases restorerStep r x with
  | error e => exact ⟨fun h => (nomatch h), fun ⟨_, h, _⟩ => (nomatch h)⟩
  | ok r1 => exact ⟨fun h => ⟨r1, rfl, h⟩, fun ⟨_, h1, h2⟩ => by cases h1; exact h2⟩

theorem restorerFoldFrom_append (J K : List Record) (R : Restorer) :
    restorerFoldFrom R (J ++ K) = match restorerFoldFrom R J with
      | .ok R1 => restorerFoldFrom R1 K
      | .error e => .error e := by
  induction J generalizing R with
  | nil => rfl
  | cons x xs ih =>
    simp only [List.cons_append, restorerFoldFrom]
    cases restorerStep R x with
    | error e => rfl
    | ok R2 => exact ih R2

theorem restore_ok_iff {J : List Record} {R : Restorer} {X : Restored} :
    restore J = .ok (R, X) ↔ restorerFold J = .ok R ∧ restoreJobs R = .ok X := by
  unfold restore
  cases restorerFold J with
  | error e => simp
  | ok R0 =>
    cases hr : restoreJobs R0 with
    | error e =>
      simp only [hr, Except.ok.injEq, reduceCtorEq, false_iff, not_and]
      rintro rfl h2
      rw [hr] at h2
      cases h2
    | ok X0 =>
      simp only [hr, Except.ok.injEq, Prod.mk.injEq]
      constructor
      · rintro ⟨rfl, rfl⟩; exact ⟨rfl, hr⟩
      · rintro ⟨rfl, h2⟩; rw [hr] at h2; cases h2; exact ⟨rfl, rfl⟩

end HqModel.Journal
