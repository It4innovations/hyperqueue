import HqModel.Alloc.Run
import HqModel.Lemmas.AllocInv2
/-!
Both the pools (`PoolInv`) and the concise state (`CInv`) are functions of the held entries; hence the concise state
equals the summary of the pools up to zero-valued map entries (`CEquiv`) — the relation `ResourceAllocator::validate`
asserts in debug builds. Then: the full invariant holds in every reachable state (`reach_inv2`).
-/
namespace HqModel.Alloc

/-- equality of concise states as maps: same units, same free fraction for every index (absent = 0), i.e. equality
after `strip_zeros` -/
def CEquiv (c c' : CState) : Prop :=
  c.length = c'.length ∧ ∀ (g : Nat) (cg cg' : CGroup), c[g]? = some cg → c'[g]? = some cg' →
    cg.units = cg'.units ∧ ∀ i, fracOf cg.fracs i = fracOf cg'.fracs i

theorem group_summary {gs : List Group} {U : Nat → List Nat} {L : List AIdx} (h : PoolInv gs U L) {g : Nat}
    {grp : Group} (hg : gs[g]? = some grp) :
    grp.free.Perm ((U g).filter (fun i => heldBy L g i == 0)) ∧
      ∀ i, fracOf grp.fracs i = if heldBy L g i = 0 then 0 else FPU - heldBy L g i := by
  have hwf := h.wf g grp hg
  have hvals := h.vals g grp hg
  have hcons : ∀ i, FPU * grp.free.count i + fracOf grp.fracs i + heldBy L g i = FPU * (U g).count i := by
    intro i
    have := h.conserve g i
    rwa [freeAmt_of_get hg] at this
  have hcU : ∀ i, (U g).count i ≤ 1 := List.nodup_iff_count.mp (h.univ g)
  have hcF : ∀ i, grp.free.count i ≤ 1 := List.nodup_iff_count.mp hwf.1
  -- both counts are 0 or 1 and the fraction is below one unit, so the conservation equation decides each index
  have key : ∀ i, (grp.free.count i = 1 ↔ ((U g).count i = 1 ∧ heldBy L g i = 0)) ∧
      fracOf grp.fracs i = (if heldBy L g i = 0 then 0 else FPU - heldBy L g i) := by
    intro i
    have c1 := hcons i
    have c2 := hcU i
    have c3 := hcF i
    have c4 := hvals i
    have hz : grp.free.count i = 1 → fracOf grp.fracs i = 0 :=
      fun h1 => hwf.2 i (List.count_pos_iff.mp (by omega))
    clear hcons hcU hcF hvals
    unfold FPU at c1 c4 ⊢
    split <;> omega
  refine ⟨?_, fun i => (key i).2⟩
  apply (List.perm_ext_iff_of_nodup hwf.1 ((h.univ g).sublist List.filter_sublist)).mpr
  intro i
  have hk := (key i).1
  constructor
  · intro hi
    have h1 : grp.free.count i = 1 := by
      have := List.count_pos_iff.mpr hi
      have := hcF i
      omega
    obtain ⟨hU1, hh⟩ := hk.mp h1
    exact List.mem_filter.mpr ⟨List.count_pos_iff.mp (by omega), by simp [hh]⟩
  · intro hi
    obtain ⟨hiU, hh⟩ := List.mem_filter.mp hi
    have hU1 : (U g).count i = 1 := by
      have := List.count_pos_iff.mpr hiU
      have := hcU i
      omega
    have hh' : heldBy L g i = 0 := by simpa using hh
    have := hk.mpr ⟨hU1, hh'⟩
    exact List.count_pos_iff.mp (by omega)

theorem cinv_summ {c : CState} {gs : List Group} {U : Nat → List Nat} {L : List AIdx}
    (hc : CInv c gs.length U L) (hp : PoolInv gs U L) :
    CEquiv c (gs.map (fun g => ⟨g.free.length, g.fracs⟩)) := by
  refine ⟨by simp [hc.len], ?_⟩
  intro g cg cg' hcg hcg'
  simp only [List.getElem?_map] at hcg'
  cases hg : gs[g]? with
  | none => simp [hg] at hcg'
  | some grp =>
    simp only [hg, Option.map_some, Option.some.injEq] at hcg'
    subst hcg'
    obtain ⟨hperm, hfr⟩ := group_summary hp hg
    exact ⟨(hc.units g cg hcg).trans hperm.length_eq.symm, fun i => by rw [hc.fracs g cg hcg i, hfr i]⟩

theorem concise_eq_summary {U} {s : State} (hinv : Inv2 U s) (rid : Nat) (p : Pool) (c : CState)
    (hp : s.pools[rid]? = some p) (hc : s.concise[rid]? = some c) : CEquiv c p.conciseState := by
  have hpool := hinv.inv.pools.pool rid p hp
  cases p with
  | empty =>
    rcases hinv.concise.pc rid _ c hp hc with ⟨-, rfl⟩ | ⟨ht, -⟩ | ⟨ht, -⟩
    · exact ⟨rfl, fun g cg cg' h => by simp at h⟩
    · rcases ht with h | h <;> cases h
    · cases ht
  | indices full g => exact cinv_summ (gs := [g]) (hinv.concise.cinv hp hc (.inl rfl)) hpool
  | groups full gs => exact cinv_summ (hinv.concise.cinv hp hc (.inr rfl)) hpool
  | sum full free =>
    obtain ⟨cg, rfl, hu, hf, -⟩ := hinv.concise.sumCInv hp hc
    obtain ⟨cg', hcg', hu', hf', -⟩ := SumCInv.conciseState full free
    rw [hcg']
    refine ⟨rfl, fun g cg₁ cg₂ h₁ h₂ => ?_⟩
    cases g with
    | succ k => simp at h₁
    | zero =>
      obtain rfl := Option.some.inj h₁
      obtain rfl := Option.some.inj h₂
      exact ⟨hu.trans hu'.symm, fun i => (hf i).trans (hf' i).symm⟩

theorem CInv.vals {c : CState} {n : Nat} {U : Nat → List Nat} {L : List AIdx} (h : CInv c n U L) :
    ∀ g ∈ c, ∀ kv ∈ g.fracs, kv.2 < FPU := by
  intro g hg kv hkv
  obtain ⟨gi, hgi⟩ := List.getElem?_of_mem hg
  have h2 := h.fracs gi g hgi kv.1
  rw [fracOf_of_fget (fget_of_mem (h.nodup gi g hgi) hkv)] at h2
  rw [h2]
  have := FPU_pos
  split <;> omega

theorem concise_vals_lt {U} {s : State} (hinv : Inv2 U s) (rid : Nat) (p : Pool) (c : CState)
    (hp : s.pools[rid]? = some p) (hc : s.concise[rid]? = some c) : ∀ g ∈ c, ∀ kv ∈ g.fracs, kv.2 < FPU := by
  rcases hinv.concise.pc rid p c hp hc with ⟨-, rfl⟩ | ⟨-, hci⟩ | ⟨-, cg, rfl, -, hf, hnd⟩
  · nofun
  · exact hci.vals
  · intro g hg kv hkv
    obtain rfl := List.mem_singleton.mp hg
    have h2 := hf kv.1
    rw [fracOf_of_fget (fget_of_mem hnd hkv)] at h2
    rw [h2]
    split
    · exact Nat.mod_lt _ FPU_pos
    · exact FPU_pos

/-- pointwise link between the concise state of an index pool and its groups -/
structure GroupsLink (c : CState) (gs : List Group) : Prop where
  len : c.length = gs.length
  link : ∀ (p : Nat) (cg : CGroup), c[p]? = some cg → ∃ g : Group, gs[p]? = some g ∧
    cg.units = g.free.length ∧ ∀ i, fracOf cg.fracs i = fracOf g.fracs i
  nodup : ∀ (p : Nat) (cg : CGroup), c[p]? = some cg → KeysNodup cg.fracs
  vals : ∀ g ∈ c, ∀ kv ∈ g.fracs, kv.2 < FPU

theorem pool_link {U} {s : State} (hinv : Inv2 U s) {rid : Nat} {p : Pool} {c : CState}
    (hp : s.pools[rid]? = some p) (hc : s.concise[rid]? = some c) (ht : p.tag = 1 ∨ p.tag = 2) :
    GroupsLink c p.groupsOf := by
  have hci := hinv.concise.cinv hp hc ht
  have heq := cinv_summ hci (hinv.inv.pools.pool rid p hp)
  have hlen : c.length = p.groupsOf.length := hci.len
  refine ⟨hlen, fun q cg hcg => ?_, hci.nodup, hci.vals⟩
  obtain ⟨g, hg⟩ := exists_get (hlen ▸ lt_length_of_getElem? hcg : q < p.groupsOf.length)
  exact ⟨g, hg, heq.2 q cg ⟨g.free.length, g.fracs⟩ hcg (by simp [hg])⟩

theorem reach_inv2 {d : Descriptor} {s₀ s : State} (hinit : State.init d = some s₀) (hns : NoSingletonGroups s₀)
    (hreach : Reach s₀ s) : Inv2 (univOf s₀.pools) s := by
  obtain ⟨h0, hU⟩ := init_inv2 hinit hns
  refine hreach.rec_ops h0 isEnabled_inv2 (fun ih hr => tryAllocate_inv2 ih hU hr) (fun {s s' h} ih hr => ?_)
  obtain ⟨al, -, -, hg, -, -, -⟩ := release_some hr
  obtain ⟨s'', hrel, hinv''⟩ := release_inv2 ih hU hg
  obtain rfl : s'' = s' := Except.ok.inj (Option.some.inj (hrel.symm.trans hr))
  exact hinv''

end HqModel.Alloc
