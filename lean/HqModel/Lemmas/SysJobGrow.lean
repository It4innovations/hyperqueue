import HqModel.Lemmas.SysJobRequests
/-!
The job layer never hands a task id to the core twice — in `Sys` the hypothesis `NoIdReuse` of the core's progress theorem
(`Props/C09Core.lean`) is a theorem about M4. An id handed to the core stays `Known` for ever: its job id is below the
job counter and, while the job is stored, the task id is a key of its table. `JGrow`, kept by every operation
(`step_jgrow`): the counter only grows, a stored job keeps its id and its task keys until it is forgotten, a forgotten id
is never stored again. An accepted submit hands out unknown, pairwise distinct ids, known afterwards (`submit_fresh`:
`attach_submit` succeeded; a new job has id `jobCtr`).
-/
namespace HqModel.Sys.NPX
open HqModel HqModel.Job HqModel.Sys

/-- the id was handed out by the job layer and, as long as its job is stored, is a task of it -/
def Known (js : Job.State) (x : TaskId) : Prop :=
  x.1 < js.jobCtr ∧ ∀ job, js.getJob x.1 = some job → (lookup job.tasks x.2).isSome = true

/-- the job table only grows (or forgets whole jobs) -/
structure JGrow (js js' : Job.State) : Prop where
  ctr : js.jobCtr ≤ js'.jobCtr
  keep : ∀ j job', js'.getJob j = some job' → j < js.jobCtr →
    ∃ job, js.getJob j = some job ∧ ∀ t, (lookup job.tasks t).isSome = true → (lookup job'.tasks t).isSome = true

theorem JGrow.refl (js : Job.State) : JGrow js js := ⟨Nat.le_refl _, fun _ job' h _ => ⟨job', h, fun _ h => h⟩⟩

theorem JGrow.trans {a b c : Job.State} (h1 : JGrow a b) (h2 : JGrow b c) : JGrow a c := by
  refine ⟨Nat.le_trans h1.ctr h2.ctr, ?_⟩
  intro j job'' hj hlt
  obtain ⟨job', hj', hs'⟩ := h2.keep j job'' hj (Nat.lt_of_lt_of_le hlt h1.ctr)
  obtain ⟨job, hj0, hs⟩ := h1.keep j job' hj' hlt
  exact ⟨job, hj0, fun t ht => hs' t (hs t ht)⟩

theorem JGrow.known {js js' : Job.State} (h : JGrow js js') {x : TaskId} (hk : Known js x) : Known js' x := by
  refine ⟨Nat.lt_of_lt_of_le hk.1 h.ctr, ?_⟩
  intro job' hj'
  obtain ⟨job, hj, hs⟩ := h.keep x.1 job' hj' hk.1
  exact hs _ (hk.2 job hj)

theorem JGrow.of_eq {js js' : Job.State} (hj : js'.jobs = js.jobs) (hc : js'.jobCtr = js.jobCtr) : JGrow js js' := by
  refine ⟨by rw [hc]; exact Nat.le_refl _, ?_⟩
  intro j job' h _
  refine ⟨job', ?_, fun _ h => h⟩
  simp only [Job.State.getJob] at h ⊢
  rw [← hj]; exact h

theorem JGrow.putJob {js : Job.State} {job job' : Job} {j : Nat} (hj : js.getJob j = some job) (hid : job'.id = j)
    (hs : ∀ t, (lookup job.tasks t).isSome = true → (lookup job'.tasks t).isSome = true) :
    JGrow js (js.putJob job') := by
  refine ⟨Nat.le_refl _, ?_⟩
  intro J jobx hx _
  rw [getJob_putJob, hid] at hx
  by_cases hJ : J = j
  · subst hJ
    rw [if_pos rfl, hj] at hx
    simp only [Option.map_some, Option.some.injEq] at hx
    subst hx
    exact ⟨job, hj, hs⟩
  · rw [if_neg hJ] at hx
    exact ⟨jobx, hx, fun _ h => h⟩

theorem JGrow.addJob (js : Job.State) (job : Job) (hid : job.id = js.jobCtr) (l : List TaskId) :
    JGrow js { js with jobs := js.jobs ++ [job], jobCtr := js.jobCtr + 1, sent := l } := by
  refine ⟨Nat.le_succ _, ?_⟩
  intro j job' h hlt
  simp only [Job.State.getJob, findJob_append] at h
  cases hf : findJob js.jobs j with
  | some x =>
    rw [hf] at h
    simp only [Option.some.injEq] at h
    subst h
    exact ⟨x, hf, fun _ h => h⟩
  | none =>
    rw [hf] at h
    simp only at h
    split at h
    · rename_i e
      rw [hid] at e
      omega
    · cases h

theorem JGrow.forget (js : Job.State) (j : Nat) : JGrow js { js with jobs := js.jobs.filter (·.id != j) } := by
  refine ⟨Nat.le_refl _, ?_⟩
  intro J job' h _
  simp only [Job.State.getJob, findJob_filter] at h
  split at h
  · cases h
  · exact ⟨job', h, fun _ h => h⟩

theorem Puts.jgrow {jobs jobs' : List Job} {e : List Ev} (hp : Puts jobs jobs' e) (ctr : Nat) (ws : List Nat)
    (l : List TaskId) : JGrow ⟨jobs, ctr, ws, l⟩ ⟨jobs', ctr, ws, l⟩ := by
  induction hp with
  | nil _ => exact JGrow.refl _
  | cons hj hop _ ih => exact (JGrow.putJob (js := ⟨_, ctr, ws, l⟩) hj hop.id_eq (JobOp.keep hop)).trans ih

theorem step_jgrow {js js' : Job.State} {op : Job.Op} {evs : List Ev} (e : Job.step js op = .ok (js', evs)) :
    JGrow js js' := by
  cases step_shape e with
  | same hj hc _ => exact JGrow.of_eq hj hc
  | add o mf ids job ha hj hc _ _ => exact (JGrow.addJob js job (attach_id _ ha) js.sent).trans (JGrow.of_eq hj hc)
  | puts _ _ hp hc _ _ => exact (Puts.jgrow hp js.jobCtr js.workers js.sent).trans (JGrow.of_eq rfl hc)
  | forget j _ _ _ hjobs hc _ => exact (JGrow.forget js j).trans (JGrow.of_eq hjobs hc)

theorem run_jgrow : ∀ (ops : List Job.Op) {js js' : Job.State} {evs : List Ev}, Job.run js ops = .ok (js', evs) →
    JGrow js js'
  | [], js, js', evs, e => by simp only [Job.run] at e; cases e; exact JGrow.refl _
  | op :: ops, js, js', evs, e => by
    obtain ⟨s1, _, _, hs, hr, -⟩ := run_cons_eq_ok e
    exact (step_jgrow hs).trans (run_jgrow ops hr)

theorem coreIds_sub_jobIds (d : TaskDesc) : d.coreIds.Sublist d.jobIds := by
  cases d with
  | array ids entries =>
    cases entries with
    | none => exact List.Sublist.refl _
    | some n => exact List.take_sublist _ _
  | graph tasks => exact List.Sublist.refl _

theorem submit_fresh {js js' : Job.State} {jobId mf : Option Nat} {desc : TaskDesc} {evs : List Ev} {j : Nat}
    {core : List TaskId} (hwf : StateWF js) (h : js.submit jobId mf desc = .ok (js', evs, .ok j, core)) :
    core.Nodup ∧ (∀ x ∈ core, ¬ Known js x) ∧ ∀ x ∈ core, Known js' x := by
  have hmapnd : ∀ (J : Nat) (l : List Nat), l.Nodup → (l.map fun t => ((J, t) : TaskId)).Nodup := fun J l hl =>
    List.Pairwise.map _ (fun a b hab e => hab (Prod.mk.inj e).2) hl
  rcases submit_cases h with ⟨_, _, rfl, _⟩ | ⟨j', job, job', rfl, hj, _, _, _, ha, rfl, _, hr, rfl⟩ |
    ⟨job', rfl, _, ha, rfl, _, hr, rfl⟩
  · exact ⟨List.nodup_nil, fun _ hx => (by cases hx), fun _ hx => (by cases hx)⟩
  · -- into the open job `j`: the ids are new keys of its table
    cases hr
    obtain ⟨m, hnone, hl⟩ := attach_spec _ ha
    have hsub := coreIds_sub_jobIds (fillIdsOpen job desc)
    have hlt : j < js.jobCtr := getJob_id hj ▸ hwf.below job (findJob_some hj).1
    refine ⟨hmapnd _ _ ((attach_eq_ok _ ha).1.sublist hsub), fun x hx hk => ?_, fun x hx => ⟨?_, fun jobx hjx => ?_⟩⟩
    · obtain ⟨t, ht, rfl⟩ := List.mem_map.mp hx
      have := hk.2 job hj
      rw [hnone t (hsub.subset ht)] at this
      cases this
    · obtain ⟨t, ht, rfl⟩ := List.mem_map.mp hx
      exact hlt
    · obtain ⟨t, ht, rfl⟩ := List.mem_map.mp hx
      have hjx' : (js.putJob job').getJob j = some jobx := hjx
      rw [getJob_putJob, m.id, getJob_id hj, if_pos rfl, hj] at hjx'
      cases hjx'
      show (lookup job'.tasks t).isSome = true
      rw [hl t, if_pos (hsub.subset ht)]; rfl
  · -- a new job: its id is the counter
    cases hr
    obtain ⟨m, _, hl⟩ := attach_spec _ ha
    have hsub := coreIds_sub_jobIds (fillIdsNew desc)
    refine ⟨hmapnd _ _ ((attach_eq_ok _ ha).1.sublist hsub), fun x hx hk => ?_, fun x hx => ⟨?_, fun jobx hjx => ?_⟩⟩
    · obtain ⟨t, ht, rfl⟩ := List.mem_map.mp hx
      exact Nat.lt_irrefl _ hk.1
    · obtain ⟨t, ht, rfl⟩ := List.mem_map.mp hx
      exact Nat.lt_succ_self _
    · obtain ⟨t, ht, rfl⟩ := List.mem_map.mp hx
      have hgn : findJob js.jobs js.jobCtr = none := getJob_ctr_none hwf
      simp only [Job.State.getJob, findJob_append, hgn, m.id, if_true, Option.some.injEq] at hjx
      subst hjx
      show (lookup job'.tasks t).isSome = true
      rw [hl t, if_pos (hsub.subset ht)]; rfl

end HqModel.Sys.NPX
