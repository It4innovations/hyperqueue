import HqModel.Lemmas.CoreNoPanicFrameStep
import HqModel.Lemmas.CoreNoPanicRound
import HqModel.Lemmas.CoreNoPanicLoss
/-!
C09 progress: `CoreGood` is inductive (`coreGood_step`), one step does not panic under it (`step_ok_or_np`), and
`NP.run_gen` takes both to the runs that submit no id twice.
-/
namespace HqModel.Core

namespace NP

/-- `E` = what is shown of the stop of a step under the invariant `G` -/
theorem run_gen {G : List TaskId → State → Prop} {C : State → Op → Prop} {E : Stop → Prop}
    (hstep : ∀ U s op e, G U s → C s op → (∀ x ∈ op.newIds, x ∉ U) → op.newIds.Nodup → step s op = .error e → E e)
    (hinv : ∀ U s op s' out, G U s → C s op → (∀ x ∈ op.newIds, x ∉ U) → op.newIds.Nodup →
      step s op = .ok (s', out) → G (U ++ op.newIds) s') :
    ∀ (ops : List Op) (s : State) (U : List TaskId), G U s → (U ++ allNewIds ops).Nodup → RunOk C s ops →
      ∀ e, run s ops = .error e → E e
  | [], _, _, _, _, _ => nofun
  | op :: rest, s, U, hg, hnd, hok => by
    simp only [RunOk] at hok
    rw [allNewIds_cons, ← List.append_assoc] at hnd
    have hnd1 := List.nodup_append.mp (List.nodup_append.mp hnd).1
    have hfresh : ∀ x ∈ op.newIds, x ∉ U := fun x hx hu => hnd1.2.2 x hu x hx rfl
    cases hs : step s op with
    | error e =>
      simp only [run, hs]
      exact fun e' h => by cases h; exact hstep U s op e hg hok.1 hfresh hnd1.2.1 hs
    | ok r =>
      obtain ⟨s1, o1⟩ := r
      have hok2 := hok.2
      rw [hs] at hok2
      have ih := run_gen hstep hinv rest s1 _ (hinv U s op s1 o1 hg hok.1 hfresh hnd1.2.1 hs) hnd hok2
      simp only [run, hs]
      cases hr : run s1 rest with
      | error e => exact fun e' h => by cases h; exact ih e hr
      | ok r2 => exact nofun

end NP

/-- the invariant of the C09 progress theorems (`U` = ghost list of all task ids submitted so far) -/
def CoreGood (U : List TaskId) (s : State) : Prop := InvF s ∧ QInv U none [] s ∧ NpInv U [] s

theorem npInv_initState (reserve max : Nat) :
    NpInv [] [] ({ prefillReserve := reserve, prefillMax := max } : State) := by
  refine ⟨⟨?_, ?_⟩, ⟨rfl, ?_, ?_⟩, ⟨?_, ?_⟩, ⟨?_, ?_, ?_, ?_, ?_⟩, ⟨?_, ?_, ?_, ?_, ?_, ?_, ?_⟩⟩
  all_goals first
    | exact List.nodup_nil
    | (intro a ha; cases ha)
    | (intro a ha; simp at ha)

theorem npInv_init : NpInv [] [] {} := npInv_initState 1 1

theorem coreGood_init : CoreGood [] {} := ⟨invF_init, qinv_init, npInv_init⟩

theorem coreGood_step {U : List TaskId} {s s' : State} {op : Op} {out : Out} (hg : CoreGood U s)
    (hok : OpOk2q s op) (hnp : OpNP s op) (hex : OpExcl s op) (hfresh : ∀ x ∈ op.newIds, x ∉ U)
    (hnd : op.newIds.Nodup) (h : step s op = .ok (s', out)) : CoreGood (U ++ op.newIds) s' := by
  obtain ⟨hi, hq, hn⟩ := hg
  refine ⟨step_invF hi (hok.ok2 hq.queueOkD) h, step_q hq hi.inv hok.sol hfresh hnd h, ?_⟩
  refine ⟨NPA.step_npw hi hq hn hok hnp h, NPA.step_npidx hi hq hn hok hnp h, NPA.step_npmn hi hq hn hok hnp h,
    NPB.step_npdeps hi hq hn.deps hnp hfresh hnd h, ?_⟩
  by_cases hs : ∃ sol, op = .schedule sol
  · obtain ⟨sol, rfl⟩ := hs
    exact NPD.schedule_npq hn.q hi.inv.nd h
  · exact NPC.step_npq_reactor hi hn hok hnp (fun sol e => hs ⟨sol, e⟩) h

/-- the side conditions under which `CoreGood` is inductive and (with the progress lemmas) excludes a panic:
`OpOk2q` + the input conditions `OpNP` + the exclusion of the known finding F27 -/
def NpOk2 (s : State) (op : Op) : Prop := OpOk2q s op ∧ OpNP s op ∧ OpExcl s op

instance (s : State) (op : Op) : Decidable (NpOk2 s op) := by unfold NpOk2; infer_instance

theorem coreGood_run {ops : List Op} {s : State} {out : Out} (hok : RunOk NpOk2 {} ops) (hr : NoIdReuse ops)
    (h : run {} ops = .ok (s, out)) : CoreGood (allNewIds ops) s := by
  simpa using run_ind (I := fun U s _ => CoreGood U s) (C := NpOk2)
    (fun _ _ _ _ _ _ hg hc hf hn hs => coreGood_step hg hc.1 hc.2.1 hc.2.2 hf hn hs) ops (acc := {}) coreGood_init hok
    (by simpa [NoIdReuse] using hr) h

/-- a step succeeds, or it is one of the two operations with a `!…` outcome, which do not panic -/
theorem step_ok_or_np {U : List TaskId} {s : State} {op : Op} (hg : CoreGood U s) (hok : OpOk2q s op) (hnp : OpNP s op)
    (hex : OpExcl s op) (hfresh : ∀ x ∈ op.newIds, x ∉ U) (hnd : op.newIds.Nodup) :
    (∃ r, step s op = .ok r) ∨
    ((∃ sol, op = .schedule sol) ∨ ∃ w r f o rets, op = .removeWorker w r f o rets) ∧ NoCorePanic (step s op) := by
  obtain ⟨hi, hq, hn⟩ := hg
  have hb := NPR.Bd.of hi hq hn
  cases op with
  | newWorker w => exact .inl ⟨_, rfl⟩
  | removeWorker w reason f order rets =>
    exact .inr ⟨.inr ⟨_, _, _, _, _, rfl⟩, NPL.removeWorker_np hi hq hn hnp.1 hnp.2⟩
  | newRq rqv => exact .inl ⟨_, rfl⟩
  | newTasks nts =>
    exact .inl (NP.newTasks_ok hq hi.inv hi.tw hn.idx hn.q hnp (fun nt hnt => hfresh nt.id (List.mem_map_of_mem hnt)) hnd)
  | cancel ids => exact .inl (NPR.cancelTasks_ok hb hnp)
  | update w us rets => exact .inl (NPR.taskUpdate_ok hb hok hnp.1 hex hnp.2)
  | retracted w ids => exact .inl (NP.retractResponse_ok s w ids)
  | schedule sol => exact .inr ⟨.inl ⟨_, rfl⟩, NPS.schedule_np hi hq hn hok hnp⟩

theorem step_np {U : List TaskId} {s : State} {op : Op} (hg : CoreGood U s) (hok : OpOk2q s op)
    (hnp : OpNP s op) (hex : OpExcl s op) (hfresh : ∀ x ∈ op.newIds, x ∉ U) (hnd : op.newIds.Nodup) :
    NoCorePanic (step s op) :=
  (step_ok_or_np hg hok hnp hex hfresh hnd).elim .of_ok (·.2)

end HqModel.Core
