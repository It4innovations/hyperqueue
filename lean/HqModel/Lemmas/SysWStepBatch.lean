import HqModel.Lemmas.SysWPipeX
import HqModel.Lemmas.SysWUpdate
import HqModel.Lemmas.SysProj
import HqModel.Lemmas.SysStep
/-!
`WInv2` through the delivery of a `TaskUpdate` batch, update by update (`State.upd1`): the head of the worker's own stream
satisfies the worker-protocol side conditions `Sys.UpdOk` (`FinProto` for `finished`, `RejectOk` for `reject`) and
`Core.UpdNPw` BECAUSE of the pipeline invariants, and processing it re-establishes them with the rest of the batch at the
head of the queue (`upd1_step`, `batch_step`).
-/
namespace HqModel.SysW
open HqModel HqModel.Core HqModel.SysW.NPP

theorem finProto_of_hot {c : Core.State} {w : Nat} {t : TaskId} (h : view c w t = .hot) : Sys.FinProto c t := by
  unfold Sys.FinProto
  cases ht : c.task? t with
  | none => trivial
  | some task =>
    simp only
    unfold view at h
    rw [ht] at h
    simp only at h
    cases hs : task.state with
    | running x v => trivial
    | runningMN l =>
      cases l with
      | nil => rw [hs] at h; simp [viewSt] at h
      | cons root rest =>
        rw [hs] at h
        simp only [viewSt] at h
        by_cases hr : root = w
        · subst hr
          simp only [if_true] at h
          by_cases hm : mnStarted c root t = true
          · obtain ⟨wk, r, hw, ha⟩ := mnStarted_iff.mp hm
            simp only [hw, ha]
            exact ⟨trivial, trivial⟩
          · simp [hm] at h
        · simp [hr] at h
    | waiting n => rw [hs] at h; simp [viewSt] at h
    | finished => rw [hs] at h; simp [viewSt] at h
    | assigned x v => rw [hs] at h; simp only [viewSt] at h; split at h <;> cases h
    | prefilled x => rw [hs] at h; simp only [viewSt] at h; split at h <;> cases h
    | retracting x => rw [hs] at h; simp only [viewSt] at h; split at h <;> cases h

theorem rejectOk_of_view {c : Core.State} {w : Nat} {t : TaskId} {orv : Option Nat} (hq : view c w t ≠ .quiet)
    (ha : ∀ rv, view c w t = .asg rv → orv = some rv) : Core.RejectOk c w t orv := by
  intro task w' rv' ht hs
  have hv : view c w t = viewSt c w t (.assigned w' rv') := by
    unfold view; rw [ht]; simp only; rw [hs]
  by_cases hw : w' = w
  · subst hw
    have : view c w' t = .asg rv' := by rw [hv]; simp [viewSt]
    exact ⟨rfl, ha rv' this⟩
  · exact (hq (by rw [hv]; simp [viewSt, hw])).elim

/-- the record after one update: messages routed, the queue of the reporting worker replaced -/
def st1 (w : Nat) (q : List W2S) (msgs : List Core.Msg) (y : WState) : WState :=
  route1 { y with w2s := if y.id = w then q else y.w2s } msgs

theorem upd1_sub {c c1 : Core.State} {w : Nat} {u : Core.Update} {rets rets1 : List (List TaskId)} {o1 : Core.Out}
    (h : c.upd1 w u rets = .ok (c1, o1, rets1)) : IdsSub c c1 := by
  rcases upd1_cases h with ⟨_, _, _, h1, _⟩ | ⟨_, _, h1, _⟩ | ⟨_, _, _, h1, _⟩ | ⟨_, _, _, _, h1, _⟩ | ⟨_, _, _, h1, _, _⟩
  · exact taskFinished_sub h1
  · exact taskFailed_sub h1
  · exact (taskRunning_stable h1).sub
  · exact (taskReject_stable h1).sub
  · exact (IdsStable.of_tasks (requestEnabled_tasks h1)).sub

theorem pend_updates_cons (t : TaskId) (u : Core.Update) (rest : List Core.Update) (tl : List W2S) :
    pend t (.updates (u :: rest) :: tl) = evsOfUpd t u ++ pend t (.updates rest :: tl) := by
  simp [pend_cons, evsOfMsg, List.flatMap_cons]

theorem upd1_step {c : Core.State} {U : List TaskId} {ws : List WState} {w : Nat} {u : Core.Update}
    {rest : List Core.Update} {tl : List W2S} {rets : List (List TaskId)}
    (hi : InvF c) (hsub : ∀ t ∈ taskIds c.tasks, t ∈ U) (hall : ∀ y ∈ ws, Rec2 c U y)
    (hq : ∀ y ∈ ws, y.id = w → y.w2s = .updates (u :: rest) :: tl) (hex : ∃ x ∈ ws, x.id = w) :
    (Sys.UpdOk c w u ∧ Core.UpdNPw c w u) ∧
    ∀ c1 o1 rets1, c.upd1 w u rets = .ok (c1, o1, rets1) →
      InvF c1 ∧ (∀ t ∈ taskIds c1.tasks, t ∈ U) ∧
      ∀ y ∈ ws.map (st1 w (.updates rest :: tl) o1.msgs), Rec2 c1 U y := by
  obtain ⟨x, hx, hxid⟩ := hex
  have hxq := hq x hx hxid
  have head : ∀ t e, evsOfUpd t u = [e] →
      t ∈ U ∧ PipeOk (view c w t) (comps t x.s2w) (e :: pend t (.updates rest :: tl)) x.w (enc t) ∧
        PX (runsOn c w t) (view c w t) (comps t x.s2w) (e :: pend t (.updates rest :: tl)) x.w (enc t) := by
    intro t e he
    have hp : pend t x.w2s = e :: pend t (.updates rest :: tl) := by rw [hxq, pend_updates_cons, he]; rfl
    exact hxid ▸ ((hall x hx).pipe t).head hp
  have hquiet : ∀ t e, evsOfUpd t u = [e] → view c w t ≠ .quiet := fun t e he => (head t e he).2.1.head_ne_quiet
  have hok : Sys.UpdOk c w u := by
    cases u with
    | finished t0 => exact ⟨trivial, finProto_of_hot ((head t0 .fin (by simp [evsOfUpd])).2.1.head_fin)⟩
    | reject t0 orv =>
      obtain ⟨a, b⟩ := (head t0 (.rej orv) (by simp [evsOfUpd])).2.1.head_rej
      exact ⟨rejectOk_of_view a b, trivial⟩
    | failed t0 => exact ⟨trivial, trivial⟩
    | running t0 rv => exact ⟨trivial, trivial⟩
    | runningPrefilled t0 rv => exact ⟨trivial, trivial⟩
    | enable rq rv => exact ⟨trivial, trivial⟩
  refine ⟨⟨hok, updNPw_of_head (hxid ▸ (hall x hx).known) fun t e he => ⟨_, _, _, _, (head t e he).2⟩⟩,
    fun c1 o1 rets1 h => ?_⟩
  have hus := upd1_updateState h
  have hi1 : InvF c1 := ⟨updateState_inv hi.inv hok.proto hus, updateState_tw hi.tw hi.inv hok.proto hus⟩
  obtain ⟨v1, v2⟩ := upd1_pairs hi.inv.nd (MnOk.of_invF hi) (MnOk.of_invF hi1) hquiet h
  refine ⟨hi1, fun t ht => hsub t ((upd1_sub h).subset ht), fun y' hy' => ?_⟩
  obtain ⟨y, hy, rfl⟩ := List.mem_map.mp hy'
  refine ⟨upd1_worker_keep h y.id (hall y hy).known, fun t => ?_⟩
  -- the record without the update, when the update says nothing about `t` to this worker
  have drop : pend t (if y.id = w then W2S.updates rest :: tl else y.w2s) = pend t y.w2s →
      (y.id ≠ w ∨ evsOfUpd t u = []) → Pipe2 c1 U (st1 w (.updates rest :: tl) o1.msgs y) t := fun hpe hc =>
    (((hall y hy).pipe t).requeue hpe).srv (fun u hu => hu) (fun hne => hsub t (mem_ids_iff_stOf.mpr hne)) (v1 y.id t hc)
  by_cases hyw : y.id = w
  · have hyq := hq y hy hyw
    rcases evsOfUpd_cases t u with he | ⟨e, he⟩
    · exact drop (by simp only [hyw, if_true]; rw [hyq, pend_updates_cons, he]; rfl) (.inr he)
    · refine Pipe2.own (x := y) (e := e) ((hall y hy).pipe t) rfl rfl rfl ?_ (hyw ▸ v2 t e he)
      simp only [hyw, if_true]; rw [hyq, pend_updates_cons, he]; rfl
  · exact drop (by simp only [hyw, if_false]) (.inl hyw)

theorem st1_st1 (w : Nat) (q q' : List W2S) (m1 m2 : List Core.Msg) (y : WState) :
    st1 w q' m2 (st1 w q m1 y) = st1 w q' (m1 ++ m2) y := by
  simp only [st1, route1, List.filterMap_append, List.append_assoc]
  congr 1
  split <;> rfl

theorem st1_id (w : Nat) (q : List W2S) (m : List Core.Msg) (y : WState) : (st1 w q m y).id = y.id := rfl

/-- **a `TaskUpdate` batch**: every update satisfies `Sys.UpdOk` and `Core.UpdNPw` in the state in which the reactor
processes it, and after the loop the records satisfy the invariant with the batch removed from the queue and all
messages routed -/
theorem batch_step (w : Nat) (tl : List W2S) (U : List TaskId) : ∀ (us : List Core.Update) (c : Core.State)
    (ws : List WState) (rets : List (List TaskId)),
    InvF c → (∀ t ∈ taskIds c.tasks, t ∈ U) → (∀ y ∈ ws, Rec2 c U y) →
    (∀ y ∈ ws, y.id = w → y.w2s = .updates us :: tl) → (∃ x ∈ ws, x.id = w) →
    (Core.UpdatesOk Sys.UpdOk c w us rets ∧ Core.UpdatesOk Core.UpdNPw c w us rets) ∧
    ∀ out0 need0 c' out need' rets', c.updateLoop w us rets out0 need0 = .ok (c', out, need', rets') →
      ∃ msgs, out.msgs = out0.msgs ++ msgs ∧ (∀ t ∈ taskIds c'.tasks, t ∈ U) ∧
        ∀ y ∈ ws.map (st1 w tl msgs), Rec2 c' U y := by
  intro us
  induction us with
  | nil =>
    intro c ws rets hi hsub hall hq hex
    refine ⟨⟨trivial, trivial⟩, fun out0 need0 c' out need' rets' h => ?_⟩
    simp only [State.updateLoop] at h
    cases h
    refine ⟨[], by simp, hsub, fun y' hy' => ?_⟩
    obtain ⟨y, hy, rfl⟩ := List.mem_map.mp hy'
    refine ⟨(hall y hy).known, fun t => ?_⟩
    have hpe : pend t (if y.id = w then tl else y.w2s) = pend t y.w2s := by
      by_cases hyw : y.id = w
      · simp only [hyw, if_true]; rw [hq y hy hyw]; simp [pend_cons, evsOfMsg]
      · simp only [hyw, if_false]
    exact (((hall y hy).pipe t).requeue hpe).srv (fun u hu => hu) (fun hne => hsub t (mem_ids_iff_stOf.mpr hne)) (Fgn.same _ _ _)
  | cons u rest ih =>
    intro c ws rets hi hsub hall hq hex
    obtain ⟨hok, hstep⟩ := upd1_step (rets := rets) hi hsub hall hq hex
    have hq1 : ∀ m, ∀ y ∈ ws.map (st1 w (.updates rest :: tl) m), y.id = w → y.w2s = .updates rest :: tl := by
      intro m y' hy' hid
      obtain ⟨y, _, rfl⟩ := List.mem_map.mp hy'
      have : y.id = w := hid
      simp [st1, route1, this]
    have hex1 : ∀ m, ∃ x ∈ ws.map (st1 w (.updates rest :: tl) m), x.id = w := by
      intro m
      obtain ⟨x, hx, hxid⟩ := hex
      exact ⟨_, List.mem_map_of_mem hx, hxid⟩
    constructor
    · simp only [UpdatesOk]
      cases hus : c.updateState w u rets with
      | error e => exact ⟨⟨hok.1, trivial⟩, hok.2, trivial⟩
      | ok r =>
        obtain ⟨c1, rets1⟩ := r
        obtain ⟨o1, h1⟩ := updateState_upd1 hus
        obtain ⟨hi1, hsub1, hall1⟩ := hstep c1 o1 rets1 h1
        have := (ih c1 _ rets1 hi1 hsub1 hall1 (hq1 _) (hex1 _)).1
        exact ⟨⟨hok.1, this.1⟩, hok.2, this.2⟩
    · intro out0 need0 c' out need' rets' h
      obtain ⟨c1, o1, rets1, need1, h1, h2⟩ := updateLoop_cons_ok h
      obtain ⟨hi1, hsub1, hall1⟩ := hstep c1 o1 rets1 h1
      obtain ⟨msgs, e1, e2, e3⟩ := (ih c1 _ rets1 hi1 hsub1 hall1 (hq1 _) (hex1 _)).2 _ _ _ _ _ _ h2
      refine ⟨o1.msgs ++ msgs, by rw [e1, Core.add_msgs, List.append_assoc], e2, fun y' hy' => ?_⟩
      obtain ⟨y, hy, rfl⟩ := List.mem_map.mp hy'
      rw [← st1_st1 w (.updates rest :: tl) tl o1.msgs msgs y]
      exact e3 _ (List.mem_map_of_mem (List.mem_map_of_mem hy))

end HqModel.SysW
