import HqModel.Lemmas.CoreNoPanicUpdate
/-!
C09 progress for `on_remove_worker`, along `removeWorker_eq`; after every step the bundle is re-established from the
chain of acts. `WZ running s` is what `task_failed(worker = none)` asserts of the crash loop's list: it holds after part 1
and every later step keeps it.
-/

namespace HqModel.Core

namespace NP

/-- what the loop over the lost worker's prefilled tasks needs of one id: a task in the prefill set of its queue -/
def LostPre (s : State) (x : TaskId) : Prop :=
  ∃ t q pp ts, s.task? x = some t ∧ s.queues[t.rq]? = some q ∧ q.prefill = some (pp, ts) ∧ x ∈ ts

theorem lostPrefilled_ok : ∀ (l : List TaskId) (s : State), l.Nodup → (∀ x ∈ l, LostPre s x) →
    ∃ s', s.lostPrefilled l = .ok s'
  | [], s, _, _ => ⟨s, rfl⟩
  | id :: rest, s, hnd, h => by
    obtain ⟨t, q, pp, ts, ht, hq, hp, hm⟩ := h id List.mem_cons_self
    have hid : t.id = id := findTask_some_id ht
    obtain ⟨s2, h2⟩ := movePrefilledToReady_ok
      (s := s.setTask { t with inst := t.inst + 1, state := .waiting 0 }) (rq := t.rq) (t := id) hq hp hm
    simp only [State.lostPrefilled, getTask_ok ht, h2]
    apply lostPrefilled_ok rest s2 (List.nodup_cons.mp hnd).2
    intro x hx
    have hne : x ≠ id := fun e => (List.nodup_cons.mp hnd).1 (e ▸ hx)
    obtain ⟨tx, qx, ppx, tsx, htx, hqx, hpx, hmx⟩ := h x (List.mem_cons_of_mem _ hx)
    have htx2 : s2.task? x = some tx := by
      rw [task?_eq, movePrefilledToReady_tasks h2, ← task?_eq, task?_setTask_ne (by rw [hid]; exact hne)]
      exact htx
    by_cases hrq : tx.rq = t.rq
    · rw [hrq] at hqx
      obtain ⟨q2, a, b, c⟩ := movePrefilledToReady_prefill h2 hqx hpx hne hmx
      exact ⟨tx, q2, ppx, _, htx2, hrq ▸ a, b, c⟩
    · obtain ⟨_, _, _, _, _, _, rfl⟩ := movePrefilledToReady_ok_iff.mp h2
      refine ⟨tx, qx, ppx, tsx, htx2, ?_, hpx, hmx⟩
      show (s.queues.set t.rq _)[tx.rq]? = some qx
      rw [List.getElem?_set_ne (fun e => hrq e.symm)]
      exact hqx

/-- what the loop over the lost worker's assigned tasks needs of one id: a task whose request has a queue and, if it is
being retracted, a redirect (`on_remove_worker` asserts it) -/
def LostAsg (s : State) (x : TaskId) : Prop :=
  ∃ t, s.task? x = some t ∧ t.rq < s.queues.length ∧
    ((∃ w0, t.state = .retracting w0) → s.redirects.any (·.1 = x) = true)

theorem lostAssigned_ok : ∀ (l : List TaskId) (s : State) (running retracted : List TaskId), l.Nodup →
    (∀ x ∈ l, LostAsg s x) → ∃ r, s.lostAssigned l running retracted = .ok r
  | [], s, _, _, _, _ => ⟨_, rfl⟩
  | id :: rest, s, running, retracted, hnd, h => by
    obtain ⟨t, ht, hrq, hred⟩ := h id List.mem_cons_self
    have hid : t.id = id := findTask_some_id ht
    have hnd' := (List.nodup_cons.mp hnd).2
    have step : ∀ (s' : State) (t' : Task) (running' : List TaskId), s'.queues = s.queues → t'.rq = t.rq → t'.id = t.id →
        s'.tasks = s.tasks → (∀ x, x ≠ id → (s'.redirects.any (·.1 = x) = true ↔ s.redirects.any (·.1 = x) = true)) →
        ∃ r, (match (s'.setTask { t' with inst := t'.inst + 1 }).addReady { t' with inst := t'.inst + 1 } with
          | .error e => Except.error e
          | .ok (s2, r) => State.lostAssigned s2 rest running' (retracted ++ r)) = .ok r := by
      intro s' t' running' hqs hrq' hid' hts hrd
      have hlt : ({ t' with inst := t'.inst + 1 } : Task).rq < (s'.setTask { t' with inst := t'.inst + 1 }).queues.length := by
        show t'.rq < s'.queues.length
        rw [hrq', hqs]; exact hrq
      obtain ⟨⟨s2, r2⟩, ha⟩ := addReady_ok hlt
      simp only [ha]
      apply lostAssigned_ok rest s2 _ _ hnd'
      intro x hx
      have hne : x ≠ id := fun e => (List.nodup_cons.mp hnd).1 (e ▸ hx)
      obtain ⟨tx, htx, hrqx, hredx⟩ := h x (List.mem_cons_of_mem _ hx)
      refine ⟨tx, ?_, ?_, ?_⟩
      · rw [task?_eq, addReady_tasks ha, ← task?_eq, task?_setTask_ne (by rw [hid', hid]; exact hne), task?_eq, hts]
        exact htx
      · rw [addReady_qlen ha]
        show tx.rq < s'.queues.length
        rw [hqs]; exact hrqx
      · intro hr
        have := (addReady_core ha).r
        rw [this]
        exact (hrd x hne).mpr (hredx hr)
    simp only [State.lostAssigned, getTask_ok ht]
    split
    · exact step s { t with state := .waiting 0 } _ rfl rfl rfl rfl (fun _ _ => Iff.rfl)
    · rename_i w0 hs
      have hany := hred ⟨w0, hs⟩
      simp only [hany, Bool.not_true, Bool.false_eq_true, if_false]
      apply step { s with redirects := s.redirects.filter (·.1 ≠ id) } t running rfl rfl rfl rfl
      intro x hne
      simp only [List.any_eq_true, List.mem_filter, decide_eq_true_eq]
      constructor
      · rintro ⟨y, ⟨hy, _⟩, e⟩; exact ⟨y, hy, e⟩
      · rintro ⟨y, hy, e⟩; exact ⟨y, ⟨hy, by simpa [e] using hne⟩, e⟩
    · exact step s { t with state := .waiting 0 } _ rfl rfl rfl rfl (fun _ _ => Iff.rfl)

theorem lostRetracting_ok (w : Nat) : ∀ (l : List Task) (s : State) (out : Out), ∃ r, s.lostRetracting w l out = .ok r
  | [], s, out => ⟨_, rfl⟩
  | t0 :: rest, s, out => by
    simp only [State.lostRetracting]
    split
    · exact lostRetracting_ok w rest _ _
    · split
      · exact lostRetracting_ok w rest _ _
      · split <;> exact lostRetracting_ok w rest _ _

end NP

end HqModel.Core

namespace HqModel.Core.NPL

open HqModel.Core.NP HqModel.Core.NPR

/-- every id of the list that is (still) a task of the map is `Waiting 0` -/
def WZ (l : List TaskId) (s : State) : Prop := ∀ id ∈ l, ∀ t, s.task? id = some t → t.state = .waiting 0

section
variable {U : List TaskId} {s : State} {w : Nat} {wk : Worker}

/-- the state without the lost worker -/
abbrev drop (s : State) (w : Nat) : State := { s with workers := s.workers.filter (·.id ≠ w) }

/-- what `bdSide` is told of the lists of a worker record, from `Inv`: a task the record lists as assigned is held by the
worker (`LS3.a1`), so it is Assigned, Running or Retracting — not Prefilled, and without an unfinished dependency -/
theorem lost_bdSide (hi : Inv s) (hw : s.worker? w = some wk) :
    wk.assign.ids.Nodup ∧ ∀ A F P, wk.assign = .sn A F P →
      (∀ id ∈ P, ∀ task, s.task? id = some task → bdSide.lostP task.state) ∧
      ∀ id ∈ A, ∀ task, s.task? id = some task → bdSide.lostA task.state := by
  obtain ⟨hnd, -, h⟩ := NPC.lostSide_of hi hw
  refine ⟨hnd, fun A F P ha => ⟨(h A F P ha).1, fun id hid task ht => ⟨?_, (h A F P ha).2 id hid task ht⟩⟩⟩
  obtain ⟨st, h1, h2⟩ := hi.ls.a1 w id (by rw [asgW_of_find hw, wAsg, ha]; exact hid)
  rw [stOf_of_find ht] at h1
  cases h1
  cases hst : task.state <;> rw [hst] at h2 <;> first | rfl | exact h2.elim

theorem Bd.lossPart1 {order running retracted : List TaskId} {s1 : State} (hb : Bd U noD [] s)
    (hfw : findWorker s.workers w = some wk)
    (h : lossPart1 (drop s w) w wk.assign order = .ok (s1, running, retracted)) : Bd U noD retracted s1 :=
  have hl := lost_bdSide hb.inv hfw
  (lossPart1_acts (sd := bdSide) hfw h ⟨hl.1, trivial, hl.2⟩).bd hb

end

theorem WZ.nil (s : State) : WZ [] s := fun _ h => by cases h

theorem WZ.of_keeps {l : List TaskId} {s s' : State} (h : WZ l s)
    (hk : ∀ id t', s'.task? id = some t' → ∃ t, s.task? id = some t ∧ (t.state = .waiting 0 → t'.state = .waiting 0)) :
    WZ l s' := by
  intro id hid t' ht'
  obtain ⟨t, ht, hs⟩ := hk id t' ht'
  exact hs (h id hid t ht)

theorem lostAssigned_wz : ∀ (ids : List TaskId) (s s' : State) (ru ru' re re' : List TaskId), WZ ru s →
    s.lostAssigned ids ru re = .ok (s', ru', re') → WZ ru' s'
  | [], s, s', ru, ru', re, re', hw, h => by cases h; exact hw
  | id :: rest, s, s', ru, ru', re, re', hw, h => by
    obtain ⟨task, s0, t1, ru2, s2, r, ht, harm, hq, h'⟩ := lostAssigned_cons_ok h
    have hid : task.id = id := findTask_some_id ht
    -- the record is requeued as `Waiting 0` or (a Retracting one) as it is; only a `Waiting 0` one is reported
    have hk : s0.tasks = s.tasks ∧ t1.id = id ∧ (∀ x ∈ ru2, x ∈ ru ∨ (x = id ∧ t1.state = .waiting 0)) ∧
        (t1.state = .waiting 0 ∨ t1.state = task.state) := by
      cases harm with
      | running =>
        refine ⟨rfl, hid, fun x hx => ?_, .inl rfl⟩
        rcases List.mem_append.mp hx with h3 | h3
        · exact .inl h3
        · exact .inr ⟨List.mem_singleton.mp h3, rfl⟩
      | retracting => exact ⟨rfl, hid, fun x hx => .inl hx, .inr rfl⟩
      | other => exact ⟨rfl, hid, fun x hx => .inl hx, .inl rfl⟩
    obtain ⟨hs0, hid1, hru, hst⟩ := hk
    refine lostAssigned_wz rest s2 s' ru2 ru' _ re' ?_ h'
    intro x hx t hxt
    rw [task?_eq, addReady_tasks hq, ← task?_eq, task?_setTask] at hxt
    by_cases e : x = id
    · subst e
      rw [if_pos hid1.symm, task?_eq, hs0, ← task?_eq, ht] at hxt
      cases hxt
      rcases hst with h1 | h1
      · exact h1
      · rcases hru x hx with h2 | h2
        · exact h1.trans (hw x h2 task ht)
        · exact h2.2
    · rw [if_neg (hid1 ▸ e), task?_eq, hs0] at hxt
      rcases hru x hx with h2 | h2
      · exact hw x h2 t hxt
      · exact absurd h2.1 e

theorem lossPart1_wz {w : Nat} {s0 s1 : State} {a : Assign} {order running retracted : List TaskId}
    (h : lossPart1 s0 w a order = .ok (s1, running, retracted)) : WZ running s1 := by
  rcases lossPart1_cases h with ⟨A, F, P, s01, -, -, -, hla⟩ |
    ⟨tid, isRoot, started, task, root, others, -, ht, -, ⟨-, s01, hr, hq, rfl⟩ | ⟨-, -, rfl, -⟩⟩
  · exact lostAssigned_wz _ _ _ _ _ _ _ (WZ.nil _) hla
  · -- the one id that may be reported is the requeued task
    intro id hm t hxt
    obtain rfl : id = tid := by
      split at hm
      · exact List.mem_singleton.mp hm
      · cases hm
    rw [task?_eq, addReady_tasks hq, ← task?_eq, task?_setTask, if_pos (findTask_some_id ht).symm, task?_eq,
      resetMnAll_tasks _ _ _ hr, ← task?_eq, ht] at hxt
    cases hxt
    rfl
  · exact WZ.nil _

/-- `WZ` along an operation every record of which descends by rewrites that keep the id and `Waiting 0` -/
theorem WZ.of_desc {RT : Task → Task → Prop} {RW : Worker → Worker → Prop} {er : Prop} {l : List TaskId}
    {s s' : State} (h : WZ l s)
    (hr : ∀ {t t'}, RT t t' → t'.id = t.id ∧ (t.state = .waiting 0 → t'.state = .waiting 0))
    (hn : (taskIds s.tasks).Nodup) (d : Desc RT RW er s s') : WZ l s' := fun id hid _ ht' =>
  have ⟨t, ht, k⟩ := d.find_kept hr hn ht'
  k (h id hid t ht)

theorem lostRetracting_wz {w : Nat} {l : List Task} {s s' : State} {o o' : Out} {ru : List TaskId} (hw : WZ ru s)
    (hn : (taskIds s.tasks).Nodup) (h : s.lostRetracting w l o = .ok (s', o')) : WZ ru s' :=
  hw.of_desc (fun r => by
    cases r with
    | calm c => exact c.state_eq nofun nofun
    | back hl => exact hl.elim
    | bump hl => exact hl.elim
    | redirect _ _ hs => exact ⟨rfl, fun e => by rw [e] at hs; cases hs⟩
    | unretract hs => exact ⟨rfl, fun _ => rfl⟩
    | shrink hs => exact ⟨rfl, fun e => by rw [e] at hs; cases hs⟩
    | crash hf => exact hf.elim) hn
    (lostRetracting_desc (RW := fun _ _ => True) (fail := False) (L := fun _ => False) l h)

theorem retract_wz {l ru : List TaskId} {s s' : State} {o : Out} (hw : WZ ru s)
    (hn : (taskIds s.tasks).Nodup) (h : s.retract l = .ok (s', o)) : WZ ru s' :=
  hw.of_desc (fun c => c.state_eq nofun nofun) hn (retract_desc (er := False) h)

theorem lostPrefilled_rd : ∀ (l : List TaskId) (s s' : State), s.lostPrefilled l = .ok s' → s'.redirects = s.redirects
  | [], s, s', h => by cases h; rfl
  | id :: rest, s, s', h => by
    obtain ⟨task, s2, _, hm, h'⟩ := lostPrefilled_cons_ok h
    rw [lostPrefilled_rd rest s2 s' h', (movePrefilledToReady_core hm).r]
    rfl

section
variable {U : List TaskId} {s : State} {w : Nat} {wk : Worker}

/-- `!bad-choice order` is the refusal of a recorded iteration order that is not a permutation of the lost worker's
`assigned_tasks` -/
theorem lossPart1_np {order : List TaskId} (hb : Bd U noD [] s) (hfw : findWorker s.workers w = some wk) :
    NoCorePanic (lossPart1 (drop s w) w wk.assign order) := by
  have hinv := hb.inv
  cases ha : wk.assign with
  | sn A F P =>
    simp only [lossPart1]
    split
    · exact NoCorePanic.bang (by simp)
    · rename_i hperm
      have hperm' : (order.all A.contains && A.all order.contains && decide (order.length = A.length)) = true := by
        simpa only [Bool.not_eq_true', Bool.not_eq_false] using hperm
      have hP : preW s.workers w = P := by rw [preW_of_find hfw]; simp [wPre, ha]
      have hA : asgW s.workers w = A := by rw [asgW_of_find hfw]; simp [wAsg, ha]
      have hon : order.Nodup := order_nodup (hA ▸ hinv.ls.nda w) hperm'
      simp only [Bool.and_eq_true] at hperm'
      have hoA : ∀ x ∈ order, x ∈ A := mem_of_all_contains hperm'.1.1
      obtain ⟨s01, hlp⟩ := lostPrefilled_ok P (drop s w) (hP ▸ hinv.ls.ndp w) (by
        intro x hx
        obtain ⟨task, hf, hs⟩ := stOf_some (hinv.ls.a2 w x (by rw [hP]; exact hx))
        obtain ⟨q, pp, ts, hq, hp, hm⟩ :=
          (hb.nq.pin task (findTask_some_mem hf) ⟨w, hs⟩ (by simp) (fun e => e)).elim
        exact ⟨task, q, pp, ts, hf, hq, hp, findTask_some_id hf ▸ hm⟩)
      obtain ⟨⟨s1, running, retracted⟩, hp1⟩ := lostAssigned_ok order s01 [] [] hon (by
        intro x hx
        obtain ⟨st, h1, h2⟩ := hinv.ls.a1 w x (by rw [hA]; exact hoA x hx)
        obtain ⟨task, hf, hs⟩ := stOf_some h1
        have hxP : x ∉ P := by
          intro hxP
          have := hinv.ls.a2 w x (by rw [hP]; exact hxP)
          rw [h1] at this
          simp only [Option.some.injEq] at this
          rw [this] at h2
          exact h2
        refine ⟨task, (lostPrefilled_task?_ne P hlp x hxP).trans hf, ?_, ?_⟩
        · rw [(NPA.lostPrefilled_fr (all := True) _ _ _ hlp).ql]
          show task.rq < s.queues.length
          rw [hb.idx.ql]; exact hb.idx.rq task (findTask_some_mem hf)
        · rintro ⟨w0, hw0⟩
          rw [← hs, hw0] at h2
          obtain ⟨v, hv⟩ := h2
          rw [lostPrefilled_rd P _ _ hlp]
          exact List.any_eq_true.mpr ⟨(x, w, v), hv, by simp⟩)
      simp only [hlp, hp1]
      exact .ok _
  | mn tid root started =>
    have hM : mnW s.workers w = some tid := by rw [mnW_of_find hfw]; simp [wMn, ha]
    obtain ⟨l, h1, h2⟩ := hinv.ls.m1 w tid hM
    obtain ⟨task, ht, hs⟩ := stOf_some h1
    have hg : (drop s w).getTask tid = .ok task := NP.getTask_ok (s := drop s w) ht
    simp only [lossPart1, hg, hs]
    cases l with
    | nil => cases h2
    | cons rootw others =>
      simp only
      split
      · rename_i hroot
        have hnd := (hb.mn.ne task (findTask_some_mem ht) _ hs).2
        obtain ⟨s01, hr⟩ := resetMnAll_ok others (drop s w) (by
          intro x hx
          have hm := hb.tw.tw.t3 tid (rootw :: others) (fun e => e) h1 x (List.mem_cons_of_mem _ hx)
          obtain ⟨wkx, _, _, hfx, _⟩ := mnW_elim hm
          have hne : x ≠ w := by
            intro e
            rw [← hroot] at e
            exact (List.nodup_cons.mp hnd).1 (e ▸ hx)
          show (findWorker (s.workers.filter (·.id ≠ w)) x).isSome = true
          rw [findWorker_filter, if_neg hne, hfx]; rfl)
        have hlt : task.rq < s01.queues.length := by
          rw [resetMnAll_queues _ _ _ hr]
          show task.rq < s.queues.length
          rw [hb.idx.ql]; exact hb.idx.rq task (findTask_some_mem ht)
        obtain ⟨⟨s3, r3⟩, har⟩ := addReady_ok (s := s01.setTask { task with state := .waiting 0, inst := task.inst + 1 })
          (t := { task with state := .waiting 0, inst := task.inst + 1 }) hlt
        simp only [hr, har]
        exact .ok _
      · exact .ok _

theorem Bd.lostRetracting {R : List TaskId} {s s' : State} {l : List Task} {o o' : Out} (hb : Bd U noD R s)
    (h : s.lostRetracting w l o = .ok (s', o')) : Bd U noD R s' :=
  (lostRetracting_acts l h).bd hb

theorem lossMid_ok {running retracted : List TaskId} {s1 : State} (w : Nat) (hb1 : Bd U noD retracted s1)
    (hz : WZ running s1) :
    ∃ s2 out1 s3 out2, s1.lostRetracting w s1.tasks {} = .ok (s2, out1) ∧ s2.retract retracted = .ok (s3, out2) ∧
      Bd U noD [] s3 ∧ WZ running s3 := by
  obtain ⟨⟨s2, out1⟩, h2⟩ := lostRetracting_ok w s1.tasks s1 {}
  have hb2 := Bd.lostRetracting hb1 h2
  obtain ⟨⟨s3, out2⟩, h3⟩ := retract_ok hb2.nq.rnd (retrReady_of hb2.tw hb2.nq (fun _ _ e => e))
  exact ⟨s2, out1, s3, out2, h2, h3, hb2.retract h3,
    retract_wz (lostRetracting_wz hz hb1.nd h2) hb2.nd h3⟩

end

section
variable {U : List TaskId} {s : State}

/-- the loop fails a task with `task_failed(worker = none)`, which asserts a Waiting state: `WZ` is its invariant -/
theorem crashLoop_ok (f : Bool) : ∀ (ids : List TaskId) (s : State) (rets : List (List TaskId)) (out : Out),
    Bd U noD [] s → WZ ids s → RetsOk rets → ∃ r, s.crashLoop f ids rets out = .ok r
  | [], s, rets, out, _, _, _ => ⟨_, rfl⟩
  | id :: rest, s, rets, out, hb, hz, hr => by
    have hz' : WZ rest s := fun x hx => hz x (List.mem_cons_of_mem _ hx)
    simp only [State.crashLoop]
    cases ht : s.task? id with
    | none => exact crashLoop_ok f rest s rets out hb hz' hr
    | some task =>
      simp only
      have hs : task.state = .waiting 0 := hz id List.mem_cons_self task ht
      have hid : task.id = id := findTask_some_id ht
      generalize crashOutcome task.crashLimit f task.crashes = co
      obtain ⟨c', fails⟩ := co
      simp only
      have hb1 : Bd U noD [] (s.setTask { task with crashes := c' }) := Acts.bd (.single (.crash c' ht)) hb
      have hput : ∀ x t, (s.setTask { task with crashes := c' }).task? x = some t →
          ∃ t0, s.task? x = some t0 ∧ t.state = t0.state := by
        intro x t hxt
        change findTask (putTask s.tasks _) x = some t at hxt
        rw [findTask_putTask] at hxt
        split at hxt
        · rename_i e
          have e' : x = id := e.trans hid
          subst e'
          rw [show findTask s.tasks x = some task from ht] at hxt
          simp only [Option.map_some, Option.some.injEq] at hxt
          exact ⟨task, ht, by rw [← hxt]⟩
        · exact ⟨t, hxt, rfl⟩
      have hz1 : WZ rest (s.setTask { task with crashes := c' }) :=
        hz'.of_keeps fun x t hxt => have ⟨t0, h0, e0⟩ := hput x t hxt; ⟨t0, h0, e0.trans⟩
      cases fails with
      | false =>
        simp only [Bool.false_eq_true, if_false]
        exact crashLoop_ok f rest _ rets out hb1 hz1 hr
      | true =>
        simp only [if_true]
        obtain ⟨⟨s2, o2⟩, h2⟩ := taskFailed_ok (worker := none) (id := id) hb1 (by
          intro t hxt
          obtain ⟨t0, h0, e0⟩ := hput id t hxt
          rw [ht] at h0; cases h0
          rw [e0]; exact hs) (retsOk_head hr)
        simp only [h2]
        exact crashLoop_ok f rest s2 rets.tail _ (hb1.taskFailed h2)
          (hz1.of_desc (fun c => c.state_eq nofun nofun) hb1.nd (taskFailed_desc h2)) (retsOk_tail hr)

theorem lossTail_ok {s1 : State} {running retracted : List TaskId} {w : Nat} {reason : String} {f : Bool}
    {rets : List (List TaskId)} (hb1 : Bd U noD retracted s1) (hz : WZ running s1) (hr : RetsOk rets) :
    ∃ r, lossTail s1 running retracted w reason f rets = .ok r := by
  obtain ⟨s2, out1, s3, out2, h2, h3, hb3, hz3⟩ := lossMid_ok w hb1 hz
  obtain ⟨⟨s4, out⟩, h4⟩ := crashLoop_ok f running s3 rets
    ((out1.add out2).add { cbs := [.workerLost w running reason] }) hb3 hz3 hr
  simp only [lossTail, h2, h3, h4]
  exact ⟨_, rfl⟩

theorem removeWorker_part1_np {w : Nat} {wk : Worker} {order : List TaskId} (hb : Bd U noD [] s)
    (hfw : s.worker? w = some wk) : NoCorePanic (lossPart1 (drop s w) w wk.assign order) := lossPart1_np hb hfw

theorem removeWorker_bd3 {w : Nat} {wk : Worker} {order running retracted : List TaskId} {s1 : State}
    (hb : Bd U noD [] s) (hfw : s.worker? w = some wk)
    (h1 : lossPart1 (drop s w) w wk.assign order = .ok (s1, running, retracted)) :
    ∃ s2 out1 s3 out2, s1.lostRetracting w s1.tasks {} = .ok (s2, out1) ∧ s2.retract retracted = .ok (s3, out2) ∧
      Bd U noD [] s3 ∧ WZ running s3 :=
  lossMid_ok w (Bd.lossPart1 hb hfw h1) (lossPart1_wz h1)

theorem removeWorker_np {U : List TaskId} {s : State} {w : Nat} {reason : String} {f : Bool} {order : List TaskId}
    {rets : List (List TaskId)} (hi : InvF s) (hq : QInv U none [] s) (hn : NpInv U [] s)
    (hw : (s.worker? w).isSome = true) (hr : RetsOk rets) : NoCorePanic (s.removeWorker w reason f order rets) := by
  have hb := Bd.of hi hq hn
  rw [removeWorker_eq]
  cases hfw : s.worker? w with
  | none => rw [hfw] at hw; cases hw
  | some wk =>
    simp only
    cases h1 : lossPart1 (drop s w) w wk.assign order with
    | error e => exact (lossPart1_np hb hfw).of_error h1
    | ok r => exact NoCorePanic.of_ok (lossTail_ok (Bd.lossPart1 hb hfw h1) (lossPart1_wz h1) hr)

end

end HqModel.Core.NPL
