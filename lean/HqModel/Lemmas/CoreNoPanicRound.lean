import HqModel.Lemmas.CoreNoPanicRoundLocal
import HqModel.Lemmas.CoreNoPanicQueueRound
import HqModel.Lemmas.CoreNoPanicFramePerFunction
/-!
C09 progress for the scheduling round. The bundle `NPS.Bd s0 s` (`s0` = the state at the start of the round) is carried
through it; every stage gives `Tot`: no panic, and the bundle afterwards.
-/

namespace HqModel.Core.NPS

open HqModel.Core.NP HqModel.Core.NPD HqModel.Core.NPA

/-- what is carried through a scheduling round (`s0` = the state at the start of the round). Not the reactor's bundle
`NPR.Bd`: in place of `QInv` it has what holds of the queues in mid-round, `Trk s0 s` and `QRq`, and its `q` is `NpQ` -/
structure Bd (s0 s : State) : Prop where
  inv : Inv s
  tw : TWI noD s
  trk : Trk s0 s
  np3 : Np3 s
  q : NpQ noD [] s
  qrq : QRq s

theorem Bd.nd {s0 s : State} (h : Bd s0 s) : (taskIds s.tasks).Nodup := h.inv.nd

/-- worker `x` exists and has a single-node assignment -/
def SnW (s : State) (x : Nat) : Prop := ∃ wk A F P, s.worker? x = some wk ∧ wk.assign = .sn A F P

theorem SnW.congr {s s' : State} {x : Nat} (hx : SnW s x) (h : s'.workers = s.workers) : SnW s' x := by
  obtain ⟨wk, A, F, P, a, b⟩ := hx
  exact ⟨wk, A, F, P, by rw [worker?_eq, h]; exact a, b⟩

/-- a worker operation that leaves a single-node assignment -/
def SnOp (f : Worker → M Worker) : Prop := ∀ wk wk', f wk = .ok wk' → ∃ A F P, wk'.assign = .sn A F P

theorem snop_insertSn (t : TaskId) (r : Rq) : SnOp (·.insertSn t r) := by
  intro wk wk' h
  obtain ⟨A, F, P, F', _, _, _, rfl⟩ := insertSn_spec h
  exact ⟨_, _, _, rfl⟩

theorem snop_removeSn (t : TaskId) (r : Rq) : SnOp (·.removeSn t r) := by
  intro wk wk' h
  obtain ⟨A, F, P, F', _, _, _, rfl⟩ := removeSn_spec h
  exact ⟨_, _, _, rfl⟩

theorem snop_removePrefill (t : TaskId) : SnOp (·.removePrefill t) := by
  intro wk wk' h
  obtain ⟨A, F, P, _, _, rfl⟩ := removePrefill_spec h
  exact ⟨_, _, _, rfl⟩

theorem snop_insertPrefill (t : TaskId) : SnOp (·.insertPrefill t) := by
  intro wk wk' h
  obtain ⟨A, F, P, _, _, rfl⟩ := insertPrefill_spec h
  exact ⟨_, _, _, rfl⟩

theorem SnW.withWorker {s s' : State} {w : Nat} {f : Worker → M Worker} (hf : SnOp f)
    (h : s.withWorker w f = .ok s') {x : Nat} (hx : SnW s x) : SnW s' x := by
  obtain ⟨wk, wk', hfw, hfe, rfl⟩ := withWorker_spec h
  obtain ⟨wkx, A, F, P, a, b⟩ := hx
  by_cases e : x = wk'.id
  · obtain ⟨A', F', P', ha'⟩ := hf wk wk' hfe
    exact ⟨wk', A', F', P', worker?_setWorker_self e.symm a, ha'⟩
  · exact ⟨wkx, A, F, P, (worker?_setWorker_ne e).trans a, b⟩

theorem _root_.HqModel.Core.Placed.snw {s s' : State} {m m' : List WUpdate} {v : Nat} {r : Rq} {id : TaskId} {w : Nat}
    (h : Placed s m v r id w s' m') {x : Nat} (hx : SnW s x) : SnW s' x := by
  cases h with
  | waiting s1 _ _ hw => exact (SnW.withWorker (snop_insertSn _ _) hw hx).congr rfl
  | redirect s1 _ _ hw => exact (SnW.withWorker (snop_insertSn _ _) hw hx).congr rfl
  | reredirect s1 _ _ _ _ _ s3 hw _ _ _ _ hw3 =>
    exact (SnW.withWorker (snop_removeSn _ _) hw3 ((SnW.withWorker (snop_insertSn _ _) hw hx).congr rfl)).congr rfl
  | prefilled s1 _ _ s2 hw _ _ hw2 =>
    exact (SnW.withWorker (snop_removePrefill _) hw2 (SnW.withWorker (snop_insertSn _ _) hw hx)).congr rfl

/-- what `NpQ` gives for an id of queue `i` (`pl_of_queue`); with `Inv` and `TWI` it makes the id `Placeable` -/
def Pl (s : State) (i : Nat) (id : TaskId) : Prop :=
  ∃ task, s.task? id = some task ∧ task.rq = i ∧
    ((∃ n, task.state = .waiting n) ∨ ((∃ old, task.state = .retracting old) ∧ ∀ x ∈ s.redirects, x.1 ≠ id) ∨
     (∃ old, task.state = .prefilled old))

theorem Pl.placeable {s : State} {i : Nat} {id : TaskId} (hi : Inv s) (htw : TWI noD s) (h : Pl s i id) :
    ∃ task, s.task? id = some task ∧ Placeable s id task := by
  obtain ⟨task, ht, _, hs⟩ := h
  refine ⟨task, ht, ?_⟩
  rcases hs with a | ⟨a, b⟩ | ⟨old, a⟩
  · exact Or.inl a
  · refine Or.inr (Or.inl ⟨a, ?_⟩)
    rw [List.find?_eq_none]
    intro x hx
    simpa using b x hx
  · refine Or.inr (Or.inr ?_)
    have hst : stOf s.tasks id = some (.prefilled old) := by rw [stOf_of_find ht, a]
    obtain ⟨wk, A, F, P, hfw, ha, hm⟩ := mem_preW_elim (htw.tw.t2 id old (fun e => e) hst)
    refine ⟨old, wk, A, F, P, a, hfw, ha, hm, ?_⟩
    rw [List.any_eq_false]
    intro x hx e
    simp only [decide_eq_true_eq] at e
    obtain ⟨x1, x2, x3⟩ := x
    simp only at e; subst e
    obtain ⟨w0, h0⟩ := hi.ls.d1 _ _ _ hx
    rw [hst] at h0; cases h0

theorem Pl.not_assigned {s : State} {i : Nat} {id : TaskId} (hi : Inv s) (h : Pl s i id) (w : Nat) :
    id ∉ asgW s.workers w := by
  obtain ⟨task, ht, _, hs⟩ := h
  refine hi.ls.not_asg_of_state (stOf_of_find ht) (fun x hx => ?_) w
  rcases hs with ⟨n, a⟩ | ⟨⟨old, a⟩, b⟩ | ⟨old, a⟩ <;> rw [a] at hx
  · exact hx
  · obtain ⟨v, hv⟩ := hx; exact b _ hv rfl
  · exact hx

theorem Pl.step {s s' : State} {m m' : List WUpdate} {v : Nat} {r : Rq} {id : TaskId} {w i : Nat}
    (hb : Placed s m v r id w s' m') {x : TaskId} (hne : x ≠ id) (hp : Pl s i x) : Pl s' i x := by
  obtain ⟨_, hts, _, hrd⟩ := hb.frame
  obtain ⟨task, ht, hrq, hs⟩ := hp
  refine ⟨task, (hts x hne).trans ht, hrq, ?_⟩
  rcases hs with a | ⟨a, b⟩ | a
  · exact Or.inl a
  · refine Or.inr (Or.inl ⟨a, ?_⟩)
    intro y hy e
    exact b y (hrd y hy (by rw [e]; exact hne)) e
  · exact Or.inr (Or.inr a)

/-- loop invariant of `placeAll` over the remaining pairs `l` of the entry `(i, v)` with request `r` -/
structure PA (s0 s : State) (i v : Nat) (r : Rq) (l : List (TaskId × Nat)) : Prop where
  inv : Inv s
  tw : TWI noD s
  w : NpW s
  trk : Trk s0 s
  rq : s.rq i v = .ok r
  mn : s.isMultiNode i = false
  good : ∀ p ∈ l, Good s0 i p.1
  nd : (l.map (·.1)).Nodup
  pl : ∀ p ∈ l, Pl s i p.1
  wk : ∀ p ∈ l, SnW s p.2

theorem PA.np {s0 s : State} {i v : Nat} {r : Rq} {id : TaskId} {w : Nat} {rest : List (TaskId × Nat)}
    (h : PA s0 s i v r ((id, w) :: rest)) (m : List WUpdate) : NoCorePanic (s.placeSn m v r id w) := by
  obtain ⟨wk, A, F, P, hfw, ha⟩ := h.wk (id, w) List.mem_cons_self
  have hpl := h.pl (id, w) List.mem_cons_self
  obtain ⟨task, ht, hp⟩ := hpl.placeable h.inv h.tw
  refine placeSn_np ⟨wk, A, F, P, hfw, ha, ?_, h.w.free wk (findWorker_some_mem hfw) A F P ha⟩ ht hp
  intro hm
  refine hpl.not_assigned h.inv w ?_
  rw [asgW_of_find hfw]
  simp only [wAsg, ha]; exact hm

theorem PA.step {s0 s s1 : State} {i v : Nat} {r : Rq} {id : TaskId} {w : Nat} {rest : List (TaskId × Nat)}
    {m m1 : List WUpdate} (h : PA s0 s i v r ((id, w) :: rest)) (hp : s.placeSn m v r id w = .ok (s1, m1)) :
    PA s0 s1 i v r rest := by
  have hb := (placeSn_cases hp).2
  obtain ⟨k, b⟩ := placeSn_kept h.inv (h.trk.good (h.good (id, w) List.mem_cons_self)) hp
  have hq : ∀ t ∈ s.tasks, t.id = id → t.rq = i := by
    intro t ht he
    obtain ⟨task, hft, hrq, _⟩ := h.pl (id, w) List.mem_cons_self
    have := mem_find_of_nodup h.inv.nd ht
    rw [he] at this
    have hft' : findTask s.tasks id = some task := hft
    rw [hft'] at this; cases this; exact hrq
  have hfr : FrQ False s s1 := placeSn_fr h.w h.rq h.mn hq hp
  have hnd := h.nd
  simp only [List.map_cons, List.nodup_cons] at hnd
  refine ⟨k.inv, k.tw h.tw, hfr.fr.npw h.w, h.trk.trans b, ?_, ?_,
    fun p hp' => h.good p (List.mem_cons_of_mem _ hp'), hnd.2, ?_, ?_⟩
  · rw [rq_congr b.rqs]; exact h.rq
  · rw [isMultiNode_congr b.rqs]; exact h.mn
  · intro p hp'
    have hne : p.1 ≠ id := fun e => hnd.1 (e ▸ List.mem_map_of_mem hp')
    exact (h.pl p (List.mem_cons_of_mem _ hp')).step hb hne
  · intro p hp'
    exact hb.snw (h.wk p (List.mem_cons_of_mem _ hp'))

theorem placeAll_np {s0 : State} {i v : Nat} {r : Rq} (l : List (TaskId × Nat)) (s : State) (m : List WUpdate)
    (h : PA s0 s i v r l) : NoCorePanic (s.placeAll m v r l) :=
  (Tot.fold (loop := fun (p : State × List WUpdate) l => p.1.placeAll p.2 v r l)
    (one := fun p x => p.1.placeSn p.2 v r x.1 x.2) (I := fun p l => PA s0 p.1 i v r l) (fun _ => rfl)
    (fun p (id, w) l => by rw [placeAll_cons]; cases p.1.placeSn p.2 v r id w <;> rfl)
    (fun p _ _ h => ⟨h.np p.2, fun _ h1 => h.step h1⟩) l (s, m) h).1

theorem placementAllowed_snw {s : State} {now rq v : Nat} {r : Rq} {w : Nat}
    (h : s.placementAllowed now rq v r w = true) : SnW s w := by
  unfold State.placementAllowed at h
  split at h
  · cases h
  · rename_i wk hw
    simp only [Bool.and_eq_true] at h
    have h1 := h.1.1
    split at h1
    · rename_i A F P ha; exact ⟨wk, A, F, P, hw, ha⟩
    · cases h1

theorem pl_of_queue {s : State} {i : Nat} {q : Queue} (hq : NpQ noD [] s) (hqi : s.queues[i]? = some q) {id : TaskId}
    (hid : id ∈ qIds q) : Pl s i id := by
  rw [qIds_eq', List.mem_append] at hid
  rcases hid with hid | hid
  · obtain ⟨e', he', hx⟩ := mem_rIds.mp hid
    obtain ⟨t, ht, hrq, _, hs⟩ := (hq.rg' hqi he' hx).elim
    refine ⟨t, ht, hrq, ?_⟩
    rcases hs with a | ⟨a, b⟩ | ⟨_, b⟩
    · exact Or.inl ⟨0, a⟩
    · exact Or.inr (Or.inl ⟨a, b⟩)
    · cases b
  · unfold pfIds at hid
    split at hid
    · rename_i pp ts hp
      obtain ⟨t, w, ht, hrq, _, _, hs⟩ := (hq.pg' hqi hp hid).elim
      exact ⟨t, ht, hrq, Or.inr (Or.inr ⟨w, hs⟩)⟩
    · cases hid

theorem rq_lt_of_ok {s : State} {rq v : Nat} {r : Rq} (hr : s.rq rq v = .ok r) : rq < s.rqs.length := by
  rcases Nat.lt_or_ge rq s.rqs.length with h | h
  · exact h
  · simp only [State.rq, List.getElem?_eq_none h] at hr; cases hr

theorem mapSn1_np {s0 s : State} {now : Nat} {m : List WUpdate} {e : SnEntry}
    (hb : Bd s0 s) (hq0 : QueueOk s0) (hok : SnEntryOk s e) : NoCorePanic (s.mapSn now m [e]) := by
  obtain ⟨⟨r, hr⟩, hmn, hcnt⟩ := hok
  have hlt : e.rq < s.queues.length := by rw [hb.np3.2.1.ql]; exact rq_lt_of_ok hr
  obtain ⟨q, hq⟩ : ∃ q, s.queues[e.rq]? = some q := ⟨s.queues[e.rq], List.getElem?_eq_getElem hlt⟩
  simp only [State.mapSn, hr, hq]
  split
  · exact NoCorePanic.bang (by simp)
  · rename_i hall
    simp only [Bool.not_eq_true', Bool.not_eq_false] at hall
    have hall' : (e.counts.all fun (p : Nat × Nat) => p.2 == 0 || s.placementAllowed now e.rq e.v r p.1) = true :=
      hall
    cases htk : q.takeTasks (e.counts.map (·.2)).sum e.taken with
    | error err => exact (takeTasks_np (hb.q.wf' hq) (hcnt q hq)).of_error htk
    | ok q' =>
      simp only
      have hqn := hb.q.qIds_nodup hq
      have sp := takeTasks_spec (hb.q.wf' hq) hqn htk
      have hpa : PA s0 { s with queues := s.queues.set e.rq q' } e.rq e.v r
          (deal (e.taken.length + 1) e.counts e.taken []) := by
        refine ⟨hb.inv, ⟨hb.tw.tw, hb.tw.mnu⟩, ⟨hb.np3.1.nd, hb.np3.1.free⟩,
          hb.trk.trans (Trk.of_queue_set hq sp.sub), hr, hmn, ?_, deal_nodup (sp.tnd hqn), ?_, ?_⟩
        · intro p hp
          obtain ⟨q0, hq0', hid0⟩ := hb.trk.qsub e.rq q hq p.1 (sp.tsub _ (deal_mem hp).1)
          exact hq0 e.rq q0 hq0' p.1 hid0
        · intro p hp
          exact pl_of_queue hb.q hq (sp.tsub _ (deal_mem hp).1)
        · intro p hp
          obtain ⟨c, hc, hpos⟩ := (deal_mem hp).2
          have := List.all_eq_true.mp hall' (p.2, c) hc
          simp only [Bool.or_eq_true, beq_iff_eq] at this
          rcases this with h0 | h1
          · omega
          · exact (placementAllowed_snw h1).congr rfl
      cases hp : State.placeAll { s with queues := s.queues.set e.rq q' } m e.v r
          (deal (e.taken.length + 1) e.counts e.taken []) with
      | error err => exact (placeAll_np _ _ m hpa).of_error hp
      | ok x => exact NoCorePanic.ok _

theorem mapSn1_bd {s0 s s' : State} {now : Nat} {m m' : List WUpdate} {e : SnEntry}
    (hb : Bd s0 s) (hq0 : QueueOk s0) (hok : SnEntryOk s e) (h : s.mapSn now m [e] = .ok (s', m')) : Bd s0 s' := by
  obtain ⟨k, b⟩ := mapSn_kept hq0 hb.inv hb.trk h
  have f : FrQ False s s' := mapSn1_fr hb.np3.1 hb.qrq hok h
  exact ⟨k.inv, k.tw hb.tw, b, f.fr.np3 hb.np3, mapSn_npq hb.q hb.nd h, f.qrq hb.qrq⟩

/-- the single-node half of `create_task_mapping` -/
theorem mapSn_tot {s0 : State} {now : Nat} (hq0 : QueueOk s0) (es : List SnEntry) (s : State) (m : List WUpdate)
    (hb : Bd s0 s) (hok : SnOk now s m es) : Tot (s.mapSn now m es) (fun x => Bd s0 x.1) :=
  (Tot.fold (loop := fun (p : State × List WUpdate) es => p.1.mapSn now p.2 es)
    (one := fun p e => p.1.mapSn now p.2 [e]) (I := fun p es => Bd s0 p.1 ∧ SnOk now p.1 p.2 es) (fun _ => rfl)
    (fun p e l => by rw [mapSn_cons]; cases p.1.mapSn now p.2 [e] <;> rfl)
    (fun p e l ⟨hb, hok⟩ => by
      simp only [SnOk] at hok
      exact ⟨mapSn1_np hb hq0 hok.1, fun x h => ⟨mapSn1_bd hb hq0 hok.1 h, by have := hok.2; rwa [h] at this⟩⟩)
    es (s, m) ⟨hb, hok⟩).mono fun _ _ h => h.1

def IsMN (s : State) (id : TaskId) : Prop := ∃ t ws, s.task? id = some t ∧ t.state = .runningMN ws

theorem IsMN.fwd {RW : Worker → Worker → Prop} {s s' : State} {id : TaskId} (h : IsMN s id)
    (d : Desc TSched RW False s s') (hn : (taskIds s.tasks).Nodup) : IsMN s' id := by
  obtain ⟨t, ws, hf, hs⟩ := h
  obtain ⟨t', hf', ws', hs'⟩ := d.find_fwd (P := fun t => ∃ ws, t.state = .runningMN ws)
    (fun r => by cases r <;> exact ⟨rfl, fun ⟨_, e⟩ => by simp_all⟩) hn hf ⟨ws, hs⟩
  exact ⟨t', ws', hf', hs'⟩

theorem IsMN.cons {s : State} {id : TaskId} (h : IsMN s id) (hmn : NpMn s) :
    ∃ t root ws, s.task? id = some t ∧ t.state = .runningMN (root :: ws) := by
  obtain ⟨t, ws, hf, hs⟩ := h
  have := (hmn.ne t (findTask_some_mem hf) ws hs).1
  cases ws with
  | nil => exact absurd rfl this
  | cons root ws => exact ⟨t, root, ws, hf, hs⟩

theorem mapMnSets1_new {s s' : State} {rq : Nat} {ws : List Nat} {acc acc' : List TaskId}
    (h : s.mapMnSets rq [ws] acc = .ok (s', acc')) : ∃ id, acc' = acc ++ [id] ∧ IsMN s' id := by
  obtain ⟨_, _, id, _, _, s2, task, _, _, _, ht, _, rfl, rfl⟩ := mapMnSets1_ok h
  refine ⟨id, rfl, { task with state := .runningMN ws }, ws, ?_, rfl⟩
  rw [task?_setTask, if_pos (findTask_some_id (getTask_spec ht)).symm, task?_eq, getTask_spec ht]
  rfl

theorem mapMnSets1_np {s0 s : State} {rq : Nat} {ws : List Nat} {acc : List TaskId}
    (hb : Bd s0 s) (hmn : isMultiNodeRq s0.rqs rq = true) (hok : MnSetOk s rq ws) :
    NoCorePanic (s.mapMnSets rq [ws] acc) := by
  obtain ⟨_, hnd, hws, hrdy⟩ := hok
  have hmn' : s.isMultiNode rq = true := by rw [isMultiNode_eq, hb.trk.rqs]; exact hmn
  have hlt : rq < s.queues.length := by
    rw [hb.np3.2.1.ql]
    rcases Nat.lt_or_ge rq s.rqs.length with h | h
    · exact h
    · simp [State.isMultiNode, List.getElem?_eq_none h] at hmn'
  obtain ⟨q, hq⟩ : ∃ q, s.queues[rq]? = some q := ⟨_, List.getElem?_eq_getElem hlt⟩
  apply NoCorePanic.of_ok
  refine mapMnSets_one_ok hq (hrdy q hq) (hb.q.wf' hq).ne hnd hws ?_
  intro e he id hid
  obtain ⟨t, ht, hrq, _, hs⟩ := (hb.q.rg' hq he hid).elim
  refine ⟨t, ht, ?_⟩
  rcases hs with a | ⟨⟨w, a⟩, _⟩ | ⟨_, b⟩
  · exact a
  · have := hb.np3.2.2.sn t (findTask_some_mem ht) (by rw [a]; trivial)
    rw [hrq, hmn'] at this; cases this
  · cases b

theorem mapMnSets1_post {s0 s s' : State} {rq : Nat} {ws : List Nat} {acc acc' : List TaskId}
    (hb : Bd s0 s) (hq0 : QueueOk s0) (hmn : isMultiNodeRq s0.rqs rq = true) (hok : MnSetOk s rq ws)
    (hacc : ∀ id ∈ acc, IsMN s id) (h : s.mapMnSets rq [ws] acc = .ok (s', acc')) :
    Bd s0 s' ∧ ∀ id ∈ acc', IsMN s' id := by
  obtain ⟨k, b⟩ := mapMnSets_kept (Q := True) hq0 hmn hb.inv hb.trk h
  have f : FrQ False s s' := mapMnSets1_fr hok h
  refine ⟨⟨k.inv, k.tw hb.tw, b, f.fr.np3 hb.np3, mapMnSets_npq hb.q hb.nd h,
    f.qrq hb.qrq⟩, ?_⟩
  obtain ⟨id, rfl, hnew⟩ := mapMnSets1_new h
  intro x hx
  rcases List.mem_append.mp hx with hx | hx
  · exact (hacc x hx).fwd (mapMnSets_desc _ h) hb.nd
  · simp only [List.mem_singleton] at hx; subst hx; exact hnew

/-- what the multi-node half carries: the bundle, and every id of the accumulator is RunningMultiNode -/
def BdMN (s0 : State) (p : State × List TaskId) : Prop := Bd s0 p.1 ∧ ∀ id ∈ p.2, IsMN p.1 id

theorem mapMnSets_tot {s0 : State} {rq : Nat} (hq0 : QueueOk s0) (hmn : isMultiNodeRq s0.rqs rq = true)
    (sets : List (List Nat)) (s : State) (acc : List TaskId) (hb : BdMN s0 (s, acc)) (hok : MnSetsOk rq s acc sets) :
    Tot (s.mapMnSets rq sets acc) (BdMN s0) :=
  (Tot.fold (loop := fun (p : State × List TaskId) sets => p.1.mapMnSets rq sets p.2)
    (one := fun p ws => p.1.mapMnSets rq [ws] p.2) (I := fun p sets => BdMN s0 p ∧ MnSetsOk rq p.1 p.2 sets)
    (fun _ => rfl) (fun p ws l => by rw [mapMnSets_cons]; cases p.1.mapMnSets rq [ws] p.2 <;> rfl)
    (fun p ws l ⟨hb, hok⟩ => by
      simp only [MnSetsOk] at hok
      exact ⟨mapMnSets1_np hb.1 hmn hok.1,
        fun x h => ⟨mapMnSets1_post hb.1 hq0 hmn hok.1 hb.2 h, by have := hok.2; rwa [h] at this⟩⟩)
    sets (s, acc) ⟨hb, hok⟩).mono fun _ _ h => h.1

/-- the multi-node half of `create_task_mapping` -/
theorem mapMn_tot {s0 : State} (hq0 : QueueOk s0) (es : List MnEntry) (s : State) (acc : List TaskId)
    (hmn : ∀ e ∈ es, isMultiNodeRq s0.rqs e.rq = true) (hb : BdMN s0 (s, acc)) (hok : MnEntriesOk s acc es) :
    Tot (s.mapMn es acc) (BdMN s0) :=
  (Tot.fold (loop := fun (p : State × List TaskId) es => p.1.mapMn es p.2)
    (one := fun p e => p.1.mapMnSets e.rq e.sets p.2)
    (I := fun p es => (∀ e ∈ es, isMultiNodeRq s0.rqs e.rq = true) ∧ BdMN s0 p ∧ MnEntriesOk p.1 p.2 es)
    (fun _ => rfl) (fun p e l => by rw [mapMn_cons]; cases p.1.mapMnSets e.rq e.sets p.2 <;> rfl)
    (fun p e l ⟨hmn, hb, hok⟩ => by
      simp only [MnEntriesOk] at hok
      refine (mapMnSets_tot hq0 (hmn e List.mem_cons_self) _ _ _ hb hok.1).mono fun x h hx =>
        ⟨fun e' he' => hmn e' (List.mem_cons_of_mem _ he'), hx, by have := hok.2; rwa [h] at this⟩)
    es (s, acc) ⟨hmn, hb, hok⟩).mono fun _ _ h => h.2.1

theorem prefillBack_keep {rq : Nat} {l : List TaskId} {s s' : State} {keep keep' : List TaskId}
    (h : State.prefillWorker.back rq s l keep = .ok (s', keep'))
    (hk : ∀ id ∈ keep, ∀ t, findTask s.tasks id = some t → ∀ w, t.state ≠ .retracting w) :
    ∀ id ∈ keep', ∀ t, findTask s.tasks id = some t → ∀ w, t.state ≠ .retracting w :=
  (prefillBack_ind (P := fun _ s1 keep => s1.tasks = s.tasks ∧
      ∀ id ∈ keep, ∀ t, findTask s.tasks id = some t → ∀ w, t.state ≠ .retracting w)
    (fun _ _ _ _ _ _ _ h0 _ _ hm => ⟨(movePrefilledToReady_tasks hm).trans h0.1, h0.2⟩)
    (fun id _ s1 _ t h0 ht hnr => ⟨h0.1, fun x hx t' ht' w0 e => by
      rcases List.mem_append.mp hx with hx | hx
      · exact h0.2 x hx t' ht' w0 e
      · cases List.mem_singleton.mp hx
        rw [← h0.1, getTask_spec ht] at ht'
        cases ht'
        exact hnr w0 e⟩)
    ⟨rfl, hk⟩ h).2

theorem prefillRest_ok {s1 : State} {rq w : Nat} {taken : List TaskId} (hJ : NpJ taken s1) (hi : Inv s1)
    (hw : SnW s1 w)
    (hpf : ∀ id ∈ taken, ∃ q pp ts, s1.queues[rq]? = some q ∧ q.prefill = some (pp, ts) ∧ id ∈ ts) :
    ∃ s2 keep, State.prefillWorker.back rq s1 taken [] = .ok (s2, keep) ∧
      ∃ s3, State.prefillWorker.mark w s2 keep = .ok s3 := by
  have hin : ∀ id ∈ taken, (s1.task? id).isSome = true := by
    intro id hid
    obtain ⟨t, ht, _⟩ := hJ.pending hid
    rw [ht]; rfl
  obtain ⟨⟨s2, keep⟩, hb⟩ := prefillBack_ok rq taken s1 [] hJ.knd hin hpf
  refine ⟨s2, keep, hb, ?_⟩
  have hJ2 : NpJ keep s2 := prefillBack_npj (by simpa using hJ) hb
  obtain ⟨hce, _, _⟩ := prefillBack_spec rq taken s1 s2 [] keep hb
  have hnr := prefillBack_keep hb (fun _ h => by cases h)
  -- the kept ids are Waiting
  have hwait : ∀ id ∈ keep, ∃ t n, s2.task? id = some t ∧ t.state = .waiting n := by
    intro id hid
    obtain ⟨t, ht, _, hs⟩ := hJ2.pending hid
    rcases hs with a | ⟨⟨w0, a⟩, _⟩
    · exact ⟨t, 0, ht, a⟩
    · have ht1 : findTask s1.tasks id = some t := by rw [← hce.t]; exact ht
      exact absurd a (hnr id hid t ht1 w0)
  obtain ⟨wk, A, F, P, hfw, ha⟩ := hw
  refine prefillMark_ok w keep s2 hJ2.knd hwait ⟨wk, A, F, P, by rw [worker?_eq, hce.w]; exact hfw, ha, ?_⟩
  intro id hid hm
  obtain ⟨t, n, ht, hs⟩ := hwait id hid
  have hpre : id ∈ preW s1.workers w := by
    rw [preW_of_find hfw]; simp only [wPre, ha]; exact hm
  have := hi.ls.a2 w id hpre
  have ht1 : findTask s1.tasks id = some t := by rw [← hce.t]; exact ht
  rw [stOf_of_find ht1, hs] at this
  cases this

theorem prefillWorker_ok {s : State} {m : List WUpdate} {rq size w : Nat} {p : Int} {k : Nat}
    (hi : Inv s) (hq : NpQ noD [] s) (hh : HeadOk s rq p k) (hw : SnW s w) :
    ∃ r, s.prefillWorker m rq size w = .ok r := by
  obtain ⟨q, ids, rest, hqi, hr, _, hpp⟩ := hh
  have hlt : rq < s.queues.length := (List.getElem?_eq_some_iff.mp hqi).1
  simp only [State.prefillWorker]
  split
  · rename_i hnone; rw [hqi] at hnone; cases hnone
  · rename_i q' hq'
    rw [hqi] at hq'; cases hq'
    split
    · rename_i hnil; rw [hr] at hnil; cases hnil
    · rename_i p' ids0 more hready
      have hp' : p' = p := by rw [hr] at hready; cases hready; rfl
      subst hp'
      split
      · rename_i e he
        exfalso
        split at he
        · rename_i pp ts hpre
          have := hpp pp ts hpre
          subst this
          simp at he
        · cases he
      · rename_i pf hpf
        have hJ := npj_start (size := size) hq hqi hready (prefillSet_cases hpf)
        have hpf1 : ∀ id ∈ (takeFromFirst q.ready size).2, ∃ q1 pp ts,
            ({ s with queues := s.queues.set rq { ready := (takeFromFirst q.ready size).1, prefill := some pf } } :
              State).queues[rq]? = some q1 ∧ q1.prefill = some (pp, ts) ∧ id ∈ ts := by
          intro id hid
          refine ⟨_, pf.1, pf.2, List.getElem?_set_self hlt, rfl, ?_⟩
          split at hpf
          · split at hpf
            · cases hpf
            · cases hpf; exact List.mem_append.mpr (Or.inr hid)
          · cases hpf; exact hid
        obtain ⟨s2, keep, hb, s3, hm⟩ := prefillRest_ok (w := w) hJ hi (hw.congr rfl) hpf1
        rw [hb]
        simp only
        rw [hm]
        exact ⟨_, rfl⟩

theorem prefillMark_snw {w : Nat} {l : List TaskId} {s s' : State} (h : State.prefillWorker.mark w s l = .ok s')
    {x : Nat} (hx : SnW s x) : SnW s' x :=
  prefillMark_ind (P := fun _ s => SnW s x)
    (fun _ _ _ _ _ _ h0 _ _ h2 => SnW.withWorker (snop_insertPrefill _) h2 (h0.congr rfl)) hx h

theorem prefillWorker_snw {s s' : State} {m m' : List WUpdate} {rq size w : Nat}
    (h : s.prefillWorker m rq size w = .ok (s', m')) {x : Nat} (hx : SnW s x) : SnW s' x := by
  obtain ⟨_, _, _, _, _, s2, keep, _, _, _, hb, hm, _⟩ := prefillWorker_path h
  obtain ⟨hce, _, _⟩ := prefillBack_spec _ _ _ _ _ _ hb
  exact prefillMark_snw hm ((hx.congr rfl).congr hce.w)

theorem prefillWorker_bd {s0 s s' : State} {m m' : List WUpdate} {rq size w : Nat}
    (hb : Bd s0 s) (hq0 : QueueOk s0) (hmn : s.isMultiNode rq = false)
    (h : s.prefillWorker m rq size w = .ok (s', m')) : Bd s0 s' := by
  obtain ⟨k, b⟩ := prefillWorker_kept (Q := True) hq0 hb.inv hb.trk h
  have f : FrQ False s s' := prefillWorker_fr hb.qrq hmn h
  exact ⟨k.inv, k.tw hb.tw, b, f.fr.np3 hb.np3, prefillWorker_npq hb.q hb.nd h, f.qrq hb.qrq⟩

/-- the loop over the candidate workers, by counting: before a worker is served the first entry of the queue
still holds `pfs` ids for it and for each worker after it -/
theorem prefillWorkers_tot {s0 c0 : State} {acc : List TaskId} (hq0 : QueueOk s0) {rq pfs : Nat} {p : Int} (hpfs : 1 ≤ pfs)
    (ws : List Nat) (s : State) (m : List WUpdate) (hb : Bd s0 s) (hm : SI c0 s m acc) (hmn : s.isMultiNode rq = false)
    (hh : HeadOk s rq p (pfs * ws.length)) (hws : ∀ w ∈ ws, SnW s w) :
    Tot (s.prefillWorkers m rq pfs ws) (fun x => Bd s0 x.1 ∧ SI c0 x.1 x.2 acc) :=
  (Tot.fold (loop := fun (x : State × List WUpdate) ws => x.1.prefillWorkers x.2 rq pfs ws)
    (one := fun x w => x.1.prefillWorker x.2 rq pfs w)
    (I := fun x ws => Bd s0 x.1 ∧ SI c0 x.1 x.2 acc ∧ x.1.isMultiNode rq = false ∧
      (ws ≠ [] → HeadOk x.1 rq p (pfs * ws.length)) ∧ ∀ w ∈ ws, SnW x.1 w)
    (fun _ => rfl) (fun x w l => by rw [prefillWorkers_cons]; cases x.1.prefillWorker x.2 rq pfs w <;> rfl)
    (fun x w rest ⟨hb, hm, hmn, hh, hws⟩ => by
      have hh := hh (List.cons_ne_nil _ _)
      obtain ⟨⟨s1, m1⟩, h1⟩ := prefillWorker_ok (m := x.2) (size := pfs) hb.inv hb.q hh (hws w List.mem_cons_self)
      rw [h1]
      have hb1 := prefillWorker_bd hb hq0 hmn h1
      refine .ok ⟨hb1, prefillWorker_si hm h1, ?_, fun hrest => ?_,
        fun y hy => prefillWorker_snw h1 (hws y (List.mem_cons_of_mem _ hy))⟩
      · rw [isMultiNode_congr (hb1.trk.rqs.trans hb.trk.rqs.symm)]; exact hmn
      · have hlen : 1 ≤ rest.length := List.length_pos_iff.mpr hrest
        refine prefillWorker_head h1 (hh.mono ?_) (Nat.le_trans hlen (Nat.le_mul_of_pos_left _ hpfs))
        simp only [List.length_cons, Nat.mul_succ]
        omega)
    ws (s, m) ⟨hb, hm, hmn, fun _ => hh, hws⟩).mono fun _ _ h => ⟨h.1, h.2.1⟩

theorem headOk_of_top {s : State} {rq : Nat} {q : Queue} (hq : s.queues[rq]? = some q) {reserve c pfs : Nat}
    (hsize : ¬ q.topSizeNoPrefill - reserve = 0) (hpfs : pfs ≤ (q.topSizeNoPrefill - reserve) / c) :
    ∃ p, HeadOk s rq p (pfs * c) := by
  have hle : pfs * c ≤ q.topSizeNoPrefill :=
    calc pfs * c ≤ ((q.topSizeNoPrefill - reserve) / c) * c := Nat.mul_le_mul_right _ hpfs
      _ ≤ q.topSizeNoPrefill - reserve := Nat.div_mul_le_self _ _
      _ ≤ q.topSizeNoPrefill := Nat.sub_le _ _
  have hpos : 0 < q.topSizeNoPrefill := by omega
  unfold Queue.topSizeNoPrefill at hle hpos
  cases hr : q.ready with
  | nil => rw [hr] at hpos; simp at hpos
  | cons e rest =>
    obtain ⟨p, ids⟩ := e
    rw [hr] at hle hpos
    simp only at hle hpos
    refine ⟨p, q, ids, rest, hq, hr, ?_, ?_⟩
    · split at hle
      · split at hle
        · omega
        · exact hle
      · exact hle
    · intro pp ts hp
      rw [hp] at hpos
      simp only at hpos
      split at hpos
      · omega
      · rename_i hne; simpa using hne

theorem snw_of_cand {s : State} {m : List WUpdate} {rq w : Nat} (hw : NpW s) (h : w ∈ s.prefillCandidates m rq) :
    SnW s w := by
  unfold State.prefillCandidates at h
  obtain ⟨wk, hwk, rfl⟩ := List.mem_map.mp h
  obtain ⟨hmem, hp⟩ := List.mem_filter.mp hwk
  split at hp
  · cases hp
  · rename_i A F P ha
    exact ⟨wk, A, F, P, findWorker_of_mem hw.nd hmem, ha⟩

/-- `process_proactive_filling` -/
theorem proactive_np {s0 c0 : State} {acc : List TaskId} (hq0 : QueueOk s0) {orders : List (Nat × List Nat)} {top : Int} :
    ∀ (n : Nat) (s : State) (m : List WUpdate) (rq : Nat), Bd s0 s → SI c0 s m acc →
    NoCorePanic (s.proactive m orders top n rq)
  | 0, _, _, _, _, _ => by simp only [State.proactive]; exact NoCorePanic.ok _
  | n + 1, s, m, rq, hb, hm => by
    rcases proactive_succ s m orders top n rq with ⟨_, e⟩ | e | ⟨q, pfs, ord, hf, e⟩
    · rw [e]; exact NoCorePanic.ok _
    · rw [e]; exact proactive_np hq0 n s m (rq + 1) hb hm
    · rw [e]
      split
      · exact NoCorePanic.bang (by simp)
      · rename_i hord
        simp only [Bool.not_eq_true', Bool.not_eq_false, Bool.and_eq_true, decide_eq_true_eq] at hord
        obtain ⟨⟨ho1, _⟩, holen⟩ := hord
        have hmn := isMultiNode_of_cands hb.np3.2.2 hm.mh hf.cands
        obtain ⟨p, hh⟩ := headOk_of_top (c := (s.prefillCandidates m rq).length) hf.queue hf.size
          (hf.pfs_eq ▸ Nat.min_le_left _ s.prefillMax)
        have t := prefillWorkers_tot hq0 (p := p) (Nat.pos_of_ne_zero hf.pfs_pos) ord s m hb hm hmn
          (hh.mono (by rw [holen]; exact Nat.le_refl _))
          (fun w hw => snw_of_cand hb.np3.1 (by simpa using List.all_eq_true.mp ho1 w hw))
        cases h1 : s.prefillWorkers m rq pfs ord with
        | error err => exact t.1.of_error h1
        | ok x => exact proactive_np hq0 n x.1 x.2 (rq + 1) (t.2 _ h1).1 (t.2 _ h1).2

theorem mh_isSome {s : State} {m : List WUpdate} (h : MH s m) :
    ∀ u ∈ m, (∀ id ∈ u.prefills, (s.task? id).isSome = true) ∧ ∀ a ∈ u.assigned, (s.task? a.1).isSome = true := by
  intro u hu
  have hsub : ∀ x ∈ uIds u, x ∈ mIds m := by
    intro x hx
    simp only [mIds, List.mem_flatten, List.mem_map]
    exact ⟨uIds u, ⟨u, hu, rfl⟩, hx⟩
  constructor
  · intro id hid
    obtain ⟨t, ht, _⟩ := h id (hsub id (List.mem_append.mpr (Or.inr hid)))
    show (findTask s.tasks id).isSome = true
    rw [ht]; rfl
  · intro a ha
    obtain ⟨t, ht, _⟩ := h a.1 (hsub a.1 (List.mem_append.mpr (Or.inl (List.mem_map_of_mem ha))))
    show (findTask s.tasks a.1).isSome = true
    rw [ht]; rfl

/-- `send_messages` (`m` = the update list, `mnTasks` = the multi-node accumulator) -/
theorem messages_np {s : State} {m : List WUpdate} {mnTasks : List TaskId} (hmn : NpMn s) (hm : MH s m)
    (hacc : ∀ id ∈ mnTasks, IsMN s id) :
    ∃ msgs mm, msgsOfAll s m = .ok msgs ∧ mnMsgs s mnTasks = .ok mm := by
  obtain ⟨msgs, hmsgs⟩ := msgsOfAll_ok s m (mh_isSome hm)
  obtain ⟨mm, hmm⟩ := mnMsgs_ok s mnTasks (fun id hid => (hacc id hid).cons hmn)
  exact ⟨msgs, mm, hmsgs, hmm⟩

/-- `create_task_mapping` + `send_messages` -/
theorem schedule_np {U : List TaskId} {s : State} {sol : Solution} (hi : InvF s) (hq : QInv U none [] s)
    (hn : NpInv U [] s) (hm : SolMnOk s sol) (hsol : SolOk s sol) : NoCorePanic (s.schedule sol) := by
  have hq0 : QueueOk s := hq.queueOk
  have hb : Bd s s := ⟨hi.inv, hi.tw, Trk.refl s, ⟨hn.w, hn.idx, hn.mn⟩, hn.q, QRq.of_queueOk hi.inv.nd hq0⟩
  obtain ⟨hsn, hmnok⟩ := hsol
  simp only [State.schedule]
  have t1 := mapSn_tot hq0 _ _ _ hb hsn
  cases h1 : s.mapSn sol.now [] sol.sn with
  | error err => exact t1.1.of_error h1
  | ok x =>
    obtain ⟨s1, m1⟩ := x
    simp only
    rw [h1] at hmnok
    simp only at hmnok
    have hb1 : Bd s s1 := t1.2 _ h1
    obtain ⟨i1, p1⟩ := mapSn_si (SI.init s) (fun _ hu => by cases hu) h1
    have t2 := mapMn_tot hq0 _ _ _ hm ⟨hb1, fun _ h => by cases h⟩ hmnok
    cases h2 : s1.mapMn sol.mn [] with
    | error err => exact t2.1.of_error h2
    | ok y =>
      obtain ⟨s2, mnTasks⟩ := y
      simp only
      obtain ⟨hb2, hacc2⟩ := t2.2 _ h2
      have si2 : ∀ prio : TaskId → Int,
          SI s s2 (m1.map fun u => { u with assigned := sortByPrio prio u.assigned }) mnTasks :=
        fun prio => mapMn_si (sort_si prio i1 p1).1 h2
      split
      · rename_i e he
        split at he
        · cases he
        · exact (proactive_np hq0 _ _ _ _ hb2 (si2 _)).of_error he
      · rename_i s3 m3 h3
        have h3' : NpMn s3 ∧ MH s3 m3 ∧ ∀ id ∈ mnTasks, IsMN s3 id := by
          split at h3
          · cases h3; exact ⟨hb2.np3.2.2, (si2 _).mh, hacc2⟩
          · have hnp := proactive_np3 _ _ _ _ _ _ _ _ hb2.np3 hb2.qrq (si2 _) h3
            exact ⟨hnp.2.2, (proactive_si (si2 _) h3).mh,
              fun id hid => (hacc2 id hid).fwd (proactive_desc h3) hb2.nd⟩
        obtain ⟨msgs, mm, hmsgs, hmm⟩ := messages_np h3'.1 h3'.2.1 h3'.2.2
        rw [hmsgs]
        simp only
        rw [hmm]
        exact NoCorePanic.ok _

end HqModel.Core.NPS
