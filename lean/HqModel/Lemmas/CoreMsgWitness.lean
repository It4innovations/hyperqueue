import HqModel.Lemmas.CoreMsgRun
import HqModel.Lemmas.CoreInvFull
/-!
Message-level facts: concrete runs (all satisfy every side condition `OpOk4`), used as witnesses and as
non-vacuity examples by the property files (`Props/C03`, `C05Queue`, `C06`, `C07`, `C09`) and by `CoreQueueWitness`,
`CoreNoPanicWitness`.
-/
namespace HqModel.Core

/-- a worker with one resource of 10000 units -/
def wkr (id : Nat) : Worker := { id := id, assign := .sn [] [10000] [], total := [10000] }

/-- task `(1, j)` of request 0 -/
def ntk (j : Nat) (inst : Nat := 0) (deps : List TaskId := []) : NewTask :=
  { id := (1, j), rq := 0, prio := 0, crashLimit := .max 5, deps := deps, inst := inst }

/-- **same instance id sent twice (successful retract)**: round 1 assigns task 0 to worker 1 and prefills task 1
there (compute message with instance 0); round 2 places tasks 2 and 1 on worker 2 — task 1 becomes Retracting with
a redirect, worker 1 gets a retract message; worker 1 answers that it retracted task 1; the server sends task 1 to
worker 2 with the SAME instance id 0. -/
def resendOps : List Op :=
  [.newWorker (wkr 1), .newWorker (wkr 2),
   .newRq [{ entries := [⟨0, .amount 5000⟩] }],
   .newTasks [ntk 0, ntk 1, ntk 2],
   .schedule { sn := [{ rq := 0, v := 0, counts := [(1, 1)], taken := [(1, 0)] }], prefillOrders := [(0, [1])] },
   .schedule { sn := [{ rq := 0, v := 0, counts := [(2, 2)], taken := [(1, 2), (1, 1)] }] },
   .retracted 1 [(1, 1)]]

/-- **same instance id sent twice (reject)**: task 0 is assigned to worker 1, worker 1 rejects it, the next round
assigns it to worker 2 with the same instance id 0. -/
def rejectOps : List Op :=
  [.newWorker (wkr 1), .newWorker (wkr 2),
   .newRq [{ entries := [⟨0, .amount 5000⟩] }],
   .newTasks [ntk 0],
   .schedule { sn := [{ rq := 0, v := 0, counts := [(1, 1)], taken := [(1, 0)] }] },
   .update 1 [.reject (1, 0) (some 0)] [],
   .schedule { sn := [{ rq := 0, v := 0, counts := [(2, 1)], taken := [(1, 0)] }] }]

/-- **same instance id sent twice (multi-node task refused by its root; the transition added by the fix of F32)**: a
multi-node task (one node) is placed on worker 1; worker 1 — the root — refuses it before it has started it;
`task_reject` resets the reserved worker and requeues the task WITHOUT incrementing the instance id; the next round
places it on worker 2 with the same instance id 0. -/
def mnRejectOps : List Op :=
  [.newWorker (wkr 1), .newWorker (wkr 2),
   .newRq [{ nNodes := 1, entries := [] }],
   .newTasks [ntk 0],
   .schedule { mn := [{ rq := 0, sets := [[1]] }] },
   .update 1 [.reject (1, 0) (some 0)] [],
   .schedule { mn := [{ rq := 0, sets := [[2]] }] }]

/-- **… but not after the start was announced**: the root reports Running (`started (1,0)` instance 0 is announced,
the `started` flag of its record is set); a Reject from the root — or from anybody else — is then ignored: the task
stays RunningMultiNode on worker 1 and is not sent again (the senders only get the request blocked). -/
def mnRejectStartedOps : List Op :=
  [.newWorker (wkr 1), .newWorker (wkr 2),
   .newRq [{ nNodes := 1, entries := [] }],
   .newTasks [ntk 0],
   .schedule { mn := [{ rq := 0, sets := [[1]] }] },
   .update 1 [.running (1, 0) 0] [],
   .update 1 [.reject (1, 0) (some 0)] [],
   .update 2 [.reject (1, 0) (some 0)] []]

/-- **a task id submitted twice**: task 0 is submitted with instance 5, runs and finishes; the same id is submitted
again with instance 0 and sent with instance 0 (the core accepts it: the first record left the map). -/
def reuseOps : List Op :=
  [.newWorker (wkr 1),
   .newRq [{ entries := [⟨0, .amount 5000⟩] }],
   .newTasks [ntk 0 5],
   .schedule { sn := [{ rq := 0, v := 0, counts := [(1, 1)], taken := [(1, 0)] }] },
   .update 1 [.finished (1, 0)] [],
   .newTasks [ntk 0 0],
   .schedule { sn := [{ rq := 0, v := 0, counts := [(1, 1)], taken := [(1, 0)] }] }]

/-- **`started` with an instance id that was never sent**: as in `resendOps` task 1 is prefilled on worker 1
(sent with instance 0) and then redirected to worker 2 (Retracting, retract message to worker 1). Before worker 1
answers, worker 2 — the redirect TARGET — is lost: `on_remove_worker` drops the redirect and increments the
instance id of task 1 to 1 although the task is still held by worker 1. Worker 1 had started the task before the
retract message arrived and reports Running: the server announces `started (1,1) instance 1`, an instance id no
worker was ever sent (worker 1 executes instance 0). -/
def lossOps : List Op :=
  [.newWorker (wkr 1), .newWorker (wkr 2),
   .newRq [{ entries := [⟨0, .amount 5000⟩] }],
   .newTasks [ntk 0, ntk 1, ntk 2],
   .schedule { sn := [{ rq := 0, v := 0, counts := [(1, 1)], taken := [(1, 0)] }], prefillOrders := [(0, [1])] },
   .schedule { sn := [{ rq := 0, v := 0, counts := [(2, 2)], taken := [(1, 2), (1, 1)] }] },
   .removeWorker 2 "lost" true [(1, 2), (1, 1)] [],
   .update 1 [.running (1, 1) 0] []]

/-- **dependencies**: task 1 depends on task 0; task 0 is placed, runs, finishes; only then task 1 is placed. -/
def depOps : List Op :=
  [.newWorker (wkr 1),
   .newRq [{ entries := [⟨0, .amount 5000⟩] }],
   .newTasks [ntk 0, ntk 1 0 [(1, 0)]],
   .schedule { sn := [{ rq := 0, v := 0, counts := [(1, 1)], taken := [(1, 0)] }] },
   .update 1 [.running (1, 0) 0] [],
   .update 1 [.finished (1, 0)] [],
   .schedule { sn := [{ rq := 0, v := 0, counts := [(1, 1)], taken := [(1, 1)] }] }]

/-- **a crash**: task 0 runs on worker 1, the worker is lost by failure: the task goes back to Waiting with crash
counter 1 and instance id 1; worker 2 (idle) is stopped: nothing changes. -/
def crashOps : List Op :=
  [.newWorker (wkr 1), .newWorker (wkr 2),
   .newRq [{ entries := [⟨0, .amount 5000⟩] }],
   .newTasks [ntk 0],
   .schedule { sn := [{ rq := 0, v := 0, counts := [(1, 1)], taken := [(1, 0)] }] },
   .update 1 [.running (1, 0) 0] [],
   .removeWorker 1 "lost" true [(1, 0)] [],
   .removeWorker 2 "stop" false [] []]

/-- the sends and starts of a run, if it succeeds -/
def runSends (ops : List Op) : Option (List (TaskId × Nat) × List (TaskId × Nat)) :=
  (run {} ops).toOption.map fun r => (sends r.2.msgs, starts r.2.cbs)

theorem toOption_map_some {ε α β : Type} {x : Except ε α} {f : α → β} {b : β} (h : x.toOption.map f = some b) :
    ∃ a, x = .ok a ∧ f a = b := by
  cases x with
  | error e => cases h
  | ok a => exact ⟨a, rfl, Option.some.inj h⟩

theorem runSends_some {ops : List Op} {x} (h : runSends ops = some x) :
    ∃ s out, run {} ops = .ok (s, out) ∧ sends out.msgs = x.1 ∧ starts out.cbs = x.2 := by
  obtain ⟨⟨s, out⟩, hr, rfl⟩ := toOption_map_some h
  exact ⟨s, out, hr, rfl, rfl⟩

theorem resendOps_ok : RunOk OpOk4 {} resendOps ∧ NoIdReuse resendOps ∧
    runSends resendOps = some ([((1, 1), 0), ((1, 0), 0), ((1, 2), 0), ((1, 1), 0)], []) := by decide +kernel

theorem rejectOps_ok : RunOk OpOk4 {} rejectOps ∧ NoIdReuse rejectOps ∧
    runSends rejectOps = some ([((1, 0), 0), ((1, 0), 0)], []) := by decide +kernel

theorem mnRejectOps_ok : RunOk OpOk4 {} mnRejectOps ∧ NoIdReuse mnRejectOps ∧
    runSends mnRejectOps = some ([((1, 0), 0), ((1, 0), 0)], []) ∧
    ((run {} (mnRejectOps.take 6)).toOption.map fun r => r.1.tasks.map fun t => (t.id, t.state, t.inst)) =
      some [((1, 0), .waiting 0, 0)] := by decide +kernel

theorem mnRejectStartedOps_ok : RunOk OpOk4 {} mnRejectStartedOps ∧ NoIdReuse mnRejectStartedOps ∧
    runSends mnRejectStartedOps = some ([((1, 0), 0)], [((1, 0), 0)]) ∧
    ((run {} mnRejectStartedOps).toOption.map fun r => r.1.tasks.map fun t => (t.id, t.state, t.inst)) =
      some [((1, 0), .runningMN [1], 0)] := by decide +kernel

theorem reuseOps_ok : RunOk OpOk4 {} reuseOps ∧ ¬ NoIdReuse reuseOps ∧
    runSends reuseOps = some ([((1, 0), 5), ((1, 0), 0)], []) := by decide +kernel

theorem lossOps_ok : RunOk OpOk4 {} lossOps ∧ NoIdReuse lossOps ∧
    runSends lossOps = some ([((1, 1), 0), ((1, 0), 0), ((1, 2), 0)], [((1, 1), 1)]) := by decide +kernel

theorem depOps_ok : RunOk OpOk4 {} depOps ∧ NoIdReuse depOps ∧
    runSends depOps = some ([((1, 0), 0), ((1, 1), 0)], [((1, 0), 0)]) := by decide +kernel

theorem crashOps_ok : RunOk OpOk4 {} crashOps ∧
    ((run {} crashOps).toOption.map fun r => r.1.tasks.map fun t => (t.id, t.state, t.inst, t.crashes)) =
      some [((1, 0), .waiting 0, 1, 1)] ∧
    ((run {} (crashOps.take 6)).toOption.map fun r => r.1.tasks.map fun t => (t.id, t.state, t.inst, t.crashes)) =
      some [((1, 0), .running 1 0, 0, 0)] := by decide +kernel

end HqModel.Core
