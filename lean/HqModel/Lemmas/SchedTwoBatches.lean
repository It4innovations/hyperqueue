import HqModel.Lemmas.SchedRows
/-!
Fragment F2 (one worker, two request classes with ready tasks): the shape of the MILP when the batches are
`[bH, bL]` or `[bL, bH]` and both classes can start on the worker now.
-/
namespace HqModel.Sched

structure TwoBatches (inst : Instance) (w : Worker) (bs : List Batch) (bH bL : Batch) : Prop where
  workers : inst.workers = [w]
  order : bs = [bH, bL] ∨ bs = [bL, bH]
  ne : bH.rq ≠ bL.rq
  pH : hasP inst w bH.rq = true
  pL : hasP inst w bL.rq = true
  /-- both classes ask for cpus only -/
  cH : inst.need2 bH.rq = 0
  cL : inst.need2 bL.rq = 0

theorem zero_weight_sum {α : Type} (f : α → Var) (l : List α) (z : Assign) :
    ((l.map fun a => (f a, 0)).map fun v => v.2 * z v.1).sum = 0 := by
  induction l with
  | nil => rfl
  | cons a rest ih => simpa using ih

namespace TwoBatches
variable {inst : Instance} {w : Worker} {bs : List Batch} {bH bL : Batch}

theorem symm (h : TwoBatches inst w bs bH bL) : TwoBatches inst w bs bL bH :=
  ⟨h.workers, h.order.symm, h.ne.symm, h.pL, h.pH, h.cL, h.cH⟩

theorem mem_iff (h : TwoBatches inst w bs bH bL) {b : Batch} : b ∈ bs ↔ b = bH ∨ b = bL := by
  rcases h.order with e | e <;> simp [e, or_comm]

theorem memH (h : TwoBatches inst w bs bH bL) : bH ∈ bs := h.mem_iff.mpr (Or.inl rfl)

theorem memL (h : TwoBatches inst w bs bH bL) : bL ∈ bs := h.mem_iff.mpr (Or.inr rfl)

theorem countVarsH (h : TwoBatches inst w bs bH bL) : countVars inst bH = [.P w.id bH.rq] := by
  simp [countVars, countVar, h.workers, h.pH]

theorem countVarsL (h : TwoBatches inst w bs bH bL) : countVars inst bL = [.P w.id bL.rq] := h.symm.countVarsH

theorem countVarsOfH (h : TwoBatches inst w bs bH bL) : countVarsOf inst bs bH.rq = [.P w.id bH.rq] := by
  have hne : ¬ bL.rq = bH.rq := h.ne.symm
  rcases h.order with e | e <;> simp [countVarsOf, e, hne, h.countVarsH]

theorem countVarsOfL (h : TwoBatches inst w bs bH bL) : countVarsOf inst bs bL.rq = [.P w.id bL.rq] :=
  h.symm.countVarsOfH

theorem countVarsOf_other (h : TwoBatches inst w bs bH bL) {c : Nat} (h1 : c ≠ bH.rq) (h2 : c ≠ bL.rq) :
    countVarsOf inst bs c = [] := by
  have h1' : ¬ bH.rq = c := fun e => h1 e.symm
  have h2' : ¬ bL.rq = c := fun e => h2 e.symm
  rcases h.order with e | e <;> simp [countVarsOf, e, h1', h2']

/-- the single resource row (cpu-only classes have no term in the row of the second kind, so there is none) -/
theorem resourceRows_eq (h : TwoBatches inst w bs bH bL) : ∃ r, resourceRows inst bs = [r] ∧
    r.ge = false ∧ r.bound = w.free ∧
      ∀ z : Assign, r.lhs z = inst.need bH.rq * z (.P w.id bH.rq) + inst.need bL.rq * z (.P w.id bL.rq) := by
  -- by symmetry the batch called `bH` comes first
  have key : ∀ {bH bL : Batch}, TwoBatches inst w bs bH bL → bs = [bH, bL] → ∃ r, resourceRows inst bs = [r] ∧
      r.ge = false ∧ r.bound = w.free ∧
        ∀ z : Assign, r.lhs z = inst.need bH.rq * z (.P w.id bH.rq) + inst.need bL.rq * z (.P w.id bL.rq) := by
    intro bH bL h e
    refine ⟨⟨false, w.free, [(.P w.id bH.rq, inst.need bH.rq), (.P w.id bL.rq, inst.need bL.rq)]⟩, ?_, rfl, rfl,
      fun z => by simp [Row.lhs]⟩
    simp only [resourceRows, resourceRow1, resourceRow2, e, h.workers, List.filterMap_cons, h.pH, h.pL, h.cH, h.cL,
      ↓reduceIte, List.filterMap_nil, List.isEmpty_cons, List.isEmpty_nil, Bool.false_eq_true, List.append_nil]
  rcases h.order with e | e
  · exact key h e
  · obtain ⟨r, hr, hge, hb, hl⟩ := key h.symm e
    exact ⟨r, hr, hge, hb, fun z => by rw [hl, Nat.add_comm]⟩

theorem resource_le (h : TwoBatches inst w bs bH bL) {x : Assign} (hx : Feasible (milpOf inst bs) x) :
    inst.need bH.rq * x (.P w.id bH.rq) + inst.need bL.rq * x (.P w.id bL.rq) ≤ w.free := by
  obtain ⟨r, hr, hge, hbound, hlhs⟩ := h.resourceRows_eq
  have := hx.1 r ((rows_iff inst bs).mpr (Or.inl (by rw [hr]; exact List.mem_singleton.mpr rfl)))
  rwa [Row.holds, hge, if_neg Bool.false_ne_true, hlhs, hbound] at this

theorem sizeRow (h : TwoBatches inst w bs bH bL) {r : Row} (hr : r ∈ sizeRows inst bs) :
    r.ge = false ∧
      ((bH.reached = false ∧ r.bound = bH.size ∧ ∀ z : Assign, r.lhs z = z (.P w.id bH.rq)) ∨
       (bL.reached = false ∧ r.bound = bL.size ∧ ∀ z : Assign, r.lhs z = z (.P w.id bL.rq))) := by
  -- the row of one of the two batches, called `bH`
  have key : ∀ {bH bL : Batch}, TwoBatches inst w bs bH bL →
      (if ((countVars inst bH).isEmpty || bH.reached) = true then none
        else some ({ ge := false, bound := bH.size, terms := (countVars inst bH).map (·, 1) } : Row)) = some r →
      r.ge = false ∧ bH.reached = false ∧ r.bound = bH.size ∧ ∀ z : Assign, r.lhs z = z (.P w.id bH.rq) := by
    intro bH bL h hr
    rw [h.countVarsH] at hr
    cases hre : bH.reached with
    | true => simp [hre] at hr
    | false =>
      simp only [List.isEmpty_cons, hre, Bool.or_self, Bool.false_eq_true, ↓reduceIte, List.map_cons,
        List.map_nil, Option.some.injEq] at hr
      subst hr
      exact ⟨rfl, rfl, rfl, fun z => by simp [Row.lhs]⟩
  simp only [sizeRows, List.mem_filterMap] at hr
  obtain ⟨b, hb, hr⟩ := hr
  rcases h.mem_iff.mp hb with rfl | rfl
  · exact ⟨(key h hr).1, .inl (key h hr).2⟩
  · exact ⟨(key h.symm hr).1, .inr (key h.symm hr).2⟩

theorem objective_eq (h : TwoBatches inst w bs bH bL) (z : Assign) :
    objective (milpOf inst bs) z =
      weightP inst 0 bH.rq * z (.P w.id bH.rq) + weightP inst 0 bL.rq * z (.P w.id bL.rq) := by
  have key : ∀ {bH bL : Batch}, TwoBatches inst w bs bH bL → bs = [bH, bL] → objective (milpOf inst bs) z =
      weightP inst 0 bH.rq * z (.P w.id bH.rq) + weightP inst 0 bL.rq * z (.P w.id bL.rq) := by
    intro bH bL h e
    unfold objective milpOf
    simp only [List.map_append, List.sum_append, zero_weight_sum, Nat.add_zero]
    simp [prVars, e, h.workers, h.pH, h.pL, List.zipIdx]
  rcases h.order with e | e
  · exact key h e
  · rw [key h.symm e, Nat.add_comm]

end TwoBatches
end HqModel.Sched
