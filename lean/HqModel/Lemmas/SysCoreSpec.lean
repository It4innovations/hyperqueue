import HqModel.Lemmas.SysCoreIds
import HqModel.Lemmas.CoreOut
import HqModel.Lemmas.CoreDescStep
import HqModel.Lemmas.CoreLoss
/-!
What the reactor functions of the core do, in the vocabulary of the coupling invariant — the callbacks they make, the
key set of the task map afterwards, the *started* status `hot` —: `taskFinished_spec`, `taskFailed_spec`,
`taskRunning_spec` (the one function that starts a task: `FrX id`, everything but the reported task descends),
`newTasks_spec` (read off `newTasks_descN`), `removeWorker_spec` (its `running` list: `CoreLoss.lossPart1_running`).
-/
namespace HqModel.Core

theorem taskFinished_spec {s s' : State} {w : Nat} {id : TaskId} {o : Out} {b : Bool}
    (h : s.taskFinished w id = .ok (s', o, b)) :
    (s.task? id = none ∧ s' = s ∧ o.cbs = []) ∨
    (∃ task, s.task? id = some task ∧ o.cbs = [.finished id] ∧
      ((taskIds s.tasks).Nodup → ∀ t, t ∈ taskIds s'.tasks ↔ t ∈ taskIds s.tasks ∧ t ≠ id)) := by
  rcases taskFinished_path h with ⟨hn, rfl, rfl, _⟩ | ⟨task, s1, s3, retracted, s4, out, ht, hp, h3, h4, h5, rfl, _⟩
  · exact .inl ⟨hn, rfl, rfl⟩
  · refine .inr ⟨task, ht, ?_, fun hn t => ?_⟩
    · show [Cb.finished id] ++ out.cbs = _
      rw [(retract_out h4).2]; rfl
    · have e : taskIds s4.tasks = taskIds s.tasks := by
        rw [retract_stable h4, wakeConsumers_ids _ _ _ _ _ h3, setTask_ids, hp.release.tasks]
      obtain ⟨_, he⟩ := removeTask_exact (by rw [e]; exact hn) h5
      rw [he t, e]

theorem taskFailed_spec {s s' : State} {worker : Option Nat} {id : TaskId} {ret : List TaskId} {o : Out}
    (hn : (taskIds s.tasks).Nodup) (hcj : ConsJob s.tasks) (h : s.taskFailed worker id ret = .ok (s', o)) :
    (s.task? id = none ∧ s' = s ∧ o.cbs = []) ∨
    (∃ (task : Task) (consumers : List TaskId) (s3 : State), s.task? id = some task ∧ o.cbs = [.error id consumers] ∧
      consumers.Nodup ∧ id ∉ consumers ∧ (∀ c ∈ consumers, c ∈ taskIds s.tasks ∧ c.1 = id.1) ∧
      (∀ t, t ∈ taskIds s3.tasks ↔ t ∈ taskIds s.tasks ∧ t ≠ id ∧ t ∉ consumers) ∧ Frc s s3 ∧
      (taskIds s3.tasks).Nodup ∧
      ((ret.isEmpty = true ∧ s' = s3) ∨ (ret.isEmpty = false ∧ ∃ o2, s3.cancelTasks ret = .ok (s', o2)))) := by
  rcases taskFailed_path h with ⟨hno, rfl, rfl⟩ | ⟨task, s1, consumers, s2, s3, st, ht, hp, hc, h2, h3, htail⟩
  · exact .inl ⟨hno, rfl, rfl⟩
  have rel := hp
  have e1 := rel.tasks
  have hjob := recursiveConsumers_job (s := s1) (by rw [e1]; exact hcj) (task?_congr e1 ht) hc
  have h2b := removeWaitingAll_batched _ h2
  obtain ⟨cnd, cin, cex⟩ := removeTasksBatched_exact (by rw [e1]; exact hn) h2b
  have hn2 := (removeWaitingAll_sub _ _ _ h2).nodup (by rw [e1]; exact hn)
  obtain ⟨hid2, hex3⟩ := removeTask_exact hn2 h3
  have f123 : Frc s s3 := (rel.frc.trans (removeTasksBatched_frc h2b)).trans (removeTask_frc h3)
  have hn3 := (removeTask_sub h3).nodup hn2
  refine .inr ⟨task, consumers, s3, ht, ?_, cnd, fun hm => ((cex id).mp hid2).2 hm,
    fun c hcm => ⟨by rw [← e1]; exact cin c hcm, hjob c hcm⟩, fun t => ?_, f123, hn3, ?_⟩
  · rcases htail with ⟨_, _, rfl⟩ | ⟨o2, _, hct, rfl⟩
    · rfl
    · show [Cb.error id consumers] ++ _ = _
      rw [(cancelTasks_spec hn3 (hcj.of_desc f123.t (·.id) (·.cons)) hct).1]
      rfl
  · rw [hex3 t, cex t, e1]
    constructor
    · rintro ⟨⟨a, b⟩, c⟩; exact ⟨a, c, b⟩
    · rintro ⟨a, c, b⟩; exact ⟨⟨a, b⟩, c⟩
  · rcases htail with ⟨rfl, rfl, _⟩ | ⟨o2, hne, hct, _⟩
    · exact .inl ⟨rfl, rfl⟩
    · exact .inr ⟨by simpa using hne, o2, hct⟩


/-- the task is started: Running, or RunningMultiNode with the `started` flag of a worker's multi-node assignment set —
the core has made a `started` callback for it and none of `finished` / `error` / `worker lost (running ∋ task)` since -/
def hot (s : State) (t : TaskId) : Prop :=
  (∃ w v, stOf s.tasks t = some (.running w v)) ∨
  (∃ l, stOf s.tasks t = some (.runningMN l) ∧
    ∃ x wk r, findWorker s.workers x = some wk ∧ wk.assign = .mn t r true)

theorem hot_mem {s : State} {t : TaskId} (h : hot s t) : t ∈ taskIds s.tasks := by
  have : ∃ st, stOf s.tasks t = some st := by
    rcases h with ⟨w, v, h⟩ | ⟨l, h, _⟩ <;> exact ⟨_, h⟩
  obtain ⟨st, hst⟩ := this
  obtain ⟨task, hf, _⟩ := stOf_some hst
  exact mem_ids_iff.mpr (by rw [hf]; rfl)

theorem stOf_of_mem {ts : List Task} (hn : (taskIds ts).Nodup) {t : Task} (ht : t ∈ ts) : stOf ts t.id = some t.state :=
  stOf_of_find (mem_find_of_nodup hn ht)

theorem stOf_back {R : Task → Task → Prop} {ts ts' : List Task} (f : ∀ t' ∈ ts', ∃ t ∈ ts, t'.id = t.id ∧ R t t')
    (hn : (taskIds ts).Nodup) {x : TaskId} {st' : TS} (h : stOf ts' x = some st') :
    ∃ t t', t'.id = x ∧ stOf ts x = some t.state ∧ t'.state = st' ∧ R t t' := by
  obtain ⟨task', hf, rfl⟩ := stOf_some h
  obtain ⟨task, hm, hid, r⟩ := f task' (findTask_some_mem hf)
  refine ⟨task, task', findTask_some_id hf, ?_, rfl, r⟩
  have := stOf_of_mem hn hm
  rw [← hid, findTask_some_id hf] at this
  exact this

theorem TFr.stOf {P : Prop} {ts ts' : List Task} (f : TFr P ts ts') (hn : (taskIds ts).Nodup) {t : TaskId} {st' : TS}
    (h : stOf ts' t = some st') : ∃ st, stOf ts t = some st ∧ stOk P st st' := by
  obtain ⟨a, b, _, hs, rfl, r⟩ :=
    stOf_back (R := TRelSys P) (fun t' ht' => by obtain ⟨t, ht, r⟩ := f t' ht'; exact ⟨t, ht, r.id, r⟩) hn h
  exact ⟨_, hs, r.st⟩

theorem hot_back {s s' : State} {x : TaskId}
    (hT : ∀ st', stOf s'.tasks x = some st' → ∃ st, stOf s.tasks x = some st ∧ stOk False st st')
    (hW : ∀ y wk' r, findWorker s'.workers y = some wk' → wk'.assign = .mn x r true →
      ∃ wk, findWorker s.workers y = some wk ∧ wk.assign = .mn x r true) (h : hot s' x) : hot s x := by
  rcases h with ⟨w, v, h⟩ | ⟨l, h, y, wk', r, hw, ha⟩
  · obtain ⟨st, hs, hk⟩ := hT _ h
    simp only [stOk] at hk
    subst hk
    exact .inl ⟨w, v, hs⟩
  · obtain ⟨st, hs, hk⟩ := hT _ h
    simp only [stOk, false_or] at hk
    obtain ⟨l0, hk⟩ := hk
    subst hk
    obtain ⟨wk, hw0, ha0⟩ := hW y wk' r hw ha
    exact .inr ⟨l0, hs, y, wk, r, hw0, ha0⟩

theorem hot_of_frc {s s' : State} (f : Frc s s') (hn : (taskIds s.tasks).Nodup) {t : TaskId} (h : hot s' t) : hot s t :=
  hot_back (fun _ h => f.t.stOf hn h)
    (fun y wk' r hw ha => by obtain ⟨wk, h0, rel⟩ := f.w y wk' hw; exact ⟨wk, h0, rel.mn t r ha⟩) h

/-- a scheduling round creates no started task (a multi-node placement has the flag unset) -/
theorem hot_of_frs {s s' : State} (f : Frs s s') (hi : Inv s) {t : TaskId} (h : hot s' t) : hot s t := by
  rcases h with ⟨w, v, h⟩ | ⟨l, h, x, wk', r, hw, ha⟩
  · obtain ⟨st, hs, hk⟩ := f.t.stOf hi.nd h
    simp only [stOk] at hk
    subst hk
    exact .inl ⟨w, v, hs⟩
  · obtain ⟨wk, hw0, rel⟩ := f.w x wk' hw
    have ha0 := rel.mn t r ha
    have hm : mnW s.workers x = some t := by rw [mnW_of_find hw0]; simp [wMn, ha0]
    obtain ⟨l0, hs, _⟩ := hi.ls.m1 x t hm
    exact .inr ⟨l0, hs, x, wk, r, hw0, ha0⟩

/-! ### the frame of `task_running`: everything but task `X` -/

structure TRelX (X : TaskId) (t t' : Task) : Prop where
  id : t'.id = t.id
  cons : ∀ c ∈ t'.consumers, c ∈ t.consumers
  st : t'.id = X ∨ stOk False t.state t'.state

structure WRelX (X : TaskId) (w w' : Worker) : Prop where
  id : w'.id = w.id
  mn : ∀ t r, w'.assign = .mn t r true → t = X ∨ w.assign = .mn t r true

theorem TRelX.refl (X : TaskId) (t : Task) : TRelX X t t := ⟨rfl, fun _ h => h, .inr (stOk.refl _ _)⟩

theorem TRelX.trans {X : TaskId} {a b c : Task} (r1 : TRelX X a b) (r2 : TRelX X b c) : TRelX X a c := by
  refine ⟨r2.id.trans r1.id, fun x hx => r1.cons x (r2.cons x hx), ?_⟩
  rcases r2.st with e | e
  · exact .inl e
  · rcases r1.st with e1 | e1
    · exact .inl (r2.id.trans e1)
    · exact .inr (e1.trans e)

theorem WRelX.refl (X : TaskId) (w : Worker) : WRelX X w w := ⟨rfl, fun _ _ e => .inr e⟩

theorem WRelX.trans {X : TaskId} {a b c : Worker} (r1 : WRelX X a b) (r2 : WRelX X b c) : WRelX X a c :=
  ⟨r2.id.trans r1.id, fun t r e => (r2.mn t r e).elim .inl (r1.mn t r)⟩

abbrev FrX (X : TaskId) : State → State → Prop := GFr (TRelX X) (WRelX X)

theorem Fr.frx {s s' : State} (X : TaskId) (f : Frc s s') : FrX X s s' :=
  GFr.mono ⟨f.t, f.w⟩ (fun r => ⟨r.id, r.cons, .inr r.st⟩) fun r => ⟨r.id, fun t r' e => .inr (r.mn t r' e)⟩

theorem FrX.trans {X : TaskId} {a b c : State} (h1 : FrX X a b) (h2 : FrX X b c) : FrX X a c :=
  GFr.trans TRelX.trans WRelX.trans h1 h2

theorem FrX.setTaskX {s : State} {task t' : Task} {id : TaskId} (hf : s.task? id = some task) (hid : t'.id = task.id)
    (hc : t'.consumers = task.consumers) : FrX id s (s.setTask t') :=
  GFr.setTask (TRelX.refl id) (WRelX.refl id) (by rw [hid, findTask_some_id hf]; exact hf)
    ⟨hid, by rw [hc]; exact fun _ h => h, .inl (hid.trans (findTask_some_id hf))⟩

theorem hot_of_frx {X : TaskId} {s s' : State} (f : FrX X s s') (hn : (taskIds s.tasks).Nodup) {t : TaskId}
    (h : hot s' t) : t = X ∨ hot s t := by
  by_cases htx : t = X
  · exact .inl htx
  refine .inr (hot_back (fun st' h => ?_) (fun y wk' r hw ha => ?_) h)
  · obtain ⟨a, b, hid, hs, rfl, r⟩ :=
      stOf_back (R := TRelX X) (fun t' ht' => by obtain ⟨t, ht, r⟩ := f.t t' ht'; exact ⟨t, ht, r.id, r⟩) hn h
    exact ⟨_, hs, r.st.resolve_left fun e => htx (hid.symm.trans e)⟩
  · obtain ⟨wk, h0, rel⟩ := f.w y wk' hw
    exact ⟨wk, h0, (rel.mn t r ha).resolve_left htx⟩

/-- `hmn`: every worker of a RunningMultiNode task is reserved for it (part of `InvF`) -/
theorem taskRunning_spec {s s' : State} {w : Nat} {id : TaskId} {rv : Nat} {o : Out}
    (hmn : ∀ l, stOf s.tasks id = some (.runningMN l) → ∀ x ∈ l, mnW s.workers x = some id)
    (h : s.taskRunning w id rv = .ok (s', o)) :
    (s.task? id = none ∧ s' = s ∧ o.cbs = []) ∨
    (∃ task ws, s.task? id = some task ∧ o.cbs = [.started id task.inst ws rv] ∧ FrX id s s') := by
  rcases taskRunning_cases h with ⟨hno, rfl, rfl⟩ | ⟨task, ws, ht, arm, rfl⟩
  · exact .inl ⟨hno, rfl, rfl⟩
  refine .inr ⟨task, ws, ht, rfl, ?_⟩
  have f0 : FrX id s (s.setTask { task with state := .running w rv }) := FrX.setTaskX ht rfl rfl
  cases arm with
  | assigned hs => exact f0
  | prefilled hs hr h1 h2 =>
    exact (f0.trans (Fr.frx id (Fr.withWorker (prefilledToStarted_wrel id _) h1))).trans ((queueRemove_core h2).frc.frx id)
  | retracting hs h1 h2 hr h3 =>
    exact (((f0.trans (Fr.frx id (Frc.ask _))).trans ((queueRemove_core h1).frc.frx id)).trans
      ((tryRemoveRedirection_frc h2).frx id)).trans (Fr.frx id (Fr.withWorker (insertSn_wrel id _) h3))
  | @mn ws wk wk' hs hw hk =>
    -- the root's record gets the `started` flag; its multi-node assignment is for `id` (`hmn`)
    have hm := hmn _ (by rw [stOf_of_find ht, hs]) w (by simp)
    rw [mnW_of_find hw] at hm
    have hrel : WRelX id wk wk' := by
      rcases hk with ⟨t, r, st, ha, rfl⟩ | ⟨_, rfl⟩
      · simp only [wMn, ha, Option.some.injEq] at hm
        exact ⟨rfl, fun t' r' e => by cases e; exact .inl hm⟩
      · exact ⟨rfl, fun _ _ e => .inr e⟩
    exact GFr.setWorker (TRelX.refl id) (WRelX.refl id) (by rw [hrel.id, findWorker_some_id hw]; exact hw) hrel


/-- what `on_new_tasks` may do to a task record, as far as the coupling goes: consumers are added only from the
task's own job, and no task is started -/
structure TRelNew (t t' : Task) : Prop where
  id : t'.id = t.id
  cons : ∀ c ∈ t'.consumers, c ∈ t.consumers ∨ c.1 = t.id.1
  st : stOk False t.state t'.state

theorem TRelNew.refl (t : Task) : TRelNew t t := ⟨rfl, fun _ h => .inl h, stOk.refl _ _⟩

theorem TRelNew.trans {a b c : Task} (h1 : TRelNew a b) (h2 : TRelNew b c) : TRelNew a c :=
  ⟨h2.id.trans h1.id, fun x hx => (h2.cons x hx).elim (h1.cons x) fun e => .inr (e.trans (congrArg (·.1) h1.id)),
    h1.st.trans h2.st⟩

theorem TReg.relNew {nts : List NewTask} (hdeps : ∀ nt ∈ nts, ∀ d ∈ nt.deps, d.1 = nt.id.1) {t t' : Task}
    (h : TReg True (DepOf nts) t t') : TRelNew t t' := by
  cases h with
  | calm _ h =>
    have q : TRelSys False t t' := h.trelSys
    exact ⟨q.id, fun c hc => .inl (q.cons c hc), q.st⟩
  | consume c hr hc =>
    obtain ⟨nt, hnt, rfl, hd⟩ := hr
    refine ⟨rfl, fun x hx => ?_, stOk.refl _ _⟩
    rcases List.mem_append.mp hx with e | e
    · exact .inl e
    · rw [List.mem_singleton.mp e]; exact .inr (hdeps nt hnt _ hd).symm

theorem newTasks_spec {s s' : State} {nts : List NewTask} {o : Out} (hn : (taskIds s.tasks).Nodup)
    (hdeps : ∀ nt ∈ nts, ∀ d ∈ nt.deps, d.1 = nt.id.1) (hcj : ConsJob s.tasks)
    (h : s.newTasks nts = .ok (s', o)) :
    o.cbs = [] ∧ (∀ t, t ∈ taskIds s'.tasks ↔ t ∈ taskIds s.tasks ∨ t ∈ nts.map (·.id)) ∧ ConsJob s'.tasks ∧
    WFr s.workers s'.workers ∧ ∀ t, hot s' t → hot s t := by
  have d := newTasks_descN h
  -- a record of `s'` descends from a record of `s`, or from a new one: Waiting, without consumers
  have back : ∀ t' ∈ s'.tasks, (∃ t ∈ s.tasks, TRelNew t t') ∨
      ∃ n, t'.id ∈ nts.map (·.id) ∧ (∀ c ∈ t'.consumers, c.1 = t'.id.1) ∧ stOk False (.waiting n) t'.state := by
    intro t' ht'
    rcases d.fr.t t' ht' with ⟨t, ht, r⟩ | ⟨t0, ⟨nt, hnt, n, kept, rfl⟩, r⟩
    · exact .inl ⟨t, ht, r.lift TRelNew.refl TRelNew.trans (TReg.relNew hdeps)⟩
    · have q := r.lift TRelNew.refl TRelNew.trans (TReg.relNew hdeps)
      refine .inr ⟨n, by rw [q.id]; exact List.mem_map_of_mem hnt, fun c hc => ?_, q.st⟩
      rw [q.id]; exact (q.cons c hc).elim (fun e => nomatch e) id
  have wback : WFr s.workers s'.workers := fun x wk' hx =>
    (d.fr.w x wk' hx).elim (fun ⟨wk, h0, r⟩ => ⟨wk, h0, r.lift WRel.refl WRel.trans WCalm.wrel⟩) fun ⟨_, hf, _⟩ => hf.elim
  have cbs : o.cbs = [] := by
    obtain ⟨_, _, _, _, _, hr, rfl⟩ := newTasks_path h
    exact (retract_out hr).2
  refine ⟨cbs, fun t => by rw [d.tids, List.mem_append], ?_, wback, fun t ht => ?_⟩
  · intro t' ht' c hc
    rcases back t' ht' with ⟨t, ht, q⟩ | ⟨_, _, hc', _⟩
    · rw [q.id]; exact (q.cons c hc).elim (hcj t ht c) id
    · exact hc' c hc
  · -- the state of a started task is not one a new record can have
    have old : ∀ st', stOf s'.tasks t = some st' → (∀ n, ¬ stOk False (.waiting n) st') →
        ∃ st, stOf s.tasks t = some st ∧ stOk False st st' := by
      intro st' hs' hnw
      obtain ⟨task', hf, rfl⟩ := stOf_some hs'
      rcases back task' (findTask_some_mem hf) with ⟨t0, ht0, q⟩ | ⟨n, _, _, hw⟩
      · have := stOf_of_mem hn ht0
        rw [← q.id, findTask_some_id hf] at this
        exact ⟨_, this, q.st⟩
      · exact absurd hw (hnw n)
    rcases ht with ⟨w, v, hs⟩ | ⟨l, hs, x, wk', r, hw, ha⟩
    · obtain ⟨st, h0, hk⟩ := old _ hs fun n e => nomatch e
      exact .inl ⟨w, v, by rw [h0, show st = .running w v from hk]⟩
    · obtain ⟨st, h0, hk⟩ := old _ hs fun n e => e.elim (fun f => f) fun ⟨_, e⟩ => nomatch e
      obtain ⟨l0, rfl⟩ := hk.resolve_left fun f => f
      obtain ⟨wk, hw0, rel⟩ := wback x wk' hw
      exact .inr ⟨l0, h0, x, wk, r, hw0, rel.mn t r ha⟩

theorem not_hot_of_waiting {s : State} {t : TaskId} {n : Nat} (hs : stOf s.tasks t = some (.waiting n)) :
    ¬ hot s t := by
  rintro (⟨w, v, h⟩ | ⟨l, h, _⟩)
  · rw [hs] at h; cases h
  · rw [hs] at h; cases h


theorem removeWorker_spec {s s' : State} {w : Nat} {reason : String} {f : Bool} {order : List TaskId}
    {rets : List (List TaskId)} {o : Out} (hn : (taskIds s.tasks).Nodup)
    (h : s.removeWorker w reason f order rets = .ok (s', o)) :
    ∃ (s3 s4 : State) (running : List TaskId) (out0 : Out),
      (s.worker? w).isSome = true ∧ Frc s s3 ∧ taskIds s3.tasks = taskIds s.tasks ∧ running.Nodup ∧
      (∀ t ∈ running, hot s t) ∧ (∀ t ∈ running, ¬ hot s3 t) ∧ out0.cbs = [.workerLost w running reason] ∧
      s3.crashLoop f running rets out0 = .ok (s4, o) ∧ s' = ask s4 := by
  obtain ⟨wk, s1, s2, s3, s4, running, retracted, out1, out2, hw, hp1, h2, h3, h4, rfl⟩ := removeWorker_phases h
  have f0 := dropWorker_frc s w
  have d1 := lossPart1_desc (fail := f = true) hp1
  have f1 : Frc { s with workers := s.workers.filter (·.id ≠ w) } s1 := d1.weaken.frc_loss
  have e1 : taskIds s1.tasks = taskIds s.tasks := d1.frame.keep
  -- the reported tasks were Running, or the started multi-node task of the lost root; part 1 made them Waiting
  obtain ⟨nd, hrun⟩ := lossPart1_running (s0 := { s with workers := s.workers.filter (·.id ≠ w) }) hn hp1
  have hh : ∀ t ∈ running, hot s t := fun t ht => by
    obtain ⟨⟨task, hf, hst⟩, _⟩ := hrun t ht
    have hso : stOf s.tasks t = some task.state := stOf_of_find hf
    rcases hst with ⟨w', v, _, _, _, e, _, _⟩ | ⟨others, r, e, ha⟩
    · exact .inl ⟨w', v, by rw [hso, e]⟩
    · exact .inr ⟨_, by rw [hso, e], w, wk, r, hw, ha⟩
  have hc : ∀ t ∈ running, ¬ hot s1 t := fun t ht => by
    obtain ⟨_, t', hf', e⟩ := hrun t ht
    exact not_hot_of_waiting (n := 0) (by rw [stOf_of_find hf', e])
  have hn1 : (taskIds s1.tasks).Nodup := by rw [e1]; exact hn
  have f2 := lostRetracting_frc h2
  have f3 := retract_frc h3
  refine ⟨s3, s4, running, _, by rw [hw]; rfl, ((f0.trans f1).trans f2).trans f3,
    by rw [show taskIds s3.tasks = taskIds s2.tasks from retract_stable h3, lostRetracting_ids _ _ _ _ _ _ h2, e1],
    nd, hh, fun t ht h' => hc t ht (hot_of_frc (f2.trans f3) hn1 h'), ?_, h4, rfl⟩
  show (out1.cbs ++ out2.cbs) ++ [Cb.workerLost w running reason] = _
  rw [lostRetracting_cbs h2, (retract_out h3).2]
  rfl

end HqModel.Core
