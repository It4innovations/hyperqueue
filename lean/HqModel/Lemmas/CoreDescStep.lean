import HqModel.Lemmas.CoreDescSched
/-!
Operations that add records (`on_new_tasks`, `on_new_worker`, a new resource request), and the descent of `step`:
`GFrN` admits records that descend from a NEW record (`NT` for tasks, `NW` for workers); `StepDesc op` says, for every
operation, which rewrites it performs, which records it may add, and what it does to the keys and the request table.
-/
namespace HqModel.Core

/-- every record of `s'` descends from a record of `s` or from a new one -/
structure GFrN (RT : Task → Task → Prop) (RW : Worker → Worker → Prop) (NT : Task → Prop) (NW : Worker → Prop)
    (s s' : State) : Prop where
  t : ∀ t' ∈ s'.tasks, (∃ t ∈ s.tasks, RT t t') ∨ ∃ t0, NT t0 ∧ RT t0 t'
  w : ∀ x wk', findWorker s'.workers x = some wk' →
    (∃ wk, findWorker s.workers x = some wk ∧ RW wk wk') ∨ ∃ w0, NW w0 ∧ RW w0 wk'

private theorem find_append (ws : List Worker) (w : Worker) (x : Nat) {wk' : Worker}
    (h : findWorker (ws ++ [w]) x = some wk') : findWorker ws x = some wk' ∨ wk' = w := by
  induction ws with
  | nil =>
    simp only [List.nil_append, findWorker] at h
    split at h
    · cases h; exact .inr rfl
    · cases h
  | cons y ys ih =>
    simp only [List.cons_append, findWorker] at h ⊢
    split
    · rename_i e; rw [if_pos e] at h; exact .inl h
    · rename_i e; rw [if_neg e] at h; exact ih h

namespace GFrN
variable {RT : Task → Task → Prop} {RW : Worker → Worker → Prop} {NT NT' : Task → Prop} {NW NW' : Worker → Prop}
  {s s' a b c : State}

theorem of_gfr (h : GFr RT RW s s') : GFrN RT RW NT NW s s' :=
  ⟨fun t' ht' => .inl (h.t t' ht'), fun x wk' hx => .inl (h.w x wk' hx)⟩

theorem mono (h : GFrN RT RW NT NW s s') (ht : ∀ t, NT t → NT' t) (hw : ∀ w, NW w → NW' w) : GFrN RT RW NT' NW' s s' :=
  ⟨fun t' ht' => (h.t t' ht').imp id fun ⟨t0, n, r⟩ => ⟨t0, ht t0 n, r⟩,
   fun x wk' hx => (h.w x wk' hx).imp id fun ⟨w0, n, r⟩ => ⟨w0, hw w0 n, r⟩⟩

theorem trans (tt : ∀ {x y z}, RT x y → RT y z → RT x z) (wt : ∀ {x y z}, RW x y → RW y z → RW x z)
    (h1 : GFrN RT RW NT NW a b) (h2 : GFrN RT RW NT NW b c) : GFrN RT RW NT NW a c := by
  constructor
  · intro t'' ht''
    rcases h2.t t'' ht'' with ⟨t', ht', r2⟩ | hn
    · rcases h1.t t' ht' with ⟨t, ht, r1⟩ | ⟨t0, n, r1⟩
      · exact .inl ⟨t, ht, tt r1 r2⟩
      · exact .inr ⟨t0, n, tt r1 r2⟩
    · exact .inr hn
  · intro x wk'' hx
    rcases h2.w x wk'' hx with ⟨wk', hx', r2⟩ | hn
    · rcases h1.w x wk' hx' with ⟨wk, hf, r1⟩ | ⟨w0, n, r1⟩
      · exact .inl ⟨wk, hf, wt r1 r2⟩
      · exact .inr ⟨w0, n, wt r1 r2⟩
    · exact .inr hn

theorem addTask (tr : ∀ t, RT t t) (wr : ∀ w, RW w w) {t : Task} (hn : NT t) :
    GFrN RT RW NT NW s { s with tasks := s.tasks ++ [t] } := by
  refine ⟨fun t' ht' => ?_, fun _ wk h => .inl ⟨wk, h, wr wk⟩⟩
  rcases List.mem_append.mp ht' with e | e
  · exact .inl ⟨t', e, tr t'⟩
  · cases List.mem_singleton.mp e; exact .inr ⟨t, hn, tr t⟩

theorem addWorker (tr : ∀ t, RT t t) (wr : ∀ w, RW w w) {w : Worker} (hn : NW w) :
    GFrN RT RW NT NW s { s with workers := s.workers ++ [w] } := by
  refine ⟨fun t' ht' => .inl ⟨t', ht', tr t'⟩, fun x wk' hx => ?_⟩
  rcases find_append _ _ _ hx with e | rfl
  · exact .inl ⟨wk', e, wr wk'⟩
  · exact .inr ⟨wk', hn, wr wk'⟩

end GFrN

/-- the descent of an operation that erases no task and appends the tasks `new` -/
structure DescN (RT : Task → Task → Prop) (RW : Worker → Worker → Prop) (NT : Task → Prop) (new : List TaskId)
    (s s' : State) : Prop where
  fr : GFrN (Star RT) (Star RW) NT (fun _ => False) s s'
  rqs : s'.rqs = s.rqs
  ql : s'.queues.length = s.queues.length
  wids : s'.workers.map (·.id) = s.workers.map (·.id)
  tids : taskIds s'.tasks = taskIds s.tasks ++ new

namespace DescN
variable {RT : Task → Task → Prop} {RW : Worker → Worker → Prop} {NT NT' : Task → Prop} {l l' : List TaskId}
  {s s' a b c : State}

theorem of_keep {er : Prop} (h : Desc RT RW er s s') (hk : taskIds s'.tasks = taskIds s.tasks) : DescN RT RW NT [] s s' :=
  ⟨.of_gfr h.fr, h.frame.rqs, h.frame.ql, h.frame.wids, by rw [hk, List.append_nil]⟩

theorem of_desc (h : Desc RT RW False s s') : DescN RT RW NT [] s s' := of_keep h h.frame.keep

theorem trans (h1 : DescN RT RW NT l a b) (h2 : DescN RT RW NT l' b c) : DescN RT RW NT (l ++ l') a c :=
  ⟨h1.fr.trans Star.trans Star.trans h2.fr, h2.rqs.trans h1.rqs, h2.ql.trans h1.ql,
   h2.wids.trans h1.wids, by rw [h2.tids, h1.tids, List.append_assoc]⟩

theorem mono (h : DescN RT RW NT l s s') (hn : ∀ t, NT t → NT' t) : DescN RT RW NT' l s s' :=
  { h with fr := h.fr.mono hn fun _ e => e }

theorem sub {RT' : Task → Task → Prop} (h : DescN RT RW NT l s s') (ht : ∀ {t t'}, RT t t' → RT' t t') :
    DescN RT' RW NT l s s' :=
  { h with fr := ⟨fun t' ht' => (h.fr.t t' ht').imp (fun ⟨t, hm, r⟩ => ⟨t, hm, r.mono ht⟩) fun ⟨t0, n, r⟩ => ⟨t0, n, r.mono ht⟩,
      h.fr.w⟩ }

theorem addTask {t : Task} (hn : NT t) : DescN RT RW NT [t.id] s { s with tasks := s.tasks ++ [t] } :=
  ⟨.addTask Star.refl Star.refl hn, rfl, rfl, rfl, by simp [taskIds]⟩

end DescN

variable {RW : Worker → Worker → Prop} {er : Prop} {s s' : State}

theorem registerDeps_desc {k : Prop} {R : TaskId → TaskId → Prop} (id : TaskId) : ∀ (deps : List TaskId) (s : State),
    (∀ d ∈ deps, R d id) → Desc (TReg k R) RW True s { s with tasks := (registerDeps s.tasks id deps).1 }
  | [], s, _ => .refl s
  | d :: rest, s, hr => by
    have hrest : ∀ x ∈ rest, R x id := fun x hx => hr x (List.mem_cons_of_mem _ hx)
    simp only [registerDeps]
    cases hd : findTask s.tasks d with
    | none => exact registerDeps_desc id rest s hrest
    | some dep =>
      simp only
      have f1 : Desc (TReg k R) RW True s (s.setTask
          { dep with consumers := if dep.consumers.contains id then dep.consumers else dep.consumers ++ [id] }) := by
        by_cases hc : dep.consumers.contains id = true
        · rw [if_pos hc]; exact .putSame hd
        · rw [if_neg hc]
          exact .put hd rfl (.consume id (by rw [findTask_some_id hd]; exact hr d List.mem_cons_self) (by simpa using hc))
            (.inl trivial)
      exact f1.trans (registerDeps_desc id rest _ hrest)

def NewOf (nts : List NewTask) (t : Task) : Prop := ∃ nt ∈ nts, ∃ n kept, t = mkTask nt n kept

/-- the new task `c` names `d` as a dependency -/
def DepOf (nts : List NewTask) (d c : TaskId) : Prop := ∃ nt ∈ nts, nt.id = c ∧ d ∈ nt.deps

theorem DepOf.tail {nt : NewTask} {rest : List NewTask} {d c : TaskId} (h : DepOf rest d c) : DepOf (nt :: rest) d c := by
  obtain ⟨x, hx, e⟩ := h
  exact ⟨x, List.mem_cons_of_mem _ hx, e⟩

theorem addNewTasks_descN : ∀ (nts : List NewTask) {s : State} {r : List TaskId} {res : State × List TaskId},
    s.addNewTasks nts r = .ok res → DescN (TReg False (DepOf nts)) RW (NewOf nts) (nts.map (·.id)) s res.1
  | [], s, r, res, h => by simp only [State.addNewTasks] at h; cases h; exact .of_desc (.refl s)
  | nt :: rest, s, r, res, h => by
    obtain ⟨ts, kept, n, hreg, _, h1⟩ := addNewTasks_cons_ok h
    have f1 : Desc (TReg False (DepOf (nt :: rest))) RW True s { s with tasks := ts } := by
      have := registerDeps_desc (RW := RW) (k := False) (R := DepOf (nt :: rest)) nt.id nt.deps s
        fun d hd => ⟨nt, List.mem_cons_self, rfl, hd⟩
      rwa [hreg] at this
    have k1 : taskIds ts = taskIds s.tasks := by
      have := registerDeps_ids nt.deps s.tasks nt.id
      rwa [hreg] at this
    have hnew : NewOf (nt :: rest) (mkTask nt n kept) := ⟨nt, List.mem_cons_self, n, kept, rfl⟩
    have tail : ∀ {s2 : State} {r2 : List TaskId}, Desc (TReg False (DepOf (nt :: rest))) RW True s s2 →
        taskIds s2.tasks = taskIds s.tasks → State.addNewTasks { s2 with tasks := s2.tasks ++ [mkTask nt n kept] } rest r2 = .ok res →
        DescN (TReg False (DepOf (nt :: rest))) RW (NewOf (nt :: rest)) ((nt :: rest).map (·.id)) s res.1 := fun f2 k2 h2 =>
      ((DescN.of_keep f2 k2).trans (.addTask hnew)).trans
        (((addNewTasks_descN rest h2).mono fun t ⟨x, hx, e⟩ => ⟨x, List.mem_cons_of_mem _ hx, e⟩).sub
          (TReg.mono id fun _ _ => DepOf.tail))
    rcases h1 with ⟨_, s2, r2, ha, h2⟩ | ⟨_, h2⟩
    · exact tail (f1.trans (addReady_desc ha))
        ((addReady_desc (RT := Eq) (RW := RW) (er := False) ha).frame.keep.trans k1) h2
    · exact tail (s2 := { s with tasks := ts }) f1 k1 h2

theorem addNewTasks_tasks {nts : List NewTask} {r : List TaskId} {res : State × List TaskId}
    (h : s.addNewTasks nts r = .ok res) : ∀ t' ∈ res.1.tasks,
      (∃ t ∈ s.tasks, t'.id = t.id ∧ t'.state = t.state) ∨ (t'.id ∈ nts.map (·.id) ∧ ∃ n, t'.state = .waiting n) := by
  have same : ∀ {t t' : Task}, Star (TReg False (DepOf nts)) t t' → t'.id = t.id ∧ t'.state = t.state := fun r =>
    r.lift (R' := fun t t' : Task => t'.id = t.id ∧ t'.state = t.state) (fun _ => ⟨rfl, rfl⟩)
      (fun a b => ⟨b.1.trans a.1, b.2.trans a.2⟩) fun r => by
        cases r with
        | calm hk => exact hk.elim
        | consume => exact ⟨rfl, rfl⟩
  intro t' ht'
  rcases (addNewTasks_descN (RW := fun _ _ => False) nts h).fr.t t' ht' with ⟨t, ht, r⟩ | ⟨_, ⟨nt, hnt, n, kept, rfl⟩, r⟩
  · exact .inl ⟨t, ht, same r⟩
  · exact .inr ⟨(same r).1 ▸ List.mem_map_of_mem hnt, n, (same r).2⟩

theorem newTasks_descN {nts : List NewTask} {o : Out} (h : s.newTasks nts = .ok (s', o)) :
    DescN (TReg True (DepOf nts)) WCalm (NewOf nts) (nts.map (·.id)) s s' := by
  obtain ⟨_, s1, retracted, s2, h1, h2, rfl⟩ := newTasks_path h
  have f2 : Desc (TReg True (DepOf nts)) WCalm False s1 (ask s2) :=
    ((retract_desc (er := False) h2).sub (.calm trivial) (fun e => e) fun e => e).trans (ask_desc _)
  simpa using ((addNewTasks_descN nts h1).sub (TReg.mono False.elim fun _ _ e => e)).trans (.of_desc f2)

def Op.newIds : Op → List TaskId
  | .newTasks nts => nts.map (·.id)
  | _ => []

def Op.TOf : Op → Task → Task → Prop
  | .removeWorker w _ f .. => TLoss w (f = true) fun _ => True
  | .newTasks nts => TReg True (DepOf nts)
  | .update _ us _ => TOwn True fun id => ∃ u ∈ us, u.task? = some id
  | .retracted _ ids => TOwn False (· ∈ ids)
  | .schedule _ => TSched
  | .newWorker _ | .newRq _ | .cancel _ => TCalm

def Op.WOf : Op → Worker → Worker → Prop
  | .update .. => WOwn
  | .schedule _ => WSched
  | _ => WCalm

def Op.NewT : Op → Task → Prop
  | .newTasks nts => NewOf nts
  | _ => fun _ => False

def Op.NewW : Op → Worker → Prop
  | .newWorker w => (· = w)
  | _ => fun _ => False

def Op.newRqs : Op → List Rqv
  | .newRq rqv => [rqv]
  | _ => []

def Op.newWorkerIds : Op → List Nat
  | .newWorker w => [w.id]
  | _ => []

def Op.keeps : Op → Worker → Bool
  | .removeWorker w .. => fun x => x.id ≠ w
  | _ => fun _ => true

/-- what one operation does to the records and to the keys: every record descends, by the rewrites of the operation,
from an old or an added one; the request table, the queues and the key lists change by what the operation adds
and removes -/
structure StepDesc (op : Op) (s s' : State) : Prop where
  fr : GFrN (Star op.TOf) (Star op.WOf) op.NewT op.NewW s s'
  rqs : s'.rqs = s.rqs ++ op.newRqs
  ql : s'.queues.length = s.queues.length + op.newRqs.length
  wids : s'.workers.map (·.id) = (s.workers.filter op.keeps).map (·.id) ++ op.newWorkerIds
  tids : ∃ l, l.Sublist (taskIds s.tasks) ∧ taskIds s'.tasks = l ++ op.newIds

private theorem filter_all {α : Type} (l : List α) : l.filter (fun _ => true) = l :=
  List.filter_eq_self.mpr fun _ _ => rfl

theorem StepDesc.of_desc {op : Op} (hr : op.newRqs = []) (hw : op.newWorkerIds = []) (ht : op.newIds = [])
    (hk : op.keeps = fun _ => true) (h : Desc op.TOf op.WOf er s s') : StepDesc op s s' :=
  ⟨.of_gfr h.fr, by rw [hr, List.append_nil]; exact h.frame.rqs, by rw [hr]; exact h.frame.ql,
   by rw [hw, hk, List.append_nil, filter_all]; exact h.frame.wids,
   ⟨_, h.frame.tids, by rw [ht, List.append_nil]⟩⟩

theorem StepDesc.tsub {op : Op} (h : StepDesc op s s') (hn : op.newIds = []) :
    (taskIds s'.tasks).Sublist (taskIds s.tasks) := by
  obtain ⟨l, hl, e⟩ := h.tids
  rw [e, hn, List.append_nil]; exact hl

theorem step_desc {op : Op} {out : Out} (h : step s op = .ok (s', out)) : StepDesc op s s' := by
  cases op with
  | newWorker w =>
    simp only [step, State.newWorker] at h; cases h
    have g : GFrN (Star TCalm) (Star WCalm) (fun _ => False) (· = w) s { s with workers := s.workers ++ [w] } :=
      .addWorker Star.refl Star.refl rfl
    exact ⟨⟨g.t, g.w⟩, (List.append_nil _).symm, rfl,
      by simp [Op.keeps, Op.newWorkerIds, ask, filter_all], ⟨_, .refl _, (List.append_nil _).symm⟩⟩
  | removeWorker w reason f order rets =>
    obtain ⟨wk, _, hd⟩ := removeWorker_desc h
    exact ⟨.of_gfr (removeWorker_gfr h), by rw [hd.frame.rqs]; exact (List.append_nil _).symm, hd.frame.ql,
      by rw [hd.frame.wids]; exact (List.append_nil _).symm,
      ⟨_, hd.frame.tids, (List.append_nil _).symm⟩⟩
  | newRq rqv =>
    simp only [step] at h; cases h
    exact ⟨.of_gfr (GFrS.of_eq rfl rfl), rfl, by simp [State.newRq, Op.newRqs],
      by simp [Op.keeps, Op.newWorkerIds, State.newRq, filter_all], ⟨_, .refl _, (List.append_nil _).symm⟩⟩
  | newTasks nts =>
    have hd := newTasks_descN h
    exact ⟨hd.fr, by rw [hd.rqs]; exact (List.append_nil _).symm, hd.ql,
      by rw [hd.wids]; simp [Op.keeps, Op.newWorkerIds, filter_all], ⟨_, .refl _, hd.tids⟩⟩
  | cancel ids => exact .of_desc rfl rfl rfl rfl (cancelTasks_desc h)
  | update w us rets => exact .of_desc rfl rfl rfl rfl (taskUpdate_desc h)
  | retracted w ids => exact .of_desc rfl rfl rfl rfl (retractResponse_desc h)
  | schedule sol => exact .of_desc rfl rfl rfl rfl (schedule_desc h)

end HqModel.Core
