import HqModel.Sched.Spec
import HqModel.Lemmas.ListFacts
/-!
Counting over lists for the exchange argument of fragment F2, and `atLeast inst c p`: the number of ready tasks of
class `c` with priority at least `p` — the count the argument turns on (what must stay on the worker when the tasks
below `p` are given up), next to `above` and `total` of the batch specification.
-/
namespace HqModel.Sched

theorem filter_length_lt {α} {p q : α → Bool} {l : List α} (h : ∀ a ∈ l, p a = true → q a = true)
    {b : α} (hb : b ∈ l) (hqb : q b = true) (hpb : p b = false) :
    (l.filter p).length + 1 ≤ (l.filter q).length := by
  -- the elements counted by `p` are counted by `q` among those with `p`; `b` is counted among the others
  rw [← List.countP_eq_length_filter (p := q), List.countP_eq_countP_filter_add l q p]
  have h1 : (l.filter p).length ≤ (l.filter p).countP q := by
    rw [← List.countP_eq_length.mpr fun a ha => (List.mem_filter.mp ha).2]
    exact List.countP_mono_left fun a ha => h a (List.mem_filter.mp ha).1
  have h2 : 0 < (l.filter fun a => !p a).countP q :=
    List.countP_pos_iff.mpr ⟨b, List.mem_filter.mpr ⟨hb, by rw [hpb]; rfl⟩, hqb⟩
  exact Nat.add_le_add h1 h2

theorem exists_max {α} (f : α → Int) : ∀ {l : List α}, l ≠ [] → ∃ m ∈ l, ∀ a ∈ l, f a ≤ f m
  | [], h => absurd rfl h
  | [a], _ => ⟨a, by simp, by simp⟩
  | a :: b :: rest, _ => by
    obtain ⟨m, hm, hmax⟩ := exists_max f (l := b :: rest) (by simp)
    by_cases h : f m ≤ f a
    · refine ⟨a, by simp, fun c hc => ?_⟩
      rcases List.mem_cons.mp hc with rfl | hc
      · exact Int.le_refl _
      · exact Int.le_trans (hmax c hc) h
    · refine ⟨m, by simp [hm], fun c hc => ?_⟩
      rcases List.mem_cons.mp hc with rfl | hc
      · exact Int.le_of_lt (Int.not_le.mp h)
      · exact hmax c hc

/-- the load `f` summed over the elements with `P` is at least `cA` per element with `A` plus `cB` per element with `B`, when
`A` and `B` are disjoint, lie within `P`, and their elements weigh `cA` and `cB` -/
theorem load_ge {α} (f : α → Nat) (P A B : α → Bool) (cA cB : Nat) : ∀ (l : List α),
    (∀ a ∈ l, A a = true → P a = true ∧ f a = cA ∧ B a = false) →
    (∀ a ∈ l, B a = true → P a = true ∧ f a = cB) →
    cA * (l.filter A).length + cB * (l.filter B).length ≤ ((l.filter P).map f).sum
  | [], _, _ => by simp
  | a :: rest, hA, hB => by
    have ih := load_ge f P A B cA cB rest (fun b hb => hA b (List.mem_cons_of_mem _ hb))
      (fun b hb => hB b (List.mem_cons_of_mem _ hb))
    simp only [List.filter_cons]
    cases hA' : A a with
    | true =>
      obtain ⟨hP, hf, hB'⟩ := hA a List.mem_cons_self hA'
      simp only [hP, hB', ↓reduceIte, Bool.false_eq_true, List.length_cons, List.map_cons, List.sum_cons, hf,
        Nat.mul_add, Nat.mul_one]
      omega
    | false =>
      cases hB' : B a with
      | true =>
        obtain ⟨hP, hf⟩ := hB a List.mem_cons_self hB'
        simp only [hP, ↓reduceIte, Bool.false_eq_true, List.length_cons, List.map_cons, List.sum_cons, hf,
          Nat.mul_add, Nat.mul_one]
        omega
      | false =>
        simp only [Bool.false_eq_true, ↓reduceIte]
        split
        · simp only [List.map_cons, List.sum_cons]; omega
        · exact ih

def atLeast (inst : Instance) (c : Nat) (p : Int) : Nat :=
  (inst.tasks.filter fun t => decide (t.cls = c) && decide (p ≤ t.prio)).length

variable {inst : Instance} {c : Nat} {p q : Int}

theorem clsCount_mono {P Q : TaskInfo → Bool} (h : ∀ t ∈ inst.tasks, t.cls = c → P t = true → Q t = true) :
    (inst.tasks.filter fun t => decide (t.cls = c) && P t).length ≤
      (inst.tasks.filter fun t => decide (t.cls = c) && Q t).length :=
  List.filter_length_mono fun t ht hp => by
    simp only [Bool.and_eq_true, decide_eq_true_eq] at hp ⊢
    exact ⟨hp.1, h t ht hp.1 hp.2⟩

theorem atLeast_le_above (h : q < p) : atLeast inst c p ≤ above inst c q :=
  clsCount_mono fun _ _ _ hp => decide_eq_true (Int.lt_of_lt_of_le h (of_decide_eq_true hp))

theorem above_le_atLeast (h : p ≤ q) : above inst c q ≤ atLeast inst c p :=
  clsCount_mono fun _ _ _ hp => decide_eq_true (Int.le_of_lt (Int.lt_of_le_of_lt h (of_decide_eq_true hp)))

theorem atLeast_le_total : atLeast inst c p ≤ total inst c :=
  List.filter_length_mono fun _ _ hp => by
    simp only [Bool.and_eq_true, decide_eq_true_eq] at hp ⊢
    exact hp.1

theorem above_eq_atLeast (hq : q < p) (hmax : ∀ t ∈ inst.tasks, t.cls = c → t.prio < p → t.prio ≤ q) :
    above inst c q = atLeast inst c p :=
  Nat.le_antisymm
    (clsCount_mono fun t ht hc hp => decide_eq_true (Int.not_lt.mp fun hlt =>
      Int.not_le.mpr (of_decide_eq_true hp) (hmax t ht hc hlt)))
    (atLeast_le_above hq)

theorem exists_level_below {l : TaskInfo} (hl : l ∈ inst.tasks) (hc : l.cls = c) (hlt : l.prio < p) :
    ∃ t ∈ inst.tasks, t.cls = c ∧ t.prio < p ∧ above inst c t.prio = atLeast inst c p := by
  obtain ⟨t, ht, hmax⟩ := exists_max (fun t : TaskInfo => t.prio)
    (l := inst.tasks.filter fun t => decide (t.cls = c) && decide (t.prio < p))
    (List.ne_nil_of_mem (a := l) (by simp [List.mem_filter, hl, hc, hlt]))
  simp only [List.mem_filter, Bool.and_eq_true, decide_eq_true_eq] at ht hmax
  exact ⟨t, ht.1, ht.2.1, ht.2.2, above_eq_atLeast ht.2.2 fun t' ht' hc' hp' => hmax t' ⟨ht', hc', hp'⟩⟩

end HqModel.Sched
