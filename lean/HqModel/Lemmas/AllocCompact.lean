import HqModel.Lemmas.Alloc2Tight
import HqModel.Lemmas.AllocAdmit
/-!
Entries that go through the group solver: every group set the model accepts as solver answer contains the amount,
hence the claim inside it does not stop (`claimWithMask_nostop`); and when the admission test passes, the MILP is
feasible, so `group_solver(..).unwrap()` in `claim_resources` does not fail. From these: `claim_resources` /
`try_allocate` do not stop once the admission test does not.
-/
namespace HqModel.Alloc

theorem feasible_scatterOk {c : CState} {gs : List Group} (h : GroupsLink c gs) {amount : Nat} {S : List Nat}
    (hf : (entryLp c amount).feasible S = true) :
    (∀ p ∈ S, p < gs.length) ∧ S.Nodup ∧ ScatterOk gs S (amount / FPU) (amount % FPU) := by
  obtain ⟨hr, hpw, hc⟩ := (feasible_iff_has c amount S).mp hf
  exact ⟨h.len ▸ hr, hpw.imp (fun hab => Nat.ne_of_lt hab), h.scatterOk hc⟩

theorem claimWithMask_nostop {c : CState} {gs : List Group} (h : GroupsLink c gs) {full : Nat} {e : Entry}
    {S : List Nat} {pick : Option Nat} (hrel : e.policy.relevantForCoupling = true)
    (htight : (e.policy = .tight ∨ e.policy = .forceTight) → GVals gs ∧ 0 < e.amount)
    (hf : (entryLp c e.amount).feasible S = true) : NoStop ((Pool.groups full gs).claimWithMask e S pick) := by
  obtain ⟨hP, hnd, hok⟩ := feasible_scatterOk h hf
  have hsc : NoStop (claimScatter e.amount gs (some S) pick) := claimScatter_nostop hP hnd hok
  have hti := fun ht => claimTight_nostop (pick := pick) (htight ht).2 (htight ht).1 hP hnd hok
  intro er herr
  cases hpe : e.policy with
  | scatter | all => simp [hpe, Policy.relevantForCoupling] at hrel
  | compact | forceCompact =>
    simp only [Pool.claimWithMask, hpe] at herr
    split at herr
    · rename_i er' hc
      exact hsc er (Except.error.inj herr ▸ hc)
    · cases herr
  | tight | forceTight =>
    simp only [Pool.claimWithMask, hpe] at herr
    split at herr
    · rename_i er' hc
      exact hti (by simp [hpe]) er (Except.error.inj herr ▸ hc)
    · cases herr

theorem admitted_feasible {c : CState} {amount : Nat} (hlt : ∀ g ∈ c, ∀ kv ∈ g.fracs, kv.2 < FPU)
    (hadm : amount ≤ c.maxAlloc) : (entryLp c amount).feasible (List.range c.length) = true :=
  (feasible_iff_has c amount _).mpr
    ⟨fun _ hp => List.mem_range.mp hp, List.pairwise_lt_range, (le_maxAlloc_iff_has hlt amount).mp hadm⟩

theorem range'_mem_subsetsFrom (i n : Nat) : List.range' i n ∈ subsetsFrom i n := by
  induction n generalizing i with
  | zero => simp [subsetsFrom]
  | succ n ih =>
    simp only [subsetsFrom, List.range'_succ, List.mem_append, List.mem_map]
    exact .inr ⟨_, ih (i + 1), rfl⟩

theorem range_mem_allSubsets (n : Nat) : List.range n ∈ allSubsets n := by
  rw [List.range_eq_range']
  exact range'_mem_subsetsFrom 0 n

theorem maxInt?_ne_none {l : List Int} (h : l ≠ []) : maxInt? l ≠ none := by
  cases l with
  | nil => exact absurd rfl h
  | cons x xs =>
    simp only [maxInt?]
    split <;> simp

theorem foldr_feasible_ne_nil (es : List (Nat × EntryLp))
    (h : ∀ e ∈ es, ∃ S ∈ allSubsets e.2.coefs.length, e.2.feasible S = true) :
    es.foldr (fun e acc =>
      let fs := (allSubsets e.2.coefs.length).filter e.2.feasible
      fs.flatMap (fun s => acc.map (s :: ·))) [[]] ≠ [] := by
  induction es with
  | nil => simp
  | cons e es ih =>
    simp only [List.foldr_cons]
    obtain ⟨S, hS, hf⟩ := h e (by simp)
    have hrest := ih (fun e' he' => h e' (List.mem_cons_of_mem _ he'))
    intro hnil
    rw [List.flatMap_eq_nil_iff] at hnil
    have := hnil S (List.mem_filter.mpr ⟨hS, hf⟩)
    simp only [List.map_eq_nil_iff] at this
    exact hrest this

theorem optimum_ne_none {lp : Lp} (h : ∀ e ∈ lp.entries, ∃ S ∈ allSubsets e.2.coefs.length, e.2.feasible S = true) :
    lp.optimum ≠ none := by
  unfold Lp.optimum
  apply maxInt?_ne_none
  intro hnil
  exact foldr_feasible_ne_nil lp.entries h (List.map_eq_nil_iff.mp hnil)

theorem claimPlain_untouched {picks : Choices} {pools pools' : List Pool} {rq : Request} {al al' : Allocation}
    (h : claimPlain picks pools rq al = .ok (pools', al')) (r : Nat)
    (hskip : ∀ e ∈ rq, e.rid = r → ∀ pool, pools[r]? = some pool →
      (pool.isGroups && e.policy.relevantForCoupling) = true) : pools'[r]? = pools[r]? := by
  induction rq generalizing pools al with
  | nil =>
    simp only [claimPlain, Except.ok.injEq, Prod.mk.injEq] at h
    rw [h.1]
  | cons e es ih =>
    simp only [claimPlain] at h
    split at h
    · cases h
    · rename_i pool hp
      have hskip' : ∀ pools₁ : List Pool, pools₁[r]? = pools[r]? → ∀ e' ∈ es, e'.rid = r → ∀ pool',
          pools₁[r]? = some pool' → (pool'.isGroups && e'.policy.relevantForCoupling) = true := by
        intro pools₁ hsame e' he' hr pool' hp'
        exact hskip e' (List.mem_cons_of_mem _ he') hr pool' (by rw [← hsame]; exact hp')
      split at h
      · exact ih h (hskip' pools rfl)
      · rename_i hns
        split at h
        · cases h
        · rename_i pool' ra hc
          have hne : e.rid ≠ r := by
            intro heq
            apply hns
            exact hskip e (by simp) heq pool (by rw [← heq]; exact hp)
          have hsame : (setPool pools e.rid pool')[r]? = pools[r]? := by
            simp only [setPool]
            rw [List.getElem?_set_ne hne]
          rw [ih h (hskip' _ hsame), hsame]

theorem claimCoupled_nostop {picks : Choices} {pools : List Pool} {es : List Entry} {sets : List (List Nat)}
    {al : Allocation} (hnd : (es.map (·.rid)).Nodup)
    (h : ∀ x ∈ es.zip sets, ∃ pool : Pool, pools[x.1.rid]? = some pool ∧
      NoStop (pool.claimWithMask x.1 x.2 (picks.pick x.1.rid))) :
    NoStop (claimCoupled picks pools es sets al) := by
  induction es generalizing pools sets al with
  | nil => simp only [claimCoupled]; exact NoStop.ok _
  | cons e es ih =>
    cases sets with
    | nil => simp only [claimCoupled]; exact NoStop.ok _
    | cons S sets =>
      obtain ⟨hne, hnd'⟩ := List.nodup_cons.mp hnd
      obtain ⟨pool, hp, hcl⟩ := h (e, S) (by simp)
      simp only [claimCoupled, hp]
      cases hr : pool.claimWithMask e S (picks.pick e.rid) with
      | error er =>
        intro e' he'
        simp only [Except.error.injEq] at he'
        subst he'
        exact hcl _ hr
      | ok v =>
        obtain ⟨pool', ra⟩ := v
        dsimp only
        apply ih hnd'
        intro x hx
        obtain ⟨pool₂, hp₂, hcl₂⟩ := h x (List.mem_cons_of_mem _ hx)
        have hxe : x.1 ∈ es := (List.of_mem_zip hx).1
        have hrid : x.1.rid ≠ e.rid := by
          intro heq
          apply hne
          exact List.mem_map.mpr ⟨x.1, hxe, heq⟩
        refine ⟨pool₂, ?_, hcl₂⟩
        simp only [setPool]
        rw [List.getElem?_set_ne (fun h' => hrid h'.symm)]
        exact hp₂

theorem coupled_nodup {pools : List Pool} {rq : Request} (hnd : (rq.map (·.rid)).Nodup) :
    ((coupledEntries pools rq).map (·.rid)).Nodup := by
  unfold coupledEntries
  exact hnd.sublist (List.filter_sublist.map _)

theorem lp_optimum_ne_none {free : List CState} {coupled : List Entry} {ws : List Weight}
    (h : ∀ e ∈ coupled, ∃ c, free[e.rid]? = some c ∧ (∀ g ∈ c, ∀ kv ∈ g.fracs, kv.2 < FPU) ∧
      e.amount ≤ c.maxAlloc) : (mkLp free coupled ws).optimum ≠ none := by
  apply optimum_ne_none
  intro x hx
  simp only [mkLp, List.mem_map] at hx
  obtain ⟨e, he, rfl⟩ := hx
  obtain ⟨c, hc, hvals, hle⟩ := h e he
  have hfe := admitted_feasible hvals hle
  refine ⟨List.range c.length, ?_, ?_⟩
  · simp only [hc, Option.getD_some, entryLp_coefs_length]
    exact range_mem_allSubsets _
  · simpa only [hc, Option.getD_some] using hfe

theorem eq_of_rid_eq {rq : Request} (hnd : (rq.map (·.rid)).Nodup) {e e' : Entry} (he : e ∈ rq) (he' : e' ∈ rq)
    (h : e.rid = e'.rid) : e = e' := by
  induction rq with
  | nil => cases he
  | cons x xs ih =>
    obtain ⟨hx, hxs⟩ := List.nodup_cons.mp hnd
    rcases List.mem_cons.mp he with h1 | h1 <;> rcases List.mem_cons.mp he' with h2 | h2
    · rw [h1, h2]
    · subst h1
      exact absurd (List.mem_map.mpr ⟨e', h2, h.symm⟩) hx
    · subst h2
      exact absurd (List.mem_map.mpr ⟨e, h1, h⟩) hx
    · exact ih hxs h1 h2

theorem coupled_info {pools : List Pool} {rq : Request} {e : Entry} (he : e ∈ coupledEntries pools rq) :
    e ∈ rq ∧ e.policy.relevantForCoupling = true ∧ ∃ full gs, pools[e.rid]? = some (.groups full gs) := by
  obtain ⟨hin, hc⟩ := List.mem_filter.mp he
  cases hp : pools[e.rid]? with
  | none => simp [hp] at hc
  | some pool =>
    cases pool with
    | groups full gs =>
      simp only [hp, Option.map_some, Option.getD_some, Pool.isGroups, Bool.true_and] at hc
      exact ⟨hin, hc, full, gs, rfl⟩
    | _ => simp [hp, Pool.isGroups] at hc

theorem admitted_le {s : State} {e : Entry} {pool : Pool} {c : CState} (hp : s.pools[e.rid]? = some pool)
    (hc : s.concise[e.rid]? = some c) (hrel : e.policy.relevantForCoupling = true)
    (hadm : entryHasResources s.pools s.concise e = true) : e.amount ≤ c.maxAlloc := by
  have := admitted_amount hp hc hadm
  cases hpe : e.policy <;> simp_all [Entry.amountOr, Policy.relevantForCoupling]

theorem groupSolver_nostop {free : List CState} {coupled : List Entry} {ws : List Weight} (r : Option SolRec)
    (hw : (mkLp free coupled ws).weightOob = false) : NoStop (groupSolver free coupled ws r) := by
  intro e he
  unfold groupSolver at he
  dsimp only at he
  rw [hw] at he
  simp only [Bool.false_eq_true, if_false] at he
  split at he
  · cases he
  · cases he; rfl

theorem hasResources_true {s : State} {rq : Request} {sols rest : List (Option SolRec)} {cache : List (Request × Int)}
    (h : hasResources s rq sols = .ok (true, cache, rest)) :
    ∀ e ∈ rq, entryHasResources s.pools s.concise e = true := by
  have hw := hasResources_with h
  unfold admitWith at hw
  by_cases h1 : (!rq.all (entryHasResources s.pools s.concise)) = true
  · rw [if_pos h1] at hw
    simp at hw
  · apply List.all_eq_true.mp
    simpa using h1

theorem concise_lp_feasible {U} {s : State} (hinv : Inv2 U s) {rq : Request}
    (hentries : ∀ e ∈ rq, entryHasResources s.pools s.concise e = true) :
    (mkLp s.concise (coupledEntries s.pools rq) s.weights).optimum ≠ none := by
  apply lp_optimum_ne_none
  intro e he
  obtain ⟨hin, hrel, full, gs, hp⟩ := coupled_info he
  obtain ⟨c, hc⟩ := exists_get (hinv.concise.len ▸ lt_length_of_getElem? hp : e.rid < s.concise.length)
  exact ⟨c, hc, concise_vals_lt hinv e.rid _ c hp hc, admitted_le hp hc hrel (hentries e hin)⟩

theorem sol_feasible {free : List CState} {coupled : List Entry} {ws : List Weight} {r : Option SolRec} {sol : SolRec}
    (hgs : groupSolver free coupled ws r = .ok (some sol)) {x : Entry × List Nat} (hx : x ∈ coupled.zip sol.sets) :
    (entryLp (free[x.1.rid]?.getD []) x.1.amount).feasible x.2 = true := by
  obtain ⟨-, hsolf, -, -⟩ := groupSolver_some hgs
  simp only [Lp.feasible, Bool.and_eq_true, List.all_eq_true] at hsolf
  obtain ⟨k, hk⟩ := List.getElem?_of_mem hx
  simp only [List.getElem?_zip_eq_some] at hk
  have hmem : ((x.1.rid, entryLp (free[x.1.rid]?.getD []) x.1.amount), x.2) ∈
      (mkLp free coupled ws).entries.zip sol.sets := by
    apply List.mem_of_getElem? (i := k)
    simp only [mkLp, List.getElem?_zip_eq_some, List.getElem?_map, hk.1, Option.map_some, hk.2, and_self]
  exact hsolf.2 _ hmem

theorem claimResources_nostop_core {U} {s : State} (hinv : Inv2 U s) {rq : Request} {ch : Choices}
    {sols : List (Option SolRec)} (hnd : (rq.map (·.rid)).Nodup) (hcap : ∀ e ∈ rq, s.pools[e.rid]? ≠ some .empty)
    (hw : (mkLp s.concise (coupledEntries s.pools rq) s.weights).weightOob = false)
    (hentries : ∀ e ∈ rq, entryHasResources s.pools s.concise e = true)
    (htight : ∀ e ∈ coupledEntries s.pools rq, (e.policy = .tight ∨ e.policy = .forceTight) →
      (∀ full gs, s.pools[e.rid]? = some (.groups full gs) → GVals gs) ∧ 0 < e.amount) :
    NoStop (claimResources s rq ch sols) := by
  have hclaims : NoStop (claimPlain ch s.pools rq []) := by
    apply claimPlain_nostop hnd
    intro e he
    have hadm := hentries e he
    cases hp : s.pools[e.rid]? with
    | none => simp [entryHasResources, hp] at hadm
    | some pool =>
      refine ⟨pool, rfl, ?_⟩
      cases pool with
      | empty => exact absurd hp (hcap e he)
      | indices full g => exact .inr (claim_indices_nostop (admitted_has hinv hp (.inl rfl) hadm))
      | sum full free => exact .inr (claim_sum_nostop (admitted_sum hinv hp hadm))
      | groups full gs =>
        cases hpe : e.policy with
        | all => exact .inr (claim_groups_all_nostop hpe)
        | scatter => exact .inr (claim_groups_scatter_nostop hinv hp hpe hadm)
        | compact => exact .inl (by simp [Pool.isGroups, Policy.relevantForCoupling])
        | tight => exact .inl (by simp [Pool.isGroups, Policy.relevantForCoupling])
        | forceCompact => exact .inl (by simp [Pool.isGroups, Policy.relevantForCoupling])
        | forceTight => exact .inl (by simp [Pool.isGroups, Policy.relevantForCoupling])
  intro er hcl
  unfold claimResources at hcl
  cases hcp : claimPlain ch s.pools rq [] with
  | error er'' =>
    rw [hcp] at hcl
    simp only [Except.error.injEq] at hcl
    subst hcl
    exact hclaims _ hcp
  | ok v =>
    obtain ⟨pools1, al1⟩ := v
    rw [hcp] at hcl
    dsimp only at hcl
    by_cases hce : (coupledEntries s.pools rq).isEmpty = true
    · rw [if_pos hce] at hcl; cases hcl
    · rw [if_neg hce] at hcl
      cases sols with
      | nil => simp at hcl; exact hcl.symm
      | cons r sols' =>
        dsimp only at hcl
        cases hgs : groupSolver s.concise (coupledEntries s.pools rq) s.weights r with
        | error e₁ =>
          rw [hgs] at hcl
          simp only [Except.error.injEq] at hcl
          subst hcl
          exact groupSolver_nostop r hw _ hgs
        | ok o =>
          rw [hgs] at hcl
          cases o with
          | none => exact absurd (groupSolver_none hgs).2 (concise_lp_feasible hinv hentries)
          | some sol =>
            dsimp only at hcl
            have hcc : NoStop (claimCoupled ch pools1 (coupledEntries s.pools rq) sol.sets al1) := by
              apply claimCoupled_nostop (coupled_nodup hnd)
              intro x hx
              have hxe : x.1 ∈ coupledEntries s.pools rq := (List.of_mem_zip hx).1
              obtain ⟨hin, hrel, full, gs, hp⟩ := coupled_info hxe
              -- the first loop skipped every entry on this resource: the pool is still the one of the state
              have hsame : pools1[x.1.rid]? = s.pools[x.1.rid]? := by
                apply claimPlain_untouched hcp
                intro e' he' hr' pool' hp'
                obtain rfl : pool' = .groups full gs := Option.some.inj (hp'.symm.trans hp)
                obtain rfl : e' = x.1 := eq_of_rid_eq hnd he' hin hr'
                simp [Pool.isGroups, hrel]
              obtain ⟨c, hc⟩ := exists_get (hinv.concise.len ▸ lt_length_of_getElem? hp : x.1.rid < s.concise.length)
              have hfx := sol_feasible hgs hx
              rw [hc] at hfx
              exact ⟨.groups full gs, hsame ▸ hp, claimWithMask_nostop (pool_link hinv hp hc (.inr rfl)) hrel
                (fun ht => ⟨(htight x.1 hxe ht).1 full gs hp, (htight x.1 hxe ht).2⟩) hfx⟩
            cases hcr : claimCoupled ch pools1 (coupledEntries s.pools rq) sol.sets al1 with
            | error e₂ =>
              rw [hcr] at hcl
              simp only [Except.error.injEq] at hcl
              subst hcl
              exact hcc _ hcr
            | ok v => rw [hcr] at hcl; cases hcl

theorem tryAllocate_nostop_core {U} {s : State} (hinv : Inv2 U s) (hU : ∀ r g, (U r g).Nodup) (h : Nat)
    (rq : Request) (ch : Choices) (hhas : NoStop (hasResources s rq ch.sols))
    (hclaim : ∀ {cache sols}, hasResources s rq ch.sols = .ok (true, cache, sols) →
      NoStop (claimResources s rq ch sols)) : NoStop (tryAllocate s h rq ch) := by
  intro er herr
  unfold tryAllocate at herr
  cases hhr : hasResources s rq ch.sols with
  | error e =>
    rw [hhr] at herr
    simp only [Except.error.injEq] at herr
    subst herr
    exact hhas _ hhr
  | ok v =>
    obtain ⟨b, cache, sols1⟩ := v
    rw [hhr] at herr
    cases b with
    | false =>
      cases sols1 with
      | nil => simp at herr
      | cons x xs => simp at herr; exact herr.symm
    | true =>
      dsimp only at herr
      cases hcl : claimResources s rq ch sols1 with
      | error e =>
        rw [hcl] at herr
        simp only [Except.error.injEq] at herr
        subst herr
        exact hclaim hhr _ hcl
      | ok v =>
        obtain ⟨pools', al, sols'⟩ := v
        rw [hcl] at herr
        obtain ⟨cs', hcr⟩ := tryAllocate_after_claim hinv hU hcl
        cases sols' with
        | nil => simp [hcr] at herr
        | cons x xs => simp at herr; exact herr.symm

theorem hasResources_nonforced {s : State} {rq : Request} (sols : List (Option SolRec))
    (hnf : (coupledEntries s.pools rq).all (fun e => !e.policy.forced) = true) :
    hasResources s rq sols = .ok (rq.all (entryHasResources s.pools s.concise), s.cache, sols) := by
  unfold hasResources
  cases hall : rq.all (entryHasResources s.pools s.concise) with
  | false => rfl
  | true =>
    simp only [Bool.not_true, Bool.false_eq_true, if_false]
    rw [if_pos hnf]

theorem tryAllocate_nostop_scatter {U} {s : State} (hinv : Inv2 U s) (hU : ∀ r g, (U r g).Nodup) (h : Nat)
    (rq : Request) (ch : Choices) (hnd : (rq.map (·.rid)).Nodup)
    (hplain : ∀ e ∈ rq, ∀ full gs, s.pools[e.rid]? = some (.groups full gs) →
      e.policy = .all ∨ e.policy = .scatter)
    (hcap : ∀ e ∈ rq, s.pools[e.rid]? ≠ some .empty) : NoStop (tryAllocate s h rq ch) := by
  have hnil : coupledEntries s.pools rq = [] := by
    rw [List.eq_nil_iff_forall_not_mem]
    intro e he
    obtain ⟨hin, hrel, full, gs, hp⟩ := coupled_info he
    rcases hplain e hin full gs hp with h1 | h1 <;> simp [h1, Policy.relevantForCoupling] at hrel
  have hnf : (coupledEntries s.pools rq).all (fun e => !e.policy.forced) = true := by rw [hnil]; rfl
  refine tryAllocate_nostop_core hinv hU h rq ch (hasResources_nonforced ch.sols hnf ▸ NoStop.ok _)
    (fun hhr => claimResources_nostop_core hinv hnd hcap ?_ (hasResources_true hhr) (by simp [hnil]))
  rw [hnil]
  simp [mkLp, Lp.weightOob, weightTerm, posOf]

end HqModel.Alloc
