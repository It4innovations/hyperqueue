import HqModel.Lemmas.SysWFrame
import HqModel.Lemmas.CoreOut
/-!
From the frame relation `FrW` to the VIEWS of the composed invariant: what `view c w t` may become in an operation in
which worker `w` does not release `t` (`keepView_of`, `quietView_of`) — through `StDesc` / `WKeep`, the parts of the
frame that concern one task id / the workers that exist before and after. `cfor w t msgs`: the `ComputeTasks` items for
`t` in the messages for `w`. `Fgn` / `Ownd e`: what a server action does to ONE pair `(w, t)`, the form in which every
operation enters the pipeline invariants of `Lemmas/SysWPipeX.lean`. `Rslv`: the retraction of ONE task is resolved, the
specification shared by the loops of `on_retract_response` and `on_remove_worker`.
-/
namespace HqModel.SysW
open HqModel HqModel.Core

theorem mem_ids_iff_stOf {ts : List Task} {t : TaskId} : t ∈ taskIds ts ↔ stOf ts t ≠ none := by
  rw [mem_ids_iff]; unfold stOf; cases findTask ts t <;> simp

theorem view_eq (c : Core.State) (w : Nat) (t : TaskId) :
    view c w t = match stOf c.tasks t with
      | none => .hot
      | some st => viewSt c w t st := by
  unfold view stOf State.task?
  cases findTask c.tasks t <;> rfl

theorem view_none {c : Core.State} {w : Nat} {t : TaskId} (h : stOf c.tasks t = none) : view c w t = .hot := by
  rw [view_eq, h]

theorem view_some {c : Core.State} {w : Nat} {t : TaskId} {st : TS} (h : stOf c.tasks t = some st) :
    view c w t = viewSt c w t st := by
  rw [view_eq, h]

theorem viewSt_quiet_iff {c : Core.State} {w : Nat} {t : TaskId} {st : TS} :
    viewSt c w t st = .quiet ↔ owner st ≠ some w := by
  have one : ∀ (x : Nat) (v : V), v ≠ .quiet → ((if x = w then v else .quiet) = V.quiet ↔ some x ≠ some w) := by
    intro x v hv
    by_cases e : x = w <;> simp [e, hv]
  cases st with
  | runningMN l =>
    cases l with
    | nil => simp [viewSt, owner]
    | cons x xs => exact one x _ (by split <;> simp)
  | waiting n => simp [viewSt, owner]
  | finished => simp [viewSt, owner]
  | assigned x v => exact one x _ (by simp)
  | prefilled x => exact one x _ (by simp)
  | retracting x => exact one x _ (by simp)
  | running x v => exact one x _ (by simp)

theorem owner_of_viewSt_ne_quiet {c : Core.State} {w : Nat} {t : TaskId} {st : TS} (h : viewSt c w t st ≠ .quiet) :
    owner st = some w := Classical.not_not.mp fun hn => h (viewSt_quiet_iff.mpr hn)

theorem owner_of_view_ne_quiet {c : Core.State} {w : Nat} {t : TaskId} (hv : view c w t ≠ .quiet) {st : TS}
    (hs : stOf c.tasks t = some st) : owner st = some w :=
  owner_of_viewSt_ne_quiet (view_some hs ▸ hv)

theorem view_quiet_of_owner {c : Core.State} {w : Nat} {t : TaskId} {st : TS} (h : stOf c.tasks t = some st)
    (ho : owner st ≠ some w) : view c w t = .quiet := by
  rw [view_some h]; exact viewSt_quiet_iff.mpr ho

/-- a task Assigned to `tg` with one item sent to `tg`: `asg` with that item for `tg`, `quiet` with nothing for the others -/
theorem view_assigned {c : Core.State} {t : TaskId} {tg rv : Nat} (h : stOf c.tasks t = some (.assigned tg rv)) (w : Nat) :
    (view c w t = .quiet ∧ (if tg = w then [some rv] else []) = []) ∨
    ∃ rv', view c w t = .asg rv' ∧ (if tg = w then [some rv] else []) = [some rv'] := by
  rw [view_some h]
  by_cases htg : tg = w
  · subst htg; exact .inr ⟨rv, by simp [viewSt], by simp⟩
  · exact .inl ⟨by simp [viewSt, htg], by simp [htg]⟩

theorem mnStarted_iff {c : Core.State} {w : Nat} {t : TaskId} :
    mnStarted c w t = true ↔ ∃ wk r, c.worker? w = some wk ∧ wk.assign = .mn t r true := by
  unfold mnStarted
  constructor
  · intro h
    split at h
    · rename_i wk hw
      split at h
      · rename_i t' r ha
        exact ⟨wk, r, hw, by rw [ha]; simp at h; rw [h]⟩
      · cases h
    · cases h
  · rintro ⟨wk, r, hw, ha⟩
    rw [hw]; simp [ha]

/-- every worker of a RunningMultiNode task is in a multi-node assignment for it -/
def MnOk (c : Core.State) : Prop :=
  ∀ t l, stOf c.tasks t = some (.runningMN l) → ∀ x ∈ l, ∃ wk r st, c.worker? x = some wk ∧ wk.assign = .mn t r st

theorem MnOk.of_invF {c : Core.State} (hi : InvF c) : MnOk c := by
  intro t l hs x hx
  obtain ⟨task, hf, hst⟩ := stOf_some hs
  obtain ⟨wk, r, st, h1, h2⟩ := hi.mn_complete (t := t) (task := task) hf hst hx
  exact ⟨wk, r, st, h1, h2⟩

theorem tfrw_stOf {m : Mode} {ts ts' : List Task} (f : TFrW m ts ts') (hn : (taskIds ts).Nodup) {t : TaskId} {st' : TS}
    (h : stOf ts' t = some st') : ∃ st, stOf ts t = some st ∧ SOk (fun x => m.rel x t) (m.acq t) st st' := by
  obtain ⟨task', hf, rfl⟩ := stOf_some h
  obtain ⟨task, hm, r⟩ := f task' (findTask_some_mem hf)
  have hid : task.id = t := by rw [← r.id, findTask_some_id hf]
  refine ⟨task.state, ?_, hid ▸ r.st⟩
  have := stOf_of_mem hn hm
  rw [hid] at this
  exact this

theorem tfrw_stOf_none {m : Mode} {ts ts' : List Task} (f : TFrW m ts ts') {t : TaskId} (h : stOf ts t = none) :
    stOf ts' t = none := by
  cases h' : stOf ts' t with
  | none => rfl
  | some st' =>
    obtain ⟨task', hf, _⟩ := stOf_some h'
    obtain ⟨task, hm, r⟩ := f task' (findTask_some_mem hf)
    have hid : task.id = t := by rw [← r.id, findTask_some_id hf]
    exact absurd h (mem_ids_iff_stOf.mp (hid ▸ List.mem_map_of_mem (f := (·.id)) hm))

/-- the part of the task frame that concerns ONE task id -/
structure StDesc (m : Mode) (c c' : Core.State) (t : TaskId) : Prop where
  some : ∀ st', stOf c'.tasks t = some st' → ∃ st, stOf c.tasks t = some st ∧ SOk (fun x => m.rel x t) (m.acq t) st st'
  none : stOf c.tasks t = none → stOf c'.tasks t = none

/-- the part of the worker frame the views need: a worker that exists before and after -/
def WKeep (sch : Prop) (c c' : Core.State) : Prop :=
  ∀ x wk wk', c.worker? x = some wk → c'.worker? x = some wk' → WRelW sch wk wk'

theorem StDesc.of_frw {m : Mode} {c c' : Core.State} (f : FrW m c c') (hn : (taskIds c.tasks).Nodup) (t : TaskId) :
    StDesc m c c' t :=
  ⟨fun _ hs' => tfrw_stOf f.t hn hs', fun h => tfrw_stOf_none f.t h⟩

theorem WKeep.of_frw {m : Mode} {c c' : Core.State} (f : FrW m c c') : WKeep m.sch c c' := by
  intro x wk wk' hw hw'
  obtain ⟨wk0, hw0, rel⟩ := f.w x wk' hw'
  have : wk0 = wk := by
    have := hw0.symm.trans hw
    cases this; rfl
  exact this ▸ rel

theorem StDesc.refl (m : Mode) (c : Core.State) (t : TaskId) : StDesc m c c t :=
  ⟨fun st' h => ⟨st', h, SOk.refl _ _ _⟩, fun h => h⟩

/-- the `started` flag of a multi-node assignment survives as long as the assignment does -/
theorem mnStarted_keep {sch : Prop} {c c' : Core.State} (fw : WKeep sch c c') (hm' : MnOk c') {w : Nat} {t : TaskId}
    {l' : List Nat} (hs' : stOf c'.tasks t = some (.runningMN (w :: l'))) (h : mnStarted c w t = true) :
    mnStarted c' w t = true := by
  obtain ⟨wk, r, hw, ha⟩ := mnStarted_iff.mp h
  obtain ⟨wk', r', st', hw', ha'⟩ := hm' t _ hs' w List.mem_cons_self
  have rel := fw w wk wk' hw hw'
  rcases rel.mn t r' st' ha' with ⟨f'', e, hf⟩ | ⟨_, A, F, P, e⟩
  · rw [ha] at e
    cases e
    exact mnStarted_iff.mpr ⟨wk', r, hw', by rw [ha', hf rfl]⟩
  · rw [ha] at e; cases e

/-- the items for `t` in the messages for `w` -/
def cfor (w : Nat) (t : TaskId) (msgs : List Core.Msg) : List (Option Nat) := comps t (msgs.filterMap (msgFor w))

theorem comps_append (t : TaskId) (a b : List S2W) : comps t (a ++ b) = comps t a ++ comps t b := by
  simp [comps]

theorem pend_append (t : TaskId) (a b : List W2S) : pend t (a ++ b) = pend t a ++ pend t b := by
  simp [pend]

theorem cfor_nil (w : Nat) (t : TaskId) : cfor w t [] = [] := rfl

theorem cfor_append (w : Nat) (t : TaskId) (a b : List Core.Msg) : cfor w t (a ++ b) = cfor w t a ++ cfor w t b := by
  simp [cfor, comps_append]

theorem cfor_cons (w : Nat) (t : TaskId) (m : Core.Msg) (ms : List Core.Msg) :
    cfor w t (m :: ms) = cfor w t [m] ++ cfor w t ms := cfor_append w t [m] ms

theorem cfor_noCompute {w : Nat} {t : TaskId} {msgs : List Core.Msg} (h : NoCompute msgs) : cfor w t msgs = [] := by
  induction msgs with
  | nil => rfl
  | cons m ms ih =>
    rw [cfor_cons, ih (fun x hx => h x (List.mem_cons_of_mem _ hx)), List.append_nil]
    have := h m List.mem_cons_self
    cases m with
    | compute w' items => cases this
    | retract w' ids => by_cases hw : w' = w <;> simp [cfor, msgFor, hw, comps, compsOfMsg]
    | cancel w' ids => by_cases hw : w' = w <;> simp [cfor, msgFor, hw, comps, compsOfMsg]

theorem cfor_compute (w : Nat) (t : TaskId) (w' : Nat) (items : List (TaskId × Nat × Option Nat × List Nat)) :
    cfor w t [.compute w' items] = if w' = w then (items.filter fun it => it.1 = t).map (·.2.2.1) else [] := by
  by_cases hw : w' = w <;> simp [cfor, msgFor, hw, comps, compsOfMsg]

theorem cfor_single (w' : Nat) (t t0 : TaskId) (target inst : Nat) (orv : Option Nat) (nodes : List Nat) :
    cfor w' t [.compute target [(t0, inst, orv, nodes)]] = if target = w' ∧ t0 = t then [orv] else [] := by
  rw [cfor_compute]
  by_cases h1 : target = w' <;> by_cases h2 : t0 = t <;> simp [h1, h2]

end HqModel.SysW

namespace HqModel.Core
open HqModel HqModel.SysW

/-- **a view that is not `quiet` stays or becomes `hot`** when the worker does not release the task -/
theorem keepView_of {m : Mode} {c c' : Core.State} {t : TaskId} (hd : StDesc m c c' t) (fw : WKeep m.sch c c')
    (hm' : MnOk c') (w : Nat) (hrel : ¬ m.rel w t) (hv : view c w t ≠ .quiet) :
    Foreign (view c w t) [] (view c' w t) := by
  cases hs : stOf c.tasks t with
  | none =>
    rw [view_none hs, view_none (hd.none hs)]
    exact Foreign.same _
  | some st =>
    cases hs' : stOf c'.tasks t with
    | none =>
      rw [view_none hs']
      exact Foreign.hot _ _
    | some st' =>
      obtain ⟨st0, h0, sok⟩ := hd.some st' hs'
      rw [hs] at h0
      cases h0
      rw [view_some hs] at hv ⊢
      rw [view_some hs']
      have ho := owner_of_viewSt_ne_quiet hv
      have hk := sok.keep w ho hrel
      cases st with
      | waiting n => cases ho
      | finished => cases ho
      | assigned x v =>
        cases ho
        cases hk
        simp only [viewSt, if_true]
        exact Foreign.same _
      | prefilled x =>
        cases ho
        rcases hk with rfl | rfl <;> simp only [viewSt, if_true] <;> exact Foreign.same _
      | retracting x =>
        cases ho
        cases hk
        simp only [viewSt, if_true]
        exact Foreign.same _
      | running x v =>
        cases ho
        cases hk
        simp only [viewSt, if_true]
        exact Foreign.same _
      | runningMN l =>
        cases l with
        | nil => cases ho
        | cons x xs =>
          cases ho
          obtain ⟨l', rfl⟩ := hk
          simp only [viewSt, if_true]
          by_cases hst : mnStarted c w t = true
          · rw [hst, mnStarted_keep fw hm' hs' hst]
            exact Foreign.same _
          · simp only [hst]
            by_cases hst' : mnStarted c' w t = true
            · simp only [hst', if_true]
              exact Foreign.hot _ _
            · simp only [hst']
              exact Foreign.same _

/-- **a `quiet` view stays `quiet` or becomes `hot`** unless the task may be acquired -/
theorem quietView_of {m : Mode} {c c' : Core.State} {t : TaskId} (hd : StDesc m c c' t)
    (w : Nat) (hacq : ¬ m.acq t) (hv : view c w t = .quiet) :
    view c' w t = .quiet ∨ view c' w t = .hot := by
  cases hs : stOf c.tasks t with
  | none => rw [view_none hs] at hv; cases hv
  | some st =>
    cases hs' : stOf c'.tasks t with
    | none => exact .inr (view_none hs')
    | some st' =>
      left
      obtain ⟨st0, h0, sok⟩ := hd.some st' hs'
      rw [hs] at h0
      cases h0
      rw [view_some hs] at hv
      apply view_quiet_of_owner hs'
      intro ho
      have ho0 := sok.own hacq w ho
      cases st with
      | waiting n => cases ho0
      | finished => cases ho0
      | assigned x v => cases ho0; simp [viewSt] at hv
      | prefilled x => cases ho0; simp [viewSt] at hv
      | retracting x => cases ho0; simp [viewSt] at hv
      | running x v => cases ho0; simp [viewSt] at hv
      | runningMN l =>
        cases l with
        | nil => cases ho0
        | cons x xs =>
          cases ho0
          simp only [viewSt, if_true] at hv
          split at hv <;> cases hv

theorem foreign_of {m : Mode} {c c' : Core.State} {t : TaskId} (hd : StDesc m c c' t) (fw : WKeep m.sch c c')
    (hm' : MnOk c') (w : Nat) (hrel : ¬ m.rel w t) (hacq : ¬ m.acq t) : Foreign (view c w t) [] (view c' w t) := by
  by_cases hv : view c w t = .quiet
  · rcases quietView_of hd w hacq hv with e | e
    · rw [hv, e]; exact Foreign.same _
    · rw [e]; exact Foreign.hot _ _
  · exact keepView_of hd fw hm' w hrel hv

theorem FrW.keepView {m : Mode} {c c' : Core.State} (f : FrW m c c') (hn : (taskIds c.tasks).Nodup) (hm' : MnOk c')
    (w : Nat) (t : TaskId) (hrel : ¬ m.rel w t) (hv : view c w t ≠ .quiet) :
    Foreign (view c w t) [] (view c' w t) :=
  keepView_of (StDesc.of_frw f hn t) (WKeep.of_frw f) hm' w hrel hv

theorem FrW.quietView {m : Mode} {c c' : Core.State} (f : FrW m c c') (hn : (taskIds c.tasks).Nodup)
    (w : Nat) (t : TaskId) (hacq : ¬ m.acq t) (hv : view c w t = .quiet) :
    view c' w t = .quiet ∨ view c' w t = .hot :=
  quietView_of (StDesc.of_frw f hn t) w hacq hv

theorem FrW.foreign {m : Mode} {c c' : Core.State} (f : FrW m c c') (hn : (taskIds c.tasks).Nodup) (hm' : MnOk c')
    (w : Nat) (t : TaskId) (hrel : ¬ m.rel w t) (hacq : ¬ m.acq t) : Foreign (view c w t) [] (view c' w t) :=
  foreign_of (StDesc.of_frw f hn t) (WKeep.of_frw f) hm' w hrel hacq

/-- the view depends on the state of the task and on the `started` flags of the multi-node assignments only -/
theorem view_of_mnStarted {a b : State} (hmn : ∀ x t, mnStarted b x t = mnStarted a x t) (x : Nat) (t : TaskId)
    (e : stOf b.tasks t = stOf a.tasks t) : view b x t = view a x t := by
  rw [view_eq, view_eq, e]
  cases stOf a.tasks t with
  | none => rfl
  | some st =>
    cases st with
    | runningMN l => cases l <;> simp [viewSt, hmn]
    | _ => rfl

theorem view_congr {a b : State} (hw : b.workers = a.workers) (x : Nat) (t : TaskId)
    (e : stOf b.tasks t = stOf a.tasks t) : view b x t = view a x t :=
  view_of_mnStarted (fun x t => by unfold mnStarted State.worker?; rw [hw]) x t e

theorem computeList_items (s : State) (t : TaskId) : ∀ (l : List (TaskId × Option Nat))
    (res : List (TaskId × Nat × Option Nat × List Nat)), computeList s l = .ok res →
    (res.filter fun it => it.1 = t).map (·.2.2.1) = (l.filter fun p => p.1 = t).map (·.2)
  | [], res, h => by simp only [computeList] at h; cases h; rfl
  | (id, rv) :: rest, res, h => by
    obtain ⟨task, l', hg, hl', rfl⟩ := computeList_cons_ok h
    have ih := computeList_items s t rest l' hl'
    have hid : task.id = id := findTask_some_id (getTask_spec hg)
    simp only [List.filter_cons, computeOne, hid]
    by_cases ht : id = t <;> simp [ht, ih]

theorem computeItems_items (s : State) (t : TaskId) (l : List (Nat × TaskId × Nat))
    (res : List (TaskId × Nat × Option Nat × List Nat)) (h : computeItems s l = .ok res) :
    (res.filter fun it => it.1 = t).map (·.2.2.1) = (l.filter fun it => it.2.1 = t).map fun it => some it.2.2 := by
  rw [computeItems_eq] at h
  rw [computeList_items s t _ _ h, List.filter_map, List.map_map]
  rfl

/-- The retraction of ONE task from worker `w` is resolved: `a` its state before, `b` after, `sent x` = the `ComputeTasks`
items sent to worker `x` for it, `M`: the task was among those visited. Nothing happens (`same`; all there is for a task
that is not Retracting from `w`: `Rslv.idle`); it goes back to Waiting (`requeued`); it is Assigned to its redirect target,
which gets exactly one item (`assigned`). The reactor does this in `on_retract_response` (`retractLoop`), in
`on_remove_worker` (`lostRetracting`) and, for the rejected task alone, in `task_reject`. -/
inductive Rslv (w : Nat) (M : Prop) (a b : Option TS) (sent : Nat → List (Option Nat)) : Prop
  | same (hb : b = a) (hs : ∀ x, sent x = [])
  | requeued (m : M) (ha : a = some (.retracting w)) (hb : b = some (.waiting 0)) (hs : ∀ x, sent x = [])
  | assigned (tg rv : Nat) (m : M) (ha : a = some (.retracting w)) (hb : b = some (.assigned tg rv))
      (hs : ∀ x, sent x = if tg = x then [some rv] else [])

theorem Rslv.mono {w : Nat} {M M' : Prop} {a b : Option TS} {sent : Nat → List (Option Nat)} (h : Rslv w M a b sent)
    (hm : M → M') : Rslv w M' a b sent :=
  match h with
  | .same hb hs => .same hb hs
  | .requeued m ha hb hs => .requeued (hm m) ha hb hs
  | .assigned tg rv m ha hb hs => .assigned tg rv (hm m) ha hb hs

theorem Rslv.idle {w : Nat} {M : Prop} {a b : Option TS} {sent : Nat → List (Option Nat)} (h : Rslv w M a b sent)
    (hne : a ≠ some (.retracting w)) : b = a ∧ ∀ x, sent x = [] :=
  match h with
  | .same hb hs => ⟨hb, hs⟩
  | .requeued _ ha _ _ | .assigned _ _ _ ha _ _ => (hne ha).elim

/-- a resolved task is not Retracting any more, so a second step leaves it alone -/
theorem Rslv.trans {w : Nat} {M : Prop} {a b c : Option TS} {s1 s2 : Nat → List (Option Nat)} (h1 : Rslv w M a b s1)
    (h2 : Rslv w M b c s2) : Rslv w M a c fun x => s1 x ++ s2 x := by
  rcases h1 with ⟨rfl, e1⟩ | ⟨m, ha, hb, e1⟩ | ⟨tg, rv, m, ha, hb, e1⟩
  · simpa only [e1, List.nil_append] using h2
  · obtain ⟨rfl, e2⟩ := h2.idle (hb ▸ nofun)
    exact .requeued m ha hb fun x => by rw [e1, e2]; rfl
  · obtain ⟨rfl, e2⟩ := h2.idle (hb ▸ nofun)
    exact .assigned tg rv m ha hb fun x => by rw [e1, e2, List.append_nil]

/-- the step of the loops: the visited task `t0` (Retracting from `w`) is rewritten, the items sent are for it alone -/
theorem Rslv.put {w : Nat} {ts : List Task} {task nt : Task} {t0 : TaskId} {sent : TaskId → Nat → List (Option Nat)}
    (ht : findTask ts t0 = some task) (hret : task.state = .retracting w) (hid : nt.id = task.id)
    (h0 : Rslv w True (some (.retracting w)) (some nt.state) (sent t0)) (hs : ∀ t x, t ≠ t0 → sent t x = []) (t : TaskId) :
    Rslv w (t = t0) (stOf ts t) (stOf (putTask ts nt) t) (sent t) := by
  have e0 : task.id = t0 := findTask_some_id ht
  rw [stOf_put (told := task) (by rw [hid, e0]; exact ht), hid, e0]
  by_cases e : t = t0
  · subst e
    rw [if_pos rfl, stOf_of_find ht, hret]
    exact h0.mono fun _ => rfl
  · rw [if_neg e]
    exact .same rfl fun x => hs t x e

/-- what a resolution means for ONE worker `x`: view and items as before, or the task was Retracting from `w` and is
`quiet` now with nothing sent, or `asg rv` with that one item -/
theorem Rslv.pair {w : Nat} {M : Prop} {c c' : State} {t : TaskId} {sent : Nat → List (Option Nat)}
    (h : Rslv w M (stOf c.tasks t) (stOf c'.tasks t) sent) (hw : c'.workers = c.workers) (x : Nat) :
    (view c' x t = view c x t ∧ sent x = []) ∨
    (M ∧ stOf c.tasks t = some (.retracting w) ∧
      ((view c' x t = .quiet ∧ sent x = []) ∨ ∃ rv, view c' x t = .asg rv ∧ sent x = [some rv])) := by
  rcases h with ⟨b, c0⟩ | ⟨m, a, b, c0⟩ | ⟨tg, rv, m, a, b, c0⟩
  · exact .inl ⟨view_congr hw x t b, c0 x⟩
  · exact .inr ⟨m, a, .inl ⟨view_quiet_of_owner b (by intro e; cases e), c0 x⟩⟩
  · refine .inr ⟨m, a, ?_⟩
    rw [c0 x]; exact view_assigned b x

end HqModel.Core

namespace HqModel.SysW.NPP
open HqModel HqModel.Core

/-- a task Running on `w` afterwards was Running on `w` before, and nothing was sent to `w` for it -/
def RunKeep (c c' : Core.State) (w : Nat) (t : TaskId) (cm : List (Option Nat)) : Prop :=
  ∀ rv, stOf c'.tasks t = some (.running w rv) → stOf c.tasks t = some (.running w rv) ∧ cm = []

/-- the same for the head event `e` of the reporter's own stream about `t`: or `e` is a `run` that finds the task
Assigned to / Prefilled on / Retracting from the reporter -/
def RunOwn (e : Ev) (c c' : Core.State) (w : Nat) (t : TaskId) (cm : List (Option Nat)) : Prop :=
  ∀ rv, stOf c'.tasks t = some (.running w rv) →
    ((∃ rv0, stOf c.tasks t = some (.running w rv0)) ∧ cm = []) ∨
    ((∃ rv0, e = .run rv0) ∧ (view c w t = .pre ∨ ∃ rv0, view c w t = .asg rv0) ∧ cm = [])

theorem RunKeep.congr {c c' c'' : Core.State} {w : Nat} {t : TaskId} {cm : List (Option Nat)} (h : RunKeep c c' w t cm)
    (e : c''.tasks = c'.tasks) : RunKeep c c'' w t cm := fun rv hr => h rv (by rw [← e]; exact hr)

/-- the frame of `Lemmas/SysCoreFrame.lean`: Running afterwards ⇒ Running in the same place before -/
theorem runBack_of_fr {P : Prop} {c c' : Core.State} (f : Fr P c c') (hn : (taskIds c.tasks).Nodup) {t : TaskId}
    {w rv : Nat} (h : stOf c'.tasks t = some (.running w rv)) : stOf c.tasks t = some (.running w rv) := by
  obtain ⟨st, hs, hk⟩ := f.t.stOf hn h
  simp only [stOk] at hk
  subst hk
  exact hs

theorem runKeep_of_fr {P : Prop} {c c' : Core.State} (f : Fr P c c') (hn : (taskIds c.tasks).Nodup) {w : Nat} {t : TaskId}
    {cm : List (Option Nat)} (hcm : ∀ rv, stOf c.tasks t = some (.running w rv) → cm = []) : RunKeep c c' w t cm :=
  fun rv hr => ⟨runBack_of_fr f hn hr, hcm rv (runBack_of_fr f hn hr)⟩

/-- what a server action that is foreign to the pair `(w, t)` does to it: the view of `w` on `t` changes as `Foreign`
allows with the `ComputeTasks` items sent, the task is Running on `w` afterwards only if it was, and nothing is sent
for a task the core does not know -/
structure Fgn (c c' : Core.State) (msgs : List Core.Msg) (w : Nat) (t : TaskId) : Prop where
  view : Foreign (view c w t) (cfor w t msgs) (view c' w t)
  run : RunKeep c c' w t (cfor w t msgs)
  fresh : stOf c.tasks t = none → cfor w t msgs = []

/-- … that consumes the head event `e` of the stream of `w` about `t` -/
structure Ownd (e : Ev) (c c' : Core.State) (msgs : List Core.Msg) (w : Nat) (t : TaskId) : Prop where
  view : Own e (view c w t) (cfor w t msgs) (view c' w t)
  run : RunOwn e c c' w t (cfor w t msgs)

theorem Fgn.of_same {c c' : Core.State} {w : Nat} {t : TaskId} (hv : SysW.view c' w t = SysW.view c w t)
    (ht : c'.tasks = c.tasks) : Fgn c c' [] w t :=
  ⟨by rw [cfor_nil, hv]; exact Foreign.same _, fun _ h => ⟨by rw [← ht]; exact h, rfl⟩, fun _ => rfl⟩

theorem Fgn.same (c : Core.State) (w : Nat) (t : TaskId) : Fgn c c [] w t := .of_same rfl rfl

end HqModel.SysW.NPP
