import HqModel.Lemmas.CoreNoPanicBundle
/-!
C09 progress for what the client asks (`NP.newTasks_ok`; `NPR.cancelTasks_ok`, loop invariant `CLI`), and what every
handler that releases or removes a task uses: the removal loops on the part `Lt` of the bundle, the worker side giving
up a task that is not in repair (`detachSn_ok`, `detachMn_ok`, `detachPre_ok`).
-/

namespace HqModel.Core

namespace NP

theorem findTask_none_of_not_mem_ids {ts : List Task} {id : TaskId} (h : id ∉ taskIds ts) : findTask ts id = none :=
  findTask_none_of_not_mem h

theorem addNewTasks_ok : ∀ (nts : List NewTask) (s : State) (r : List TaskId) (U : List TaskId),
    QInv U none [] s → (∀ nt ∈ nts, nt.id ∉ U) → (nts.map (·.id)).Nodup →
    (∀ nt ∈ nts, nt.rq < s.queues.length) → ∃ res, s.addNewTasks nts r = .ok res
  | [], s, r, _, _, _, _, _ => ⟨_, rfl⟩
  | nt :: rest, s, r, U, hq, hfresh, hnd, hrq => by
    have hone : ∃ s1 r1, s.addNewTasks [nt] r = .ok (s1, r1) := by
      simp only [State.addNewTasks]
      have hnot : nt.id ∉ taskIds (registerDeps s.tasks nt.id nt.deps).1 := by
        rw [registerDeps_ids]
        intro hm
        obtain ⟨t, ht, e⟩ := List.mem_map.mp hm
        exact hfresh nt List.mem_cons_self (e ▸ hq.uT t ht)
      have hnone : findTask (registerDeps s.tasks nt.id nt.deps).1 nt.id = none := findTask_none_of_not_mem hnot
      simp only [hnone, Option.isSome_none, Bool.false_eq_true, if_false]
      split
      · have hlt := hrq nt List.mem_cons_self
        rename_i hn0
        obtain ⟨⟨s2, r2⟩, ha⟩ := addReady_ok (s := { s with tasks := (registerDeps s.tasks nt.id nt.deps).1 })
          (t := { id := nt.id, state := .waiting (registerDeps s.tasks nt.id nt.deps).2.2,
                  deps := (registerDeps s.tasks nt.id nt.deps).2.1, rq := nt.rq, prio := nt.prio,
                  crashLimit := nt.crashLimit, inst := nt.inst, crashes := nt.crashes }) hlt
        simp only [ha]
        exact ⟨_, _, rfl⟩
      · exact ⟨_, _, rfl⟩
    obtain ⟨s1, r1, h1⟩ := hone
    rw [addNewTasks_cons, h1]
    simp only [List.map_cons, List.nodup_cons] at hnd
    have hq1 : QInv (U ++ [nt].map (·.id)) none [] s1 :=
      -- the one new id is fresh: all `qSide` is told of a submission
      ((addNewTasks_acts (sd := qSide) (D := []) (L := []) [nt] h1 fun pre x post e => by
        cases pre with
        | nil => cases e; simpa [qSide] using hfresh nt List.mem_cons_self
        | cons _ l => cases l <;> cases e).q ⟨hq, .nil⟩).q
    apply addNewTasks_ok rest s1 r1 (U ++ [nt].map (·.id)) hq1
    · intro x hx hm
      rcases List.mem_append.mp hm with h2 | h2
      · exact hfresh x (List.mem_cons_of_mem _ hx) h2
      · simp only [List.map_cons, List.map_nil, List.mem_singleton] at h2
        exact hnd.1 (h2 ▸ List.mem_map_of_mem hx)
    · exact hnd.2
    · intro x hx
      rw [(addNewTasks_descN (RW := fun _ _ => True) _ h1).ql]
      exact hrq x (List.mem_cons_of_mem _ hx)

theorem newTasks_ok {U : List TaskId} {s : State} {nts : List NewTask} (hq : QInv U none [] s) (hi : Inv s)
    (htw : TWI noD s) (hidx : NpIdx s) (hnq : NpQ noD [] s) (hok : NewTasksOk s nts) (hfresh : ∀ nt ∈ nts, nt.id ∉ U)
    (hnd : (nts.map (·.id)).Nodup) : ∃ r, s.newTasks nts = .ok r := by
  unfold State.newTasks
  have hne : nts.isEmpty = false := by
    cases nts with
    | nil => exact absurd rfl hok.1
    | cons a b => rfl
  simp only [hne, Bool.false_eq_true, if_false]
  obtain ⟨⟨s1, retracted⟩, h1⟩ := addNewTasks_ok nts s [] U hq hfresh hnd
    (fun nt hnt => by rw [hidx.ql]; exact (hok.2 nt hnt).1)
  simp only [h1]
  have htw1 : TWI noD s1 := addNewTasks_tw hi htw h1
  have hnq1 : NpQ noD retracted s1 :=
    (addNewTasks_acts (sd := NPC.npSide) (D := []) (L := []) (U := U) nts h1 fun _ _ _ _ => trivial).npqR hi hnq
  obtain ⟨⟨s2, out⟩, h2⟩ := retract_ok hnq1.rnd (retrReady_of htw1 hnq1 (fun _ _ e => e))
  simp only [h2]
  exact ⟨_, rfl⟩

end NP

end HqModel.Core

namespace HqModel.Core.NPR

open HqModel.Core.NP

/-- what `remove_task` needs, and keeps without any side condition -/
structure Lt (U : List TaskId) (s : State) : Prop where
  q : QInv U none [] s
  idx : NpIdx s
  deps : NpDeps U s

theorem Bd.lt {U D R} {s : State} (hb : Bd U D R s) : Lt U s := ⟨hb.q, hb.idx, hb.deps⟩

theorem stOf_isSome {s : State} {x : TaskId} (h : (s.task? x).isSome = true) : ∃ st, stOf s.tasks x = some st := by
  cases hf : s.task? x with
  | none => rw [hf] at h; cases h
  | some t => exact ⟨t.state, stOf_of_find hf⟩

theorem removeTask_ok_lt {U} {s : State} {id : TaskId} {task : Task} (hl : Lt U s) (ht : s.task? id = some task) :
    ∃ s', s.removeTask id = .ok (s', task.state) ∧ Lt U s' ∧ ∀ x, x ≠ id → stOf s'.tasks x = stOf s.tasks x := by
  have hmem : task ∈ s.tasks := findTask_some_mem ht
  have hid : task.id = id := findTask_some_id ht
  obtain ⟨s', h⟩ := removeTask_ok ht hl.q.nd (by rw [hl.idx.ql]; exact hl.idx.rq task hmem) (hl.deps.dnd task hmem)
    (fun d hd dt hdt => by rw [← hid]; exact hl.deps.reg task hmem d hd dt hdt)
  refine ⟨s', h, ⟨removeTask_safe h U none [] hl.q, NPA.removeTask_npidx hl.idx h,
    NPB.removeTask_npdeps_q hl.deps hl.q (Or.inl rfl) h⟩, ?_⟩
  intro x hx
  rw [(removeTask_spec h).2.2.2.2.stOf x, stOf_eraseTask hl.q.nd, if_neg hx]

theorem removeTasksBatched_ok {U} : ∀ (ids : List TaskId) (s : State), Lt U s → ids.Nodup →
    (∀ x ∈ ids, ∃ st, stOf s.tasks x = some st) → ∃ s', s.removeTasksBatched ids = .ok s'
  | [], s, _, _, _ => ⟨s, rfl⟩
  | t :: rest, s, hl, hnd, hin => by
    obtain ⟨st, hst⟩ := hin t List.mem_cons_self
    obtain ⟨task, ht, _⟩ := stOf_some hst
    obtain ⟨s1, h1, hl1, hk⟩ := removeTask_ok_lt hl (show s.task? t = some task from ht)
    simp only [State.removeTasksBatched, h1]
    apply removeTasksBatched_ok rest s1 hl1 (List.nodup_cons.mp hnd).2
    intro x hx
    have hne : x ≠ t := fun e => (List.nodup_cons.mp hnd).1 (e ▸ hx)
    rw [hk x hne]
    exact hin x (List.mem_cons_of_mem _ hx)

theorem removeWaitingAll_ok {U} : ∀ (ids : List TaskId) (s : State), Lt U s → ids.Nodup →
    (∀ x ∈ ids, ∃ n, stOf s.tasks x = some (.waiting n)) →
    ∃ s', s.removeWaitingAll ids = .ok s' ∧ Lt U s' ∧ ∀ x, x ∉ ids → stOf s'.tasks x = stOf s.tasks x
  | [], s, hl, _, _ => ⟨s, rfl, hl, fun _ _ => rfl⟩
  | t :: rest, s, hl, hnd, hin => by
    obtain ⟨n, hst⟩ := hin t List.mem_cons_self
    obtain ⟨task, ht, hs⟩ := stOf_some hst
    obtain ⟨s1, h1, hl1, hk⟩ := removeTask_ok_lt hl (show s.task? t = some task from ht)
    rw [hs] at h1
    simp only [State.removeWaitingAll, h1]
    obtain ⟨s', h2, hl2, hk2⟩ := removeWaitingAll_ok rest s1 hl1 (List.nodup_cons.mp hnd).2 (by
      intro x hx
      have hne : x ≠ t := fun e => (List.nodup_cons.mp hnd).1 (e ▸ hx)
      rw [hk x hne]
      exact hin x (List.mem_cons_of_mem _ hx))
    refine ⟨s', h2, hl2, ?_⟩
    intro x hx
    simp only [List.mem_cons, not_or] at hx
    rw [hk2 x hx.2, hk x hx.1]

section
variable {U : List TaskId} {s : State}

section
variable {D : TaskId → Prop} {id : TaskId} {task : Task}

theorem detachSn_ok {w v : Nat} (hb : Bd U D [] s) (ht : s.task? id = some task) (hd : ¬ D id)
    (hs : task.state = .assigned w v ∨ task.state = .running w v) :
    ∃ r s1, s.rq task.rq v = .ok r ∧ s.withWorker w (·.removeSn id r) = .ok s1 := by
  obtain ⟨r, wk, A, F, P, hr, hfw, ha, hm, hidx⟩ := held_removable hb.tw hb.idx hb.w ht hd
    (show HeldT s.redirects task w v from hs.elim .inl (.inr ∘ .inl))
  obtain ⟨F', hrem, _⟩ := removeSn_ok (wk := wk) (t := id) (r := r) ha hm hidx
  exact ⟨r, _, hr, withWorker_ok (f := fun x => x.removeSn id r) hfw hrem⟩

theorem detachMn_ok {ws : List Nat} (hb : Bd U D [] s) (ht : s.task? id = some task) (hd : ¬ D id)
    (hs : task.state = .runningMN ws) : ∃ s1, resetMnChecked s id ws = .ok s1 :=
  resetMnChecked_ok id ws s (hb.mn.ne task (findTask_some_mem ht) ws hs).2 (mn_workers_of hb.tw ht hd hs)

theorem detachPre_ok {w : Nat} (hb : Bd U D [] s) (ht : s.task? id = some task) (hd : ¬ D id)
    (hs : task.state = .prefilled w) :
    ∃ s1 s2, s.removePrefilled task.rq id = .ok s1 ∧ s1.withWorker w (·.removePrefill id) = .ok s2 := by
  have hid : task.id = id := findTask_some_id ht
  obtain ⟨q, pp, ts, hq, hp, hm⟩ :=
    (hb.nq.pin task (findTask_some_mem ht) ⟨w, hs⟩ (by simp) (by rw [hid]; exact hd)).elim
  rw [hid] at hm
  obtain ⟨s1, h1⟩ := removePrefilled_ok hq hp hm
  obtain ⟨wk, A, F, P, hfw, ha, hmp⟩ := mem_preW_elim (hb.tw.tw.t2 id w hd (by rw [stOf_of_find ht, hs]))
  have hfw1 : s1.worker? w = some wk := by rw [worker?_eq, (removePrefilled_core h1).w]; exact hfw
  exact ⟨s1, _, h1, withWorker_ok (f := fun x => x.removePrefill id) hfw1 (removePrefill_ok ha hmp)⟩

end

/-- one iteration succeeds: the task is not in repair (`id ∉ u`) unless it is Waiting -/
theorem cancelLoop_one_ok {u : List TaskId} {id : TaskId} (hb : Bd U (· ∈ u) [] s)
    (hw : ∀ t, s.task? id = some t → id ∈ u → isWaiting t.state) (r : List (Nat × List TaskId)) :
    ∃ x, s.cancelLoop [id] u r = .ok x := by
  simp only [State.cancelLoop]
  cases ht : s.task? id with
  | none => exact ⟨_, rfl⟩
  | some task =>
    simp only
    have hmem : task ∈ s.tasks := findTask_some_mem ht
    obtain ⟨cons, hc⟩ := recursiveConsumers_ok hb.deps hmem
    simp only [hc]
    -- the worker side is intact unless the task is Waiting
    have hd : (∀ n, task.state ≠ .waiting n) → ¬ id ∈ u := fun hn hu => by
      have := hw task ht hu
      cases hs : task.state with
      | waiting n => exact hn n hs
      | _ => rw [hs] at this; exact this
    cases hs : task.state with
    | waiting n => exact ⟨_, rfl⟩
    | assigned w rv =>
      obtain ⟨rq, s1, hr, h1⟩ := detachSn_ok hb ht (hd (by simp [hs])) (.inl hs)
      simp only [hr, h1]
      exact ⟨_, rfl⟩
    | running w rv =>
      obtain ⟨rq, s1, hr, h1⟩ := detachSn_ok hb ht (hd (by simp [hs])) (.inr hs)
      simp only [hr, h1]
      exact ⟨_, rfl⟩
    | runningMN ws =>
      obtain ⟨s1, h1⟩ := detachMn_ok hb ht (hd (by simp [hs])) hs
      simp only [resetMnChecked_resetMnAll _ h1]
      cases ws with
      | nil => exact absurd rfl (hb.mn.ne task hmem [] hs).1
      | cons root rest => exact ⟨_, rfl⟩
    | retracting w =>
      obtain ⟨s1, h1⟩ := tryRemoveRedirection_ok' hb.tw hb.idx hb.w ht (hd (by simp [hs])) ⟨w, hs⟩
      simp only [h1]
      exact ⟨_, rfl⟩
    | prefilled w =>
      obtain ⟨s1, s2, h1, h2⟩ := detachPre_ok hb ht (hd (by simp [hs])) hs
      simp only [h1, h2]
      exact ⟨_, rfl⟩
    | finished => cases hb.q.fin task hmem hs

theorem cancelLoop_one_u {u u1 : List TaskId} {id : TaskId} {r r1 : List (Nat × List TaskId)} {s1 : State}
    (h : s.cancelLoop [id] u r = .ok (s1, u1, r1)) :
    (s.task? id = none ∧ u1 = u) ∨
    ∃ task cons, s.task? id = some task ∧ s.recursiveConsumers task = .ok cons ∧
      u1 = unionTids (unionTids u [id]) cons := by
  rcases cancelLoop_cons_ok h with ⟨hn, h'⟩ | ⟨task, cons, _, _, ht, hc, _, h'⟩
  · cases h'
    exact .inl ⟨hn, rfl⟩
  · cases h'
    exact .inr ⟨task, cons, ht, hc, rfl⟩

/-- the loop invariant of `cancelLoop` (state `s`, list `u` of tasks to unregister, remaining ids `rest`) -/
structure CLI (U : List TaskId) (s : State) (u rest : List TaskId) : Prop where
  bd : Bd U (· ∈ u) [] s
  pfd : NPC.PfD [] s u
  free : ∀ x ∈ u, Free s x
  rnd : rest.Nodup
  uin : ∀ x ∈ u, ∃ st, stOf s.tasks x = some st
  und : u.Nodup
  /-- an id still to be processed that is in `u` already got there as a recursive consumer: it is Waiting -/
  uw : ∀ x ∈ rest, x ∈ u → ∀ st, stOf s.tasks x = some st → isWaiting st

theorem CLI.step {u u1 rest : List TaskId} {id : TaskId} {r r1 : List (Nat × List TaskId)} {s1 : State}
    (hc : CLI U s u (id :: rest)) (h : s.cancelLoop [id] u r = .ok (s1, u1, r1)) : CLI U s1 u1 rest := by
  obtain ⟨b1, p1, f1⟩ := hc.bd.cancelLoop hc.pfd hc.free hc.und h
  have ht1 : s1.tasks = s.tasks := cancelLoop_tasks _ _ _ _ _ _ _ h
  have hnd := List.nodup_cons.mp hc.rnd
  rcases cancelLoop_one_u h with ⟨_, e⟩ | ⟨task, cons, ht, hcons, e⟩
  · subst e
    exact ⟨b1, p1, f1, hnd.2, by rw [ht1]; exact hc.uin, hc.und,
      by rw [ht1]; exact fun x hx => hc.uw x (List.mem_cons_of_mem _ hx)⟩
  · have hmemc := recursiveConsumers_mem (show findTask s.tasks id = some task from ht) hcons
    refine ⟨b1, p1, f1, hnd.2, ?_, ?_, ?_⟩
    · rw [ht1, e]
      intro x hx
      rcases mem_unionTids.mp hx with h1 | h1
      · rcases mem_unionTids.mp h1 with h2 | h2
        · exact hc.uin x h2
        · simp only [List.mem_singleton] at h2
          subst h2
          exact ⟨_, stOf_of_find (show findTask s.tasks x = some task from ht)⟩
      · obtain ⟨d, dt, hd, hx'⟩ := hmemc x h1
        exact stOf_isSome (hc.bd.deps.cin dt (findTask_some_mem hd) x hx')
    · rw [e]
      exact unionTids_nodup _ _ (unionTids_nodup _ _ hc.und)
    · rw [ht1, e]
      intro x hx hu st hst
      rcases mem_unionTids.mp hu with h1 | h1
      · rcases mem_unionTids.mp h1 with h2 | h2
        · exact hc.uw x (List.mem_cons_of_mem _ hx) h2 st hst
        · simp only [List.mem_singleton] at h2
          subst h2
          exact absurd hx hnd.1
      · obtain ⟨d, dt, hd, hx'⟩ := hmemc x h1
        exact hc.bd.inv.cw d dt hd x hx' st hst

theorem cancelLoop_ok : ∀ (rest : List TaskId) (s : State) (u : List TaskId) (r : List (Nat × List TaskId)),
    CLI U s u rest → ∃ s' u' r', s.cancelLoop rest u r = .ok (s', u', r') ∧ CLI U s' u' []
  | [], s, u, r, h => ⟨s, u, r, rfl, h⟩
  | id :: rest, s, u, r, h => by
    obtain ⟨⟨s1, u1, r1⟩, h1⟩ := cancelLoop_one_ok h.bd
      (fun t ht hu => h.uw id List.mem_cons_self hu t.state (stOf_of_find ht)) r
    rw [cancelLoop_cons, h1]
    exact cancelLoop_ok rest s1 u1 r1 (h.step h1)

theorem cancelTasks_ok {ids : List TaskId} (hb : Bd U noD [] s) (hnd : ids.Nodup) :
    ∃ r, s.cancelTasks ids = .ok r := by
  have h0 : CLI U s [] ids :=
    ⟨hb.mono (fun _ h => h.elim), fun _ h => (by cases h), fun _ h => (by cases h), hnd, fun _ h => (by cases h),
      List.nodup_nil, fun _ _ h => (by cases h)⟩
  obtain ⟨s1, unreg, running, h1, c1⟩ := cancelLoop_ok ids s [] [] h0
  obtain ⟨s2, h2⟩ := removeTasksBatched_ok unreg s1 c1.bd.lt c1.und c1.uin
  simp only [State.cancelTasks, h1, h2]
  exact ⟨_, rfl⟩

end

end HqModel.Core.NPR
