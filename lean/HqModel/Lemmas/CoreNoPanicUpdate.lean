import HqModel.Lemmas.CoreNoPanicClient
/-!
C09 progress for `on_task_update`, handler by handler. Where the worker side gives the task up in mid-handler, the
remaining steps succeed from what holds in the intermediate state: for `task_finished` and `task_reject` the bundle
there, read off the acts up to it by `Acts.bdG`; for `task_failed` the part `Lt` of the bundle, which a release keeps
(`Lt.release`).
-/

namespace HqModel.Core

namespace NP

theorem UpdNP.running_elim {s : State} {w : Nat} {t : TaskId} {rv : Nat} {task : Task}
    (h : UpdNP s w (.running t rv) ∨ UpdNP s w (.runningPrefilled t rv)) (ht : s.task? t = some task) :
    (s.worker? w).isSome = true ∧
    match task.state with
    | .assigned w' rv' => w' = w ∧ rv' = rv
    | .prefilled w' => w' = w ∧ RunIdx s w task.rq rv
    | .retracting w' => w' = w ∧ RunIdx s w task.rq rv
    | .runningMN ws => ws.head? = some w
    | _ => False := by
  rcases h with h | h <;> (unfold UpdNP at h; simp only [ht] at h; exact h)

theorem taskRunning_ok {s : State} {w : Nat} {id : TaskId} {rv : Nat} (hi : Inv s) (htw : TWI noD s)
    (hw : NpW s) (hidx : NpIdx s)
    (hp : UpdNP s w (.running id rv) ∨ UpdNP s w (.runningPrefilled id rv))
    (hx : NoF27 s w (.running id rv)) :
    ∃ r, s.taskRunning w id rv = .ok r := by
  cases ht : s.task? id with
  | none => simp only [State.taskRunning, ht]; exact ⟨_, rfl⟩
  | some task =>
    have hid : task.id = id := findTask_some_id ht
    have hmem : task ∈ s.tasks := findTask_some_mem ht
    obtain ⟨hwx, hst⟩ := UpdNP.running_elim hp ht
    have hrql : task.rq < s.queues.length := by rw [hidx.ql]; exact hidx.rq task hmem
    cases hs : task.state with
    | assigned w' rv' =>
      rw [hs] at hst
      obtain ⟨e1, e2⟩ := hst
      subst e1 e2
      simp only [State.taskRunning, ht, hs, ne_eq, not_true_eq_false, if_false]
      exact ⟨_, rfl⟩
    | prefilled w' =>
      rw [hs] at hst
      obtain ⟨e1, hri⟩ := hst
      subst e1
      obtain ⟨r, wk, hr, hfw, hb⟩ := hri.elim
      -- the worker lists the task as prefilled and not as assigned
      have hpre := htw.tw.t2 id w' (fun e => e) (by rw [stOf_of_find ht, hs])
      obtain ⟨wk', A, F, P, hfw', ha, hm⟩ := mem_preW_elim hpre
      have : wk' = wk := by
        have h1 : findWorker s.workers w' = some wk := hfw
        rw [h1] at hfw'; cases hfw'; rfl
      subst this
      have hna : id ∉ A := fun hA =>
        hi.ls.not_asg_of_state (st := .prefilled w') (by rw [stOf_of_find ht, hs]) (fun _ h => h) w'
          (mem_asgW_of hfw' ha hA)
      have hF : F.length = wk'.total.length := hw.free wk' (findWorker_some_mem hfw') A F P ha
      obtain ⟨F', hps, _⟩ := prefilledToStarted_ok (wk := wk') (t := id) (r := r) ha hm hna
        (fun e he => by rw [hF]; exact hb e he)
      have hww := withWorker_ok (s := s.setTask { task with state := .running w' rv })
        (f := fun x => x.prefilledToStarted id r) (show _ = some wk' from hfw) hps
      obtain ⟨s2, hq⟩ := queueRemove_ok (s := (s.setTask { task with state := .running w' rv }).setWorker
        { wk' with assign := .sn (A ++ [id]) F' (P.erase id) }) (t := id) (p := task.prio) hrql
      simp only [State.taskRunning, ht, hs, ne_eq, not_true_eq_false, if_false, hr, hww, hq]
      exact ⟨_, rfl⟩
    | retracting w' =>
      rw [hs] at hst
      obtain ⟨e1, hri⟩ := hst
      subst e1
      obtain ⟨r, wk, hr, hfw, hb⟩ := hri.elim
      obtain ⟨s1, hq⟩ := queueRemove_ok (s := ask (s.setTask { task with state := .running w' rv })) (t := id)
        (p := task.prio) hrql
      have hc1 := queueRemove_core hq
      have hw1 : s1.workers = s.workers := hc1.w
      have hr1 : s1.redirects = s.redirects := hc1.r
      have hq1 : s1.rqs = s.rqs := hc1.q
      have hrem : ∃ s2, s1.tryRemoveRedirection id task.rq = .ok s2 := by
        apply tryRemoveRedirection_ok
        intro x w2 v hf
        rw [hr1] at hf
        have hx' : x = id := by simpa using List.find?_some hf
        subst hx'
        have hm : (x, w2, v) ∈ s.redirects := List.mem_of_find?_eq_some hf
        obtain ⟨r2, wk2, A2, F2, P2, h1, h2, h3, h4, h5⟩ := held_removable htw hidx hw ht (fun e => e)
          (Or.inr (Or.inr ⟨⟨w', hs⟩, by rw [hid]; exact hm⟩) : HeldT s.redirects task w2 v)
        refine ⟨r2, wk2, A2, F2, P2, ?_, ?_, h3, h4, h5⟩
        · rw [rq_congr hq1]; exact h1
        · rw [worker?_eq, hw1]; exact h2
      obtain ⟨s2, h2⟩ := hrem
      obtain ⟨ht2, hq2, hcase⟩ := tryRemoveRedirection_spec h2
      have hr2 : s2.rq task.rq rv = .ok r := by rw [rq_congr hq2, rq_congr hq1]; exact hr
      -- the reporting worker has a single-node assignment (exclusion of F27)
      have hsn : ∃ A F P, wk.assign = .sn A F P := by
        unfold NoF27 at hx
        simp only [ht, hfw] at hx
        cases ha : wk.assign with
        | sn A F P => exact ⟨A, F, P, rfl⟩
        | mn x r st => rw [hs, ha] at hx; exact hx.elim
      obtain ⟨A, F, P, ha⟩ := hsn
      have hfw0 : findWorker s.workers w' = some wk := hfw
      have hF : F.length = wk.total.length := hw.free wk (findWorker_some_mem hfw0) A F P ha
      have hwid : wk.id = w' := findWorker_some_id hfw0
      -- the worker record in `s2` and why it does not list the task
      have key : ∃ wk2 A2 F2, s2.worker? w' = some wk2 ∧ wk2.assign = .sn A2 F2 P ∧ id ∉ A2 ∧
          F2.length = wk.total.length := by
        rcases hcase with ⟨hnone, hws, _⟩ | ⟨w2, v, r2, wkt, At, Ft, Pt, Ft', hsome, _, hfwt, hat, hmt, hfa, hws, _⟩
        · refine ⟨wk, A, F, ?_, ha, ?_, hF⟩
          · rw [worker?_eq, hws, hw1]; exact hfw0
          · refine fun hA => hi.ls.not_asg_of_state (st := .retracting w') (by rw [stOf_of_find ht, hs])
              (fun x ⟨v, hv⟩ => ?_) w' (mem_asgW_of hfw0 ha hA)
            rw [hr1] at hnone
            simpa using List.find?_eq_none.mp hnone (id, x, v) hv
        · rw [hr1] at hsome
          rw [hw1] at hfwt hws
          have hwtid : wkt.id = w2 := findWorker_some_id hfwt
          by_cases hw2 : w2 = w'
          · subst hw2
            rw [hfw0] at hfwt; cases hfwt
            rw [ha] at hat; cases hat
            refine ⟨{ wk with assign := .sn (A.erase id) Ft' P }, A.erase id, Ft', ?_, rfl, ?_, ?_⟩
            · rw [worker?_eq, hws, findWorker_putWorker]
              simp [hwid, hfw0]
            · have hnd : A.Nodup := by
                have := hi.ls.nda w2
                rw [asgW_of_find hfw0] at this
                simpa [wAsg, ha] using this
              exact fun hm => (List.Nodup.mem_erase_iff hnd).mp hm |>.1 rfl
            · rw [freeAdd_length hfa]; exact hF
          · refine ⟨wk, A, F, ?_, ha, ?_, hF⟩
            · rw [worker?_eq, hws, findWorker_putWorker]
              have : ¬ w' = ({ wkt with assign := .sn (At.erase id) Ft' Pt } : Worker).id := by
                show ¬ w' = wkt.id; rw [hwtid]; exact fun e => hw2 e.symm
              simp only [this, if_false]; exact hfw0
            · intro hA
              have hin : id ∈ asgW s.workers w' := mem_asgW_of hfw0 ha hA
              obtain ⟨st, h1, h3⟩ := hi.ls.a1 w' id hin
              rw [stOf_of_find ht, hs] at h1
              cases h1
              obtain ⟨v', hv'⟩ := h3
              have hm2 : (id, w2, v) ∈ s.redirects := List.mem_of_find?_eq_some hsome
              -- at most one redirect per task
              exact hw2 (rd_unique hi.ls.d2 hv' hm2).1.symm
      obtain ⟨wk2, A2, F2, hfw2, ha2, hna2, hF2⟩ := key
      obtain ⟨F', hins, _⟩ := insertSn_ok (wk := wk2) (t := id) (r := r) ha2 hna2
        (fun e he => by rw [hF2]; exact hb e he)
      have hww := withWorker_ok (s := s2) (f := fun x => x.insertSn id r) hfw2 hins
      simp only [State.taskRunning, ht, hs, ne_eq, not_true_eq_false, if_false, hq, h2, hr2, hww]
      exact ⟨_, rfl⟩
    | runningMN ws =>
      rw [hs] at hst
      cases ws with
      | nil => simp at hst
      | cons root rest =>
        simp only [List.head?_cons, Option.some.injEq] at hst
        subst hst
        cases hfw : s.worker? root with
        | none => rw [hfw] at hwx; cases hwx
        | some wk =>
          simp only [State.taskRunning, ht, hs, ne_eq, not_true_eq_false, if_false, State.withWorker, getWorker_ok hfw]
          cases wk.assign <;> exact ⟨_, rfl⟩
    | waiting n => rw [hs] at hst; exact hst.elim
    | running a b => rw [hs] at hst; exact hst.elim
    | finished => rw [hs] at hst; exact hst.elim

end NP

end HqModel.Core

namespace HqModel.Core.NPR

open HqModel.Core.NP

section
variable {U : List TaskId} {s : State}

/-- the states `UpdNP` allows for a Finished message -/
def FinState (w : Nat) (st : TS) : Prop := (∃ v, st = .running w v) ∨ ∃ ws, st = .runningMN (w :: ws)

theorem updNP_fin_elim {w : Nat} {id : TaskId} {task : Task} (hp : UpdNP s w (.finished id))
    (ht : s.task? id = some task) : FinState w task.state := by
  have h := hp.2
  simp only [ht] at h
  cases hs : task.state with
  | running w' v => rw [hs] at h; simp only at h; subst h; exact Or.inl ⟨v, rfl⟩
  | runningMN ws =>
    rw [hs] at h
    cases ws with
    | nil => simp at h
    | cons root rest =>
      simp only [List.head?_cons, Option.some.injEq] at h
      subst h; exact Or.inr ⟨rest, rfl⟩
  | _ => rw [hs] at h; exact h.elim

theorem finishPre_ok {w : Nat} {id : TaskId} {task : Task} (hb : Bd U noD [] s) (ht : s.task? id = some task)
    (hf : FinState w task.state) : ∃ s1, FinishPre s w id task s1 := by
  rcases hf with ⟨v, hs⟩ | ⟨ws, hs⟩
  · obtain ⟨r, s1, hr, hww⟩ := detachSn_ok hb ht (fun e => e) (.inr hs)
    exact ⟨s1, .sn (.inr hs) hr hww⟩
  · obtain ⟨s1, h1⟩ := detachMn_ok hb ht (fun e => e) hs
    exact ⟨s1, .mn hs h1⟩

theorem removeTask_finished {s4 : State} {id : TaskId} {t : Task} (ht : s4.task? id = some t)
    (hs : t.state = .finished) : ∃ s5, s4.removeTask id = .ok (s5, .finished) := by
  simp only [State.removeTask, ht, hs]
  exact ⟨_, rfl⟩

theorem finTail_steps {s1 : State} {w : Nat} {id : TaskId} {task : Task} (hb : Bd U noD [] s)
    (ht : s.task? id = some task) (hf : FinState w task.state) (hr : Release s id task s1) :
    ∃ s3 retracted s4 out s',
      (s1.setTask { task with state := .finished }).wakeConsumers task.consumers [] = .ok (s3, retracted) ∧
      s3.retract retracted = .ok (s4, out) ∧ s4.removeTask id = .ok (s', .finished) := by
  have hmem : task ∈ s.tasks := findTask_some_mem ht
  have hid : task.id = id := findTask_some_id ht
  have hnw : ∀ n, task.state ≠ .waiting n := by rcases hf with ⟨v, h⟩ | ⟨ws, h⟩ <;> simp [h]
  have hnr : ∀ w0, task.state ≠ .retracting w0 := by rcases hf with ⟨v, h⟩ | ⟨ws, h⟩ <;> simp [h]
  have hnp : ∀ w0, task.state ≠ .prefilled w0 := by rcases hf with ⟨v, h⟩ | ⟨ws, h⟩ <;> simp [h]
  have e1 := hr.tasks
  have e2 := Release.queues hr hnp
  have ht1 : s1.task? id = some task := by rw [NPC.task?_congr e1]; exact ht
  -- the two acts that lead to the state with the record set to Finished; every invariant there comes from them
  have c2 : Acts bdSide (.idle U, s)
      (⟨[], [], some id, task.consumers, U, []⟩, s1.setTask { task with state := .finished }) := by
    have := Acts.step (sd := bdSide) (.release (D := []) (R := []) (f := none) (p := []) (U := U) (L := []) ht hr)
      (.single (.finish ht1 List.mem_cons_self hnw hnr))
    rwa [show ([id].filter (· ≠ id)) = [] by simp] at this
  have hq2 := (c2.bdG hb rfl rfl).1.qg
  have hin2 : ∀ c ∈ task.consumers, ((s1.setTask { task with state := .finished }).task? c).isSome = true := by
    intro c hc
    apply isSome_findTask_putTask
    rw [e1]
    exact hb.deps.cin task hmem c hc
  have hrq2 : ∀ t ∈ (s1.setTask { task with state := .finished }).tasks,
      t.rq < (s1.setTask { task with state := .finished }).queues.length := by
    intro t hx
    show t.rq < s1.queues.length
    rw [e2, hb.idx.ql]
    rcases mem_putTask hx with e | e
    · subst e; exact hb.idx.rq task hmem
    · rw [e1] at e; exact hb.idx.rq t e
  obtain ⟨⟨s3, retracted⟩, h3⟩ := wakeConsumers_ok task.consumers _ [] hq2.q hq2.nd hin2 hrq2
  obtain ⟨e3, hi3⟩ := Acts.bdG (c2.trans (wakeConsumers_acts _ h3)) hb rfl rfl
  have a3 := e3.nq rfl
  obtain ⟨⟨s4, out⟩, h4⟩ := retract_ok a3.rnd (retrReady_of hi3 a3 (fun _ _ h => h))
  have k2 : (s1.setTask { task with state := .finished }).task? id = some { task with state := .finished } := by
    rw [← hid]; exact NPC.task?_setTask_self (t' := { task with state := .finished }) (hid ▸ ht1)
  -- neither the wake-ups nor the retraction rewrite a Finished record
  obtain ⟨t4, k4, hs4⟩ := ((wakeConsumers_desc (RW := WCalm) (er := False) _ h3).trans (retract_desc h4)).find_fwd
    (P := fun t => t.state = .finished) (fun c => c.state_eq nofun nofun) hq2.q.nd k2 rfl
  obtain ⟨s5, h5⟩ := removeTask_finished k4 hs4
  exact ⟨s3, retracted, s4, out, s5, h3, h4, h5⟩

theorem taskFinished_ok {w : Nat} {id : TaskId} (hb : Bd U noD [] s) (hp : UpdNP s w (.finished id)) :
    ∃ r, s.taskFinished w id = .ok r := by
  rw [taskFinished_eq]
  cases ht : s.task? id with
  | none => exact ⟨_, rfl⟩
  | some task =>
    have hf := updNP_fin_elim hp ht
    obtain ⟨s1, h1⟩ := finishPre_ok hb ht hf
    obtain ⟨s3, retracted, s4, out, s', h3, h4, h5⟩ := finTail_steps hb ht hf h1.release
    simp only [finPre_of h1]
    exact ⟨_, finTail_of h3 h4 h5⟩

/-- release and requeue are two acts, after which what `add_ready_task` disposed can be retracted (`Core.rejectTail_ok`
in `CoreMnShape` is the case from local facts: the request has a queue and no prefill set is disposed) -/
theorem rejectTail_ok {s1 : State} {id : TaskId} {task : Task} (hb : Bd U noD [] s) (ht : s.task? id = some task)
    (hr : Release s id task s1) (hs : ∀ n, task.state ≠ .waiting (n + 1)) : ∃ r, rejectTail s1 task = .ok r := by
  obtain rfl : task.id = id := findTask_some_id ht
  have ht1 : s1.task? task.id = some task := (NPC.task?_congr hr.tasks _).trans ht
  obtain ⟨⟨s2, r⟩, ha⟩ := addReady_ok (s := s1.setTask { task with state := .waiting 0 })
    (t := { task with state := .waiting 0 })
    (by rw [show (s1.setTask _).queues.length = s1.queues.length from rfl, (NPA.release_fr (all := True) hr).ql,
          hb.idx.ql]; exact hb.idx.rq task (findTask_some_mem ht))
  have c : Acts bdSide (.idle U, s) (⟨[], [] ++ r, none, [], U, []⟩, s2) := by
    have := Acts.step (sd := bdSide) (.release (D := []) (R := []) (f := none) (p := []) (U := U) (L := []) ht hr)
      (.single (.requeue task.inst ht1 List.mem_cons_self hs ha))
    rwa [show ([task.id].filter (· ≠ task.id)) = [] by simp] at this
  obtain ⟨e2, hi2⟩ := c.bdG hb rfl rfl
  have a2 := e2.nq rfl
  obtain ⟨⟨s3, out⟩, h3⟩ := retract_ok a2.rnd (retrReady_of hi2 a2 (fun _ _ h => h))
  exact ⟨_, rejectTail_ok_iff.mpr ⟨s2, r, s3, out, ha, h3, rfl⟩⟩

theorem rejectArms_ok {s0 : State} {wk : Worker} {w : Nat} {id : TaskId} {rv : Option Nat} {task : Task}
    (hb : Bd U noD [] s0) (ht : s0.task? id = some task) (hw : s0.worker? w = some wk)
    (hp : match task.state with
      | .assigned _ _ => True
      | .prefilled w' => w' = w
      | .retracting _ => True
      | .runningMN _ => True
      | _ => False)
    (hr : ∀ w' rv', task.state = .assigned w' rv' → w = w' ∧ rv = some rv') :
    ∃ r, rejectArms s0 wk w id rv task = .ok r := by
  unfold rejectArms
  cases hs : task.state with
  | assigned w' rv' =>
    obtain ⟨rfl, rfl⟩ := hr w' rv' hs
    obtain ⟨r, s1, hr1, hww⟩ := detachSn_ok hb ht (fun e => e) (.inl hs)
    simp only [ne_eq, not_true_eq_false, if_false, hr1, hww]
    exact rejectTail_ok hb ht (.sn (.inl hs) hr1 hww) (by rw [hs]; exact nofun)
  | prefilled w' =>
    rw [hs] at hp
    obtain rfl : w' = w := hp
    obtain ⟨s1, s2, h1, h2⟩ := detachPre_ok hb ht (fun e => e) hs
    obtain ⟨sa, ha, hb2⟩ := removePrefilled_removePrefill h1 h2
    simp only [ha, hb2]
    exact rejectTail_ok hb ht (.pre hs h1 h2) (by rw [hs]; exact nofun)
  | retracting w' =>
    by_cases hww : w ≠ w'
    · simp only [hww, ne_eq, not_false_eq_true, if_true]; exact ⟨_, rfl⟩
    · simp only [hww, if_false]
      cases hfind : s0.redirects.find? (·.1 = id) with
      | some x => exact ⟨_, rfl⟩
      | none =>
        -- without a redirect `try_remove_redirection` changes nothing: this arm is a release too
        exact rejectTail_ok hb ht (.retr hs (by simp only [State.tryRemoveRedirection, hfind]))
          (by rw [hs]; exact nofun)
  | runningMN ws =>
    cases ws with
    | nil => exact absurd rfl (hb.mn.ne task (findTask_some_mem ht) [] hs).1
    | cons root rest =>
      by_cases hwr : w ≠ root
      · simp only [hwr, ne_eq, not_false_eq_true, if_true]; exact ⟨_, rfl⟩
      · simp only [hwr, if_false]
        obtain rfl : w = root := Classical.not_not.mp hwr
        obtain ⟨wk', root', st, hfw, ha⟩ := mn_workers_of hb.tw ht (fun e => e) hs w List.mem_cons_self
        rw [hw] at hfw; cases hfw
        rw [ha]
        cases st with
        | true => exact ⟨_, rfl⟩
        | false =>
          obtain ⟨s1, h1⟩ := detachMn_ok hb ht (fun e => e) hs
          simp only [Bool.false_eq_true, if_false, h1]
          exact rejectTail_ok hb ht (.mn hs (resetMnChecked_resetMnAll _ h1)) (by rw [hs]; exact nofun)
  | waiting n => rw [hs] at hp; exact hp.elim
  | running a b => rw [hs] at hp; exact hp.elim
  | finished => rw [hs] at hp; exact hp.elim

theorem taskReject_ok {w : Nat} {id : TaskId} {rv : Option Nat} (hb : Bd U noD [] s)
    (hp : UpdNP s w (.reject id rv)) (hr : RejectOk s w id rv) : ∃ r, s.taskReject w id rv = .ok r := by
  cases ht : s.task? id with
  | none => simp only [State.taskReject, ht]; exact ⟨_, rfl⟩
  | some task =>
    obtain ⟨wk0, hw0⟩ := Option.isSome_iff_exists.mp hp.1
    rw [taskReject_unfold ht hw0]
    have hwid : wk0.id = w := findWorker_some_id hw0
    have hb0 : Bd U noD [] (s.setWorker (wk0.blockRq task.rq rv)) := by
      cases rv with
      | none => exact Acts.bd (.single (.block wk0.blocked hw0)) hb
      | some v => exact Acts.bd (.single (.block _ hw0)) hb
    have hw' : (s.setWorker (wk0.blockRq task.rq rv)).worker? w = some (wk0.blockRq task.rq rv) := by
      rw [worker?_setWorker, if_pos (by rw [Worker.blockRq_id, hwid]), hw0]; rfl
    have hp2 := hp.2
    simp only [ht] at hp2
    exact rejectArms_ok hb0 (show (s.setWorker _).task? id = some task from ht) hw' hp2
      (fun w' rv' hs => hr task w' rv' ht hs)

theorem requestEnabled_ok {w rq rv : Nat} (hw : (s.worker? w).isSome = true) : ∃ r, s.requestEnabled w rq rv = .ok r := by
  obtain ⟨wk, hwk⟩ := Option.isSome_iff_exists.mp hw
  exact ⟨_, withWorker_ok (f := fun wk => .ok { wk with blocked := wk.blocked.erase (rq, rv) }) hwk rfl⟩

end

theorem retsOk_head {rets : List (List TaskId)} (h : RetsOk rets) : (rets.headD []).Nodup := by
  cases rets with
  | nil => exact List.nodup_nil
  | cons l rest => exact h l List.mem_cons_self

theorem retsOk_tail {rets : List (List TaskId)} (h : RetsOk rets) : RetsOk rets.tail :=
  fun l hl => h l (List.mem_of_mem_tail hl)

section
variable {U : List TaskId} {s : State}

/-- the states the two callers guarantee -/
def FailState (worker : Option Nat) (st : TS) : Prop :=
  match worker with
  | some w => (∃ v, st = .assigned w v) ∨ (∃ v, st = .running w v) ∨ st = .prefilled w ∨ st = .retracting w ∨
      ∃ ws, st = .runningMN (w :: ws)
  | none => st = .waiting 0

/-- **protocol of `task_failed`**: a Failed message of worker `w` obeys `UpdNP`; the crash-limit loop fails tasks it has
just made `Waiting 0` -/
def FailProto (s : State) (worker : Option Nat) (id : TaskId) : Prop :=
  match worker with
  | some w => UpdNP s w (.failed id)
  | none => ∀ task, s.task? id = some task → task.state = .waiting 0

theorem FailProto.elim {worker : Option Nat} {id : TaskId} {task : Task} (hp : FailProto s worker id)
    (ht : s.task? id = some task) : FailState worker task.state := by
  cases worker with
  | none => exact hp task ht
  | some w =>
    have h := (show UpdNP s w (.failed id) from hp).2
    simp only [ht] at h
    show _ ∨ _
    cases hs : task.state with
    | assigned w' v => rw [hs] at h; simp only at h; subst h; exact Or.inl ⟨v, rfl⟩
    | running w' v => rw [hs] at h; simp only at h; subst h; exact Or.inr (Or.inl ⟨v, rfl⟩)
    | prefilled w' => rw [hs] at h; simp only at h; subst h; exact Or.inr (Or.inr (Or.inl rfl))
    | retracting w' => rw [hs] at h; simp only at h; subst h; exact Or.inr (Or.inr (Or.inr (Or.inl rfl)))
    | runningMN ws =>
      rw [hs] at h
      cases ws with
      | nil => simp at h
      | cons root rest =>
        simp only [List.head?_cons, Option.some.injEq] at h
        subst h; exact Or.inr (Or.inr (Or.inr (Or.inr ⟨rest, rfl⟩)))
    | waiting n => rw [hs] at h; exact h.elim
    | finished => rw [hs] at h; exact h.elim

theorem FailState.slack {worker : Option Nat} {st : TS} (h : FailState worker st) : slack st = 0 := by
  cases worker with
  | none => rw [show st = .waiting 0 from h]; rfl
  | some w =>
    rcases (show _ ∨ _ from h) with ⟨v, e⟩ | ⟨v, e⟩ | e | e | ⟨ws, e⟩ <;> rw [e] <;> rfl

theorem FailState.okState {worker : Option Nat} {st : TS} (h : FailState worker st) :
    ((∃ n, st = .waiting n) ↔ worker = none) ∧ st ≠ .finished := by
  cases worker with
  | none => rw [show st = .waiting 0 from h]; exact ⟨⟨fun _ => rfl, fun _ => ⟨0, rfl⟩⟩, nofun⟩
  | some w =>
    rcases (show _ ∨ _ from h) with ⟨v, e⟩ | ⟨v, e⟩ | e | e | ⟨ws, e⟩ <;> rw [e] <;>
      exact ⟨⟨fun h => (nomatch h.choose_spec), nofun⟩, nofun⟩

theorem Lt.release {s1 : State} {id : TaskId} {task : Task} (hl : Lt U s) (h : Release s id task s1) : Lt U s1 :=
  ⟨h.safe U none [] hl.q, (NPA.release_fr (all := False) h).npidx hl.idx, hl.deps.of_ds (NPB.DS.of_tasks h.tasks)⟩

theorem failPre_ok {worker : Option Nat} {id : TaskId} {task : Task} (hb : Bd U noD [] s)
    (ht : s.task? id = some task) (hf : FailState worker task.state) :
    ∃ s1, failPre s worker id task = .ok s1 ∧ Release s id task s1 := by
  have hmem : task ∈ s.tasks := findTask_some_mem ht
  unfold failPre
  cases worker with
  | none =>
    rw [show task.state = .waiting 0 from hf]
    exact ⟨s, rfl, .keep (.inl ⟨0, hf⟩)⟩
  | some w =>
    simp only
    have hsn : snState task.state → s.isMultiNode task.rq = false := hb.mn.sn task hmem
    rcases (show _ ∨ _ from hf) with ⟨v, hs⟩ | ⟨v, hs⟩ | hs | hs | ⟨ws, hs⟩
    · obtain ⟨r, s1, hr, hww⟩ := detachSn_ok hb ht (fun e => e) (.inl hs)
      rw [hsn (by rw [hs]; trivial), hs]
      simp only [Bool.false_eq_true, if_false, ne_eq, not_true_eq_false, hr, hww]
      exact ⟨s1, rfl, .sn (.inl hs) hr hww⟩
    · obtain ⟨r, s1, hr, hww⟩ := detachSn_ok hb ht (fun e => e) (.inr hs)
      rw [hsn (by rw [hs]; trivial), hs]
      simp only [Bool.false_eq_true, if_false, ne_eq, not_true_eq_false, hr, hww]
      exact ⟨s1, rfl, .sn (.inr hs) hr hww⟩
    · obtain ⟨s1, s2, h1, h2⟩ := detachPre_ok hb ht (fun e => e) hs
      rw [hsn (by rw [hs]; trivial), hs]
      simp only [Bool.false_eq_true, if_false, ne_eq, not_true_eq_false, h1, h2]
      exact ⟨s2, rfl, .pre hs h1 h2⟩
    · obtain ⟨s1, h1⟩ := tryRemoveRedirection_ok' hb.tw hb.idx hb.w ht (fun e => e) ⟨w, hs⟩
      rw [hsn (by rw [hs]; trivial), hs]
      simp only [Bool.false_eq_true, if_false, ne_eq, not_true_eq_false, h1]
      exact ⟨s1, rfl, .retr hs h1⟩
    · obtain ⟨s1, h1⟩ := detachMn_ok hb ht (fun e => e) hs
      have h1 := resetMnChecked_resetMnAll _ h1
      rw [show s.isMultiNode task.rq = true by rw [isMultiNode_eq]; exact hb.inv.mn id task _ ht hs, hs]
      simp only [if_true, ne_eq, not_true_eq_false, if_false, h1]
      exact ⟨s1, rfl, .mn hs h1⟩

theorem failRest_steps {s1 : State} {worker : Option Nat} {id : TaskId} {task : Task} (hb : Bd U noD [] s)
    (ht : s.task? id = some task) (hf : FailState worker task.state) (e1 : s1.tasks = s.tasks) (hl : Lt U s1) :
    ∃ cons s2 s3, s1.recursiveConsumers task = .ok cons ∧ s1.removeWaitingAll cons = .ok s2 ∧
      s2.removeTask id = .ok (s3, task.state) := by
  have hmem : task ∈ s.tasks := findTask_some_mem ht
  obtain ⟨cons, hc⟩ := recursiveConsumers_ok hl.deps (show task ∈ s1.tasks by rw [e1]; exact hmem)
  have hmemc := recursiveConsumers_mem (s := s1) (show findTask s1.tasks id = some task by rw [e1]; exact ht) hc
  -- every recursive consumer is a Waiting task of the map
  have hw : ∀ x ∈ cons, ∃ n, stOf s1.tasks x = some (.waiting n) := by
    intro x hx
    obtain ⟨d, dt, hd, hx'⟩ := hmemc x hx
    rw [e1] at hd ⊢
    obtain ⟨st, hst⟩ := stOf_isSome (hb.deps.cin dt (findTask_some_mem hd) x hx')
    have := hb.inv.cw d dt hd x hx' st hst
    cases st with
    | waiting n => exact ⟨n, hst⟩
    | _ => exact this.elim
  -- the failed task is not among them: nobody lists a task without unfinished dependencies
  have hnc : id ∉ cons := by
    intro hx
    obtain ⟨d, dt, hd, hx'⟩ := hmemc id hx
    rw [e1] at hd
    have := hb.q.nl_of_slack ht hf.slack dt (findTask_some_mem hd) hx'
    cases this
  obtain ⟨s2, h2, hl2, hk2⟩ := removeWaitingAll_ok cons s1 hl (recursiveConsumers_nodup hc) hw
  have hst2 : stOf s2.tasks id = some task.state := by
    rw [hk2 id hnc, e1]; exact stOf_of_find ht
  obtain ⟨task2, ht2, hs2⟩ := stOf_some hst2
  obtain ⟨s3, h3, _, _⟩ := removeTask_ok_lt hl2 (show s2.task? id = some task2 from ht2)
  rw [hs2] at h3
  exact ⟨cons, s2, s3, hc, h2, h3⟩

theorem taskFailed_ok {worker : Option Nat} {id : TaskId} {ret : List TaskId} (hb : Bd U noD [] s)
    (hp : FailProto s worker id) (hret : ret.Nodup) : ∃ r, s.taskFailed worker id ret = .ok r := by
  cases ht : s.task? id with
  | none => rw [taskFailed_eq, ht]; exact ⟨_, rfl⟩
  | some task =>
    have hf := hp.elim ht
    obtain ⟨s1, h1, hrel⟩ := failPre_ok hb ht hf
    obtain ⟨cons, s2, s3, hc, h2, h3⟩ := failRest_steps hb ht hf hrel.tasks (hb.lt.release hrel)
    -- whatever the callback returned, the call is `on_cancel_tasks` of it in the state reached with `[]`
    have e : ∀ ret, s.taskFailed worker id ret = failRet ret (s3, { cbs := [.error id cons] }) := fun ret => by
      rw [taskFailed_eq, ht]
      simp only [h1]
      exact failRest_of ret hc h2 h3 hf.okState.1 hf.okState.2
    rw [e ret]
    unfold failRet
    split
    · exact ⟨_, rfl⟩
    · obtain ⟨⟨s4, out2⟩, h4⟩ := cancelTasks_ok (hb.taskFailed (e [])) hret
      simp only [h4]
      exact ⟨_, rfl⟩

theorem updateState_ok {w : Nat} {u : Update} {rets : List (List TaskId)} (hb : Bd U noD [] s)
    (h1 : UpdProto s w u) (h2 : UpdNP s w u) (h3 : NoF27 s w u) (hr : RetsOk rets) :
    ∃ r, s.updateState w u rets = .ok r := by
  cases u with
  | finished t =>
    obtain ⟨⟨s1, o, b⟩, h⟩ := taskFinished_ok hb h2
    simp only [State.updateState, h]; exact ⟨_, rfl⟩
  | failed t =>
    have hnd : (if (s.task? t).isSome then rets.headD [] else []).Nodup := by
      split
      · exact retsOk_head hr
      · exact List.nodup_nil
    obtain ⟨⟨s1, o⟩, h⟩ := taskFailed_ok (worker := some w) hb h2 hnd
    simp only [State.updateState, h]; exact ⟨_, rfl⟩
  | running t rv =>
    obtain ⟨⟨s1, o⟩, h⟩ := taskRunning_ok hb.inv hb.tw hb.w hb.idx (Or.inl h2) h3
    simp only [State.updateState, h]; exact ⟨_, rfl⟩
  | runningPrefilled t rv =>
    obtain ⟨⟨s1, o⟩, h⟩ := taskRunning_ok hb.inv hb.tw hb.w hb.idx (Or.inr h2) (show NoF27 s w (.running t rv) from h3)
    simp only [State.updateState, h]; exact ⟨_, rfl⟩
  | reject t rv =>
    obtain ⟨⟨s1, o, b⟩, h⟩ := taskReject_ok hb h2 h1
    simp only [State.updateState, h]; exact ⟨_, rfl⟩
  | enable rq rv =>
    obtain ⟨s1, h⟩ := requestEnabled_ok (rq := rq) (rv := rv) h2.1
    simp only [State.updateState, h]; exact ⟨_, rfl⟩

theorem updateState_rets {w : Nat} {u : Update} {rets rets' : List (List TaskId)} {s1 : State}
    (h : s.updateState w u rets = .ok (s1, rets')) : rets' = rets ∨ rets' = rets.tail := by
  cases u <;> simp only [State.updateState] at h <;> split at h <;> cases h
  all_goals first | exact Or.inl rfl | skip
  split
  · exact Or.inr rfl
  · exact Or.inl rfl

theorem updateLoop_step {w : Nat} {u : Update} {rest : List Update} {rets rets' : List (List TaskId)} {out : Out}
    {need : Bool} {s1 : State} (h : s.updateState w u rets = .ok (s1, rets')) :
    ∃ out' need', s.updateLoop w (u :: rest) rets out need = s1.updateLoop w rest rets' out' need' := by
  obtain ⟨o, ho⟩ := updateState_upd1 h
  obtain ⟨e, h1, _⟩ | ⟨s2, o2, rets2, need2, h1, he⟩ := updateLoop_head s w u rest rets out need
  · rw [ho] at h1; cases h1
  · rw [ho] at h1; cases h1; exact ⟨_, _, he⟩

theorem updateLoop_ok {w : Nat} : ∀ (us : List Update) (s : State) (rets : List (List TaskId)) (out : Out) (need : Bool),
    Bd U noD [] s → UpdatesOk UpdProto s w us rets → UpdatesOk UpdNP s w us rets → UpdatesOk NoF27 s w us rets →
    RetsOk rets → ∃ r, s.updateLoop w us rets out need = .ok r
  | [], s, rets, out, need, _, _, _, _, _ => ⟨_, rfl⟩
  | u :: rest, s, rets, out, need, hb, h1, h2, h3, hr => by
    simp only [UpdatesOk] at h1 h2 h3
    obtain ⟨⟨s1, rets'⟩, hu⟩ := updateState_ok hb h1.1 h2.1 h3.1 hr
    obtain ⟨out', need', he⟩ := updateLoop_step (rest := rest) (out := out) (need := need) hu
    rw [he]
    have k1 := h1.2
    have k2 := h2.2
    have k3 := h3.2
    simp only [hu] at k1 k2 k3
    refine updateLoop_ok rest s1 rets' out' need' (hb.updateState h1.1 h2.1 hu) k1 k2 k3 ?_
    rcases updateState_rets hu with e | e <;> rw [e]
    · exact hr
    · exact retsOk_tail hr

theorem taskUpdate_ok {w : Nat} {us : List Update} {rets : List (List TaskId)} (hb : Bd U noD [] s)
    (h1 : UpdatesOk UpdProto s w us rets) (h2 : UpdatesOk UpdNP s w us rets) (h3 : UpdatesOk NoF27 s w us rets)
    (hr : RetsOk rets) : ∃ r, s.taskUpdate w us rets = .ok r := by
  obtain ⟨⟨s1, out, need, rets'⟩, h⟩ := updateLoop_ok us s rets {} false hb h1 h2 h3 hr
  simp only [State.taskUpdate, h]
  exact ⟨_, rfl⟩

theorem cancelTasks_np {ids : List TaskId} (hb : Bd U noD [] s) (hnd : ids.Nodup) : NoCorePanic (s.cancelTasks ids) :=
  NoCorePanic.of_ok (cancelTasks_ok hb hnd)

theorem taskUpdate_np {w : Nat} {us : List Update} {rets : List (List TaskId)} (hb : Bd U noD [] s)
    (h1 : UpdatesOk UpdProto s w us rets) (h2 : UpdatesOk UpdNP s w us rets) (h3 : UpdatesOk NoF27 s w us rets)
    (hr : RetsOk rets) : NoCorePanic (s.taskUpdate w us rets) :=
  NoCorePanic.of_ok (taskUpdate_ok hb h1 h2 h3 hr)

end

end HqModel.Core.NPR
