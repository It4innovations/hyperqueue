import HqModel.Lemmas.CoreOpsReactor
/-!
What the properties C01, C03, C05, C07 and C08 quote of single functions of the core model: `Core::remove_task` makes
the id unknown, updates about unknown tasks are ignored, the crash-limit decision table, a new task with unfinished
dependencies is not queued, the arithmetic of resource reservations (`freeRemove`, `freeAdd`).
-/
namespace HqModel.Core

theorem findTask_eraseTask_self {ts : List Task} {id : TaskId} (h : (taskIds ts).Nodup) :
    findTask (eraseTask ts id) id = none := by
  rw [findTask_eraseTask h id id, if_pos rfl]

theorem removeConsumers_find_none {c x : TaskId} : ∀ (deps : List TaskId) {ts ts' : List Task},
    removeConsumers ts c deps = .ok ts' → findTask ts x = none → findTask ts' x = none
  | [], _, _, h, hn => by cases h; exact hn
  | _ :: rest, _, _, h, hn => by
    obtain ⟨ts1, h1, h'⟩ := removeConsumers_cons_ok h
    refine removeConsumers_find_none rest h' ?_
    rcases removeConsumer_cases h1 with ⟨_, rfl⟩ | ⟨dt, _, _, rfl⟩
    · exact hn
    · rw [findTask_putTask, hn]; split <;> rfl

/-- **the task leaves the core with its outcome**: `Core::remove_task` makes the id unknown (ids being unique) -/
theorem removeTask_unknown {s s' : State} {id : TaskId} {st : TS} (hnd : (taskIds s.tasks).Nodup)
    (h : s.removeTask id = .ok (s', st)) : s'.task? id = none :=
  removeTask_ind (R := fun _ s' => findTask s'.tasks id = none) h (findTask_eraseTask_self hnd)
    (fun f hq => by obtain ⟨_, rfl⟩ := queueRemove_ok_iff.mp hq; exact f) fun f hc => removeConsumers_find_none _ hc f

/-- updates about a task the core does not know are ignored (no callback, no state change) -/
theorem unknown_task_ignored (s : State) (w : Nat) (id : TaskId) (rv : Nat) (orv : Option Nat)
    (h : s.task? id = none) :
    s.taskRunning w id rv = .ok (s, {}) ∧
    s.taskFinished w id = .ok (s, {}, false) ∧
    s.taskFailed (some w) id [] = .ok (s, {}) ∧
    s.taskReject w id orv = .ok (s, {}, false) := by
  simp [State.taskRunning, State.taskFinished, State.taskFailed, State.taskReject, h]

/-! ### C07: the crash-limit decision table -/

theorem crashOutcome_never (f : Bool) (c : Nat) : crashOutcome .never f c = (c, true) := rfl

theorem crashOutcome_unlimited (f : Bool) (c : Nat) : (crashOutcome .unlimited f c).2 = false := by
  cases f <;> rfl

theorem crashOutcome_no_failure (l : CrashLimit) (c : Nat) (hl : l ≠ .never) :
    crashOutcome l false c = (c, false) := by
  cases l <;> simp_all [crashOutcome]

theorem crashOutcome_max (n c : Nat) :
    crashOutcome (.max n) true c = (c + 1, decide (c + 1 ≥ n)) := rfl

/-- the new counter is the old one, or (a failure loss) the old one plus one -/
theorem crashOutcome_fst (l : CrashLimit) (f : Bool) (c : Nat) :
    (crashOutcome l f c).1 = c ∨ ((crashOutcome l f c).1 = c + 1 ∧ f = true) := by
  cases l <;> cases f <;> simp [crashOutcome]

/-- the counter grows by one exactly on a failure loss (for restartable tasks) and the task fails exactly
when the count reaches the limit -/
theorem crashOutcome_spec (l : CrashLimit) (f : Bool) (c : Nat) :
    (crashOutcome l f c).1 = (if f && l ≠ .never then c + 1 else c) ∧
    ((crashOutcome l f c).2 = true ↔
      (l = .never ∨ (f = true ∧ ∃ n, l = .max n ∧ c + 1 ≥ n))) := by
  cases l <;> cases f <;> simp [crashOutcome]

/-! ### C03: counting unfinished dependencies -/

/-- a new task whose count of unfinished dependencies is positive is not put into any ready queue -/
theorem addNewTasks_waits (s : State) (nt : NewTask) (s' : State) (r : List TaskId)
    (h : s.addNewTasks [nt] [] = .ok (s', r)) (hn : (registerDeps s.tasks nt.id nt.deps).2.2 > 0) :
    s'.queues = s.queues := by
  obtain ⟨ts, kept, n, hr, _, h'⟩ := addNewTasks_cons_ok h
  rw [hr] at hn
  rcases h' with ⟨rfl, _⟩ | ⟨_, h'⟩
  · exact absurd hn (Nat.lt_irrefl 0)
  · cases h'; rfl

/-! ### C05: reservations are exact and reversible -/

/-- entries request distinct resources below the length of the vector with explicit amounts that fit -/
def Fits (free : List Nat) : List RqEntry → Prop
  | [] => True
  | e :: rest =>
    e.res < free.length ∧ (∃ a, e.pol = .amount a ∧ a ≤ getD free e.res) ∧
    (∀ e' ∈ rest, e'.res ≠ e.res) ∧
    Fits free rest

theorem getD_setAt_ne (l : List Nat) (i j v : Nat) (h : i ≠ j) : getD (setAt l i v) j = getD l j := by
  simp [getD, setAt, List.getD, h]

theorem getD_setAt_eq (l : List Nat) (i v : Nat) (h : i < l.length) : getD (setAt l i v) i = v := by
  simp [getD, setAt, List.getD, h]

theorem length_setAt (l : List Nat) (i v : Nat) : (setAt l i v).length = l.length := by simp [setAt]

theorem Fits_setAt {free : List Nat} {i v : Nat} :
    ∀ {es : List RqEntry}, (∀ e ∈ es, e.res ≠ i) → Fits free es → Fits (setAt free i v) es
  | [], _, _ => trivial
  | e :: rest, hne, hf => by
    obtain ⟨h1, ⟨a, h2, h3⟩, h4, h5⟩ := hf
    refine ⟨by rw [length_setAt]; exact h1, ⟨a, h2, ?_⟩, h4, ?_⟩
    · rw [getD_setAt_ne _ _ _ _ (hne e (by simp)).symm]; exact h3
    · exact Fits_setAt (fun e' he' => hne e' (by simp [he'])) h5

namespace NP

theorem freeAdd_length {total : List Nat} : ∀ {es : List RqEntry} {F F' : List Nat},
    freeAdd F total es = .ok F' → F'.length = F.length
  | [], F, F', h => by simp only [freeAdd] at h; cases h; rfl
  | e :: rest, F, F', h => by
    simp only [freeAdd] at h
    split at h
    · cases h
    · split at h <;> rw [freeAdd_length h, length_setAt]

theorem freeRemove_length : ∀ {es : List RqEntry} {F F' : List Nat},
    freeRemove F es = .ok F' → F'.length = F.length
  | [], F, F', h => by simp only [freeRemove] at h; cases h; rfl
  | e :: rest, F, F', h => by
    simp only [freeRemove] at h
    split at h
    · cases h
    · split at h <;> rw [freeRemove_length h, length_setAt]

theorem freeAdd_ok (total : List Nat) : ∀ (es : List RqEntry) (F : List Nat), (∀ e ∈ es, e.res < F.length) →
    ∃ F', freeAdd F total es = .ok F' ∧ F'.length = F.length
  | [], F, _ => ⟨F, rfl, rfl⟩
  | e :: rest, F, h => by
    have he : ¬ e.res ≥ F.length := Nat.not_le.mpr (h e List.mem_cons_self)
    have hr : ∀ v, ∃ F', freeAdd (setAt F e.res v) total rest = .ok F' ∧ F'.length = F.length := fun v => by
      rw [← length_setAt F e.res v]
      exact freeAdd_ok total rest _ fun x hx => by rw [length_setAt]; exact h x (List.mem_cons_of_mem _ hx)
    simp only [freeAdd, he, if_false]
    cases e.pol <;> exact hr _

theorem freeRemove_ok : ∀ (es : List RqEntry) (F : List Nat), (∀ e ∈ es, e.res < F.length) →
    ∃ F', freeRemove F es = .ok F' ∧ F'.length = F.length
  | [], F, _ => ⟨F, rfl, rfl⟩
  | e :: rest, F, h => by
    have he : ¬ e.res ≥ F.length := Nat.not_le.mpr (h e List.mem_cons_self)
    have hr : ∀ v, ∃ F', freeRemove (setAt F e.res v) rest = .ok F' ∧ F'.length = F.length := fun v => by
      rw [← length_setAt F e.res v]
      exact freeRemove_ok rest _ fun x hx => by rw [length_setAt]; exact h x (List.mem_cons_of_mem _ hx)
    simp only [freeRemove, he, if_false]
    cases e.pol <;> exact hr _

end NP

end HqModel.Core
