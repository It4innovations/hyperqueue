import HqModel.Core.Run
/-!
Characterising lemmas of the core model's operations: equations for the primitives of `Model.lean`; the two steps the
handlers share, the worker side giving up a task (`Release`) and a record going back into its ready queue
(`Requeued`, `rejectTail`); one path lemma per handler (`…_path`, `…_cases`) listing the equations a successful call
went through. The long handlers are cut into pieces that are computations of their own (`failPre`, `failRest`, `failRet`;
`finPre`, `finTail`; `rejectArms`) with a path lemma each, and a converse `…_of` where not stopping is proved from it.

`s.task? t` is `findTask s.tasks t` and `s.worker? w` is `findWorker s.workers w` by definition (`NP.task?_eq`,
`NP.worker?_eq`); the `…_spec` lemmas of the lookups conclude the list form, the path lemmas the other.
The namespaces `NP`, `NPL`, `NPC`, `NPD` do not say what a lemma is about: they are those of the proof of not stopping
(C09: `NP` the reactor and the round, `NPL` the loss of a worker, `NPC` / `NPD` the queue invariant under the reactor /
the scheduling round), so a lemma and its twin may differ in them (`findTask_some_mem`, `NP.findWorker_some_mem`).
-/
namespace HqModel.Core

theorem ok_of_guard {α : Type} {c : Prop} [Decidable c] {e : Stop} {b : M α} {x : α}
    (h : (if c then .error e else b) = .ok x) : ¬ c ∧ b = .ok x := by
  by_cases hc : c
  · rw [if_pos hc] at h; cases h
  · rw [if_neg hc] at h; exact ⟨hc, h⟩

/-- the guards of the model test a negated `Bool` -/
theorem ok_of_guard_not {α : Type} {b : Bool} {e : Stop} {k : M α} {x : α}
    (h : (if !b then .error e else k) = .ok x) : b = true ∧ k = .ok x := by
  cases b with
  | false => cases h
  | true => exact ⟨rfl, h⟩

/-- the assertions of the model test `≠` -/
theorem ok_of_guard_ne {α β : Type} [DecidableEq β] {a b : β} {e : Stop} {k : M α} {x : α}
    (h : (if a ≠ b then .error e else k) = .ok x) : a = b ∧ k = .ok x :=
  (ok_of_guard h).imp Decidable.not_not.mp id

/-! ### task and worker maps -/

theorem findTask_some_id {ts : List Task} {id : TaskId} {t : Task} (h : findTask ts id = some t) : t.id = id := by
  induction ts with
  | nil => cases h
  | cons y ys ih =>
    simp only [findTask] at h
    split at h
    · cases h; assumption
    · exact ih h

theorem findWorker_some_id {ws : List Worker} {w : Nat} {wk : Worker} (h : findWorker ws w = some wk) : wk.id = w := by
  induction ws with
  | nil => cases h
  | cons y ys ih =>
    simp only [findWorker] at h
    split at h
    · cases h; assumption
    · exact ih h

theorem findTask_some_mem {ts : List Task} {id : TaskId} {t : Task} (h : findTask ts id = some t) : t ∈ ts := by
  induction ts with
  | nil => cases h
  | cons y ys ih =>
    simp only [findTask] at h
    split at h
    · cases h; simp
    · exact List.mem_cons_of_mem _ (ih h)

namespace NP

theorem findWorker_some_mem {ws : List Worker} {w : Nat} {wk : Worker} (h : findWorker ws w = some wk) : wk ∈ ws := by
  induction ws with
  | nil => simp [findWorker] at h
  | cons y ys ih =>
    simp only [findWorker] at h
    split at h
    · cases h; exact List.mem_cons_self
    · exact List.mem_cons_of_mem _ (ih h)

theorem findWorker_of_mem {ws : List Worker} (hn : (ws.map (·.id)).Nodup) {wk : Worker} (h : wk ∈ ws) :
    findWorker ws wk.id = some wk := by
  induction ws with
  | nil => cases h
  | cons y ys ih =>
    simp only [List.map_cons, List.nodup_cons] at hn
    simp only [findWorker]
    rcases List.mem_cons.mp h with e | e
    · subst e; simp
    · have : y.id ≠ wk.id := fun e' => hn.1 (e' ▸ List.mem_map_of_mem e)
      simp only [this, if_false]
      exact ih hn.2 e

end NP

theorem findWorker_filter (ws : List Worker) (w x : Nat) :
    findWorker (ws.filter (·.id ≠ w)) x = if x = w then none else findWorker ws x := by
  induction ws with
  | nil => simp [findWorker]
  | cons y ys ih =>
    simp only [List.filter]
    by_cases hy : y.id = w
    · simp only [hy, ne_eq, not_true_eq_false, decide_false, findWorker]
      rw [ih]
      by_cases hx : x = w
      · simp [hx]
      · have : ¬ w = x := fun e => hx e.symm
        simp [hx, this]
    · simp only [ne_eq, hy, not_false_eq_true, decide_true, findWorker]
      by_cases hyx : y.id = x
      · have : ¬ x = w := fun e => hy (hyx.trans e)
        simp [hyx, this]
      · simp only [hyx, if_false]; exact ih

theorem findWorker_putWorker (ws : List Worker) (wk' : Worker) (x : Nat) :
    findWorker (putWorker ws wk') x = if x = wk'.id then (findWorker ws x).map (fun _ => wk') else findWorker ws x := by
  induction ws with
  | nil => simp [putWorker, findWorker]
  | cons y ys ih =>
    simp only [putWorker]
    by_cases hy : y.id = wk'.id
    · simp only [hy, if_true, findWorker]
      by_cases hx : x = wk'.id
      · simp [hx]
      · have : ¬ wk'.id = x := fun e => hx e.symm
        simp only [this, if_false, hx] at ih ⊢
        exact ih
    · simp only [hy, if_false, findWorker]
      by_cases hyx : y.id = x
      · have : ¬ x = wk'.id := fun e => hy (hyx.trans e)
        simp [hyx, this]
      · simp only [hyx, if_false]; exact ih

theorem putWorker_ids (ws : List Worker) (w : Worker) : (putWorker ws w).map (·.id) = ws.map (·.id) := by
  induction ws with
  | nil => rfl
  | cons y ys ih =>
    simp only [putWorker]
    split
    · rename_i e; simp [ih, e]
    · simp [ih]

theorem putWorker_comm (ws : List Worker) {a b : Worker} (h : a.id ≠ b.id) :
    putWorker (putWorker ws a) b = putWorker (putWorker ws b) a := by
  induction ws with
  | nil => rfl
  | cons x rest ih =>
    simp only [putWorker]
    by_cases h1 : x.id = a.id
    · have h3 : ¬ a.id = b.id := h
      simp only [h1, if_true, putWorker, h3, if_false, ih]
    · by_cases h2 : x.id = b.id
      · have h3 : ¬ b.id = a.id := fun e => h e.symm
        simp only [h2, if_true, if_false, putWorker, h3, ih]
      · simp only [h1, h2, if_false, putWorker, ih]

theorem putWorker_putWorker (ws : List Worker) {a b : Worker} (h : a.id = b.id) :
    putWorker (putWorker ws a) b = putWorker ws b := by
  induction ws with
  | nil => rfl
  | cons x rest ih =>
    simp only [putWorker]
    by_cases h1 : x.id = a.id
    · rw [if_pos h1, if_pos (h1.trans h), putWorker, if_pos h, ih]
    · rw [if_neg h1, if_neg (fun e => h1 (e.trans h.symm)), putWorker, if_neg (fun e => h1 (e.trans h.symm)), ih]

theorem findTask_putTask (ts : List Task) (t' : Task) (x : TaskId) :
    findTask (putTask ts t') x = if x = t'.id then (findTask ts x).map (fun _ => t') else findTask ts x := by
  induction ts with
  | nil => simp [putTask, findTask]
  | cons y ys ih =>
    simp only [putTask]
    by_cases hy : y.id = t'.id
    · simp only [hy, if_true, findTask]
      by_cases hx : x = t'.id
      · simp [hx]
      · have : ¬ t'.id = x := fun e => hx e.symm
        simp only [this, if_false, hx] at ih ⊢
        exact ih
    · simp only [hy, if_false, findTask]
      by_cases hyx : y.id = x
      · have : ¬ x = t'.id := fun e => hy (hyx.trans e)
        simp [hyx, this]
      · simp only [hyx, if_false]; exact ih

def taskIds (ts : List Task) : List TaskId := ts.map (·.id)

theorem taskIds_putTask (ts : List Task) (t : Task) : taskIds (putTask ts t) = taskIds ts := by
  induction ts with
  | nil => rfl
  | cons x rest ih =>
    simp only [putTask]
    split
    · rename_i hx; simp [taskIds, hx] at ih ⊢; exact ih
    · simp [taskIds] at ih ⊢; exact ih

theorem mem_putTask' {ts : List Task} {t x : Task} (h : x ∈ putTask ts t) : x = t ∨ (x ∈ ts ∧ x.id ≠ t.id) := by
  induction ts with
  | nil => cases h
  | cons y ys ih =>
    simp only [putTask] at h
    split at h
    · rcases List.mem_cons.mp h with e | e
      · exact .inl e
      · exact (ih e).imp id fun a => ⟨List.mem_cons_of_mem _ a.1, a.2⟩
    · rename_i hy
      rcases List.mem_cons.mp h with e | e
      · exact .inr ⟨e ▸ List.mem_cons_self .., e ▸ hy⟩
      · exact (ih e).imp id fun a => ⟨List.mem_cons_of_mem _ a.1, a.2⟩

theorem mem_putTask {ts : List Task} {t x : Task} (h : x ∈ putTask ts t) : x = t ∨ x ∈ ts :=
  (mem_putTask' h).imp id (·.1)

theorem mem_eraseTask {ts : List Task} {id : TaskId} {x : Task} (h : x ∈ eraseTask ts id) : x ∈ ts := by
  induction ts with
  | nil => cases h
  | cons y ys ih =>
    simp only [eraseTask] at h
    split at h
    · exact List.mem_cons_of_mem _ h
    · rcases List.mem_cons.mp h with e | e
      · exact e ▸ List.mem_cons_self ..
      · exact List.mem_cons_of_mem _ (ih e)

theorem mem_find_of_nodup {ts : List Task} (hn : (taskIds ts).Nodup) {t : Task} (h : t ∈ ts) :
    findTask ts t.id = some t := by
  induction ts with
  | nil => cases h
  | cons y ys ih =>
    have hn' := List.nodup_cons.mp hn
    rcases List.mem_cons.mp h with e | e
    · subst e; simp [findTask]
    · have hne : y.id ≠ t.id := fun e' =>
        hn'.1 (show y.id ∈ ys.map (·.id) from e' ▸ List.mem_map_of_mem (f := (·.id)) e)
      simp only [findTask, hne, if_false]
      exact ih hn'.2 e

theorem eq_of_mem_of_find {ts : List Task} (hn : (taskIds ts).Nodup) {t0 t : Task} {id : TaskId} (h0 : t0 ∈ ts)
    (hid : t0.id = id) (hf : findTask ts id = some t) : t0 = t :=
  Option.some.inj ((mem_find_of_nodup hn h0).symm.trans (hid ▸ hf))

theorem taskIds_eraseTask_sublist (ts : List Task) (id : TaskId) : (taskIds (eraseTask ts id)).Sublist (taskIds ts) := by
  induction ts with
  | nil => exact List.Sublist.refl _
  | cons x rest ih =>
    simp only [eraseTask]
    split
    · exact List.sublist_cons_self _ _
    · simp only [taskIds, List.map_cons]
      exact List.Sublist.cons_cons _ ih

theorem findTask_none_of_not_mem {ts : List Task} {id : TaskId} (h : id ∉ taskIds ts) : findTask ts id = none := by
  induction ts with
  | nil => rfl
  | cons y ys ih =>
    simp only [taskIds, List.map_cons, List.mem_cons, not_or] at h
    have : ¬ y.id = id := fun e => h.1 e.symm
    simp only [findTask, this, if_false]
    exact ih h.2

theorem not_mem_of_findTask_none {ts : List Task} {id : TaskId} (h : findTask ts id = none) : id ∉ taskIds ts := by
  induction ts with
  | nil => simp [taskIds]
  | cons y ys ih =>
    simp only [findTask] at h
    split at h
    · cases h
    · rename_i hy
      simp only [taskIds, List.map_cons, List.mem_cons, not_or]
      exact ⟨fun e => hy e.symm, ih h⟩

theorem findTask_eraseTask {ts : List Task} (hn : (taskIds ts).Nodup) (id x : TaskId) :
    findTask (eraseTask ts id) x = if x = id then none else findTask ts x := by
  induction ts with
  | nil => simp [eraseTask, findTask]
  | cons y ys ih =>
    simp only [taskIds, List.map_cons, List.nodup_cons] at hn
    simp only [eraseTask]
    by_cases hy : y.id = id
    · simp only [hy, if_true, findTask]
      by_cases hx : x = id
      · subst hx
        simp only [if_true]
        exact findTask_none_of_not_mem (hy ▸ hn.1)
      · have : ¬ id = x := fun e => hx e.symm
        simp [hx, this]
    · simp only [hy, if_false, findTask]
      by_cases hyx : y.id = x
      · have : ¬ x = id := fun e => hy (hyx.trans e)
        simp [hyx, this]
      · simp only [hyx, if_false]; exact ih hn.2

theorem task?_setTask (s : State) (t' : Task) (x : TaskId) :
    (s.setTask t').task? x = if x = t'.id then (s.task? x).map (fun _ => t') else s.task? x :=
  findTask_putTask _ _ _

theorem worker?_setWorker (s : State) (wk : Worker) (y : Nat) :
    (s.setWorker wk).worker? y = if y = wk.id then (s.worker? y).map (fun _ => wk) else s.worker? y :=
  findWorker_putWorker _ _ _

namespace NP

theorem withWorker_ok {s : State} {w : Nat} {wk wk' : Worker} {f : Worker → M Worker} (hw : s.worker? w = some wk)
    (hf : f wk = .ok wk') : s.withWorker w f = .ok (s.setWorker wk') := by
  simp [State.withWorker, State.getWorker, hw, hf]

theorem getWorker_ok {s : State} {w : Nat} {wk : Worker} (hw : s.worker? w = some wk) : s.getWorker w = .ok wk := by
  simp [State.getWorker, hw]

theorem getTask_ok {s : State} {t : TaskId} {task : Task} (ht : s.task? t = some task) : s.getTask t = .ok task := by
  simp [State.getTask, ht]

theorem worker?_eq (s : State) (w : Nat) : s.worker? w = findWorker s.workers w := rfl
theorem task?_eq (s : State) (t : TaskId) : s.task? t = findTask s.tasks t := rfl

end NP

theorem getWorker_spec {s : State} {w : Nat} {wk : Worker} (h : s.getWorker w = .ok wk) :
    findWorker s.workers w = some wk := by
  simp only [State.getWorker, State.worker?] at h
  split at h
  · cases h; assumption
  · cases h

theorem getTask_spec {s : State} {t : TaskId} {task : Task} (h : s.getTask t = .ok task) :
    findTask s.tasks t = some task := by
  simp only [State.getTask, State.task?] at h
  split at h
  · cases h; assumption
  · cases h

theorem withWorker_spec {s s' : State} {w : Nat} {f : Worker → M Worker} (h : s.withWorker w f = .ok s') :
    ∃ wk wk', findWorker s.workers w = some wk ∧ f wk = .ok wk' ∧ s' = s.setWorker wk' := by
  simp only [State.withWorker] at h
  split at h
  · cases h
  · rename_i wk hw
    split at h
    · cases h
    · rename_i wk' hf
      cases h
      exact ⟨wk, wk', getWorker_spec hw, hf, rfl⟩

theorem withWorker_tasks {s s' : State} {w : Nat} {f : Worker → M Worker}
    (h : s.withWorker w f = .ok s') : s'.tasks = s.tasks := by
  obtain ⟨_, _, _, _, rfl⟩ := withWorker_spec h; rfl

theorem withWorker_redirects {s s' : State} {w : Nat} {f : Worker → M Worker} (h : s.withWorker w f = .ok s') :
    s'.redirects = s.redirects := by
  obtain ⟨wk, wk', _, _, rfl⟩ := withWorker_spec h; rfl

theorem rq_ok_iff {s : State} {rq rv : Nat} {r : Rq} :
    s.rq rq rv = .ok r ↔ ∃ rqv, s.rqs[rq]? = some rqv ∧ rqv[rv]? = some r := by
  unfold State.rq
  cases s.rqs[rq]? with
  | none => simp
  | some rqv => cases h : rqv[rv]? <;> simp [h]

/-! ### worker-record operations -/

theorem insertSn_spec {wk wk' : Worker} {t : TaskId} {r : Rq} (h : wk.insertSn t r = .ok wk') :
    ∃ A F P F', wk.assign = .sn A F P ∧ freeRemove F r.entries = .ok F' ∧ t ∉ A ∧
      wk' = { wk with assign := .sn (A ++ [t]) F' P } := by
  simp only [Worker.insertSn] at h
  split at h
  · rename_i A F P ha
    split at h
    · cases h
    · rename_i F' hf
      split at h
      · cases h
      · rename_i hc
        cases h
        exact ⟨A, F, P, F', ha, hf, by simpa using hc, rfl⟩
  · cases h

theorem removeSn_spec {wk wk' : Worker} {t : TaskId} {r : Rq} (h : wk.removeSn t r = .ok wk') :
    ∃ A F P F', wk.assign = .sn A F P ∧ freeAdd F wk.total r.entries = .ok F' ∧ t ∈ A ∧
      wk' = { wk with assign := .sn (A.erase t) F' P } := by
  simp only [Worker.removeSn] at h
  split at h
  · rename_i A F P ha
    obtain ⟨hc, h⟩ := ok_of_guard_not h
    split at h
    · cases h
    · rename_i F' hf
      cases h
      exact ⟨A, F, P, F', ha, hf, List.contains_iff_mem.mp hc, rfl⟩
  · cases h

theorem insertPrefill_spec {wk wk' : Worker} {t : TaskId} (h : wk.insertPrefill t = .ok wk') :
    ∃ A F P, wk.assign = .sn A F P ∧ t ∉ P ∧ wk' = { wk with assign := .sn A F (P ++ [t]) } := by
  simp only [Worker.insertPrefill] at h
  split at h
  · rename_i A F P ha
    split at h
    · cases h
    · rename_i hc
      cases h
      exact ⟨A, F, P, ha, by simpa using hc, rfl⟩
  · cases h

theorem removePrefill_spec {wk wk' : Worker} {t : TaskId} (h : wk.removePrefill t = .ok wk') :
    ∃ A F P, wk.assign = .sn A F P ∧ t ∈ P ∧ wk' = { wk with assign := .sn A F (P.erase t) } := by
  simp only [Worker.removePrefill] at h
  split at h
  · rename_i A F P ha
    obtain ⟨hc, h⟩ := ok_of_guard_not h
    cases h
    exact ⟨A, F, P, ha, List.contains_iff_mem.mp hc, rfl⟩
  · cases h

theorem prefilledToStarted_spec {wk wk' : Worker} {t : TaskId} {r : Rq} (h : wk.prefilledToStarted t r = .ok wk') :
    ∃ A F P F', wk.assign = .sn A F P ∧ freeRemove F r.entries = .ok F' ∧ t ∈ P ∧ t ∉ A ∧
      wk' = { wk with assign := .sn (A ++ [t]) F' (P.erase t) } := by
  simp only [Worker.prefilledToStarted] at h
  split at h
  · rename_i A F P ha
    obtain ⟨hc1, h⟩ := ok_of_guard_not h
    split at h
    · cases h
    · rename_i hc2
      split at h
      · cases h
      · rename_i F' hf
        cases h
        exact ⟨A, F, P, F', ha, hf, List.contains_iff_mem.mp hc1, by simpa using hc2, rfl⟩
  · cases h

theorem setMn_spec {wk wk' : Worker} {t : TaskId} {root : Bool} (h : wk.setMn t root = .ok wk') :
    (∃ F, wk.assign = .sn [] F []) ∧ wk' = { wk with assign := .mn t root false } := by
  simp only [Worker.setMn] at h
  obtain ⟨hc, h⟩ := ok_of_guard_not h
  cases h
  refine ⟨?_, rfl⟩
  cases ha : wk.assign with
  | sn A F P =>
    simp only [Worker.isFree, ha] at hc
    cases A <;> cases P <;> simp at hc
    exact ⟨F, rfl⟩
  | mn a b c => simp [Worker.isFree, ha] at hc

/-- the tasks a worker record lists (`prefilled_tasks ++ assigned_tasks`, or the multi-node task) -/
def Assign.ids : Assign → List TaskId
  | .sn A _ P => P ++ A
  | .mn t _ _ => [t]

/-! ### task queues -/

namespace NPC

theorem length_disposeAll (qs : List Queue) (p : Int) : (disposeAll qs p).1.length = qs.length := by
  induction qs with
  | nil => rfl
  | cons q rest ih => simp only [disposeAll, List.length_cons, ih]

theorem length_modifyQueue (qs : List Queue) (i : Nat) (f : Queue → Queue) :
    (modifyQueue qs i f).length = qs.length := by
  unfold modifyQueue
  split <;> simp

end NPC

theorem addReady_ok_iff {s s' : State} {t : Task} {r : List TaskId} :
    s.addReady t = .ok (s', r) ↔ t.rq < s.queues.length ∧ r = (disposeAll s.queues t.prio).2 ∧
      s' = { s with queues := modifyQueue (disposeAll s.queues t.prio).1 t.rq fun q =>
               { q with ready := readyAdd q.ready t.id t.prio } } := by
  unfold State.addReady
  by_cases h : t.rq ≥ s.queues.length
  · rw [if_pos h]
    exact ⟨(fun h' => nomatch h'), fun h' => absurd h'.1 (Nat.not_lt.mpr h)⟩
  · rw [if_neg h]
    constructor
    · intro h'
      cases h'
      exact ⟨Nat.lt_of_not_ge h, rfl, rfl⟩
    · rintro ⟨_, rfl, rfl⟩
      rfl

theorem queueRemove_ok_iff {s s' : State} {rq : Nat} {id : TaskId} {p : Int} :
    s.queueRemove rq id p = .ok s' ↔ rq < s.queues.length ∧
      s' = { s with queues := modifyQueue s.queues rq fun q => q.remove id p } := by
  unfold State.queueRemove
  by_cases h : rq ≥ s.queues.length
  · rw [if_pos h]
    exact ⟨(fun h' => nomatch h'), fun h' => absurd h'.1 (Nat.not_lt.mpr h)⟩
  · rw [if_neg h]
    constructor
    · intro h'
      cases h'
      exact ⟨Nat.lt_of_not_ge h, rfl⟩
    · rintro ⟨_, rfl⟩
      rfl

theorem removePrefilled_ok_iff {s s' : State} {rq : Nat} {id : TaskId} :
    s.removePrefilled rq id = .ok s' ↔ ∃ q pp ts, s.queues[rq]? = some q ∧ q.prefill = some (pp, ts) ∧ id ∈ ts ∧
      s' = { s with
        queues := s.queues.set rq { q with prefill := if (ts.erase id).isEmpty then none else some (pp, ts.erase id) } } := by
  constructor
  · intro h
    simp only [State.removePrefilled] at h
    split at h
    · cases h
    · rename_i q hq
      split at h
      · cases h
      · rename_i pp ts hp
        obtain ⟨hc, h⟩ := ok_of_guard_not h
        cases h
        exact ⟨q, pp, ts, hq, hp, List.contains_iff_mem.mp hc, rfl⟩
  · rintro ⟨q, pp, ts, hq, hp, hm, rfl⟩
    have hc : ts.contains id = true := by simpa using hm
    simp only [State.removePrefilled, hq, hp, hc, Bool.not_true, Bool.false_eq_true, if_false]

theorem movePrefilledToReady_ok_iff {s s' : State} {rq : Nat} {id : TaskId} :
    s.movePrefilledToReady rq id = .ok s' ↔
      ∃ q pp ts, s.queues[rq]? = some q ∧ q.prefill = some (pp, ts) ∧ id ∈ ts ∧
        s' = { s with
          queues := s.queues.set rq { ready := readyAdd q.ready id pp,
                                      prefill := if (ts.erase id).isEmpty then none else some (pp, ts.erase id) } } := by
  constructor
  · intro h
    simp only [State.movePrefilledToReady] at h
    split at h
    · cases h
    · rename_i q hq
      split at h
      · cases h
      · rename_i pp ts hp
        obtain ⟨hc, h⟩ := ok_of_guard_not h
        cases h
        exact ⟨q, pp, ts, hq, hp, List.contains_iff_mem.mp hc, rfl⟩
  · rintro ⟨q, pp, ts, hq, hp, hm, rfl⟩
    have hc : ts.contains id = true := by simpa using hm
    simp only [State.movePrefilledToReady, hq, hp, hc, Bool.not_true, Bool.false_eq_true, if_false]

/-- the four components that queue operations leave alone: tasks, workers, redirects and requests -/
structure CoreEq (s s' : State) : Prop where
  t : s'.tasks = s.tasks
  w : s'.workers = s.workers
  r : s'.redirects = s.redirects
  q : s'.rqs = s.rqs

theorem CoreEq.refl (s : State) : CoreEq s s := ⟨rfl, rfl, rfl, rfl⟩
theorem CoreEq.trans {a b c : State} (h1 : CoreEq a b) (h2 : CoreEq b c) : CoreEq a c :=
  ⟨h2.t.trans h1.t, h2.w.trans h1.w, h2.r.trans h1.r, h2.q.trans h1.q⟩
theorem CoreEq.ask (s : State) : CoreEq s (ask s) := ⟨rfl, rfl, rfl, rfl⟩

theorem addReady_core {s s' : State} {t : Task} {r : List TaskId} (h : s.addReady t = .ok (s', r)) : CoreEq s s' := by
  obtain ⟨_, _, rfl⟩ := addReady_ok_iff.mp h; exact ⟨rfl, rfl, rfl, rfl⟩

theorem queueRemove_core {s s' : State} {rq : Nat} {t : TaskId} {p : Int} (h : s.queueRemove rq t p = .ok s') :
    CoreEq s s' := by
  obtain ⟨_, rfl⟩ := queueRemove_ok_iff.mp h; exact ⟨rfl, rfl, rfl, rfl⟩

theorem removePrefilled_core {s s' : State} {rq : Nat} {t : TaskId} (h : s.removePrefilled rq t = .ok s') :
    CoreEq s s' := by
  obtain ⟨_, _, _, _, _, _, rfl⟩ := removePrefilled_ok_iff.mp h; exact ⟨rfl, rfl, rfl, rfl⟩

theorem movePrefilledToReady_core {s s' : State} {rq : Nat} {t : TaskId} (h : s.movePrefilledToReady rq t = .ok s') :
    CoreEq s s' := by
  obtain ⟨_, _, _, _, _, _, rfl⟩ := movePrefilledToReady_ok_iff.mp h; exact ⟨rfl, rfl, rfl, rfl⟩

/-! ### redirects -/

theorem rd_mem_of_find {rd : List (TaskId × Nat × Nat)} {t : TaskId} {x : TaskId × Nat × Nat}
    (h : rd.find? (·.1 = t) = some x) : x ∈ rd ∧ x.1 = t := by
  have h1 := List.mem_of_find?_eq_some h
  have h2 := List.find?_some h
  simp at h2
  exact ⟨h1, h2⟩

theorem rd_find_none {rd : List (TaskId × Nat × Nat)} {t : TaskId}
    (h : rd.find? (·.1 = t) = none) (w v : Nat) : (t, w, v) ∉ rd := by
  intro hm
  have := List.find?_eq_none.mp h _ hm
  simp at this

theorem tryRemoveRedirection_cases {s s' : State} {t : TaskId} {rq : Nat} (h : s.tryRemoveRedirection t rq = .ok s') :
    (s.redirects.find? (·.1 = t) = none ∧ s' = s) ∨
    ∃ w rv r, s.redirects.find? (·.1 = t) = some (t, w, rv) ∧ s.rq rq rv = .ok r ∧
      ({ s with redirects := s.redirects.filter (·.1 ≠ t) } : State).withWorker w (·.removeSn t r) = .ok s' := by
  simp only [State.tryRemoveRedirection] at h
  split at h
  · rename_i hn
    cases h
    exact .inl ⟨hn, rfl⟩
  · rename_i t0 w rv hf
    have ht0 : t0 = t := (rd_mem_of_find hf).2
    subst ht0
    split at h
    · cases h
    · rename_i r hr
      exact .inr ⟨w, rv, r, hf, hr, h⟩

theorem tryRemoveRedirection_eq {s s' : State} {t : TaskId} {rq : Nat} (h : s.tryRemoveRedirection t rq = .ok s') :
    s' = { s with workers := s'.workers, redirects := s'.redirects } := by
  rcases tryRemoveRedirection_cases h with ⟨_, rfl⟩ | ⟨w, rv, r, _, _, h1⟩
  · rfl
  · obtain ⟨wk, wk', _, _, rfl⟩ := withWorker_spec h1
    rfl

/-! ### `process_retracted` -/

theorem processRetracted_cons_ok {s s' : State} {t : TaskId} {rest : List TaskId} {acc acc' : List (Nat × TaskId)}
    (h : s.processRetracted (t :: rest) acc = .ok (s', acc')) :
    ∃ task w s1, s.task? t = some task ∧ task.state = .prefilled w ∧ s.withWorker w (·.removePrefill t) = .ok s1 ∧
      (s1.setTask { task with state := .retracting w }).processRetracted rest (acc ++ [(w, t)]) = .ok (s', acc') := by
  simp only [State.processRetracted] at h
  split at h
  · cases h
  · rename_i task ht
    split at h
    · rename_i w hs
      split at h
      · cases h
      · rename_i s1 hw
        exact ⟨task, w, s1, getTask_spec ht, hs, hw, h⟩
    · cases h

theorem retract_ok_iff {s s' : State} {l : List TaskId} {o : Out} :
    s.retract l = .ok (s', o) ↔ ∃ pairs, s.processRetracted l [] = .ok (s', pairs) ∧
      o = { msgs := (groupByWorker pairs).map fun p => .retract p.1 p.2 } := by
  unfold State.retract
  cases s.processRetracted l [] with
  | error e => exact ⟨(fun h => nomatch h), fun ⟨_, h, _⟩ => nomatch h⟩
  | ok x =>
    constructor
    · intro h
      cases h
      exact ⟨_, rfl, rfl⟩
    · rintro ⟨_, h, rfl⟩
      cases h
      rfl

/-! ### `Core::remove_task` -/

theorem removeConsumer_cases {ts ts' : List Task} {d c : TaskId} (h : removeConsumer ts d c = .ok ts') :
    (findTask ts d = none ∧ ts' = ts) ∨
    ∃ dt, findTask ts d = some dt ∧ c ∈ dt.consumers ∧ ts' = putTask ts { dt with consumers := dt.consumers.erase c } := by
  simp only [removeConsumer] at h
  split at h
  · rename_i hn
    cases h
    exact .inl ⟨hn, rfl⟩
  · rename_i dt hd
    obtain ⟨hc, h⟩ := ok_of_guard_not h
    cases h
    exact .inr ⟨dt, hd, List.contains_iff_mem.mp hc, rfl⟩

theorem removeConsumers_cons_ok {ts ts' : List Task} {c d : TaskId} {rest : List TaskId}
    (h : removeConsumers ts c (d :: rest) = .ok ts') :
    ∃ ts1, removeConsumer ts d c = .ok ts1 ∧ removeConsumers ts1 c rest = .ok ts' := by
  simp only [removeConsumers] at h
  split at h
  · cases h
  · rename_i ts1 h1
    exact ⟨ts1, h1, h⟩

theorem removeConsumers_ids : ∀ (deps : List TaskId) (ts ts' : List Task) (c : TaskId),
    removeConsumers ts c deps = .ok ts' → taskIds ts' = taskIds ts
  | [], _, _, _, h => by simp only [removeConsumers] at h; cases h; rfl
  | d :: rest, ts, ts', c, h => by
    obtain ⟨ts1, h1, h2⟩ := removeConsumers_cons_ok h
    rw [removeConsumers_ids rest ts1 ts' c h2]
    rcases removeConsumer_cases h1 with ⟨_, rfl⟩ | ⟨dt, _, _, rfl⟩
    · rfl
    · exact taskIds_putTask _ _

theorem removeTask_cases {s s' : State} {id : TaskId} {st : TS} (h : s.removeTask id = .ok (s', st)) :
    ∃ task, s.task? id = some task ∧ st = task.state ∧
      (((∀ n, st ≠ .waiting n) ∧ (∀ w, st ≠ .retracting w) ∧ s' = { s with tasks := eraseTask s.tasks id }) ∨
       ∃ s1, ({ s with tasks := eraseTask s.tasks id } : State).queueRemove task.rq id task.prio = .ok s1 ∧
         (((st = .waiting 0 ∨ ∃ w, st = .retracting w) ∧ s' = s1) ∨
          ∃ n ts, st = .waiting (n + 1) ∧ removeConsumers s1.tasks id task.deps = .ok ts ∧
            s' = { s1 with tasks := ts })) := by
  simp only [State.removeTask] at h
  split at h
  · cases h
  · rename_i task ht
    refine ⟨task, ht, ?_⟩
    split at h
    · rename_i n hs
      split at h
      · cases h
      · rename_i s1 hq
        split at h
        · rename_i hn
          split at h
          · cases h
          · rename_i ts hc
            cases h
            obtain ⟨m, rfl⟩ : ∃ m, n = m + 1 := ⟨n - 1, by omega⟩
            exact ⟨rfl, .inr ⟨s1, hq, .inr ⟨m, ts, hs, hc, rfl⟩⟩⟩
        · rename_i hn
          cases h
          have : n = 0 := by omega
          subst this
          exact ⟨rfl, .inr ⟨_, hq, .inl ⟨.inl hs, rfl⟩⟩⟩
    · rename_i w hs
      split at h
      · cases h
      · rename_i s1 hq
        cases h
        exact ⟨rfl, .inr ⟨_, hq, .inl ⟨.inr ⟨w, hs⟩, rfl⟩⟩⟩
    · rename_i h1 h2
      cases h
      exact ⟨rfl, .inl ⟨fun n e => h1 n e, fun w e => h2 w e, rfl⟩⟩

/-- `Core::remove_task` erases the record, takes the id of a queued task out of its queue, and strikes a task that still
waits for dependencies from their consumer lists: a relation kept by each of the three steps is kept by the call -/
theorem removeTask_ind {R : State → State → Prop} {s s' : State} {id : TaskId} {st : TS}
    (h : s.removeTask id = .ok (s', st)) (erase : R s { s with tasks := eraseTask s.tasks id })
    (qr : ∀ {s0 s1 : State} {rq : Nat} {p : Int}, R s s0 → s0.queueRemove rq id p = .ok s1 → R s s1)
    (rc : ∀ {s1 : State} {ts : List Task} {deps : List TaskId}, R s s1 → removeConsumers s1.tasks id deps = .ok ts →
      R s { s1 with tasks := ts }) : R s s' := by
  obtain ⟨task, _, _, h1⟩ := removeTask_cases h
  rcases h1 with ⟨_, _, rfl⟩ | ⟨s1, hq, ⟨_, rfl⟩ | ⟨n, ts, _, hc, rfl⟩⟩
  · exact erase
  · exact qr erase hq
  · exact rc (qr erase hq) hc

theorem removeTask_eq {s s' : State} {id : TaskId} {st : TS} (h : s.removeTask id = .ok (s', st)) :
    s' = { s with tasks := s'.tasks, queues := s'.queues } :=
  removeTask_ind (R := fun s s' => s' = { s with tasks := s'.tasks, queues := s'.queues }) h rfl
    (fun f hq => by obtain ⟨_, rfl⟩ := queueRemove_ok_iff.mp hq; rw [f]) fun f _ => by rw [f]

theorem removeWaitingAll_batched : ∀ (l : List TaskId) {s s' : State},
    s.removeWaitingAll l = .ok s' → s.removeTasksBatched l = .ok s'
  | [], _, _, h => h
  | t :: rest, s, s', h => by
    simp only [State.removeWaitingAll] at h
    simp only [State.removeTasksBatched]
    split at h
    · cases h
    · rename_i s1 st h1
      split at h
      · exact removeWaitingAll_batched rest h
      · cases h

/-! ### multi-node workers -/

theorem resetMnAll_cons_ok {s s' : State} {w : Nat} {rest : List Nat} (h : resetMnAll s (w :: rest) = .ok s') :
    ∃ wk, s.worker? w = some wk ∧ resetMnAll (s.setWorker wk.emptySn) rest = .ok s' := by
  simp only [resetMnAll] at h
  split at h
  · cases h
  · rename_i wk hw
    exact ⟨wk, getWorker_spec hw, h⟩

theorem resetMnChecked_cons_ok {s s' : State} {id : TaskId} {w : Nat} {rest : List Nat}
    (h : resetMnChecked s id (w :: rest) = .ok s') :
    ∃ wk r st, s.worker? w = some wk ∧ wk.assign = .mn id r st ∧
      resetMnChecked (s.setWorker wk.emptySn) id rest = .ok s' := by
  simp only [resetMnChecked] at h
  split at h
  · cases h
  · rename_i wk hw
    split at h
    · rename_i t r st ha
      replace h := ok_of_guard_ne h
      obtain ⟨rfl, h⟩ := h
      exact ⟨wk, r, st, getWorker_spec hw, ha, h⟩
    · cases h

theorem resetMnChecked_resetMnAll {id : TaskId} : ∀ (l : List Nat) {s s' : State},
    resetMnChecked s id l = .ok s' → resetMnAll s l = .ok s'
  | [], _, _, h => h
  | w :: rest, s, s', h => by
    obtain ⟨wk, _, _, hw, _, h1⟩ := resetMnChecked_cons_ok h
    simp only [resetMnAll, NP.getWorker_ok hw]
    exact resetMnChecked_resetMnAll rest h1

theorem resetMnAll_eq : ∀ (l : List Nat) {s s' : State}, resetMnAll s l = .ok s' → s' = { s with workers := s'.workers }
  | [], _, _, h => by cases h; rfl
  | w :: rest, s, s', h => by
    obtain ⟨wk, _, h1⟩ := resetMnAll_cons_ok h
    exact (resetMnAll_eq rest h1 :)

/-! ### the worker side gives up a task -/

/-- The worker side gives up task `id` (`task` = its record in `s`): what `on_cancel_tasks`, `task_failed`,
`task_finished` and `task_reject` do, according to the state of the task, before they deal with the task itself. -/
inductive Release (s : State) (id : TaskId) (task : Task) : State → Prop
  | keep (hs : (∃ n, task.state = .waiting n) ∨ task.state = .finished ∨
      ((∃ ws, task.state = .runningMN ws) ∧ s.isMultiNode task.rq = false)) : Release s id task s
  | sn {w rv : Nat} {r : Rq} {s1 : State} (hs : task.state = .assigned w rv ∨ task.state = .running w rv)
      (hr : s.rq task.rq rv = .ok r) (h : s.withWorker w (·.removeSn id r) = .ok s1) : Release s id task s1
  /-- the prefill set that loses the task is that of the worker given (`task_reject`: the reporting worker), whichever
  worker the state names -/
  | pre {w w' : Nat} {s1 s2 : State} (hs : task.state = .prefilled w') (h1 : s.removePrefilled task.rq id = .ok s1)
      (h2 : s1.withWorker w (·.removePrefill id) = .ok s2) : Release s id task s2
  | retr {w : Nat} {s1 : State} (hs : task.state = .retracting w)
      (h : s.tryRemoveRedirection id task.rq = .ok s1) : Release s id task s1
  | mn {ws : List Nat} {s1 : State} (hs : task.state = .runningMN ws) (h : resetMnAll s ws = .ok s1) :
      Release s id task s1

theorem Release.eq {s s1 : State} {id : TaskId} {task : Task} (h : Release s id task s1) :
    s1 = { s with workers := s1.workers, redirects := s1.redirects, queues := s1.queues } := by
  cases h with
  | keep => rfl
  | sn _ _ h => obtain ⟨_, _, _, _, rfl⟩ := withWorker_spec h; rfl
  | pre _ h1 h2 =>
    obtain ⟨_, _, _, _, _, _, rfl⟩ := removePrefilled_ok_iff.mp h1
    obtain ⟨_, _, _, _, rfl⟩ := withWorker_spec h2
    rfl
  | retr _ h => rw [tryRemoveRedirection_eq h]
  | mn _ h => rw [resetMnAll_eq _ h]

theorem Release.tasks {s s1 : State} {id : TaskId} {task : Task} (h : Release s id task s1) : s1.tasks = s.tasks :=
  (congrArg State.tasks h.eq :)

theorem Release.rqs {s s1 : State} {id : TaskId} {task : Task} (h : Release s id task s1) : s1.rqs = s.rqs :=
  (congrArg State.rqs h.eq :)

theorem Release.queues {s s1 : State} {id : TaskId} {task : Task} (h : Release s id task s1)
    (hnp : ∀ w, task.state ≠ .prefilled w) : s1.queues = s.queues := by
  cases h with
  | keep => rfl
  | sn _ _ h => obtain ⟨_, _, _, _, rfl⟩ := withWorker_spec h; rfl
  | pre hs => exact absurd hs (hnp _)
  | retr _ h => exact (congrArg State.queues (tryRemoveRedirection_eq h) :)
  | mn _ h => exact (congrArg State.queues (resetMnAll_eq _ h) :)

/-- `task_reject` takes the prefilled task from the worker first and from the queue second; the result is the same -/
theorem removePrefill_removePrefilled {s s1 s2 : State} {w rq : Nat} {id : TaskId}
    (h1 : s.withWorker w (·.removePrefill id) = .ok s1) (h2 : s1.removePrefilled rq id = .ok s2) :
    ∃ s0, s.removePrefilled rq id = .ok s0 ∧ s0.withWorker w (·.removePrefill id) = .ok s2 := by
  obtain ⟨wk, wk', hw, hf, rfl⟩ := withWorker_spec h1
  obtain ⟨q, pp, ts, hq, hp, hm, rfl⟩ := removePrefilled_ok_iff.mp h2
  exact ⟨_, removePrefilled_ok_iff.mpr ⟨q, pp, ts, hq, hp, hm, rfl⟩, NP.withWorker_ok (wk := wk) hw hf⟩

theorem removePrefilled_removePrefill {s s1 s2 : State} {w rq : Nat} {id : TaskId}
    (h1 : s.removePrefilled rq id = .ok s1) (h2 : s1.withWorker w (·.removePrefill id) = .ok s2) :
    ∃ s0, s.withWorker w (·.removePrefill id) = .ok s0 ∧ s0.removePrefilled rq id = .ok s2 := by
  obtain ⟨q, pp, ts, hq, hp, hm, rfl⟩ := removePrefilled_ok_iff.mp h1
  obtain ⟨wk, wk', hw, hf, rfl⟩ := withWorker_spec h2
  exact ⟨_, NP.withWorker_ok (wk := wk) hw hf, removePrefilled_ok_iff.mpr ⟨q, pp, ts, hq, hp, hm, rfl⟩⟩

theorem Release.pre' {s s1 s2 : State} {id : TaskId} {task : Task} {w w' : Nat} (hs : task.state = .prefilled w')
    (h1 : s.withWorker w (·.removePrefill id) = .ok s1) (h2 : s1.removePrefilled task.rq id = .ok s2) :
    Release s id task s2 := by
  obtain ⟨s0, a, b⟩ := removePrefill_removePrefilled h1 h2
  exact .pre hs a b

/-! ### a record goes (back) into its ready queue -/

/-- The record `t'` is stored and its id put into the ready list of its queue; `r` = the prefilled ids of lower
priority, to be retracted. The tail of `task_reject` (`rejectTail`), the loop of `on_remove_worker` over the lost
worker's assigned tasks and a consumer whose last dependency finished all do this. -/
def Requeued (s : State) (t' : Task) (s2 : State) (r : List TaskId) : Prop :=
  (s.setTask t').addReady t' = .ok (s2, r)

theorem Requeued.eq {s s2 : State} {t' : Task} {r : List TaskId} (h : Requeued s t' s2 r) :
    t'.rq < s.queues.length ∧ r = (disposeAll s.queues t'.prio).2 ∧
    s2 = { s with tasks := putTask s.tasks t',
                  queues := modifyQueue (disposeAll s.queues t'.prio).1 t'.rq fun q =>
                    { q with ready := readyAdd q.ready t'.id t'.prio } } :=
  addReady_ok_iff.mp h

/-- the common tail of `task_reject`: `task.state = Waiting{0}; add_ready_task; process_retracted; return true` -/
def rejectTail (s1 : State) (task : Task) : M (State × Out × Bool) :=
  match (s1.setTask { task with state := .waiting 0 }).addReady { task with state := .waiting 0 } with
  | .error e => .error e
  | .ok (s2, retracted) =>
    match s2.retract retracted with
    | .error e => .error e
    | .ok (s3, out) => .ok (s3, out, true)

theorem rejectTail_ok_iff {s1 : State} {task : Task} {res : State × Out × Bool} :
    rejectTail s1 task = .ok res ↔ ∃ s2 r s3 out, Requeued s1 { task with state := .waiting 0 } s2 r ∧
      s2.retract r = .ok (s3, out) ∧ res = (s3, out, true) := by
  constructor
  · intro h
    simp only [rejectTail] at h
    split at h
    · cases h
    · rename_i s2 r h1
      split at h
      · cases h
      · rename_i s3 out h2
        cases h
        exact ⟨s2, r, s3, out, h1, h2, rfl⟩
  · rintro ⟨s2, r, s3, out, h1, h2, rfl⟩
    simp only [rejectTail, show (s1.setTask { task with state := .waiting 0 }).addReady _ = _ from h1, h2]

/-! ### `on_cancel_tasks`: one iteration of the loop -/

/-- what the loop of `on_cancel_tasks` does for a known task: the state it continues with and the list of workers
to notify -/
inductive CancelArm (s : State) (id : TaskId) (task : Task) (running : List (Nat × List TaskId)) :
    State → List (Nat × List TaskId) → Prop
  | waiting {n : Nat} (hs : task.state = .waiting n) : CancelArm s id task running (ask s) running
  | sn {w rv : Nat} {r : Rq} {s1 : State} (hs : task.state = .assigned w rv ∨ task.state = .running w rv)
      (hr : s.rq task.rq rv = .ok r) (h : s.withWorker w (·.removeSn id r) = .ok s1) :
      CancelArm s id task running (ask s1) (addTo running w id)
  | mn {root : Nat} {ws : List Nat} {s1 : State} (hs : task.state = .runningMN (root :: ws))
      (h : resetMnAll s (root :: ws) = .ok s1) : CancelArm s id task running (ask s1) (addTo running root id)
  | retr {w : Nat} {s1 : State} (hs : task.state = .retracting w)
      (h : s.tryRemoveRedirection id task.rq = .ok s1) : CancelArm s id task running (ask s1) (addTo running w id)
  | pre {w : Nat} {s1 s2 : State} (hs : task.state = .prefilled w) (h1 : s.removePrefilled task.rq id = .ok s1)
      (h2 : s1.withWorker w (·.removePrefill id) = .ok s2) : CancelArm s id task running s2 (addTo running w id)

theorem CancelArm.release {s s1 : State} {id : TaskId} {task : Task} {r r1 : List (Nat × List TaskId)}
    (h : CancelArm s id task r s1 r1) : ∃ s0, Release s id task s0 ∧ (s1 = ask s0 ∨ s1 = s0) := by
  cases h with
  | waiting hs => exact ⟨_, .keep (.inl ⟨_, hs⟩), .inl rfl⟩
  | sn hs hr h => exact ⟨_, .sn hs hr h, .inl rfl⟩
  | mn hs h => exact ⟨_, .mn hs h, .inl rfl⟩
  | retr hs h => exact ⟨_, .retr hs h, .inl rfl⟩
  | pre hs h1 h2 => exact ⟨_, .pre hs h1 h2, .inr rfl⟩

theorem cancelLoop_cons_ok {s : State} {id : TaskId} {rest u : List TaskId} {r : List (Nat × List TaskId)}
    {res : State × List TaskId × List (Nat × List TaskId)} (h : s.cancelLoop (id :: rest) u r = .ok res) :
    (s.task? id = none ∧ s.cancelLoop rest u r = .ok res) ∨
    ∃ task cons s1 r1, s.task? id = some task ∧ s.recursiveConsumers task = .ok cons ∧ CancelArm s id task r s1 r1 ∧
      s1.cancelLoop rest (unionTids (unionTids u [id]) cons) r1 = .ok res := by
  simp only [State.cancelLoop] at h
  split at h
  · rename_i hn
    exact .inl ⟨hn, h⟩
  · rename_i task ht
    split at h
    · cases h
    · rename_i cons hc
      refine .inr ⟨task, cons, ?_⟩
      -- the model's or-pattern `.assigned w rv | .running w rv` gives two identical arms
      have sn : ∀ w rv, (task.state = .assigned w rv ∨ task.state = .running w rv) →
          (match s.rq task.rq rv with
           | .error e => (.error e : M (State × List TaskId × List (Nat × List TaskId)))
           | .ok r0 =>
             match s.withWorker w (·.removeSn id r0) with
             | .error e => .error e
             | .ok s1 => State.cancelLoop (ask s1) rest (unionTids (unionTids u [id]) cons) (addTo r w id)) = .ok res →
          ∃ s1 r1, s.task? id = some task ∧ s.recursiveConsumers task = .ok cons ∧ CancelArm s id task r s1 r1 ∧
            s1.cancelLoop rest (unionTids (unionTids u [id]) cons) r1 = .ok res := by
        intro w rv hs h
        split at h
        · cases h
        · rename_i r0 hr
          split at h
          · cases h
          · rename_i s1 hw
            exact ⟨_, _, ht, hc, .sn hs hr hw, h⟩
      split at h
      · rename_i n hs
        exact ⟨_, _, ht, hc, .waiting hs, h⟩
      · rename_i w rv hs
        exact sn w rv (.inl hs) h
      · rename_i w rv hs
        exact sn w rv (.inr hs) h
      · rename_i ws hs
        split at h
        · cases h
        · rename_i s1 hm
          split at h
          · cases h
          · exact ⟨_, _, ht, hc, .mn hs hm, h⟩
      · rename_i w hs
        split at h
        · cases h
        · rename_i s1 hr
          exact ⟨_, _, ht, hc, .retr hs hr, h⟩
      · rename_i w hs
        split at h
        · cases h
        · rename_i s1 h1
          split at h
          · cases h
          · rename_i s2 h2
            exact ⟨_, _, ht, hc, .pre hs h1 h2, h⟩
      · cases h

/-! ### `task_failed` -/

/-- the worker side of `task_failed` for the reporting worker (`none`: the crash-limit loop of `on_remove_worker`, which
fails a task that is already back in `Waiting`) -/
def failPre (s : State) (worker : Option Nat) (id : TaskId) (task : Task) : M State :=
  match worker with
  | some w =>
    if s.isMultiNode task.rq then
      match task.state with
      | .runningMN ws =>
        match ws with
        | root :: _ => if root ≠ w then .error (.panic "task_failed.assert_root") else resetMnAll s ws
        | [] => .error (.panic "task_failed.ws0")
      | _ => .error (.panic "task_failed.mn_placement_unwrap")
    else
      match task.state with
      | .assigned w' rv | .running w' rv =>
        if w ≠ w' then .error (.panic "task_failed.assert_worker") else
        match s.rq task.rq rv with
        | .error e => .error e
        | .ok r => s.withWorker w (·.removeSn id r)
      | .prefilled w' =>
        if w ≠ w' then .error (.panic "task_failed.assert_worker") else
        match s.removePrefilled task.rq id with
        | .error e => .error e
        | .ok s1 => s1.withWorker w (·.removePrefill id)
      | .retracting w' =>
        if w ≠ w' then .error (.panic "task_failed.assert_worker") else
        s.tryRemoveRedirection id task.rq
      | _ => .ok s
  | none =>
    match task.state with
    | .waiting _ => .ok s
    | _ => .error (.panic "task_failed.assert_waiting")

/-- `on_cancel_tasks ret` after the callback -/
def failRet (ret : List TaskId) (r : State × Out) : M (State × Out) :=
  if ret.isEmpty then .ok r else
  match r.1.cancelTasks ret with
  | .error e => .error e
  | .ok (s4, out2) => .ok (s4, r.2.add out2)

/-- `task_failed` after the worker side -/
def failRest (s1 : State) (worker : Option Nat) (id : TaskId) (task : Task) (ret : List TaskId) : M (State × Out) :=
  match s1.recursiveConsumers task with
  | .error e => .error e
  | .ok consumers =>
    match s1.removeWaitingAll consumers with
    | .error e => .error e
    | .ok s2 =>
      match s2.removeTask id with
      | .error e => .error e
      | .ok (s3, st) =>
        let okState : Bool :=
          match worker, st with
          | some _, .assigned .. | some _, .prefilled .. | some _, .retracting .. | some _, .running ..
          | some _, .runningMN .. => true
          | none, .waiting .. => true
          | _, _ => false
        if !okState then .error (.panic "task_failed.assert_state") else
        failRet ret (s3, { cbs := [.error id consumers] })

theorem taskFailed_eq (s : State) (worker : Option Nat) (id : TaskId) (ret : List TaskId) :
    s.taskFailed worker id ret =
      match s.task? id with
      | none => .ok (s, {})
      | some task =>
        match failPre s worker id task with
        | .error e => .error e
        | .ok s1 => failRest s1 worker id task ret := rfl

theorem failPre_path {s s1 : State} {worker : Option Nat} {id : TaskId} {task : Task}
    (hpre : failPre s worker id task = .ok s1) : Release s id task s1 := by
  unfold failPre at hpre
  split at hpre
  · rename_i w
    split at hpre
    · rename_i hm
      split at hpre
      · rename_i ws hs
        split at hpre
        · rename_i root ws'
          replace hpre := ok_of_guard_ne hpre
          obtain ⟨rfl, hpre⟩ := hpre
          exact .mn hs hpre
        · cases hpre
      · cases hpre
    · rename_i hm
      have hm : s.isMultiNode task.rq = false := by simpa using hm
      have sn : ∀ w' rv, (task.state = .assigned w' rv ∨ task.state = .running w' rv) →
          (if w ≠ w' then (.error (.panic "task_failed.assert_worker") : M State) else
            match s.rq task.rq rv with
            | .error e => .error e
            | .ok r => s.withWorker w (·.removeSn id r)) = .ok s1 → Release s id task s1 := by
        intro w' rv hs h
        replace h := ok_of_guard_ne h
        obtain ⟨rfl, h⟩ := h
        split at h
        · cases h
        · rename_i r hr
          exact .sn hs hr h
      split at hpre
      · rename_i w' rv hs
        exact sn w' rv (.inl hs) hpre
      · rename_i w' rv hs
        exact sn w' rv (.inr hs) hpre
      · rename_i w' hs
        replace hpre := ok_of_guard_ne hpre
        obtain ⟨rfl, hpre⟩ := hpre
        split at hpre
        · cases hpre
        · rename_i s0 h1
          exact .pre hs h1 hpre
      · rename_i w' hs
        replace hpre := ok_of_guard_ne hpre
        obtain ⟨rfl, hpre⟩ := hpre
        exact .retr hs hpre
      · rename_i n1 n2 n3 n4
        cases hpre
        refine .keep ?_
        cases hs : task.state with
        | waiting n => exact .inl ⟨n, rfl⟩
        | finished => exact .inr (.inl rfl)
        | runningMN ws => exact .inr (.inr ⟨⟨ws, rfl⟩, hm⟩)
        | assigned w' rv => exact absurd hs (n1 w' rv)
        | running w' rv => exact absurd hs (n2 w' rv)
        | prefilled w' => exact absurd hs (n3 w')
        | retracting w' => exact absurd hs (n4 w')
  · split at hpre
    · rename_i n hs
      cases hpre
      exact .keep (.inl ⟨n, hs⟩)
    · cases hpre

/-- `st` is the state `remove_task` reports -/
theorem failRest_path {s1 : State} {worker : Option Nat} {id : TaskId} {task : Task} {ret : List TaskId}
    {res : State × Out} (h : failRest s1 worker id task ret = .ok res) :
    ∃ cons s2 s3 st, s1.recursiveConsumers task = .ok cons ∧ s1.removeWaitingAll cons = .ok s2 ∧
      s2.removeTask id = .ok (s3, st) ∧ ((∃ n, st = .waiting n) ↔ worker = none) ∧ st ≠ .finished ∧
      failRet ret (s3, { cbs := [.error id cons] }) = .ok res := by
  unfold failRest at h
  split at h
  · cases h
  · rename_i cons hc
    split at h
    · cases h
    · rename_i s2 h2
      split at h
      · cases h
      · rename_i s3 st h3
        obtain ⟨hok, h⟩ := ok_of_guard_not h
        refine ⟨cons, s2, s3, st, hc, h2, h3, ?_, ?_, h⟩
        · cases worker <;> cases st <;> simp at hok ⊢
        · cases worker <;> cases st <;> simp at hok ⊢

theorem failRest_of {s1 s2 s3 : State} {worker : Option Nat} {id : TaskId} {task : Task} {cons : List TaskId} {st : TS}
    (ret : List TaskId) (hc : s1.recursiveConsumers task = .ok cons) (h2 : s1.removeWaitingAll cons = .ok s2)
    (h3 : s2.removeTask id = .ok (s3, st)) (hw : (∃ n, st = .waiting n) ↔ worker = none) (hf : st ≠ .finished) :
    failRest s1 worker id task ret = failRet ret (s3, { cbs := [.error id cons] }) := by
  simp only [failRest, hc, h2, h3]
  cases worker with
  | none => obtain ⟨n, rfl⟩ := hw.mpr rfl; rfl
  | some w =>
    cases st with
    | waiting n => exact absurd (hw.mp ⟨n, rfl⟩) nofun
    | finished => exact absurd rfl hf
    | _ => rfl

theorem taskFailed_path {s s' : State} {worker : Option Nat} {id : TaskId} {ret : List TaskId} {o : Out}
    (h : s.taskFailed worker id ret = .ok (s', o)) :
    (s.task? id = none ∧ s' = s ∧ o = {}) ∨
    ∃ task s1 cons s2 s3 st, s.task? id = some task ∧ Release s id task s1 ∧
      s1.recursiveConsumers task = .ok cons ∧ s1.removeWaitingAll cons = .ok s2 ∧ s2.removeTask id = .ok (s3, st) ∧
      ((ret = [] ∧ s' = s3 ∧ o = { cbs := [.error id cons] }) ∨
       ∃ o2, ret ≠ [] ∧ s3.cancelTasks ret = .ok (s', o2) ∧ o = ({ cbs := [.error id cons] } : Out).add o2) := by
  rw [taskFailed_eq] at h
  cases ht : s.task? id with
  | none => rw [ht] at h; cases h; exact .inl ⟨rfl, rfl, rfl⟩
  | some task =>
    rw [ht] at h
    dsimp only at h
    cases hp : failPre s worker id task with
    | error e => rw [hp] at h; cases h
    | ok s1 =>
      rw [hp] at h
      obtain ⟨cons, s2, s3, st, hc, h2, h3, _, _, h⟩ := failRest_path h
      refine .inr ⟨task, s1, cons, s2, s3, st, rfl, failPre_path hp, hc, h2, h3, ?_⟩
      unfold failRet at h
      by_cases hr : ret.isEmpty
      · rw [if_pos hr] at h
        cases h
        exact .inl ⟨by simpa using hr, rfl, rfl⟩
      · rw [if_neg hr] at h
        split at h
        · cases h
        · rename_i s4 o2 h4
          cases h
          exact .inr ⟨o2, by simpa using hr, h4, rfl⟩

/-! ### `task_finished` -/

/-- the worker-side step of `task_finished` reported by worker `w` -/
inductive FinishPre (s : State) (w : Nat) (id : TaskId) (task : Task) : State → Prop
  | sn {rv : Nat} {r : Rq} {s1 : State} (hs : task.state = .assigned w rv ∨ task.state = .running w rv)
      (hr : s.rq task.rq rv = .ok r) (h : s.withWorker w (·.removeSn id r) = .ok s1) : FinishPre s w id task s1
  | mn {ws : List Nat} {s1 : State} (hs : task.state = .runningMN (w :: ws))
      (h : resetMnChecked s id (w :: ws) = .ok s1) : FinishPre s w id task s1
  | retr {s1 : State} (hs : task.state = .retracting w) (h : s.tryRemoveRedirection id task.rq = .ok s1) :
      FinishPre s w id task s1

theorem FinishPre.release {s s1 : State} {w : Nat} {id : TaskId} {task : Task} (h : FinishPre s w id task s1) :
    Release s id task s1 := by
  cases h with
  | sn hs hr h => exact .sn hs hr h
  | mn hs h => exact .mn hs (resetMnChecked_resetMnAll _ h)
  | retr hs h => exact .retr hs h

theorem FinishPre.state {s s1 : State} {w : Nat} {id : TaskId} {task : Task} (h : FinishPre s w id task s1) :
    (∃ v, task.state = .assigned w v) ∨ (∃ v, task.state = .running w v) ∨ (∃ ws, task.state = .runningMN (w :: ws)) ∨
      task.state = .retracting w := by
  cases h with
  | sn hs => exact hs.elim (fun e => .inl ⟨_, e⟩) fun e => .inr (.inl ⟨_, e⟩)
  | mn hs => exact .inr (.inr (.inl ⟨_, hs⟩))
  | retr hs => exact .inr (.inr (.inr hs))

/-- the worker side of `task_finished` as a computation (`FinishPre` lists how it succeeds) -/
def finPre (s : State) (w : Nat) (id : TaskId) (task : Task) : M State :=
  match task.state with
  | .assigned w' rv | .running w' rv =>
    if w' ≠ w then .error (.panic "task_finished.assert_worker") else
    match s.rq task.rq rv with
    | .error e => .error e
    | .ok r => s.withWorker w (·.removeSn id r)
  | .runningMN ws =>
    match ws with
    | root :: _ => if root ≠ w then .error (.panic "task_finished.assert_root") else resetMnChecked s id ws
    | [] => .error (.panic "task_finished.ws0")
  | .retracting w' =>
    if w' ≠ w then .error (.panic "task_finished.assert_worker") else s.tryRemoveRedirection id task.rq
  | .prefilled .. | .waiting .. | .finished => .error (.panic "task_finished.unreachable")

/-- `task_finished` after the worker side -/
def finTail (s1 : State) (id : TaskId) (task : Task) : M (State × Out × Bool) :=
  let s2 := s1.setTask { task with state := .finished }
  match s2.wakeConsumers task.consumers [] with
  | .error e => .error e
  | .ok (s3, retracted) =>
    match s3.retract retracted with
    | .error e => .error e
    | .ok (s4, out) =>
      match s4.removeTask id with
      | .error e => .error e
      | .ok (s5, st) =>
        if st ≠ .finished then .error (.panic "task_finished.assert_finished") else
        .ok (s5, ({ cbs := [.finished id] } : Out).add out, true)

theorem taskFinished_eq (s : State) (w : Nat) (id : TaskId) :
    s.taskFinished w id =
      match s.task? id with
      | none => .ok (s, {}, false)
      | some task =>
        match finPre s w id task with
        | .error e => .error e
        | .ok s1 => finTail s1 id task := rfl

theorem finPre_path {s s1 : State} {w : Nat} {id : TaskId} {task : Task} (hpre : finPre s w id task = .ok s1) :
    FinishPre s w id task s1 := by
  unfold finPre at hpre
  have sn : ∀ w' rv, (task.state = .assigned w' rv ∨ task.state = .running w' rv) →
      (if w' ≠ w then (.error (.panic "task_finished.assert_worker") : M State) else
        match s.rq task.rq rv with
        | .error e => .error e
        | .ok r => s.withWorker w (·.removeSn id r)) = .ok s1 → FinishPre s w id task s1 := by
    intro w' rv hs h
    replace h := ok_of_guard_ne h
    obtain ⟨rfl, h⟩ := h
    split at h
    · cases h
    · rename_i r hr
      exact .sn hs hr h
  split at hpre
  · rename_i w' rv hs
    exact sn w' rv (.inl hs) hpre
  · rename_i w' rv hs
    exact sn w' rv (.inr hs) hpre
  · rename_i ws hs
    split at hpre
    · rename_i root ws'
      replace hpre := ok_of_guard_ne hpre
      obtain ⟨rfl, hpre⟩ := hpre
      exact .mn hs hpre
    · cases hpre
  · rename_i w' hs
    replace hpre := ok_of_guard_ne hpre
    obtain ⟨rfl, hpre⟩ := hpre
    exact .retr hs hpre
  · cases hpre
  · cases hpre
  · cases hpre

theorem finPre_of {s s1 : State} {w : Nat} {id : TaskId} {task : Task} (h : FinishPre s w id task s1) :
    finPre s w id task = .ok s1 := by
  cases h with
  | sn hs hr h => rcases hs with hs | hs <;> simp only [finPre, hs, ne_eq, not_true_eq_false, if_false, hr, h]
  | mn hs h => simp only [finPre, hs, ne_eq, not_true_eq_false, if_false, h]
  | retr hs h => simp only [finPre, hs, ne_eq, not_true_eq_false, if_false, h]

theorem finTail_path {s1 : State} {id : TaskId} {task : Task} {res : State × Out × Bool}
    (h : finTail s1 id task = .ok res) :
    ∃ s3 retracted s4 out s',
      (s1.setTask { task with state := .finished }).wakeConsumers task.consumers [] = .ok (s3, retracted) ∧
      s3.retract retracted = .ok (s4, out) ∧ s4.removeTask id = .ok (s', .finished) ∧
      res = (s', ({ cbs := [.finished id] } : Out).add out, true) := by
  simp only [finTail] at h
  split at h
  · cases h
  · rename_i s3 retracted h3
    split at h
    · cases h
    · rename_i s4 out h4
      split at h
      · cases h
      · rename_i s5 st h5
        replace h := ok_of_guard_ne h
        obtain ⟨rfl, h⟩ := h
        cases h
        exact ⟨s3, retracted, s4, out, s5, h3, h4, h5, rfl⟩

theorem finTail_of {s1 s3 s4 s' : State} {id : TaskId} {task : Task} {retracted : List TaskId} {out : Out}
    (h3 : (s1.setTask { task with state := .finished }).wakeConsumers task.consumers [] = .ok (s3, retracted))
    (h4 : s3.retract retracted = .ok (s4, out)) (h5 : s4.removeTask id = .ok (s', .finished)) :
    finTail s1 id task = .ok (s', ({ cbs := [.finished id] } : Out).add out, true) := by
  simp only [finTail, h3, h4, h5, ne_eq, not_true_eq_false, if_false]

theorem taskFinished_path {s s' : State} {w : Nat} {id : TaskId} {o : Out} {b : Bool}
    (h : s.taskFinished w id = .ok (s', o, b)) :
    (s.task? id = none ∧ s' = s ∧ o = {} ∧ b = false) ∨
    ∃ task s1 s3 retracted s4 out, s.task? id = some task ∧ FinishPre s w id task s1 ∧
      (s1.setTask { task with state := .finished }).wakeConsumers task.consumers [] = .ok (s3, retracted) ∧
      s3.retract retracted = .ok (s4, out) ∧ s4.removeTask id = .ok (s', .finished) ∧
      o = ({ cbs := [.finished id] } : Out).add out ∧ b = true := by
  rw [taskFinished_eq] at h
  cases ht : s.task? id with
  | none => rw [ht] at h; cases h; exact .inl ⟨rfl, rfl, rfl, rfl⟩
  | some task =>
    rw [ht] at h
    dsimp only at h
    cases hp : finPre s w id task with
    | error e => rw [hp] at h; cases h
    | ok s1 =>
      rw [hp] at h
      obtain ⟨s3, retracted, s4, out, s5, h3, h4, h5, e⟩ := finTail_path h
      cases e
      exact .inr ⟨task, s1, s3, retracted, s4, out, rfl, finPre_path hp, h3, h4, h5, rfl, rfl⟩

/-! ### `task_running` -/

/-- the four accepted cases of `task_running` from worker `w` with variant `rv`: the resulting state and the worker
list of the `started` callback -/
inductive RunningArm (s : State) (w : Nat) (id : TaskId) (rv : Nat) (task : Task) : State → List Nat → Prop
  | assigned (hs : task.state = .assigned w rv) :
      RunningArm s w id rv task (s.setTask { task with state := .running w rv }) [w]
  | prefilled {r : Rq} {s1 s2 : State} (hs : task.state = .prefilled w) (hr : s.rq task.rq rv = .ok r)
      (h1 : (s.setTask { task with state := .running w rv }).withWorker w (·.prefilledToStarted id r) = .ok s1)
      (h2 : s1.queueRemove task.rq id task.prio = .ok s2) : RunningArm s w id rv task s2 [w]
  | retracting {r : Rq} {s1 s2 s3 : State} (hs : task.state = .retracting w)
      (h1 : (ask (s.setTask { task with state := .running w rv })).queueRemove task.rq id task.prio = .ok s1)
      (h2 : s1.tryRemoveRedirection id task.rq = .ok s2) (hr : s2.rq task.rq rv = .ok r)
      (h3 : s2.withWorker w (·.insertSn id r) = .ok s3) : RunningArm s w id rv task s3 [w]
  | mn {ws : List Nat} {wk wk' : Worker} (hs : task.state = .runningMN (w :: ws)) (hw : s.worker? w = some wk)
      (hk : (∃ t r st, wk.assign = .mn t r st ∧ wk' = { wk with assign := .mn t r true }) ∨
        ((∃ a f p, wk.assign = .sn a f p) ∧ wk' = wk)) :
      RunningArm s w id rv task (s.setWorker wk') (w :: ws)

theorem taskRunning_cases {s s' : State} {w : Nat} {id : TaskId} {rv : Nat} {o : Out}
    (h : s.taskRunning w id rv = .ok (s', o)) :
    (s.task? id = none ∧ s' = s ∧ o = {}) ∨
    ∃ task ws, s.task? id = some task ∧ RunningArm s w id rv task s' ws ∧
      o = { cbs := [.started id task.inst ws rv] } := by
  simp only [State.taskRunning] at h
  split at h
  · rename_i hn
    cases h
    exact .inl ⟨hn, rfl, rfl⟩
  · rename_i task ht
    refine .inr ⟨task, ?_⟩
    split at h
    · rename_i w' rv' hs
      replace h := ok_of_guard_ne h
      obtain ⟨rfl, h⟩ := h
      replace h := ok_of_guard_ne h
      obtain ⟨rfl, h⟩ := h
      cases h
      exact ⟨_, ht, .assigned hs, rfl⟩
    · rename_i w' hs
      replace h := ok_of_guard_ne h
      obtain ⟨rfl, h⟩ := h
      split at h
      · cases h
      · rename_i r hr
        split at h
        · cases h
        · rename_i s1 h1
          split at h
          · cases h
          · rename_i s2 h2
            cases h
            exact ⟨_, ht, .prefilled hs hr h1 h2, rfl⟩
    · rename_i w' hs
      replace h := ok_of_guard_ne h
      obtain ⟨rfl, h⟩ := h
      split at h
      · cases h
      · rename_i s1 h1
        split at h
        · cases h
        · rename_i s2 h2
          split at h
          · cases h
          · rename_i r hr
            split at h
            · cases h
            · rename_i s3 h3
              cases h
              exact ⟨_, ht, .retracting hs h1 h2 hr h3, rfl⟩
    · rename_i ws hs
      split at h
      · rename_i root ws'
        replace h := ok_of_guard_ne h
        obtain ⟨rfl, h⟩ := h
        split at h
        · cases h
        · rename_i s1 h1
          cases h
          obtain ⟨wk, wk', hw, hf, rfl⟩ := withWorker_spec h1
          refine ⟨_, ht, .mn hs hw ?_, rfl⟩
          split at hf
          · rename_i t r st ha
            cases hf
            exact .inl ⟨t, r, st, ha, rfl⟩
          · rename_i hn
            cases hf
            cases ha : wk.assign with
            | sn a f p => exact .inr ⟨⟨a, f, p, rfl⟩, rfl⟩
            | mn t r st => exact absurd ha (hn t r st)
      · cases h
    · cases h
    · cases h
    · cases h

/-! ### `task_reject` -/

/-- the record of the rejecting worker with the (request, variant) blocked -/
def Worker.blockRq (wk0 : Worker) (rq : Nat) (rv : Option Nat) : Worker :=
  match rv with
  | some v => { wk0 with blocked := if wk0.blocked.contains (rq, v) then wk0.blocked else wk0.blocked ++ [(rq, v)] }
  | none => wk0

theorem Worker.blockRq_id (wk0 : Worker) (rq : Nat) (rv : Option Nat) : (wk0.blockRq rq rv).id = wk0.id := by
  cases rv <;> rfl
theorem Worker.blockRq_assign (wk0 : Worker) (rq : Nat) (rv : Option Nat) :
    (wk0.blockRq rq rv).assign = wk0.assign := by
  cases rv <;> rfl
theorem Worker.blockRq_total (wk0 : Worker) (rq : Nat) (rv : Option Nat) : (wk0.blockRq rq rv).total = wk0.total := by
  cases rv <;> rfl

/-- `task_reject` from worker `w` after the request was blocked on it (`s0` = the state with the new record `wk` of
`w`): the message is ignored, a pending redirect is resolved, or the task goes back to `Waiting` (`rejectTail`),
released where the rejecting worker is the one that holds it. -/
inductive RejectArm (s0 : State) (wk : Worker) (w : Nat) (id : TaskId) (rv : Option Nat) (task : Task) :
    State × Out × Bool → Prop
  /-- the task was meanwhile assigned elsewhere or with another variant: it is requeued as it is -/
  | stale {w' rv' : Nat} {res} (hs : task.state = .assigned w' rv') (hne : w ≠ w' ∨ rv ≠ some rv')
      (h : rejectTail s0 task = .ok res) : RejectArm s0 wk w id rv task res
  | sn {rv' : Nat} {r : Rq} {s1 : State} {res} (hs : task.state = .assigned w rv') (hv : rv = some rv')
      (hr : s0.rq task.rq rv' = .ok r) (h1 : s0.withWorker w (·.removeSn id r) = .ok s1)
      (h : rejectTail s1 task = .ok res) : RejectArm s0 wk w id rv task res
  /-- the worker of the `Prefilled` state is not compared with `w`; the prefill set of `w` must contain the task -/
  | pre {w' : Nat} {s1 s2 : State} {res} (hs : task.state = .prefilled w')
      (h1 : s0.withWorker w (·.removePrefill id) = .ok s1) (h2 : s1.removePrefilled task.rq id = .ok s2)
      (h : rejectTail s2 task = .ok res) : RejectArm s0 wk w id rv task res
  | otherRetracting {w' : Nat} (hs : task.state = .retracting w') (hne : w ≠ w') :
      RejectArm s0 wk w id rv task (s0, {}, false)
  | redirected {target trv : Nat} (hs : task.state = .retracting w)
      (hf : s0.redirects.find? (·.1 = id) = some (id, target, trv)) :
      RejectArm s0 wk w id rv task
        (({ s0 with redirects := s0.redirects.filter (·.1 ≠ id) } : State).setTask
            { task with state := .assigned target trv },
         { msgs := [.compute target [computeOne { task with state := .assigned target trv } (some trv) []]] }, false)
  | retr {res} (hs : task.state = .retracting w) (hf : s0.redirects.find? (·.1 = id) = none)
      (h : rejectTail s0 task = .ok res) : RejectArm s0 wk w id rv task res
  | mnIgnored {root : Nat} {ws : List Nat} (hs : task.state = .runningMN (root :: ws))
      (hi : w ≠ root ∨ (∃ a f p, wk.assign = .sn a f p) ∨ ∃ t r, wk.assign = .mn t r true) :
      RejectArm s0 wk w id rv task (s0, {}, false)
  | mn {ws : List Nat} {t : TaskId} {r : Bool} {s1 : State} {res} (hs : task.state = .runningMN (w :: ws))
      (ha : wk.assign = .mn t r false) (h1 : resetMnChecked s0 id (w :: ws) = .ok s1)
      (h : rejectTail s1 task = .ok res) : RejectArm s0 wk w id rv task res

/-- `task_reject` after the task and the worker were found (`s0` = the state with the request blocked on `w`,
`wk` = the record of `w` in it) -/
def rejectArms (s0 : State) (wk : Worker) (w : Nat) (id : TaskId) (rv : Option Nat) (task : Task) :
    M (State × Out × Bool) :=
  match task.state with
  | .assigned w' rv' =>
    if w ≠ w' then rejectTail s0 task
    else if rv ≠ some rv' then rejectTail s0 task
    else
      match s0.rq task.rq rv' with
      | .error e => .error e
      | .ok r =>
        match s0.withWorker w (·.removeSn id r) with
        | .error e => .error e
        | .ok s1 => rejectTail s1 task
  | .prefilled _ =>
    match s0.withWorker w (·.removePrefill id) with
    | .error e => .error e
    | .ok s1 =>
      match s1.removePrefilled task.rq id with
      | .error e => .error e
      | .ok s2 => rejectTail s2 task
  | .retracting w' =>
    if w ≠ w' then .ok (s0, {}, false) else
    match s0.redirects.find? (·.1 = id) with
    | some (_, target, trv) =>
      let s1 := { s0 with redirects := s0.redirects.filter (·.1 ≠ id) }
      let t' := { task with state := .assigned target trv }
      .ok (s1.setTask t', { msgs := [.compute target [computeOne t' (some trv) []]] }, false)
    | none => rejectTail s0 task
  | .runningMN ws =>
    match ws with
    | [] => .error (.panic "task_reject.ws0")
    | root :: _ =>
      if w ≠ root then .ok (s0, {}, false) else
      match wk.assign with
      | .sn .. => .ok (s0, {}, false)
      | .mn _ _ started =>
        if started then .ok (s0, {}, false) else
        match resetMnChecked s0 id ws with
        | .error e => .error e
        | .ok s1 => rejectTail s1 task
  | .waiting .. | .running .. | .finished => .error (.panic "task_reject.unreachable")

theorem taskReject_unfold {s : State} {w : Nat} {id : TaskId} {rv : Option Nat} {task : Task} {wk0 : Worker}
    (ht : s.task? id = some task) (hw : s.worker? w = some wk0) :
    s.taskReject w id rv =
      rejectArms (s.setWorker (wk0.blockRq task.rq rv)) (wk0.blockRq task.rq rv) w id rv task := by
  simp only [State.taskReject, ht, NP.getWorker_ok hw]
  rfl

theorem rejectArms_cases {s0 : State} {wk : Worker} {w : Nat} {id : TaskId} {rv : Option Nat} {task : Task}
    {res : State × Out × Bool} (h : rejectArms s0 wk w id rv task = .ok res) : RejectArm s0 wk w id rv task res := by
  unfold rejectArms at h
  split at h
  · rename_i w' rv' hs
    split at h
    · rename_i hne
      exact .stale hs (.inl hne) h
    · rename_i hw'
      have hw' : w = w' := Classical.not_not.mp hw'
      subst hw'
      split at h
      · rename_i hne
        exact .stale hs (.inr hne) h
      · rename_i hv
        have hv : rv = some rv' := Classical.not_not.mp hv
        split at h
        · cases h
        · rename_i r hr
          split at h
          · cases h
          · rename_i s1 h1
            exact .sn hs hv hr h1 h
  · rename_i w' hs
    split at h
    · cases h
    · rename_i s1 h1
      split at h
      · cases h
      · rename_i s2 h2
        exact .pre hs h1 h2 h
  · rename_i w' hs
    split at h
    · rename_i hne
      cases h
      exact .otherRetracting hs hne
    · rename_i hw'
      have hw' : w = w' := Classical.not_not.mp hw'
      subst hw'
      split at h
      · rename_i t0 target trv hf
        have ht0 : t0 = id := (rd_mem_of_find hf).2
        subst ht0
        cases h
        exact .redirected hs hf
      · rename_i hf
        exact .retr hs hf h
  · rename_i ws hs
    split at h
    · cases h
    · rename_i root ws'
      split at h
      · rename_i hne
        cases h
        exact .mnIgnored hs (.inl hne)
      · rename_i hroot
        have hroot : w = root := Classical.not_not.mp hroot
        subst hroot
        split at h
        · rename_i a f p ha
          cases h
          exact .mnIgnored hs (.inr (.inl ⟨a, f, p, ha⟩))
        · rename_i t r started ha
          split at h
          · rename_i hst
            cases h
            cases hst
            exact .mnIgnored hs (.inr (.inr ⟨t, r, ha⟩))
          · rename_i hst
            have hst : started = false := by simpa using hst
            subst hst
            split at h
            · cases h
            · rename_i s1 h1
              exact .mn hs ha h1 h
  · cases h
  · cases h
  · cases h

theorem taskReject_cases {s : State} {w : Nat} {id : TaskId} {rv : Option Nat} {res : State × Out × Bool}
    (h : s.taskReject w id rv = .ok res) :
    (s.task? id = none ∧ res = (s, {}, false)) ∨
    ∃ task wk0, s.task? id = some task ∧ s.worker? w = some wk0 ∧
      RejectArm (s.setWorker (wk0.blockRq task.rq rv)) (wk0.blockRq task.rq rv) w id rv task res := by
  cases ht : s.task? id with
  | none => simp only [State.taskReject, ht] at h; cases h; exact .inl ⟨rfl, rfl⟩
  | some task =>
    cases hw : s.worker? w with
    | none => simp only [State.taskReject, ht, State.getWorker, hw] at h; cases h
    | some wk0 =>
      rw [taskReject_unfold ht hw] at h
      exact .inr ⟨task, wk0, rfl, rfl, rejectArms_cases h⟩

end HqModel.Core
