/-!
Facts about lists (lookup after `set`, sums of maps, `foldl max`) that the lemma files of the allocator share.
-/
namespace HqModel.Alloc

theorem lt_length_of_getElem? {α} {l : List α} {i : Nat} {x : α} (h : l[i]? = some x) : i < l.length :=
  (List.getElem?_eq_some_iff.mp h).1

theorem exists_get {α} {l : List α} {i : Nat} (h : i < l.length) : ∃ x, l[i]? = some x := ⟨l[i], by simp [h]⟩

theorem getElem?_set_cases {α} {l : List α} {i j : Nat} {x y : α} (h : (l.set i x)[j]? = some y) :
    (j = i ∧ y = x) ∨ (j ≠ i ∧ l[j]? = some y) := by
  rw [List.getElem?_set] at h
  split at h
  · split at h
    · cases h; exact .inl ⟨‹i = j›.symm, rfl⟩
    · cases h
  · exact .inr ⟨fun hji => ‹¬ i = j› hji.symm, h⟩

theorem forall_getElem?_set {α} {P : α → Prop} {l : List α} {i : Nat} {x : α}
    (h : ∀ (j : Nat) y, l[j]? = some y → P y) (hx : P x) : ∀ (j : Nat) y, (l.set i x)[j]? = some y → P y := by
  intro j y hy
  rcases getElem?_set_cases hy with ⟨-, rfl⟩ | ⟨-, hy⟩
  · exact hx
  · exact h j y hy

theorem set_self_of_get {α} {l : List α} {i : Nat} {x : α} (h : l[i]? = some x) : l.set i x = l := by
  apply List.ext_getElem?
  intro j
  by_cases hj : i = j
  · subst hj
    rw [List.getElem?_set_self (lt_length_of_getElem? h), h]
  · rw [List.getElem?_set_ne hj]

theorem get_set_same {α} {l : List α} {i : Nat} {x : α} (a : α) (h : l[i]? = some x) : (l.set i a)[i]? = some a := by
  simp [lt_length_of_getElem? h]

theorem sum_map_le {α} (l : List α) (f g : α → Nat) (h : ∀ x ∈ l, f x ≤ g x) : (l.map f).sum ≤ (l.map g).sum := by
  induction l with
  | nil => simp
  | cons x xs ih =>
    simp only [List.map_cons, List.sum_cons]
    have := h x (by simp)
    have := ih (fun y hy => h y (List.mem_cons_of_mem _ hy))
    omega

theorem sum_map_lt {α} (l : List α) (f g : α → Nat) (h : ∀ x ∈ l, f x ≤ g x) {a : α} (ha : a ∈ l)
    (hlt : f a + 1 ≤ g a) : (l.map f).sum + 1 ≤ (l.map g).sum := by
  induction l with
  | nil => cases ha
  | cons x xs ih =>
    simp only [List.map_cons, List.sum_cons]
    rcases List.mem_cons.mp ha with rfl | ha'
    · have := sum_map_le xs f g (fun y hy => h y (List.mem_cons_of_mem _ hy))
      omega
    · have := h x (by simp)
      have := ih (fun y hy => h y (List.mem_cons_of_mem _ hy)) ha'
      omega

theorem sum_map_update {P : List Nat} (hnd : P.Nodup) {p : Nat} (hp : p ∈ P) {f f' : Nat → Nat}
    (hsame : ∀ q, q ≠ p → f' q = f q) : (P.map f').sum + f p = (P.map f).sum + f' p := by
  induction P with
  | nil => cases hp
  | cons x xs ih =>
    obtain ⟨hx, hxs⟩ := List.nodup_cons.mp hnd
    simp only [List.map_cons, List.sum_cons]
    rcases List.mem_cons.mp hp with rfl | hp'
    · have : xs.map f' = xs.map f := by
        apply List.map_congr_left
        intro q hq
        exact hsame q (fun h => hx (h ▸ hq))
      rw [this]; omega
    · have hne : x ≠ p := fun h => hx (h ▸ hp')
      rw [hsame x hne]
      have := ih hxs hp'
      omega

theorem sum_pointwise : ∀ (a b : List Nat), a.length = b.length →
    (∀ (i x y : Nat), a[i]? = some x → b[i]? = some y → x ≤ y) → a.sum ≤ b.sum ∧ (a.sum = b.sum → a = b)
  | [], [], _, _ => ⟨Nat.le_refl _, fun _ => rfl⟩
  | [], _ :: _, h, _ => by simp at h
  | _ :: _, [], h, _ => by simp at h
  | x :: xs, y :: ys, h, hp => by
    have hxy := hp 0 x y rfl rfl
    obtain ⟨h1, h2⟩ := sum_pointwise xs ys (by simpa using h)
      (fun i x' y' hx hy => hp (i + 1) x' y' (by simpa using hx) (by simpa using hy))
    simp only [List.sum_cons]
    refine ⟨by omega, fun he => ?_⟩
    have : x = y ∧ xs.sum = ys.sum := by omega
    rw [this.1, h2 this.2]

theorem sum_range_congr {n : Nat} {g g' : Nat → Nat} (h : ∀ p, p < n → g p = g' p) :
    ((List.range n).map g).sum = ((List.range n).map g').sum := by
  rw [List.map_congr_left (fun p hp => h p (List.mem_range.mp hp))]

theorem sum_range_indicator {n i : Nat} (g : Nat → Nat) (hi : i < n) :
    ((List.range n).map (fun p => g p + if p = i then 1 else 0)).sum = ((List.range n).map g).sum + 1 := by
  induction n with
  | zero => omega
  | succ n ih =>
    simp only [List.range_succ, List.map_append, List.sum_append, List.map_cons, List.map_nil, List.sum_cons,
      List.sum_nil]
    rcases Nat.lt_or_ge i n with h | h
    · have hne : ¬ n = i := by omega
      rw [ih h, if_neg hne]
      omega
    · have hin : i = n := by omega
      subst hin
      have : ((List.range i).map (fun p => g p + if p = i then 1 else 0)).sum = ((List.range i).map g).sum := by
        apply sum_range_congr
        intro p hp
        have : ¬ p = i := by omega
        simp [this]
      rw [this, if_pos rfl]
      omega

theorem sum_indicator (l : List Nat) (P : Nat → Bool) :
    (l.map (fun p => if P p then 1 else 0)).sum = (l.filter P).length := by
  induction l with
  | nil => rfl
  | cons x xs ih =>
    simp only [List.map_cons, List.sum_cons, List.filter_cons, ih]
    split <;> simp <;> omega

theorem filter_length_congr (l : List Nat) {P Q : Nat → Bool} (h : ∀ x ∈ l, P x = Q x) :
    (l.filter P).length = (l.filter Q).length := by
  rw [List.filter_congr h]

theorem foldl_max_ge (l : List Nat) (a : Nat) : a ≤ l.foldl max a := by
  induction l generalizing a with
  | nil => exact Nat.le_refl _
  | cons x xs ih => exact Nat.le_trans (Nat.le_max_left a x) (ih (max a x))

theorem foldl_max_mem (l : List Nat) (a : Nat) : l.foldl max a = a ∨ l.foldl max a ∈ l := by
  induction l generalizing a with
  | nil => exact .inl rfl
  | cons x xs ih =>
    rcases ih (max a x) with h | h
    · rcases Nat.le_total a x with hax | hax
      · right; rw [List.foldl_cons, h, Nat.max_eq_right hax]; simp
      · left; rw [List.foldl_cons, h, Nat.max_eq_left hax]
    · right; exact List.mem_cons_of_mem _ h

theorem foldl_max_le_of_mem (l : List Nat) (a x : Nat) (hx : x ∈ l) : x ≤ l.foldl max a := by
  induction l generalizing a with
  | nil => cases hx
  | cons y ys ih =>
    rcases List.mem_cons.mp hx with rfl | h
    · exact Nat.le_trans (Nat.le_max_right a x) (foldl_max_ge ys _)
    · exact ih _ h

end HqModel.Alloc
