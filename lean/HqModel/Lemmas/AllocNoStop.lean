import HqModel.Lemmas.AllocHas
/-!
"Does not stop" (`NoStop`: no panic, no non-termination; a rejected choice is not a stop), and the claims on list /
range / sum pools: once the admission test has passed, the pool contains the amount (`admitted_has`), so the claim does
not stop; the first loop of `claim_resources` does not stop if none of its claims does.
-/
namespace HqModel.Alloc

def NoStop {α} (r : Except Stop α) : Prop := ∀ e, r = .error e → e = .badChoice

theorem NoStop.ok {α} (x : α) : NoStop (.ok x : Except Stop α) := by intro e h; cases h

theorem takeIndices_ok (gid n : Nat) (g : Group) (acc : List AIdx) (h : n ≤ g.free.length) :
    ∃ g' acc', takeIndices gid n g acc = .ok (g', acc') ∧ g'.fracs = g.fracs ∧ g'.free.length + n = g.free.length := by
  induction n generalizing g acc with
  | zero => exact ⟨g, acc, rfl, rfl, rfl⟩
  | succ n ih =>
    cases hfree : g.free with
    | nil => rw [hfree] at h; simp at h
    | cons i rest =>
      have hlen : n ≤ ({ g with free := rest } : Group).free.length := by
        rw [hfree] at h; simp at h ⊢; omega
      obtain ⟨g', acc', hr, hf, hl⟩ := ih { g with free := rest } (acc ++ [⟨i, gid, 0⟩]) hlen
      refine ⟨g', acc', ?_, hf, ?_⟩
      · simp only [takeIndices, hfree]; exact hr
      · simp only [List.length_cons] at hl ⊢; omega

theorem bestMatch_nostop (m : FMap) (fr : Nat) (pick : Option Nat) : NoStop (bestMatch m fr pick) := by
  intro e h
  unfold bestMatch at h
  split at h
  · cases h
  · split at h
    · split at h
      · split at h
        · cases h
        · cases h; rfl
      · cases h; rfl
    · split at h
      · cases h
      · cases h; rfl

theorem takeFracOrSplit_nostop {gid fr : Nat} {pick : Option Nat} {g : Group} {acc : List AIdx}
    (h : fr = 0 ∨ bestVal g.fracs fr ≠ none ∨ g.free ≠ []) : NoStop (takeFracOrSplit gid fr pick g acc) := by
  intro e he
  unfold takeFracOrSplit at he
  split at he
  · cases he
  · rename_i hne
    split at he
    · rename_i er hb
      simp only [Except.error.injEq] at he
      subst he
      exact bestMatch_nostop _ _ _ _ hb
    · cases he
    · rename_i hb
      split at he
      · rename_i hfree
        rcases h with h | h | h
        · exact absurd h hne
        · exact absurd (bestVal_none_of_bestMatch hb) h
        · exact absurd hfree h
      · cases he

theorem tryTakeFrac_nostop (gid fr : Nat) (pick : Option Nat) (g : Group) (acc : List AIdx) :
    NoStop (tryTakeFrac gid fr pick g acc) := by
  intro e he
  unfold tryTakeFrac at he
  split at he
  · cases he
  · split at he
    · rename_i er hb
      simp only [Except.error.injEq] at he
      subst he
      exact bestMatch_nostop _ _ _ _ hb
    · cases he
    · cases he

theorem take_nostop (gid : Nat) {units fr : Nat} (pick : Option Nat) {g : Group} (acc : List AIdx)
    (hu : units ≤ g.free.length) (hfr : fr = 0 ∨ units < g.free.length ∨ bestVal g.fracs fr ≠ none) :
    ∃ g1 acc1, takeIndices gid units g acc = .ok (g1, acc1) ∧ NoStop (takeFracOrSplit gid fr pick g1 acc1) := by
  obtain ⟨g1, acc1, h1, hf1, hl1⟩ := takeIndices_ok gid units g acc hu
  refine ⟨g1, acc1, h1, takeFracOrSplit_nostop ?_⟩
  rcases hfr with h | h | h
  · exact .inl h
  · refine .inr (.inr fun hnil => ?_)
    rw [hnil] at hl1
    simp only [List.length_nil] at hl1
    omega
  · exact .inr (.inl (hf1 ▸ h))

theorem claim_indices_nostop {full : Nat} {g : Group} {e : Entry} {pick : Option Nat}
    (h : ScatterOk [g] [0] (e.amountOr full / FPU) (e.amountOr full % FPU)) :
    NoStop ((Pool.indices full g).claim e pick) := by
  simp only [ScatterOk, totalFreeP, freeLen, List.map_cons, List.map_nil, List.sum_cons, List.sum_nil, Nat.add_zero,
    List.getElem?_cons_zero, Option.map_some, Option.getD_some, List.mem_singleton, exists_eq_left,
    Option.some.injEq] at h
  obtain ⟨g1, acc1, h1, h2⟩ := take_nostop 0 pick [] h.1 (h.2.imp_right (Or.imp_right fun ⟨_, hg, hb⟩ => hg ▸ hb))
  intro er he
  simp only [Pool.claim, h1] at he
  split at he
  · rename_i er' h2'
    simp only [Except.error.injEq] at he
    subst he
    exact h2 _ h2'
  · cases he

theorem claim_sum_nostop {full free : Nat} {e : Entry} {pick : Option Nat} (h : e.amountOr full ≤ free) :
    NoStop ((Pool.sum full free).claim e pick) := by
  intro er he
  have : ¬ free < e.amountOr full := by omega
  simp [Pool.claim, this] at he

theorem claim_groups_all_nostop {full : Nat} {gs : List Group} {e : Entry} {pick : Option Nat}
    (h : e.policy = .all) : NoStop ((Pool.groups full gs).claim e pick) := by
  intro er he
  simp [Pool.claim, h] at he

theorem admitted_amount {s : State} {e : Entry} {pool : Pool} {c : CState} (hp : s.pools[e.rid]? = some pool)
    (hc : s.concise[e.rid]? = some c) (hadm : entryHasResources s.pools s.concise e = true) :
    e.amountOr pool.fullSize ≤ c.maxAlloc := by
  unfold entryHasResources at hadm
  rw [hp] at hadm
  simp only [hc, Option.getD_some] at hadm
  unfold Entry.amountOr
  cases hpe : e.policy <;> simp only [hpe] at hadm ⊢
  case all =>
    have : c.maxAlloc = pool.fullSize := by simpa using hadm
    exact Nat.le_of_eq this.symm
  all_goals exact of_decide_eq_true hadm

theorem admitted_has {U} {s : State} (hinv : Inv2 U s) {e : Entry} {pool : Pool} (hp : s.pools[e.rid]? = some pool)
    (ht : pool.tag = 1 ∨ pool.tag = 2) (hadm : entryHasResources s.pools s.concise e = true) :
    ScatterOk pool.groupsOf (List.range pool.ngroups) (e.amountOr pool.fullSize / FPU)
      (e.amountOr pool.fullSize % FPU) := by
  obtain ⟨c, hc⟩ := exists_get (hinv.concise.len ▸ lt_length_of_getElem? hp : e.rid < s.concise.length)
  have hl := pool_link hinv hp hc ht
  have := hl.scatterOk ((le_maxAlloc_iff_has hl.vals _).mp (admitted_amount hp hc hadm))
  rwa [hl.len] at this

theorem admitted_sum {U} {s : State} (hinv : Inv2 U s) {e : Entry} {full free : Nat}
    (hp : s.pools[e.rid]? = some (.sum full free))
    (hadm : entryHasResources s.pools s.concise e = true) : e.amountOr full ≤ free := by
  obtain ⟨c, hc⟩ := exists_get (hinv.concise.len ▸ lt_length_of_getElem? hp : e.rid < s.concise.length)
  have hle := admitted_amount hp hc hadm
  obtain ⟨cg, rfl, hu, hf, hnd⟩ := hinv.concise.sumCInv hp hc
  have hfm : fmax cg.fracs ≤ free % FPU := by
    refine fmax_of_forall (P := (· ≤ free % FPU)) (Nat.zero_le _) ?_
    intro kv hkv
    have h2 := hf kv.1
    rw [fracOf_of_fget (fget_of_mem hnd hkv)] at h2
    rw [h2]
    split <;> omega
  have : CState.maxAlloc [cg] = cg.units * FPU + max 0 (fmax cg.fracs) := by simp [CState.maxAlloc]
  rw [this, hu, Nat.max_eq_right (Nat.zero_le _)] at hle
  have := Nat.div_add_mod free FPU
  rw [Nat.mul_comm] at this
  exact Nat.le_trans hle (by omega)

/-- the resource ids are distinct, so a pool is untouched until its entry is processed -/
theorem claimPlain_nostop {picks : Choices} {pools : List Pool} {rq : Request} {al : Allocation}
    (hnd : (rq.map (·.rid)).Nodup)
    (h : ∀ e ∈ rq, ∃ pool, pools[e.rid]? = some pool ∧
      ((pool.isGroups && e.policy.relevantForCoupling) = true ∨ NoStop (pool.claim e (picks.pick e.rid)))) :
    NoStop (claimPlain picks pools rq al) := by
  induction rq generalizing pools al with
  | nil => exact NoStop.ok _
  | cons e es ih =>
    obtain ⟨hne, hnd'⟩ := List.nodup_cons.mp hnd
    obtain ⟨pool, hp, hcl⟩ := h e (by simp)
    have hrest : ∀ pools' : List Pool, (∀ r : Nat, r ≠ e.rid → pools'[r]? = pools[r]?) →
        ∀ e' ∈ es, ∃ pool' : Pool, pools'[e'.rid]? = some pool' ∧
          ((pool'.isGroups && e'.policy.relevantForCoupling) = true ∨
            NoStop (pool'.claim e' (picks.pick e'.rid))) := by
      intro pools' hsame e' he'
      obtain ⟨pool', hp', hcl'⟩ := h e' (List.mem_cons_of_mem _ he')
      have hrid : e'.rid ≠ e.rid := by
        intro heq
        apply hne
        exact List.mem_map.mpr ⟨e', he', heq⟩
      exact ⟨pool', by rw [hsame _ hrid]; exact hp', hcl'⟩
    simp only [claimPlain, hp]
    by_cases hc : (pool.isGroups && e.policy.relevantForCoupling) = true
    · rw [if_pos hc]
      exact ih hnd' (hrest pools (fun _ _ => rfl))
    · rw [if_neg hc]
      rcases hcl with hcl | hcl
      · exact absurd hcl hc
      · cases hr : pool.claim e (picks.pick e.rid) with
        | error er =>
          intro e' he'
          simp only [Except.error.injEq] at he'
          subst he'
          exact hcl _ hr
        | ok v =>
          obtain ⟨pool', ra⟩ := v
          dsimp only
          apply ih hnd'
          apply hrest
          intro r hr'
          simp only [setPool]
          rw [List.getElem?_set_ne (fun h => hr' h.symm)]

end HqModel.Alloc
