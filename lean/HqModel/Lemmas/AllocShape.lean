import HqModel.Lemmas.AllocClaim
/-!
Shape of what the claim procedures return: whole indices first, at most one fractional entry and it is last, and the
entries add up to exactly the requested amount (`Shape`).
-/
namespace HqModel.Alloc

def WholeOnly (l : List AIdx) : Prop := ∀ e ∈ l, e.fractions = 0

/-- `l` = `amount / FPU` whole entries, followed — iff `amount % FPU ≠ 0` — by one entry holding `amount % FPU`. -/
def Shape (amount : Nat) (l : List AIdx) : Prop :=
  ∃ ws, WholeOnly ws ∧ ws.length = amount / FPU ∧
    ((amount % FPU = 0 ∧ l = ws) ∨ (∃ f, f.fractions = amount % FPU ∧ amount % FPU ≠ 0 ∧ l = ws ++ [f]))

theorem WholeOnly.nil : WholeOnly [] := by intro e he; cases he

theorem WholeOnly.append {a b : List AIdx} (ha : WholeOnly a) (hb : WholeOnly b) : WholeOnly (a ++ b) := by
  intro e he
  rcases List.mem_append.mp he with h | h
  · exact ha e h
  · exact hb e h

theorem WholeOnly.perm {a b : List AIdx} (ha : WholeOnly a) (p : a.Perm b) : WholeOnly b :=
  fun e he => ha e (p.mem_iff.mpr he)

theorem takeIndices_shape {gid n : Nat} {g g' : Group} {acc acc' : List AIdx}
    (h : takeIndices gid n g acc = .ok (g', acc')) :
    ∃ ws, WholeOnly ws ∧ ws.length = n ∧ acc' = acc ++ ws ∧ (∀ e ∈ ws, e.group = gid) ∧
      g.free.length = n + g'.free.length := by
  induction n generalizing g acc with
  | zero =>
    simp only [takeIndices, Except.ok.injEq, Prod.mk.injEq] at h
    obtain ⟨rfl, rfl⟩ := h
    exact ⟨[], WholeOnly.nil, rfl, by simp, by simp, by simp⟩
  | succ n ih =>
    simp only [takeIndices] at h
    split at h
    · cases h
    · rename_i i rest hfree
      obtain ⟨ws, hw, hl, hacc, hg, hlen⟩ := ih h
      refine ⟨⟨i, gid, 0⟩ :: ws, ?_, by simp [hl], by simp [hacc], ?_, ?_⟩
      · intro e he
        rcases List.mem_cons.mp he with rfl | he
        · rfl
        · exact hw e he
      · intro e he
        rcases List.mem_cons.mp he with rfl | he
        · rfl
        · exact hg e he
      · simp only [hfree, List.length_cons]
        simp only at hlen
        omega

theorem takeFracOrSplit_shape {gid fr : Nat} {pick : Option Nat} {g g' : Group} {acc acc' : List AIdx}
    (h : takeFracOrSplit gid fr pick g acc = .ok (g', acc')) :
    (fr = 0 ∧ acc' = acc ∧ g' = g) ∨ (fr ≠ 0 ∧ ∃ f, f.fractions = fr ∧ f.group = gid ∧ acc' = acc ++ [f]) := by
  rcases takeFracOrSplit_cases h with ⟨h0, hg, hacc⟩ | ⟨hpos, i, _, -, -, -, hacc⟩ | ⟨hpos, i, _, -, -, hacc⟩
  · exact .inl ⟨h0, hacc, hg⟩
  · exact .inr ⟨Nat.ne_of_gt hpos, ⟨i, gid, fr⟩, rfl, rfl, hacc⟩
  · exact .inr ⟨Nat.ne_of_gt hpos, ⟨i, gid, fr⟩, rfl, rfl, hacc⟩

theorem div_mod_FPU (units fr : Nat) (h : fr < FPU) : (units * FPU + fr) / FPU = units ∧ (units * FPU + fr) % FPU = fr := by
  unfold FPU at *
  omega

theorem scatterLoop_shape {set : Option (List Nat)} {pick : Option Nat} {fuel : Nat} {gs gs' : List Group}
    {units fr index : Nat} {acc acc' : List AIdx}
    (h : scatterLoop set pick fuel gs units fr index acc = .ok (gs', acc')) :
    ∃ ws, WholeOnly ws ∧ ws.length = units ∧
      ((fr = 0 ∧ acc' = acc ++ ws) ∨ (fr ≠ 0 ∧ ∃ f, f.fractions = fr ∧ acc' = acc ++ ws ++ [f])) := by
  refine scatterLoop_induct (motive := fun _ units fr _ acc => ∃ ws, WholeOnly ws ∧ ws.length = units ∧
    ((fr = 0 ∧ acc' = acc ++ ws) ∨ (fr ≠ 0 ∧ ∃ f : AIdx, f.fractions = fr ∧ acc' = acc ++ ws ++ [f])))
    (fun _ => ⟨[], WholeOnly.nil, rfl, .inl ⟨rfl, by simp⟩⟩) ?_ (fun _ _ _ _ ih => ih) ?_ ?_ h
  · rintro _ units _ _ _ gidx _ i _ _ _ hu _ ⟨ws, hw, hl, hres⟩
    refine ⟨⟨i, gidx, 0⟩ :: ws, ?_, by rw [List.length_cons, hl]; exact Nat.sub_add_cancel hu, ?_⟩
    · intro e he
      rcases List.mem_cons.mp he with rfl | he
      · rfl
      · exact hw e he
    · rcases hres with ⟨h0, hacc⟩ | ⟨hne, f, hf, hacc⟩
      · exact .inl ⟨h0, by simp [hacc]⟩
      · exact .inr ⟨hne, f, hf, by simp [hacc]⟩
  · rintro _ fr _ _ gidx _ i _ _ _ hpos _ _ - rfl
    exact ⟨[], WholeOnly.nil, rfl, .inr ⟨Nat.ne_of_gt hpos, ⟨i, gidx, fr⟩, rfl, by simp⟩⟩
  · rintro _ fr _ _ gidx _ i _ _ _ hpos _ _ - rfl
    exact ⟨[], WholeOnly.nil, rfl, .inr ⟨Nat.ne_of_gt hpos, ⟨i, gidx, fr⟩, rfl, by simp⟩⟩

theorem keyLt_whole_frac {x f : AIdx} (hx : x.fractions = 0) (hf : f.fractions ≠ 0) : AIdx.keyLt x f = true := by
  unfold AIdx.keyLt
  have : x.fractions < f.fractions := by omega
  simp [this]

theorem keyLt_frac_whole {x f : AIdx} (hx : x.fractions = 0) (hf : f.fractions ≠ 0) : AIdx.keyLt f x = false := by
  unfold AIdx.keyLt
  have h1 : ¬ f.fractions < x.fractions := by omega
  have h2 : ¬ f.fractions = x.fractions := by omega
  simp [h1, h2]

theorem insertIdx_whole_append {x f : AIdx} {ws : List AIdx} (hx : x.fractions = 0) (hf : f.fractions ≠ 0) :
    insertIdx x (ws ++ [f]) = insertIdx x ws ++ [f] := by
  induction ws with
  | nil => simp [insertIdx, keyLt_whole_frac hx hf]
  | cons y ys ih =>
    simp only [List.cons_append, insertIdx]
    split
    · rfl
    · rw [ih]; rfl

theorem insertIdx_frac {f : AIdx} {ws : List AIdx} (hw : WholeOnly ws) (hf : f.fractions ≠ 0) :
    insertIdx f ws = ws ++ [f] := by
  induction ws with
  | nil => rfl
  | cons y ys ih =>
    simp only [insertIdx, keyLt_frac_whole (hw y (by simp)) hf]
    rw [ih (fun e he => hw e (List.mem_cons_of_mem _ he))]
    rfl

theorem sortIdx_whole_frac {ws : List AIdx} {f : AIdx} (hw : WholeOnly ws) (hf : f.fractions ≠ 0) :
    sortIdx (ws ++ [f]) = sortIdx ws ++ [f] := by
  induction ws with
  | nil => rfl
  | cons x xs ih =>
    have hx := hw x (by simp)
    have hxs : WholeOnly xs := fun e he => hw e (List.mem_cons_of_mem _ he)
    show insertIdx x (sortIdx (xs ++ [f])) = insertIdx x (sortIdx xs) ++ [f]
    rw [ih hxs, insertIdx_whole_append hx hf]

theorem claimScatter_shape {amount : Nat} {gs gs' : List Group} {set : Option (List Nat)} {pick : Option Nat}
    {acc' : List AIdx} (h : claimScatter amount gs set pick = .ok (gs', acc')) : Shape amount acc' := by
  unfold claimScatter at h
  split at h
  · cases h
  · rename_i gs₁ acc₁ hl
    simp only [Except.ok.injEq, Prod.mk.injEq] at h
    obtain ⟨rfl, rfl⟩ := h
    obtain ⟨ws, hw, hlen, hres⟩ := scatterLoop_shape hl
    have hws : WholeOnly (sortIdx ws) := hw.perm (sortIdx_perm ws).symm
    have hlen' : (sortIdx ws).length = amount / FPU := by rw [(sortIdx_perm ws).length_eq, hlen]
    rcases hres with ⟨h0, hacc⟩ | ⟨hne, f, hf, hacc⟩
    · refine ⟨sortIdx ws, hws, hlen', .inl ⟨h0, ?_⟩⟩
      simp [hacc]
    · refine ⟨sortIdx ws, hws, hlen', .inr ⟨f, hf, hne, ?_⟩⟩
      simp only [List.nil_append] at hacc
      rw [hacc, sortIdx_whole_frac hw (by rw [hf]; exact hne)]

theorem tight_arith (units size fr : Nat) (hfr : fr < FPU) :
    ((units - size) * FPU) / FPU = units - size ∧ ((units - size) * FPU) % FPU = 0 ∧
    ((units - size) * FPU + fr) / FPU = units - size ∧ ((units - size) * FPU + fr) % FPU = fr := by
  have h0 := div_mod_FPU (units - size) 0 FPU_pos
  rw [Nat.add_zero] at h0
  exact ⟨h0.1, h0.2, div_mod_FPU _ fr hfr⟩

/-- shape of the output vector of the tight loop, together with the recorded position of the fractional entry -/
theorem tightLoop_shape {set : Option (List Nat)} {pick : Option Nat} {fuel : Nat} {gs gs' : List Group}
    {amounts : List Nat} {remaining : Nat} {acc acc' : List AIdx} {fidx fidx' : Option Nat}
    (h : tightLoop set pick fuel gs amounts remaining acc fidx = .ok (gs', acc', fidx')) :
    (fidx = none → ∃ pre post, WholeOnly pre ∧ WholeOnly post ∧ pre.length + post.length = remaining / FPU ∧
        ((remaining % FPU = 0 ∧ acc' = acc ++ pre ++ post ∧ fidx' = none) ∨
         (remaining % FPU ≠ 0 ∧ ∃ f, f.fractions = remaining % FPU ∧ acc' = acc ++ pre ++ [f] ++ post ∧
            ((post = [] ∧ fidx' = none) ∨ fidx' = some (acc.length + pre.length))))) ∧
    (∀ k, fidx = some k → remaining % FPU = 0 →
        ∃ ws, WholeOnly ws ∧ ws.length = remaining / FPU ∧ acc' = acc ++ ws ∧ fidx' = some k) := by
  refine tightLoop_induct (motive := fun _ _ remaining acc fidx =>
    (fidx = none → ∃ pre post, WholeOnly pre ∧ WholeOnly post ∧ pre.length + post.length = remaining / FPU ∧
        ((remaining % FPU = 0 ∧ acc' = acc ++ pre ++ post ∧ fidx' = none) ∨
         (remaining % FPU ≠ 0 ∧ ∃ f : AIdx, f.fractions = remaining % FPU ∧ acc' = acc ++ pre ++ [f] ++ post ∧
            ((post = [] ∧ fidx' = none) ∨ fidx' = some (acc.length + pre.length))))) ∧
    (∀ k, fidx = some k → remaining % FPU = 0 →
        ∃ ws, WholeOnly ws ∧ ws.length = remaining / FPU ∧ acc' = acc ++ ws ∧ fidx' = some k)) ?_ ?_ ?_ h
  · rintro _ _ remaining acc fidx _ _ _ _ _ _ - - h1 h2 - rfl
    obtain ⟨ws, hw, hl, rfl, -, -⟩ := takeIndices_shape h1
    rcases takeFracOrSplit_shape h2 with ⟨h0, rfl, -⟩ | ⟨hne, f, hf, -, rfl⟩
    · exact ⟨fun hn => ⟨ws, [], hw, WholeOnly.nil, by simp [hl], .inl ⟨h0, by simp, hn⟩⟩,
        fun k hk _ => ⟨ws, hw, hl, rfl, hk⟩⟩
    · exact ⟨fun hn => ⟨ws, [], hw, WholeOnly.nil, by simp [hl], .inr ⟨hne, f, hf, by simp, .inl ⟨rfl, hn⟩⟩⟩,
        fun k _ h0 => absurd h0 hne⟩
  · -- the largest group is drained and gives the fraction: only whole entries follow
    rintro _ _ remaining acc fidx gidx _ g _ _ _ _ - - hle h1 h2 ⟨-, ih2⟩
    obtain ⟨ws1, hw1, hl1, rfl, -, -⟩ := takeIndices_shape h1
    obtain ⟨a1, a2, -, -⟩ := tight_arith (remaining / FPU) g.free.length (remaining % FPU) (Nat.mod_lt _ FPU_pos)
    rcases tryTakeFrac_cases h2 with ⟨hb, -⟩ | ⟨-, hpos, i, _, -, -, -, rfl⟩
    · cases hb
    · have hne := Nat.ne_of_gt hpos
      obtain ⟨ws2, hw2, hl2, rfl, hfidx'⟩ := ih2 _ rfl a2
      rw [a1] at hl2
      refine ⟨fun _ => ⟨ws1, ws2, hw1, hw2, by omega, .inr ⟨hne, ⟨i, gidx, remaining % FPU⟩, rfl, by simp, .inr ?_⟩⟩,
        fun k _ h0 => absurd h0 hne⟩
      rw [hfidx']
      simp
  · rintro _ _ remaining acc fidx _ _ g _ _ _ _ - - hle h1 h2 ⟨ih1, ih2⟩
    obtain ⟨ws1, hw1, hl1, rfl, -, -⟩ := takeIndices_shape h1
    obtain ⟨a1, a2, a3, a4⟩ := tight_arith (remaining / FPU) g.free.length (remaining % FPU) (Nat.mod_lt _ FPU_pos)
    rcases tryTakeFrac_cases h2 with ⟨-, -, rfl, -⟩ | ⟨hb, -⟩
    · refine ⟨fun hn => ?_, fun k hk h0 => ?_⟩
      · obtain ⟨pre, post, hwp, hwq, hlen, hres⟩ := ih1 hn
        rw [a3] at hlen
        have hlen' : (ws1 ++ pre).length + post.length = remaining / FPU := by
          clear hres
          rw [List.length_append, hl1]
          omega
        rw [a4] at hres
        refine ⟨ws1 ++ pre, post, hw1.append hwp, hwq, hlen', ?_⟩
        rcases hres with ⟨h0, rfl, hf'⟩ | ⟨hne, f, hf, rfl, hpos⟩
        · exact .inl ⟨h0, by simp, hf'⟩
        · refine .inr ⟨hne, f, hf, by simp, hpos.imp_right fun hp => ?_⟩
          rw [hp]
          simp [Nat.add_assoc]
      · rw [h0, Nat.add_zero] at ih2
        obtain ⟨ws2, hw2, hl2, rfl, hfidx'⟩ := ih2 k hk a2
        rw [a1] at hl2
        exact ⟨ws1 ++ ws2, hw1.append hw2, by rw [List.length_append, hl1, hl2]; omega, by simp, hfidx'⟩
    · cases hb

theorem swapToLast_mid (pre post : List AIdx) (f : AIdx) :
    ∃ ws, ws.Perm (pre ++ post) ∧ swapToLast (pre ++ f :: post) pre.length = ws ++ [f] := by
  unfold swapToLast
  simp only [List.drop_left']
  cases hr : post.reverse with
  | nil =>
    have : post = [] := by simpa using hr
    subst this
    exact ⟨pre, by simp, by simp⟩
  | cons l rpost =>
    have hpost : post = rpost.reverse ++ [l] := by
      have := congrArg List.reverse hr
      simpa using this
    refine ⟨pre ++ l :: rpost.reverse, ?_, by simp⟩
    rw [hpost]
    exact List.Perm.append_left _ (List.perm_append_comm (l₁ := [l]) (l₂ := rpost.reverse))

theorem claimTight_shape {amount : Nat} {gs gs' : List Group} {set : Option (List Nat)} {pick : Option Nat}
    {acc' : List AIdx} (h : claimTight amount gs set pick = .ok (gs', acc')) : Shape amount acc' := by
  unfold claimTight at h
  split at h
  · cases h
  · rename_i gs₁ acc₁ hl
    simp only [Except.ok.injEq, Prod.mk.injEq] at h
    obtain ⟨rfl, rfl⟩ := h
    obtain ⟨pre, post, hwp, hwq, hlen, hres⟩ := (tightLoop_shape hl).1 rfl
    rcases hres with ⟨h0, hacc, -⟩ | ⟨hne, f, hf, hacc, hpos⟩
    · exact ⟨pre ++ post, hwp.append hwq, by simp [hlen], .inl ⟨h0, by simpa using hacc⟩⟩
    · rcases hpos with ⟨hp, -⟩ | hp
      · subst hp
        exact ⟨pre, hwp, by simpa using hlen, .inr ⟨f, hf, hne, by simpa using hacc⟩⟩
      · cases hp
  · rename_i gs₁ acc₁ k hl
    simp only [Except.ok.injEq, Prod.mk.injEq] at h
    obtain ⟨rfl, rfl⟩ := h
    obtain ⟨pre, post, hwp, hwq, hlen, hres⟩ := (tightLoop_shape hl).1 rfl
    rcases hres with ⟨-, -, hk⟩ | ⟨hne, f, hf, hacc, hpos⟩
    · cases hk
    · rcases hpos with ⟨-, hk⟩ | hk
      · cases hk
      · simp only [List.length_nil, Nat.zero_add, Option.some.injEq] at hk
        subst hk
        simp only [List.nil_append, List.append_assoc, List.singleton_append] at hacc
        obtain ⟨ws, hperm, hsw⟩ := swapToLast_mid pre post f
        rw [hacc, hsw]
        refine ⟨ws, (hwp.append hwq).perm hperm.symm, by rw [hperm.length_eq]; simpa using hlen,
          .inr ⟨f, hf, hne, rfl⟩⟩

end HqModel.Alloc
