import HqModel.Lemmas.CoreInvAct
import HqModel.Lemmas.CoreNoPanicQueueSteps
/-!
`NpQ` along the acts of the reactor (`Act.npg`). For a pair (accumulators, state) the invariant is `NpQ` with the released
tasks exempt from the state → queue clause and the disposed ids as its accumulator, together with `PfD` (a released task
that is still Prefilled has left its prefill set). The structural invariant `Inv` holds at every pair of a chain, so
what `NpQ` needs of it (unique ids, redirects only for Retracting tasks, registered consumers are Waiting) is read off
there and not carried along.
-/
namespace HqModel.Core.NPC

open HqModel.Core.NP

/-- what the family is told about the acts, beyond what the structural invariant is told (`sideI`): no Finished for a
Retracting task (`UpdNP`), and a task of the Assigned list of a lost worker is not Prefilled (`LS3.a1`) -/
def npSide : Core.Side :=
  { sideI with fin := fun st => ∀ w0, st ≠ .retracting w0, lostA := fun st => ∀ w0, st ≠ .prefilled w0 }

/-- `D0`: tasks that stay exempt throughout -/
structure NpG (D0 : TaskId → Prop) (a : Gh × State) : Prop where
  q : NpQ (fun x => x ∈ a.1.D ∨ D0 x) a.1.R a.2
  pfd : PfD a.1.R a.2 a.1.D

theorem isPrefilled_of_setTask {s : State} {t' told : Task} {x : TaskId} (hf : s.task? t'.id = some told)
    (hs : ∀ w, t'.state ≠ .prefilled w) (h : IsPrefilled (s.setTask t') x) : IsPrefilled s x := by
  obtain ⟨t, w, a, b⟩ := isPrefilled_iff.mp h
  rw [task?_setTask] at a
  split at a
  · rename_i e
    rw [e, hf] at a
    simp only [Option.map_some, Option.some.injEq] at a
    subst a
    exact absurd b (hs w)
  · exact isPrefilled_iff.mpr ⟨t, w, a, b⟩

theorem PfD.setTask {R u} {s : State} {t' told : Task} (h : PfD R s u) (hf : s.task? t'.id = some told)
    (hs : ∀ w, t'.state ≠ .prefilled w) : PfD R (s.setTask t') u :=
  fun x hx hp => h x hx (isPrefilled_of_setTask hf hs hp)

theorem PfD.frame {R u} {s s' : State} (h : PfD R s u) (ht : s'.tasks = s.tasks) (hq : s'.queues = s.queues) :
    PfD R s' u := by
  intro x hx hp
  rw [isPrefilled_iff_stOf, ht, ← isPrefilled_iff_stOf] at hp
  rw [hq]
  exact h x hx hp

theorem PfD.mono {R R' u u'} {s : State} (h : PfD R s u) (hu : ∀ x ∈ u', x ∈ u) (hr : ∀ x ∈ R', x ∈ R) :
    PfD R' s u' :=
  fun x hx hp => ⟨fun e => (h x (hu x hx) hp).1 (hr x e), (h x (hu x hx) hp).2⟩

/-- `add_ready_task` disposes only ids of prefill sets, and the prefill sets shrink -/
theorem PfD.addReady {R u} {s s' : State} {t : Task} {r : List TaskId} (h : PfD R s u)
    (heq : s.addReady t = .ok (s', r)) : PfD (R ++ r) s' u := by
  obtain ⟨_, hre, rfl⟩ := addReady_ok_iff.mp heq
  intro x hx hp
  obtain ⟨a, b⟩ := h x hx hp
  refine ⟨fun e => ?_, fun j q' hq' hm => ?_⟩
  · rcases List.mem_append.mp e with e | e
    · exact a e
    · rw [hre] at e
      obtain ⟨i, q, pp, ts, hq, hpf, _, hm⟩ := mem_disposed.mp e
      exact b i q hq (mem_pfIds.mpr ⟨pp, ts, hpf, hm⟩)
  · rw [show _ = _ from getElem?_disposeAdd s.queues t j] at hq'
    cases hq : s.queues[j]? with
    | none => rw [hq] at hq'; cases hq'
    | some q =>
      rw [hq] at hq'
      simp only [Option.map_some, Option.some.injEq] at hq'
      subst hq'
      obtain ⟨pp, ts, hpf, hmt⟩ := mem_pfIds.mp hm
      rw [addQ_prefill, checkDispose_prefill] at hpf
      exact b j q hq (mem_pfIds.mpr ⟨pp, ts, hpf.1, hmt⟩)

theorem PfD.requeued {R u} {s s2 : State} {t' told : Task} {r : List TaskId} (h : PfD R s u)
    (hf : s.task? t'.id = some told) (hs : ∀ w, t'.state ≠ .prefilled w) (hq : Requeued s t' s2 r) :
    PfD (R ++ r) s2 u :=
  (h.setTask hf hs).addReady hq

/-- a released task is in no prefill set and not among the disposed ids -/
theorem NpG.out {D0 : TaskId → Prop} {g : Gh} {s : State} (h : NpG D0 (g, s)) {id : TaskId} {task : Task}
    (ht : s.task? id = some task) (hd : id ∈ g.D) :
    id ∉ g.R ∧ ∀ (i : Nat) (q : Queue), s.queues[i]? = some q → id ∉ pfIds q := by
  by_cases hp : ∃ w, task.state = .prefilled w
  · obtain ⟨w, hw⟩ := hp
    exact h.pfd id hd (isPrefilled_iff.mpr ⟨task, w, ht, hw⟩)
  · have hnp : ∀ w, task.state ≠ .prefilled w := fun w e => hp ⟨w, e⟩
    exact ⟨h.q.not_R ht hnp, fun i q hq => h.q.not_pf ht hnp hq⟩

theorem _root_.HqModel.Core.RunningArm.npq {D R} {s s' : State} {w : Nat} {id : TaskId} {rv : Nat} {task : Task}
    {ws : List Nat} (h : NpQ D R s) (hR : id ∉ R) (ht : s.task? id = some task)
    (harm : RunningArm s w id rv task s' ws) : NpQ D R s' := by
  obtain rfl : task.id = id := findTask_some_id ht
  have rem : ∀ {s1 s2 : State}, s1.queueRemove task.rq task.id task.prio = .ok s2 → s1.queues = s.queues →
      NpQ D R (State.setTask { s with queues := modifyQueue s.queues task.rq fun q => q.remove task.id task.prio }
        { task with state := .running w rv }) := fun hq e =>
    remove_then_set (t' := { task with state := .running w rv }) h ht rfl rfl rfl nofun hR
      (queueRemove_ok_iff.mpr ⟨e ▸ (queueRemove_ok_iff.mp hq).1, rfl⟩)
  cases harm with
  | assigned hs =>
    exact setTask_npq_unq (t' := { task with state := .running w rv }) h ht rfl rfl
      (not_rstate (by rw [hs]; exact nofun) (by rw [hs]; exact nofun) (by rw [hs]; exact nofun))
      (by rw [hs]; exact nofun) nofun
  | prefilled hs hr h1 h2 =>
    obtain ⟨_, _, _, _, rfl⟩ := withWorker_spec h1
    have a := rem h2 rfl
    obtain ⟨_, rfl⟩ := queueRemove_ok_iff.mp h2
    exact a.frame rfl rfl (fun _ hx => hx)
  | retracting hs h1 h2 hr h3 =>
    have a := rem h1 rfl
    obtain ⟨_, rfl⟩ := queueRemove_ok_iff.mp h1
    refine withWorker_npq (tryRemoveRedirection_npq ?_ h2) h3
    exact a.frame rfl rfl (fun _ hx => hx)
  | mn hs hw hk => exact setWorker_npq _ h

/-- one iteration of `addNewTasks`, up to the queueing of the new id -/
theorem newTask_npq {D R} {s : State} {nt : NewTask} {ts : List Task} {kept : List TaskId} {n : Nat} (h : NpQ D R s)
    (hreg : registerDeps s.tasks nt.id nt.deps = (ts, kept, n)) :
    NpQ D R { s with tasks := ts ++ [mkTask nt n kept] } := by
  have hk : FRel key s.tasks ts := by
    have := registerDeps_krel nt.deps s.tasks nt.id
    rwa [hreg] at this
  exact append_npq (task := mkTask nt n kept) (h.krel (s' := { s with tasks := ts }) hk rfl (fun _ hx => hx)) nofun

theorem PfD.newTask {R u} {s : State} {nt : NewTask} {ts : List Task} {kept : List TaskId} {n : Nat} (h : PfD R s u)
    (hreg : registerDeps s.tasks nt.id nt.deps = (ts, kept, n)) :
    PfD R { s with tasks := ts ++ [mkTask nt n kept] } u := by
  have hk : FRel key s.tasks ts := by
    have := registerDeps_krel nt.deps s.tasks nt.id
    rwa [hreg] at this
  intro x hx hp
  refine h x hx ?_
  rw [isPrefilled_iff_stOf] at hp ⊢
  obtain ⟨w, hw⟩ := hp
  rcases stOf_append ts (mkTask nt n kept) x with e | ⟨_, e⟩
  · exact ⟨w, by rw [← stOf_of_krel hk, ← e]; exact hw⟩
  · rw [show stOf (ts ++ [mkTask nt n kept]) x = _ from hw] at e
    cases e

theorem _root_.HqModel.Core.Act.npg {D0 : TaskId → Prop} {a b : Gh × State} (h : Act npSide a b) (hinv : Inv a.2)
    (hg : NpG D0 a) : NpG D0 b := by
  -- an act that deals with a task in repair takes it out of `D` by `filter`
  have drop : ∀ {D : List TaskId} {id x : TaskId}, x ≠ id → x ∈ D ∨ D0 x → x ∈ D.filter (· ≠ id) ∨ D0 x :=
    fun hx hdx => hdx.imp (fun hm => List.mem_filter.mpr ⟨hm, by simpa using hx⟩) fun e => e
  -- `remove_task` of a task that is not Prefilled
  have erase : ∀ {D R : List TaskId} {s s' : State} {id : TaskId} {st : TS}, Inv s → NpQ (fun x => x ∈ D ∨ D0 x) R s →
      PfD R s D → s.removeTask id = .ok (s', st) → (∀ w, st ≠ .prefilled w) →
      NpQ (fun x => x ∈ D ∨ D0 x) R s' ∧ PfD R s' D := fun {_ _ _ _ _ _} hi hq hp h hst =>
    have hs := (removeTask_spec h).1
    ⟨(removeTask_npq hq hi.nd (fun tk w hf e => by rw [stOf_of_find hf, e] at hs; exact (hst w (Option.some.inj hs).symm).elim)
      h).mono fun _ hx => hx.1, PfD.sub hp (removeTask_isPrefilled hi.nd h) (removeTask_pfsub h)⟩
  cases h with
  | @release D R f p U L s s1 id task ht h =>
    obtain ⟨a, hsub, hpre⟩ := h.npq hg.q
    refine ⟨a.mono fun x hx => ?_, fun x hx hp => ?_⟩
    · rcases hx with (hx | hx) | ⟨rfl, _⟩
      · exact .inl (List.mem_cons_of_mem _ hx)
      · exact .inr hx
      · exact .inl List.mem_cons_self
    · rw [isPrefilled_iff_stOf, h.tasks, ← isPrefilled_iff_stOf] at hp
      rcases List.mem_cons.mp hx with rfl | hx
      · obtain ⟨t, w, a, b⟩ := isPrefilled_iff.mp hp
        rw [ht] at a; cases a
        exact ⟨(hpre w b).1, fun i q hq => ((hpre w b).2 i q hq).2⟩
      · exact ⟨(hg.pfd x hx hp).1, hsub.not_mem (hg.pfd x hx hp).2⟩
  | @finish D R U L s id task ht hd hs hr =>
    obtain rfl : task.id = id := findTask_some_id ht
    obtain ⟨hR, hpf⟩ := hg.out ht hd
    have hrs : ¬ RState R s.redirects task.id task.state := by
      rintro (e | ⟨⟨w, e⟩, _⟩ | ⟨_, e⟩)
      · exact hs 0 e
      · exact hr w e
      · exact hR e
    refine ⟨setTask_npq (t' := { task with state := .finished }) hg.q ht rfl rfl
      (fun ⟨i, q, hq, hm⟩ => absurd hm (hg.q.not_ready ht hrs hq)) (fun ⟨i, q, hq, hm⟩ => absurd hm (hpf i q hq))
      (fun e => absurd e hR) (fun ⟨_, e⟩ => nomatch e)
      (fun _ => drop),
      ((hg.pfd.setTask (t' := { task with state := .finished }) ht nofun).mono
        (fun x hx => (List.mem_filter.mp hx).1) fun _ hx => hx)⟩
  | @wake D R f p U L s c t n ht hs hn =>
    obtain rfl : t.id = c := findTask_some_id ht
    have hnp : ∀ w, t.state ≠ .prefilled w := by rw [hs]; exact nofun
    exact ⟨setTask_npq_unq (t' := { t with state := .waiting n }) hg.q ht rfl rfl
      (not_rstate (by rw [hs]; exact nofun) (by rw [hs]; exact nofun) hnp) hnp nofun,
      hg.pfd.setTask (t' := { t with state := .waiting n }) ht nofun⟩
  | @wakeReady D R f p U L s s2 c t r ht hs h =>
    obtain rfl : t.id = c := findTask_some_id ht
    have hnp : ∀ w, t.state ≠ .prefilled w := by rw [hs]; exact nofun
    exact ⟨requeue_npq' (t' := { t with state := .waiting 0 }) hg.q ht rfl rfl rfl hnp h,
      hg.pfd.requeued (t' := { t with state := .waiting 0 }) ht nofun h⟩
  | @requeue D R f p U L s s2 id task r i ht hd hs h =>
    obtain rfl : task.id = id := findTask_some_id ht
    obtain ⟨hR, hpf⟩ := hg.out ht hd
    exact ⟨requeue_npq (t' := { task with state := .waiting 0, inst := i }) hg.q ht rfl rfl rfl hpf hR
      (fun _ => drop) h,
      (hg.pfd.requeued (t' := { task with state := .waiting 0, inst := i }) ht nofun h).mono
        (fun x hx => (List.mem_filter.mp hx).1) fun _ hx => hx⟩
  | stale hP => exact hP.elim
  | @retract D R f p U L s s1 t task w ht hs hw =>
    obtain ⟨wk, wk', _, _, rfl⟩ := withWorker_spec hw
    have hnr : ∀ x ∈ s.redirects, x.1 ≠ t := hinv.rdRetr.none_of_state ht (by rw [hs]; exact nofun)
    obtain rfl : task.id = t := findTask_some_id ht
    refine ⟨retract_one (setWorker_npq _ hg.q) ht hnr, ?_⟩
    exact ((hg.pfd.frame (s' := s.setWorker wk') rfl rfl).setTask (t' := { task with state := .retracting w }) ht
      nofun).mono (fun _ hx => hx) fun _ hx => List.mem_cons_of_mem _ hx
  | @doom D R f p U L s id task cons ht hc =>
    refine ⟨hg.q.mono fun x hx => hx.imp (List.mem_append_right _) fun e => e, fun x hx hp => ?_⟩
    rcases List.mem_append.mp hx with hx | hx
    · obtain ⟨d, dt, hd, hcm⟩ := recursiveConsumers_mem (id := id) ht hc x hx
      obtain ⟨w, hw⟩ := isPrefilled_iff_stOf.mp hp
      exact (hinv.cw d dt hd x hcm _ hw).elim
    · exact hg.pfd x hx hp
  | @erase D R f p U L s s' id st h hd =>
    have hrem := removeTask_isPrefilled hinv.nd h
    refine ⟨(removeTask_npq hg.q hinv.nd
      (fun tk w hf hs => hg.pfd id hd (isPrefilled_iff.mpr ⟨tk, w, hf, hs⟩)) h).mono fun x hx => ?_,
      (PfD.sub hg.pfd hrem (removeTask_pfsub h)).mono (fun x hx => (List.mem_filter.mp hx).1) fun _ hx => hx⟩
    exact drop hx.2 hx.1
  | eraseW h => exact ⟨(erase hinv hg.q hg.pfd h nofun).1, (erase hinv hg.q hg.pfd h nofun).2⟩
  | eraseFin h => exact ⟨(erase hinv hg.q hg.pfd h nofun).1, (erase hinv hg.q hg.pfd h nofun).2⟩
  | @resolve R f p U s id task w target trv i ht hs hf =>
    obtain rfl : task.id = id := findTask_some_id ht
    have hm := rd_mem_of_find hf
    exact ⟨resolve_redirect_npq (t' := { task with state := .assigned target trv, inst := i }) hg.q ht rfl rfl
      ⟨w, hs⟩ ⟨_, hm.1, hm.2⟩ nofun, nofun⟩
  | @unretract R f p U s id task w i ht hs hf =>
    obtain rfl : task.id = id := findTask_some_id ht
    exact ⟨retracted_to_waiting_npq (t' := { task with state := .waiting 0, inst := i }) hg.q ht rfl rfl ⟨w, hs⟩ rfl,
      nofun⟩
  | run ht h => exact ⟨h.npq hg.q List.not_mem_nil ht, nofun⟩
  | block b hw => exact ⟨setWorker_npq _ hg.q, hg.pfd.frame rfl rfl⟩
  | ask => exact ⟨ask_npq hg.q, hg.pfd.frame rfl rfl⟩
  | dropSn hw => exact ⟨hg.q.frame rfl rfl (fun _ hx => hx), hg.pfd.frame rfl rfl⟩
  | @dropMnRoot D R f p U L s s1 w wk t ro st task others hw ha hL ht hs h =>
    have e := resetMnAll_eq others h
    have et : s1.tasks = s.tasks := (congrArg State.tasks e :)
    have eq : s1.queues = s.queues := (congrArg State.queues e :)
    have er : s1.redirects = s.redirects := (congrArg State.redirects e :)
    refine ⟨(hg.q.frame et eq (er ▸ fun _ hx => hx)).mono fun x hx => hx.imp (List.mem_cons_of_mem _) fun e => e,
      fun x hx hp => ?_⟩
    have hp' : IsPrefilled s x := by rwa [isPrefilled_iff_stOf, et, ← isPrefilled_iff_stOf] at hp
    rw [eq]
    rcases List.mem_cons.mp hx with rfl | hx
    · obtain ⟨tk, w0, a, b⟩ := isPrefilled_iff.mp hp'
      rw [ht] at a; cases a
      rw [hs] at b; cases b
    · exact hg.pfd x hx hp'
  | @dropMnOther g s w wk t ro st task root others hw ha hL ht hs hr =>
    obtain rfl : task.id = t := findTask_some_id ht
    have hnp : ∀ w, task.state ≠ .prefilled w := by rw [hs]; exact nofun
    have h0 : NpQ _ g.R ({ s with workers := s.workers.filter (·.id ≠ w) } : State) :=
      hg.q.frame rfl rfl (fun _ hx => hx)
    exact ⟨setTask_npq_unq (t' := { task with state := .runningMN ((root :: others).filter (· ≠ w)) }) h0 ht rfl rfl
      (not_rstate (by rw [hs]; exact nofun) (by rw [hs]; exact nofun) hnp) hnp nofun,
      (hg.pfd.frame (s' := { s with workers := s.workers.filter (·.id ≠ w) }) rfl rfl).setTask
        (t' := { task with state := .runningMN ((root :: others).filter (· ≠ w)) }) ht nofun⟩
  | @lostPrefilled D R f p U L s s2 id task ht hl hq h =>
    obtain rfl : task.id = id := findTask_some_id ht
    obtain ⟨a, _⟩ := lostPrefilled_step (t' := { task with inst := task.inst + 1, state := .waiting 0 }) hg.q ht rfl rfl
      rfl rfl h
    refine ⟨a, ?_⟩
    obtain ⟨q, pp, ts, hq', hpf, hm, rfl⟩ := movePrefilledToReady_ok_iff.mp h
    intro x hx hp
    obtain ⟨c, d⟩ := (hg.pfd.setTask (t' := { task with inst := task.inst + 1, state := .waiting 0 }) ht nofun) x hx hp
    refine ⟨c, fun i q' hqi hmi => ?_⟩
    rcases getElem?_set_cases hq' hqi with ⟨rfl, rfl⟩ | ⟨_, hqi⟩
    · rw [pfIds_ite] at hmi
      exact d _ q hq' (mem_pfIds.mpr ⟨pp, ts, hpf, List.mem_of_mem_erase hmi⟩)
    · exact d i q' hqi hmi
  | @lostRequeue D R f p U L s s2 id task r ht hl hs hq h =>
    obtain rfl : task.id = id := findTask_some_id ht
    exact ⟨requeue_npq' (t' := { task with state := .waiting 0, inst := task.inst + 1 }) hg.q ht rfl rfl rfl hq h,
      hg.pfd.requeued (t' := { task with state := .waiting 0, inst := task.inst + 1 }) ht nofun h⟩
  | @lostRedirect D R f p U L s s2 id task x r ht hl hs hany h =>
    obtain rfl : task.id = id := findTask_some_id ht
    have a1 := setTask_npq_same (t' := { task with inst := task.inst + 1 })
      (hg.q.frame (s' := { s with redirects := s.redirects.filter (·.1 ≠ task.id) }) rfl rfl
        (fun x hx => (List.mem_filter.mp hx).1)) ht rfl rfl rfl
    refine ⟨addReady_npq a1 (task?_setTask_self (t' := { task with inst := task.inst + 1 }) ht) rfl rfl
      (Or.inr ⟨⟨x, hs⟩, fun y hy => by simpa using (List.mem_filter.mp hy).2⟩) h, ?_⟩
    exact ((hg.pfd.frame (s' := { s with redirects := s.redirects.filter (·.1 ≠ task.id) }) rfl rfl).setTask
      (t' := { task with inst := task.inst + 1 }) ht (by rw [hs]; exact nofun)).addReady h
  | @crash g s id task n ht =>
    obtain rfl : task.id = id := findTask_some_id ht
    refine ⟨setTask_npq_same (t' := { task with crashes := n }) hg.q ht rfl rfl rfl, fun x hx hp => hg.pfd x hx ?_⟩
    rw [isPrefilled_iff_stOf] at hp ⊢
    obtain ⟨w, hw⟩ := hp
    exact ⟨w, (stOf_put_same (t' := { task with crashes := n }) ht rfl x).symm.trans hw⟩
  | @newWaiting D R U L s nt ts kept n hreg =>
    exact ⟨newTask_npq hg.q hreg, hg.pfd.newTask hreg⟩
  | @newReady D R U L s s2 nt ts kept r hreg hnone _ h =>
    -- the queue primitive does not read the task map: queue the id after the record is appended
    obtain ⟨hlt, hre, rfl⟩ := addReady_ok_iff.mp h
    have ha' : State.addReady { s with tasks := ts ++ [mkTask nt 0 kept] } (mkTask nt 0 kept) = .ok (_, r) :=
      addReady_ok_iff.mpr ⟨hlt, hre, rfl⟩
    have hf : State.task? { s with tasks := ts ++ [mkTask nt 0 kept] } (mkTask nt 0 kept).id =
        some (mkTask nt 0 kept) := by
      show findTask (ts ++ [mkTask nt 0 kept]) nt.id = _
      rw [findTask_append, hnone]; simp [mkTask]
    exact ⟨addReady_npq (newTask_npq hg.q hreg) hf rfl rfl (Or.inl rfl) ha', (hg.pfd.newTask hreg).addReady ha'⟩
  | newWorker w => exact ⟨hg.q.frame rfl rfl (fun _ hx => hx), hg.pfd.frame rfl rfl⟩
  | @newRq g s rqv =>
    refine ⟨newRq_npq rqv hg.q, fun x hx hp => ⟨(hg.pfd x hx hp).1, fun i q hq => ?_⟩⟩
    rcases getElem?_newRq rqv hq with hq | rfl
    · exact (hg.pfd x hx hp).2 i q hq
    · exact List.not_mem_nil

theorem _root_.HqModel.Core.Acts.npg {D0 : TaskId → Prop} {a b : Gh × State} (h : Acts npSide a b) (hi : PairInv a)
    (hg : NpG D0 a) : PairInv b ∧ NpG D0 b := by
  induction h with
  | refl => exact ⟨hi, hg⟩
  | tail _ r ih => exact ⟨(r.kept id (fun _ _ h => h) (fun _ h => h) ih.1).1, r.npg ih.1.inv ih.2⟩

/-- a chain that starts and ends with no task in repair: `R` = the disposed ids still to be retracted -/
theorem _root_.HqModel.Core.Acts.npqR {D : TaskId → Prop} {g g' : Gh} {s s' : State} (h : Acts npSide (g, s) (g', s'))
    (hi : Inv s) (hq : NpQ D g.R s) (e : g.D = [] := by rfl) (el : g.L = [] := by rfl) (e' : g'.D = [] := by rfl) :
    NpQ D g'.R s' :=
  (h.npg (D0 := D) ⟨hi, e ▸ nofun, el ▸ nofun⟩ ⟨hq.mono fun _ => .inr, e ▸ nofun⟩).2.q.mono
    fun _ hx => hx.resolve_left (e' ▸ List.not_mem_nil)

theorem _root_.HqModel.Core.Acts.npq0 {D : TaskId → Prop} {U U' : List TaskId} {s s' : State}
    (h : Acts npSide (.idle U, s) (.idle U', s')) (hi : Inv s) (hq : NpQ D [] s) : NpQ D [] s' := h.npqR hi hq

theorem updSide_of {s : State} {w : Nat} {u : Update} (h1 : UpdProto s w u) (h2 : UpdNP s w u) : UpdSide npSide s w u := by
  cases u with
  | reject id rv => exact .inr h1
  | finished id => exact fun task ht w0 => updNP_fin_not_retracting h2 ht w0
  | _ => trivial

/-- what `Inv` says of the record of a worker that is removed: beyond `Inv.lost_side`, the tasks of its Assigned list
are not Prefilled -/
theorem lostSide_of {s : State} (hi : Inv s) {w : Nat} {wk : Worker} (hw : s.worker? w = some wk) :
    wk.assign.ids.Nodup ∧ npSide.lost s wk ∧
      ∀ A F P, wk.assign = .sn A F P → (∀ id ∈ P, ∀ task, s.task? id = some task → npSide.lostP task.state) ∧
        ∀ id ∈ A, ∀ task, s.task? id = some task → npSide.lostA task.state := by
  obtain ⟨hnd, hp⟩ := hi.lost_side hw
  refine ⟨hnd, trivial, fun A F P ha => ⟨hp A F P ha, fun id hid task ht w0 e => ?_⟩⟩
  obtain ⟨st, hs, hh⟩ := hi.ls.a1 w id (by rw [asgW_of_find hw, wAsg, ha]; exact hid)
  rw [stOf_of_find ht, e] at hs
  cases hs
  exact hh

/-- a batch that `remove_task` takes out without a panic names every task once: a second look for an id finds nothing -/
theorem removeTasksBatched_nodup : ∀ {ids : List TaskId} {s s' : State}, (taskIds s.tasks).Nodup →
    s.removeTasksBatched ids = .ok s' → ids.Nodup ∧ ∀ x ∈ ids, x ∈ taskIds s.tasks
  | [], _, _, _, _ => ⟨.nil, nofun⟩
  | id :: rest, s, s', hn, h => by
    obtain ⟨s1, st, h1, hrest⟩ := removeTasksBatched_cons_ok h
    have n1 := (removeTask_sub h1).nodup hn
    obtain ⟨a, b⟩ := removeTasksBatched_nodup n1 hrest
    obtain ⟨task, ht, _⟩ := removeTask_cases h1
    refine ⟨List.nodup_cons.mpr ⟨fun hm => ?_, a⟩, fun x hx => ?_⟩
    · obtain ⟨t, ht1, e⟩ := List.mem_map.mp (b id hm)
      have hf := mem_find_of_nodup n1 ht1
      rw [e, show findTask s1.tasks id = none from removeTask_unknown hn h1] at hf
      cases hf
    · rcases List.mem_cons.mp hx with rfl | hx
      · exact List.mem_map.mpr ⟨task, findTask_some_mem ht, findTask_some_id ht⟩
      · exact (removeTask_sub h1).subset (b x hx)

theorem step_npq_reactor {U : List TaskId} {s s' : State} {op : Op} {out : Out} (hi : InvF s) (hn : NpInv U [] s)
    (hok : OpOk2q s op) (hnp : OpNP s op) (hns : ∀ sol, op ≠ .schedule sol) (h : step s op = .ok (s', out)) :
    NpQ noD [] s' := by
  refine (step_acts (sd := npSide) (U := []) ?_ h).npq0 hi.inv hn.q
  cases op with
  | newWorker w => exact hok
  | removeWorker w reason f order rets => exact fun _ hw => lostSide_of hi.inv hw
  | newRq rqv => trivial
  | newTasks nts => exact ⟨fun _ _ _ _ => trivial, fun _ _ => trivial⟩
  | cancel ids => trivial
  | update w us rets =>
    exact UpdatesOk.mono (fun _ _ _ h => updSide_of h.1 h.2) _ _ _ (UpdatesOk.and _ _ _ hok hnp.1)
  | retracted w ids => trivial
  | schedule sol => exact hns sol rfl

end HqModel.Core.NPC
