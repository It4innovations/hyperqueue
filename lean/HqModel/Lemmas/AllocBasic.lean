import HqModel.Alloc.Allocator
import HqModel.Lemmas.AllocList
/-!
The invariant of one index pool, `PoolInv`: per index, what is free and what the live entries hold (`freeAmt`,
`heldBy`) add up to one unit. Before it the fraction maps; after it the three primitive claim steps (`Prim`) of which
every claim procedure is a composition (`Claims`), each preserving it.
-/
namespace HqModel.Alloc

@[simp] theorem fget_nil (i : Nat) : fget [] i = none := rfl

theorem fget_cons (k v : Nat) (m : FMap) (i : Nat) :
    fget ((k, v) :: m) i = if k = i then some v else fget m i := rfl

theorem fget_freplace (m : FMap) (i x j : Nat) :
    fget (freplace m i x) j = if j = i then (fget m i).map (fun _ => x) else fget m j := by
  induction m with
  | nil => simp [freplace]
  | cons kv m ih =>
    obtain ⟨k, v⟩ := kv
    simp only [freplace]
    by_cases hk : k = i
    · subst hk
      simp only [if_true, fget_cons]
      by_cases hj : j = k
      · subst hj; simp
      · have : ¬ k = j := fun h => hj h.symm
        simp [this, hj, ih]
    · simp only [hk, if_false, fget_cons]
      by_cases hj : j = i
      · subst hj
        simp [hk, ih]
      · by_cases hkj : k = j
        · simp [hkj, hj]
        · simp [hkj, hj, ih]

theorem fget_fset (m : FMap) (i x j : Nat) :
    fget (fset m i x) j = if j = i then some x else fget m j := by
  unfold fset
  by_cases h : (fget m i).isSome
  · rw [if_pos h, fget_freplace]
    by_cases hj : j = i
    · obtain ⟨v, hv⟩ := Option.isSome_iff_exists.mp h
      simp [hj, hv]
    · simp [hj]
  · rw [if_neg h, fget_cons]
    by_cases hj : j = i
    · simp [hj]
    · have : ¬ i = j := fun h => hj h.symm
      simp [hj, this]

theorem fget_fset_isSome {m : FMap} {i x k : Nat} (h : (fget m k).isSome) : (fget (fset m i x) k).isSome := by
  rw [fget_fset]
  split <;> simp [h]

theorem fget_ferase (m : FMap) (i j : Nat) :
    fget (ferase m i) j = if j = i then none else fget m j := by
  induction m with
  | nil => simp [ferase]
  | cons kv m ih =>
    obtain ⟨k, v⟩ := kv
    simp only [ferase]
    by_cases hk : k = i
    · subst hk
      simp only [if_true, ih, fget_cons]
      by_cases hj : j = k
      · simp [hj]
      · have : ¬ k = j := fun h => hj h.symm
        simp [hj, this]
    · simp only [hk, if_false, fget_cons, ih]
      by_cases hkj : k = j
      · subst hkj; simp [hk]
      · simp [hkj]

theorem fracOf_fset (m : FMap) (i x j : Nat) :
    fracOf (fset m i x) j = if j = i then x else fracOf m j := by
  unfold fracOf
  rw [fget_fset]
  by_cases h : j = i <;> simp [h]

theorem fracOf_ferase (m : FMap) (i j : Nat) :
    fracOf (ferase m i) j = if j = i then 0 else fracOf m j := by
  unfold fracOf
  rw [fget_ferase]
  by_cases h : j = i <;> simp [h]

theorem fracOf_of_fget {m : FMap} {i v : Nat} (h : fget m i = some v) : fracOf m i = v := by
  simp [fracOf, h]

def KeysNodup (m : FMap) : Prop := (m.map Prod.fst).Nodup

theorem keys_freplace (m : FMap) (i x : Nat) : (freplace m i x).map Prod.fst = m.map Prod.fst := by
  induction m with
  | nil => rfl
  | cons kv m ih =>
    obtain ⟨k, v⟩ := kv
    simp only [freplace]
    split <;> simp [ih]

theorem fget_none_not_mem {m : FMap} {i : Nat} (h : fget m i = none) : i ∉ m.map Prod.fst := by
  induction m with
  | nil => simp
  | cons kv m ih =>
    obtain ⟨k, v⟩ := kv
    simp only [fget] at h
    split at h
    · cases h
    · rename_i hk
      simp only [List.map_cons, List.mem_cons, not_or]
      exact ⟨fun h' => hk h'.symm, ih h⟩

theorem fset_keys_nodup {m : FMap} (h : KeysNodup m) (i x : Nat) : KeysNodup (fset m i x) := by
  unfold fset KeysNodup
  split
  · rw [keys_freplace]; exact h
  · rename_i hs
    have hn : fget m i = none := by
      cases hg : fget m i with
      | none => rfl
      | some v => simp [hg] at hs
    simp only [List.map_cons]
    exact List.nodup_cons.mpr ⟨fget_none_not_mem hn, h⟩

theorem ferase_keys_nodup {m : FMap} (h : KeysNodup m) (i : Nat) : KeysNodup (ferase m i) := by
  refine List.Nodup.sublist ?_ h
  clear h
  induction m with
  | nil => exact List.Sublist.refl _
  | cons kv m ih =>
    obtain ⟨k, v⟩ := kv
    simp only [ferase]
    split
    · exact List.Sublist.cons _ ih
    · exact List.Sublist.cons_cons _ ih

def GKeys (gs : List Group) : Prop := ∀ g ∈ gs, KeysNodup g.fracs

theorem GKeys.set {gs : List Group} {p : Nat} {g' : Group} (h : GKeys gs) (hg' : KeysNodup g'.fracs) :
    GKeys (gs.set p g') := by
  intro g hg
  rcases List.mem_or_eq_of_mem_set hg with h1 | rfl
  · exact h g h1
  · exact hg'

theorem fget_of_mem {m : FMap} (h : KeysNodup m) {kv : Nat × Nat} (hm : kv ∈ m) : fget m kv.1 = some kv.2 := by
  induction m with
  | nil => cases hm
  | cons x m ih =>
    obtain ⟨k, v⟩ := x
    obtain ⟨hk, hnd⟩ := List.nodup_cons.mp h
    rcases List.mem_cons.mp hm with rfl | hm'
    · simp [fget]
    · have hne : k ≠ kv.1 := by
        intro heq
        apply hk
        rw [heq]
        exact List.mem_map.mpr ⟨kv, hm', rfl⟩
      simp only [fget, hne, if_false]
      exact ih hnd hm'

theorem mem_of_fget {m : FMap} {i v : Nat} (h : fget m i = some v) : (i, v) ∈ m := by
  induction m with
  | nil => simp at h
  | cons y m ih =>
    obtain ⟨k, w⟩ := y
    simp only [fget] at h
    split at h
    · rename_i hk
      simp only [Option.some.injEq] at h
      subst hk h
      simp
    · exact List.mem_cons_of_mem _ (ih h)

theorem mem_freplace {m : FMap} {i x : Nat} {kv : Nat × Nat} (h : kv ∈ freplace m i x) : kv.2 = x ∨ kv ∈ m := by
  induction m with
  | nil => simp [freplace] at h
  | cons y m ih =>
    obtain ⟨k, v⟩ := y
    simp only [freplace] at h
    split at h
    · rcases List.mem_cons.mp h with rfl | h'
      · exact .inl rfl
      · rcases ih h' with h1 | h1
        · exact .inl h1
        · exact .inr (List.mem_cons_of_mem _ h1)
    · rcases List.mem_cons.mp h with rfl | h'
      · exact .inr (by simp)
      · rcases ih h' with h1 | h1
        · exact .inl h1
        · exact .inr (List.mem_cons_of_mem _ h1)

theorem mem_fset {m : FMap} {i x : Nat} {kv : Nat × Nat} (h : kv ∈ fset m i x) : kv.2 = x ∨ kv ∈ m := by
  unfold fset at h
  split at h
  · exact mem_freplace h
  · rcases List.mem_cons.mp h with rfl | h'
    · exact .inl rfl
    · exact .inr h'

theorem bestVal_some {m : FMap} {fr b : Nat} (h : bestVal m fr = some b) : fr ≤ b := by
  induction m generalizing b with
  | nil => simp [bestVal] at h
  | cons kv m ih =>
    obtain ⟨k, v⟩ := kv
    simp only [bestVal] at h
    split at h
    · split at h
      · simp at h; omega
      · simp at h
    · rename_i b' hb'
      have := ih hb'
      split at h
      · simp at h; omega
      · simp at h; omega

theorem bestMatch_some {m : FMap} {fr : Nat} {pick : Option Nat} {p b : Nat}
    (h : bestMatch m fr pick = .ok (some (p, b))) : fget m p = some b ∧ fr ≤ b := by
  unfold bestMatch at h
  split at h
  · simp at h
  · rename_i b' hb'
    split at h
    · split at h
      · split at h
        · rename_i hget
          simp only [Except.ok.injEq, Option.some.injEq, Prod.mk.injEq] at h
          obtain ⟨rfl, rfl⟩ := h
          exact ⟨hget, bestVal_some hb'⟩
        · simp at h
      · simp at h
    · rename_i p'
      split at h
      · rename_i hget
        simp only [Except.ok.injEq, Option.some.injEq, Prod.mk.injEq] at h
        obtain ⟨rfl, rfl⟩ := h
        exact ⟨hget, bestVal_some hb'⟩
      · simp at h

/-- amount of `(group gid, index i)` held by a list of allocation entries -/
def heldBy (l : List AIdx) (gid i : Nat) : Nat :=
  (l.map (fun e => if e.group = gid ∧ e.index = i then e.amt else 0)).sum

@[simp] theorem heldBy_nil (gid i : Nat) : heldBy [] gid i = 0 := rfl

theorem heldBy_cons (e : AIdx) (l : List AIdx) (gid i : Nat) :
    heldBy (e :: l) gid i = (if e.group = gid ∧ e.index = i then e.amt else 0) + heldBy l gid i := by
  simp [heldBy]

theorem heldBy_append (l₁ l₂ : List AIdx) (gid i : Nat) :
    heldBy (l₁ ++ l₂) gid i = heldBy l₁ gid i + heldBy l₂ gid i := by
  simp [heldBy, List.sum_append]

theorem heldBy_snoc (L : List AIdx) (e : AIdx) (g i : Nat) :
    heldBy (L ++ [e]) g i = heldBy L g i + (if e.group = g ∧ e.index = i then e.amt else 0) := by
  rw [heldBy_append, heldBy_cons, heldBy_nil, Nat.add_zero]

theorem heldBy_perm {l₁ l₂ : List AIdx} (h : l₁.Perm l₂) (gid i : Nat) : heldBy l₁ gid i = heldBy l₂ gid i :=
  (h.map _).sum_nat

theorem AIdx.amt_pos (e : AIdx) : 0 < e.amt := by
  unfold AIdx.amt
  split
  · exact FPU_pos
  · omega

theorem heldBy_ge_of_mem {l : List AIdx} {e : AIdx} (h : e ∈ l) : e.amt ≤ heldBy l e.group e.index := by
  induction l with
  | nil => cases h
  | cons x l ih =>
    rw [heldBy_cons]
    rcases List.mem_cons.mp h with rfl | h'
    · simp
    · have := ih h'; omega

def Group.freeAmt (g : Group) (i : Nat) : Nat := FPU * g.free.count i + fracOf g.fracs i

def freeAmt (gs : List Group) (gid i : Nat) : Nat :=
  match gs[gid]? with
  | some g => g.freeAmt i
  | none => 0

def Group.WF (g : Group) : Prop := g.free.Nodup ∧ ∀ j ∈ g.free, fracOf g.fracs j = 0

/-- a fractional holder's index is a key of its group's fraction map (so `get_mut(..).unwrap()` succeeds) -/
def KeyOk (gs : List Group) (e : AIdx) : Prop :=
  e.group < gs.length ∧ (e.fractions ≠ 0 → ∃ g, gs[e.group]? = some g ∧ (fget g.fracs e.index).isSome)

/-- The invariant of one index pool: `gs` its groups, `U gid` the indices group `gid` was created with, `held` all
entries of live allocations on this resource. -/
structure PoolInv (gs : List Group) (U : Nat → List Nat) (held : List AIdx) : Prop where
  univ : ∀ gid : Nat, (U gid).Nodup
  wf : ∀ (gid : Nat) (g : Group), gs[gid]? = some g → g.WF
  conserve : ∀ (gid i : Nat), freeAmt gs gid i + heldBy held gid i = FPU * (U gid).count i
  keys : ∀ e ∈ held, KeyOk gs e
  /-- every free fraction is below one unit (`validate()`: `assert!(*f < FRACTIONS_PER_UNIT)`) -/
  vals : ∀ (gid : Nat) (g : Group), gs[gid]? = some g → ∀ j, fracOf g.fracs j < FPU

theorem PoolInv.perm {gs U l₁ l₂} (h : PoolInv gs U l₁) (p : l₁.Perm l₂) : PoolInv gs U l₂ where
  univ := h.univ
  wf := h.wf
  conserve := fun gid i => by rw [← heldBy_perm p]; exact h.conserve gid i
  keys := fun e he => h.keys e (p.mem_iff.mpr he)
  vals := h.vals

theorem freeAmt_set_same (gs : List Group) (gid : Nat) (g' : Group) (i : Nat) (h : gid < gs.length) :
    freeAmt (gs.set gid g') gid i = g'.freeAmt i := by
  simp [freeAmt, h]

theorem freeAmt_set_other (gs : List Group) (gid gid' : Nat) (g' : Group) (i : Nat) (h : gid' ≠ gid) :
    freeAmt (gs.set gid g') gid' i = freeAmt gs gid' i := by
  unfold freeAmt
  rw [List.getElem?_set_ne (by omega)]

theorem freeAmt_of_get {gs : List Group} {gid : Nat} {g : Group} (h : gs[gid]? = some g) (i : Nat) :
    freeAmt gs gid i = g.freeAmt i := by
  simp [freeAmt, h]

theorem KeyOk.set {gs : List Group} {e : AIdx} {gid : Nat} {g g' : Group} (hk : KeyOk gs e)
    (hg : gs[gid]? = some g)
    (hkeys : e.group = gid → (fget g.fracs e.index).isSome → (fget g'.fracs e.index).isSome) :
    KeyOk (gs.set gid g') e := by
  refine ⟨by simpa using hk.1, fun hf => ?_⟩
  obtain ⟨g₀, hg₀, hs⟩ := hk.2 hf
  by_cases he : e.group = gid
  · refine ⟨g', ?_, ?_⟩
    · rw [he]; simp [lt_length_of_getElem? hg]
    · rw [he, hg] at hg₀
      cases hg₀
      exact hkeys he hs
  · exact ⟨g₀, by rw [List.getElem?_set_ne (by omega)]; exact hg₀, hs⟩

/-- Conservation bounds what is free of an index by one unit, and that is all `WF` says: the index is on the free
list at most once, and then nothing of it is in the fraction map. -/
theorem Group.wf_of_le {g : Group} (h : ∀ i, g.freeAmt i ≤ FPU) : g.WF := by
  refine ⟨List.nodup_iff_count.mpr fun i => ?_, fun j hj => ?_⟩
  · have := h i
    unfold Group.freeAmt FPU at this
    omega
  · have := h j
    have := List.count_pos_iff.mpr hj
    unfold Group.freeAmt FPU at *
    omega

theorem PoolInv.update {gs U H H' gid g g'} (h : PoolInv gs U H) (hg : gs[gid]? = some g)
    (hvals : ∀ j, fracOf g'.fracs j < FPU)
    (hheld : ∀ gid' i, gid' ≠ gid → heldBy H' gid' i = heldBy H gid' i)
    (hcons : ∀ i, g'.freeAmt i + heldBy H' gid i = g.freeAmt i + heldBy H gid i)
    (hkeys : ∀ e ∈ H', KeyOk (gs.set gid g') e) : PoolInv (gs.set gid g') U H' where
  univ := h.univ
  wf := forall_getElem?_set h.wf (Group.wf_of_le fun i => by
    have h1 := hcons i
    have h2 := h.conserve gid i
    rw [freeAmt_of_get hg] at h2
    have h3 := Nat.mul_le_mul_left FPU (List.nodup_iff_count.mp (h.univ gid) i)
    omega)
  conserve := fun gid' i => by
    by_cases hgid : gid' = gid
    · subst hgid
      rw [freeAmt_set_same _ _ _ _ (lt_length_of_getElem? hg), hcons, ← freeAmt_of_get hg]
      exact h.conserve gid' i
    · rw [freeAmt_set_other _ _ _ _ _ hgid, hheld _ _ hgid]
      exact h.conserve gid' i
  keys := hkeys
  vals := forall_getElem?_set h.vals hvals

theorem PoolInv.push {gs U H} {e : AIdx} {g g' : Group} (h : PoolInv gs U H) (hg : gs[e.group]? = some g)
    (hvals : ∀ j, fracOf g'.fracs j < FPU)
    (hcons : ∀ i, g'.freeAmt i + (if e.index = i then e.amt else 0) = g.freeAmt i)
    (hkeep : ∀ k, (fget g.fracs k).isSome → (fget g'.fracs k).isSome)
    (hkey : e.fractions ≠ 0 → (fget g'.fracs e.index).isSome) :
    PoolInv (gs.set e.group g') U (H ++ [e]) := by
  have hlt := lt_length_of_getElem? hg
  refine h.update hg hvals (fun gid' i hne => ?_) (fun i => ?_) (fun e' he' => ?_)
  · simp [heldBy_snoc, Ne.symm hne]
  · have := hcons i
    simp only [heldBy_snoc, true_and]
    omega
  · rcases List.mem_append.mp he' with he' | he'
    · exact (h.keys e' he').set hg (fun _ => hkeep _)
    · obtain rfl := List.mem_singleton.mp he'
      exact ⟨by simpa using hlt, fun hf => ⟨g', by simp [hlt], hkey hf⟩⟩

theorem PoolInv.pop {gs U H} {e : AIdx} {g g' : Group} (h : PoolInv gs U (e :: H)) (hg : gs[e.group]? = some g)
    (hvals : ∀ j, fracOf g'.fracs j < FPU)
    (hcons : ∀ i, g'.freeAmt i = g.freeAmt i + (if e.index = i then e.amt else 0))
    (hkeep : ∀ e' ∈ H, e'.group = e.group → (fget g.fracs e'.index).isSome → (fget g'.fracs e'.index).isSome) :
    PoolInv (gs.set e.group g') U H := by
  refine h.update hg hvals (fun gid' i hne => ?_) (fun i => ?_) (fun e' he' => ?_)
  · simp [heldBy_cons, Ne.symm hne]
  · have := hcons i
    simp only [heldBy_cons, true_and]
    omega
  · exact (h.keys e' (List.mem_cons_of_mem _ he')).set hg (hkeep e' he')

inductive Prim : List Group → List AIdx → List Group → List AIdx → Prop
  | whole {gs acc gid g i rest} : gs[gid]? = some g → g.free = i :: rest →
      Prim gs acc (gs.set gid { g with free := rest }) (acc ++ [⟨i, gid, 0⟩])
  | frac {gs acc gid g i f fr} : gs[gid]? = some g → fget g.fracs i = some f → fr ≤ f → 0 < fr →
      Prim gs acc (gs.set gid { g with fracs := fset g.fracs i (f - fr) }) (acc ++ [⟨i, gid, fr⟩])
  | split {gs acc gid g i rest fr} : gs[gid]? = some g → g.free = i :: rest → 0 < fr → fr < FPU →
      Prim gs acc (gs.set gid { free := rest, fracs := fset g.fracs i (FPU - fr) }) (acc ++ [⟨i, gid, fr⟩])

/-- compositions of primitive steps and reorderings of the output vector -/
inductive Claims : List Group → List AIdx → List Group → List AIdx → Prop
  | refl {gs acc} : Claims gs acc gs acc
  | step {gs acc gs₁ acc₁ gs₂ acc₂} : Prim gs acc gs₁ acc₁ → Claims gs₁ acc₁ gs₂ acc₂ → Claims gs acc gs₂ acc₂
  | perm {gs acc acc₁ gs₂ acc₂} : acc.Perm acc₁ → Claims gs acc₁ gs₂ acc₂ → Claims gs acc gs₂ acc₂

theorem Claims.trans {gs acc gs₁ acc₁ gs₂ acc₂} (h₁ : Claims gs acc gs₁ acc₁) (h₂ : Claims gs₁ acc₁ gs₂ acc₂) :
    Claims gs acc gs₂ acc₂ := by
  induction h₁ with
  | refl => exact h₂
  | step p _ ih => exact .step p (ih h₂)
  | perm p _ ih => exact .perm p (ih h₂)

theorem Claims.single {gs acc gs₁ acc₁} (p : Prim gs acc gs₁ acc₁) : Claims gs acc gs₁ acc₁ := .step p .refl

theorem Claims.permLast {gs acc gs₁ acc₁ acc₂} (h : Claims gs acc gs₁ acc₁) (p : acc₁.Perm acc₂) :
    Claims gs acc gs₁ acc₂ := h.trans (.perm p .refl)

theorem Claims.length_eq {gs acc gs₁ acc₁} (h : Claims gs acc gs₁ acc₁) : gs₁.length = gs.length := by
  induction h with
  | refl => rfl
  | step p _ ih => cases p <;> simpa using ih
  | perm _ _ ih => exact ih

theorem Prim.inv {gs acc gs' acc' U} {held : List AIdx} (p : Prim gs acc gs' acc')
    (h : PoolInv gs U (held ++ acc)) : PoolInv gs' U (held ++ acc') := by
  cases p with
  | @whole gid g i rest hg hfree =>
    rw [← List.append_assoc]
    refine h.push (e := ⟨i, gid, 0⟩) hg (h.vals gid g hg) (fun j => ?_) (fun _ hk => hk) (fun hf => absurd rfl hf)
    simp only [Group.freeAmt, hfree, List.count_cons, AIdx.amt, beq_iff_eq]
    split <;> simp [Nat.mul_add] <;> omega
  | @frac gid g i f fr hg hget hle hpos =>
    obtain rfl : fracOf g.fracs i = f := fracOf_of_fget hget
    have hv := h.vals gid g hg
    rw [← List.append_assoc]
    refine h.push (e := ⟨i, gid, fr⟩) hg (fun j => ?_) (fun j => ?_)
      (fun _ => fget_fset_isSome) (fun _ => by simp [fget_fset])
    · simp only [fracOf_fset]
      split
      · have := hv i; omega
      · exact hv j
    · simp only [Group.freeAmt, fracOf_fset, AIdx.amt, Nat.ne_of_gt hpos, if_false]
      split
      · subst i; simp; omega
      · rename_i hne; simp [Ne.symm hne]
  | @split gid g i rest fr hg hfree hpos hlt =>
    have hi0 : fracOf g.fracs i = 0 := (h.wf gid g hg).2 i (hfree ▸ List.mem_cons_self ..)
    have hv := h.vals gid g hg
    rw [← List.append_assoc]
    refine h.push (e := ⟨i, gid, fr⟩) hg (fun j => ?_) (fun j => ?_)
      (fun _ => fget_fset_isSome) (fun _ => by simp [fget_fset])
    · simp only [fracOf_fset]
      split
      · omega
      · exact hv j
    · simp only [Group.freeAmt, hfree, List.count_cons, fracOf_fset, AIdx.amt, Nat.ne_of_gt hpos, if_false,
        beq_iff_eq]
      split
      · subst i; simp [Nat.mul_add]; omega
      · rename_i hne; simp [Ne.symm hne]

theorem Claims.inv {gs acc gs' acc' U} {held : List AIdx} (c : Claims gs acc gs' acc')
    (h : PoolInv gs U (held ++ acc)) : PoolInv gs' U (held ++ acc') := by
  induction c with
  | refl => exact h
  | step p _ ih => exact ih (p.inv h)
  | perm p _ ih => exact ih (h.perm (List.Perm.append_left _ p))

end HqModel.Alloc
