import HqModel.Lemmas.SchedInv
import HqModel.Lemmas.SchedQueueOrder
/-!
From the per-level counts of the queues (`cnt`, prefix sums `N`) to the counts over the task list (`above`, `total`)
that `BatchesSpec` speaks about; the sorted list of all priorities.
-/
namespace HqModel.Sched

theorem mem_insertDesc {p q : Int} : ∀ {l : List Int}, q ∈ insertDesc p l ↔ q = p ∨ q ∈ l
  | [] => by rw [insertDesc, List.mem_singleton, or_iff_left List.not_mem_nil]
  | z :: zs => by
    rw [insertDesc]
    by_cases h : p = z
    · rw [if_pos h]
      exact ⟨Or.inr, fun hy => hy.elim (fun e => e ▸ h ▸ List.mem_cons_self) id⟩
    · rw [if_neg h]
      by_cases hlt : z < p
      · rw [if_pos hlt]
        exact List.mem_cons
      · rw [if_neg hlt, List.mem_cons, mem_insertDesc, List.mem_cons]
        exact or_left_comm

theorem insertDesc_sorted {p : Int} : ∀ {l : List Int}, l.Pairwise (fun a b => b < a) →
    (insertDesc p l).Pairwise fun a b => b < a
  | [], _ => by rw [insertDesc]; exact List.pairwise_singleton _ _
  | z :: zs, h => by
    have hz := List.pairwise_cons.mp h
    rw [insertDesc]
    by_cases hne : p = z
    · rw [if_pos hne]
      exact h
    · rw [if_neg hne]
      by_cases hlt : z < p
      · rw [if_pos hlt]
        exact List.pairwise_cons.mpr
          ⟨fun b hb => (List.mem_cons.mp hb).elim (fun e => e ▸ hlt) fun hb => Int.lt_trans (hz.1 b hb) hlt, h⟩
      · rw [if_neg hlt]
        refine List.pairwise_cons.mpr ⟨fun b hb => ?_, insertDesc_sorted hz.2⟩
        rcases mem_insertDesc.mp hb with rfl | hb
        · omega
        · exact hz.1 b hb

theorem foldr_insertDesc_sorted : ∀ (l : List Int), (l.foldr insertDesc []).Pairwise (fun a b => b < a)
  | [] => List.Pairwise.nil
  | _ :: rest => insertDesc_sorted (foldr_insertDesc_sorted rest)

theorem mem_foldr_insertDesc {q : Int} : ∀ {l : List Int}, q ∈ l.foldr insertDesc [] ↔ q ∈ l
  | [] => Iff.rfl
  | _ :: rest => by rw [List.foldr_cons, mem_insertDesc, mem_foldr_insertDesc, List.mem_cons]

theorem prios_sorted (inst : Instance) : inst.prios.Pairwise (fun a b => b < a) :=
  foldr_insertDesc_sorted _

theorem prios_nodup (inst : Instance) : inst.prios.Nodup :=
  (prios_sorted inst).imp fun h => (Int.ne_of_lt h).symm

theorem mem_prios {inst : Instance} {p : Int} : p ∈ inst.prios ↔ ∃ q ∈ inst.queues, ∃ e ∈ q, e.1 = p := by
  simp only [Instance.prios, mem_foldr_insertDesc, List.mem_flatMap, List.mem_map]

theorem cnt_flatten (c : Nat) (p : Int) : ∀ (q : Ready),
    ((flatten c q).filter fun t => decide (t.prio = p)).length = cnt q p
  | [] => rfl
  | e :: rest => by
    have ih := cnt_flatten c p rest
    simp only [flatten, List.flatMap_cons, List.filter_append, List.length_append, cnt] at ih ⊢
    rw [ih]
    congr 1
    by_cases h : e.1 = p <;> simp [h, List.filter_map, Function.comp_def]

theorem flatMap_ite_eq {α β} [DecidableEq α] (c : α) (X : List β) : ∀ (l : List α), l.Nodup →
    l.flatMap (fun a => if a = c then X else []) = if c ∈ l then X else []
  | [], _ => rfl
  | a :: l, h => by
    obtain ⟨ha, hl⟩ := List.nodup_cons.mp h
    rw [List.flatMap_cons, flatMap_ite_eq c X l hl]
    by_cases hac : a = c
    · subst hac
      rw [if_pos rfl, if_neg ha, if_pos List.mem_cons_self, List.append_nil]
    · rw [if_neg hac, List.nil_append]
      by_cases hm : c ∈ l
      · rw [if_pos hm, if_pos (List.mem_cons_of_mem _ hm)]
      · rw [if_neg hm, if_neg fun h => hm ((List.mem_cons.mp h).resolve_left (Ne.symm hac))]

theorem filter_tasks_cls (inst : Instance) (c : Nat) (Q : TaskInfo → Bool) :
    (inst.tasks.filter fun t => decide (t.cls = c) && Q t) = (flatten c (inst.queue c)).filter Q := by
  have hq : ∀ c', (flatten c' (inst.queue c')).filter (fun t => decide (t.cls = c) && Q t) =
      if c' = c then (flatten c (inst.queue c)).filter Q else [] := by
    intro c'
    split
    · next h =>
      subst h
      exact List.filter_congr fun t ht => by rw [cls_of_mem_flatten ht, decide_eq_true rfl, Bool.true_and]
    · next h =>
      exact List.filter_eq_nil_iff.mpr fun t ht => by
        rw [cls_of_mem_flatten ht, decide_eq_false h, Bool.false_and]
        nofun
  rw [Instance.tasks, List.filter_flatMap, funext hq, flatMap_ite_eq c _ _ List.nodup_range]
  split
  · rfl
  · next hc =>
    have : inst.queue c = [] := by
      rw [Instance.queue, List.getElem?_eq_none (Nat.le_of_not_lt (mt List.mem_range.mpr hc))]
    rw [this]
    rfl

theorem cnt_eq_filter (inst : Instance) (c : Nat) (p : Int) :
    cnt (inst.queue c) p = (inst.tasks.filter fun t => decide (t.cls = c) && decide (t.prio = p)).length := by
  rw [filter_tasks_cls inst c fun t => decide (t.prio = p), cnt_flatten]

theorem total_eq (inst : Instance) (c : Nat) : total inst c = (flatten c (inst.queue c)).length := by
  have := filter_tasks_cls inst c fun _ => true
  rw [List.filter_eq_self.mpr fun _ _ => rfl] at this
  simp only [Bool.and_true] at this
  rw [total, this]

theorem length_filter_or {α} {P Q : α → Bool} : ∀ {l : List α}, (∀ a ∈ l, P a = true → Q a = false) →
    (l.filter fun a => P a || Q a).length = (l.filter P).length + (l.filter Q).length
  | [], _ => rfl
  | a :: l, h => by
    have ih := length_filter_or fun x hx => h x (List.mem_cons_of_mem _ hx)
    have ha := h a List.mem_cons_self
    simp only [List.filter_cons]
    cases hP : P a
    · cases hQ : Q a <;> simp only [Bool.or_false, Bool.or_true, Bool.false_eq_true, ↓reduceIte, List.length_cons, ih]
      omega
    · simp only [ha hP, Bool.or_false, Bool.false_eq_true, ↓reduceIte, List.length_cons, ih]
      omega

theorem N_eq_filter (inst : Instance) (c : Nat) : ∀ (ps : List Int), ps.Nodup →
    N inst c ps = (inst.tasks.filter fun t => decide (t.cls = c) && decide (t.prio ∈ ps)).length
  | [], _ => (List.length_eq_zero_iff.mpr (List.filter_eq_nil_iff.mpr fun t _ => by simp)).symm
  | p :: rest, hnd => by
    obtain ⟨hp, hr⟩ := List.nodup_cons.mp hnd
    rw [show N inst c (p :: rest) = cnt (inst.queue c) p + N inst c rest from rfl, N_eq_filter inst c rest hr,
      cnt_eq_filter, ← length_filter_or]
    · congr 1
      exact List.filter_congr fun t _ => by simp only [List.mem_cons, Bool.decide_or, Bool.and_or_distrib_left]
    · intro t _ ht
      simp only [Bool.and_eq_true, decide_eq_true_eq] at ht
      rw [ht.2, decide_eq_false hp, Bool.and_false]

theorem task_prio_mem {inst : Instance} {t : TaskInfo} (ht : t ∈ inst.tasks) : t.prio ∈ inst.prios := by
  obtain ⟨c, hc, htc⟩ := mem_tasks.mp ht
  simp only [flatten, List.mem_flatMap, List.mem_map] at htc
  obtain ⟨e, he, _, _, rfl⟩ := htc
  exact mem_prios.mpr ⟨inst.queue c, queue_mem hc, e, he, rfl⟩

theorem N_total (inst : Instance) (c : Nat) : N inst c inst.prios = total inst c := by
  rw [N_eq_filter inst c _ (prios_nodup inst), total]
  congr 1
  exact List.filter_congr fun t ht => by rw [decide_eq_true (task_prio_mem ht), Bool.and_true]

theorem N_above {inst : Instance} (c : Nat) {pre post : List Int} {p : Int} (h : inst.prios = pre ++ p :: post) :
    N inst c pre = above inst c p := by
  have hs := prios_sorted inst
  rw [h, List.pairwise_append, List.pairwise_cons] at hs
  obtain ⟨hs1, ⟨hpost, _⟩, hs3⟩ := hs
  rw [N_eq_filter inst c pre (hs1.imp fun h => (Int.ne_of_lt h).symm), above]
  congr 1
  refine List.filter_congr fun t ht => congrArg _ (decide_eq_decide.mpr ⟨fun hin => hs3 _ hin p List.mem_cons_self, ?_⟩)
  -- a task above `p` has its priority in `prios`, and neither `p` nor what follows is above `p`
  intro hlt
  have hm := task_prio_mem ht
  rw [h] at hm
  rcases List.mem_append.mp hm with h1 | h1
  · exact h1
  · rcases List.mem_cons.mp h1 with h2 | h2
    · omega
    · have := hpost _ h2
      omega

theorem blockersAtN_eq {inst : Instance} (c : Nat) {pre post : List Int} {p : Int}
    (h : inst.prios = pre ++ p :: post) : blockersAtN inst c pre = blockersAt inst c p := by
  simp only [blockersAtN, blockersAt, fun c' => N_above c' h]

theorem exists_task_of_cnt {inst : Instance} {c : Nat} {p : Int} (h : cnt (inst.queue c) p > 0) :
    ∃ t ∈ inst.tasks, t.cls = c ∧ t.prio = p := by
  rw [cnt_eq_filter] at h
  obtain ⟨t, ht⟩ := List.exists_mem_of_length_pos h
  simp only [List.mem_filter, Bool.and_eq_true, decide_eq_true_eq] at ht
  exact ⟨t, ht⟩

theorem cnt_pos_of_task {inst : Instance} {t : TaskInfo} (ht : t ∈ inst.tasks) :
    cnt (inst.queue t.cls) t.prio > 0 := by
  rw [cnt_eq_filter]
  exact List.length_pos_of_mem (List.mem_filter.mpr ⟨ht, by simp⟩)

end HqModel.Sched
