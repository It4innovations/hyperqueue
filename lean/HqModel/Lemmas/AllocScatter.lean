import HqModel.Lemmas.AllocNoStop
/-!
The round-robin loop of `claim_scatter_from_groups` (scatter, and compact inside a chosen group set) terminates and
never indexes out of range, provided the groups of the round contain the amount (`ScatterOk`).
-/
namespace HqModel.Alloc

/-- the group indices the round robin visits, in order -/
def positions (set : Option (List Nat)) (n : Nat) : List Nat :=
  match set with
  | some s => s
  | none => List.range n

theorem setLen_eq (set : Option (List Nat)) (n : Nat) : setLen set n = (positions set n).length := by
  cases set <;> simp [setLen, positions]

theorem setGet_eq (set : Option (List Nat)) (n index : Nat) (h : index < (positions set n).length) :
    setGet set index = (positions set n)[index]? := by
  cases set with
  | some s => rfl
  | none =>
    simp only [positions, List.length_range] at h
    simp [setGet, positions, h]

theorem totalFreeP_pop {gs : List Group} {P : List Nat} (hnd : P.Nodup) {p : Nat} (hp : p ∈ P) {g : Group}
    {i : Nat} {rest : List Nat} (hg : gs[p]? = some g) (hfree : g.free = i :: rest) (fracs : FMap) :
    totalFreeP (gs.set p { free := rest, fracs := fracs }) P + 1 = totalFreeP gs P := by
  have := sum_map_update hnd hp (f := freeLen gs) (f' := freeLen (gs.set p { free := rest, fracs := fracs })) (by
    intro q hq
    unfold freeLen
    rw [List.getElem?_set_ne (fun h => hq h.symm)])
  unfold totalFreeP
  have h1 : freeLen gs p = rest.length + 1 := by simp [freeLen, hg, hfree]
  have h2 : freeLen (gs.set p { free := rest, fracs := fracs }) p = rest.length := by
    simp [freeLen, get_set_same _ hg]
  omega

theorem pos_of_totalFree {gs : List Group} {P : List Nat} (h : 0 < totalFreeP gs P) :
    ∃ p ∈ P, ∃ g, gs[p]? = some g ∧ g.free ≠ [] := by
  unfold totalFreeP at h
  induction P with
  | nil => simp at h
  | cons x xs ih =>
    simp only [List.map_cons, List.sum_cons] at h
    by_cases hx : 0 < freeLen gs x
    · unfold freeLen at hx
      cases hg : gs[x]? with
      | none => simp [hg] at hx
      | some g =>
        simp only [hg, Option.map_some, Option.getD_some] at hx
        exact ⟨x, by simp, g, hg, fun h => by rw [h] at hx; simp at hx⟩
    · obtain ⟨p, hp, r⟩ := ih (by omega)
      exact ⟨p, List.mem_cons_of_mem _ hp, r⟩

theorem cyclic_dist {n index j : Nat} (hi : index < n) (hj : j < n) : (index + (j + n - index) % n) % n = j := by
  rcases Nat.lt_or_ge j index with h | h
  · have h1 : (j + n - index) % n = j + n - index := Nat.mod_eq_of_lt (by omega)
    rw [h1]
    have h2 : index + (j + n - index) = j + n := by omega
    rw [h2, Nat.add_mod_right, Nat.mod_eq_of_lt hj]
  · have h1 : j + n - index = (j - index) + n := by omega
    have e1 : (j + n - index) % n = j - index := by
      rw [h1, Nat.add_mod_right]
      exact Nat.mod_eq_of_lt (by omega)
    have h2 : index + (j - index) = j := by omega
    rw [e1, h2, Nat.mod_eq_of_lt hj]

theorem idx_of_mem {P : List Nat} {p : Nat} (h : p ∈ P) : ∃ j, j < P.length ∧ P[j]? = some p := by
  obtain ⟨j, hj⟩ := List.getElem?_of_mem h
  exact ⟨j, lt_length_of_getElem? hj, hj⟩

/-- same number of groups, and every group keeps its fraction map: what taking whole indices does to a pool -/
def FracsKept (gs gs' : List Group) : Prop :=
  gs'.length = gs.length ∧ ∀ (p : Nat) (g : Group), gs[p]? = some g → ∃ g', gs'[p]? = some g' ∧ g'.fracs = g.fracs

theorem FracsKept.refl (gs : List Group) : FracsKept gs gs := ⟨rfl, fun _ g h => ⟨g, h, rfl⟩⟩

theorem FracsKept.trans {a b c : List Group} (h₁ : FracsKept a b) (h₂ : FracsKept b c) : FracsKept a c := by
  refine ⟨by rw [h₂.1, h₁.1], fun p g hg => ?_⟩
  obtain ⟨g', hg', hf'⟩ := h₁.2 p g hg
  obtain ⟨g'', hg'', hf''⟩ := h₂.2 p g' hg'
  exact ⟨g'', hg'', by rw [hf'', hf']⟩

section loop
variable (set : Option (List Nat)) (pick : Option Nat)

theorem scatter_done (f : Nat) (gs : List Group) (index : Nat) (acc : List AIdx) :
    scatterLoop set pick (f + 1) gs 0 0 index acc = .ok (gs, acc) := by
  simp [scatterLoop]

theorem mod_succ_add (index d n : Nat) : ((index + 1) % n + d) % n = (index + (d + 1)) % n := by
  rw [Nat.add_mod, Nat.mod_mod, ← Nat.add_mod]
  congr 1
  omega

/-- One iteration of the round robin at a position of the round: it takes a whole index (`htake`: the loop goes on
with one unit less), ends the loop with the fraction, passes on a rejected pick — or finds nothing to take in this
group and goes to the next position (`hskip`). -/
theorem scatter_iter {gs : List Group} {n f units fr index p : Nat} {g : Group} {acc : List AIdx} (hn : gs.length = n)
    (hidx : index < (positions set n).length) (hp : (positions set n)[index]? = some p) (hg : gs[p]? = some g)
    (hf : 0 < f)
    (htake : ∀ i rest, 0 < units → g.free = i :: rest →
      NoStop (scatterLoop set pick f (gs.set p { g with free := rest }) (units - 1) fr
        ((index + 1) % (positions set n).length) (acc ++ [⟨i, p, 0⟩])))
    (hskip : g.free = [] → (units = 0 → bestVal g.fracs fr = none) →
      NoStop (scatterLoop set pick f gs units fr ((index + 1) % (positions set n).length) acc)) :
    NoStop (scatterLoop set pick (f + 1) gs units fr index acc) := by
  subst hn
  obtain ⟨f, rfl⟩ : ∃ f', f = f' + 1 := ⟨f - 1, by omega⟩
  have hget : setGet set index = some p := (setGet_eq set gs.length index hidx).trans hp
  -- the group the iteration looks at is `g`
  have hsame : ∀ {gidx g'}, setGet set index = some gidx → gs[gidx]? = some g' → p = gidx ∧ g = g' := by
    intro gidx g' h1 h2
    obtain rfl : p = gidx := Option.some.inj (hget.symm.trans h1)
    exact ⟨rfl, Option.some.inj (hg.symm.trans h2)⟩
  rw [← setLen_eq] at htake hskip
  refine scatterLoop_iter (Q := NoStop) (fun _ _ => NoStop.ok _) (fun h => ?_) ?_ ?_
    (fun _ _ _ _ hb er herr => Except.error.inj herr ▸ bestMatch_nostop _ _ _ _ hb)
    (fun _ _ _ _ _ => scatter_done set pick f _ _ _ ▸ NoStop.ok _)
    (fun _ _ _ _ _ _ => scatter_done set pick f _ _ _ ▸ NoStop.ok _)
  · rw [h p hget] at hg
    cases hg
  · intro gidx g' i rest h1 h2 hu hfree
    obtain ⟨rfl, rfl⟩ := hsame h1 h2
    exact htake i rest hu hfree
  · intro gidx g' h1 h2 hfree hb
    obtain ⟨rfl, rfl⟩ := hsame h1 h2
    exact hskip hfree fun h0 => (hb h0).2

/-- Within `dist + 1` iterations — `dist` the cyclic distance to a group of the round that has what is wanted next —
the round robin takes a whole index (`htake`) or ends. -/
theorem scatter_walk {gs : List Group} {n units fr F : Nat} (hn : gs.length = n) (hF : 0 < F)
    (hP : ∀ p ∈ positions set n, p < n)
    (htake : ∀ p g i rest fuel index acc, 0 < units → p ∈ positions set n → gs[p]? = some g → g.free = i :: rest →
      F ≤ fuel → index < (positions set n).length →
      NoStop (scatterLoop set pick fuel (gs.set p { g with free := rest }) (units - 1) fr index acc)) :
    ∀ (dist fuel index : Nat) (acc : List AIdx), index < (positions set n).length → dist + 1 + F ≤ fuel →
      (∃ p g, (positions set n)[(index + dist) % (positions set n).length]? = some p ∧ gs[p]? = some g ∧
        (g.free ≠ [] ∨ (units = 0 ∧ bestVal g.fracs fr ≠ none))) →
      NoStop (scatterLoop set pick fuel gs units fr index acc) := by
  intro dist
  induction dist with
  | zero =>
    intro fuel index acc hidx hfuel ⟨p, g, hp, hg, hgood⟩
    simp only [Nat.add_zero, Nat.mod_eq_of_lt hidx] at hp
    obtain ⟨f, rfl⟩ : ∃ f, fuel = f + 1 := ⟨fuel - 1, by omega⟩
    refine scatter_iter set pick hn hidx hp hg (by omega) (fun i rest hu hfree =>
      htake p g i rest f _ _ hu (List.mem_of_getElem? hp) hg hfree (by omega) (Nat.mod_lt _ (by omega)))
      (fun hfree hb => ?_)
    rcases hgood with h | ⟨h0, h⟩
    · exact absurd hfree h
    · exact absurd (hb h0) h
  | succ d ih =>
    intro fuel index acc hidx hfuel hw
    obtain ⟨f, rfl⟩ : ∃ f, fuel = f + 1 := ⟨fuel - 1, by omega⟩
    have hnext : (index + 1) % (positions set n).length < (positions set n).length := Nat.mod_lt _ (by omega)
    obtain ⟨p, hp⟩ := exists_get hidx
    obtain ⟨g, hg⟩ := exists_get (hn ▸ hP p (List.mem_of_getElem? hp) : p < gs.length)
    refine scatter_iter set pick hn hidx hp hg (by omega) (fun i rest hu hfree =>
      htake p g i rest f _ _ hu (List.mem_of_getElem? hp) hg hfree (by omega) hnext)
      (fun _ _ => ih f _ acc hnext (by omega) ?_)
    rw [mod_succ_add]
    exact hw

end loop

theorem scatterLoop_nostop (set : Option (List Nat)) (pick : Option Nat) (n fr : Nat)
    (hP : ∀ p ∈ positions set n, p < n) (hnd : (positions set n).Nodup) :
    ∀ (units fuel : Nat) (gs : List Group) (index : Nat) (acc : List AIdx), gs.length = n →
      ScatterOk gs (positions set n) units fr →
      (index < (positions set n).length ∨ (units = 0 ∧ fr = 0)) →
      units * (positions set n).length + (positions set n).length + 2 ≤ fuel →
      NoStop (scatterLoop set pick fuel gs units fr index acc) := by
  -- a position of the round, at its cyclic distance from `index`
  have hdist : ∀ {index p : Nat}, index < (positions set n).length → p ∈ positions set n →
      ∃ d, d < (positions set n).length ∧
        (positions set n)[(index + d) % (positions set n).length]? = some p := by
    intro index p hidx hp
    obtain ⟨j, hj, hpj⟩ := idx_of_mem hp
    exact ⟨_, Nat.mod_lt _ (by omega), by rw [cyclic_dist hidx hj]; exact hpj⟩
  intro units
  induction units with
  | zero =>
    intro fuel gs index acc hlen hok hidx hfuel
    rcases Nat.eq_zero_or_pos fr with rfl | hfr
    · obtain ⟨f, rfl⟩ : ∃ f, fuel = f + 1 := ⟨fuel - 1, by omega⟩
      rw [scatter_done]
      exact NoStop.ok _
    · have hidx' : index < (positions set n).length := hidx.elim id (fun h => by omega)
      obtain ⟨p, hp, g, hg, hcond⟩ : ∃ p ∈ positions set n, ∃ g, gs[p]? = some g ∧
          (g.free ≠ [] ∨ (0 = 0 ∧ bestVal g.fracs fr ≠ none)) := by
        rcases hok.2 with h | h | ⟨p, hp, g, hg, hb⟩
        · omega
        · obtain ⟨p, hp, g, hg, hne⟩ := pos_of_totalFree h
          exact ⟨p, hp, g, hg, .inl hne⟩
        · exact ⟨p, hp, g, hg, .inr ⟨rfl, hb⟩⟩
      obtain ⟨d, hd, hpd⟩ := hdist hidx' hp
      exact scatter_walk set pick hlen (F := 1) (by omega) hP (fun _ _ _ _ _ _ _ h => absurd h (Nat.lt_irrefl 0))
        d fuel index acc hidx' (by omega) ⟨p, g, hpd, hg, hcond⟩
  | succ u ih =>
    intro fuel gs index acc hlen hok hidx hfuel
    have hidx' : index < (positions set n).length := hidx.elim id (fun h => by omega)
    obtain ⟨p, hp, g, hg, hne⟩ := pos_of_totalFree (by have := hok.1; omega : 0 < totalFreeP gs (positions set n))
    obtain ⟨d, hd, hpd⟩ := hdist hidx' hp
    have hmul : (u + 1) * (positions set n).length = u * (positions set n).length + (positions set n).length :=
      Nat.succ_mul _ _
    refine scatter_walk set pick hlen (F := u * (positions set n).length + (positions set n).length + 2) (by omega)
      hP ?_ d fuel index acc hidx' (by omega) ⟨p, g, hpd, hg, .inl hne⟩
    -- a whole index is taken from some group of the round: the rest is still contained
    intro q gq i rest fuel' index' acc' _ hq hgq hfree hfuel' hidx''
    have htot := totalFreeP_pop hnd hq hgq hfree gq.fracs
    refine ih fuel' _ index' acc' (by simp [hlen]) ⟨by have := hok.1; omega, ?_⟩ (.inl hidx'') hfuel'
    rcases hok.2 with h | h | ⟨r, hr, gr, hgr, hb⟩
    · exact .inl h
    · exact .inr (.inl (by omega))
    · refine .inr (.inr ⟨r, hr, ?_⟩)
      by_cases hrq : r = q
      · subst hrq
        obtain rfl : gq = gr := Option.some.inj (hgq.symm.trans hgr)
        exact ⟨_, get_set_same _ hgq, hb⟩
      · exact ⟨gr, by rw [List.getElem?_set_ne (fun h' => hrq h'.symm)]; exact hgr, hb⟩

theorem claimScatter_nostop {amount : Nat} {gs : List Group} {set : Option (List Nat)} {pick : Option Nat}
    (hP : ∀ p ∈ positions set gs.length, p < gs.length) (hnd : (positions set gs.length).Nodup)
    (hok : ScatterOk gs (positions set gs.length) (amount / FPU) (amount % FPU)) :
    NoStop (claimScatter amount gs set pick) := by
  unfold claimScatter
  generalize amount / FPU = u at hok ⊢
  generalize amount % FPU = fr at hok ⊢
  have hloop : NoStop (scatterLoop set pick (scatterFuel set gs.length u) gs u fr 0 []) := by
    apply scatterLoop_nostop set pick gs.length fr hP hnd _ _ gs 0 [] rfl hok
    · rcases Nat.eq_zero_or_pos (positions set gs.length).length with h0 | h0
      · exact .inr (ScatterOk.nil (List.length_eq_zero_iff.mp h0 ▸ hok))
      · exact .inl h0
    · unfold scatterFuel
      rw [setLen_eq]
      generalize (positions set gs.length).length = L
      have : (u + 2) * (L + 1) = u * L + u + 2 * L + 2 := by
        rw [Nat.add_mul, Nat.mul_add, Nat.mul_add]
        omega
      omega
  intro er herr
  split at herr
  · rename_i er' hl
    simp only [Except.error.injEq] at herr
    subst herr
    exact hloop _ hl
  · cases herr

theorem range_positions (n : Nat) : (∀ p ∈ positions none n, p < n) ∧ (positions none n).Nodup := by
  simp only [positions]
  exact ⟨fun p hp => List.mem_range.mp hp, List.nodup_range⟩

theorem claim_groups_scatter_nostop {U} {s : State} (hinv : Inv2 U s) {e : Entry} {full : Nat} {gs : List Group}
    {pick : Option Nat} (hp : s.pools[e.rid]? = some (.groups full gs)) (hpol : e.policy = .scatter)
    (hadm : entryHasResources s.pools s.concise e = true) : NoStop ((Pool.groups full gs).claim e pick) := by
  have hok : ScatterOk gs (positions none gs.length) (e.amount / FPU) (e.amount % FPU) := by
    have := admitted_has hinv hp (.inr rfl) hadm
    rwa [show e.amountOr (Pool.groups full gs).fullSize = e.amount by simp [Entry.amountOr, hpol]] at this
  obtain ⟨hP, hnd⟩ := range_positions gs.length
  have := claimScatter_nostop (amount := e.amount) (pick := pick) hP hnd hok
  intro er herr
  simp only [Pool.claim, hpol] at herr
  split at herr
  · rename_i er' hc
    simp only [Except.error.injEq] at herr
    subst herr
    exact this _ hc
  · cases herr

end HqModel.Alloc
