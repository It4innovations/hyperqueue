import HqModel.Lemmas.CoreInvStep
/-!
The full structural invariant (both directions of the worker ↔ task half of the sanity checks, `InvF`) and the
resource equation on top of it (`C05Full`): `step_kept` — every operation keeps `Inv`, `TWI` and `Res` together
(`step_acts` with `Act.kept` for the reactor, `schedule_kept` for a scheduling round); `step_invF` and `c05_step_full`
(side conditions `StepHyp4`, `OpOk4`) are its projections, `run_invF` and `c05_run_full` the same for runs.
-/
namespace HqModel.Core

/-- **the full structural invariant**: `Inv` (ids unique, list → state, redirects well-formed, consumers Waiting,
RunningMultiNode ⇒ multi-node request) ∧ state → list (`TW3` with nothing in repair) ∧ `MNU` -/
structure InvF (s : State) : Prop where
  inv : Inv s
  tw : TWI noD s

/-- **every operation keeps the bundle**: `Inv` and its state → list half under `OpOk2`, the resource equation if
moreover no booking saturates and the requests name every resource once -/
theorem step_kept {s s' : State} {op : Op} {out : Out} (hi : Inv s) (hok : OpOk2 s op) (h : step s op = .ok (s', out)) :
    Kept (NoSaturation s op ∧ RqsOk s.rqs) noD noD s s' := by
  by_cases hs : ∃ sol, op = .schedule sol
  · obtain ⟨sol, rfl⟩ := hs
    exact (schedule_kept hi hok.1.ok hok.2 h).1.imp fun q => q.2
  have hs' : ∀ sol, op ≠ .schedule sol := fun sol e => hs ⟨sol, e⟩
  have kI := (step_acts (hok.side hi hs') h).keptI (hi := hi)
  refine ⟨kI.inv, kI.tw, fun q htw hr => ?_⟩
  -- the same chain, told that the bookings do not saturate
  have hR : OpSide sideR [] s op := by
    cases op with
    | update w us rets =>
      refine UpdatesOk.mono ?_ _ _ _ (UpdatesOk.and us s rets hok q.1)
      intro s w u hu
      cases u <;> first | trivial | exact .inr hu.1 | exact fun _ _ => trivial | exact hu.2
    | schedule sol => exact (hs' sol rfl).elim
    | _ => exact hok.side hi hs'
  exact ((step_acts hR h).keptR (hi := hi)).res trivial htw hr

theorem step_invF {s s' : State} {op : Op} {out : Out} (hi : InvF s) (hok : OpOk2 s op)
    (h : step s op = .ok (s', out)) : InvF s' :=
  have k := step_kept hi.inv hok h
  ⟨k.inv, k.tw hi.tw⟩

theorem invF_init : InvF {} := by
  refine ⟨inv_init, ⟨⟨?_, ?_, ?_, ?_, ?_⟩, ?_⟩⟩
  · intro t w v _ h; rcases h with h | h <;> cases h
  · intro t w _ h; cases h
  · intro t l _ h; cases h
  · intro t w v _ h; cases h
  · intro t w v h; cases h
  · intro t l h; cases h

/-- **the full structural invariant holds in every state of every run** from the empty core whose operations
satisfy `OpOk2` -/
theorem run_invF {s : State} {ops : List Op} {out : Out} (hok : RunOk OpOk2 {} ops)
    (h : run {} ops = .ok (s, out)) : InvF s :=
  run_induction_ok (P := InvF) (C := OpOk2) (fun _ _ _ _ hp hc hs => step_invF hp hc hs) ops _ _ _ invF_init hok h

/-! ### the state → list half in the vocabulary of the model -/

/-- a task Assigned / Running on `w`: worker `w` is in the map, has a single-node assignment and the task is
in its `assigned_tasks` -/
theorem InvF.assigned_complete {s : State} (hi : InvF s) {t : TaskId} {task : Task} {w v : Nat}
    (ht : s.task? t = some task) (hs : task.state = .assigned w v ∨ task.state = .running w v) :
    ∃ wk A F P, s.worker? w = some wk ∧ wk.assign = .sn A F P ∧ t ∈ A := by
  have hst := stOf_of_find ht
  have hm := hi.tw.tw.t1 t w v (not_noD _) (by rcases hs with e | e <;> rw [hst, e] <;> simp)
  unfold asgW at hm
  cases hf : findWorker s.workers w with
  | none => rw [hf] at hm; cases hm
  | some wk =>
    rw [hf] at hm; simp only [wAsg] at hm
    cases ha : wk.assign with
    | mn a b c => rw [ha] at hm; cases hm
    | sn A F P => rw [ha] at hm; exact ⟨wk, A, F, P, hf, ha, hm⟩

/-- a task Prefilled on `w` is in `prefilled_tasks` of worker `w` -/
theorem InvF.prefilled_complete {s : State} (hi : InvF s) {t : TaskId} {task : Task} {w : Nat}
    (ht : s.task? t = some task) (hs : task.state = .prefilled w) :
    ∃ wk A F P, s.worker? w = some wk ∧ wk.assign = .sn A F P ∧ t ∈ P := by
  have hst := stOf_of_find ht
  have hm := hi.tw.tw.t2 t w (not_noD _) (by rw [hst, hs])
  unfold preW at hm
  cases hf : findWorker s.workers w with
  | none => rw [hf] at hm; cases hm
  | some wk =>
    rw [hf] at hm; simp only [wPre] at hm
    cases ha : wk.assign with
    | mn a b c => rw [ha] at hm; cases hm
    | sn A F P => rw [ha] at hm; exact ⟨wk, A, F, P, hf, ha, hm⟩

/-- every worker of a RunningMultiNode task is in the map and in a multi-node assignment for that task -/
theorem InvF.mn_complete {s : State} (hi : InvF s) {t : TaskId} {task : Task} {l : List Nat}
    (ht : s.task? t = some task) (hs : task.state = .runningMN l) {x : Nat} (hx : x ∈ l) :
    ∃ wk root st, s.worker? x = some wk ∧ wk.assign = .mn t root st := by
  have hst := stOf_of_find ht
  have hm := hi.tw.tw.t3 t l (not_noD _) (by rw [hst, hs]) x hx
  unfold mnW at hm
  cases hf : findWorker s.workers x with
  | none => rw [hf] at hm; cases hm
  | some wk =>
    rw [hf] at hm; simp only [wMn] at hm
    cases ha : wk.assign with
    | sn A F P => rw [ha] at hm; cases hm
    | mn a b c => rw [ha] at hm; simp only [Option.some.injEq] at hm; subst hm; exact ⟨wk, b, c, hf, ha⟩

/-- every redirect `(t, w, v)`: `t` is in `assigned_tasks` of `w` -/
theorem InvF.redirect_complete {s : State} (hi : InvF s) : RdIn s :=
  fun t w v hm => hi.tw.tw.d1 t w v (not_noD _) hm

/-! ### the resource equation on top of the full invariant -/

structure C05Full (s : State) : Prop where
  c05 : C05Inv s
  tw : TWI noD s

theorem C05Full.invF {s : State} (h : C05Full s) : InvF s := ⟨h.c05.ir.inv, h.tw⟩

/-- the side conditions other than non-saturation, WITHOUT the redirect-target clause (`RdIn` follows from
the invariant: `InvF.redirect_complete`) -/
def StepHyp4 (s : State) : Op → Prop
  | .newWorker w => FreshWorker w
  | .newRq rqv => RqvOk rqv
  | .update w us rets => UpdatesOk UpdProto s w us rets
  | .schedule sol => QueueOkD s ∧ SolMnOk s sol
  | _ => True

instance (s : State) (op : Op) : Decidable (StepHyp4 s op) := by
  cases op <;> simp only [StepHyp4] <;> infer_instance

/-- on a state with the full invariant, the redirect-target clause of `StepHyp` adds nothing to `StepHyp4` -/
theorem StepHyp.iff_hyp4 {s : State} {op : Op} (hi : InvF s) : StepHyp s op ↔ StepHyp4 s op := by
  cases op <;> simp only [StepHyp, StepHyp4]
  exact ⟨fun h => ⟨h.1, h.2.1⟩, fun h => ⟨h.1, h.2, hi.redirect_complete⟩⟩

/-- the side conditions of `c05_step_full` -/
def OpOk4 (s : State) (op : Op) : Prop := StepHyp4 s op ∧ NoSaturation s op

instance (s : State) (op : Op) : Decidable (OpOk4 s op) := by unfold OpOk4; infer_instance

theorem StepHyp4.ok2 {s : State} {op : Op} (h : StepHyp4 s op) : OpOk2 s op := by
  cases op <;> simp only [StepHyp4, OpOk2] at h ⊢ <;> exact h

theorem c05_step_full {s s' : State} {op : Op} {out : Out} (hi : C05Full s) (hstep : StepHyp4 s op)
    (hns : NoSaturation s op) (h : step s op = .ok (s', out)) : C05Full s' := by
  have k := step_kept hi.c05.ir.inv hstep.ok2 h
  refine ⟨⟨⟨k.inv, k.res ⟨hns, hi.c05.rqs⟩ hi.tw hi.c05.ir.res⟩, ?_⟩, k.tw hi.tw⟩
  -- only `newRq` adds a request
  rw [(step_desc h).rqs]
  intro x hx
  rcases List.mem_append.mp hx with h1 | h1
  · exact hi.c05.rqs x h1
  · cases op with
    | newRq rqv => cases List.mem_singleton.mp h1; exact hstep
    | _ => cases h1

theorem c05_full_init : C05Full {} :=
  ⟨⟨⟨inv_init, fun _ _ _ _ _ h => nomatch h⟩, fun _ hx => nomatch hx⟩, invF_init.tw⟩

theorem c05_run_full {s : State} {ops : List Op} {out : Out} (hok : RunOk OpOk4 {} ops)
    (h : run {} ops = .ok (s, out)) : C05Full s :=
  run_induction_ok (P := C05Full) (C := OpOk4) (fun _ _ _ _ hp hc hs => c05_step_full hp hc.1 hc.2 hs) ops _ _ _
    c05_full_init hok h

end HqModel.Core
