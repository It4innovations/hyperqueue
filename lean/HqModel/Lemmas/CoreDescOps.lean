import HqModel.Lemmas.CoreDescMoves
/-!
The descent of every operation of `Reactor.lean`, each against the rewrites it performs, read off the path lemma of
the operation (`CoreOps.lean`, `CoreOpsReactor.lean`) as a chain of primitive steps.
-/
namespace HqModel.Core

variable {RT : Task → Task → Prop} {RW : Worker → Worker → Prop} {er : Prop} {s s' : State}

theorem Desc.own {run : Prop} {o : TaskId → Prop} {er' : Prop} (h : Desc TCalm WCalm er s s') (he : er → er') :
    Desc (TOwn run o) WOwn er' s s' := h.sub .calm .calm he

theorem Desc.loss {w : Nat} {fail : Prop} {L : TaskId → Prop} {er' : Prop} (h : Desc TCalm WCalm er s s')
    (he : er → er') : Desc (TLoss w fail L) WCalm er' s s' := h.sub .calm id he

theorem addReady_desc {t : Task} {r : List TaskId} (h : s.addReady t = .ok (s', r)) : Desc RT RW er s s' := by
  obtain ⟨_, _, rfl⟩ := addReady_ok_iff.mp h
  exact .of_eq rfl rfl rfl (by simp only [NPC.length_modifyQueue, NPC.length_disposeAll])

theorem queueRemove_desc {rq : Nat} {id : TaskId} {p : Int} (h : s.queueRemove rq id p = .ok s') :
    Desc RT RW er s s' := by
  obtain ⟨_, rfl⟩ := queueRemove_ok_iff.mp h
  exact .of_eq rfl rfl rfl (NPC.length_modifyQueue _ _ _)

theorem removePrefilled_desc {rq : Nat} {id : TaskId} (h : s.removePrefilled rq id = .ok s') : Desc RT RW er s s' := by
  obtain ⟨_, _, _, _, _, _, rfl⟩ := removePrefilled_ok_iff.mp h
  exact .of_eq rfl rfl rfl (List.length_set ..)

theorem movePrefilledToReady_desc {rq : Nat} {id : TaskId} (h : s.movePrefilledToReady rq id = .ok s') :
    Desc RT RW er s s' := by
  obtain ⟨_, _, _, _, _, _, rfl⟩ := movePrefilledToReady_ok_iff.mp h
  exact .of_eq rfl rfl rfl (List.length_set ..)

theorem ask_desc (s : State) : Desc RT RW er s (ask s) := .of_eq rfl rfl rfl rfl

theorem removeSn_desc {w : Nat} {t : TaskId} {r : Rq} (h : s.withWorker w (·.removeSn t r) = .ok s') :
    Desc RT WCalm er s s' :=
  .withWorker (fun _ _ e => ⟨(removeSn_wcalm e).id, removeSn_wcalm e⟩) h

theorem removePrefill_desc {w : Nat} {t : TaskId} (h : s.withWorker w (·.removePrefill t) = .ok s') :
    Desc RT WCalm er s s' :=
  .withWorker (fun _ _ e => ⟨(removePrefill_wcalm e).id, removePrefill_wcalm e⟩) h

theorem tryRemoveRedirection_desc {t : TaskId} {rq : Nat} (h : s.tryRemoveRedirection t rq = .ok s') :
    Desc RT WCalm er s s' := by
  rcases tryRemoveRedirection_cases h with ⟨_, rfl⟩ | ⟨w, rv, r, _, _, h1⟩
  · exact .refl _
  · have f := removeSn_desc (RT := RT) (er := er) h1
    exact Desc.trans (b := { s with redirects := s.redirects.filter (·.1 ≠ t) }) (.of_eq rfl rfl rfl rfl) f

theorem resetMnAll_desc : ∀ (l : List Nat) {s s' : State}, resetMnAll s l = .ok s' → Desc RT WCalm er s s'
  | [], _, _, h => by cases h; exact .refl _
  | w :: rest, s, s', h => by
    obtain ⟨wk, hw, h1⟩ := resetMnAll_cons_ok h
    have hid := findWorker_some_id hw
    exact (Desc.setWorker (wk := wk) (by rw [← hid] at hw; exact hw) .reset).trans (resetMnAll_desc rest h1)

theorem Release.desc {id : TaskId} {task : Task} (h : Release s id task s') : Desc RT WCalm er s s' := by
  cases h with
  | keep => exact .refl _
  | sn _ _ h => exact removeSn_desc h
  | pre _ h1 h2 => exact (removePrefilled_desc h1).trans (removePrefill_desc h2)
  | retr _ h => exact tryRemoveRedirection_desc h
  | mn _ h => exact resetMnAll_desc _ h

theorem processRetracted_desc : ∀ (l : List TaskId) {s s' : State} {acc acc' : List (Nat × TaskId)},
    s.processRetracted l acc = .ok (s', acc') → Desc TCalm WCalm er s s'
  | [], _, _, _, _, h => by simp only [State.processRetracted] at h; cases h; exact .refl _
  | t :: rest, s, s', acc, acc', h => by
    obtain ⟨task, w, s1, ht, hs, hw, h1⟩ := processRetracted_cons_ok h
    have ht1 : s1.task? t = some task := by rw [State.task?, withWorker_tasks hw]; exact ht
    have f2 : Desc TCalm WCalm er s1 (s1.setTask { task with state := .retracting w }) := .put ht1 rfl (.retract hs)
    exact ((removePrefill_desc hw).trans f2).trans (processRetracted_desc rest h1)

theorem retract_desc {l : List TaskId} {o : Out} (h : s.retract l = .ok (s', o)) : Desc TCalm WCalm er s s' := by
  obtain ⟨_, h1, _⟩ := retract_ok_iff.mp h
  exact processRetracted_desc l h1

theorem removeConsumers_desc : ∀ (deps : List TaskId) {s : State} {c : TaskId} {ts : List Task},
    removeConsumers s.tasks c deps = .ok ts → Desc TCalm RW True s { s with tasks := ts }
  | [], _, _, _, h => by simp only [removeConsumers] at h; cases h; exact .refl _
  | d :: rest, s, c, ts, h => by
    obtain ⟨ts1, h1, h2⟩ := removeConsumers_cons_ok h
    have f1 : Desc TCalm RW True s { s with tasks := ts1 } := by
      rcases removeConsumer_cases h1 with ⟨_, rfl⟩ | ⟨dt, hd, hc, rfl⟩
      · exact .refl _
      · exact .put (s := s) hd rfl (.unconsume hc) (.inl trivial)
    exact f1.trans (removeConsumers_desc rest (s := { s with tasks := ts1 }) h2)

theorem removeTask_desc {id : TaskId} {st : TS} (h : s.removeTask id = .ok (s', st)) : Desc TCalm RW True s s' :=
  removeTask_ind h (.eraseTask id) (fun f hq => f.trans (queueRemove_desc hq)) fun f hc => f.trans (removeConsumers_desc _ hc)

theorem removeTasksBatched_desc : ∀ (l : List TaskId) {s s' : State},
    s.removeTasksBatched l = .ok s' → Desc TCalm RW True s s'
  | [], _, _, h => by cases h; exact .refl _
  | t :: rest, s, s', h => by
    obtain ⟨s1, st, h1, h2⟩ := removeTasksBatched_cons_ok h
    exact (removeTask_desc h1).trans (removeTasksBatched_desc rest h2)

theorem removeWaitingAll_desc {l : List TaskId} (h : s.removeWaitingAll l = .ok s') : Desc TCalm RW True s s' :=
  removeTasksBatched_desc l (removeWaitingAll_batched l h)

theorem cancelLoop_desc : ∀ (ids : List TaskId) {s : State} {u : List TaskId} {r : List (Nat × List TaskId)}
    {res : State × List TaskId × List (Nat × List TaskId)}, s.cancelLoop ids u r = .ok res → Desc RT WCalm er s res.1
  | [], _, _, _, _, h => by simp only [State.cancelLoop] at h; cases h; exact .refl _
  | id :: rest, s, u, r, res, h => by
    rcases cancelLoop_cons_ok h with ⟨_, h1⟩ | ⟨task, cons, s1, r1, _, _, ha, h1⟩
    · exact cancelLoop_desc rest h1
    · obtain ⟨s0, hr, e⟩ := ha.release
      have f : Desc RT WCalm er s s1 := by
        rcases e with rfl | rfl
        · exact hr.desc.trans (ask_desc _)
        · exact hr.desc
      exact f.trans (cancelLoop_desc rest h1)

theorem cancelTasks_desc {ids : List TaskId} {o : Out} (h : s.cancelTasks ids = .ok (s', o)) :
    Desc TCalm WCalm True s s' := by
  obtain ⟨s1, unreg, running, h1, h2, _⟩ := cancelTasks_path h
  exact (cancelLoop_desc ids h1).trans (removeTasksBatched_desc _ h2)

theorem taskFailed_desc {worker : Option Nat} {id : TaskId} {ret : List TaskId} {o : Out}
    (h : s.taskFailed worker id ret = .ok (s', o)) : Desc TCalm WCalm True s s' := by
  rcases taskFailed_path h with ⟨_, rfl, _⟩ | ⟨task, s1, cons, s2, s3, st, _, hp, _, h2, h3, ht⟩
  · exact .refl _
  · have f3 : Desc TCalm WCalm True s s3 :=
      (hp.desc.trans (removeWaitingAll_desc h2)).trans (removeTask_desc h3)
    rcases ht with ⟨_, rfl, _⟩ | ⟨o2, _, hc, _⟩
    · exact f3
    · exact f3.trans (cancelTasks_desc hc)

theorem Requeued.desc {t' told : Task} {r : List TaskId} {id : TaskId} (h : Requeued s t' s' r)
    (hf : s.task? id = some told) (hid : t'.id = told.id) (hr : RT told t')
    (hs : er ∨ t'.skel = told.skel := by exact .inr rfl) : Desc RT RW er s s' :=
  (Desc.put hf hid hr hs).trans (addReady_desc h)

theorem rejectTail_desc {run : Prop} {o : TaskId → Prop} {task : Task} {id : TaskId} {res : State × Out × Bool}
    (h : rejectTail s task = .ok res) (hf : s.task? id = some task) (ho : o task.id)
    (hs : SEnd task.state (.waiting 0)) : Desc (TOwn run o) WCalm er s res.1 := by
  obtain ⟨s2, r, s3, out, h1, h2, rfl⟩ := rejectTail_ok_iff.mp h
  exact (h1.desc hf rfl (.own ho rfl hs)).trans ((retract_desc h2).sub .calm (fun e => e) fun e => e)

theorem wakeConsumers_desc : ∀ (cs : List TaskId) {s s' : State} {r r' : List TaskId},
    s.wakeConsumers cs r = .ok (s', r') → Desc TCalm RW er s s'
  | [], _, _, _, _, h => by simp only [State.wakeConsumers] at h; cases h; exact .refl _
  | c :: rest, s, s', r, r', h => by
    obtain ⟨t, n, ht, hs, h1⟩ := wakeConsumers_cons_ok h
    rcases h1 with ⟨_, s2, r2, hq, h2⟩ | ⟨_, h2⟩
    · exact (hq.desc ht rfl (.wake hs)).trans (wakeConsumers_desc rest h2)
    · exact (Desc.put (t' := { t with state := .waiting n }) ht rfl (.wake hs)).trans (wakeConsumers_desc rest h2)

theorem taskFinished_desc {w : Nat} {id : TaskId} {o : Out} {b : Bool} (h : s.taskFinished w id = .ok (s', o, b)) :
    Desc (TOwn False (· = id)) WCalm True s s' := by
  rcases taskFinished_path h with ⟨_, rfl, _⟩ | ⟨task, s1, s3, retracted, s4, out, ht, hp, h3, h4, h5, _⟩
  · exact .refl _
  · have hid := findTask_some_id ht
    have ht1 : s1.task? id = some task := by rw [State.task?, hp.release.tasks]; exact ht
    have hfin : SEnd task.state .finished := by
      rcases hp.state with ⟨_, e⟩ | ⟨_, e⟩ | ⟨_, e⟩ | e <;> rw [e] <;> constructor
    have f1 : Desc (TOwn False (· = id)) WCalm True s s1 := hp.release.desc
    have f2 : Desc (TOwn False (· = id)) WCalm True s1 (s1.setTask { task with state := .finished }) :=
      .put ht1 rfl (.own hid rfl hfin)
    have f3 : Desc TCalm WCalm True _ s' :=
      ((wakeConsumers_desc _ h3).trans (retract_desc h4)).trans (removeTask_desc h5)
    exact (f1.trans f2).trans (f3.sub .calm (fun e => e) fun e => e)

theorem taskRunning_desc {w : Nat} {id : TaskId} {rv : Nat} {o : Out} (h : s.taskRunning w id rv = .ok (s', o)) :
    Desc (TOwn True (· = id)) WOwn False s s' := by
  rcases taskRunning_cases h with ⟨_, rfl, _⟩ | ⟨task, ws, ht, ha, _⟩
  · exact .refl _
  · have hid := findTask_some_id ht
    have run : ∀ {a}, task.state = a → SRun a (.running w rv) →
        Desc (TOwn True (· = id)) WOwn False s (s.setTask { task with state := .running w rv }) :=
      fun hs hr => .put ht rfl (.start trivial hid hs hr)
    cases ha with
    | assigned hs => exact run hs (.assigned w rv)
    | prefilled hs hr h1 h2 =>
      exact ((run hs (.prefilled w rv)).trans
        (.withWorker (fun _ _ e => ⟨(prefilledToStarted_wown e).id, prefilledToStarted_wown e⟩) h1)).trans
        (queueRemove_desc h2)
    | retracting hs h1 h2 hr h3 =>
      exact ((((run hs (.retracting w rv)).trans (ask_desc _)).trans (queueRemove_desc h1)).trans
        ((tryRemoveRedirection_desc (RT := TCalm) (er := False) h2).own fun e => e)).trans
        (.withWorker (fun _ _ e => ⟨(insertSn_wown e).id, insertSn_wown e⟩) h3)
    | @mn ws wk wk' hs hw hk =>
      have hwid := findWorker_some_id hw
      rcases hk with ⟨t, r, st, ha, rfl⟩ | ⟨_, rfl⟩
      · exact .setWorker (wk := _) (by rw [← hwid] at hw; exact hw) (.started ha)
      · exact .setWorker (wk := wk') (by rw [← hwid] at hw; exact hw) (.calm (.blocked wk'.blocked))

theorem taskReject_desc {w : Nat} {id : TaskId} {rv : Option Nat} {res : State × Out × Bool}
    (h : s.taskReject w id rv = .ok res) : Desc (TOwn False (· = id)) WCalm False s res.1 := by
  rcases taskReject_cases h with ⟨_, rfl⟩ | ⟨task, wk0, ht, hw, ha⟩
  · exact .refl _
  · have hid := findTask_some_id ht
    have hwid := findWorker_some_id hw
    have f0 : Desc (TOwn False (· = id)) WCalm False s (s.setWorker (wk0.blockRq task.rq rv)) := by
      refine .setWorker (wk := wk0) (by rw [Worker.blockRq_id, hwid]; exact hw) ?_
      cases rv with
      | none => exact .blocked wk0.blocked
      | some v => exact .blocked _
    have ht0 : (s.setWorker (wk0.blockRq task.rq rv)).task? id = some task := ht
    have tail : ∀ {s1 : State}, Desc (TOwn False (· = id)) WCalm False (s.setWorker (wk0.blockRq task.rq rv)) s1 →
        s1.tasks = s.tasks → SEnd task.state (.waiting 0) → rejectTail s1 task = .ok res →
        Desc (TOwn False (· = id)) WCalm False s res.1 := fun f1 e1 hs h1 =>
      (f0.trans f1).trans (rejectTail_desc h1 (by rw [State.task?, e1]; exact ht) hid hs)
    cases ha with
    | stale hs _ h1 => exact tail (.refl _) rfl (hs ▸ .backA _ _) h1
    | sn hs _ _ h1 h2 =>
      exact tail (removeSn_desc h1)
        (withWorker_tasks h1 :) (hs ▸ .backA _ _) h2
    | pre hs h1 h2 h3 =>
      exact tail ((removePrefill_desc h1).trans (removePrefilled_desc h2))
        (by
          obtain ⟨_, _, _, _, rfl⟩ := withWorker_spec h1
          obtain ⟨_, _, _, _, _, _, rfl⟩ := removePrefilled_ok_iff.mp h2
          rfl) (hs ▸ .backP _) h3
    | otherRetracting => exact f0
    | @redirected target trv hs hf =>
      have f1 : Desc (TOwn False (· = id)) WCalm False (s.setWorker (wk0.blockRq task.rq rv))
          { s.setWorker (wk0.blockRq task.rq rv) with
            redirects := (s.setWorker (wk0.blockRq task.rq rv)).redirects.filter (·.1 ≠ id) } :=
        .of_eq rfl rfl rfl rfl
      exact (f0.trans f1).trans
        (.put (t' := { task with state := .assigned target trv }) ht0 rfl (.own hid hs (.redirect _ _ _)))
    | retr hs _ h1 => exact tail (.refl _) rfl (hs ▸ .backT _) h1
    | mnIgnored => exact f0
    | mn hs _ h1 h2 =>
      have h1' := resetMnChecked_resetMnAll _ h1
      exact tail (resetMnAll_desc _ h1')
        (congrArg State.tasks (resetMnAll_eq _ h1') :) (hs ▸ .backM _) h2

theorem requestEnabled_desc {w rq rv : Nat} (h : s.requestEnabled w rq rv = .ok s') : Desc RT WCalm er s s' :=
  .withWorker (f := fun wk => .ok { wk with blocked := wk.blocked.erase (rq, rv) })
    (fun _ _ e => by cases e; exact ⟨rfl, .blocked _⟩) h

theorem retractLoop_desc {w : Nat} {o : TaskId → Prop} : ∀ (ids : List TaskId) {s : State}
    {acc : List (Nat × TaskId × Nat)} {res : State × List (Nat × TaskId × Nat)}, (∀ id ∈ ids, o id) →
    s.retractLoop w ids acc = .ok res → Desc (TOwn False o) RW False s res.1
  | [], _, _, _, _, h => by simp only [State.retractLoop] at h; cases h; exact .refl _
  | id :: rest, s, acc, res, ho, h => by
    have hrest : ∀ x ∈ rest, o x := fun x hx => ho x (List.mem_cons_of_mem _ hx)
    rcases retractLoop_cons_ok h with ⟨_, h1⟩ | ⟨task, ht, hs, h1⟩
    · exact retractLoop_desc rest hrest h1
    · have hid : o task.id := by rw [findTask_some_id ht]; exact ho id List.mem_cons_self
      rcases h1 with ⟨target, rv, _, h1⟩ | ⟨_, h1⟩
      · have f1 : Desc (TOwn False o) RW False s { s with redirects := s.redirects.filter (·.1 ≠ id) } :=
          .of_eq rfl rfl rfl rfl
        exact (f1.trans (.put (t' := { task with state := .assigned target rv }) ht rfl
          (.own hid hs (.redirect _ _ _)))).trans (retractLoop_desc rest hrest h1)
      · exact (Desc.put (t' := { task with state := .waiting 0 }) ht rfl (.own hid hs (.backT _))).trans
          (retractLoop_desc rest hrest h1)

theorem retractResponse_desc {w : Nat} {ids : List TaskId} {o : Out} (h : s.retractResponse w ids = .ok (s', o)) :
    Desc (TOwn False (· ∈ ids)) RW False s s' := by
  obtain ⟨items, _, h1, _⟩ := retractResponse_path h
  exact retractLoop_desc ids (fun _ hx => hx) h1

def Update.task? : Update → Option TaskId
  | .finished t | .failed t | .running t _ | .runningPrefilled t _ | .reject t _ => some t
  | .enable .. => none

theorem upd1_desc {w : Nat} {u : Update} {rets : List (List TaskId)} {res : State × Out × List (List TaskId)}
    (h : s.upd1 w u rets = .ok res) : Desc (TOwn True (fun id => u.task? = some id)) WOwn True s res.1 := by
  rcases upd1_cases h with ⟨t, b, rfl, h1, _⟩ | ⟨t, rfl, h1, _⟩ | ⟨t, rv, rfl | rfl, h1, _⟩ | ⟨t, rv, b, rfl, h1, _⟩ |
    ⟨rq, rv, rfl, h1, _⟩
  · exact (taskFinished_desc h1).sub (TOwn.mono False.elim fun _ e => congrArg some e.symm) .calm fun e => e
  · exact (taskFailed_desc h1).own fun e => e
  · exact (taskRunning_desc h1).sub (TOwn.mono (fun e => e) fun _ e => congrArg some e.symm) (fun e => e) False.elim
  · exact (taskRunning_desc h1).sub (TOwn.mono (fun e => e) fun _ e => congrArg some e.symm) (fun e => e) False.elim
  · exact (taskReject_desc h1).sub (TOwn.mono False.elim fun _ e => congrArg some e.symm) .calm False.elim
  · exact (requestEnabled_desc (RT := TCalm) (er := True) h1).own fun e => e

theorem updateLoop_desc {w : Nat} : ∀ (us : List Update) {s : State} {rets : List (List TaskId)} {out : Out}
    {need : Bool} {res : State × Out × Bool × List (List TaskId)}, s.updateLoop w us rets out need = .ok res →
    Desc (TOwn True (fun id => ∃ u ∈ us, u.task? = some id)) WOwn True s res.1
  | [], _, _, _, _, _, h => by simp only [State.updateLoop] at h; cases h; exact .refl _
  | u :: rest, s, rets, out, need, res, h => by
    obtain ⟨s1, o1, rets1, need1, h1, h2⟩ := updateLoop_cons_ok h
    exact ((upd1_desc h1).sub (TOwn.mono (fun e => e) fun _ e => ⟨u, List.mem_cons_self, e⟩) (fun e => e) fun e => e).trans
      ((updateLoop_desc rest h2).sub
        (TOwn.mono (fun e => e) fun _ ⟨x, hx, e⟩ => ⟨x, List.mem_cons_of_mem _ hx, e⟩) (fun e => e) fun e => e)

theorem taskUpdate_desc {w : Nat} {us : List Update} {rets : List (List TaskId)} {o : Out}
    (h : s.taskUpdate w us rets = .ok (s', o)) :
    Desc (TOwn True (fun id => ∃ u ∈ us, u.task? = some id)) WOwn True s s' := by
  obtain ⟨s1, need, rets', h1, rfl⟩ := taskUpdate_path h
  have f := updateLoop_desc us h1
  split
  · exact f.trans (ask_desc _)
  · exact f

theorem lostPrefilled_desc {w : Nat} {fail : Prop} {L : TaskId → Prop} : ∀ (ids : List TaskId) {s s' : State}, (∀ id ∈ ids, L id) →
    s.lostPrefilled ids = .ok s' → Desc (TLoss w fail L) RW False s s'
  | [], _, _, _, h => by simp only [State.lostPrefilled] at h; cases h; exact .refl _
  | id :: rest, s, s', hl, h => by
    obtain ⟨task, s2, ht, h1, h2⟩ := lostPrefilled_cons_ok h
    have hid : L task.id := by rw [findTask_some_id ht]; exact hl id List.mem_cons_self
    exact ((Desc.put (t' := { task with inst := task.inst + 1, state := .waiting 0 }) ht rfl (.back hid)).trans
      (movePrefilledToReady_desc h1)).trans (lostPrefilled_desc rest (fun x hx => hl x (List.mem_cons_of_mem _ hx)) h2)

theorem lostAssigned_desc {w : Nat} {fail : Prop} {L : TaskId → Prop} : ∀ (ids : List TaskId) {s : State} {ru re : List TaskId}
    {res : State × List TaskId × List TaskId}, (∀ id ∈ ids, L id) →
    s.lostAssigned ids ru re = .ok res → Desc (TLoss w fail L) RW False s res.1
  | [], _, _, _, _, _, h => by simp only [State.lostAssigned] at h; cases h; exact .refl _
  | id :: rest, s, ru, re, res, hl, h => by
    obtain ⟨task, s0, t', ru', s2, r, ht, hc, hq, h2⟩ := lostAssigned_cons_ok h
    have hid : L task.id := by rw [findTask_some_id ht]; exact hl id List.mem_cons_self
    have f1 : Desc (TLoss w fail L) RW False s s2 := by
      cases hc with
      | running => exact hq.desc ht rfl (.back hid)
      | retracting hs =>
        have f0 : Desc (TLoss w fail L) RW False s { s with redirects := s.redirects.filter (·.1 ≠ id) } :=
          .of_eq rfl rfl rfl rfl
        exact f0.trans (hq.desc ht rfl (TLoss.bump hid hs))
      | other => exact hq.desc ht rfl (.back hid)
    exact f1.trans (lostAssigned_desc rest (fun x hx => hl x (List.mem_cons_of_mem _ hx)) h2)

theorem lostRetracting_desc {w : Nat} {fail : Prop} {L : TaskId → Prop} : ∀ (l : List Task) {s : State} {out : Out}
    {res : State × Out}, s.lostRetracting w l out = .ok res → Desc (TLoss w fail L) RW False s res.1
  | [], _, _, _, h => by simp only [State.lostRetracting] at h; cases h; exact .refl _
  | t0 :: rest, s, out, res, h => by
    rcases lostRetracting_cons_ok h with ⟨_, h1⟩ | ⟨task0, ht, hs, h1⟩
    · exact lostRetracting_desc rest h1
    · rcases h1 with ⟨target, rv, _, h1⟩ | ⟨_, h1⟩
      · have f1 : Desc (TLoss w fail L) RW False s { s with redirects := s.redirects.filter (·.1 ≠ task0.id) } :=
          .of_eq rfl rfl rfl rfl
        exact (f1.trans (.put (t' := { task0 with inst := task0.inst + 1, state := .assigned target rv }) ht rfl
          (.redirect target rv hs))).trans (lostRetracting_desc rest h1)
      · exact (Desc.put (t' := { task0 with inst := task0.inst + 1, state := .waiting 0 }) ht rfl
          (.unretract hs)).trans (lostRetracting_desc rest h1)

theorem crashLoop_desc {w : Nat} {L : TaskId → Prop} {f : Bool} : ∀ (ids : List TaskId) {s : State}
    {rets : List (List TaskId)} {out : Out} {res : State × Out}, s.crashLoop f ids rets out = .ok res →
    Desc (TLoss w (f = true) L) WCalm True s res.1
  | [], _, _, _, _, h => by simp only [State.crashLoop] at h; cases h; exact .refl _
  | id :: rest, s, rets, out, res, h => by
    rcases crashLoop_cons_ok h with ⟨_, h1⟩ | ⟨task, ht, h1⟩
    · exact crashLoop_desc rest h1
    · have f1 : Desc (TLoss w (f = true) L) WCalm True s
          (s.setTask { task with crashes := (crashOutcome task.crashLimit f task.crashes).1 }) := by
        have hc : (crashOutcome task.crashLimit f task.crashes).1 = task.crashes ∨
            ((crashOutcome task.crashLimit f task.crashes).1 = task.crashes + 1 ∧ f = true) := by
          cases task.crashLimit <;> cases f <;> simp [crashOutcome]
        rcases hc with e | ⟨e, hf⟩
        · rw [e]; exact .putSame ht
        · rw [e]; exact .put ht rfl (.crash hf)
      rcases h1 with ⟨_, s2, o, hf, h2⟩ | ⟨_, h2⟩
      · exact (f1.trans ((taskFailed_desc hf).loss fun e => e)).trans (crashLoop_desc rest h2)
      · exact f1.trans (crashLoop_desc rest h2)

open NPL in
theorem lossPart1_desc {s0 s1 : State} {w : Nat} {fail : Prop} {a : Assign} {order running retracted : List TaskId}
    (h : lossPart1 s0 w a order = .ok (s1, running, retracted)) : Desc (TLoss w fail (· ∈ a.ids)) WCalm False s0 s1 := by
  rcases lossPart1_cases h with ⟨A, F, P, s01, rfl, hperm, hp, ha⟩ |
    ⟨tid, isRoot, started, task, root, others, rfl, ht, hs, hc⟩
  · have hsub : ∀ id ∈ order, id ∈ A := by
      simp only [Bool.and_eq_true, List.all_eq_true, List.contains_iff_mem] at hperm
      exact hperm.1.1
    exact (lostPrefilled_desc P (fun id hid => List.mem_append.mpr (.inl hid)) hp).trans
      (lostAssigned_desc order (fun id hid => List.mem_append.mpr (.inr (hsub id hid))) ha)
  · have hid : task.id = tid := findTask_some_id ht
    rcases hc with ⟨rfl, s01, hr, hq, _⟩ | ⟨hne, rfl, _⟩
    · have ht1 : s01.task? tid = some task := by rw [State.task?, congrArg State.tasks (resetMnAll_eq _ hr)]; exact ht
      exact ((resetMnAll_desc (RT := TCalm) (er := False) _ hr).loss fun e => e).trans
        (hq.desc ht1 rfl (TLoss.back (List.mem_singleton.mpr hid)))
    · exact .put ht rfl (.shrink hs hne)

open NPL in
theorem lossTail_desc {s1 : State} {L : TaskId → Prop} {running retracted : List TaskId} {w : Nat} {reason : String}
    {f : Bool} {rets : List (List TaskId)} {o : Out} (h : lossTail s1 running retracted w reason f rets = .ok (s', o)) :
    Desc (TLoss w (f = true) L) WCalm True s1 s' := by
  obtain ⟨s2, out1, s3, out2, s4, h1, h2, h3, rfl⟩ := lossTail_path h
  exact ((((lostRetracting_desc (L := L) _ h1).weaken).trans ((retract_desc h2).loss fun e => e)).trans
    (crashLoop_desc _ h3)).trans (ask_desc _)

theorem removeWorker_desc {w : Nat} {reason : String} {f : Bool} {order : List TaskId} {rets : List (List TaskId)}
    {o : Out} (h : s.removeWorker w reason f order rets = .ok (s', o)) :
    ∃ wk, s.worker? w = some wk ∧
      Desc (TLoss w (f = true) (· ∈ wk.assign.ids)) WCalm True { s with workers := s.workers.filter (·.id ≠ w) } s' := by
  obtain ⟨wk, s1, running, retracted, hw, h1, h2⟩ := removeWorker_path h
  exact ⟨wk, hw, (lossPart1_desc h1).weaken.trans (lossTail_desc h2)⟩

/-- in the membership form the removal of the worker record is a descent too -/
theorem removeWorker_gfr {w : Nat} {reason : String} {f : Bool} {order : List TaskId} {rets : List (List TaskId)}
    {o : Out} (h : s.removeWorker w reason f order rets = .ok (s', o)) :
    GFrS (TLoss w (f = true) fun _ => True) WCalm s s' := by
  obtain ⟨wk, _, hd⟩ := removeWorker_desc h
  exact (GFrS.dropWorker w).trans (hd.fr.sub (TLoss.mono id fun _ _ => trivial) fun e => e)

end HqModel.Core
