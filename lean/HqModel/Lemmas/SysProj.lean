import HqModel.Lemmas.SysPair
/-!
`step_cases`: a world action runs its client request in the job layer, then `coreStep` of the core operation `coreOpOf`
names, or leaves the core alone. From it the two single-layer runs a composed run projects to: its job layer is a run of
M4 over the client requests and the delivered callbacks, with the same events (`run_job_run`); its core is a run of M1
whose operations satisfy `Core.OpOk2` when the composed run satisfies `RunOk` (`run_core_run`) — so every theorem about
all runs of one layer holds of the composed system.
-/
namespace HqModel.Sys
open HqModel

theorem route_job_run {cbs : List Core.Cb} {js js' : Job.State} {rets left : List (List TaskId)} {evs : List Job.Ev}
    (h : route js rets cbs = .ok (js', evs, left)) : Job.run js (cbs.map cbOp) = .ok (js', evs) := by
  induction cbs generalizing js rets evs with
  | nil => simp only [route] at h; cases h; rfl
  | cons cb rest ih =>
    obtain ⟨js1, ev1, rets1, ev2, h1, h2, rfl⟩ := route_cons_ok h
    simp only [List.map_cons, Job.run, cbStep_job_step h1, ih h2]

theorem coreStep_job_run {s s' : State} {cop : Core.Op} {rets : List (List TaskId)} {evs0 : List Job.Ev} {resp : Resp}
    {o : Out} (h : coreStep s cop rets evs0 resp = .ok (s', o)) :
    ∃ evs, o.evs = evs0 ++ evs ∧ Job.run s.job (o.core.cbs.map cbOp) = .ok (s'.job, evs) := by
  obtain ⟨c', out, j', evs, _, hr, rfl, rfl⟩ := coreStep_ok_iff.mp h
  exact ⟨evs, rfl, route_job_run hr⟩

/-- the job-layer operations of one world action: the client request (if any), then the delivered callbacks -/
def jobOps (op : Op) (o : Out) : List Job.Op :=
  (match op with
   | .openJob mf => [.openJob mf]
   | .submit job mf desc _ => [.submit job mf desc]
   | .close j => [.close j]
   | .cancel j _ => [.cancel j]
   | .forget j allowed => [.forget j allowed]
   | _ => []) ++ o.core.cbs.map cbOp

theorem jobOps_eq (op : Op) (o : Out) : jobOps op o = jobOps op {} ++ o.core.cbs.map cbOp := by
  cases op <;> rfl

theorem jobRun_single {js js1 : Job.State} {jop : Job.Op} {evs : List Job.Ev} (h : Job.step js jop = .ok (js1, evs)) :
    Job.run js [jop] = .ok (js1, evs) := by
  simp only [Job.run, h, List.append_nil]

/-- the core operation `Sys.step s op` hands to `Core.step s.core` (mirrors `Sys.step`). `Sys.coreOp op` reads the operation
off the action alone; `coreOpOf` also follows the job layer's answer: `none` for a refused or empty submit, a cancel that
names no task, and for `badSubmit` / `badCancel` -/
def coreOpOf (s : State) : Op → Option Core.Op
  | .submit job mf desc nts =>
    match s.job.submit job mf desc with
    | .ok (_, _, .ok _, core) => if ntsOk desc core nts = true ∧ nts.isEmpty = false then some (.newTasks nts) else none
    | _ => none
  | .cancel j ids =>
    match s.job.cancelJob j with
    | .ok (_, _, .canceled ts _) =>
      if ts.isEmpty = false ∧ sameSet ids (ts.map fun t => (j, t)) = true then some (.cancel ids) else none
    | _ => none
  | .newWorker w => some (.newWorker w)
  | .removeWorker w reason f order rets => some (.removeWorker w reason f order rets)
  | .newRq rqv => some (.newRq rqv)
  | .update w us rets => some (.update w us rets)
  | .retracted w ids => some (.retracted w ids)
  | .schedule sol => some (.schedule sol)
  | _ => none

/-- first arm: the action reaches the core (new task ids only after an accepted submit); second arm: it stops outside the
core, or leaves the core as it is -/
theorem step_cases (s : State) (op : Op) :
    (∃ cop js rets evs0 resp, coreOpOf s op = some cop ∧ coreOp op = some cop ∧
        Job.run s.job (jobOps op {}) = .ok (js, evs0) ∧
        step s op = coreStep { s with job := js } cop rets evs0 resp ∧
        ((∀ nts, cop ≠ .newTasks nts) ∨ ∃ job mf desc j nts, cop = .newTasks nts ∧
          s.job.submit job mf desc = .ok (js, evs0, .ok j, nts.map (·.id)))) ∨
    (coreOpOf s op = none ∧
      ((∃ e, step s op = .error e ∧ ∀ site, e ≠ .core site) ∨
       ∃ js evs0 resp, Job.run s.job (jobOps op {}) = .ok (js, evs0) ∧
         step s op = .ok ({ s with job := js }, { evs := evs0, resp := resp }))) := by
  cases op with
  | openJob mf =>
    refine .inr ⟨rfl, ?_⟩
    simp only [step]
    cases hj : s.job.openJob mf with
    | error e => cases e; exact .inl ⟨_, rfl, fun _ h => Stop.noConfusion h⟩
    | ok r => exact .inr ⟨_, _, _, jobRun_single (by simp [Job.step, hj, Except.map]), rfl⟩
  | close j => exact .inr ⟨rfl, .inr ⟨_, _, _, jobRun_single (jop := .close j) rfl, rfl⟩⟩
  | forget j allowed =>
    refine .inr ⟨rfl, ?_⟩
    simp only [step]
    cases hj : s.job.forgetJob j allowed with
    | error e => cases e; exact .inl ⟨_, rfl, fun _ h => Stop.noConfusion h⟩
    | ok r => exact .inr ⟨_, [], _, jobRun_single (by simp [Job.step, hj, Except.map]), rfl⟩
  | submit job mf desc nts =>
    -- `coreOpOf` and `step` branch on the same answer of the job layer: both are named before unfolding, so that each
    -- case of that answer rewrites both and closes by `subst`
    generalize hc : coreOpOf s (.submit job mf desc nts) = c
    generalize hr : step s (.submit job mf desc nts) = r
    simp only [coreOpOf] at hc
    simp only [step] at hr
    cases hj : s.job.submit job mf desc with
    | error e =>
      rw [hj] at hc hr
      cases e; subst hc hr
      exact .inr ⟨rfl, .inl ⟨_, rfl, fun _ h => Stop.noConfusion h⟩⟩
    | ok x =>
      obtain ⟨js, evs, resp, core⟩ := x
      rw [hj] at hc hr
      have hrun : Job.run s.job (jobOps (.submit job mf desc nts) {}) = .ok (js, evs) :=
        jobRun_single (by simp [Job.step, hj, Except.map])
      cases resp with
      | ok j =>
        dsimp only at hc hr
        by_cases hn : ntsOk desc core nts = true
        · by_cases he : nts.isEmpty = true
          · rw [if_neg (by simp [he])] at hc
            rw [if_pos hn, if_pos he] at hr
            subst hc hr
            exact .inr ⟨rfl, .inr ⟨_, _, _, hrun, rfl⟩⟩
          · rw [if_pos ⟨hn, by simpa using he⟩] at hc
            rw [if_pos hn, if_neg he] at hr
            subst hc hr
            have hids : nts.map (·.id) = core := by
              simp only [ntsOk, Bool.and_eq_true, decide_eq_true_eq] at hn
              exact hn.1
            exact .inl ⟨_, js, [], evs, .submit (.ok j), rfl, rfl, hrun, rfl,
              .inr ⟨job, mf, desc, j, nts, rfl, by subst hids; exact hj⟩⟩
        · rw [if_neg (fun h => hn h.1)] at hc
          rw [if_neg hn] at hr
          subst hc hr
          exact .inr ⟨rfl, .inl ⟨_, rfl, fun _ h => Stop.noConfusion h⟩⟩
      | _ => subst hc hr; exact .inr ⟨rfl, .inr ⟨_, _, _, hrun, rfl⟩⟩
  | cancel j ids =>
    generalize hc : coreOpOf s (.cancel j ids) = c
    generalize hr : step s (.cancel j ids) = r
    simp only [coreOpOf] at hc
    simp only [step] at hr
    cases hj : s.job.cancelJob j with
    | error e =>
      rw [hj] at hc hr
      cases e; subst hc hr
      exact .inr ⟨rfl, .inl ⟨_, rfl, fun _ h => Stop.noConfusion h⟩⟩
    | ok x =>
      obtain ⟨js, evs, resp⟩ := x
      rw [hj] at hc hr
      have hrun : Job.run s.job (jobOps (.cancel j ids) {}) = .ok (js, evs) :=
        jobRun_single (by simp [Job.step, hj, Except.map])
      cases resp with
      | canceled ts n =>
        dsimp only at hc hr
        by_cases he : ts.isEmpty = true
        · rw [if_neg (by simp [he])] at hc
          rw [if_pos he] at hr
          subst hc hr
          exact .inr ⟨rfl, .inr ⟨_, _, _, hrun, rfl⟩⟩
        · by_cases hs : sameSet ids (ts.map fun t => (j, t)) = true
          · rw [if_pos ⟨by simpa using he, hs⟩] at hc
            rw [if_neg he, if_pos hs] at hr
            subst hc hr
            exact .inl ⟨_, js, [], evs, .cancel (.canceled ts n), rfl, rfl, hrun, rfl, .inl fun _ h => Core.Op.noConfusion h⟩
          · rw [if_neg (fun h => hs h.2)] at hc
            rw [if_neg he, if_neg hs] at hr
            subst hc hr
            exact .inr ⟨rfl, .inl ⟨_, rfl, fun _ h => Stop.noConfusion h⟩⟩
      | invalidJob => subst hc hr; exact .inr ⟨rfl, .inr ⟨_, _, _, hrun, rfl⟩⟩
  | newWorker w => exact .inl ⟨_, s.job, [], [], .none, rfl, rfl, rfl, rfl, .inl fun _ h => Core.Op.noConfusion h⟩
  | removeWorker w reason f order rets => exact .inl ⟨_, s.job, rets, [], .none, rfl, rfl, rfl, rfl, .inl fun _ h => Core.Op.noConfusion h⟩
  | newRq rqv => exact .inl ⟨_, s.job, [], [], .none, rfl, rfl, rfl, rfl, .inl fun _ h => Core.Op.noConfusion h⟩
  | update w us rets => exact .inl ⟨_, s.job, rets, [], .none, rfl, rfl, rfl, rfl, .inl fun _ h => Core.Op.noConfusion h⟩
  | retracted w ids => exact .inl ⟨_, s.job, [], [], .none, rfl, rfl, rfl, rfl, .inl fun _ h => Core.Op.noConfusion h⟩
  | schedule sol => exact .inl ⟨_, s.job, [], [], .none, rfl, rfl, rfl, rfl, .inl fun _ h => Core.Op.noConfusion h⟩

theorem step_ok_cases {s s' : State} {op : Op} {o : Out} (h : step s op = .ok (s', o)) :
    ∃ js1 evs0, Job.run s.job (jobOps op {}) = .ok (js1, evs0) ∧
      ((s' = { s with job := js1 } ∧ o.evs = evs0 ∧ o.core = {}) ∨
       ∃ cop rets resp, coreOp op = some cop ∧ coreStep { s with job := js1 } cop rets evs0 resp = .ok (s', o)) := by
  rcases step_cases s op with ⟨cop, js, rets, evs0, resp, _, hco, hr, hs, _⟩ | ⟨_, ⟨e, he, _⟩ | ⟨js, evs0, resp, hr, hs⟩⟩
  · exact ⟨js, evs0, hr, .inr ⟨cop, rets, resp, hco, hs ▸ h⟩⟩
  · rw [he] at h; cases h
  · rw [hs] at h; cases h; exact ⟨js, evs0, hr, .inl ⟨rfl, rfl, rfl⟩⟩

theorem step_job_run {s s' : State} {op : Op} {o : Out} (h : step s op = .ok (s', o)) :
    Job.run s.job (jobOps op o) = .ok (s'.job, o.evs) := by
  obtain ⟨js1, evs0, hr, hc⟩ := step_ok_cases h
  rw [jobOps_eq, Job.run_append_eq, hr]
  rcases hc with ⟨rfl, rfl, hcore⟩ | ⟨cop, rets, _, _, hcs⟩
  · rw [hcore]
    simp [Job.run]
  · obtain ⟨evs, e, hr2⟩ := coreStep_job_run hcs
    simp only [hr2, e]

theorem step_route {s s' : State} {op : Op} {o : Out} (h : step s op = .ok (s', o)) :
    ∃ js1 evs0 rets evs, Job.run s.job (jobOps op {}) = .ok (js1, evs0) ∧
      route js1 rets o.core.cbs = .ok (s'.job, evs, []) := by
  obtain ⟨js1, evs0, hr, hc⟩ := step_ok_cases h
  rcases hc with ⟨rfl, _, hcore⟩ | ⟨cop, rets, _, _, hcs⟩
  · exact ⟨js1, evs0, [], [], hr, by rw [hcore]; rfl⟩
  · obtain ⟨c', out, j', evs, _, hrt, rfl, rfl⟩ := coreStep_ok_iff.mp hcs
    exact ⟨js1, evs0, rets, evs, hr, hrt⟩

theorem step_cancel_job {s s' : State} {j : Nat} {ids : List TaskId} {o : Out} (h : step s (.cancel j ids) = .ok (s', o)) :
    ∃ evs resp, s.job.cancelJob j = .ok (s'.job, evs, resp) := by
  obtain ⟨js1, evs0, hr, hc⟩ := step_ok_cases h
  suffices s'.job = js1 by
    rw [this]
    cases hcj : Job.step s.job (.cancel j) with
    | error e => simp [jobOps, Job.run, hcj] at hr
    | ok r =>
      simp only [jobOps, Job.run, hcj, List.append_nil, List.map_nil, Except.ok.injEq] at hr
      cases hr
      obtain ⟨resp, hcj⟩ := Job.map_eq_ok hcj
      exact ⟨_, resp, hcj⟩
  rcases hc with ⟨rfl, _, _⟩ | ⟨cop, rets, _, hop, hcs⟩
  · rfl
  · cases hop
    obtain ⟨c', out, j', evs, hs, hrt, rfl, rfl⟩ := coreStep_ok_iff.mp hcs
    rw [(Core.cancelTasks_out hs).2] at hrt
    cases hrt
    rfl

def runJobOps : List Op → List Out → List Job.Op
  | op :: ops, o :: os => jobOps op o ++ runJobOps ops os
  | _, _ => []

theorem run_job_run : ∀ (ops : List Op) {s s' : State} {outs : List Out}, run s ops = .ok (s', outs) →
    Job.run s.job (runJobOps ops outs) = .ok (s'.job, (outs.map (·.evs)).flatten) := by
  intro ops
  induction ops with
  | nil => intro s s' outs h; simp only [run] at h; cases h; rfl
  | cons op rest ih =>
    intro s s' outs h
    obtain ⟨s1, o1, os, h1, h2, rfl⟩ := run_cons_ok h
    simp only [runJobOps, Job.run_append_eq, step_job_run h1, ih h2, List.map_cons, List.flatten_cons]

theorem step_core_step {s s' : State} {op : Op} {o : Out} (h : step s op = .ok (s', o)) :
    (s'.core = s.core ∧ o.core.cbs = [] ∧ o.core.msgs = []) ∨
    ∃ cop, coreOp op = some cop ∧ Core.step s.core cop = .ok (s'.core, o.core) := by
  obtain ⟨js1, evs0, _, hc⟩ := step_ok_cases h
  rcases hc with ⟨rfl, _, hcore⟩ | ⟨cop, rets, _, hop, hcs⟩
  · rw [hcore]; exact .inl ⟨rfl, rfl, rfl⟩
  · exact .inr ⟨cop, hop, coreStep_core (s := { s with job := js1 }) hcs⟩

theorem run_core_run : ∀ (ops : List Op) {s s' : State} {outs : List Out}, run s ops = .ok (s', outs) →
    ∃ cops out, Core.run s.core cops = .ok (s'.core, out) ∧ (RunOk s ops → Core.RunOk Core.OpOk2 s.core cops) := by
  intro ops
  induction ops with
  | nil => intro s s' outs h; simp only [run] at h; cases h; exact ⟨[], {}, rfl, fun _ => trivial⟩
  | cons op rest ih =>
    intro s s' outs h
    obtain ⟨s1, o1, os, h1, h2, rfl⟩ := run_cons_ok h
    obtain ⟨cops, out, hr, hok⟩ := ih h2
    rcases step_core_step h1 with ⟨e, _, _⟩ | ⟨cop, hc, hs⟩
    · refine ⟨cops, out, by rw [← e]; exact hr, ?_⟩
      intro hrun
      simp only [RunOk, h1] at hrun
      rw [← e]; exact hok hrun.2
    · refine ⟨cop :: cops, o1.core.add out, by simp only [Core.run, hs, hr], ?_⟩
      intro hrun
      simp only [RunOk, h1] at hrun
      simp only [Core.RunOk, hs]
      exact ⟨opOk2_of_opOk hrun.1 hc, hok hrun.2⟩

end HqModel.Sys
