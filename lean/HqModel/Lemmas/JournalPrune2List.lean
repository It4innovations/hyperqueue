import HqModel.Lemmas.JournalPrune2Eq
/-!
List-level form of the `prune2` simulation, one record at a time: `jobsStep` commutes with filtering the job table to
the live jobs (`jobsStep_filter`). So the job table of the restorer run on the pruned journal is literally the job table
of the restorer run on the journal, filtered to the live jobs, in the same order.
-/
namespace HqModel.Journal

theorem alFilter_batchStep (p : Nat → Bool) (f : List (Nat × RTask) → Nat → List (Nat × RTask))
    (jobs : List (Nat × RJob)) (id : Nat × Nat) :
    alFilter p (batchStep f jobs id) = if p id.1 then batchStep f (alFilter p jobs) id else alFilter p jobs := by
  unfold batchStep
  rw [alGet_filter]
  by_cases hp : p id.1 = true
  · simp only [hp, if_true]
    cases alGet jobs id.1 with
    | none => rfl
    | some rj => simp only [alFilter_set, hp, if_true]
  · have hp' : p id.1 = false := by simpa using hp
    simp only [hp', Bool.false_eq_true, if_false]
    cases alGet jobs id.1 with
    | none => rfl
    | some rj => simp only [alFilter_set, hp', Bool.false_eq_true, if_false]

theorem alFilter_batch (p : Nat → Bool) (f : List (Nat × RTask) → Nat → List (Nat × RTask)) :
    ∀ (ids : List (Nat × Nat)) (jobs : List (Nat × RJob)),
      alFilter p (ids.foldl (batchStep f) jobs) = (ids.filter fun i => p i.1).foldl (batchStep f) (alFilter p jobs) := by
  intro ids
  induction ids with
  | nil => intro jobs; rfl
  | cons id ids ih =>
    intro jobs
    simp only [List.foldl_cons, List.filter_cons, ih, alFilter_batchStep]
    by_cases hp : p id.1 = true
    · simp only [hp, if_true, List.foldl_cons]
    · have hp' : p id.1 = false := by simpa using hp
      simp only [hp', Bool.false_eq_true, if_false]

theorem rinvL_mono {live : Nat → Bool} {acc acc' : List Nat} (hsub : ∀ w, w ∈ acc → w ∈ acc')
    {jobs : List (Nat × RJob)} (h : RInvL live acc jobs) : RInvL live acc' jobs :=
  fun kv hkv hl => tasksIn_mono hsub (h kv hkv hl)

theorem jobsStep_filter (lj lw acc : List Nat) (jobs jobs1 : List (Nat × RJob)) (x : Record)
    (hinv : RInvL (fun j => lj.contains j) acc jobs) (hs : jobsStep jobs x = .ok jobs1) :
    (prune2Record lj lw acc x).elim (alFilter (fun j => lj.contains j) jobs1 = alFilter (fun j => lj.contains j) jobs)
      fun y => jobsStep (alFilter (fun j => lj.contains j) jobs) y = .ok (alFilter (fun j => lj.contains j) jobs1) := by
  rw [prune2Record_eq]
  cases hl : lostOf x with
  | some p =>
    obtain ⟨w, reason⟩ := p
    obtain rfl := lostOf_eq hl
    cases hs
    dsimp only
    cases hk : lw.contains w || acc.contains w
    · -- dropped: `w` is on no `Running` task of a live job
      have hw : ¬ w ∈ acc := fun hmem => by
        rw [List.contains_iff_mem.2 hmem, Bool.or_true] at hk
        cases hk
      show alFilter _ (if reason.isFailure then _ else _) = _
      cases reason.isFailure with
      | true =>
        exact alFilter_map_congr _ (·.increaseCrash w) _ fun kv hkv hl => increaseCrash_eq_self (hinv kv hkv hl) hw
      | false => rfl
    · show jobsStep _ _ = .ok (alFilter _ (if reason.isFailure then _ else _))
      rw [jobsStep_lost]
      cases reason.isFailure with
      | true => simp only [if_true, alFilter_map]
      | false => rfl
  | none =>
    rw [pruneRecord_eq]
    cases hb : batchOf x with
    | some p =>
      obtain ⟨mk, con, ids⟩ := p
      rw [jobsStep_batch hb] at hs
      cases hs
      dsimp only
      have hf := alFilter_batch (fun j => lj.contains j) (termTask mk) ids jobs
      cases hF : ids.filter (fun i => lj.contains i.1) with
      | nil => rw [hF] at hf; exact hf
      | cons a as =>
        rw [hF] at hf
        exact (jobsStep_batch ((batchOf_con hb).2.2 _).1 _).trans (congrArg Except.ok hf.symm)
    | none =>
      unfold keeps
      cases hj : jobOf x with
      | some j =>
        dsimp only
        obtain ⟨o1, e1, rfl⟩ := jobsStep_single_ok hj hs
        by_cases hlj : lj.contains j = true
        · simp only [hlj, if_true, Option.elim]
          rw [jobsStep_single hj, alGet_filter]
          simp only [hlj, if_true, e1, alFilter_put]
        · have hlj' : lj.contains j = false := by simpa using hlj
          simp only [hlj', Bool.false_eq_true, if_false, Option.elim, alFilter_put]
      | none =>
        cases (jobsStep_inert hj hb hl jobs).symm.trans hs
        cases workerOf x with
        | none => exact jobsStep_inert hj hb hl _
        | some w =>
          dsimp only
          by_cases hw : lw.contains w = true
          · rw [if_pos hw]; exact jobsStep_inert hj hb hl _
          · rw [if_neg hw]; rfl

end HqModel.Journal
