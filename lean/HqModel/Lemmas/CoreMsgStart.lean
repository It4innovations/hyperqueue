import HqModel.Lemmas.CoreMsgLoss
import HqModel.Lemmas.SysWSchedule
import HqModel.Lemmas.SysWUpdate
import HqModel.Lemmas.SysWRemoveWorker
import HqModel.Lemmas.SysWClientOps
import HqModel.Lemmas.SysWRetractResponse
/-!
Message-level facts: what an announced start (`started` callback) means for the task afterwards.

This is not a fact about task records alone ("a Running / RunningMultiNode / Finished task stays so unless its instance
id grows"): `task_reject` (the arm added by the fix of F32) takes a multi-node task that its root has NOT started back
to Waiting, with the same instance id. So the statement (`StK`, `run_stK`) reads the `started` flag of the root's worker
record, through the `hot` view of `SysW.view`.

A `hot` view stays `hot` under every operation unless the instance id grows (`step_hot`, `upd1_hot`): by the view lemmas
of the composition with the workers (`Lemmas/SysW*.lean`), which hold for the core model alone. A Reject of a task that
is `hot` they do not cover without the protocol: that is `taskReject_hot`. Hence the file stands after the server-action
files of `SysW*`, late for a `CoreMsg` file; only `Props/C06` reads it.
-/
namespace HqModel.Core
open HqModel HqModel.SysW

/-- `S` = the `started` callbacks made so far: the task of each, if it is still in the map, has a larger instance id
now, or the same one and the core has heard that it started — some worker's view of it is `hot` (Running on that
worker, or RunningMultiNode with that worker as root and the `started` flag set) -/
def StK (s : State) (S : List (TaskId × Nat)) : Prop :=
  ∀ q ∈ S, ∀ t ∈ s.tasks, t.id = q.1 → q.2 < t.inst ∨ (q.2 = t.inst ∧ ∃ w, view s w t.id = .hot)

theorem StK.nil (s : State) : StK s [] := fun _ h => by cases h

/-- a task of the map with a `hot` view is Running on that worker, or RunningMultiNode with that worker as root -/
theorem hot_state {s : State} {w : Nat} {t : Task} (hn : (taskIds s.tasks).Nodup) (ht : t ∈ s.tasks)
    (hv : view s w t.id = .hot) :
    (∃ v, t.state = .running w v) ∨ ∃ others, t.state = .runningMN (w :: others) ∧ mnStarted s w t.id = true := by
  have hs : stOf s.tasks t.id = some t.state := stOf_of_find (mem_find_of_nodup hn ht)
  rw [view_some hs] at hv
  have ho := owner_of_viewSt_ne_quiet (c := s) (w := w) (t := t.id) (st := t.state) (by rw [hv]; simp)
  cases hst : t.state with
  | waiting n => rw [hst] at ho; cases ho
  | finished => rw [hst] at ho; cases ho
  | assigned x v => rw [hst] at ho hv; cases ho; simp [viewSt] at hv
  | prefilled x => rw [hst] at ho hv; cases ho; simp [viewSt] at hv
  | retracting x => rw [hst] at ho hv; cases ho; simp [viewSt] at hv
  | running x v => rw [hst] at ho; cases ho; exact .inl ⟨v, rfl⟩
  | runningMN l =>
    rw [hst] at ho hv
    cases l with
    | nil => cases ho
    | cons y ys =>
      cases ho
      simp only [viewSt, if_true] at hv
      refine .inr ⟨ys, rfl, ?_⟩
      cases hms : mnStarted s w t.id with
      | true => rfl
      | false => rw [hms] at hv; simp at hv

theorem locked_of_hot {s : State} {w : Nat} {t : Task} (hn : (taskIds s.tasks).Nodup) (ht : t ∈ s.tasks)
    (hv : view s w t.id = .hot) : locked t.state := by
  rcases hot_state hn ht hv with ⟨v, e⟩ | ⟨l, e, _⟩ <;> rw [e] <;> simp

/-- **`task_reject` keeps every `hot` view** (whoever sends it): for a task that is RunningMultiNode with the `started`
flag the message is ignored — from the root because of the flag, from anybody else because he is not the root; for a
Running task `task_reject` has no successor state (`unreachable!()`) -/
theorem taskReject_hot {s s' : State} {w : Nat} {id : TaskId} {rv : Option Nat} {o : Out} {b : Bool}
    (hn : (taskIds s.tasks).Nodup) (h : s.taskReject w id rv = .ok (s', o, b)) (x : Nat)
    (hv : view s x id = .hot) : view s' x id = .hot := by
  rcases taskReject_cases h with ⟨_, e⟩ | ⟨task, wk0, ht, hw, ha⟩
  · cases e; exact hv
  · have hot := hot_state hn (findTask_some_mem ht) (by rw [findTask_some_id (t := task) ht]; exact hv)
    -- only a multi-node task can be hot and rejected: then the state with the request blocked at `w` is the result
    have keep : ∀ {root ws}, task.state = .runningMN (root :: ws) →
        view (s.setWorker (wk0.blockRq task.rq rv)) x id = .hot := by
      intro root ws hs
      rw [view_some (stOf_of_find ht), hs] at hv
      rw [view_some (c := s.setWorker _) (stOf_of_find ht), hs]
      simp only [viewSt] at hv ⊢
      rwa [mnStarted_setWorker_same hw (wk0.blockRq_id _ _) (wk0.blockRq_assign _ _)]
    have no : ∀ {st : TS}, task.state = st → (∀ v, st ≠ .running x v) → (∀ l, st ≠ .runningMN l) → False := by
      intro st hs h1 h2
      rcases hot with ⟨v, e⟩ | ⟨l, e, _⟩
      · exact h1 v (hs.symm.trans e)
      · exact h2 _ (hs.symm.trans e)
    cases ha with
    | stale hs => exact (no hs (fun _ e => nomatch e) (fun _ e => nomatch e)).elim
    | sn hs => exact (no hs (fun _ e => nomatch e) (fun _ e => nomatch e)).elim
    | pre hs => exact (no hs (fun _ e => nomatch e) (fun _ e => nomatch e)).elim
    | otherRetracting hs => exact (no hs (fun _ e => nomatch e) (fun _ e => nomatch e)).elim
    | redirected hs => exact (no hs (fun _ e => nomatch e) (fun _ e => nomatch e)).elim
    | retr hs => exact (no hs (fun _ e => nomatch e) (fun _ e => nomatch e)).elim
    | mnIgnored hs => exact keep hs
    | mn hs ha' =>
      -- the root has not started the task: its view is not `hot`
      rcases hot with ⟨v, e⟩ | ⟨l, e, hms⟩
      · rw [hs] at e; cases e
      · rw [hs] at e; cases e
        obtain ⟨wk, r, h1, h2⟩ := mnStarted_iff.mp hms
        cases hw.symm.trans h1
        rw [Worker.blockRq_assign, h2] at ha'
        cases ha'

theorem upd1_hot {c c1 : State} {w : Nat} {u : Update} {rets rets1 : List (List TaskId)} {o1 : Out}
    (hn : (taskIds c.tasks).Nodup) (hm : MnOk c) (hm1 : MnOk c1)
    (h : c.upd1 w u rets = .ok (c1, o1, rets1)) (x : Nat) (t : TaskId) (hv : view c x t = .hot) :
    view c1 x t = .hot := by
  have run : ∀ {t0 rv}, c.taskRunning w t0 rv = .ok (c1, o1) → view c1 x t = .hot := by
    intro t0 rv h1
    by_cases ht : t = t0
    · subst ht
      rcases taskRunning_own hm h1 with ⟨_, rfl⟩ | ⟨st, h0, ho, h2⟩
      · exact hv
      · rw [view_some h0] at hv
        have hx : owner st = some x := owner_of_viewSt_ne_quiet (c := c) (w := x) (t := t) (by rw [hv]; simp)
        rw [ho] at hx
        cases hx
        rcases h2 with h2 | ⟨l, h2, h3⟩
        · rw [view_some h2]; simp [viewSt]
        · rw [view_some h2]; simp [viewSt, h3]
    · exact ((taskRunning_frw h1).foreign hn hm1 x t ht ht).1 hv
  rcases upd1_cases h with ⟨t0, b, _, h1, _⟩ | ⟨t0, _, h1, _⟩ | ⟨t0, rv, _, h1, _⟩ | ⟨t0, rv, b, _, h1, _⟩ | ⟨rq, rv, _, h1, _, _⟩
  · by_cases ht : t = t0
    · subst ht; exact view_none (taskFinished_gone hn h1)
    · exact ((taskFinished_frw h1).foreign hn hm1 x t ht ht).1 hv
  · exact ((taskFailed_frq h1).foreign hn hm1 x t (fun e => e) (fun e => e)).1 hv
  · exact run h1
  · by_cases ht : t = t0
    · subst ht; exact taskReject_hot hn h1 x hv
    · exact ((taskReject_frw h1).foreign hn hm1 x t ht ht).1 hv
  · exact ((requestEnabled_frq h1).foreign hn hm1 x t (fun e => e) (fun e => e)).1 hv

/-- the `started` callbacks of one update: none, or one for the task a `Running*` update reports, with its current
instance id, and afterwards the reporter's view of that task is `hot` -/
theorem upd1_starts {c c1 : State} {w : Nat} {u : Update} {rets rets1 : List (List TaskId)} {o1 : Out}
    (hm : MnOk c) (h : c.upd1 w u rets = .ok (c1, o1, rets1)) :
    starts o1.cbs = [] ∨
    ∃ t0 task, c.task? t0 = some task ∧ starts o1.cbs = [(t0, task.inst)] ∧ view c1 w t0 = .hot := by
  rcases upd1_cases h with ⟨t0, b, _, h1, _⟩ | ⟨t0, _, h1, _⟩ | ⟨t0, rv, _, h1, _⟩ | ⟨t0, rv, b, _, h1, _⟩ | ⟨rq, rv, _, h1, rfl, _⟩
  · exact .inl (taskFinished_evo (nw := True) (cr := True) h1).2.2
  · exact .inl (taskFailed_evo (nw := True) (cr := True) h1).2.2
  · rcases taskRunning_starts h1 with e | ⟨task, ht, e⟩
    · exact .inl e
    · refine .inr ⟨t0, task, ht, e, ?_⟩
      rcases taskRunning_own hm h1 with ⟨h0, _⟩ | ⟨st, _, _, h2 | ⟨l, h2, h3⟩⟩
      · rw [stOf_of_find ht] at h0; cases h0
      · rw [view_some h2]; simp [viewSt]
      · rw [view_some h2]; simp [viewSt, h3]
  · exact .inl (by rw [taskReject_cbs h1]; rfl)
  · exact .inl rfl

/-- `StK` through an operation part that keeps `hot` views (or bumps the instance id) and makes no `started` callback -/
theorem StK.keep {s s' : State} {S : List (TaskId × Nat)} (hk : StK s S)
    (hd : ∀ t' ∈ s'.tasks, (∃ q ∈ S, t'.id = q.1) → ∃ t ∈ s.tasks, t'.id = t.id ∧ t.inst ≤ t'.inst ∧
      ∀ x, view s x t.id = .hot → view s' x t.id = .hot ∨ t.inst < t'.inst) : StK s' S := by
  intro q hq t' ht' hid
  obtain ⟨t, ht, e, hle, hot⟩ := hd t' ht' ⟨q, hq, hid⟩
  rcases hk q hq t ht (e ▸ hid) with a | ⟨a, x, hx⟩
  · exact .inl (Nat.lt_of_lt_of_le a hle)
  · rcases hot x hx with h1 | h1
    · rcases Nat.lt_or_ge t.inst t'.inst with h2 | h2
      · exact .inl (a ▸ h2)
      · exact .inr ⟨by omega, x, by rw [e]; exact h1⟩
    · exact .inl (a ▸ h1)

theorem StK.append {s : State} {S1 S2 : List (TaskId × Nat)} (h1 : StK s S1) (h2 : StK s S2) : StK s (S1 ++ S2) := by
  intro q hq
  rcases List.mem_append.mp hq with h | h
  · exact h1 q h
  · exact h2 q h

theorem upd1_stK {c c1 : State} {w : Nat} {u : Update} {rets rets1 : List (List TaskId)} {o1 : Out}
    {S : List (TaskId × Nat)} (hi : InvF c) (hi1 : InvF c1) (hk : StK c S)
    (h : c.upd1 w u rets = .ok (c1, o1, rets1)) : StK c1 (S ++ starts o1.cbs) := by
  have hn := hi.inv.nd
  have hm := MnOk.of_invF hi
  have hm1 := MnOk.of_invF hi1
  have evo := (upd1_fx (nw := True) (cr := True) hn h).evo
  refine StK.append (hk.keep ?_) ?_
  · intro t' ht' _
    obtain ⟨t, ht, r⟩ := evo t' ht'
    exact ⟨t, ht, r.id, r.inst, fun x hx => .inl (upd1_hot hn hm hm1 h x t.id hx)⟩
  · rcases upd1_starts hm h with e | ⟨t0, task, ht0, e, hot⟩
    · rw [e]; exact StK.nil _
    · rw [e]
      intro q hq t' ht' hid
      simp only [List.mem_singleton] at hq
      subst hq
      obtain ⟨t, ht, r⟩ := evo t' ht'
      cases eq_of_mem_of_find hn ht (r.id.symm.trans hid) ht0
      rcases Nat.lt_or_ge task.inst t'.inst with h2 | h2
      · exact .inl h2
      · exact .inr ⟨by have := r.inst; show task.inst = t'.inst; omega, w, by rw [hid]; exact hot⟩

theorem updateLoop_stK (w : Nat) (us : List Update) :
    ∀ (c c' : State) (rets rets' : List (List TaskId)) (out out' : Out) (need need' : Bool) (S : List (TaskId × Nat)),
      InvF c → UpdatesOk UpdProto c w us rets → StK c S →
      c.updateLoop w us rets out need = .ok (c', out', need', rets') →
      ∃ cbs, out'.cbs = out.cbs ++ cbs ∧ StK c' (S ++ starts cbs) := by
  induction us with
  | nil =>
    intro c c' rets rets' out out' need need' S _ _ hk h
    cases h
    exact ⟨[], by simp, by simpa using hk⟩
  | cons u rest ih =>
    intro c c' rets rets' out out' need need' S hi hok hk h
    obtain ⟨c1, o1, rets1, need1, h1, h2⟩ := updateLoop_cons_ok h
    have hus := upd1_updateState h1
    simp only [UpdatesOk, hus] at hok
    have hi1 : InvF c1 := ⟨updateState_inv hi.inv hok.1 hus, updateState_tw hi.tw hi.inv hok.1 hus⟩
    obtain ⟨cbs2, e2, k2⟩ := ih c1 c' rets1 rets' _ out' need1 need' _ hi1 hok.2 (upd1_stK hi hi1 hk h1) h2
    refine ⟨o1.cbs ++ cbs2, by rw [e2, add_cbs, List.append_assoc], ?_⟩
    rw [starts_append, ← List.append_assoc]
    exact k2

theorem StK.ask {s : State} {S : List (TaskId × Nat)} (h : StK s S) : StK (ask s) S := by
  intro q hq t ht hid
  rcases h q hq t ht hid with a | ⟨a, x, hx⟩
  · exact .inl a
  · exact .inr ⟨a, x, by rw [view_congr (a := s) (b := Core.ask s) rfl x t.id rfl]; exact hx⟩

theorem taskUpdate_stK {s s' : State} {w : Nat} {us : List Update} {rets : List (List TaskId)} {o : Out}
    {S : List (TaskId × Nat)} (hi : InvF s) (hok : UpdatesOk UpdProto s w us rets) (hk : StK s S)
    (h : s.taskUpdate w us rets = .ok (s', o)) : StK s' (S ++ starts o.cbs) := by
  obtain ⟨s1, need, rets', h1, rfl⟩ := taskUpdate_path h
  obtain ⟨cbs, e, k⟩ := updateLoop_stK w us _ _ _ _ _ _ _ _ S hi hok hk h1
  rw [show o.cbs = cbs by simpa using e]
  split
  · exact k.ask
  · exact k

/-- **an operation other than a worker message keeps a `hot` view of a task of the map** — or, if it is the loss of
that worker, the task's instance id grows -/
theorem step_hot {s s' : State} {op : Op} {o : Out} (hi : InvF s) (hok : OpOk2 s op) (hi' : InvF s')
    (h : step s op = .ok (s', o)) (hnu : ∀ w us rets, op ≠ .update w us rets) {x : Nat} {t : Task}
    (ht : t ∈ s.tasks) (hnew : t.id ∉ op.newIds) (hv : view s x t.id = .hot) :
    view s' x t.id = .hot ∨ ∀ t' ∈ s'.tasks, t'.id = t.id → t.inst < t'.inst := by
  have hn := hi.inv.nd
  have hm' := MnOk.of_invF hi'
  cases op with
  | newWorker wk =>
    left
    have h' : s.newWorker wk = .ok (s', o) := h
    rw [(newWorker_views hok h').1 x t.id]; exact hv
  | removeWorker w0 reason f order rets =>
    have h' : s.removeWorker w0 reason f order rets = .ok (s', o) := h
    by_cases hx : x = w0
    · subst hx
      right
      intro t' ht' hid
      have hf : s.task? t.id = some t := mem_find_of_nodup hn ht
      have hf' : s'.task? t.id = some t' := by
        have := mem_find_of_nodup hi'.inv.nd ht'
        rw [hid] at this; exact this
      refine removeWorker_bumped hi h' hf hf' ?_
      rcases hot_state hn ht hv with ⟨v, e⟩ | ⟨l, e, _⟩
      · exact .inr (.inl ⟨v, e⟩)
      · exact .inr (.inr (.inr (.inr ⟨l, e⟩)))
    · exact .inl ((removeWorker_fgn hi.inv hm' h' x hx t.id).view.1 hv)
  | newRq rqv =>
    left
    simp only [step, Except.ok.injEq, Prod.mk.injEq] at h
    rw [← h.1, newRq_views]; exact hv
  | newTasks nts =>
    have h' : s.newTasks nts = .ok (s', o) := h
    exact .inl (((newTasks_views hn hm' h').1 x t.id hnew).1 hv)
  | cancel ids =>
    have h' : s.cancelTasks ids = .ok (s', o) := h
    exact .inl ((cancelTasks_fgn hn hm' h' x t.id).view.1 hv)
  | update w us rets => exact absurd rfl (hnu w us rets)
  | retracted w ids =>
    have h' : s.retractResponse w ids = .ok (s', o) := h
    obtain ⟨a, b, _⟩ := retractResponse_views h'
    left
    by_cases hc : x ≠ w ∨ t.id ∉ ids
    · exact (a x t.id hc).1 hv
    · have hxw : x = w := by
        apply Classical.byContradiction
        intro e; exact hc (.inl e)
      subst hxw
      exact (b t.id).1 hv
  | schedule sol =>
    have h' : s.schedule sol = .ok (s', o) := h
    exact .inl ((schedule_fgn hi.inv hm' h' x t.id).view.1 hv)

theorem step_starts {s s' : State} {op : Op} {o : Out} (hn : (taskIds s.tasks).Nodup) (h : step s op = .ok (s', o))
    (hnu : ∀ w us rets, op ≠ .update w us rets) : starts o.cbs = [] := by
  cases op with
  | newWorker wk => cases h; rfl
  | removeWorker w0 reason f order rets => exact (removeWorker_fx_starts (nw := True) hn h).2
  | newRq rqv => cases h; rfl
  | newTasks nts => rw [(newTasks_out h).2]; rfl
  | cancel ids => rw [(cancelTasks_evo (nw := True) (cr := True) h).2.2]; rfl
  | update w us rets => exact absurd rfl (hnu w us rets)
  | retracted w ids =>
    obtain ⟨_, _, _, _, rfl⟩ := retractResponse_path h
    rfl
  | schedule sol => exact (schedule_fx hn h).2.1

/-- **one operation**; `U` = the ids submitted so far (a newly submitted id is not one of them) -/
theorem step_stK {s s' : State} {op : Op} {o : Out} {S : List (TaskId × Nat)} {U : List TaskId}
    (hi : InvF s) (hok : OpOk2 s op) (hids : ∀ t ∈ s.tasks, t.id ∈ U) (hS : ∀ q ∈ S, q.1 ∈ U)
    (hfresh : ∀ x ∈ op.newIds, x ∉ U) (hk : StK s S) (h : step s op = .ok (s', o)) :
    StK s' (S ++ starts o.cbs) := by
  by_cases hu : ∃ w us rets, op = .update w us rets
  · obtain ⟨w, us, rets, rfl⟩ := hu
    exact taskUpdate_stK hi hok hk h
  · have hnu : ∀ w us rets, op ≠ .update w us rets := fun w us rets e => hu ⟨w, us, rets, e⟩
    have hi' := step_invF hi hok h
    have hn := hi.inv.nd
    rw [step_starts hn h hnu, List.append_nil]
    obtain ⟨e, _⟩ := step_fx hn h
    refine hk.keep ?_
    intro t' ht' ⟨q, hq, hid⟩
    rcases e t' ht' with ⟨t, ht, r⟩ | hnew
    · refine ⟨t, ht, r.id, r.inst, fun x hx => ?_⟩
      have hnew : t.id ∉ op.newIds := fun hm => hfresh _ hm (hids t ht)
      rcases step_hot hi hok hi' h hnu ht hnew hx with h1 | h1
      · exact .inl h1
      · exact .inr (h1 t' ht' r.id)
    · -- a new record: its id was never submitted before, so no start was announced for it
      exact absurd (hid ▸ hS q hq) (hfresh _ hnew)

/-- **after every run** from the empty core whose operations satisfy `OpOk2` and that submits no task id twice: a task
for which a start of instance `i` was announced has a larger instance id now, or it still has instance `i` and the core
has heard that it started (some worker's view of it is `hot`) -/
theorem run_stK {ops : List Op} {s : State} {out : Out} (hok : RunOk OpOk2 {} ops) (hr : NoIdReuse ops)
    (h : Core.run {} ops = .ok (s, out)) : StK s (starts out.cbs) := by
  have := run_ind (C := OpOk2)
    (I := fun U s acc => InvF s ∧ Hist s (sends acc.msgs) (starts acc.cbs) U ∧ StK s (starts acc.cbs))
    (fun U s acc op s1 o1 ⟨hi, hh, hk⟩ hc hf _ h1 => ⟨step_invF hi hc h1, by simpa using hh.step hf h1,
      by simpa using step_stK hi hc hh.ids hh.sids hf hk h1⟩)
    ops (acc := {}) ⟨invF_init, Hist.init, StK.nil _⟩ hok (by simpa [NoIdReuse] using hr) h
  simpa using this.2.2

/-- … in the vocabulary of the model: the task is Running, or RunningMultiNode with the `started` flag of its root's
worker record set -/
theorem run_started_locked {ops : List Op} {s : State} {out : Out} (hok : RunOk OpOk2 {} ops) (hr : NoIdReuse ops)
    (h : Core.run {} ops = .ok (s, out)) (q : TaskId × Nat) (hq : q ∈ starts out.cbs) (t : Task)
    (ht : s.task? q.1 = some t) :
    q.2 < t.inst ∨ (q.2 = t.inst ∧
      ((∃ w v, t.state = .running w v) ∨
       ∃ root others wk r, t.state = .runningMN (root :: others) ∧ s.worker? root = some wk ∧
         wk.assign = .mn q.1 r true)) := by
  have hn : (taskIds s.tasks).Nodup := (run_invF hok h).inv.nd
  have hid : t.id = q.1 := findTask_some_id ht
  rcases run_stK hok hr h q hq t (findTask_some_mem ht) hid with a | ⟨a, w, hw⟩
  · exact .inl a
  · refine .inr ⟨a, ?_⟩
    rcases hot_state hn (findTask_some_mem ht) hw with ⟨v, e⟩ | ⟨l, e, hms⟩
    · exact .inl ⟨w, v, e⟩
    · obtain ⟨wk, r, h1, h2⟩ := mnStarted_iff.mp hms
      exact .inr ⟨w, l, wk, r, e, h1, hid ▸ h2⟩

end HqModel.Core
