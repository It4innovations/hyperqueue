import HqModel.Sched.Priority
import HqModel.Sched.Prio
import HqModel.Lemmas.CoreOpsQueue
import HqModel.Lemmas.ListFacts
/-!
The order of priorities. `take_tasks` pops the first `count` tasks in queue order (`takeFromQueue_spec`) and `readyAdd` keeps
the queue sorted (`readyAdd_sorted`): the queue functions are those of the core model, so both are read off its lemmas
(`flat` is its `rPairs`, `QueueSorted` its `ReadyWf`). For placements: how the tasks of an instance sit in its queues
(`mem_tasks`, `cls_of_mem_flatten`, `queue_mem`, `cls_mem_readyClasses`), then `dispatched_prio_ge`, which is C15 on fragment
F1 (`priorityRespecting_of_inF1`). Last, the value of `from_user_priority` (`fromUserPriority_value`).
-/
namespace HqModel.Sched
open HqModel.Core

/-- the (priority, id) pairs of a ready list in list order -/
def flat (ready : List (Int × List TaskId)) : List (Int × TaskId) :=
  ready.flatMap fun e => e.2.map fun t => (e.1, t)

/-- "descending priority, then ascending id" -/
def Before (a b : Int × TaskId) : Prop := b.1 < a.1 ∨ (a.1 = b.1 ∧ tidLt a.2 b.2 = true)

/-- the shape `TaskQueue` keeps: priorities strictly descending, ids of a level strictly ascending, no empty level -/
structure QueueSorted (ready : List (Int × List TaskId)) : Prop where
  levels : ready.Pairwise fun a b => b.1 < a.1
  ids : ∀ e ∈ ready, e.2.Pairwise fun a b => tidLt a b = true
  nonempty : ∀ e ∈ ready, e.2 ≠ []

theorem flat_eq_rPairs (ready : List (Int × List TaskId)) : flat ready = NP.rPairs ready := rfl

theorem queueSorted_iff_readyWf {ready : List (Int × List TaskId)} : QueueSorted ready ↔ ReadyWf ready :=
  ⟨fun h => ⟨List.pairwise_map.mpr h.levels, h.nonempty, h.ids⟩,
   fun h => ⟨List.pairwise_map.mp h.prio, h.asc, h.ne⟩⟩

theorem flat_cons (e : Int × List TaskId) (rest : List (Int × List TaskId)) :
    flat (e :: rest) = e.2.map (fun t => (e.1, t)) ++ flat rest :=
  List.flatMap_cons

theorem takeFromQueue_spec {fuel : Nat} {ready : List (Int × List TaskId)} {count : Nat} {acc : List TaskId}
    {ready' : List (Int × List TaskId)} {res : List TaskId}
    (h : takeFromQueue fuel ready count acc = .ok (ready', res)) :
    res = acc ++ ((flat ready).take count).map (·.2) ∧ flat ready' = (flat ready).drop count ∧
      count ≤ (flat ready).length := by
  obtain ⟨tp, h1, h2, h3, -⟩ := NPD.takeFromQueue_spec _ _ _ _ _ _ h
  rw [flat_eq_rPairs, flat_eq_rPairs, h2, List.take_left' h3, List.drop_left' h3, List.length_append, h3]
  exact ⟨h1, rfl, Nat.le_add_right _ _⟩

theorem tidLt_irrefl (a : TaskId) : tidLt a a = false := NP.tidLt_irrefl a

theorem flat_sorted {ready : List (Int × List TaskId)} (h : QueueSorted ready) : (flat ready).Pairwise Before := by
  induction ready with
  | nil => exact List.Pairwise.nil
  | cons e rest ih =>
    rw [flat_cons, List.pairwise_append]
    have hl := List.pairwise_cons.mp h.levels
    refine ⟨?_, ?_, ?_⟩
    · rw [List.pairwise_map]
      exact (h.ids e List.mem_cons_self).imp fun hab => Or.inr ⟨rfl, hab⟩
    · exact ih ⟨hl.2, fun e' he' => h.ids e' (List.mem_cons_of_mem _ he'),
        fun e' he' => h.nonempty e' (List.mem_cons_of_mem _ he')⟩
    · intro a ha b hb
      obtain ⟨t, _, rfl⟩ := List.mem_map.mp ha
      simp only [flat, List.mem_flatMap, List.mem_map] at hb
      obtain ⟨e', he', t', _, rfl⟩ := hb
      exact Or.inl (hl.1 e' he')

theorem readyAdd_sorted {ready : List (Int × List TaskId)} (h : QueueSorted ready) (t : TaskId) (p : Int) :
    QueueSorted (readyAdd ready t p) :=
  queueSorted_iff_readyWf.mpr (NPC.readyAdd_wf (queueSorted_iff_readyWf.mp h))

theorem flatten_eq_map_flat (c : Nat) (q : Ready) :
    flatten c q = (flat q).map fun e => { id := e.2, cls := c, prio := e.1 } := by
  simp [flatten, flat, List.map_flatMap, Function.comp_def]

/-- `Instance.WF` says nothing about the ids inside a level, so `QueueSorted` and `flat_sorted` are not at hand here: the
priorities alone descend along the queue order -/
theorem flat_prio_sorted {ready : List (Int × List TaskId)} (h : ready.Pairwise fun a b => b.1 < a.1) :
    (flat ready).Pairwise fun a b => b.1 ≤ a.1 := by
  induction ready with
  | nil => simp [flat]
  | cons e rest ih =>
    rw [flat_cons, List.pairwise_append]
    have hl := List.pairwise_cons.mp h
    refine ⟨?_, ih hl.2, ?_⟩
    · rw [List.pairwise_map]
      exact List.pairwise_of_forall (by intros; simp)
    · intro a ha b hb
      simp only [List.mem_map] at ha
      obtain ⟨t, _, rfl⟩ := ha
      simp only [flat, List.mem_flatMap, List.mem_map] at hb
      obtain ⟨e', he', t', _, rfl⟩ := hb
      exact Int.le_of_lt (hl.1 e' he')

theorem mem_tasks {inst : Instance} {t : TaskInfo} :
    t ∈ inst.tasks ↔ ∃ c < inst.queues.length, t ∈ flatten c (inst.queue c) := by
  simp [Instance.tasks, List.mem_flatMap]

theorem cls_of_mem_flatten {c : Nat} {q : Ready} {t : TaskInfo} (h : t ∈ flatten c q) : t.cls = c := by
  simp only [flatten, List.mem_flatMap, List.mem_map] at h
  obtain ⟨_, _, _, _, rfl⟩ := h
  rfl

theorem queue_mem {inst : Instance} {c : Nat} (hc : c < inst.queues.length) : inst.queue c ∈ inst.queues := by
  simp only [Instance.queue]
  rw [List.getElem?_eq_getElem hc]
  exact List.getElem_mem hc

theorem dispatched_prio_ge {inst : Instance} (hwf : inst.WF) {x : Assign} {pl : Placement}
    (hv : ValidPlacement inst x pl) {h l : TaskInfo} (hh : h ∈ inst.tasks) (hl : l ∈ inst.tasks)
    (hcls : h.cls = l.cls) (hnd : pl.dispatched h.id = false) (hd : pl.dispatched l.id = true) :
    h.prio ≤ l.prio := by
  obtain ⟨c, hc, hhc⟩ := mem_tasks.mp hh
  obtain ⟨c', hc', hlc⟩ := mem_tasks.mp hl
  have e1 := cls_of_mem_flatten hhc
  have e2 := cls_of_mem_flatten hlc
  have hcc : c' = c := e2.symm.trans (hcls.symm.trans e1)
  subst hcc
  obtain ⟨ids, htake, hiff⟩ := hv.taken c' hc
  -- ids = first n of the queue
  simp only [takeIds] at htake
  split at htake
  · rename_i ready' ids' hq
    simp only [Option.some.injEq] at htake
    subst htake
    obtain ⟨hres, _, hn⟩ := takeFromQueue_spec hq
    simp only [List.nil_append] at hres
    generalize placedCount inst x c' = n at hres hn
    have hlid : l.id ∈ ids' := (hiff l hlc).mp hd
    have hhid : h.id ∉ ids' := fun hin => by
      have := (hiff h hhc).mpr hin
      simp [hnd] at this
    rw [hres] at hlid hhid
    -- l sits in the first n entries, h in the rest
    rw [flatten_eq_map_flat] at hhc hlc
    obtain ⟨eh, heh, rfl⟩ := List.mem_map.mp hhc
    obtain ⟨el, hel, rfl⟩ := List.mem_map.mp hlc
    simp only at hlid hhid ⊢
    obtain ⟨el', hel', hid⟩ := List.mem_map.mp hlid
    -- the entry with l's id is l itself
    have hl' : ({ id := el'.2, cls := c', prio := el'.1 } : TaskInfo) ∈ inst.tasks :=
      mem_tasks.mpr ⟨c', hc, by rw [flatten_eq_map_flat]; exact List.mem_map.mpr ⟨el', List.mem_of_mem_take hel', rfl⟩⟩
    have heq := List.nodup_map_inj hwf.idsNodup hl' hl (by simpa using hid)
    have hel'' : el' = el := by
      have h1 := congrArg TaskInfo.prio heq
      have h2 := congrArg TaskInfo.id heq
      simp only at h1 h2
      exact Prod.ext h1 h2
    subst hel''
    have heh' : eh ∈ (flat (inst.queue c')).drop n := by
      have : eh ∈ (flat (inst.queue c')).take n ++ (flat (inst.queue c')).drop n := by
        rw [List.take_append_drop]; exact heh
      rcases List.mem_append.mp this with h1 | h1
      · exact absurd (List.mem_map.mpr ⟨eh, h1, rfl⟩) hhid
      · exact h1
    have hs := flat_prio_sorted (hwf.queuesSorted _ (queue_mem hc))
    rw [← List.take_append_drop n (flat (inst.queue c')), List.pairwise_append] at hs
    exact hs.2.2 _ hel' _ heh'
  · simp at htake

theorem cls_mem_readyClasses {inst : Instance} {t : TaskInfo} (ht : t ∈ inst.tasks) :
    t.cls ∈ inst.readyClasses ∧ t.cls < inst.queues.length := by
  obtain ⟨c, hc, htc⟩ := mem_tasks.mp ht
  rw [cls_of_mem_flatten htc]
  refine ⟨?_, hc⟩
  simp only [Instance.readyClasses, List.mem_filter, List.mem_range]
  refine ⟨hc, ?_⟩
  cases hq : inst.queue c with
  | nil => rw [hq] at htc; simp [flatten] at htc
  | cons _ _ => rfl

theorem on_dispatched {pl : Placement} {t : TaskId} {w : Nat} (h : pl.on t w = true) : pl.dispatched t = true := by
  simp only [Placement.on, List.contains_iff_mem] at h
  simp only [Placement.dispatched, List.any_eq_true, decide_eq_true_eq]
  exact ⟨_, h, rfl⟩

theorem same_cls_of_inF1 {inst : Instance} (hF : inst.inF1 = true) {h l : TaskInfo}
    (hh : h ∈ inst.tasks) (hl : l ∈ inst.tasks) : h.cls = l.cls := by
  have m1 := (cls_mem_readyClasses hh).1
  have m2 := (cls_mem_readyClasses hl).1
  simp only [Instance.inF1, decide_eq_true_eq] at hF
  generalize inst.readyClasses = rc at hF m1 m2
  match rc, hF, m1, m2 with
  | [a], _, m1, m2 => rw [List.mem_singleton.mp m1, List.mem_singleton.mp m2]
  | _ :: _ :: _, hF, _, _ => simp at hF

theorem priorityRespecting_of_inF1 {inst : Instance} (hwf : inst.WF) (hF : inst.inF1 = true) {x : Assign}
    {pl : Placement} (hv : ValidPlacement inst x pl) : PriorityRespecting inst pl := by
  intro h hh l hl w _
  cases hvp : violatingPair inst pl h l w with
  | false => rfl
  | true =>
    exfalso
    simp only [violatingPair, Bool.and_eq_true, Bool.not_eq_true', decide_eq_true_eq] at hvp
    obtain ⟨⟨⟨⟨hnd, hon⟩, hlt⟩, _⟩, _⟩ := hvp
    exact absurd (dispatched_prio_ge hwf hv hh hl (same_cls_of_inF1 hF hh hl) hnd (on_dispatched hon))
      (Int.not_le.mpr hlt)

theorem xor_two_pow_of_lt {a k : Nat} (h : a < 2 ^ k) : a ^^^ 2 ^ k = a + 2 ^ k := by
  have hd : (a ^^^ 2 ^ k) / 2 ^ k = 1 := by
    rw [Nat.xor_div_two_pow, Nat.div_eq_of_lt h, Nat.div_self (Nat.two_pow_pos k), Nat.zero_xor]
  have hm : (a ^^^ 2 ^ k) % 2 ^ k = a := by
    rw [Nat.xor_mod_two_pow, Nat.mod_eq_of_lt h, Nat.mod_self, Nat.xor_zero]
  rw [← Nat.div_add_mod (a ^^^ 2 ^ k) (2 ^ k), hd, hm, Nat.mul_one, Nat.add_comm]

theorem xor_two_pow {a k : Nat} (h : a < 2 ^ (k + 1)) :
    a ^^^ 2 ^ k = if a < 2 ^ k then a + 2 ^ k else a - 2 ^ k := by
  split
  · next hlt => exact xor_two_pow_of_lt hlt
  · next hge =>
    have hlt : a - 2 ^ k < 2 ^ k := by rw [Nat.pow_succ] at h; omega
    have e : (a - 2 ^ k) ^^^ 2 ^ k = a := by
      rw [xor_two_pow_of_lt hlt, Nat.sub_add_cancel (Nat.le_of_not_lt hge)]
    calc a ^^^ 2 ^ k = ((a - 2 ^ k) ^^^ 2 ^ k) ^^^ 2 ^ k := by rw [e]
      _ = a - 2 ^ k := by rw [Nat.xor_assoc, Nat.xor_self, Nat.xor_zero]

/-- the sign extension and the 64-bit constant only matter in the low 32 bits: the shift drops the rest -/
theorem fromUserPriority_toNat (x : BitVec 32) : (fromUserPriority x).toNat = (x.toNat ^^^ 2 ^ 31) * 2 ^ 32 := by
  have hse : (x.signExtend 64).toNat % 2 ^ 32 = x.toNat := by
    rw [BitVec.toNat_signExtend, BitVec.toNat_setWidth, Nat.mod_eq_of_lt (Nat.lt_trans x.isLt (by decide))]
    split
    · rw [show 2 ^ 64 - 2 ^ 32 = 2 ^ 32 * (2 ^ 32 - 1) from rfl, Nat.add_mul_mod_self_left, Nat.mod_eq_of_lt x.isLt]
    · rw [Nat.add_zero, Nat.mod_eq_of_lt x.isLt]
  rw [fromUserPriority, BitVec.toNat_shiftLeft, BitVec.toNat_xor, Nat.shiftLeft_eq,
    show (2 : Nat) ^ 64 = 2 ^ 32 * 2 ^ 32 from rfl, Nat.mul_mod_mul_right, Nat.xor_mod_two_pow, hse]
  rfl

theorem fromUserPriority_value (x : BitVec 32) : ((fromUserPriority x).toNat : Int) = (x.toInt + 2^31) * 2^32 := by
  have hx := x.isLt
  rw [fromUserPriority_toNat, xor_two_pow (k := 31) hx, BitVec.toInt_eq_toNat_cond]
  by_cases h : x.toNat < 2 ^ 31
  · rw [if_pos h, if_pos (by omega)]
    omega
  · rw [if_neg h, if_neg (by omega)]
    omega

end HqModel.Sched
