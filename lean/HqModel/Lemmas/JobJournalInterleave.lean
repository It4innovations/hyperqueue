import HqModel.Lemmas.JobJournalStep
/-!
# Records of other emitters interleaved with the job layer's; allocation ids of `WorkerConnected`
-/
namespace HqModel.Emit
open HqModel.Job HqModel.Journal

theorem isOther_jobs {A : AState} {r : Record} (h : isOther r = true) : (meaningStep A r).jobs = A.jobs := by
  cases r <;> simp [isOther] at h <;> rfl

theorem journalFromI_good : ∀ (items : List Item) {s : State} {A : AState}, Inv s A → okFromI s A items = true →
    goodFrom A (journalFromI s items)
  | [], _, _, h, _ => h.dep
  | .other r :: is, s, A, h, hok => by
    simp only [okFromI, Bool.and_eq_true] at hok
    obtain ⟨⟨ho, hr⟩, hrest⟩ := hok
    simp only [journalFromI]
    exact ⟨h.dep, hr, journalFromI_good is (h.congr rfl rfl (isOther_jobs ho)) hrest⟩
  | .op o :: is, s, A, h, hok => by
    simp only [okFromI, Bool.and_eq_true] at hok
    simp only [journalFromI]
    cases hs : step s o with
    | error x => exact h.dep
    | ok r =>
      obtain ⟨s', evs⟩ := r
      rw [hs] at hok
      have L := step_leads h hok.1 hs
      exact (goodFrom_append _ _ _).mpr ⟨L.1, journalFromI_good is L.2 hok.2⟩

theorem journalFromI_ops : ∀ (ops : List Op) (s : State), journalFromI s (ops.map .op) = journalFrom s ops
  | [], _ => rfl
  | o :: ops, s => by
    simp only [List.map_cons, journalFromI, journalFrom]
    cases step s o with
    | error _ => rfl
    | ok r => simp only [journalFromI_ops ops]

theorem okFromI_ops : ∀ (ops : List Op) (s : State) (A : AState), okFromI s A (ops.map .op) = emitOkFrom s A ops
  | [], _, _ => rfl
  | o :: ops, s, A => by
    simp only [List.map_cons, okFromI, emitOkFrom]
    cases step s o with
    | error _ => rfl
    | ok r => simp only [okFromI_ops ops]

theorem journalFrom_good (ops : List Op) {s : State} {A : AState} (h : Inv s A) (hok : emitOkFrom s A ops = true) :
    goodFrom A (journalFrom s ops) :=
  journalFromI_ops ops s ▸ journalFromI_good (ops.map .op) h ((okFromI_ops ops s A).trans hok)

theorem meaningStep_erase (A : AState) (r : Record) : meaningStep A (eraseAlloc r) = meaningStep A r := by
  cases r <;> rfl

theorem recordOk_erase (A : AState) (r : Record) : recordOk A (eraseAlloc r) = recordOk A r := by
  cases r <;> rfl

theorem producibleFrom_erase : ∀ (J : List Record) (A : AState),
    producibleFrom A (J.map eraseAlloc) = producibleFrom A J
  | [], _ => rfl
  | r :: J, A => by
    simp only [List.map_cons, producibleFrom, recordOk_erase, meaningStep_erase, producibleFrom_erase J]

theorem foldl_erase : ∀ (J : List Record) (A : AState),
    (J.map eraseAlloc).foldl meaningStep A = J.foldl meaningStep A
  | [], _ => rfl
  | r :: J, A => by simp only [List.map_cons, List.foldl_cons, meaningStep_erase, foldl_erase J]

end HqModel.Emit
