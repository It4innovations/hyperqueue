import HqModel.Lemmas.CoreNoPanicQueuePrim
/-!
`NpQ` along the two placement phases of a scheduling round. `Queue.takeTasks` in both directions: a call with enough ids
does not panic (`takeTasks_np`), and `TakeSpec` is what a successful call did (`takeTasks_spec`). Single-node: `placeSn`
changes the record of an id that is in no queue (`npq_out`), `take_tasks` only removes ids from one queue, and `deal`
places every id taken (`mapSn_npq`). Multi-node: the task goes `Waiting 0` → RunningMultiNode while it is in no queue.
-/
namespace HqModel.Core.NPD

open NP NPC

theorem np_guard {α : Type} {c : Prop} [Decidable c] {site : String} {x : M α} (hs : site.startsWith "!" = true)
    (hx : NoCorePanic x) : NoCorePanic (if c then .error (.panic site) else x) := by
  by_cases h : c
  · rw [if_pos h]; exact NoCorePanic.bang hs
  · rw [if_neg h]; exact hx

theorem takeTasks_np {q : Queue} {count : Nat} {taken : List TaskId} (hwf : ReadyWf q.ready)
    (hc : count ≤ (rIds q.ready).length + (pfIds q).length) : NoCorePanic (q.takeTasks count taken) := by
  have hb : "!bad-choice take_tasks".startsWith "!" = true := by simp
  cases hp : q.prefill with
  | none =>
    rw [takeTasks_none_eq hp]
    have hp0 : (pfIds q).length = 0 := by simp [pfIds, hp]
    obtain ⟨ready', res, h⟩ := takeFromQueue_ok (count + q.ready.length + 1) q.ready count [] hwf.ne (by omega)
      (by omega)
    rw [h]
    exact np_guard hb (NoCorePanic.ok _)
  | some x =>
    obtain ⟨pp, pset⟩ := x
    obtain ⟨ready1, res1, h1, e⟩ := takeTasks_some_eq hp count taken
    have hp0 : (pfIds q).length = pset.length := by simp [pfIds, hp]
    have hx : (rIds q.ready).length = res1.length + (rIds ready1).length ∧ (∀ e ∈ ready1, e.2 ≠ []) ∧
        ready1.length ≤ q.ready.length := by
      rcases h1 with ⟨rfl, rfl⟩ | ⟨rfl, rfl⟩
      · exact ⟨by rw [← List.length_append, ← takeFromFirst_ids], takeFromFirst_ne hwf.ne _, takeFromFirst_len_le _ _⟩
      · exact ⟨by simp, hwf.ne, Nat.le_refl _⟩
    rw [e]
    refine np_guard (by simp) ?_
    obtain ⟨ready', res, h⟩ := takeFromQueue_ok (count + q.ready.length + 1) ready1
      (count - res1.length - min (count - res1.length) pset.length) [] hx.2.1 (by omega) (by omega)
    rw [h]
    exact np_guard hb (NoCorePanic.ok _)

/-- what a successful `take_tasks` did -/
structure TakeSpec (q q' : Queue) (count : Nat) (taken : List TaskId) : Prop where
  wf : ReadyWf q'.ready
  /-- every id of the new ready list keeps its priority entry -/
  pairs : ∀ x ∈ rPairs q'.ready, x ∈ rPairs q.ready
  /-- the prefill set shrinks, same priority -/
  pf : ∀ pp ts, q'.prefill = some (pp, ts) → ∃ ts0, q.prefill = some (pp, ts0) ∧ ∀ id ∈ ts, id ∈ ts0
  /-- `taken` and the ids of the new queue partition the ids of the old queue -/
  perm : (qIds q).Perm (taken ++ qIds q')
  coverR : ∀ id ∈ rIds q.ready, id ∈ rIds q'.ready ∨ id ∈ taken
  coverP : ∀ id ∈ pfIds q, id ∈ pfIds q' ∨ id ∈ taken
  len : taken.length = count

theorem takeTasks_spec {q q' : Queue} {count : Nat} {taken : List TaskId} (hwf : ReadyWf q.ready)
    (hnd : (qIds q).Nodup) (h : q.takeTasks count taken = .ok q') : TakeSpec q q' count taken := by
  rcases takeTasks_cases h with ⟨hpre, ready', hq, rfl⟩ |
    ⟨pp, pset, ready1, res1, k, picks, ready', res3, hpre, h1, hk, hpk, hpicks, hdup, hlen, hq, hres, rfl⟩
  · obtain ⟨tk, h1, h2, h3, h4, h5, _⟩ := takeFromQueue_ids hq
    rw [List.nil_append] at h1
    subst h1
    have hp : pfIds q = [] := by simp [pfIds, hpre]
    have hp' : pfIds ({ q with ready := ready' } : Queue) = [] := hp
    refine ⟨h4 hwf, h5, fun pp ts hh => (by rw [hpre] at hh; cases hh), ?_,
      fun id hid => (List.mem_append.mp (h2 ▸ hid)).symm, fun id hid => (by rw [hp] at hid; cases hid), h3⟩
    rw [qIds_eq', qIds_eq', hp, hp', h2]; simp
  · have hp : pfIds q = pset := by simp [pfIds, hpre]
    obtain ⟨hr1, hwf1, hps1, hl1⟩ : rIds q.ready = res1 ++ rIds ready1 ∧ ReadyWf ready1 ∧
        (∀ x ∈ rPairs ready1, x ∈ rPairs q.ready) ∧ res1.length ≤ count := by
      rcases h1 with ⟨rfl, rfl⟩ | ⟨rfl, rfl⟩
      · exact ⟨takeFromFirst_ids _ _, takeFromFirst_wf hwf _, fun x hx => takeFromFirst_rest_sub hx,
          by rw [takeFromFirst_length]; omega⟩
      · exact ⟨by simp, hwf, fun _ h => h, by simp⟩
    obtain ⟨tk, h1, h2, h3, h4, h5, _⟩ := takeFromQueue_ids hq
    rw [List.nil_append] at h1
    subst h1
    have hpnd : picks.Nodup := nodup_of_eraseDups_length _ hdup
    have hmem' : ∀ id, id ∈ pset.filter (fun x => !picks.contains x) ↔ id ∈ pset ∧ id ∉ picks := by
      intro id; simp [List.mem_filter]
    generalize hps' : pset.filter (fun x => !picks.contains x) = pset' at hmem'
    rw [qIds_eq', hp, List.nodup_append] at hnd
    have hpsnd : pset.Nodup := hnd.2.1
    -- the prefill set splits into the picks and the rest
    have hperm : pset.Perm (picks ++ pset') := by
      have hnd2 : (picks ++ pset').Nodup := by
        rw [List.nodup_append]
        exact ⟨hpnd, hps' ▸ List.Pairwise.filter _ hpsnd, fun a ha b hb e => ((hmem' b).mp hb).2 (e ▸ ha)⟩
      rw [List.perm_ext_iff_of_nodup hpsnd hnd2]
      intro a
      rw [List.mem_append, hmem']
      exact ⟨fun ha => (Classical.em (a ∈ picks)).imp (fun hc => hc) (fun hc => ⟨ha, hc⟩),
        fun ha => ha.elim (hpicks a) And.left⟩
    have hp' : pfIds ({ ready := ready', prefill := if pset'.isEmpty then none else some (pp, pset') } : Queue) =
        pset' := NPC.pfIds_ite _ _ _
    refine ⟨h4 hwf1, fun x hx => hps1 x (h5 x hx), ?_, ?_, ?_, ?_, ?_⟩
    · intro pp' ts hh
      obtain ⟨rfl, rfl⟩ := NPC.prefill_ite_some hh
      exact ⟨pset, hpre, fun id hid => ((hmem' id).mp hid).1⟩
    · rw [qIds_eq', qIds_eq', hp, hp', ← hres, hr1, h2]
      -- res1 ++ (res3 ++ R) ++ pset ~ (res1 ++ picks ++ res3) ++ (R ++ pset')
      have e1 : res1 ++ (res3 ++ rIds ready') ++ pset = res1 ++ ((res3 ++ rIds ready') ++ pset) := by
        simp [List.append_assoc]
      have e2 : res1 ++ picks ++ res3 ++ (rIds ready' ++ pset') = res1 ++ (picks ++ ((res3 ++ rIds ready') ++ pset')) := by
        simp [List.append_assoc]
      rw [e1, e2]
      exact List.Perm.append_left _ ((List.Perm.append_left _ hperm).trans (List.perm_append_comm_assoc _ _ _))
    · intro id hid
      rw [hr1, h2] at hid
      rw [← hres]
      simp only [List.mem_append] at hid ⊢
      rcases hid with a | a | a
      · exact Or.inr (Or.inl (Or.inl a))
      · exact Or.inr (Or.inr a)
      · exact Or.inl a
    · intro id hid
      rw [hp] at hid
      rw [hp', ← hres]
      by_cases hc : id ∈ picks
      · exact Or.inr (List.mem_append.mpr (Or.inl (List.mem_append.mpr (Or.inr hc))))
      · exact Or.inl ((hmem' id).mpr ⟨hid, hc⟩)
    · rw [← hres, List.length_append, List.length_append, h3, hlen]
      omega

namespace TakeSpec

variable {q q' : Queue} {count : Nat} {taken : List TaskId}

theorem sub (h : TakeSpec q q' count taken) : ∀ id ∈ qIds q', id ∈ qIds q :=
  fun _ hid => h.perm.mem_iff.mpr (List.mem_append.mpr (Or.inr hid))

theorem tsub (h : TakeSpec q q' count taken) : ∀ id ∈ taken, id ∈ qIds q :=
  fun _ hid => h.perm.mem_iff.mpr (List.mem_append.mpr (Or.inl hid))

theorem nd_all (h : TakeSpec q q' count taken) (hnd : (qIds q).Nodup) : (taken ++ qIds q').Nodup :=
  h.perm.nodup_iff.mp hnd

theorem tnd (h : TakeSpec q q' count taken) (hnd : (qIds q).Nodup) : taken.Nodup :=
  (List.nodup_append.mp (h.nd_all hnd)).1

theorem nd (h : TakeSpec q q' count taken) (hnd : (qIds q).Nodup) : (qIds q').Nodup :=
  (List.nodup_append.mp (h.nd_all hnd)).2.1

theorem pnd (h : TakeSpec q q' count taken) (hnd : (qIds q).Nodup) : (pfIds q').Nodup := by
  have := h.nd hnd
  rw [qIds_eq', List.nodup_append] at this
  exact this.2.1

theorem disj (h : TakeSpec q q' count taken) (hnd : (qIds q).Nodup) : ∀ id ∈ taken, id ∉ qIds q' :=
  fun id hid hq => (List.nodup_append.mp (h.nd_all hnd)).2.2 id hid id hq rfl

theorem pfsub (h : TakeSpec q q' count taken) : ∀ id ∈ pfIds q', id ∈ pfIds q := by
  intro id hid
  unfold pfIds at hid
  split at hid
  · rename_i pp ts hp
    obtain ⟨ts0, h0, hs⟩ := h.pf pp ts hp
    simp only [pfIds, h0]; exact hs id hid
  · cases hid

end TakeSpec

theorem _root_.HqModel.Core.NpQ.qIds_nodup {D R} {s : State} (h : NpQ D R s) {i : Nat} {q : Queue}
    (hq : s.queues[i]? = some q) : (qIds q).Nodup := by
  rw [qIds_eq', List.nodup_append]
  exact ⟨h.ready_nodup hq, (h.qok hq).pnd, fun a ha b hb e => h.ready_prefill_disjoint hq ha (e ▸ hb)⟩

theorem TakeSpec.shrunk {q q' : Queue} {count : Nat} {taken : List TaskId} (h : TakeSpec q q' count taken)
    (hnd : (qIds q).Nodup) : Shrunk q q' :=
  ⟨fun _ => h.wf, h.pairs, fun _ => h.pnd hnd, h.pf⟩

theorem npq_out {D : TaskId → Prop} {s s' : State} {id : TaskId} (h : NpQ D [] s) (hn' : (taskIds s'.tasks).Nodup)
    (hq : s'.queues = s.queues) (hno : NoQ s id)
    (ht : ∀ x, x ≠ id → s'.task? x = s.task? x)
    (hid : ∀ t, s'.task? id = some t → ¬ ∃ w, t.state = .prefilled w)
    (hrd : ∀ x ∈ s'.redirects, x.1 ≠ id → x ∈ s.redirects) :
    NpQ (fun x => D x ∧ x ≠ id) [] s' := by
  have hno' : NoQ s' id := hno.of_queues hq
  refine h.sub (fun _ q' hq' => ⟨q', hq ▸ hq', Shrunk.refl q'⟩) ?_ (fun r hr hx => hrd r hr (fun e => hx (e ▸ hno'))) ?_
  · rintro x (hx | hx)
    · cases hx
    · exact .of_eq (ht x (fun e => hx (e ▸ hno')))
  · intro t htm hp _ hd
    have hft : s'.task? t.id = some t := mem_find_of_nodup hn' htm
    by_cases e : t.id = id
    · exact absurd hp (hid t (e ▸ hft))
    · rw [ht _ e] at hft
      exact (h.pin' hft hp (by simp) (fun hD => hd ⟨hD, e⟩)).of_queues hq

theorem _root_.HqModel.Core.Placed.frame {s s' : State} {m m' : List WUpdate} {v : Nat} {r : Rq} {id : TaskId} {w : Nat}
    (h : Placed s m v r id w s' m') :
    s'.queues = s.queues ∧ (∀ x, x ≠ id → s'.task? x = s.task? x) ∧
    (∀ t, s'.task? id = some t → ¬ ∃ w, t.state = .prefilled w) ∧
    (∀ x ∈ s'.redirects, x.1 ≠ id → x ∈ s.redirects) := by
  have put : ∀ {s0 : State} {task t' : Task}, s0.task? id = some task → t'.id = task.id →
      (∀ w, t'.state ≠ .prefilled w) → (∀ x, x ≠ id → (s0.setTask t').task? x = s0.task? x) ∧
        ∀ t, (s0.setTask t').task? id = some t → ¬ ∃ w, t.state = .prefilled w := by
    intro s0 task t' ht hid hnp
    have e : t'.id = id := hid.trans (findTask_some_id ht)
    refine ⟨fun x hx => by rw [task?_setTask, if_neg (e ▸ hx)], fun t ht' ⟨w0, hw0⟩ => ?_⟩
    rw [← e, task?_setTask_self (e ▸ ht)] at ht'
    cases ht'
    exact hnp w0 hw0
  have rd : ∀ {rd : List (TaskId × Nat × Nat)}, ∀ x ∈ rd ++ [(id, w, v)], x.1 ≠ id → x ∈ rd := fun x hx hne =>
    (List.mem_append.mp hx).resolve_right (fun e => hne (by rw [List.mem_singleton.mp e]))
  cases h with
  | waiting s1 task n hw ht hs =>
    obtain ⟨_, _, _, _, rfl⟩ := withWorker_spec hw
    obtain ⟨a, b⟩ := put (t' := { task with state := .assigned w v }) (getTask_spec ht) rfl nofun
    exact ⟨rfl, a, b, fun _ hx _ => hx⟩
  | redirect s1 task old hw ht hs hf =>
    obtain ⟨_, _, _, _, rfl⟩ := withWorker_spec hw
    refine ⟨rfl, fun _ _ => rfl, fun t ht' ⟨w0, hw0⟩ => ?_, fun x hx hne => (List.mem_filter.mp (rd x hx hne)).1⟩
    obtain rfl : task = t := Option.some.inj ((getTask_spec ht).symm.trans ht')
    rw [hs] at hw0; cases hw0
  | reredirect s1 task old oldTarget ov r' s3 hw ht hs hf hr hw3 =>
    obtain ⟨_, _, _, _, rfl⟩ := withWorker_spec hw
    obtain ⟨_, _, _, _, rfl⟩ := withWorker_spec hw3
    obtain ⟨a, b⟩ := put (t' := { task with state := .retracting old }) (getTask_spec ht) rfl nofun
    exact ⟨rfl, a, b, fun x hx hne => (List.mem_filter.mp (rd x hx hne)).1⟩
  | prefilled s1 task old s2 hw ht hs hw2 hn =>
    obtain ⟨_, _, _, _, rfl⟩ := withWorker_spec hw
    obtain ⟨_, _, _, _, rfl⟩ := withWorker_spec hw2
    obtain ⟨a, b⟩ := put (t' := { task with state := .retracting old }) (getTask_spec ht) rfl nofun
    exact ⟨rfl, a, b, rd⟩

theorem placeSn_npq {D : TaskId → Prop} {s s' : State} {m m' : List WUpdate} {v : Nat} {r : Rq} {id : TaskId} {w : Nat}
    (h : NpQ D [] s) (hn : (taskIds s.tasks).Nodup) (hno : NoQ s id)
    (hp : s.placeSn m v r id w = .ok (s', m')) :
    NpQ (fun x => D x ∧ x ≠ id) [] s' ∧ s'.queues = s.queues := by
  obtain ⟨a, b, c, d⟩ := (placeSn_cases hp).2.frame
  exact ⟨npq_out h (placeSn_stable hp ▸ hn) a hno b c d, a⟩

/-- the placements of one entry: the ids still to be placed are exempt from the state → queue clause -/
theorem placeAll_npq {l : List (TaskId × Nat)} {D : TaskId → Prop} {s s' : State} {m m' : List WUpdate} {v : Nat}
    {r : Rq} (h : NpQ (fun x => D x ∨ x ∈ l.map (·.1)) [] s) (hn : (taskIds s.tasks).Nodup)
    (hno : ∀ p ∈ l, NoQ s p.1) (hp : s.placeAll m v r l = .ok (s', m')) : NpQ D [] s' := by
  refine (placeAll_ind (P := fun l s _ => NpQ (fun x => D x ∨ x ∈ l.map (·.1)) [] s ∧ (taskIds s.tasks).Nodup ∧
    ∀ p ∈ l, NoQ s p.1) ?_ ⟨h, hn, hno⟩ hp).1.mono (fun x hx => hx.resolve_right List.not_mem_nil)
  intro id w rest s m s1 m1 ⟨h0, hn0, hno0⟩ h1
  obtain ⟨a, b⟩ := placeSn_npq h0 hn0 (hno0 (id, w) List.mem_cons_self) h1
  refine ⟨a.mono ?_, placeSn_stable h1 ▸ hn0, fun p hp => (hno0 p (List.mem_cons_of_mem _ hp)).of_queues b⟩
  rintro x ⟨hx | hx, hne⟩
  · exact Or.inl hx
  · exact Or.inr ((List.mem_cons.mp hx).resolve_left hne)

theorem mapSnEntry_npq {D : TaskId → Prop} {s s2 : State} {m m2 : List WUpdate} {e : SnEntry} {r : Rq} {q q' : Queue}
    (h : NpQ D [] s) (hn : (taskIds s.tasks).Nodup) (hq : s.queues[e.rq]? = some q)
    (htk : q.takeTasks (e.counts.map (·.2)).sum e.taken = .ok q')
    (hp : State.placeAll { s with queues := s.queues.set e.rq q' } m e.v r
      (deal (e.taken.length + 1) e.counts e.taken []) = .ok (s2, m2)) : NpQ D [] s2 := by
  have hqn := h.qIds_nodup hq
  have sp := takeTasks_spec (h.wf' hq) hqn htk
  refine placeAll_npq (s := { s with queues := s.queues.set e.rq q' }) ?_ hn ?_ hp
  · rw [deal_complete (by rw [sp.len]; exact Nat.le_refl _) (Nat.lt_succ_self _)]
    exact h.set_queue hq (sp.shrunk hqn) (fun id hid => (sp.coverP id hid).imp (fun a => a) (fun a => Or.inr a))
      (fun x hx => Or.inl hx)
  · intro p hp
    have hm := (deal_mem hp).1
    exact h.noQ_of_set hq (sp.tsub _ hm) (sp.disj hqn _ hm)

theorem mapSn_npq {es : List SnEntry} {D : TaskId → Prop} {s s' : State} {now : Nat} {m m' : List WUpdate}
    (h : NpQ D [] s) (hn : (taskIds s.tasks).Nodup) (hp : s.mapSn now m es = .ok (s', m')) : NpQ D [] s' := by
  refine (mapSn_ind (P := fun _ s _ => NpQ D [] s ∧ (taskIds s.tasks).Nodup) ?_ ⟨h, hn⟩ hp).1
  intro e rest s m s1 m1 h0 h1
  obtain ⟨r, q, q', _, _, hq, hk, hpl⟩ := mapSn1_ok h1
  exact ⟨mapSnEntry_npq h0.1 h0.2 hq hk hpl, placeAll_ids _ _ _ _ _ _ _ hpl ▸ h0.2⟩

theorem setMnAll_npq {D : TaskId → Prop} {R : List TaskId} (ws : List Nat) (s s' : State) (id : TaskId) (first : Bool)
    (h : NpQ D R s) (hs : setMnAll s id ws first = .ok s') : NpQ D R s' := by
  obtain ⟨a, b, _, d, _⟩ := setMnAll_spec _ _ _ _ _ hs
  exact h.frame a d (b ▸ fun _ hx => hx)

theorem takeOne_eq (p : Int) (id : TaskId) (ids' : List TaskId) (more : List (Int × List TaskId)) :
    (if ids'.isEmpty then more else (p, ids') :: more) = (takeFromFirst ((p, id :: ids') :: more) 1).1 := rfl

theorem takeOne_snd (p : Int) (id : TaskId) (ids' : List TaskId) (more : List (Int × List TaskId)) :
    (takeFromFirst ((p, id :: ids') :: more) 1).2 = [id] := rfl

theorem mapMnSet_npq {D : TaskId → Prop} {s s2 : State} {rq : Nat} {q : Queue} {p : Int} {id : TaskId}
    {ids' : List TaskId} {more : List (Int × List TaskId)} {ws : List Nat} {task : Task}
    (h : NpQ D [] s) (hn : (taskIds s.tasks).Nodup) (hq : s.queues[rq]? = some q)
    (hready : q.ready = (p, id :: ids') :: more)
    (hset : setMnAll { s with queues := s.queues.set rq { q with ready := if ids'.isEmpty then more else (p, ids') :: more } }
      id ws true = .ok s2)
    (hgt : s2.getTask id = .ok task) :
    NpQ D [] (s2.setTask { task with state := .runningMN ws }) := by
  have hwf := h.wf' hq
  have hqn := h.qIds_nodup hq
  have hI := takeFromFirst_ids q.ready 1
  rw [hready, takeOne_snd, ← takeOne_eq] at hI
  have e1 : ({ q with ready := if ids'.isEmpty then more else (p, ids') :: more } : Queue).ready =
      (takeFromFirst q.ready 1).1 := by rw [hready]; rfl
  have hpf : pfIds ({ q with ready := if ids'.isEmpty then more else (p, ids') :: more } : Queue) = pfIds q := rfl
  have h1 : NpQ D [] { s with queues := s.queues.set rq { q with ready := if ids'.isEmpty then more else (p, ids') :: more } } := by
    refine h.set_queue hq ⟨fun _ => ?_, ?_, fun hx => hx, fun pp ts hh => ⟨ts, hh, fun _ hx => hx⟩⟩
      (fun x hx => Or.inl hx) (fun _ hx => hx)
    · rw [e1]; exact takeFromFirst_wf hwf 1
    · intro x hx; rw [e1] at hx; exact takeFromFirst_rest_sub hx
  have hno : NoQ { s with queues := s.queues.set rq { q with ready := if ids'.isEmpty then more else (p, ids') :: more } } id := by
    refine h.noQ_of_set hq ?_ ?_
    · rw [qIds_eq', hready, rIds_cons]; simp
    · rw [qIds_eq', hready, hI, List.append_assoc, List.nodup_append] at hqn
      intro hm
      rw [qIds_eq', hpf] at hm
      exact hqn.2.2 id (by simp) id hm rfl
  obtain ⟨a, _, _, d, _⟩ := setMnAll_spec _ _ _ _ _ hset
  have h2 : NpQ D [] s2 := setMnAll_npq _ _ _ _ _ h1 hset
  have hno2 : NoQ s2 id := hno.of_queues d
  have hft : s2.task? id = some task := getTask_spec hgt
  have hid : task.id = id := findTask_some_id hft
  have hn2 : (taskIds s2.tasks).Nodup := by rw [a]; exact hn
  refine (npq_out (s' := s2.setTask { task with state := .runningMN ws }) h2 ?_ rfl hno2 ?_ ?_ (fun _ hx _ => hx)).mono
    (fun _ hx => hx.1)
  · rw [setTask_ids]; exact hn2
  · intro x hx
    rw [task?_setTask]
    simp only [hid, hx, if_false]
  · intro t ht'
    rw [task?_setTask] at ht'
    simp only [hid, if_true, hft, Option.map_some, Option.some.injEq] at ht'
    subst ht'
    rintro ⟨w0, e⟩; cases e

theorem mapMnSets_npq {sets : List (List Nat)} {D : TaskId → Prop} {s s' : State} {rq : Nat} {acc acc' : List TaskId}
    (h : NpQ D [] s) (hn : (taskIds s.tasks).Nodup) (hp : s.mapMnSets rq sets acc = .ok (s', acc')) : NpQ D [] s' := by
  refine (mapMnSets_ind (P := fun _ s _ => NpQ D [] s ∧ (taskIds s.tasks).Nodup) ?_ ⟨h, hn⟩ hp).1
  intro ws rest s acc s1 acc1 h0 h1
  obtain ⟨q, p, id, ids', more, s2, task, hq, hready, hset, hgt, _, rfl, _⟩ := mapMnSets1_ok h1
  exact ⟨mapMnSet_npq h0.1 h0.2 hq hready hset hgt, by rw [setTask_ids, setMnAll_tasks _ _ _ _ _ hset]; exact h0.2⟩

theorem mapMn_npq {es : List MnEntry} {D : TaskId → Prop} {s s' : State} {acc acc' : List TaskId}
    (h : NpQ D [] s) (hn : (taskIds s.tasks).Nodup) (hp : s.mapMn es acc = .ok (s', acc')) : NpQ D [] s' :=
  (mapMn_ind (P := fun _ s _ => NpQ D [] s ∧ (taskIds s.tasks).Nodup)
    (fun _ _ _ _ _ _ h0 h1 => ⟨mapMnSets_npq h0.1 h0.2 h1, mapMnSets_ids _ _ _ _ _ _ h1 ▸ h0.2⟩) ⟨h, hn⟩ hp).1

end HqModel.Core.NPD
