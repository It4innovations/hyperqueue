import HqModel.Lemmas.JobJournalRestartInv
import HqModel.Lemmas.JobJournalInterleave
/-!
# The emitted-journal theorems across any number of restarts

`GoodJ` holds of the empty file, passes to prefixes, and one more server life from the restored state keeps it
(`GoodJ.life`: `restart_inv`, then `journalFrom_good` and `goodFrom.journal`).
-/
namespace HqModel.Emit
open HqModel.Job HqModel.Journal

/-- what the restart theorems (C10, C03, C06, C07 restart clauses) ask of a journal file, at every crash point -/
structure GoodJ (J : List Record) : Prop where
  prod : Producible J
  dep : ∀ K, K <+: J → DepOk (meaning K)
  fresh : NoStartBeforeCreate J

theorem GoodJ.nil : GoodJ [] :=
  ⟨rfl, fun K hK => (by rw [List.prefix_nil.mp hK]; intro ja hja; cases hja), rfl⟩

theorem GoodJ.prefix {J K : List Record} (h : GoodJ J) (hK : K <+: J) : GoodJ K := by
  obtain ⟨M, rfl⟩ := hK
  refine ⟨?_, fun K' hK' => h.dep K' (hK'.trans (List.prefix_append _ _)), nsbc_prefix K M [] h.fresh⟩
  have := h.prod
  unfold Producible at this ⊢
  rw [producibleFrom_append, Bool.and_eq_true] at this
  exact this.1

theorem nsbc_append (M : List Record) (S : List Nat) : ∀ (J : List Record) (seen : List Nat),
    noStartBeforeCreate seen J = true → noStartBeforeCreate S M = true →
    (∀ j, j ∈ seen ∨ (∃ r ∈ J, startedJob r = some j) → j ∈ S) →
    noStartBeforeCreate seen (J ++ M) = true
  | [], seen, _, hM, hS => nsbc_mono M (fun j hj => hS j (.inl hj)) hM
  | r :: J, seen, hJ, hM, hS => by
    simp only [noStartBeforeCreate, Bool.and_eq_true, List.cons_append] at hJ ⊢
    refine ⟨hJ.1, nsbc_append M S J _ hJ.2 hM ?_⟩
    intro j hj
    rcases hj with hj | ⟨r', hr', hs⟩
    · cases hst : startedJob r with
      | none => rw [hst] at hj; exact hS j (.inl hj)
      | some k =>
        rw [hst] at hj
        simp only [List.mem_cons] at hj
        rcases hj with rfl | hj
        · exact hS j (.inr ⟨r, by simp, hst⟩)
        · exact hS j (.inl hj)
    · exact hS j (.inr ⟨r', by simp [hr'], hs⟩)

theorem GoodJ.life {J : List Record} (h : GoodJ J) (uid : String) (ops : List Op)
    (hok : emitOkFrom (nextState J) (meaning (J ++ [.serverStart uid])) ops = true) :
    GoodJ (J ++ .serverStart uid :: journalFrom (nextState J) ops) := by
  obtain ⟨R, X, e, -⟩ := restore_inv h.prod
  have hs : nextState J = jobStateOf R X := by simp [nextState, e]
  rw [hs] at hok ⊢
  have hinv := restart_inv h.prod (h.dep J (List.prefix_refl J)) e uid
  have g := journalFrom_good ops hinv hok
  rw [meaning_snoc] at g
  obtain ⟨gp, gd⟩ := g.journal h.prod h.dep rfl
  refine ⟨gp, gd, ?_⟩
  · obtain ⟨-, -, hmax⟩ := restart_core h.prod e
    have hst := (meaning_keysLe J h.prod).2
    -- every job with a recorded start in `J` is ≤ `maxJob`; the new life hands out ids from `maxJob + 1`
    refine nsbc_append _ (List.range ((meaning J).maxJob + 1)) J [] h.fresh ?_ ?_
    · simp only [noStartBeforeCreate, createdJob, startedJob, Bool.true_and]
      refine journalFrom_nsbc ops (restart_wf h.prod e) ?_
      intro j hj
      simp only [List.mem_range] at hj
      simp only [jobStateOf, counters, hmax]
      exact hj
    · intro j hj
      rcases hj with hj | ⟨r, hr, hs'⟩
      · cases hj
      · have := hst r hr j hs'
        simp only [List.mem_range]; omega

theorem lifeRecords_prefix (J : List Record) (l : Life) :
    J ++ lifeRecords J l <+: J ++ .serverStart l.uid :: journalFrom (nextState J) l.ops := by
  unfold lifeRecords
  cases l.cut with
  | none => exact List.prefix_refl _
  | some n => exact (List.prefix_append_right_inj J).mpr (List.take_prefix _ _)

theorem GoodJ.lives : ∀ (ls : List Life) {J : List Record}, GoodJ J → livesOk J ls = true → GoodJ (livesJournal J ls)
  | [], _, h, _ => h
  | l :: ls, J, h, hok => by
    simp only [livesOk, Bool.and_eq_true] at hok
    exact GoodJ.lives ls ((h.life l.uid l.ops hok.1).prefix (lifeRecords_prefix J l)) hok.2

end HqModel.Emit
