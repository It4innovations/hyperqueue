import HqModel.Lemmas.CoreQueueRun
import HqModel.Lemmas.CoreMsgWitness
import HqModel.Lemmas.OkAnd
/-!
The queue / dependency invariant: `NoIdReuse` is necessary.

The core accepts a `Finished` for a task in state Retracting (`task_finished` has an arm for it) and `remove_task`
of a Finished task does not touch the queues: if the retracted task was waiting in the ready queue for the retract
response (a disposed prefill), its id stays in the queue after the task left the map. A correct worker announces
`Running` first (then the id leaves the queue, fix 30afef4), and HyperQueue never reuses a task id, so on real
traces this is invisible; in the model a later submit of the same id with another request makes the stale queue
entry name a task of a different request.
-/
namespace HqModel.Core

/-- facts about the same run are evaluated together: the kernel then runs it once -/
theorem and_left2 {a b r : Prop} (h : a ∧ b) (hr : r) : a ∧ b ∧ r := ⟨h.1, h.2, hr⟩
theorem and_left3 {a b c r : Prop} (h : a ∧ b ∧ c) (hr : r) : a ∧ b ∧ c ∧ r := ⟨h.1, h.2.1, h.2.2, hr⟩

/-- one worker with 3 units; request 0 needs 1 unit; tasks 0..2 of request 0; round 1 assigns task 0 and prefills
task 1 on the worker; task 3 (priority 5) disposes the prefill: task 1 goes back to the ready queue of request 0 and
is Retracting; the worker reports it Finished (without Running): it leaves the map, its id stays in queue 0;
request 1 needs half a unit; the id (1,1) is submitted AGAIN, for request 1. -/
def reuseQOps : List Op :=
  [.newWorker { id := 1, assign := .sn [] [30000] [], total := [30000] },
   .newRq [{ entries := [⟨0, .amount 10000⟩] }],
   .newTasks [{ id := (1, 0), rq := 0, prio := 0, crashLimit := .max 5, deps := [] },
              { id := (1, 1), rq := 0, prio := 0, crashLimit := .max 5, deps := [] },
              { id := (1, 2), rq := 0, prio := 0, crashLimit := .max 5, deps := [] }],
   .schedule { sn := [{ rq := 0, v := 0, counts := [(1, 1)], taken := [(1, 0)] }], prefillOrders := [(0, [1])] },
   .newTasks [{ id := (1, 3), rq := 0, prio := 5, crashLimit := .max 5, deps := [] }],
   .update 1 [.finished (1, 1)] [],
   .newRq [{ entries := [⟨0, .amount 5000⟩] }],
   .newTasks [{ id := (1, 1), rq := 1, prio := 0, crashLimit := .max 5, deps := [] }]]

/-- a scheduling round that takes two tasks from queue 0 — (1,3) and the stale entry (1,1) — and places them on the
worker with the amounts of request 0 -/
def reuseQOp : Op := .schedule { sn := [{ rq := 0, v := 0, counts := [(1, 2)], taken := [(1, 3), (1, 1)] }] }

/-- the run satisfies every remaining side condition (even `OpOk4` up to the resubmission), reuses an id, reaches a
state in which `QueueOkD` is false ((1,1) is in queue 0 and a task of request 1), and after the round the resource
equation of worker 1 is false (`0 + 10000 + 10000 + 5000 ≠ 30000`) -/
theorem reuseQ_witness :
    RunOk OpOk5 {} (reuseQOps ++ [reuseQOp]) ∧ RunOk OpOk4 {} reuseQOps ∧ ¬ NoIdReuse (reuseQOps ++ [reuseQOp]) ∧
    ((run {} reuseQOps).toOption.map fun r => decide (QueueOkD r.1)) = some false ∧
    ((run {} reuseQOps).toOption.map fun r => r.1.queues.map fun q => q.ready) =
      some [[(5, [(1, 3)]), (0, [(1, 1), (1, 2)])], [(0, [(1, 1)])]] ∧
    ((run {} reuseQOps).toOption.map fun r => r.1.tasks.map fun t => (t.id, t.rq)) =
      some [((1, 0), 0), ((1, 2), 0), ((1, 3), 0), ((1, 1), 1)] ∧
    ((run {} (reuseQOps ++ [reuseQOp])).toOption.map fun r => (resAtB r.1 1 0, r.1.workers.map wAsg)) =
      some (false, [[(1, 0), (1, 3), (1, 1)]]) :=
  and_left3 (by decide +kernel) (and_left2 (by decide +kernel) ⟨by decide +kernel, by decide +kernel⟩)

/-- **"every queued id is a task of the map" is false in the model**, also without id reuse: the first six
operations of `reuseQOps` satisfy `OpOk4` and `NoIdReuse`; afterwards (1,1) is in ready queue 0 and not in the map;
a scheduling round that takes it stops with the panic `get_task` (the `Finished` for a Retracting task that was
never announced Running is what a correct worker does not send). -/
theorem staleQ_witness :
    RunOk OpOk4 {} (reuseQOps.take 6 ++ [reuseQOp]) ∧ NoIdReuse (reuseQOps.take 6 ++ [reuseQOp]) ∧
    Run.okAnd (run {} (reuseQOps.take 6)) (fun r =>
      (r.1.queues[0]?.any fun q => decide ((1, 1) ∈ qIds q)) && (r.1.task? (1, 1)).isNone) = true ∧
    (match run {} (reuseQOps.take 6 ++ [reuseQOp]) with | .error (.panic site) => site | .ok _ => "ok") = "get_task" :=
  by decide +kernel

/-- a dependency named twice in one submit: `on_new_tasks` counts it twice and registers the consumer once -/
def dupDepOps : List Op :=
  [.newWorker (wkr 1),
   .newRq [{ entries := [⟨0, .amount 5000⟩] }],
   .newTasks [ntk 0, ntk 1 0 [(1, 0), (1, 0)]],
   .schedule { sn := [{ rq := 0, v := 0, counts := [(1, 1)], taken := [(1, 0)] }] },
   .update 1 [.running (1, 0) 0] [],
   .update 1 [.finished (1, 0)] []]

/-- **the dependency count is `≤`, not `=`**: after the submit (1,1) is `Waiting 2` and listed once; after its only
dependency finished it is `Waiting 1`, listed by nobody and in no queue — it never becomes ready. (HyperQueue
removes duplicates before it hands the dependencies to tako: `build_tasks_graph` collects them into a set.) -/
theorem dupDep_witness :
    RunOk OpOk4 {} dupDepOps ∧ NoIdReuse dupDepOps ∧
    ((run {} (dupDepOps.take 3)).toOption.map fun r => r.1.tasks.map fun t => (t.id, t.consumers, t.state)) =
      some [((1, 0), [(1, 1)], .waiting 0), ((1, 1), [], .waiting 2)] ∧
    ((run {} dupDepOps).toOption.map fun r => r.1.tasks.map fun t => (t.id, t.consumers, t.state)) =
      some [((1, 1), [], .waiting 1)] ∧
    ((run {} dupDepOps).toOption.map fun r => r.1.queues.map fun q => qIds q) = some [[]] :=
  and_left2 (by decide +kernel) ⟨by decide +kernel, by decide +kernel⟩

end HqModel.Core
