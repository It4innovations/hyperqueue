import HqModel.Lemmas.StreamBytes
import HqModel.Lemmas.StreamIndex
/-!
Located chunks: a chunk of the schedule together with the place where the reader meets it (index of the file in the
listing, absolute offset of the data). The byte level produces such a list for a (cut) directory; the index level
consumes its records; what `cat` returns is read off the list itself (`cat_located`).
-/
namespace HqModel.Stream

theorem flatMap_filter_of_nil {α β : Type} (f : α → List β) (q : α → Bool) (l : List α)
    (h : ∀ x ∈ l, q x = false → f x = []) : (l.filter q).flatMap f = l.flatMap f := by
  induction l with
  | nil => rfl
  | cons a l ih =>
    have ih' := ih fun x hx => h x (List.mem_cons_of_mem _ hx)
    cases hq : q a
    · simp [hq, ih', h a List.mem_cons_self hq]
    · simp [hq, ih']

/-- a chunk as the reader meets it: in the file with index `file` of the listing, its data at offset `pos` -/
structure LC where
  file : Nat
  pos : Nat
  chunk : Chunk

/-- the record `create_index` makes of it -/
def LC.fr (x : LC) : FR := (x.file, ⟨x.chunk.hdr, x.pos⟩)

/-- the chunks `cs`, written from offset `p` of file `j` on -/
def located (j p : Nat) : List Chunk → List LC
  | [] => []
  | c :: cs => ⟨j, p + (encHdr c.hdr).length, c⟩ :: located j (p + c.bytes.length) cs

theorem located_fr (j p : Nat) (cs : List Chunk) :
    (located j p cs).map LC.fr = (recsOf p cs).map fun r => (j, r) := by
  induction cs generalizing p with
  | nil => rfl
  | cons c cs ih => simp [located, recsOf, ih, LC.fr]

theorem located_chunk (j p : Nat) (cs : List Chunk) : (located j p cs).map (·.chunk) = cs := by
  induction cs generalizing p with
  | nil => rfl
  | cons c cs ih => simp [located, ih]

theorem mem_located_chunk {j p : Nat} {cs : List Chunk} {x : LC} (h : x ∈ located j p cs) : x.chunk ∈ cs := by
  have := List.mem_map_of_mem (f := (·.chunk)) h
  rwa [located_chunk] at this

theorem located_file {j p : Nat} {cs : List Chunk} {x : LC} (h : x ∈ located j p cs) : x.file = j := by
  induction cs generalizing p with
  | nil => cases h
  | cons c cs ih =>
    rcases List.mem_cons.mp h with rfl | h
    · rfl
    · exact ih h

theorem located_take (j p n : Nat) (cs : List Chunk) : located j p (cs.take n) = (located j p cs).take n := by
  induction cs generalizing p n with
  | nil => simp [located]
  | cons c cs ih => cases n <;> simp [located, ih]

theorem located_ends (j p : Nat) (cs : List Chunk) :
    (located j p cs).map (fun x => (x.chunk, x.pos + x.chunk.data.length)) = cs.zip (chunkEnds p cs) := by
  induction cs generalizing p with
  | nil => rfl
  | cons c cs ih => simp [located, chunkEnds, ih, c.bytes_length, Nat.add_assoc]

theorem located_readAt {file pre : Bytes} {cs : List Chunk} (hfile : file = pre ++ chunksBytes cs) (j K : Nat)
    {x : LC} (hx : x ∈ located j pre.length cs) (hK : x.pos + x.chunk.data.length ≤ K) :
    readAt (file.take K) x.pos x.chunk.data.length = some x.chunk.data := by
  induction cs generalizing pre with
  | nil => cases hx
  | cons c cs ih =>
    rw [chunksBytes_cons] at hfile
    rcases List.mem_cons.mp hx with rfl | hx
    · have := readAt_mid (pre ++ encHdr c.hdr) c.data (chunksBytes cs) K (by simpa [Nat.add_assoc] using hK)
      simpa [hfile] using this
    · exact ih (pre := pre ++ c.bytes) (by simp [hfile, Chunk.bytes]) (by simpa using hx)

/-- the chunks of the files `v` (offset of the body, chunks), listed from file index `j` on -/
def locatedDir : Nat → List (Nat × List Chunk) → List LC
  | _, [] => []
  | j, pc :: v => located j pc.1 pc.2 ++ locatedDir (j + 1) v

theorem locatedDir_chunk (j : Nat) (v : List (Nat × List Chunk)) :
    (locatedDir j v).map (·.chunk) = v.flatMap (·.2) := by
  induction v generalizing j with
  | nil => rfl
  | cons pc v ih => simp [locatedDir, located_chunk, ih]

theorem mem_locatedDir {j : Nat} {v : List (Nat × List Chunk)} {x : LC} (h : x ∈ locatedDir j v) :
    ∃ i pc, v[i]? = some pc ∧ x ∈ located (j + i) pc.1 pc.2 := by
  induction v generalizing j with
  | nil => cases h
  | cons pc v ih =>
    rcases List.mem_append.mp h with h | h
    · exact ⟨0, pc, rfl, h⟩
    · obtain ⟨i, pc', hi, hx⟩ := ih h
      exact ⟨i + 1, pc', by simpa using hi, by rwa [Nat.add_assoc, Nat.add_comm 1] at hx⟩

theorem readChunks_map {file : Bytes} (X : List LC)
    (h : ∀ x ∈ X, readAt file x.pos (x.chunk.hdr.size % 4294967296) = some x.chunk.data) :
    readChunks file (X.map fun x => ciOf x.fr.2) = some (X.flatMap (·.chunk.data)) := by
  induction X with
  | nil => rfl
  | cons x X ih =>
    simp only [List.map_cons, readChunks, List.flatMap_cons]
    rw [show readAt file (ciOf x.fr.2).pos (ciOf x.fr.2).size = some x.chunk.data from h x List.mem_cons_self,
      ih fun y hy => h y (List.mem_cons_of_mem _ hy)]

theorem recInsts_task (t : Key) (L : List LC) :
    recInsts ((L.map LC.fr).filter fun fr => fr.2.key = t) = instSeq t (L.map (·.chunk)) := by
  simp only [recInsts, instSeq, List.filter_map, List.map_map]
  rfl

/-- the log `open` returns when it meets the located chunks `L` in the files `paths` -/
def logOf (paths : List Bytes) (L : List LC) : Log := ⟨paths, (foldRecs Index.empty (L.map LC.fr)).sorted⟩

/-- What the reader holds for execution `(t, m)` — the maximal instance of `t` — on any list of located chunks
whose chunks of `(t, m)` sit in one file and can be read where they are located. -/
theorem cat_located (L : List LC) (paths : List Bytes) (t : Key) (m : Nat)
    (nr : NoReturn (instSeq t (L.map (·.chunk)))) (hm : m ∈ instSeq t (L.map (·.chunk)))
    (hmax : ∀ i ∈ instSeq t (L.map (·.chunk)), i ≤ m)
    (hch : ∀ x ∈ L, x.chunk.hdr.channel < 2) (hwf : ∀ x ∈ L, x.chunk.WF)
    (hone : ∀ x ∈ L, ∀ y ∈ L, isInst t m x.chunk = true → isInst t m y.chunk = true → x.file = y.file)
    (hread : ∀ x ∈ L, isInst t m x.chunk = true →
      readAt (paths.getD x.file []) x.pos (x.chunk.hdr.size % 4294967296) = some x.chunk.data) :
    (∀ ch < 2, (logOf paths L).cat t ch = .ok ((L.filter fun x => isOf t m ch x.chunk).flatMap (·.chunk.data))) ∧
    (logOf paths L).finished t = some (L.any fun x => isInst t m x.chunk && decide (x.chunk.hdr.size = 0)) ∧
    ∃ init last, (logOf paths L).index.get t = init ++ [last] ∧ (init.map (·.inst)).Nodup ∧
      (∀ i, i ∈ init.map (·.inst) ↔ (i ∈ instSeq t (L.map (·.chunk)) ∧ i ≠ m)) ∧
      init.Pairwise (fun a b => a.inst ≤ b.inst) := by
  -- `log` stays a variable so that unfolding `cat` and `finished` does not unfold the index
  generalize hlog : logOf paths L = log
  replace hlog : log = ⟨paths, (foldRecs Index.empty (L.map LC.fr)).sorted⟩ := hlog.symm
  have hpaths : log.paths = paths := by rw [hlog]
  rw [← recInsts_task] at nr hm hmax
  obtain ⟨init, hsorted, hnd, hmem, hpw⟩ := sorted_last nr hm hmax
  rw [recInsts_task] at hmem
  have hget : log.index.get t = init ++ [infoOf (ofInst m ((L.map LC.fr).filter fun fr => fr.2.key = t))] := by
    rw [hlog]
    simp only [Index.sorted, foldRecs_get, Index.empty]
    exact hsorted
  -- the records of `(t, m)` are those of the located chunks of `(t, m)`
  have hLm : ofInst m ((L.map LC.fr).filter fun fr => fr.2.key = t) =
      (L.filter fun x => isInst t m x.chunk).map LC.fr := by
    simp only [ofInst, List.filter_filter, List.filter_map]
    exact congrArg _ (List.filter_congr fun x _ => Bool.and_comm ..)
  rw [hLm] at hget
  have hlast : log.lastInstance t = some (infoOf ((L.filter fun x => isInst t m x.chunk).map LC.fr)) := by
    simp [Log.lastInstance, hget]
  -- all of them are in the file of the first one
  obtain ⟨x0, hx0, hx0m⟩ : ∃ x0 ∈ L, isInst t m x0.chunk = true := by
    rw [recInsts_task] at hm
    obtain ⟨c, hc, hq⟩ := (List.mem_map.mp hm)
    obtain ⟨hc, hk⟩ := List.mem_filter.mp hc
    obtain ⟨x, hx, rfl⟩ := List.mem_map.mp hc
    exact ⟨x, hx, by simpa [isInst] using ⟨of_decide_eq_true hk, hq⟩⟩
  have hfile : (infoOf ((L.filter fun x => isInst t m x.chunk).map LC.fr)).fileIdx = x0.file := by
    cases hL : L.filter fun x => isInst t m x.chunk with
    | nil => exact absurd (hL ▸ List.mem_filter.mpr ⟨hx0, hx0m⟩ : x0 ∈ []) List.not_mem_nil
    | cons y _ =>
      have hy := List.mem_filter.mp (hL ▸ List.mem_cons_self : y ∈ L.filter _)
      rw [(infoOf_spec _ 0).2.2 y.fr rfl]
      exact hone y hy.1 x0 hx0 hy.2 hx0m
  refine ⟨fun ch hch2 => ?_, ?_, init, _, hget, hnd, hmem, hpw⟩
  · simp only [Log.cat, hlast, (infoOf_spec _ ch).1, hfile, hpaths, List.filter_map, List.map_map]
    rw [show (fun fr => ciOf fr.2) ∘ LC.fr = fun x => ciOf x.fr.2 from rfl, readChunks_map]
    · simp only [List.filter_filter]
      rw [← flatMap_filter_of_nil (fun x : LC => x.chunk.data) (fun x => decide (x.chunk.hdr.size > 0))
        (L.filter fun x => isOf t m ch x.chunk), List.filter_filter]
      · congr 2
        apply List.filter_congr
        intro x hx
        simp only [Function.comp, LC.fr, onChan_eq hch2 (r := ⟨x.chunk.hdr, x.pos⟩) (hch x hx), isOf, isInst]
        generalize decide (x.chunk.key = t) = a, decide (x.chunk.hdr.inst = m) = b,
          decide (x.chunk.hdr.channel = ch) = c, decide (x.chunk.hdr.size > 0) = d
        cases a <;> cases b <;> cases c <;> cases d <;> rfl
      · intro x hx h0
        have w : x.chunk.hdr.size = x.chunk.data.length := hwf x (List.mem_filter.mp hx).1
        exact List.eq_nil_of_length_eq_zero (by simp at h0; omega)
    · intro x hx
      obtain ⟨hx, hq⟩ := List.mem_filter.mp (List.mem_filter.mp hx).1
      rw [← hone x hx x0 hx0 hq hx0m]
      exact hread x hx hq
  · simp only [Log.finished, hlast, (infoOf_spec _ 0).2.1, Option.map_some, List.any_map, List.any_filter]
    rfl

end HqModel.Stream
