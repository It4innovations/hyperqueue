import HqModel.Auth.Trace
import HqModel.Lemmas.AuthBasic
/-! The inductive invariant of the trace system and its preservation by every step. -/
namespace HqModel.Auth

theorem update_eq_some {f : Nat → Option Session} {sid i : Nat} {σn σ : Session}
    (h : update f sid σn i = some σ) : (i ≠ sid ∧ f i = some σ) ∨ (i = sid ∧ σ = σn) := by
  unfold update at h
  split at h
  · rename_i hi; exact .inr ⟨hi, by cases h; rfl⟩
  · rename_i hi; exact .inl ⟨hi, h⟩

theorem update_self (f : Nat → Option Session) (i : Nat) (σ : Session) : update f i σ i = some σ := by
  simp [update]

theorem update_ne (f : Nat → Option Session) {i j : Nat} (σ : Session) (h : j ≠ i) :
    update f i σ j = f j := by
  simp [update, h]

theorem ciphersOf_req (r : Request) (kn : List Msg) : ciphersOf (.req r :: kn) = ciphersOf kn := by
  simp [ciphersOf]

theorem mem_ciphersOf_resp {ct : Cipher} {resp : Response} {kn : List Msg} :
    ct ∈ ciphersOf (.resp resp :: kn) ↔ (∃ n, resp = .encryption n ct) ∨ ct ∈ ciphersOf kn := by
  cases resp with
  | noAuth => simp [ciphersOf]
  | error => simp [ciphersOf]
  | encryption n c =>
    simp only [ciphersOf, List.mem_cons, Response.encryption.injEq, exists_eq_left']
    constructor
    · rintro (h | h)
      · left; exact h.symm
      · right; exact h
    · rintro (h | h)
      · left; exact h.symm
      · right; exact h

theorem derivable_seal {kn : List Msg} {adv : List Nat} {n' k n : Nat} {p : Bytes} :
    derivable kn adv (.encryption n' (.seal k n p)) = true ↔
      k ∈ adv ∨ Cipher.seal k n p ∈ ciphersOf kn := by
  simp [derivable]

structure Inv (adv : List Nat) (s : State) : Prop where
  /-- a keyed session's challenge has 16 bytes and is recorded as used -/
  chal_ok : ∀ {i σ k}, s.sessions i = some σ → σ.auth.key = some k →
    σ.auth.challenge.length = challengeLength ∧ σ.auth.challenge ∈ s.usedChals
  /-- challenges of keyed sessions are pairwise distinct (freshness) -/
  chal_distinct : ∀ {i j σi σj ki kj}, s.sessions i = some σi → s.sessions j = some σj →
    σi.auth.key = some ki → σj.auth.key = some kj → i ≠ j →
    σi.auth.challenge ≠ σj.auth.challenge
  /-- every seal under an honest key on the network stems from a logged responded-event -/
  seal_origin : ∀ {k n p}, Cipher.seal k n p ∈ ciphersOf s.knowledge → k ∉ adv →
    ∃ e ∈ s.log, e.key = k ∧ e.nonce = n ∧ p = e.role ++ e.chal ∧ e.chal.length = challengeLength
  /-- every responded-event belongs to an honest session with that key and role which has responded -/
  event_origin : ∀ {e}, e ∈ s.log → ∃ τ, s.sessions e.sid = some τ ∧ τ.auth.key = some e.key ∧
    τ.auth.myRole = e.role ∧ τ.phase ≠ .awaitRequest ∧ e.chal ∈ s.usedChals ∧ e.time < s.time
  /-- agreement for accepted sessions with an honest key -/
  accepted : ∀ {i σ k}, s.sessions i = some σ → σ.result = some true → σ.auth.key = some k → k ∉ adv →
    ∃ e ∈ s.log, Agrees σ k e
  start_lt : ∀ {i σ}, s.sessions i = some σ → σ.startTime < s.time
  /-- an answer to a keyed session's challenge was given after that session started -/
  recent : ∀ {e}, e ∈ s.log → ∀ {i σ k}, s.sessions i = some σ → σ.auth.key = some k →
    e.chal = σ.auth.challenge → σ.startTime < e.time

theorem Inv.init (adv : List Nat) : Inv adv .init := by
  constructor <;> simp [State.init, ciphersOf]

/-- Every step has one shape: session `sid` becomes `σ'`, the network learns `kn'`, the events `evs` are logged, the
challenges `cs` become used, the clock ticks. `hold`: an existing session keeps what `Inv` speaks of; `hnew`: a new one
starts now with a fresh challenge; `hev`, `hkn`: new events are replies of `σ'` now, new seals are theirs; `hacc`: an
accepted `σ'` had accepted already on the same response, or agrees with a logged event. -/
theorem Inv.ext {adv : List Nat} {s : State} (h : Inv adv s) {sid : Nat} {σ' : Session} {kn' : List Msg}
    {evs : List Event} {cs : List Bytes}
    (hold : ∀ {σ}, s.sessions sid = some σ → σ'.auth.key = σ.auth.key ∧ σ'.auth.challenge = σ.auth.challenge ∧
      σ'.auth.myRole = σ.auth.myRole ∧ σ'.startTime = σ.startTime ∧ σ'.phase ≠ .awaitRequest)
    (hnew : s.sessions sid = none → σ'.startTime = s.time ∧ σ'.phase = .awaitRequest ∧ σ'.result = none ∧
      ∀ {k}, σ'.auth.key = some k →
      σ'.auth.challenge.length = challengeLength ∧ σ'.auth.challenge ∈ cs ∧ σ'.auth.challenge ∉ s.usedChals)
    (hev : ∀ e ∈ evs, e.sid = sid ∧ σ'.auth.key = some e.key ∧ σ'.auth.myRole = e.role ∧ σ'.phase ≠ .awaitRequest ∧
      e.chal ∈ cs ∧ e.time = s.time)
    (hkn : ∀ {ct}, ct ∈ ciphersOf kn' → ct ∈ ciphersOf s.knowledge ∨
      ∃ e ∈ evs, ct = .seal e.key e.nonce (e.role ++ e.chal) ∧ e.chal.length = challengeLength)
    (hacc : ∀ {k}, σ'.result = some true → σ'.auth.key = some k → k ∉ adv →
      (∃ σ, s.sessions sid = some σ ∧ σ.result = some true ∧ σ.consumed = σ'.consumed ∧
        σ.auth.peerRole = σ'.auth.peerRole) ∨ ∃ e ∈ evs ++ s.log, Agrees σ' k e) :
    Inv adv { sessions := update s.sessions sid σ', knowledge := kn', log := evs ++ s.log,
              usedChals := cs ++ s.usedChals, time := s.time + 1 } := by
  have chal : ∀ {k}, σ'.auth.key = some k →
      σ'.auth.challenge.length = challengeLength ∧ σ'.auth.challenge ∈ cs ++ s.usedChals := by
    intro k hk
    cases hσ : s.sessions sid with
    | none => exact ⟨((hnew hσ).2.2.2 hk).1, List.mem_append_left _ ((hnew hσ).2.2.2 hk).2.1⟩
    | some σ =>
      obtain ⟨e1, e2, -⟩ := hold hσ
      rw [e2]
      exact ((h.chal_ok hσ (e1 ▸ hk)).imp_right (List.mem_append_right _))
  have distinct : ∀ {j σj k kj}, j ≠ sid → s.sessions j = some σj → σ'.auth.key = some k → σj.auth.key = some kj →
      σ'.auth.challenge ≠ σj.auth.challenge := by
    intro j σj k kj hj hsj hk hkj
    cases hσ : s.sessions sid with
    | none => exact fun heq => ((hnew hσ).2.2.2 hk).2.2 (heq ▸ (h.chal_ok hsj hkj).2)
    | some σ =>
      obtain ⟨e1, e2, -⟩ := hold hσ
      rw [e2]
      exact h.chal_distinct hσ hsj (e1 ▸ hk) hkj (Ne.symm hj)
  -- by `update_eq_some` a session of the new state is an untouched old one, or `σ'`, which continues an old one or is new
  constructor
  all_goals dsimp only
  · intro i σ k hs hk
    rcases update_eq_some hs with ⟨_, hs⟩ | ⟨_, rfl⟩
    · exact (h.chal_ok hs hk).imp_right (List.mem_append_right _)
    · exact chal hk
  · intro i j σi σj ki kj hi hj hki hkj hij
    rcases update_eq_some hi with ⟨hi1, hi2⟩ | ⟨rfl, rfl⟩ <;> rcases update_eq_some hj with ⟨hj1, hj2⟩ | ⟨rfl, rfl⟩
    · exact h.chal_distinct hi2 hj2 hki hkj hij
    · exact (distinct hi1 hi2 hkj hki).symm
    · exact distinct hj1 hj2 hki hkj
    · exact absurd rfl hij
  · intro k n p hm hk
    rcases hkn hm with hm | ⟨e, he, hct, hl⟩
    · obtain ⟨e, he, h1⟩ := h.seal_origin hm hk
      exact ⟨e, List.mem_append_right _ he, h1⟩
    · cases hct
      exact ⟨e, List.mem_append_left _ he, rfl, rfl, rfl, hl⟩
  · intro e he
    rcases List.mem_append.mp he with he | he
    · obtain ⟨e1, e2, e3, e4, e5, e6⟩ := hev e he
      exact ⟨σ', e1 ▸ update_self .., e2, e3, e4, List.mem_append_left _ e5, e6 ▸ Nat.lt_succ_self _⟩
    · obtain ⟨τ, hτ, h1, h2, h3, h4, h5⟩ := h.event_origin he
      by_cases hsid : e.sid = sid
      · obtain ⟨e1, -, e3, -, e5⟩ := hold (hsid ▸ hτ)
        exact ⟨σ', hsid ▸ update_self .., e1 ▸ h1, e3 ▸ h2, e5, List.mem_append_right _ h4, Nat.lt_succ_of_lt h5⟩
      · exact ⟨τ, (update_ne _ _ hsid).trans hτ, h1, h2, h3, List.mem_append_right _ h4, Nat.lt_succ_of_lt h5⟩
  · intro i σ k hs hac hk hadv
    rcases update_eq_some hs with ⟨_, hs⟩ | ⟨_, rfl⟩
    · obtain ⟨e, he, hag⟩ := h.accepted hs hac hk hadv
      exact ⟨e, List.mem_append_right _ he, hag⟩
    · rcases hacc hac hk hadv with ⟨σ0, hσ, h1, h2, h3⟩ | h
      · obtain ⟨e1, e2, -⟩ := hold hσ
        obtain ⟨e, he, hag⟩ := h.accepted hσ h1 (e1 ▸ hk) hadv
        exact ⟨e, List.mem_append_right _ he, by unfold Agrees at hag ⊢; rwa [← h3, e2, ← h2]⟩
      · exact h
  · intro i σ hs
    rcases update_eq_some hs with ⟨_, hs⟩ | ⟨_, rfl⟩
    · exact Nat.lt_succ_of_lt (h.start_lt hs)
    · cases hσ : s.sessions sid with
      | none => exact (hnew hσ).1 ▸ Nat.lt_succ_self _
      | some σ0 => exact (hold hσ).2.2.2.1 ▸ Nat.lt_succ_of_lt (h.start_lt hσ)
  · intro e he i σ k hs hk hc
    -- the session as it was before the step, if it existed
    have prev : (∃ σ0, s.sessions i = some σ0 ∧ σ0.auth.key = some k ∧ σ0.auth.challenge = σ.auth.challenge ∧
        σ0.startTime = σ.startTime) ∨ (s.sessions sid = none ∧ σ = σ') := by
      rcases update_eq_some hs with ⟨_, hs⟩ | ⟨rfl, rfl⟩
      · exact .inl ⟨σ, hs, hk, rfl, rfl⟩
      · cases hσ : s.sessions i with
        | none => exact .inr ⟨rfl, rfl⟩
        | some σ0 =>
          obtain ⟨e1, e2, -, e4, -⟩ := hold hσ
          exact .inl ⟨σ0, rfl, e1 ▸ hk, e2.symm, e4.symm⟩
    rcases prev with ⟨σ0, hs0, hk0, hc0, ht0⟩ | ⟨hnone, rfl⟩
    · rw [← ht0]
      rcases List.mem_append.mp he with he | he
      · exact (hev e he).2.2.2.2.2 ▸ h.start_lt hs0
      · exact h.recent he hs0 hk0 (hc.trans hc0.symm)
    · rcases List.mem_append.mp he with he | he
      · exact absurd (hnew hnone).2.1 (hev e he).2.2.2.1
      · obtain ⟨τ, _, _, _, _, h4, _⟩ := h.event_origin he
        exact absurd (hc ▸ h4) ((hnew hnone).2.2.2 hk).2.2

theorem Inv.start {adv : List Nat} {s : State} (h : Inv adv s) {sid : Nat} (cfg : Config) {chal : Bytes}
    (hnone : s.sessions sid = none) (hlen : chal.length = challengeLength) (hfresh : chal ∉ s.usedChals) :
    Inv adv
      { sessions := update s.sessions sid
          { auth := (makeRequest (.new cfg) chal).1, phase := .awaitRequest, result := none,
            consumed := none, startTime := s.time }
        knowledge := .req (makeRequest (.new cfg) chal).2 :: s.knowledge
        log := s.log
        usedChals := chal :: s.usedChals
        time := s.time + 1 } := by
  refine h.ext (evs := []) (cs := [chal]) (fun hσ => by rw [hnone] at hσ; cases hσ) (fun _ => ⟨rfl, rfl, rfl, fun hk => ?_⟩)
    (fun _ he => nomatch he) (fun hm => .inl (by rwa [ciphersOf_req] at hm)) (fun hac => nomatch hac)
  rw [makeRequest_key] at hk
  rw [makeRequest_challenge_keyed hk]
  exact ⟨hlen, List.mem_singleton.mpr rfl, hfresh⟩

theorem Inv.deliverRequest {adv : List Nat} {s : State} (h : Inv adv s) {sid : Nat} {σ : Session}
    (req : Request) (nonce : Nat) (hσ : s.sessions sid = some σ) :
    Inv adv
      { sessions := update s.sessions sid
          { σ with auth := (makeResponse σ.auth req nonce).1, phase := .awaitResponse }
        knowledge := .resp (makeResponse σ.auth req nonce).2 :: s.knowledge
        log := eventOf sid σ.auth req nonce s.time (makeResponse σ.auth req nonce).2 ++ s.log
        usedChals := chalsOfReq req ++ s.usedChals
        time := s.time + 1 } := by
  refine h.ext (fun hσ' => ?_) (fun hn => by rw [hσ] at hn; cases hn) (fun e he => ?_) (fun hm => ?_)
    (fun hac _ _ => .inl ⟨σ, hσ, hac, rfl, (makeResponse_peerRole ..).symm⟩)
  · cases hσ.symm.trans hσ'
    exact ⟨makeResponse_key .., makeResponse_challenge .., makeResponse_myRole .., rfl, by simp⟩
  · -- a new event is the record of an `Encryption` reply
    unfold eventOf at he
    split at he
    · rename_i n' ct k c hresp hk hm
      cases List.mem_singleton.mp he
      exact ⟨rfl, (makeResponse_key ..).trans hk, makeResponse_myRole .., by simp, by simp [chalsOfReq, hm], rfl⟩
    · cases he
  · rcases mem_ciphersOf_resp.mp hm with ⟨n', hresp⟩ | hold
    · obtain ⟨k, c, hk, hm, hl, hn, hct, _, _⟩ := makeResponse_encryption hresp
      refine .inr ⟨{ sid, key := k, role := σ.auth.myRole, chal := c, nonce, time := s.time }, ?_, hct, hl⟩
      unfold eventOf
      rw [hresp, hk, hm]
      exact List.mem_singleton.mpr rfl
    · exact .inl hold

theorem Inv.deliverResponse {adv : List Nat} {s : State} (h : Inv adv s) {sid : Nat} {σ : Session}
    {resp : Response} (hσ : s.sessions sid = some σ)
    (hder : derivable s.knowledge adv resp = true) :
    Inv adv
      { s with
        sessions := update s.sessions sid
          { σ with phase := .done, result := some (finish σ.auth resp), consumed := some resp }
        time := s.time + 1 } := by
  refine h.ext (evs := []) (cs := []) (fun hσ' => ?_) (fun hn => by rw [hσ] at hn; cases hn)
    (fun _ he => nomatch he) (fun hm => .inl hm) (fun {k} hac hk hadv => .inr ?_)
  · cases hσ.symm.trans hσ'
    exact ⟨rfl, rfl, rfl, rfl, by simp⟩
  · -- the heart of C20: `σ` just finished and accepted
    have hfin : finish σ.auth resp = true := by simpa using hac
    have hk : σ.auth.key = some k := hk
    obtain ⟨_, n, hresp⟩ := (finish_keyed hk resp).mp hfin
    subst hresp
    -- the seal is under an honest key: the adversary can only have copied it from the network
    rcases derivable_seal.mp hder with hbad | hnet
    · exact absurd hbad hadv
    · obtain ⟨e, he, hek, hen, hp, hl⟩ := h.seal_origin hnet hadv
      -- no separator between role and challenge: injectivity needs both lengths = 16
      have hl' := (h.chal_ok hσ hk).1
      obtain ⟨hrole, hchal⟩ := role_chal_inj hp (hl'.trans hl.symm)
      refine ⟨e, he, hek, hrole.symm, hchal.symm, ?_⟩
      simp only [hen, ← hrole, ← hchal]

theorem Inv.step {adv : List Nat} {s s' : State} {act : Action} (h : Inv adv s)
    (hs : step adv s act = some s') : Inv adv s' := by
  cases act with
  | start sid cfg chal =>
    simp only [HqModel.Auth.step] at hs
    split at hs
    · rename_i hc
      cases hs
      exact h.start cfg (by simpa using hc.1) hc.2.1 hc.2.2
    · cases hs
  | deliverRequest sid req nonce =>
    simp only [HqModel.Auth.step] at hs
    split at hs
    · rename_i σ hσ
      split at hs
      · cases hs
        exact h.deliverRequest req nonce hσ
      · cases hs
    · cases hs
  | deliverResponse sid resp =>
    simp only [HqModel.Auth.step] at hs
    split at hs
    · rename_i σ hσ
      split at hs
      · rename_i hc
        cases hs
        exact h.deliverResponse hσ hc.2
      · cases hs
    · cases hs

theorem Inv.run {adv : List Nat} {as : List Action} {s s' : State} (h : Inv adv s)
    (hr : run adv s as = some s') : Inv adv s' := by
  induction as generalizing s with
  | nil => simp only [HqModel.Auth.run] at hr; cases hr; exact h
  | cons a as ih =>
    simp only [HqModel.Auth.run] at hr
    split at hr
    · rename_i s₁ hs₁
      exact ih (h.step hs₁) hr
    · cases hr

theorem Reachable.inv {adv : List Nat} {s : State} (h : Reachable adv s) : Inv adv s := by
  obtain ⟨as, hr⟩ := h
  exact (Inv.init adv).run hr

end HqModel.Auth
