import HqModel.Lemmas.WorkerLaunch
/-!
The structural invariant `WWF` of the worker (C09, worker side) and "no panic under the server contract":
every `unwrap`/`assert!`/index on the modelled paths is guarded by `WWF` plus the contract on the message
being processed. `WMode` is what holds at every point of the message loop (`WMode.mv`).
-/
namespace HqModel.Worker

structure WWF (s : State) : Prop where
  runRq : ∀ r ∈ s.running, ∃ vs, s.rqs[r.task.rq]? = some vs ∧ r.rv < vs.length
  blRq : ∀ rq, ∀ x ∈ s.backlog rq, x.rq = rq
  keyRq : ∀ rq ∈ s.bkeys, ∃ vs, s.rqs[rq]? = some vs
  keys : ∀ rq, s.backlog rq ≠ [] → rq ∈ s.bkeys
  disj : ∀ r ∈ s.running, NoBacklog r.task.id s
  blNodup : ∀ rq, ((s.backlog rq).map (·.id)).Nodup
  blCross : ∀ rq1 rq2 x1 x2, x1 ∈ s.backlog rq1 → x2 ∈ s.backlog rq2 → x1.id = x2.id → rq1 = rq2

def NoPanic {α : Type} (r : Except Stop α) : Prop := ∀ site, r ≠ .error (.panic site)

theorem NoPanic.ok {α : Type} (x : α) : NoPanic (Except.ok x : Except Stop α) := by
  intro site h; cases h

def Fresh (t : Nat) (s : State) : Prop := (∀ r ∈ s.running, r.task.id ≠ t) ∧ NoBacklog t s

/-- `WWF` holds, the registered classes are `rqs`, and the ids `T` (those of the entries still to come) are
neither running nor waiting -/
def W (rqs : List (List Nat)) (T : List Nat) (s : State) : Prop :=
  WWF s ∧ s.rqs = rqs ∧ ∀ t ∈ T, Fresh t s

theorem WWF.shrink {s s' : State} (h : WWF s)
    (hbl : ∀ rq, (s'.backlog rq).Sublist (s.backlog rq))
    (hrun : ∀ r' ∈ s'.running, ∃ r ∈ s.running, r'.task = r.task ∧ r'.rv = r.rv)
    (hrqs : ∀ (i : Nat) vs, s.rqs[i]? = some vs → s'.rqs[i]? = some vs)
    (hkeys : ∀ rq, s'.backlog rq ≠ [] → rq ∈ s'.bkeys)
    (hksub : ∀ rq ∈ s'.bkeys, rq ∈ s.bkeys) : WWF s' where
  runRq := by
    intro r' hr'
    obtain ⟨r, hr, ht, hv⟩ := hrun r' hr'
    obtain ⟨vs, hvs, hlt⟩ := h.runRq r hr
    exact ⟨vs, ht ▸ hrqs _ vs hvs, hv ▸ hlt⟩
  blRq := fun rq x hx => h.blRq rq x ((hbl rq).subset hx)
  keyRq := fun rq hrq => (h.keyRq rq (hksub rq hrq)).imp fun vs hvs => hrqs _ vs hvs
  keys := hkeys
  disj := by
    intro r' hr' rq x hx
    obtain ⟨r, hr, ht, _⟩ := hrun r' hr'
    rw [ht]; exact h.disj r hr rq x ((hbl rq).subset hx)
  blNodup := fun rq => (h.blNodup rq).sublist ((hbl rq).map _)
  blCross := fun rq1 rq2 x1 x2 h1 h2 => h.blCross rq1 rq2 x1 x2 ((hbl rq1).subset h1) ((hbl rq2).subset h2)

theorem W.shrink {rqs : List (List Nat)} {T : List Nat} {s s' : State} (h : W rqs T s)
    (hbl : ∀ rq, (s'.backlog rq).Sublist (s.backlog rq))
    (hrun : ∀ r' ∈ s'.running, ∃ r ∈ s.running, r'.task = r.task ∧ r'.rv = r.rv)
    (hrqs : s'.rqs = s.rqs)
    (hkeys : ∀ rq, s'.backlog rq ≠ [] → rq ∈ s'.bkeys)
    (hksub : ∀ rq ∈ s'.bkeys, rq ∈ s.bkeys) : W rqs T s' := by
  refine ⟨h.1.shrink hbl hrun (fun _ _ h => hrqs ▸ h) hkeys hksub, hrqs.trans h.2.1,
    fun t ht => ⟨fun r' hr' => ?_, ?_⟩⟩
  · obtain ⟨r, hr, htask, _⟩ := hrun r' hr'
    exact htask ▸ (h.2.2 t ht).1 r hr
  · exact fun rq x hx => (h.2.2 t ht).2 rq x ((hbl rq).subset hx)

theorem Minor.wwf {s s' : State} (hm : Minor s s') (hw : WWF s) : WWF s' :=
  hw.shrink hm.backlog
    (fun _ hr' =>
      let ⟨r, hr, hb⟩ := hm.mem_running hr'
      ⟨r, hr, (congrArg (·.1) hb).symm, (congrArg (·.2.1) hb).symm⟩)
    hm.rqs
    (fun rq hne => hm.keys rq
      (hw.keys rq fun hnil => hne (List.sublist_nil.mp (hnil ▸ hm.backlog rq))) hne)
    hm.bkeys

theorem W.same {rqs : List (List Nat)} {T : List Nat} {s s' : State} (h : W rqs T s)
    (hr : s'.running = s.running) (hb : s'.backlog = s.backlog) (hk : s'.bkeys = s.bkeys) (hq : s'.rqs = s.rqs) :
    W rqs T s' :=
  h.shrink (fun _ => hb ▸ List.Sublist.refl _) (fun r h' => ⟨r, hr ▸ h', rfl, rfl⟩) hq
    (fun rq hne => hk ▸ h.1.keys rq (hb ▸ hne)) (fun _ h' => hk ▸ h')

theorem sublist_setBacklog {s : State} {rq : Nat} {l : List Task} (hl : l.Sublist (s.backlog rq)) :
    ∀ r, ((setBacklog s rq l).backlog r).Sublist (s.backlog r) := by
  intro r
  rw [setBacklog_backlog]
  split
  · rename_i h; subst h; exact hl
  · exact List.Sublist.refl _

theorem W.set_backlog {rqs : List (List Nat)} {T : List Nat} {s : State} (h : W rqs T s) {rq : Nat} {l : List Task}
    (hl : l.Sublist (s.backlog rq)) : W rqs T (setBacklog s rq l) :=
  h.shrink (sublist_setBacklog hl) (fun r hr => ⟨r, hr, rfl, rfl⟩) rfl
    (by
      intro r hr
      rw [setBacklog_backlog] at hr
      split at hr
      · rename_i heq; subst heq
        apply h.1.keys
        intro hnil
        rw [hnil] at hl
        exact hr (List.sublist_nil.mp hl)
      · exact h.1.keys r hr)
    (fun _ hr => hr)

theorem W.start {rqs : List (List Nat)} {T : List Nat} {s : State} (h : W rqs T s) {x : Task} {rv : Nat} (hn : Nat)
    (hf : Fresh x.id s) (hx : x.id ∉ T) (hreg : ∃ vs, s.rqs[x.rq]? = some vs ∧ rv < vs.length) :
    W rqs T (started s x rv hn) := by
  have hmem : ∀ {P : Running → Prop}, (∀ r ∈ s.running, P r) → P { task := x, rv := rv, h := hn } →
      ∀ r ∈ (started s x rv hn).running, P r := by
    intro P h1 h2 r hr
    rcases List.mem_append.mp hr with hr | hr
    · exact h1 r hr
    · exact List.mem_singleton.mp hr ▸ h2
  refine ⟨⟨hmem h.1.runRq hreg, h.1.blRq, h.1.keyRq, h.1.keys, hmem h.1.disj hf.2, h.1.blNodup, h.1.blCross⟩,
    h.2.1, fun t ht => ⟨hmem (h.2.2 t ht).1 fun heq => hx (heq ▸ ht), (h.2.2 t ht).2⟩⟩

theorem WWF.pop_fresh {s : State} (h : WWF s) {rq : Nat} {x : Task} {rest : List Task}
    (hb : s.backlog rq = x :: rest) : Fresh x.id (setBacklog s rq rest) := by
  have hx : x ∈ s.backlog rq := by rw [hb]; exact List.mem_cons_self
  refine ⟨?_, ?_⟩
  · intro r hr heq
    exact h.disj r hr rq x hx heq.symm
  · intro r y hy
    rw [setBacklog_backlog] at hy
    split at hy
    · rename_i heq; subst heq
      have hn := h.blNodup r
      rw [hb] at hn
      simp only [List.map_cons, List.nodup_cons, List.mem_map] at hn
      intro heq
      exact hn.1 ⟨y, hy, heq⟩
    · rename_i hne
      intro heq
      exact hne (h.blCross r rq y x hy hx heq)

def EntryReg (rqs : List (List Nat)) (e : Entry) : Prop :=
  ∃ vs, rqs[e.task.rq]? = some vs ∧ ∀ rv, e.rv = some rv → rv < vs.length

theorem W.push {rqs : List (List Nat)} {T : List Nat} {s : State} (h : W rqs T s) {x : Task}
    (hreg : ∃ vs, s.rqs[x.rq]? = some vs) (hf : Fresh x.id s) (hx : x.id ∉ T) : W rqs T (pushed s x) := by
  have hmem : ∀ {rq y}, y ∈ (pushed s x).backlog rq → (rq = x.rq ∧ y = x) ∨ y ∈ s.backlog rq := by
    intro rq y hy
    simp only [pushed, setBacklog_backlog] at hy
    split at hy
    · rename_i heq
      subst heq
      exact (List.mem_cons.mp hy).imp (fun h => ⟨rfl, h⟩) id
    · exact Or.inr hy
  have hw := h.1
  refine ⟨⟨hw.runRq, fun rq y hy => ?_, fun rq hrq => ?_, fun rq hne => ?_, fun r hr rq y hy => ?_, fun rq => ?_,
    fun rq1 rq2 y1 y2 h1 h2 heq => ?_⟩, h.2.1, fun t ht => ⟨(h.2.2 t ht).1, fun rq y hy => ?_⟩⟩
  · rcases hmem hy with ⟨rfl, rfl⟩ | hy
    · rfl
    · exact hw.blRq rq y hy
  · simp only [pushed] at hrq
    split at hrq
    · exact hw.keyRq rq hrq
    · rcases List.mem_cons.mp hrq with rfl | hrq
      · exact hreg
      · exact hw.keyRq rq hrq
  · simp only [pushed, setBacklog_backlog] at hne ⊢
    split at hne
    · rename_i heq
      subst heq
      split
      · assumption
      · exact List.mem_cons_self
    · have := hw.keys rq hne
      split
      · exact this
      · exact List.mem_cons_of_mem _ this
  · rcases hmem hy with ⟨rfl, rfl⟩ | hy
    · exact fun heq => hf.1 r hr heq.symm
    · exact hw.disj r hr rq y hy
  · simp only [pushed, setBacklog_backlog]
    split
    · simp only [List.map_cons, List.nodup_cons, List.mem_map]
      exact ⟨fun ⟨y, hy, heq'⟩ => hf.2 _ y hy heq', hw.blNodup _⟩
    · exact hw.blNodup rq
  · rcases hmem h1 with ⟨rfl, rfl⟩ | h1' <;> rcases hmem h2 with ⟨rfl, rfl⟩ | h2'
    · rfl
    · exact absurd heq.symm (hf.2 rq2 y2 h2')
    · exact absurd heq (hf.2 rq1 y1 h1')
    · exact hw.blCross rq1 rq2 y1 y2 h1' h2' heq
  · rcases hmem hy with ⟨rfl, rfl⟩ | hy
    · exact fun heq => hx (heq ▸ ht)
    · exact (h.2.2 t ht).2 rq y hy

theorem W.tail {rqs : List (List Nat)} {t : Nat} {T : List Nat} {s : State} (h : W rqs (t :: T) s) : W rqs T s :=
  ⟨h.1, h.2.1, fun t' ht' => h.2.2 t' (List.mem_cons_of_mem _ ht')⟩

/-- between two entries of a message that satisfies the contract: `W` for the ids still to come, which are pairwise
different and name registered classes and variants -/
def WIdle (rqs : List (List Nat)) (es : List Entry) (a : Acc) : Prop :=
  W rqs (es.map (·.task.id)) a.s ∧ (es.map (·.task.id)).Nodup ∧ ∀ e ∈ es, EntryReg rqs e

/-- … and while an allocation is in flight: it is for a registered variant of the class whose backlog it is offered to,
and the task in hand is held nowhere, is not to come, and is of a registered class with that variant -/
def WMode (rqs : List (List Nat)) : Mode → Acc → Prop
  | .idle es, a => WIdle rqs es a
  | .hand es rq rv _ _ x, a => WIdle rqs es a ∧ (∃ vs, rqs[rq]? = some vs ∧ rv < vs.length) ∧ Fresh x.id a.s ∧
      x.id ∉ es.map (·.task.id) ∧ ∃ vs, rqs[x.rq]? = some vs ∧ rv < vs.length
  | .flight es rq rv _, a => WIdle rqs es a ∧ ∃ vs, rqs[rq]? = some vs ∧ rv < vs.length

theorem WMode.mv {rqs : List (List Nat)} {m m' : Mode} {a a' : Acc} (hm : Mv m a m' a') (hw : WMode rqs m a) :
    WMode rqs m' a' := by
  -- the entry that leaves the list: its id was fresh, is not among the others, its class is registered
  have head : ∀ {e : Entry} {es : List Entry} {a : Acc}, WIdle rqs (e :: es) a →
      (W rqs (es.map (·.task.id)) a.s ∧ (es.map (·.task.id)).Nodup ∧ ∀ e ∈ es, EntryReg rqs e) ∧
        Fresh e.task.id a.s ∧ e.task.id ∉ es.map (·.task.id) ∧ EntryReg rqs e := by
    intro e es a ⟨h1, h2, h3⟩
    have hnd := List.nodup_cons.mp h2
    exact ⟨⟨h1.tail, hnd.2, fun e' he' => h3 e' (List.mem_cons_of_mem _ he')⟩, h1.2.2 _ List.mem_cons_self, hnd.1,
      h3 e List.mem_cons_self⟩
  cases hm with
  | push =>
    obtain ⟨⟨h1, h2, h3⟩, hf, hT, vs, hvs, _⟩ := head hw
    exact ⟨h1.push ⟨vs, h1.2.1 ▸ hvs⟩ hf hT, h2, h3⟩
  | block =>
    obtain ⟨⟨h1, h2, h3⟩, -⟩ := head hw
    exact ⟨h1.same (insertBlocked_running ..) (insertBlocked_backlog ..) (insertBlocked_bkeys ..) (insertBlocked_rqs ..),
      h2, h3⟩
  | alloc hrv =>
    obtain ⟨⟨h1, h2, h3⟩, hf, hT, vs, hvs, hlt⟩ := head hw
    exact ⟨⟨h1.same rfl rfl rfl rfl, h2, h3⟩, ⟨vs, hvs, hlt _ hrv⟩, hf, hT, vs, hvs, hlt _ hrv⟩
  | reject | fail => exact ⟨hw.1, hw.2.1⟩
  | start =>
    obtain ⟨⟨h1, h2, h3⟩, -, hf, hT, hreg⟩ := hw
    exact ⟨h1.start _ hf hT (h1.2.1 ▸ hreg), h2, h3⟩
  | @pop a _ rq _ _ x rest hbl =>
    obtain ⟨⟨h1, h2, h3⟩, hreg⟩ := hw
    have hx : x ∈ a.s.backlog rq := hbl ▸ List.mem_cons_self
    exact ⟨⟨h1.set_backlog (hbl ▸ List.sublist_cons_self x rest), h2, h3⟩, hreg, h1.1.pop_fresh hbl,
      fun hin => (h1.2.2 _ hin).2 rq x hx rfl, h1.1.blRq rq x hx ▸ hreg⟩
  | release =>
    obtain ⟨⟨h1, h2, h3⟩, -⟩ := hw
    exact ⟨(h1.set_backlog (List.nil_sublist _)).same rfl rfl rfl rfl, h2, h3⟩

theorem not_badStart {s : State} {x : Task} {rv : Nat} {site : PanicSite}
    (hreg : ∃ vs, s.rqs[x.rq]? = some vs ∧ rv < vs.length) (hrun : ∀ r ∈ s.running, r.task.id ≠ x.id) :
    ¬ BadStart s x rv (.panic site) := by
  rintro (h | ⟨_, h⟩)
  · obtain ⟨mt, hmt⟩ := minTime_ok_iff.mpr hreg
    rw [hmt] at h; cases h
  · rw [← Bool.not_eq_false, isRunning_false_iff] at h
    exact h hrun

theorem prefillLoop_noPanic {rq rv h : Nat} {bl : List Task} {a : Acc} {site : PanicSite}
    (hs : prefillLoop rq rv h bl a = .error (.panic site)) (hb : a.s.backlog rq = bl) (hw : WWF a.s)
    (hreg : ∃ vs, a.s.rqs[rq]? = some vs ∧ rv < vs.length) : False := by
  subst hb
  obtain ⟨x, hx, hbad⟩ := prefillLoop_error _ hs
  exact not_badStart (hw.blRq rq x hx ▸ hreg) (fun r hr heq => hw.disj r hr rq x hx heq.symm) hbad

theorem computeEntry_noPanic {a : Acc} {e : Entry} (hw : WWF a.s) (he : EntryReg a.s.rqs e)
    (hf : Fresh e.task.id a.s) : NoPanic (computeEntry a e) := by
  intro site hs
  obtain ⟨vs, hvs, hlt⟩ := he
  rcases computeEntry_error hs with h | ⟨rv, hrv, x, hx, hbad⟩
  · cases h
  · rcases List.mem_cons.mp hx with rfl | hx
    · exact not_badStart ⟨vs, hvs, hlt rv hrv⟩ hf.1 hbad
    · exact not_badStart (hw.blRq _ x hx ▸ ⟨vs, hvs, hlt rv hrv⟩)
        (fun r hr heq => hw.disj r hr _ x hx heq.symm) hbad

theorem computeEntries_WWF (es : List Entry) {a : Acc}
    (hw : WWF a.s) (hreg : ∀ e ∈ es, EntryReg a.s.rqs e) (hnd : (es.map (·.task.id)).Nodup)
    (hfr : ∀ e ∈ es, Fresh e.task.id a.s) :
    NoPanic (computeEntries es a) ∧ ∀ a', computeEntries es a = .ok a' → WWF a'.s := by
  have h0 : WIdle a.s.rqs es a :=
    ⟨⟨hw, rfl, fun t ht => by obtain ⟨e, he, rfl⟩ := List.mem_map.mp ht; exact hfr e he⟩, hnd, hreg⟩
  refine ⟨fun site hs => ?_, fun a' ha =>
    ((computeEntries_path es ha).preserves WMode.mv (m := .idle es) (m' := .idle []) h0).1.1⟩
  obtain ⟨e, es', a1, hp, he⟩ := computeEntries_error es hs
  have hp : WIdle a.s.rqs (e :: es') a1 := hp.preserves WMode.mv (m := .idle es) (m' := .idle (e :: es')) h0
  exact computeEntry_noPanic hp.1.1 (hp.1.2.1 ▸ hp.2.2 e List.mem_cons_self) (hp.1.2.2 _ List.mem_cons_self) site he

end HqModel.Worker
