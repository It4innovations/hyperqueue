import HqModel.Lemmas.SysWInv
import HqModel.Lemmas.CoreNoPanicDefs
import HqModel.Lemmas.CoreDescStep
/-!
The SECOND pipeline predicate `PX` — what `PipeOk` does not say in a `hot` view, and the variant of a pending `run` — and
the two predicates carried TOGETHER (`Pipe2`, `Rec2`, `WInv2`): a step of the worker enters as `WStep ∧ WStep2`, a server
action as ONE relation per pair, `Fgn` or `Ownd e`. From both, the worker protocol `Core.UpdNP` of the update at the head
of a worker's stream, up to `RunIdx`, which the worker model M2 does not model (`UpdNPw`, `updNPw_of_head`).
-/
namespace HqModel.Core

/-- `UpdNP` without its `RunIdx` conjuncts: the worker exists; the message is about a task the core does not know,
or `Running t rv`: Assigned to `w` with `rv` / Prefilled on `w` / Retracting from `w` / multi-node root `w`;
`Finished t`: Running on `w` / multi-node root `w`; `Failed t`: held by `w`; `Reject t`: Assigned / Prefilled on `w` /
Retracting / multi-node. -/
def UpdNPw (s : State) (w : Nat) (u : Update) : Prop :=
  (s.worker? w).isSome = true ∧
  match u with
  | .running t rv | .runningPrefilled t rv =>
    (match s.task? t with
     | none => True
     | some task =>
       match task.state with
       | .assigned w' rv' => w' = w ∧ rv' = rv
       | .prefilled w' => w' = w
       | .retracting w' => w' = w
       | .runningMN ws => ws.head? = some w
       | _ => False)
  | .finished t =>
    (match s.task? t with
     | none => True
     | some task =>
       match task.state with
       | .running w' _ => w' = w
       | .runningMN ws => ws.head? = some w
       | _ => False)
  | .failed t =>
    (match s.task? t with
     | none => True
     | some task =>
       match task.state with
       | .assigned w' _ => w' = w
       | .running w' _ => w' = w
       | .prefilled w' => w' = w
       | .retracting w' => w' = w
       | .runningMN ws => ws.head? = some w
       | _ => False)
  | .reject t _ =>
    (match s.task? t with
     | none => True
     | some task =>
       match task.state with
       | .assigned _ _ => True
       | .prefilled w' => w' = w
       | .retracting _ => True
       | .runningMN _ => True
       | _ => False)
  | .enable _ _ => True

instance (s : State) (w : Nat) (u : Update) : Decidable (UpdNPw s w u) := by
  unfold UpdNPw
  refine @instDecidableAnd _ _ inferInstance ?_
  repeat' split
  all_goals infer_instance

/-- the `RunIdx` conjuncts of `UpdNP` alone -/
def UpdRunIdx (s : State) (w : Nat) (u : Update) : Prop :=
  match u with
  | .running t rv | .runningPrefilled t rv =>
    (match s.task? t with
     | none => True
     | some task =>
       match task.state with
       | .prefilled _ => RunIdx s w task.rq rv
       | .retracting _ => RunIdx s w task.rq rv
       | _ => True)
  | _ => True

instance (s : State) (w : Nat) (u : Update) : Decidable (UpdRunIdx s w u) := by
  unfold UpdRunIdx
  repeat' split
  all_goals infer_instance

theorem updNP_iff (s : State) (w : Nat) (u : Update) : UpdNP s w u ↔ UpdNPw s w u ∧ UpdRunIdx s w u := by
  unfold UpdNP UpdNPw UpdRunIdx
  rw [and_assoc]
  refine and_congr_right fun _ => ?_
  have pad : ∀ {p : Prop}, p ↔ p ∧ True := ⟨fun h => ⟨h, trivial⟩, And.left⟩
  cases u with
  | running t rv | runningPrefilled t rv =>
    dsimp only
    cases s.task? t with
    | none => exact pad
    | some task =>
      dsimp only
      cases task.state <;> first | exact Iff.rfl | exact pad
  | _ => exact pad

theorem UpdatesOk.and_iff {P Q R : State → Nat → Update → Prop} (hpqr : ∀ s w u, P s w u ↔ Q s w u ∧ R s w u) {w : Nat}
    (us : List Update) : ∀ (s : State) (rets : List (List TaskId)),
    UpdatesOk P s w us rets ↔ UpdatesOk Q s w us rets ∧ UpdatesOk R s w us rets := by
  induction us with
  | nil => intro _ _; simp [UpdatesOk]
  | cons u rest ih =>
    intro s rets
    simp only [UpdatesOk]
    cases h : s.updateState w u rets with
    | error e =>
      simp only [and_true]
      exact hpqr s w u
    | ok r =>
      obtain ⟨s1, rets'⟩ := r
      simp only
      rw [hpqr s w u, ih s1 rets']
      constructor
      · rintro ⟨⟨a, b⟩, c, d⟩; exact ⟨⟨a, c⟩, b, d⟩
      · rintro ⟨⟨a, c⟩, b, d⟩; exact ⟨⟨a, b⟩, c, d⟩

/-- **the worker protocol of a batch = its derivable part + its `RunIdx` part** -/
theorem updatesOk_updNP_iff (s : State) (w : Nat) (us : List Update) (rets : List (List TaskId)) :
    UpdatesOk UpdNP s w us rets ↔ UpdatesOk UpdNPw s w us rets ∧ UpdatesOk UpdRunIdx s w us rets :=
  UpdatesOk.and_iff updNP_iff us s rets

end HqModel.Core

namespace HqModel.SysW.NPP
open HqModel HqModel.Core

theorem findWorker_isSome_iff (ws : List Core.Worker) (x : Nat) :
    (Core.findWorker ws x).isSome = true ↔ x ∈ ws.map (·.id) := by
  induction ws with
  | nil => simp [Core.findWorker]
  | cons y ys ih =>
    simp only [Core.findWorker, List.map_cons, List.mem_cons]
    split
    · rename_i e; simp [e]
    · rename_i e
      rw [ih]
      constructor
      · exact .inr
      · rintro (h | h)
        · exact (e h.symm).elim
        · exact h

theorem worker_keep_of_ids {s s' : Core.State} {x : Nat} (h : x ∈ s.workers.map (·.id) → x ∈ s'.workers.map (·.id))
    (hx : (s.worker? x).isSome = true) : (s'.worker? x).isSome = true :=
  (findWorker_isSome_iff _ _).mpr (h ((findWorker_isSome_iff _ _).mp hx))

theorem upd1_worker_keep {c c1 : Core.State} {w : Nat} {u : Core.Update} {rets rets1 : List (List TaskId)} {o1 : Core.Out}
    (h : c.upd1 w u rets = .ok (c1, o1, rets1)) (x : Nat) (hx : (c.worker? x).isSome = true) :
    (c1.worker? x).isSome = true :=
  worker_keep_of_ids (fun hm => (upd1_desc h).frame.wids ▸ hm) hx

theorem step_worker_keep {c c' : Core.State} {op : Core.Op} {o : Core.Out} (h : Core.step c op = .ok (c', o)) (x : Nat)
    (hx : (c.worker? x).isSome = true) (hne : ∀ w r f ord rets, op = .removeWorker w r f ord rets → x ≠ w) :
    (c'.worker? x).isSome = true := by
  refine worker_keep_of_ids (fun hm => ?_) hx
  rw [(step_desc h).wids]
  obtain ⟨wk, hwk, rfl⟩ := List.mem_map.mp hm
  refine List.mem_append_left _ (List.mem_map_of_mem (List.mem_filter.mpr ⟨hwk, ?_⟩))
  cases op with
  | removeWorker w r f ord rets => simpa [Op.keeps] using hne w r f ord rets rfl
  | _ => rfl

theorem newWorker_worker_new {c c' : Core.State} {wk : Core.Worker} {o : Core.Out}
    (h : Core.step c (.newWorker wk) = .ok (c', o)) : (c'.worker? wk.id).isSome = true := by
  refine (findWorker_isSome_iff _ _).mpr ?_
  rw [(step_desc h).wids]
  exact List.mem_append_right _ (List.mem_singleton.mpr rfl)

/-- the core has `t` Running on `w` -/
def runsOn (c : Core.State) (w : Nat) (t : TaskId) : Prop := ∃ rv, stOf c.tasks t = some (.running w rv)

/-- for one worker record and one task, with `R` = "the core has the task Running on this worker": (`run`) then no
`ComputeTasks` item for the task is on its way to the worker, the pending events contain neither a `run` nor a `rej`,
and the task is in no backlog (so M2 emits neither again: they come only from `try_start_task` of a compute item or of a
backlog entry, and from the backlog rejects of the retract check); (`head`) if the pending events start with `run rv'` and the
view is `asg rv` / `pre` (the core has not processed that `run` yet), the REST is `Calm`, the task is in no backlog, and
in an `asg rv` view `rv' = rv` (the worker started the task with the assigned variant) -/
structure PX (R : Prop) (v : V) (cs : List (Option Nat)) (P : List Ev) (ws : Worker.State) (n : Nat) : Prop where
  run : R → cs = [] ∧ Calm P ∧ NB ws n
  head : ∀ rv' rest, P = .run rv' :: rest → (v = .pre ∨ ∃ rv, v = .asg rv) →
    Calm rest ∧ NB ws n ∧ ∀ rv, v = .asg rv → rv' = rv

theorem PX.of_quiet {R : Prop} {v : V} {cs : List (Option Nat)} {P : List Ev} {ws : Worker.State} {n : Nat}
    (h : Quiet cs P ws n) : PX R v cs P ws n := by
  obtain ⟨h1, h2, h3⟩ := h
  exact ⟨fun _ => ⟨h1, by rw [h2]; exact Calm.nil, NB.of_free h3⟩, fun rv' rest hp _ => by rw [h2] at hp; cases hp⟩

theorem PX.deliver {R : Prop} {v : V} {cm cs' : List (Option Nat)} {P E : List Ev} {ws ws' : Worker.State} {n : Nat}
    (hx : PX R v (cm ++ cs') P ws n) (hp : PipeOk v (cm ++ cs') P ws n) (st : WStep cm E ws ws' n)
    (st2 : WStep2 cm E ws ws' n) : PX R v cs' (P ++ E) ws' n := by
  constructor
  · intro hR
    obtain ⟨h1, h2, h3⟩ := hx.run hR
    obtain ⟨e1, e2⟩ := List.append_eq_nil_iff.mp h1
    obtain ⟨a, b⟩ := st2.nb h3 e1
    exact ⟨e2, h2.append b, a⟩
  · intro rv' rest hE hv
    -- the events before the step start with `run`
    have old : ∀ rv0 rest0, P = .run rv0 :: rest0 → cm = [] →
        Calm rest ∧ NB ws' n ∧ ∀ rv, v = .asg rv → rv' = rv := by
      intro rv0 rest0 hP e1
      rw [hP] at hE
      simp only [List.cons_append, List.cons.injEq, Ev.run.injEq] at hE
      obtain ⟨e, er⟩ := hE
      subst e
      obtain ⟨a, b, c⟩ := hx.head rv0 rest0 hP hv
      obtain ⟨a2, b2⟩ := st2.nb b e1
      exact ⟨er ▸ a.append b2, a2, c⟩
    cases v with
    | hot => rcases hv with hv | ⟨_, hv⟩ <;> cases hv
    | quiet => rcases hv with hv | ⟨_, hv⟩ <;> cases hv
    | asg rv =>
      rcases hp with ⟨h1, h2, h3⟩ | ⟨h1, hd⟩
      · subst h2
        simp only [List.nil_append] at hE
        rcases List.append_eq_singleton_iff.mp h1 with ⟨e1, _⟩ | ⟨e1, _⟩
        · obtain ⟨a, _⟩ := st.free h3 e1
          rw [a] at hE; cases hE
        · obtain ⟨a, b, c⟩ := st2.asg rv h3 e1 rv' rest hE
          exact ⟨b ▸ Calm.nil, c, fun rv0 e => by cases e; exact a⟩
      · obtain ⟨e1, _⟩ := List.append_eq_nil_iff.mp h1
        rcases hd with ⟨rv0, rest0, hP⟩ | ⟨rest0, hP⟩ | ⟨hP, hf⟩
        · exact old rv0 rest0 hP e1
        · rw [hP] at hE; cases hE
        · obtain ⟨a, _⟩ := st.free hf e1
          rw [hP, a] at hE; cases hE
    | pre =>
      have fin : RunLast E ws' n → P = [] → Calm rest ∧ NB ws' n ∧ ∀ rv, V.pre = .asg rv → rv' = rv := by
        intro hl hP
        subst hP
        simp only [List.nil_append] at hE
        obtain ⟨a, b⟩ := hl rv' rest hE
        exact ⟨a ▸ Calm.nil, b, fun _ e => by cases e⟩
      rcases hp with ⟨h1, h2, h3⟩ | ⟨h1, hd⟩
      · rcases List.append_eq_singleton_iff.mp h1 with ⟨e1, _⟩ | ⟨e1, _⟩
        · obtain ⟨a, _⟩ := st.free h3 e1
          rw [h2, a] at hE; cases hE
        · exact fin (st2.pre h3 e1) h2
      · obtain ⟨e1, _⟩ := List.append_eq_nil_iff.mp h1
        rcases hd with ⟨hP, hb | hf⟩ | ⟨rv0, rest0, hP⟩ | ⟨rest0, hP⟩ | ⟨o, hP, hf⟩ | ⟨hP, hf⟩
        · exact fin (st2.back hb e1) hP
        · obtain ⟨a, _⟩ := st.free hf e1
          rw [hP, a] at hE; cases hE
        · exact old rv0 rest0 hP e1
        · rw [hP] at hE; cases hE
        · obtain ⟨a, _⟩ := st.free hf e1
          rw [hP, a] at hE; cases hE
        · obtain ⟨a, _⟩ := st.free hf e1
          rw [hP, a] at hE; cases hE

/-- **a foreign server action** (`hr`: a task Running on the worker afterwards was so before and nothing was sent for
it; `f`: needed only when something is pending) -/
theorem PX.foreign {R R' : Prop} {v v' : V} {cs cm : List (Option Nat)} {P : List Ev} {ws : Worker.State} {n : Nat}
    (hx : PX R v cs P ws n) (hq : v = .quiet → P = []) (f : P ≠ [] → Foreign v cm v') (hr : R' → R ∧ cm = []) :
    PX R' v' (cs ++ cm) P ws n := by
  constructor
  · intro hR'
    obtain ⟨hR, e⟩ := hr hR'
    obtain ⟨a, b, c⟩ := hx.run hR
    exact ⟨by rw [a, e]; rfl, b, c⟩
  · intro rv' rest hP hv
    obtain ⟨_, f2⟩ := f (by rw [hP]; simp)
    rcases f2 with e | ⟨e, _⟩ | ⟨e, _⟩
    · rw [e] at hv; rcases hv with hv | ⟨_, hv⟩ <;> cases hv
    · rw [e] at hv ⊢; exact hx.head rv' rest hP hv
    · have := hq e
      rw [hP] at this; cases this

/-- **the server processes the head event `e` of the worker's own stream** (`hr`: the task is Running on the worker
afterwards only if it was before — and nothing was sent —, or `e` is a `run` that found it Assigned / Prefilled /
Retracting there) -/
theorem PX.own {R R' : Prop} {e : Ev} {v v' : V} {cs cm : List (Option Nat)} {P : List Ev} {ws : Worker.State} {n : Nat}
    (hx : PX R v cs (e :: P) ws n) (hp : PipeOk v cs (e :: P) ws n) (f : Own e v cm v')
    (hr : R' → (R ∧ cm = []) ∨ ((∃ rv0, e = .run rv0) ∧ (v = .pre ∨ ∃ rv0, v = .asg rv0) ∧ cm = [])) :
    PX R' v' (cs ++ cm) P ws n := by
  constructor
  · intro hR'
    rcases hr hR' with ⟨hR, ecm⟩ | ⟨⟨rv0, he⟩, hv, ecm⟩
    · obtain ⟨a, b, c⟩ := hx.run hR
      exact ⟨by rw [a, ecm]; rfl, b.tail, c⟩
    · subst he
      obtain ⟨a, b, _⟩ := hx.head rv0 P rfl hv
      have hcs : cs = [] := by
        rcases hv with hv | ⟨rv1, hv⟩
        · subst hv
          rcases hp with ⟨_, h2, _⟩ | ⟨h1, _⟩
          · cases h2
          · exact h1
        · subst hv
          rcases hp with ⟨_, h2, _⟩ | ⟨h1, _⟩
          · cases h2
          · exact h1
      exact ⟨by rw [hcs, ecm]; rfl, a, b⟩
  · intro rv' rest hP hv
    exfalso
    obtain ⟨f1, f2⟩ := f
    have nothot : v' ≠ .hot := by
      intro e'; rw [e'] at hv; rcases hv with hv | ⟨_, hv⟩ <;> cases hv
    cases v with
    | hot => exact nothot (f1 rfl)
    | quiet => obtain ⟨_, h2, _⟩ := hp; cases h2
    | asg rv =>
      rcases hp with ⟨_, h2, _⟩ | ⟨_, hd⟩
      · cases h2
      · rcases hd with ⟨rv0, rest0, hp0⟩ | ⟨rest0, hp0⟩ | ⟨hp0, _⟩
        · cases hp0; exact nothot f2
        · cases hp0; exact nothot f2
        · rw [hP] at hp0; cases hp0
    | pre =>
      rcases hp with ⟨_, h2, _⟩ | ⟨_, hd⟩
      · cases h2
      · rcases hd with ⟨hp0, _⟩ | ⟨rv0, rest0, hp0⟩ | ⟨rest0, hp0⟩ | ⟨o, hp0, _⟩ | ⟨hp0, _⟩
        · cases hp0
        · cases hp0; exact nothot f2
        · cases hp0; exact nothot f2
        · rw [hP] at hp0; cases hp0
        · rw [hP] at hp0; cases hp0

def PipeX (c : Core.State) (x : WState) (t : TaskId) : Prop :=
  PX (runsOn c x.id t) (view c x.id t) (comps t x.s2w) (pend t x.w2s) x.w (enc t)

structure XInv (s : State) : Prop where
  /-- the core knows every worker that has a record -/
  known : ∀ x ∈ s.workers, (s.sys.core.worker? x.id).isSome = true
  pipe : ∀ x ∈ s.workers, ∀ t, PipeX s.sys.core x t

structure WInv2 (s : State) : Prop where
  winv : WInv s
  xinv : XInv s

theorem PipeX.congr {c c' : Core.State} {x x' : WState} {t : TaskId} (h : PipeX c x t)
    (hr : runsOn c' x'.id t ↔ runsOn c x.id t) (hv : view c' x'.id t = view c x.id t)
    (hs : comps t x'.s2w = comps t x.s2w) (hp : pend t x'.w2s = pend t x.w2s) (hw : x'.w = x.w) : PipeX c' x' t := by
  unfold PipeX at h ⊢
  rw [hv, hs, hp, hw]
  exact ⟨fun r => h.run (hr.mp r), h.head⟩

theorem PipeX.worker {c : Core.State} {U : List TaskId} {x x' : WState} {t : TaskId} {cm : List (Option Nat)}
    {outs : List Worker.Out} (hp : Pipe c U x t) (hx : PipeX c x t) (hid : x'.id = x.id)
    (hs2w : comps t x.s2w = cm ++ comps t x'.s2w) (hw2s : x'.w2s = x.w2s ++ outs.filterMap outMsg)
    (st : WStep cm (evsOuts (enc t) outs) x.w x'.w (enc t))
    (st2 : WStep2 cm (evsOuts (enc t) outs) x.w x'.w (enc t)) : PipeX c x' t := by
  have hpe : pend t x'.w2s = pend t x.w2s ++ evsOuts (enc t) outs := by rw [hw2s, pend_append, pend_outs]
  by_cases hu : t ∈ U
  · unfold PipeX at hx ⊢
    rw [hid, hpe]
    have h1 := hp.1 hu
    rw [hs2w] at hx h1
    exact hx.deliver h1 st st2
  · have hq := hp.2 hu
    rw [hs2w] at hq
    have := hq.deliver st
    rw [← hpe] at this
    exact PX.of_quiet this

theorem PipeX.srv {c c' : Core.State} {U : List TaskId} {x : WState} {t : TaskId} {msgs : List Core.Msg}
    (hp : Pipe c U x t) (hx : PipeX c x t)
    (hf : t ∈ U → Foreign (view c x.id t) (cfor x.id t msgs) (view c' x.id t))
    (hr : RunKeep c c' x.id t (cfor x.id t msgs)) : PipeX c' (route1 x msgs) t := by
  unfold PipeX at hx ⊢
  show PX _ (view c' x.id t) (comps t (route1 x msgs).s2w) (pend t x.w2s) x.w (enc t)
  rw [comps_route1]
  have hnil : t ∉ U → pend t x.w2s = [] := fun hu => (hp.2 hu).2.1
  refine hx.foreign ?_ ?_ ?_
  · intro hv
    by_cases hu : t ∈ U
    · have := hp.1 hu
      rw [hv] at this
      exact this.2.1
    · exact hnil hu
  · intro hne
    apply hf
    apply Classical.byContradiction
    intro hu
    exact hne (hnil hu)
  · rintro ⟨rv, h⟩
    obtain ⟨a, b⟩ := hr rv h
    exact ⟨⟨rv, a⟩, b⟩

theorem PipeX.own {c c' : Core.State} {U : List TaskId} {x x' : WState} {t : TaskId} {e : Ev} {msgs : List Core.Msg}
    (hp : Pipe c U x t) (hx : PipeX c x t) (hid : x'.id = x.id) (hw : x'.w = x.w) (hs2w : x'.s2w = x.s2w)
    (hw2s : pend t x.w2s = e :: pend t x'.w2s)
    (hf : Own e (view c x.id t) (cfor x.id t msgs) (view c' x.id t))
    (hr : RunOwn e c c' x.id t (cfor x.id t msgs)) : PipeX c' (route1 x' msgs) t := by
  have h1 := hp.1 (hp.head hw2s).1
  unfold PipeX at hx ⊢
  rw [hw2s] at h1 hx
  show PX (runsOn c' x'.id t) (view c' x'.id t) (comps t (route1 x' msgs).s2w) (pend t x'.w2s) x'.w (enc t)
  rw [comps_route1, hid, hw, hs2w]
  refine hx.own h1 hf ?_
  rintro ⟨rv, h⟩
  exact hr rv h

/-- the pipeline of worker record `x` for task `t` satisfies both predicates: `PipeOk` (`Pipe`; `U` = the ids submitted
so far) and `PX` (`PipeX`) -/
structure Pipe2 (c : Core.State) (U : List TaskId) (x : WState) (t : TaskId) : Prop where
  ok : Pipe c U x t
  x : PipeX c x t

/-- a worker record the core knows, with all its pipelines -/
structure Rec2 (c : Core.State) (U : List TaskId) (x : WState) : Prop where
  known : (c.worker? x.id).isSome = true
  pipe : ∀ t, Pipe2 c U x t

theorem WInv2.rec2 {s : State} (h : WInv2 s) {x : WState} (hx : x ∈ s.workers) : Rec2 s.sys.core s.submitted x :=
  ⟨h.xinv.known x hx, fun t => ⟨h.winv.pipe x hx t, h.xinv.pipe x hx t⟩⟩

theorem Pipe2.congr {c c' : Core.State} {U : List TaskId} {x x' : WState} {t : TaskId} (h : Pipe2 c U x t)
    (hr : runsOn c' x'.id t ↔ runsOn c x.id t) (hv : view c' x'.id t = view c x.id t)
    (hs : comps t x'.s2w = comps t x.s2w) (hp : pend t x'.w2s = pend t x.w2s) (hw : x'.w = x.w) : Pipe2 c' U x' t :=
  ⟨h.ok.congr hv hs hp hw, h.x.congr hr hv hs hp hw⟩

/-- the same record with another queue to the server that says the same about `t` -/
theorem Pipe2.requeue {c : Core.State} {U : List TaskId} {x : WState} {t : TaskId} (h : Pipe2 c U x t) {q : List W2S}
    (hp : pend t q = pend t x.w2s) : Pipe2 c U { x with w2s := q } t :=
  h.congr (x' := { x with w2s := q }) Iff.rfl rfl rfl hp rfl

theorem Pipe2.worker {c : Core.State} {U : List TaskId} {x x' : WState} {t : TaskId} {cm : List (Option Nat)}
    {outs : List Worker.Out} (h : Pipe2 c U x t) (hid : x'.id = x.id)
    (hs2w : comps t x.s2w = cm ++ comps t x'.s2w) (hw2s : x'.w2s = x.w2s ++ outs.filterMap outMsg)
    (st : WStep cm (evsOuts (enc t) outs) x.w x'.w (enc t) ∧ WStep2 cm (evsOuts (enc t) outs) x.w x'.w (enc t)) :
    Pipe2 c U x' t :=
  ⟨h.ok.worker hid hs2w hw2s st.1, h.x.worker h.ok hid hs2w hw2s st.1 st.2⟩

/-- **a foreign server action** (`U'` = the ids submitted afterwards), in the form that admits tasks the action adds -/
theorem Pipe2.srv' {c c' : Core.State} {U U' : List TaskId} {x : WState} {t : TaskId} {msgs : List Core.Msg}
    (h : Pipe2 c U x t) (hsubU : ∀ u ∈ U, u ∈ U') (hknown : stOf c.tasks t ≠ none → t ∈ U)
    (hf : t ∈ U → Foreign (view c x.id t) (cfor x.id t msgs) (view c' x.id t))
    (hfresh : stOf c.tasks t = none → (view c' x.id t = .quiet ∨ view c' x.id t = .hot) ∧ cfor x.id t msgs = [])
    (hr : RunKeep c c' x.id t (cfor x.id t msgs)) : Pipe2 c' U' (route1 x msgs) t :=
  ⟨h.ok.srv hsubU hknown hf hfresh, h.x.srv h.ok hf hr⟩

theorem Pipe2.srv {c c' : Core.State} {U U' : List TaskId} {x : WState} {t : TaskId} {msgs : List Core.Msg}
    (h : Pipe2 c U x t) (hsubU : ∀ u ∈ U, u ∈ U') (hknown : stOf c.tasks t ≠ none → t ∈ U)
    (hf : Fgn c c' msgs x.id t) : Pipe2 c' U' (route1 x msgs) t :=
  h.srv' hsubU hknown (fun _ => hf.view) (fun hn => ⟨fresh_of_foreign hf.view hn, hf.fresh hn⟩) hf.run

theorem Pipe2.own {c c' : Core.State} {U : List TaskId} {x x' : WState} {t : TaskId} {e : Ev} {msgs : List Core.Msg}
    (h : Pipe2 c U x t) (hid : x'.id = x.id) (hw : x'.w = x.w) (hs2w : x'.s2w = x.s2w)
    (hw2s : pend t x.w2s = e :: pend t x'.w2s) (hf : Ownd e c c' msgs x.id t) : Pipe2 c' U (route1 x' msgs) t :=
  ⟨h.ok.own hid hw hs2w hw2s hf.view, h.x.own h.ok hid hw hs2w hw2s hf.view hf.run⟩

theorem Pipe2.head {c : Core.State} {U : List TaskId} {x : WState} {t : TaskId} {e : Ev} {P : List Ev}
    (h : Pipe2 c U x t) (hp : pend t x.w2s = e :: P) :
    t ∈ U ∧ PipeOk (view c x.id t) (comps t x.s2w) (e :: P) x.w (enc t) ∧
      PX (runsOn c x.id t) (view c x.id t) (comps t x.s2w) (e :: P) x.w (enc t) :=
  let ⟨a, b⟩ := h.ok.head hp
  ⟨a, b, hp ▸ h.x⟩

/-- a fresh record: nothing in either queue, nothing held -/
theorem Pipe2.init {c : Core.State} {U : List TaskId} {w : Nat} {rqs : List (List Nat)} {rem : Option Nat} {t : TaskId}
    (hv : view c w t = .quiet ∨ view c w t = .hot) : Pipe2 c U { id := w, w := Worker.init rqs rem } t := by
  have hq : Quiet (comps t []) (pend t []) (Worker.init rqs rem) (enc t) := ⟨rfl, rfl, free_init _ _ _⟩
  refine ⟨⟨fun _ => ?_, fun _ => hq⟩, PX.of_quiet hq⟩
  show PipeOk (view c w t) _ _ _ _
  rcases hv with e | e <;> rw [e]
  · exact hq
  · trivial

/-- the states of a task at `w` -/
theorem owner_cases {st : Core.TS} {w : Nat} (h : owner st = some w) :
    (∃ rv, st = .assigned w rv) ∨ st = .prefilled w ∨ st = .retracting w ∨ (∃ rv, st = .running w rv) ∨
      ∃ rest, st = .runningMN (w :: rest) := by
  unfold owner at h
  split at h <;> cases h
  · exact .inl ⟨_, rfl⟩
  · exact .inr (.inl rfl)
  · exact .inr (.inr (.inl rfl))
  · exact .inr (.inr (.inr (.inl ⟨_, rfl⟩)))
  · exact .inr (.inr (.inr (.inr ⟨_, rfl⟩)))

/-- **`UpdNPw` of the update at the head of worker `w`'s stream**, from `PipeOk` and `PX` of the task it is about -/
theorem updNPw_of_head {c : Core.State} {w : Nat} {u : Core.Update} (hw : (c.worker? w).isSome = true)
    (hh : ∀ t e, evsOfUpd t u = [e] → ∃ cs P ws n,
      PipeOk (view c w t) cs (e :: P) ws n ∧ PX (runsOn c w t) (view c w t) cs (e :: P) ws n) :
    Core.UpdNPw c w u := by
  refine ⟨hw, ?_⟩
  -- the reported task `t0` with head event `e`: it is at `w`; a `fin` finds it hot, a `run` / `rej` not Running on `w`,
  -- a `run` of an Assigned task carries its variant
  have key : ∀ t0 e, evsOfUpd t0 u = [e] → ∀ task, c.task? t0 = some task →
      viewSt c w t0 task.state ≠ .quiet ∧
      (e = .fin → viewSt c w t0 task.state = .hot) ∧
      (isRR e = true → ∀ v, task.state ≠ .running w v) ∧
      (∀ rv rv', e = .run rv' → task.state = .assigned w rv → rv' = rv) := by
    intro t0 e he task ht
    obtain ⟨cs, P, ws, n, hp, hx⟩ := hh t0 e he
    rw [view_some (stOf_of_find ht)] at hp hx
    refine ⟨hp.head_ne_quiet, fun e' => by subst e'; exact hp.head_fin, fun hr v hs => ?_, fun rv rv' e' hs => ?_⟩
    · have hR : runsOn c w t0 := ⟨v, by rw [stOf_of_find ht, hs]⟩
      have := (hx.run hR).2.1.head
      rw [hr] at this; cases this
    · subst e'
      have hv : viewSt c w t0 task.state = .asg rv := by rw [hs]; exact if_pos rfl
      exact (hx.head rv' P rfl (.inr ⟨rv, hv⟩)).2.2 rv hv
  cases u with
  | running t0 rv | runningPrefilled t0 rv =>
    show match c.task? t0 with | none => True | some task => _
    cases ht : c.task? t0 with
    | none => trivial
    | some task =>
      obtain ⟨k1, _, k3, k4⟩ := key t0 (.run rv) (if_pos rfl) task ht
      rcases owner_cases (owner_of_viewSt_ne_quiet k1) with ⟨rv', hs⟩ | hs | hs | ⟨v, hs⟩ | ⟨rest, hs⟩ <;> simp only [hs, true_and]
      · exact (k4 rv' rv rfl hs).symm
      · exact (k3 rfl v hs).elim
      · rfl
  | finished t0 =>
    show match c.task? t0 with | none => True | some task => _
    cases ht : c.task? t0 with
    | none => trivial
    | some task =>
      obtain ⟨k1, k2, _, _⟩ := key t0 .fin (if_pos rfl) task ht
      have k2 := k2 rfl
      rcases owner_cases (owner_of_viewSt_ne_quiet k1) with ⟨rv', hs⟩ | hs | hs | ⟨v, hs⟩ | ⟨rest, hs⟩ <;> simp only [hs] <;> rw [hs] at k2
      · rw [viewSt, if_pos rfl] at k2; cases k2
      · rw [viewSt, if_pos rfl] at k2; cases k2
      · rw [viewSt, if_pos rfl] at k2; cases k2
      · rfl
  | failed t0 =>
    show match c.task? t0 with | none => True | some task => _
    cases ht : c.task? t0 with
    | none => trivial
    | some task =>
      obtain ⟨k1, _, _, _⟩ := key t0 .fail (if_pos rfl) task ht
      rcases owner_cases (owner_of_viewSt_ne_quiet k1) with ⟨rv', hs⟩ | hs | hs | ⟨v, hs⟩ | ⟨rest, hs⟩ <;> simp only [hs]
      rfl
  | reject t0 orv =>
    show match c.task? t0 with | none => True | some task => _
    cases ht : c.task? t0 with
    | none => trivial
    | some task =>
      obtain ⟨k1, _, k3, _⟩ := key t0 (.rej orv) (if_pos rfl) task ht
      rcases owner_cases (owner_of_viewSt_ne_quiet k1) with ⟨rv', hs⟩ | hs | hs | ⟨v, hs⟩ | ⟨rest, hs⟩ <;> simp only [hs]
      exact (k3 rfl v hs).elim
  | enable rq rv => trivial

end HqModel.SysW.NPP
