import HqModel.Lemmas.CoreInvIds
/-!
Views of the three containers the structural invariant talks about (task map, worker map, redirect table) and how the
primitive updates change them; `LS3`, the list → state invariant (what `Worker::sanity_check` asserts, without the
resource equation), with its frame lemma `LS3.frame`.
-/
namespace HqModel.Core

theorem findWorker_append (ws : List Worker) (w : Worker) (x : Nat) :
    findWorker (ws ++ [w]) x = match findWorker ws x with
      | some wk => some wk
      | none => if w.id = x then some w else none := by
  induction ws with
  | nil => simp [findWorker]
  | cons y ys ih =>
    simp only [List.cons_append, findWorker]
    split
    · rfl
    · exact ih

theorem findTask_append (ts : List Task) (t : Task) (x : TaskId) :
    findTask (ts ++ [t]) x = match findTask ts x with
      | some y => some y
      | none => if t.id = x then some t else none := by
  induction ts with
  | nil => simp [findTask]
  | cons y ys ih =>
    simp only [List.cons_append, findTask]
    split
    · rfl
    · exact ih

def wAsg (wk : Worker) : List TaskId := match wk.assign with | .sn a _ _ => a | .mn .. => []
def wPre (wk : Worker) : List TaskId := match wk.assign with | .sn _ _ p => p | .mn .. => []
def wMn (wk : Worker) : Option TaskId := match wk.assign with | .mn t _ _ => some t | .sn .. => none

def asgW (ws : List Worker) (w : Nat) : List TaskId := match findWorker ws w with | some wk => wAsg wk | none => []
def preW (ws : List Worker) (w : Nat) : List TaskId := match findWorker ws w with | some wk => wPre wk | none => []
def mnW (ws : List Worker) (w : Nat) : Option TaskId := match findWorker ws w with | some wk => wMn wk | none => none
def stOf (ts : List Task) (t : TaskId) : Option TS := (findTask ts t).map (·.state)

/-- what `asgW`, `preW`, `mnW` have in common: field `g` of the record of `w`, `d` for an unknown worker
(`asgW = viewW wAsg []`, `preW = viewW wPre []`, `mnW = viewW wMn none` by `rfl`: the `view_*` lemmas are used at them) -/
def viewW {α} (g : Worker → α) (d : α) (ws : List Worker) (w : Nat) : α :=
  match findWorker ws w with | some wk => g wk | none => d

theorem view_of_find {α} (g : Worker → α) (d : α) {ws : List Worker} {w : Nat} {wk : Worker}
    (h : findWorker ws w = some wk) : viewW g d ws w = g wk := by
  rw [viewW, h]

theorem asgW_of_find {ws : List Worker} {w : Nat} {wk : Worker} (h : findWorker ws w = some wk) : asgW ws w = wAsg wk :=
  view_of_find wAsg [] h
theorem preW_of_find {ws : List Worker} {w : Nat} {wk : Worker} (h : findWorker ws w = some wk) : preW ws w = wPre wk :=
  view_of_find wPre [] h
theorem mnW_of_find {ws : List Worker} {w : Nat} {wk : Worker} (h : findWorker ws w = some wk) : mnW ws w = wMn wk :=
  view_of_find wMn none h
/-- the views of a worker whose record is known: a single-node record shows its two sets, a multi-node record its task -/
theorem asgW_of_sn {ws : List Worker} {w : Nat} {wk : Worker} {A F P} (hw : findWorker ws w = some wk)
    (ha : wk.assign = .sn A F P) : asgW ws w = A := by rw [asgW_of_find hw, wAsg, ha]
theorem preW_of_sn {ws : List Worker} {w : Nat} {wk : Worker} {A F P} (hw : findWorker ws w = some wk)
    (ha : wk.assign = .sn A F P) : preW ws w = P := by rw [preW_of_find hw, wPre, ha]
theorem mnW_of_sn {ws : List Worker} {w : Nat} {wk : Worker} {A F P} (hw : findWorker ws w = some wk)
    (ha : wk.assign = .sn A F P) : mnW ws w = none := by rw [mnW_of_find hw, wMn, ha]
theorem asgW_of_mn {ws : List Worker} {w : Nat} {wk : Worker} {t r st} (hw : findWorker ws w = some wk)
    (ha : wk.assign = .mn t r st) : asgW ws w = [] := by rw [asgW_of_find hw, wAsg, ha]
theorem preW_of_mn {ws : List Worker} {w : Nat} {wk : Worker} {t r st} (hw : findWorker ws w = some wk)
    (ha : wk.assign = .mn t r st) : preW ws w = [] := by rw [preW_of_find hw, wPre, ha]
theorem mnW_of_mn {ws : List Worker} {w : Nat} {wk : Worker} {t r st} (hw : findWorker ws w = some wk)
    (ha : wk.assign = .mn t r st) : mnW ws w = some t := by rw [mnW_of_find hw, wMn, ha]
theorem stOf_of_find {ts : List Task} {t : TaskId} {task : Task} (h : findTask ts t = some task) : stOf ts t = some task.state := by
  simp [stOf, h]
theorem stOf_none {ts : List Task} {t : TaskId} (h : findTask ts t = none) : stOf ts t = none := by
  simp [stOf, h]
theorem stOf_some {ts : List Task} {t : TaskId} {st : TS} (h : stOf ts t = some st) :
    ∃ task, findTask ts t = some task ∧ task.state = st := by
  unfold stOf at h
  cases hf : findTask ts t with
  | none => simp [hf] at h
  | some task => simp [hf] at h; exact ⟨task, rfl, h⟩

theorem view_put {α} (g : Worker → α) (d : α) {ws : List Worker} {wk wk' : Worker}
    (hf : findWorker ws wk'.id = some wk) (x : Nat) :
    viewW g d (putWorker ws wk') x = if x = wk'.id then g wk' else viewW g d ws x := by
  unfold viewW; rw [findWorker_putWorker]
  by_cases hx : x = wk'.id
  · subst hx; simp [hf]
  · simp [hx]

theorem asgW_put {ws : List Worker} {wk wk' : Worker} (hf : findWorker ws wk'.id = some wk) (x : Nat) :
    asgW (putWorker ws wk') x = if x = wk'.id then wAsg wk' else asgW ws x := view_put wAsg [] hf x
theorem preW_put {ws : List Worker} {wk wk' : Worker} (hf : findWorker ws wk'.id = some wk) (x : Nat) :
    preW (putWorker ws wk') x = if x = wk'.id then wPre wk' else preW ws x := view_put wPre [] hf x
theorem mnW_put {ws : List Worker} {wk wk' : Worker} (hf : findWorker ws wk'.id = some wk) (x : Nat) :
    mnW (putWorker ws wk') x = if x = wk'.id then wMn wk' else mnW ws x := view_put wMn none hf x

theorem view_put_same {α} (g : Worker → α) (d : α) {ws : List Worker} {wk wk' : Worker}
    (hf : findWorker ws wk'.id = some wk) (hg : g wk' = g wk) (x : Nat) :
    viewW g d (putWorker ws wk') x = viewW g d ws x := by
  rw [view_put g d hf]; split
  · rename_i e; rw [e, hg, view_of_find g d hf]
  · rfl

theorem asgW_put_same {ws : List Worker} {wk wk' : Worker} (hw : findWorker ws wk'.id = some wk)
    (hA : wAsg wk' = wAsg wk) (x : Nat) : asgW (putWorker ws wk') x = asgW ws x := view_put_same wAsg [] hw hA x
theorem preW_put_same {ws : List Worker} {wk wk' : Worker} (hw : findWorker ws wk'.id = some wk)
    (hP : wPre wk' = wPre wk) (x : Nat) : preW (putWorker ws wk') x = preW ws x := view_put_same wPre [] hw hP x
theorem mnW_put_same {ws : List Worker} {wk wk' : Worker} (hw : findWorker ws wk'.id = some wk)
    (hM : wMn wk' = wMn wk) (x : Nat) : mnW (putWorker ws wk') x = mnW ws x := view_put_same wMn none hw hM x

theorem mem_append_singleton_of_ne {l : List TaskId} {t u : TaskId} (hu : u ≠ t) : u ∈ l ++ [t] ↔ u ∈ l := by
  rw [List.mem_append, List.mem_singleton]; exact or_iff_left hu

theorem mem_asgW_put_insert {ws : List Worker} {wk wk' : Worker} {t : TaskId} (hw : findWorker ws wk'.id = some wk)
    (hA : wAsg wk' = wAsg wk ++ [t]) (x : Nat) (u : TaskId) :
    u ∈ asgW (putWorker ws wk') x ↔ (x = wk'.id ∧ u = t) ∨ u ∈ asgW ws x := by
  rw [asgW_put hw]; split
  · rename_i e; rw [e, hA, asgW_of_find hw]; simp [or_comm]
  · rename_i e; simp [e]

theorem nodup_asgW_put_insert {ws : List Worker} {wk wk' : Worker} {t : TaskId} (hw : findWorker ws wk'.id = some wk)
    (hA : wAsg wk' = wAsg wk ++ [t]) (hni : t ∉ wAsg wk) (hnd : ∀ x, (asgW ws x).Nodup) (x : Nat) :
    (asgW (putWorker ws wk') x).Nodup := by
  rw [asgW_put hw]; split
  · rw [hA]; exact nodup_append_singleton (asgW_of_find hw ▸ hnd _) hni
  · exact hnd x

theorem mem_asgW_put_erase {ws : List Worker} {wk wk' : Worker} {t : TaskId} (hw : findWorker ws wk'.id = some wk)
    (hA : wAsg wk' = (wAsg wk).erase t) (hnd : (asgW ws wk'.id).Nodup) (x : Nat) (u : TaskId) :
    u ∈ asgW (putWorker ws wk') x ↔ u ∈ asgW ws x ∧ ¬ (x = wk'.id ∧ u = t) := by
  rw [asgW_put hw]; split
  · rename_i e
    rw [asgW_of_find hw] at hnd
    rw [e, hA, asgW_of_find hw, List.Nodup.mem_erase_iff hnd]; simp [and_comm]
  · rename_i e; simp [e]

theorem nodup_asgW_put_erase {ws : List Worker} {wk wk' : Worker} {t : TaskId} (hw : findWorker ws wk'.id = some wk)
    (hA : wAsg wk' = (wAsg wk).erase t) (hnd : ∀ x, (asgW ws x).Nodup) (x : Nat) :
    (asgW (putWorker ws wk') x).Nodup := by
  rw [asgW_put hw]; split
  · rw [hA]; exact List.Sublist.nodup List.erase_sublist (by rw [← asgW_of_find hw]; exact hnd _)
  · exact hnd x

theorem stOf_put {ts : List Task} {told t' : Task} (hf : findTask ts t'.id = some told) (u : TaskId) :
    stOf (putTask ts t') u = if u = t'.id then some t'.state else stOf ts u := by
  unfold stOf; rw [findTask_putTask]
  by_cases hu : u = t'.id
  · subst hu; simp [hf]
  · simp [hu]

theorem stOf_eraseTask {ts : List Task} (hn : (taskIds ts).Nodup) (id u : TaskId) :
    stOf (eraseTask ts id) u = if u = id then none else stOf ts u := by
  unfold stOf; rw [findTask_eraseTask hn]; split <;> rfl

theorem stOf_put_same {ts : List Task} {t' told : Task} (ht : findTask ts t'.id = some told)
    (hs : t'.state = told.state) (u : TaskId) : stOf (putTask ts t') u = stOf ts u := by
  rw [stOf_put ht]; split
  · rename_i e; rw [e, stOf_of_find ht, hs]
  · rfl

theorem stOf_append (ts : List Task) (task : Task) (u : TaskId) :
    stOf (ts ++ [task]) u = stOf ts u ∨ (stOf ts u = none ∧ stOf (ts ++ [task]) u = some task.state) := by
  unfold stOf
  rw [findTask_append]
  cases findTask ts u with
  | some x => exact Or.inl rfl
  | none =>
    simp only
    split
    · exact Or.inr ⟨rfl, rfl⟩
    · exact Or.inl rfl

theorem view_filter {α} (g : Worker → α) (d : α) (ws : List Worker) (w x : Nat) :
    viewW g d (ws.filter (·.id ≠ w)) x = if x = w then d else viewW g d ws x := by
  unfold viewW; rw [findWorker_filter]; by_cases hx : x = w <;> simp [hx]

theorem asgW_filter (ws : List Worker) (w x : Nat) :
    asgW (ws.filter (·.id ≠ w)) x = if x = w then [] else asgW ws x := view_filter wAsg [] ws w x
theorem preW_filter (ws : List Worker) (w x : Nat) :
    preW (ws.filter (·.id ≠ w)) x = if x = w then [] else preW ws x := view_filter wPre [] ws w x
theorem mnW_filter (ws : List Worker) (w x : Nat) :
    mnW (ws.filter (·.id ≠ w)) x = if x = w then none else mnW ws x := view_filter wMn none ws w x

theorem view_append {α} (g : Worker → α) (d : α) (ws : List Worker) {wk : Worker} (hg : g wk = d) (x : Nat) :
    viewW g d (ws ++ [wk]) x = viewW g d ws x := by
  unfold viewW; rw [findWorker_append]
  cases findWorker ws x with
  | some y => rfl
  | none => by_cases e : wk.id = x <;> simp [e, hg]

/-- worker `w` holds a reservation for task `t` in state `st` -/
def Holds (rd : List (TaskId × Nat × Nat)) (w : Nat) (t : TaskId) : TS → Prop
  | .assigned w' _ => w' = w
  | .running w' _ => w' = w
  | .retracting _ => ∃ v, (t, w, v) ∈ rd
  | _ => False

@[simp] theorem Holds_assigned {rd w t w' v} : Holds rd w t (.assigned w' v) ↔ w' = w := Iff.rfl
@[simp] theorem Holds_running {rd w t w' v} : Holds rd w t (.running w' v) ↔ w' = w := Iff.rfl
@[simp] theorem Holds_retracting {rd w t w0} : Holds rd w t (.retracting w0) ↔ ∃ v, (t, w, v) ∈ rd := Iff.rfl
@[simp] theorem Holds_waiting {rd w t n} : Holds rd w t (.waiting n) ↔ False := Iff.rfl
@[simp] theorem Holds_prefilled {rd w t w'} : Holds rd w t (.prefilled w') ↔ False := Iff.rfl
@[simp] theorem Holds_runningMN {rd w t l} : Holds rd w t (.runningMN l) ↔ False := Iff.rfl
@[simp] theorem Holds_finished {rd w t} : Holds rd w t .finished ↔ False := Iff.rfl

/-- **list → state**: the part of `Worker::sanity_check` that does not mention amounts, plus the shape of the
redirect table. (`ts` task map, `ws` worker map, `rd` redirects.) -/
structure LS3 (ts : List Task) (ws : List Worker) (rd : List (TaskId × Nat × Nat)) : Prop where
  /-- an id in `assigned_tasks` of `w` is a task Assigned/Running on `w`, or Retracting with a redirect to `w` -/
  a1 : ∀ w t, t ∈ asgW ws w → ∃ st, stOf ts t = some st ∧ Holds rd w t st
  /-- an id in `prefilled_tasks` of `w` is a task Prefilled on `w` -/
  a2 : ∀ w t, t ∈ preW ws w → stOf ts t = some (.prefilled w)
  /-- a worker in a multi-node assignment for `t`: `t` is RunningMultiNode on a worker list containing it -/
  m1 : ∀ w t, mnW ws w = some t → ∃ l, stOf ts t = some (.runningMN l) ∧ w ∈ l
  /-- redirects exist only for Retracting tasks -/
  d1 : ∀ t w v, (t, w, v) ∈ rd → ∃ w0, stOf ts t = some (.retracting w0)
  /-- at most one redirect per task -/
  d2 : (rd.map (·.1)).Nodup
  nda : ∀ w, (asgW ws w).Nodup
  ndp : ∀ w, (preW ws w).Nodup

def LS (s : State) : Prop := LS3 s.tasks s.workers s.redirects

/-- the task is in no worker set and has no redirect -/
structure Free3 (ws : List Worker) (rd : List (TaskId × Nat × Nat)) (t : TaskId) : Prop where
  na : ∀ w, t ∉ asgW ws w
  np : ∀ w, t ∉ preW ws w
  nm : ∀ w, mnW ws w ≠ some t
  nr : ∀ w v, (t, w, v) ∉ rd

def Free (s : State) (t : TaskId) : Prop := Free3 s.workers s.redirects t

theorem LS3.free_of_state {ts ws rd} (h : LS3 ts ws rd) {t : TaskId}
    (hs : stOf ts t = none ∨ (∃ n, stOf ts t = some (.waiting n)) ∨ stOf ts t = some .finished) : Free3 ws rd t := by
  refine ⟨?_, ?_, ?_, ?_⟩
  · intro w hm
    obtain ⟨st, h1, h2⟩ := h.a1 w t hm
    rcases hs with hs | ⟨n, hs⟩ | hs <;> rw [hs] at h1 <;> cases h1 <;> simp at h2
  · intro w hm
    have := h.a2 w t hm
    rcases hs with hs | ⟨n, hs⟩ | hs <;> rw [hs] at this <;> cases this
  · intro w hm
    obtain ⟨l, h1, _⟩ := h.m1 w t hm
    rcases hs with hs | ⟨n, hs⟩ | hs <;> rw [hs] at h1 <;> cases h1
  · intro w v hm
    obtain ⟨w0, h1⟩ := h.d1 t w v hm
    rcases hs with hs | ⟨n, hs⟩ | hs <;> rw [hs] at h1 <;> cases h1

/-- **frame lemma**: a transition that changes the state, the set memberships and the redirects of ONE task `t`
preserves the invariant if the four clauses hold for `t` in the new state -/
theorem LS3.frame {ts ws rd ts' ws' rd'} (h : LS3 ts ws rd) (t : TaskId)
    (hst : ∀ u, u ≠ t → stOf ts' u = stOf ts u)
    (hasg : ∀ x u, u ≠ t → (u ∈ asgW ws' x ↔ u ∈ asgW ws x))
    (hpre : ∀ x u, u ≠ t → (u ∈ preW ws' x ↔ u ∈ preW ws x))
    (hmn : ∀ x u, u ≠ t → (mnW ws' x = some u ↔ mnW ws x = some u))
    (hrd : ∀ u x v, u ≠ t → ((u, x, v) ∈ rd' ↔ (u, x, v) ∈ rd))
    (h1 : ∀ w, t ∈ asgW ws' w → ∃ st, stOf ts' t = some st ∧ Holds rd' w t st)
    (h2 : ∀ w, t ∈ preW ws' w → stOf ts' t = some (.prefilled w))
    (h3 : ∀ w, mnW ws' w = some t → ∃ l, stOf ts' t = some (.runningMN l) ∧ w ∈ l)
    (h4 : ∀ w v, (t, w, v) ∈ rd' → ∃ w0, stOf ts' t = some (.retracting w0))
    (hd2 : (rd'.map (·.1)).Nodup) (hnda : ∀ w, (asgW ws' w).Nodup) (hndp : ∀ w, (preW ws' w).Nodup) :
    LS3 ts' ws' rd' := by
  refine ⟨?_, ?_, ?_, ?_, hd2, hnda, hndp⟩
  · intro w u hu
    by_cases e : u = t
    · subst e; exact h1 w hu
    · obtain ⟨st, hs, hh⟩ := h.a1 w u ((hasg w u e).mp hu)
      refine ⟨st, by rw [hst u e]; exact hs, ?_⟩
      cases st <;> simp only [Holds_assigned, Holds_running, Holds_retracting, Holds_waiting, Holds_prefilled,
        Holds_runningMN, Holds_finished] at hh ⊢ <;> try exact hh
      obtain ⟨v, hv⟩ := hh
      exact ⟨v, (hrd u w v e).mpr hv⟩
  · intro w u hu
    by_cases e : u = t
    · subst e; exact h2 w hu
    · rw [hst u e]; exact h.a2 w u ((hpre w u e).mp hu)
  · intro w u hu
    by_cases e : u = t
    · subst e; exact h3 w hu
    · rw [hst u e]; exact h.m1 w u ((hmn w u e).mp hu)
  · intro u w v hu
    by_cases e : u = t
    · subst e; exact h4 w v hu
    · rw [hst u e]; exact h.d1 u w v ((hrd u w v e).mp hu)

theorem LS3.shrink {ts ws rd ts' ws'} (h : LS3 ts ws rd)
    (hst : ∀ u, stOf ts' u = stOf ts u)
    (hasg : ∀ x, (asgW ws' x).Sublist (asgW ws x))
    (hpre : ∀ x, (preW ws' x).Sublist (preW ws x))
    (hmn : ∀ x u, mnW ws' x = some u → mnW ws x = some u) :
    LS3 ts' ws' rd := by
  refine ⟨?_, ?_, ?_, ?_, h.d2, fun w => (hasg w).nodup (h.nda w), fun w => (hpre w).nodup (h.ndp w)⟩
  · intro w u hu; rw [hst]; exact h.a1 w u ((hasg w).subset hu)
  · intro w u hu; rw [hst]; exact h.a2 w u ((hpre w).subset hu)
  · intro w u hu; rw [hst]; exact h.m1 w u (hmn w u hu)
  · intro u w v hu; rw [hst]; exact h.d1 u w v hu

theorem LS3.congr_tasks {ts ws rd ts'} (h : LS3 ts ws rd) (hst : ∀ u, stOf ts' u = stOf ts u) : LS3 ts' ws rd :=
  h.shrink hst (fun _ => List.Sublist.refl _) (fun _ => List.Sublist.refl _) (fun _ _ h => h)

/-! ### key uniqueness in the redirect table -/

theorem rd_unique {rd : List (TaskId × Nat × Nat)} (hn : (rd.map (·.1)).Nodup) {t : TaskId} {w w' v v' : Nat}
    (h1 : (t, w, v) ∈ rd) (h2 : (t, w', v') ∈ rd) : w = w' ∧ v = v' := by
  induction rd with
  | nil => cases h1
  | cons x xs ih =>
    simp only [List.map_cons, List.nodup_cons] at hn
    simp only [List.mem_cons] at h1 h2
    rcases h1 with h1 | h1 <;> rcases h2 with h2 | h2
    · rw [← h1] at h2; cases h2; exact ⟨rfl, rfl⟩
    · exfalso; apply hn.1; rw [← h1]; exact List.mem_map.mpr ⟨_, h2, rfl⟩
    · exfalso; apply hn.1; rw [← h2]; exact List.mem_map.mpr ⟨_, h1, rfl⟩
    · exact ih hn.2 h1 h2

theorem rd_find_of_mem {rd : List (TaskId × Nat × Nat)} (hn : (rd.map (·.1)).Nodup) {t : TaskId} {w v : Nat}
    (h : (t, w, v) ∈ rd) : rd.find? (·.1 = t) = some (t, w, v) := by
  induction rd with
  | nil => cases h
  | cons x xs ih =>
    simp only [List.map_cons, List.nodup_cons] at hn
    simp only [List.mem_cons] at h
    simp only [List.find?]
    rcases h with h | h
    · subst h; simp
    · have : x.1 ≠ t := by
        intro e; apply hn.1; rw [e]; exact List.mem_map.mpr ⟨_, h, rfl⟩
      simp only [this, decide_false]
      exact ih hn.2 h

theorem rd_filter_mem {rd : List (TaskId × Nat × Nat)} {t u : TaskId} {w v : Nat} :
    (u, w, v) ∈ rd.filter (·.1 ≠ t) ↔ (u, w, v) ∈ rd ∧ u ≠ t := by
  simp [List.mem_filter]

theorem rd_filter_self {rd : List (TaskId × Nat × Nat)} {t : TaskId} (h : ∀ x v, (t, x, v) ∉ rd) :
    rd.filter (·.1 ≠ t) = rd :=
  List.filter_eq_self.mpr fun ⟨u, x, v⟩ hm => by simpa using fun e : u = t => h x v (e ▸ hm)

theorem rd_filter_nodup {rd : List (TaskId × Nat × Nat)} (hn : (rd.map (·.1)).Nodup) (t : TaskId) :
    ((rd.filter (·.1 ≠ t)).map (·.1)).Nodup :=
  (List.Sublist.map _ List.filter_sublist).nodup hn

theorem rd_filter_append_nodup {rd : List (TaskId × Nat × Nat)} (hn : (rd.map (·.1)).Nodup) (t : TaskId) (w v : Nat) :
    (((rd.filter (·.1 ≠ t)) ++ [(t, w, v)]).map (·.1)).Nodup := by
  rw [List.map_append, List.nodup_append]
  refine ⟨rd_filter_nodup hn t, by simp, ?_⟩
  intro a ha b hb
  simp only [List.map_cons, List.map_nil, List.mem_singleton] at hb
  subst hb
  obtain ⟨x, hx, rfl⟩ := List.mem_map.mp ha
  have := (List.mem_filter.mp hx).2
  simpa using this

end HqModel.Core
