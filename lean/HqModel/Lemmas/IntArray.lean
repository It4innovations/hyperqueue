import HqModel.Job.IntArray
namespace HqModel.Job

theorem iterAux_step_one (fuel cur n : Nat) (h : n ≤ fuel) :
    IntRange.iterAux 1 fuel cur n = List.range' cur n := by
  induction fuel generalizing cur n with
  | zero =>
    have : n = 0 := by omega
    subst this; simp [IntRange.iterAux]
  | succ f ih =>
    unfold IntRange.iterAux
    by_cases hn : n = 0
    · simp [hn]
    · simp only [hn, if_false]
      obtain ⟨m, rfl⟩ : ∃ m, n = m + 1 := ⟨n - 1, by omega⟩
      simp only [Nat.add_sub_cancel, List.range'_succ]
      rw [ih (cur + 1) m (by omega)]

theorem fromRange_iter (s c : Nat) : (IntArray.fromRange s c).iter = List.range' s c := by
  simp [IntArray.fromRange, IntArray.iter, IntRange.iter, iterAux_step_one]

theorem fromId_iter (i : Nat) : (IntArray.fromId i).iter = [i] := by
  simp [IntArray.fromId, IntArray.iter, IntRange.iter, IntRange.iterAux]

end HqModel.Job
