import HqModel.Lemmas.AutoAllocAnnounce
/-!
Trace-level form of the announcement discipline (C18 `c18_announce`): along every run from the empty
autoallocator, per allocation, `#Started ≤ 1`, `#Finished ≤ 1`, `#Finished = 1 ⇔ finished state`, and no
Started after a Finished. Queue ids must not be reused (`addQueue` with the id counter — the journal-restore
path that passes explicit ids is excluded by hypothesis `NoExplicitIds`).
-/
namespace HqModel.AutoAlloc

theorem State.fin_absent (s : State) (x a : Nat) (h : s.getQueue x = none) : s.fin x a = 0 ∧ s.past x a = 0 := by
  simp [State.fin, State.past, h]

theorem mem_of_cntF_pos (x a : Nat) (O : List Out) (h : 1 ≤ cntF x a O) : Out.evFinished x a ∈ O :=
  List.count_pos_iff.mp h

/-- the journal-restore path (explicit queue ids) is not used -/
def NoExplicitIds (evs : List Ev) : Prop := ∀ e ∈ evs, ∀ p l q, e ≠ .addQueue p l (some q)

-- `present`: the queue exists; `fresh`: its id has not been issued yet; `gone`: it existed and was removed (or the id was
-- never used); `order` is `Ordered x a O` for all `x`, `a`.
structure TraceInv (s : State) (O : List Out) : Prop where
  ids : ∀ x q, s.getQueue x = some q → x < s.nextId
  present : ∀ x a q, s.getQueue x = some q → cntF x a O = s.fin x a ∧ cntS x a O ≤ s.past x a
  fresh : ∀ x a, s.getQueue x = none → s.nextId ≤ x → cntF x a O = 0 ∧ cntS x a O = 0
  gone : ∀ x a, s.getQueue x = none → cntF x a O ≤ 1 ∧ cntS x a O ≤ 1
  order : ∀ x a O1 O2, O = O1 ++ Out.evFinished x a :: O2 → Out.evStarted x a ∉ O2

theorem TraceInv.initial (c : Consts) (n : Nat) : TraceInv (init c n) [] := by
  refine ⟨?_, ?_, ?_, ?_, ?_⟩
  · intro x q h; simp [init, State.getQueue] at h
  · intro x a q h; simp [init, State.getQueue] at h
  · intro x a _ _; simp [cntF, cntS]
  · intro x a _; simp [cntF, cntS]
  · intro x a O1 O2 h; simp at h

theorem TraceInv.preserved (s : State) (O : List Out) (e : Ev) (h : TraceInv s O)
    (hne : ∀ p l q, e ≠ .addQueue p l (some q)) : TraceInv (step s e).st (O ++ (step s e).outs) := by
  have hnext : s.nextId ≤ (step s e).st.nextId := by
    rw [step_nextId]; split <;> omega
  have fp := State.fin_le_past
  have hids : ∀ x, s.nextId ≤ x → s.getQueue x = none := by
    intro x hx
    cases hq : s.getQueue x with
    | none => rfl
    | some q => exact absurd (h.ids x q hq) (Nat.not_lt.mpr hx)
  -- what the invariant says about one allocation, whether or not its queue exists
  have hinv : ∀ x a, cntF x a O ≤ 1 ∧ cntS x a O ≤ 1 ∧
      ((s.getQueue x).isSome ∨ s.nextId ≤ x → cntF x a O = s.fin x a ∧ cntS x a O ≤ s.past x a) := by
    intro x a
    have b := fp s x a
    cases hq : s.getQueue x with
    | some q =>
      have := h.present x a q hq
      exact ⟨this.1 ▸ Nat.le_trans b.1 b.2, Nat.le_trans this.2 b.2, fun _ => this⟩
    | none =>
      refine ⟨(h.gone x a hq).1, (h.gone x a hq).2, fun hx => ?_⟩
      have fr := h.fresh x a hq (hx.resolve_left (by simp))
      have ab := State.fin_absent s x a hq
      exact ⟨fr.1.trans ab.1.symm, Nat.le_of_eq (fr.2.trans ab.2.symm)⟩
  -- `hrm` is the hypothesis of `step_SLedger`: the step is not an accepted removal
  by_cases hrm : ∀ x f, e = .removeQueue x f → (step s e).st.queues = s.queues
  · have hL := step_SLedger s e hrm
    have new_id : ∀ x q', s.getQueue x = none → (step s e).st.getQueue x = some q' →
        x = s.nextId ∧ (step s e).st.nextId = s.nextId + 1 := by
      intro x q' h0 h1
      obtain ⟨p, l, qid, rfl, hx, _, hn⟩ := step_new_queue s e x q' h0 h1
      cases qid with
      | some k => exact absurd rfl (hne p l k)
      | none => exact ⟨hx, hn⟩
    have stays : ∀ x, (step s e).st.getQueue x = none → s.getQueue x = none := by
      intro x hq'
      cases hq : s.getQueue x with
      | none => rfl
      | some q =>
        rcases step_queue s e x q hq with ⟨⟨f, rfl⟩, hnone⟩ | ⟨_, hres⟩ | ⟨q', hq2, _⟩
        · have := hrm x f rfl
          unfold State.getQueue at hnone hq
          rw [this, hq] at hnone
          cases hnone
        · rw [hres] at hq'; cases hq'
        · rw [hq2] at hq'; cases hq'
    -- a queue that is absent after the step gets no announcement in it
    have hzero : ∀ x a, (step s e).st.getQueue x = none →
        cntF x a (O ++ (step s e).outs) = cntF x a O ∧
        cntS x a (O ++ (step s e).outs) = cntS x a O := by
      intro x a hq'
      have := (hL x a).1
      have := State.fin_absent _ x a hq'
      rw [cntF_append, cntS_append]
      omega
    refine ⟨?_, ?_, ?_, ?_, fun x a => Ordered.append (h.order x a) (hL x a).2 fun hS hF => ?_⟩
    · intro x q' hq'
      cases hq : s.getQueue x with
      | some q => exact Nat.lt_of_lt_of_le (h.ids x q hq) hnext
      | none =>
        obtain ⟨h1, h2⟩ := new_id x q' hq hq'
        rw [h1, h2]
        exact Nat.lt_succ_self _
    · intro x a q' hq'
      have l := (hL x a).1
      have hFS : cntF x a O = s.fin x a ∧ cntS x a O ≤ s.past x a := by
        refine (hinv x a).2.2 ?_
        cases hq : s.getQueue x with
        | some q => exact .inl rfl
        | none => exact .inr (Nat.le_of_eq (new_id x q' hq hq').1.symm)
      rw [cntF_append, cntS_append, hFS.1]
      exact ⟨l.1, Nat.le_trans (Nat.add_le_add_right hFS.2 _) l.2⟩
    · intro x a hq' hx
      rw [(hzero x a hq').1, (hzero x a hq').2]
      exact h.fresh x a (hids x (Nat.le_trans hnext hx)) (Nat.le_trans hnext hx)
    · intro x a hq'
      rw [(hzero x a hq').1, (hzero x a hq').2]
      exact ⟨(hinv x a).1, (hinv x a).2.1⟩
    · -- a Started event of this step: the allocation was Queued before, so no Finished has been counted for it
      have c1 : 1 ≤ cntS x a _ := List.count_pos_iff.mpr hS
      have c2 : 1 ≤ cntF x a _ := List.count_pos_iff.mpr hF
      have l := (hL x a).1
      have b := fp (step s e).st x a
      cases hq : s.getQueue x with
      | some q =>
        have := (h.present x a q hq).1
        have := fp s x a
        omega
      | none =>
        -- the queue is absent before: it is absent after, or new and without allocations
        have : (step s e).st.past x a = 0 := by
          cases hq2 : (step s e).st.getQueue x with
          | none => exact (State.fin_absent _ x a hq2).2
          | some q' =>
            obtain ⟨_, _, _, _, _, rfl, _⟩ := step_new_queue s e x q' hq hq2
            simp [State.past, hq2, Queue.past, Queue.findAlloc]
        omega
  · -- an effective removal of queue `k`: it is gone, nothing is announced
    obtain ⟨k, f, rfl⟩ : ∃ k f, e = .removeQueue k f := by
      apply Classical.byContradiction
      intro hn
      exact hrm fun x f he => absurd ⟨x, f, he⟩ hn
    rcases State.removeQueue_cases s k f with ⟨outs, _, h0⟩ | ⟨qk, outs, p, m, hqk, hsil, h0⟩
    · exact absurd (fun x f' he => by cases he; exact congrArg (·.st.queues) h0) hrm
    · rw [show step s (.removeQueue k f) = _ from h0]
      have hget : ∀ x, ({ s with queues := s.queues.filter (·.id != k), a2q := m } : State).getQueue x
          = if x = k then none else s.getQueue x := State.getQueue_filter s k
      have hcnt : ∀ x a, cntF x a (O ++ outs) = cntF x a O ∧ cntS x a (O ++ outs) = cntS x a O := by
        intro x a
        obtain ⟨c1, c2⟩ := cnt_zero_of_silent x a _ hsil.1
        rw [cntF_append, cntS_append, c1, c2]
        exact ⟨rfl, rfl⟩
      refine ⟨?_, ?_, ?_, ?_, fun x a => Ordered.append (h.order x a) (Ordered.of_cntF (cnt_zero_of_silent x a _ hsil.1).1)
        fun hS => absurd trivial (hsil.1 _ hS)⟩
      · intro x q' hq'
        rw [hget] at hq'
        split at hq'
        · cases hq'
        · exact h.ids x q' hq'
      · intro x a q' hq'
        rw [hget] at hq'
        split at hq'
        · cases hq'
        · rename_i hx
          rw [(hcnt x a).1, (hcnt x a).2]
          unfold State.fin State.past
          rw [hget, if_neg hx]
          exact h.present x a q' hq'
      · intro x a _ hx
        rw [(hcnt x a).1, (hcnt x a).2]
        exact h.fresh x a (hids x hx) hx
      · intro x a _
        rw [(hcnt x a).1, (hcnt x a).2]
        exact ⟨(hinv x a).1, (hinv x a).2.1⟩

/-- the invariant holds after every run (the outputs of a final panicking step included) -/
theorem TraceInv.ofRun (s : State) (O : List Out) (evs : List Ev) (h : TraceInv s O) (hne : NoExplicitIds evs) :
    TraceInv (run s evs).1 (O ++ (run s evs).2.1) := by
  induction evs generalizing s O with
  | nil => simpa [run] using h
  | cons e es ih =>
    have hstep := TraceInv.preserved s O e h (fun p l q => hne e (by simp) p l q)
    simp only [run]
    split
    · exact hstep
    · have := ih (step s e).st (O ++ (step s e).outs) hstep
        (fun e' he' => hne e' (by simp [he']))
      simpa [List.append_assoc] using this

end HqModel.AutoAlloc
