import HqModel.Lemmas.JournalInv
import HqModel.Lemmas.JournalFactor
/-!
The crash-counter part of the simulation invariant (restart clause of C07): the restorer's `crash_counter` of a task
equals the number of failure-losses of its root worker while it was running, as `meaning` counts them.
-/
namespace HqModel.Journal

/-- `conn` = connected workers, `mw` = highest worker id seen (both from the abstract state) -/
structure CrashRel (conn : List Nat) (mw : Nat) (rj : RJob) (aj : AJob) : Prop where
  crash : ∀ a ∈ aj.tasks, a.crashes = ((alGet rj.tasks a.id).map (·.crash)).getD 0
  /-- a task running according to the journal is `Running` on the same workers in the restorer -/
  run1 : ∀ a ∈ aj.tasks, ∀ ws, a.run = some ws → ∃ ti i, alGet rj.tasks a.id = some ti ∧ ti.state = .running ⟨i, ws⟩
  /-- a stale `Running` entry (its root was lost, or the server restarted) names a root that is not connected -/
  run2 : ∀ a ∈ aj.tasks, a.run = none → ∀ ti sd root, alGet rj.tasks a.id = some ti → ti.state = .running sd →
    sd.workers.head? = some root → root ∉ conn
  run3 : ∀ t ti sd root, alGet rj.tasks t = some ti → ti.state = .running sd → sd.workers.head? = some root → root ≤ mw

def JR (conn : List Nat) (mw : Nat) (rj : RJob) (aj : AJob) : Prop := JobRel rj aj ∧ CrashRel conn mw rj aj

structure Inv (R : Restorer) (A : AState) : Prop where
  jobs : AlRel (JR A.workers A.maxWorker) R.jobs A.jobs
  queues : R.queues = A.queues
  maxJob : R.maxJob = A.maxJob
  maxWorker : R.maxWorker = A.maxWorker
  maxQueue : R.maxQueue = A.maxQueue
  uid : R.uid = A.uid

theorem inv_init : Inv {} {} := ⟨.nil, rfl, rfl, rfl, rfl, rfl⟩

theorem Inv.getJob {R : Restorer} {A : AState} (h : Inv R A) {j : Nat} {aj : AJob} (ha : alGet A.jobs j = some aj) :
    ∃ rj, alGet R.jobs j = some rj ∧ JR A.workers A.maxWorker rj aj := by
  rcases h.jobs.get j with ⟨_, h2⟩ | ⟨b, c, h1, h2, h3⟩
  · rw [ha] at h2; cases h2
  · rw [ha] at h2; cases h2; exact ⟨b, h1, h3⟩

theorem Inv.setJob {R : Restorer} {A : AState} (h : Inv R A) (j : Nat) {rj : RJob} {aj : AJob}
    (hr : JR A.workers A.maxWorker rj aj) :
    Inv { R with jobs := alSet R.jobs j rj } { A with jobs := alSet A.jobs j aj } :=
  ⟨h.jobs.set j hr, h.queues, h.maxJob, h.maxWorker, h.maxQueue, h.uid⟩

/-- `CrashRel` for one task and its restorer entry (`crashRel_iff`) -/
structure TC (conn : List Nat) (a : ATask) (o : Option RTask) : Prop where
  crash : a.crashes = (o.map (·.crash)).getD 0
  run1 : ∀ ws, a.run = some ws → ∃ ti i, o = some ti ∧ ti.state = .running ⟨i, ws⟩
  run2 : a.run = none → ∀ ti sd root, o = some ti → ti.state = .running sd → sd.workers.head? = some root → root ∉ conn

/-- the root of a `Running` entry is a worker id that was issued -/
def OkC (mw : Nat) (ti : RTask) : Prop :=
  ∀ sd root, ti.state = .running sd → sd.workers.head? = some root → root ≤ mw

theorem crashRel_iff {conn : List Nat} {mw : Nat} {rj : RJob} {aj : AJob} :
    CrashRel conn mw rj aj ↔ Pw (TC conn) (OkC mw) rj.tasks aj.tasks :=
  ⟨fun h => ⟨fun a ha => ⟨h.crash a ha, h.run1 a ha, h.run2 a ha⟩, fun t ti hti sd root => h.run3 t ti sd root hti⟩,
   fun h => ⟨fun a ha => (h.1 a ha).crash, fun a ha => (h.1 a ha).run1, fun a ha => (h.1 a ha).run2,
     fun t ti sd root hti => h.2 t ti hti sd root⟩⟩

theorem CrashRel.mono {conn conn' : List Nat} {mw mw' : Nat} {rj : RJob} {aj : AJob} (h : CrashRel conn mw rj aj)
    (hc : ∀ x ∈ conn', x ∈ conn) (hm : mw ≤ mw') : CrashRel conn' mw' rj aj :=
  crashRel_iff.2 ((crashRel_iff.1 h).imp
    (fun _ _ hp _ => ⟨hp.crash, hp.run1, fun hr ti sd root h1 h2 h3 hmem => hp.run2 hr ti sd root h1 h2 h3 (hc root hmem)⟩)
    fun _ hq sd root h1 h2 => Nat.le_trans (hq sd root h1 h2) hm)

theorem CrashRel.connect {conn : List Nat} {mw w : Nat} {rj : RJob} {aj : AJob} (h : CrashRel conn mw rj aj)
    (hw : mw < w) : CrashRel (w :: conn) (max mw w) rj aj :=
  crashRel_iff.2 ((crashRel_iff.1 h).imp
    (fun _ _ hp hq => ⟨hp.crash, hp.run1, fun hr ti sd root h1 h2 h3 hmem => by
      rcases List.mem_cons.1 hmem with e | hmem
      · exact absurd (e ▸ hq ti h1 sd root h2 h3) (Nat.not_le_of_lt hw)
      · exact hp.run2 hr ti sd root h1 h2 h3 hmem⟩)
    fun _ hq sd root h1 h2 => Nat.le_trans (hq sd root h1 h2) (Nat.le_max_left _ _))

theorem CrashRel.setTask {conn : List Nat} {mw : Nat} {rj : RJob} {aj : AJob} (h : CrashRel conn mw rj aj) (t : Nat)
    {f : ATask → ATask} {v : RTask} (hid : ∀ a, (f a).id = a.id) (hc : ∀ a ∈ aj.tasks, a.id = t → TC conn (f a) (some v))
    (h3 : OkC mw v) :
    CrashRel conn mw { rj with tasks := alSet rj.tasks t v }
      { aj with tasks := aj.tasks.map fun a => if a.id = t then f a else a } :=
  crashRel_iff.2 ((crashRel_iff.1 h).set t hid hc h3)

theorem bump_crash_running (w : Nat) (b : Bool) (t : RTask) (sd : Started) (h : t.state = .running sd) :
    (bump w b t).crash = if b && (sd.workers.head? == some w) then t.crash + 1 else t.crash := by
  unfold bump
  cases b with
  | false => simp
  | true =>
    simp only [if_true, h, Bool.true_and]
    split <;> simp_all

theorem bump_crash_other (w : Nat) (b : Bool) (t : RTask) (h : ∀ sd, t.state ≠ .running sd) :
    (bump w b t).crash = t.crash := by
  unfold bump
  split
  · split
    · rename_i sd hs; exact absurd hs (h sd)
    · rfl
  · rfl

/-- `WorkerLost w`: both sides count the crash for exactly the task whose root worker is `w` -/
theorem TC.lose {conn : List Nat} {a : ATask} {o : Option RTask} (h : TC conn a o) {w : Nat} (b : Bool) (hw : w ∈ conn) :
    TC (conn.filter (· != w)) (a.lose w b) (o.map (bump w b)) := by
  by_cases hroot : ∃ rest, a.run = some (w :: rest)
  · obtain ⟨rest, hrun⟩ := hroot
    obtain ⟨ti, i, rfl, hst⟩ := h.run1 _ hrun
    have hc : a.crashes = ti.crash := h.crash
    refine ⟨?_, fun ws' hr => (by simp [ATask.lose, hrun] at hr), fun _ ti' sd r h1 h2 hh hmem => ?_⟩
    · show _ = (bump w b ti).crash
      rw [bump_crash_running w b ti _ hst]
      cases b <;> simp [ATask.lose, hrun, hc]
    · cases h1
      rw [(bump_state w b ti).1, hst] at h2; cases h2
      cases (Option.some.inj hh : w = r)
      simp at hmem
  · -- `w` is not the root of a task running according to the journal, and a stale `Running` entry has a root that is
    -- not connected: nothing is counted on either side
    have hl : a.lose w b = a := by
      unfold ATask.lose
      split
      · rename_i root rest hrun
        rw [if_neg fun (e : root = w) => hroot ⟨rest, e ▸ hrun⟩]
      · rfl
    have hb : ∀ ti, o = some ti → (bump w b ti).crash = ti.crash := by
      intro ti hti
      by_cases hr : ∃ sd, ti.state = .running sd
      · obtain ⟨sd, hsd⟩ := hr
        rw [bump_crash_running w b ti sd hsd]
        have hh : (sd.workers.head? == some w) = false := beq_false_of_ne fun hh => by
          cases hrun : a.run with
          | none => exact h.run2 hrun ti sd w hti hsd hh hw
          | some ws =>
            obtain ⟨ti0, i, h0, hst⟩ := h.run1 ws hrun
            cases hti.symm.trans h0
            cases hsd.symm.trans hst
            cases ws with
            | nil => cases hh
            | cons r rest => cases (Option.some.inj hh : r = w); exact hroot ⟨rest, hrun⟩
        rw [hh, Bool.and_false]; rfl
      · exact bump_crash_other w b ti fun sd hsd => hr ⟨sd, hsd⟩
    rw [hl]
    refine ⟨?_, fun ws hr => ?_, fun hr ti' sd root h1 h2 hh hmem => ?_⟩
    · rw [h.crash]; cases o with
      | none => rfl
      | some ti => exact (hb ti rfl).symm
    · obtain ⟨ti, i, rfl, hst⟩ := h.run1 ws hr
      exact ⟨_, i, rfl, (bump_state w b ti).1.trans hst⟩
    · obtain ⟨ti, rfl, rfl⟩ := Option.map_eq_some_iff.1 h1
      exact h.run2 hr ti sd root rfl ((bump_state w b ti).1 ▸ h2) hh (List.mem_filter.1 hmem).1

theorem OkC.bump {mw : Nat} {ti : RTask} (h : OkC mw ti) (w : Nat) (b : Bool) : OkC mw (bump w b ti) :=
  fun sd root hsd => h sd root ((bump_state w b ti).1 ▸ hsd)

theorem CrashRel.workerLost {conn : List Nat} {mw : Nat} {rj rj' : RJob} {aj : AJob} (h : CrashRel conn mw rj aj)
    (w : Nat) (b : Bool) (hw : w ∈ conn) (hget : ∀ t, alGet rj'.tasks t = (alGet rj.tasks t).map (bump w b)) :
    CrashRel (conn.filter (· != w)) mw rj' { aj with tasks := aj.tasks.map (ATask.lose w b) } :=
  crashRel_iff.2 ((crashRel_iff.1 h).map hget (fun a => (lose_fields w b a).1) (fun _ _ hp => hp.lose b hw) fun _ hq => hq.bump w b)

theorem JobRel.workerLost {rj : RJob} {aj : AJob} (h : JobRel rj aj) (w : Nat) (b : Bool) :
    JobRel (rj.increaseCrash w) { aj with tasks := aj.tasks.map (ATask.lose w b) } ∧
    JobRel rj { aj with tasks := aj.tasks.map (ATask.lose w b) } :=
  ⟨h.mapEntries (increaseCrash_get rj w) (bump_state w true) (lose_fields w b),
   h.mapEntries (rt := rj.tasks) (g := id) (fun _ => Option.map_id'.symm) (fun _ => ⟨rfl, rfl⟩) (lose_fields w b)⟩

end HqModel.Journal
