import HqModel.Lemmas.CoreActUpd
import HqModel.Lemmas.CoreInvRound
/-!
The structural invariant, its state → list half and the resource equation along the acts of the reactor: one lemma,
`Act.kept` (`Acts.kept` for chains), by cases on `Act`, each case one move of `CoreInvKeep`. Between two acts the released
tasks (`D`) are held by nobody and the tasks of a dropped single-node record not yet requeued (`L`) are in no worker set;
both are in repair for `TWI`.
-/
namespace HqModel.Core

variable {Q : Prop} {D D' D0 : TaskId → Prop} {s s' : State}

/-- the tasks in repair between two acts -/
def Gh.rep (g : Gh) : TaskId → Prop := fun u => u ∈ g.D ∨ u ∈ g.L

/-- `Inv`, and what the accumulators promise: released tasks are free, the tasks of a dropped worker are detached -/
structure PairInv (a : Gh × State) : Prop where
  inv : Inv a.2
  free : ∀ x ∈ a.1.D, Free a.2 x
  lfree : ∀ x ∈ a.1.L, LFree3 a.2.workers x

theorem Shr.lfree {ws rd ws' rd' t} (h : Shr ws rd ws' rd') (hf : LFree3 ws t) : LFree3 ws' t :=
  ⟨fun w hm => hf.na w (h.a w t hm), fun w hm => hf.np w (h.p w t hm), fun w hm => hf.nm w (h.m w t hm)⟩

theorem Shr.filter (ws : List Worker) (rd : List (TaskId × Nat × Nat)) (w : Nat) :
    Shr ws rd (ws.filter (·.id ≠ w)) rd := by
  refine ⟨fun x u h => ?_, fun x u h => ?_, fun x u h => ?_, fun _ h => h⟩
  · rw [asgW_filter] at h; split at h
    · cases h
    · exact h
  · rw [preW_filter] at h; split at h
    · cases h
    · exact h
  · rw [mnW_filter] at h; split at h
    · cases h
    · exact h

theorem Kept.pre (a : Kept Q D D' s s') (hd : ∀ u, D0 u → D u) : Kept Q D0 D' s s' :=
  ⟨a.inv, fun h => a.tw (h.mono hd), fun q h r => a.res q (h.mono hd) r⟩

/-- a step that gains nothing keeps the promises for the tasks that stay in the accumulators -/
theorem PairInv.of_keptS {a : Gh × State} {g : Gh} (hi : PairInv a) (k : KeptS Q D D' a.2 s')
    (hD : ∀ x ∈ g.D, x ∈ a.1.D ∨ Free s' x) (hL : ∀ x ∈ g.L, x ∈ a.1.L) : PairInv (g, s') :=
  ⟨k.inv, fun x hx => (hD x hx).elim (fun h => k.free (hi.free x h)) id, fun x hx => k.shr.lfree (hi.lfree x (hL x hx))⟩

/-- the record of a single-node worker goes: its tasks are in no worker set any more and in repair -/
theorem Mv.dropSn (hi : Inv s) {w : Nat} {wk : Worker} {A P : List TaskId} {F : List Nat}
    (hfw : findWorker s.workers w = some wk) (ha : wk.assign = .sn A F P) :
    KeptS Q D (fun u => D u ∨ u ∈ P ++ A) s { s with workers := s.workers.filter (·.id ≠ w) } ∧
    ∀ x ∈ P ++ A, LFree3 (s.workers.filter (·.id ≠ w)) x := by
  have hP := preW_of_sn hfw ha
  have hA := asgW_of_sn hfw ha
  have hM := mnW_of_sn hfw ha
  have hl0 := hi.ls.mv_drop_worker w
  refine ⟨⟨⟨hi.workers hl0, fun h => ?_, fun _ _ hr => hr.mv_drop_worker w⟩, .filter _ _ w⟩, fun x hx => ?_⟩
  · obtain ⟨a, b⟩ := h.drop_worker w (D := fun u => D u ∨ u ∈ P ++ A) (fun _ => .inl)
      (fun u hu => .inr (List.mem_append_right _ (hA ▸ hu))) (fun u hu => .inr (List.mem_append_left _ (hP ▸ hu)))
      (fun u hu => by rw [hM] at hu; cases hu)
    exact ⟨a, b⟩
  · rcases List.mem_append.mp hx with h1 | h1
    · exact (hl0.free_of_prefilled_gone (hi.ls.a2 w x (by rw [hP]; exact h1)) (by rw [preW_filter, if_pos rfl])).lfree
    · obtain ⟨st, hs, hh⟩ := hi.ls.a1 w x (by rw [hA]; exact h1)
      exact hl0.lfree_of_holds_gone hs hh (by rw [asgW_filter, if_pos rfl])

/-- the record of the root of a multi-node task goes and the other workers of its list are reset: nobody holds the
task any more -/
theorem Mv.dropMnRoot (hi : Inv s) {w : Nat} {wk : Worker} {t : TaskId} {ro st : Bool} {task : Task}
    {others : List Nat} {s1 : State} (hfw : findWorker s.workers w = some wk) (ha : wk.assign = .mn t ro st)
    (ht : findTask s.tasks t = some task) (hs : task.state = .runningMN (w :: others))
    (h : resetMnAll { s with workers := s.workers.filter (·.id ≠ w) } others = .ok s1) :
    KeptS Q D (fun u => D u ∨ u = t) s s1 ∧ Free s1 t := by
  have hst : stOf s.tasks t = some (.runningMN (w :: others)) := (stOf_of_find ht).trans (congrArg some hs)
  have k0 : KeptS Q D (fun u => D u ∨ u = t) s { s with workers := s.workers.filter (·.id ≠ w) } := by
    refine ⟨⟨hi.workers (hi.ls.mv_drop_worker w), fun htw => ?_, fun _ _ hr => hr.mv_drop_worker w⟩, .filter _ _ w⟩
    obtain ⟨a0, b0⟩ := htw.drop_mn_worker hfw ha
    exact ⟨a0, b0⟩
  obtain ⟨k1, ff⟩ := Mv.resetPart (Q := Q) (D := fun u => D u ∨ u = t) others k0.inv hst (fun x hx => .tail _ hx) h
  refine ⟨(k0.trans k1).mono fun u hu => hu.elim (fun e => e) .inr,
    k1.inv.ls.free_of_mn (l := w :: others) (by rw [resetMnAll_tasks _ _ _ h]; exact hst) fun x hx => ?_⟩
  -- a worker still reserved for the task is one of its list: the root is gone, the others have been reset
  have h0 := k1.shr.m x t hx
  change mnW (s.workers.filter (·.id ≠ w)) x = some t at h0
  rw [mnW_filter] at h0
  split at h0
  · cases h0
  · rename_i hxw
    obtain ⟨l, h1, h2⟩ := hi.ls.m1 x t h0
    rw [hst] at h1; cases h1
    rcases List.mem_cons.mp h2 with h2 | h2
    · exact hxw h2
    · rw [ff x h2] at hx; cases hx

/-- the record of another worker of a multi-node task goes: the worker leaves the list of the task -/
theorem Mv.dropMnOther (hi : Inv s) {w : Nat} {wk : Worker} {t : TaskId} {ro st : Bool} {task : Task} {root : Nat}
    {others : List Nat} (hfw : findWorker s.workers w = some wk) (ha : wk.assign = .mn t ro st)
    (ht : findTask s.tasks t = some task) (hs : task.state = .runningMN (root :: others)) (hnd : ¬ D t) :
    KeptS Q D D s (({ s with workers := s.workers.filter (·.id ≠ w) } : State).setTask
      { task with state := .runningMN ((root :: others).filter (· ≠ w)) }) := by
  cases findTask_some_id ht
  have hl0 := hi.ls.mv_drop_worker w
  have hst : stOf s.tasks task.id = some (.runningMN (root :: others)) := (stOf_of_find ht).trans (congrArg some hs)
  have hna : ∀ x, task.id ∉ asgW (s.workers.filter (·.id ≠ w)) x := fun x hx =>
    hi.ls.not_asg_of_state (st := .runningMN (root :: others)) hst (by simp) x ((Shr.filter s.workers [] w).a x _ hx)
  refine ⟨⟨?_, fun htw => ?_, fun _ _ hr => (hr.mv_drop_worker w).put_free hna (fun _ _ => rfl)⟩, .filter _ _ w⟩
  · show Inv4 (putTask s.tasks _) (s.workers.filter (·.id ≠ w)) s.redirects s.rqs
    refine Inv4.put (hi.workers hl0) (t' := { task with state := .runningMN ((root :: others).filter (· ≠ w)) }) ht rfl
      rfl (by simp [hs, isWaiting]) (fun _ _ => ⟨_, hs⟩) ?_
    refine hl0.mv_mn_state ht hs rfl fun x hx => ?_
    rw [mnW_filter] at hx
    split at hx
    · cases hx
    · rename_i hxw
      obtain ⟨l, h1, h2⟩ := hi.ls.m1 x task.id hx
      rw [hst] at h1; cases h1
      exact List.mem_filter.mpr ⟨h2, by simpa using hxw⟩
  · have hnr := htw.tw.no_rd_of_state hst fun _ e => nomatch e
    obtain ⟨a0, b0⟩ := htw.drop_mn_worker hfw ha
    refine ⟨(a0.put (t' := { task with state := .runningMN ((root :: others).filter (· ≠ w)) }) ht
      (fun _ _ _ _ h => h) (fun _ _ e => by rcases e with e | e <;> cases e) (fun _ e => by cases e) ?_
      (fun x v hm => absurd hm (hnr x v))).mono fun u hu => hu.1.resolve_right hu.2,
      b0.put ht fun l' e => ⟨_, hs, fun x hx => ?_⟩⟩
    · intro l e x hx
      cases e
      obtain ⟨hx1, hx2⟩ := List.mem_filter.mp hx
      rw [mnW_filter, if_neg (by simpa using hx2)]
      exact htw.tw.t3 _ _ hnd hst x hx1
    · cases e
      exact (List.mem_filter.mp hx).1

theorem Mv.addTask (hi : Inv s) {nt : NewTask} {ts : List Task} {kept : List TaskId} {n : Nat}
    (hreg : registerDeps s.tasks nt.id nt.deps = (ts, kept, n)) (hnone : findTask ts nt.id = none) :
    KeptS Q D D s { s with tasks := ts ++ [mkTask nt n kept] } := by
  have hrel : ConsRel (some nt.id) s.tasks ts := by
    have := registerDeps_rel nt.deps s.tasks nt.id; rwa [hreg] at this
  exact ⟨⟨Inv4.add_task (task := mkTask nt n kept) hi hrel hnone trivial rfl,
    fun h => ⟨(h.tw.congr_tasks hrel.stOf).append trivial, (h.mnu.congr_tasks hrel.stOf).append trivial⟩,
    fun _ _ hr => (hr.consRel hrel).append (task := mkTask nt n kept) (hi.ls.congr_tasks hrel.stOf) hnone⟩, .refl _ _⟩

theorem Mv.newWorker (hi : Inv s) {w : Worker} (hw : FreshWorker w) :
    KeptS Q D D s { s with workers := s.workers ++ [w] } := by
  unfold FreshWorker at hw
  have e1 : ∀ x, asgW (s.workers ++ [w]) x = asgW s.workers x := view_append wAsg [] s.workers (by rw [wAsg, hw])
  have e2 : ∀ x, preW (s.workers ++ [w]) x = preW s.workers x := view_append wPre [] s.workers (by rw [wPre, hw])
  have e3 : ∀ x, mnW (s.workers ++ [w]) x = mnW s.workers x := view_append wMn none s.workers (by rw [wMn, hw])
  exact ⟨⟨hi.workers (hi.ls.congr_workers e1 e2 e3),
    fun h => h.congr_workers rfl rfl e1 e2 e3, fun _ _ hr => hr.mv_new_worker hw⟩,
    ⟨fun x u h => by rw [← e1 x]; exact h, fun x u h => by rw [← e2 x]; exact h,
      fun x u h => by rw [← e3 x]; exact h, fun _ h => h⟩⟩

/-- what the resource equation is told about the bookings of `task_running` -/
def Side.noSat (sd : Side) : Prop := ∀ s w id rv, sd.run s w id rv → RunNoSat s w id rv

/-- **one act keeps the bundle.** `sd` tells that no Reject comes from a worker that does not hold the task and that a
new worker record is fresh, and that the loop over the prefilled tasks of a lost worker finds them Prefilled; the
resource equation also needs `sd.noSat`. -/
theorem Act.kept {sd : Side} {a b : Gh × State} (hst : ¬ sd.stale) (hwk : ∀ s w, sd.worker s w → FreshWorker w)
    (hlp : ∀ st, sd.lostP st → ∃ x, st = .prefilled x) (h : Act sd a b) (hi : PairInv a) : PairInv b ∧ Kept sd.noSat a.1.rep b.1.rep a.2 b.2 := by
  have hinv := hi.inv
  cases h with
  | @release D R f p U L s s1 id task ht h =>
    obtain ⟨k, hf⟩ := h.kept (Q := sd.noSat) (D := Gh.rep ⟨D, R, f, p, U, L⟩) hinv ht
    exact ⟨hi.of_keptS k (fun x hx => (List.mem_cons.mp hx).elim (fun e => .inr (e ▸ hf)) .inl) fun _ h => h,
      k.toKept.mono fun u hu => hu.elim (·.imp_left (List.mem_cons_of_mem _)) fun e => .inl (e ▸ List.mem_cons_self)⟩
  | @finish D R U L s id task ht hd hs _ =>
    change findTask s.tasks id = some task at ht
    obtain rfl := findTask_some_id ht
    have k := Mv.settle_free (Q := sd.noSat) (D := Gh.rep ⟨D, R, none, [], U, L⟩) hinv
      (t' := { task with state := .finished }) ht (hi.free _ hd) rfl rfl
      (fun hw => by cases e : task.state <;> simp_all [isWaiting]) trivial
    exact ⟨hi.of_keptS k (fun x hx => .inl (List.mem_filter.mp hx).1) fun _ h => h,
      k.toKept.mono fun u hu => hu.1.imp_left fun h => List.mem_filter.mpr ⟨h, by simpa using hu.2⟩⟩
  | @wake D R f p U L s c t n ht hs _ =>
    change findTask s.tasks c = some t at ht
    obtain rfl := findTask_some_id ht
    have k := Mv.settle_free (Q := sd.noSat) (D := Gh.rep ⟨D, R, f, t.id :: p, U, L⟩) hinv
      (t' := { t with state := .waiting n }) ht
      (hinv.free_of_state (.inr (.inl ⟨n + 1, by rw [stOf_of_find ht, hs]⟩))) rfl rfl (fun _ => trivial) trivial
    exact ⟨hi.of_keptS k (fun _ h => .inl h) fun _ h => h, k.toKept.mono fun _ hu => hu.1⟩
  | @wakeReady D R f p U L s s2 c t r ht hs h =>
    change findTask s.tasks c = some t at ht
    obtain rfl := findTask_some_id ht
    have k := (Mv.settle_free (Q := sd.noSat) (D := Gh.rep ⟨D, R, f, t.id :: p, U, L⟩) hinv
      (t' := { t with state := .waiting 0 }) ht
      (hinv.free_of_state (.inr (.inl ⟨1, by rw [stOf_of_find ht, hs]⟩))) rfl rfl (fun _ => trivial) trivial).coreEq
      (addReady_core h)
    exact ⟨hi.of_keptS k (fun _ h => .inl h) fun _ h => h, k.toKept.mono fun _ hu => hu.1⟩
  | @requeue D R f p U L s s2 id task r i ht hd _ h =>
    change findTask s.tasks id = some task at ht
    obtain rfl := findTask_some_id ht
    have k := (Mv.settle_free (Q := sd.noSat) (D := Gh.rep ⟨D, R, f, p, U, L⟩) hinv
      (t' := { task with state := .waiting 0, inst := i }) ht (hi.free _ hd) rfl rfl (fun _ => trivial) trivial).coreEq
      (addReady_core h)
    exact ⟨hi.of_keptS k (fun x hx => .inl (List.mem_filter.mp hx).1) fun _ h => h,
      k.toKept.mono fun u hu => hu.1.imp_left fun h => List.mem_filter.mpr ⟨h, by simpa using hu.2⟩⟩
  | stale hP => exact (hst hP).elim
  | @retract D R f p U L s s1 t task w ht hs hw =>
    have k := Mv.retractStep (Q := sd.noSat) (D := Gh.rep ⟨D, t :: R, f, p, U, L⟩) hinv ht hs hw
    exact ⟨hi.of_keptS k (fun _ h => .inl h) fun _ h => h, k.toKept⟩
  | @doom D R f p U L s id task cons ht hc =>
    refine ⟨⟨hinv, fun x hx => (List.mem_append.mp hx).elim (fun hx => ?_) (hi.free x), hi.lfree⟩,
      (Kept.refl hinv).mono fun u hu => hu.imp_left (List.mem_append_right _)⟩
    exact hinv.free_of_consumer (recursiveConsumers_mem ht hc x hx)
  | @erase D R f p U L s s' id st h hd =>
    have k := Mv.erase (Q := sd.noSat) (D := Gh.rep ⟨D, R, f, p, U, L⟩) hinv (hi.free id hd) h
    exact ⟨hi.of_keptS k (fun x hx => .inl (List.mem_filter.mp hx).1) fun _ h => h,
      k.toKept.mono fun u hu => hu.1.imp_left fun h => List.mem_filter.mpr ⟨h, by simpa using hu.2⟩⟩
  | @eraseW g s s' id n h =>
    have k := Mv.erase (Q := sd.noSat) (D := g.rep) hinv
      (hinv.free_of_state (.inr (.inl ⟨n, (removeTask_spec h).1⟩))) h
    exact ⟨hi.of_keptS k (fun _ h => .inl h) fun _ h => h, k.toKept.mono fun _ hu => hu.1⟩
  | @eraseFin D R U L s s' id h =>
    have k := Mv.erase (Q := sd.noSat) (D := Gh.rep ⟨D, R, some id, [], U, L⟩) hinv
      (hinv.free_of_state (.inr (.inr (removeTask_spec h).1))) h
    exact ⟨hi.of_keptS k (fun _ h => .inl h) fun _ h => h, k.toKept.mono fun _ hu => hu.1⟩
  | @resolve R f p U s id task w target trv i ht hs hfnd =>
    change findTask s.tasks id = some task at ht
    obtain rfl := findTask_some_id ht
    have k := Mv.resolve (Q := sd.noSat) hinv (t' := { task with state := .assigned target trv, inst := i }) ht hs hfnd
      rfl rfl rfl
    exact ⟨hi.of_keptS k (fun _ h => .inl h) fun _ h => h,
      (k.toKept.pre fun _ hu => hu.elim (nomatch ·) (nomatch ·)).mono fun _ hu => hu.elim⟩
  | @unretract R f p U s id task w i ht hs hfnd =>
    change findTask s.tasks id = some task at ht
    obtain rfl := findTask_some_id ht
    have k := Mv.settle_free (Q := sd.noSat) (D := Gh.rep ⟨[], R, f, p, U, []⟩) hinv
      (t' := { task with state := .waiting 0, inst := i }) ht (hinv.ls.free_of_retracting (w0 := w) (by rw [stOf_of_find ht, hs]) (rd_find_none hfnd)) rfl rfl
      (by rw [hs]; exact False.elim) trivial
    exact ⟨hi.of_keptS k (fun _ h => .inl h) fun _ h => h, k.toKept.mono fun _ hu => hu.1⟩
  | @run f p U s s' w id rv task ws ht h hS =>
    have k := h.kept hinv ht
    exact ⟨⟨k.inv, nofun, nofun⟩,
      ((k.imp fun hq : sd.noSat => hq _ _ _ _ hS).pre fun _ hu => hu.elim (nomatch ·) (nomatch ·)).mono fun _ hu => hu.elim⟩
  | @block g s w wk b hw =>
    have k := Mv.setWorker (Q := sd.noSat) (D := g.rep) hinv (wk := wk) (wk' := { wk with blocked := b })
      (by show findWorker s.workers wk.id = some wk; rw [findWorker_some_id hw]; exact hw) rfl rfl rfl rfl
      (fun A F P ha => ⟨P, ha⟩)
    exact ⟨hi.of_keptS k (fun _ h => .inl h) fun _ h => h, k.toKept⟩
  | @ask g s =>
    have k := (CoreEq.ask s).kept (Q := sd.noSat) (D := g.rep) hinv
    exact ⟨hi.of_keptS k (fun _ h => .inl h) fun _ h => h, k.toKept⟩
  | @dropSn D R f p U L s w wk A P F hw ha _ =>
    obtain ⟨k, hl⟩ := Mv.dropSn (Q := sd.noSat) (D := Gh.rep ⟨D, R, f, p, U, L⟩) hinv hw ha
    exact ⟨⟨k.inv, fun x hx => k.free (hi.free x hx), fun x hx =>
        (List.mem_append.mp hx).elim (hl x) fun h => k.shr.lfree (hi.lfree x h)⟩,
      k.toKept.mono fun u hu => hu.elim (·.imp_right (List.mem_append_right _)) fun h => .inr (List.mem_append_left _ h)⟩
  | @dropMnRoot D R f p U L s s1 w wk t ro st task others hw ha _ ht hs h =>
    obtain ⟨k, hf⟩ := Mv.dropMnRoot (Q := sd.noSat) (D := Gh.rep ⟨D, R, f, p, U, L⟩) hinv hw ha ht hs h
    exact ⟨hi.of_keptS k (fun x hx => (List.mem_cons.mp hx).elim (fun e => .inr (e ▸ hf)) .inl) fun _ h => h,
      k.toKept.mono fun u hu => hu.elim (·.imp_left (List.mem_cons_of_mem _)) fun e => .inl (e ▸ List.mem_cons_self)⟩
  | @dropMnOther g s w wk t ro st task root others hw ha _ ht hs _ =>
    -- a task in the accumulators is held by nobody, this one is held by `w`
    have hm := mnW_of_mn hw ha
    have k := Mv.dropMnOther (Q := sd.noSat) (D := g.rep) hinv hw ha ht hs fun hu =>
      hu.elim (fun h => (hi.free t h).nm w hm) fun h => (hi.lfree t h).nm w hm
    exact ⟨hi.of_keptS k (fun _ h => .inl h) fun _ h => h, k.toKept⟩
  | @lostPrefilled D R f p U L s s2 id task ht hl hq h =>
    change findTask s.tasks id = some task at ht
    obtain rfl := findTask_some_id ht
    obtain ⟨x, hs⟩ := hlp _ hq
    have k := (Mv.settle (Q := sd.noSat) (D := Gh.rep ⟨D, R, f, p, U, L⟩) hinv
      (t' := { task with inst := task.inst + 1, state := .waiting 0 }) ht (hi.lfree _ hl) rfl rfl (fun _ => trivial)
      trivial (fun _ _ _ _ => Iff.rfl) (fun _ _ => rfl)
      (fun y v hm => (hinv.ls.d1 _ y v hm).elim fun w0 e => by rw [stOf_of_find ht, hs] at e; cases e)
      hinv.ls.d2).coreEq (movePrefilledToReady_core h)
    exact ⟨hi.of_keptS k (fun _ h => .inl h) fun x hx => (List.mem_filter.mp hx).1,
      k.toKept.mono fun u hu => hu.1.imp_right fun h => List.mem_filter.mpr ⟨h, by simpa using hu.2⟩⟩
  | @lostRequeue D R f p U L s s2 id task r ht hl hs _ h =>
    change findTask s.tasks id = some task at ht
    obtain rfl := findTask_some_id ht
    have k := (Mv.settle (Q := sd.noSat) (D := Gh.rep ⟨D, R, f, p, U, L⟩) hinv
      (t' := { task with state := .waiting 0, inst := task.inst + 1 }) ht (hi.lfree _ hl) rfl rfl (fun _ => trivial)
      trivial (fun _ _ _ _ => Iff.rfl) (fun _ _ => rfl)
      (fun y v hm => (hinv.ls.d1 _ y v hm).elim fun w0 e => by
        rw [stOf_of_find ht] at e; exact hs w0 (Option.some.inj e))
      hinv.ls.d2).coreEq (addReady_core h)
    exact ⟨hi.of_keptS k (fun _ h => .inl h) fun x hx => (List.mem_filter.mp hx).1,
      k.toKept.mono fun u hu => hu.1.imp_right fun h => List.mem_filter.mpr ⟨h, by simpa using hu.2⟩⟩
  | @lostRedirect D R f p U L s s2 id task x r ht hl hs _ h =>
    change findTask s.tasks id = some task at ht
    obtain rfl := findTask_some_id ht
    -- the redirect goes, the record stays Retracting
    have k := (Mv.settle (Q := sd.noSat) (D := Gh.rep ⟨D, R, f, p, U, L⟩) hinv
      (t' := { task with inst := task.inst + 1 }) (rd' := s.redirects.filter (·.1 ≠ task.id)) ht (hi.lfree _ hl) rfl rfl
      id (hs ▸ trivial : NoOb task.state) (fun u y v hu => by rw [rd_filter_mem]; exact and_iff_left hu)
      (fun _ hu => find_filter_ne hu) (fun y v hm => (rd_filter_mem.mp hm).2 rfl)
      (rd_filter_nodup hinv.ls.d2 _)).coreEq (addReady_core h)
    exact ⟨hi.of_keptS k (fun _ h => .inl h) fun x hx => (List.mem_filter.mp hx).1,
      k.toKept.mono fun u hu => hu.1.imp_right fun h => List.mem_filter.mpr ⟨h, by simpa using hu.2⟩⟩
  | @crash g s id task n ht =>
    change findTask s.tasks id = some task at ht
    obtain rfl := findTask_some_id ht
    have k := Mv.same (Q := sd.noSat) (D := g.rep) hinv (t' := { task with crashes := n }) ht rfl rfl rfl
    exact ⟨hi.of_keptS k (fun _ h => .inl h) fun _ h => h, k.toKept⟩
  | @newWaiting D R U L s nt ts kept n hreg hnone _ _ =>
    have k := Mv.addTask (Q := sd.noSat) (D := Gh.rep ⟨D, R, none, [], U, L⟩) hinv hreg hnone
    exact ⟨hi.of_keptS k (fun _ h => .inl h) fun _ h => h, k.toKept⟩
  | @newReady D R U L s s2 nt ts kept r hreg hnone _ h =>
    -- the record is queued before it is appended: the same state with the queues of `s2`
    have k := (Mv.addTask (Q := sd.noSat) (D := Gh.rep ⟨D, R, none, [], U, L⟩) hinv hreg hnone).coreEq
      (s2 := { s2 with tasks := s2.tasks ++ [mkTask nt 0 kept] }) (by
        have hc := addReady_core h
        exact ⟨by show s2.tasks ++ _ = ts ++ _; rw [hc.t], hc.w, hc.r, hc.q⟩)
    exact ⟨hi.of_keptS k (fun _ h => .inl h) fun _ h => h, k.toKept⟩
  | @newWorker g s w hW =>
    have k := Mv.newWorker (Q := sd.noSat) (D := g.rep) hinv (hwk _ _ hW)
    exact ⟨hi.of_keptS k (fun _ h => .inl h) fun _ h => h, k.toKept⟩
  | @newRq g s rqv _ =>
    exact ⟨⟨newRq_inv rqv hinv, hi.free, hi.lfree⟩, newRq_inv rqv hinv, fun h => newRq_tw rqv h,
      fun _ _ hr => newRq_res rqv hr⟩

theorem Acts.kept {sd : Side} {a b : Gh × State} (hst : ¬ sd.stale) (hwk : ∀ s w, sd.worker s w → FreshWorker w)
    (hlp : ∀ st, sd.lostP st → ∃ x, st = .prefilled x) (h : Acts sd a b) (hi : PairInv a) :
    PairInv b ∧ Kept sd.noSat a.1.rep b.1.rep a.2 b.2 := by
  induction h with
  | refl => exact ⟨hi, .refl hi.inv⟩
  | tail _ r ih =>
    obtain ⟨i2, k2⟩ := r.kept hst hwk hlp ih.1
    exact ⟨i2, ih.2.trans k2⟩

/-- what the structural invariant is told: a Reject comes from the worker and for the variant the task is assigned
with, a new worker record is fresh; the prefilled tasks of a lost worker are Prefilled (from `LS3`) -/
def sideI : Side :=
  { Side.any with stale := False, worker := fun _ w => FreshWorker w, lostP := fun st => ∃ x, st = .prefilled x }

/-- the resource equation is also told that no booking of `task_running` saturates -/
def sideR : Side := { sideI with run := RunNoSat }

theorem Acts.keptE {sd : Side} {a b : Gh × State} (hst : ¬ sd.stale) (hwk : ∀ s w, sd.worker s w → FreshWorker w)
    (hlp : ∀ st, sd.lostP st → ∃ x, st = .prefilled x) (h : Acts sd a b) (ha : a.1.D = [] ∧ a.1.L = [])
    (hb : b.1.D = [] ∧ b.1.L = []) (hi : Inv a.2) : Kept sd.noSat noD noD a.2 b.2 :=
  ((h.kept hst hwk hlp ⟨hi, by rw [ha.1]; exact nofun, by rw [ha.2]; exact nofun⟩).2.pre fun _ hu => hu.elim).mono
    fun _ hu => by
      unfold Gh.rep at hu; rw [hb.1, hb.2] at hu; exact hu.elim (nomatch ·) (nomatch ·)

theorem Acts.keptI {a b : Gh × State} (h : Acts sideI a b) (ha : a.1.D = [] ∧ a.1.L = [] := by exact ⟨rfl, rfl⟩)
    (hb : b.1.D = [] ∧ b.1.L = [] := by exact ⟨rfl, rfl⟩) (hi : Inv a.2) : Kept sideI.noSat noD noD a.2 b.2 :=
  h.keptE id (fun _ _ h => h) (fun _ h => h) ha hb hi

theorem Acts.keptR {a b : Gh × State} (h : Acts sideR a b) (ha : a.1.D = [] ∧ a.1.L = [] := by exact ⟨rfl, rfl⟩)
    (hb : b.1.D = [] ∧ b.1.L = [] := by exact ⟨rfl, rfl⟩) (hi : Inv a.2) : Kept True noD noD a.2 b.2 :=
  (h.keptE id (fun _ _ h => h) (fun _ h => h) ha hb hi).imp fun _ _ _ _ _ h => h

theorem UpdProto.side {w : Nat} {u : Update} (h : UpdProto s w u) : UpdSide sideI s w u := by
  cases u <;> first | trivial | exact .inr h | exact fun _ _ => trivial

theorem Inv.lost_side (hi : Inv s) {w : Nat} {wk : Worker} (hw : s.worker? w = some wk) :
    wk.assign.ids.Nodup ∧ ∀ A F P, wk.assign = .sn A F P →
      ∀ id ∈ P, ∀ task, s.task? id = some task → ∃ x, task.state = .prefilled x := by
  have hp : ∀ A F P, wk.assign = .sn A F P → ∀ id ∈ P, stOf s.tasks id = some (.prefilled w) := fun A F P ha id hid =>
    hi.ls.a2 w id (preW_of_sn hw ha ▸ hid)
  refine ⟨?_, fun A F P ha id hid task ht => ⟨w, ?_⟩⟩
  · cases ha : wk.assign with
    | mn t r st => exact List.pairwise_singleton _ _
    | sn A F P =>
      have nA : A.Nodup := asgW_of_sn hw ha ▸ hi.ls.nda w
      have nP : P.Nodup := preW_of_sn hw ha ▸ hi.ls.ndp w
      refine List.nodup_append.mpr ⟨nP, nA, fun x hx y hy e => ?_⟩
      subst e
      obtain ⟨st, h1, h2⟩ := hi.ls.a1 w x (asgW_of_sn hw ha ▸ hy)
      rw [hp A F P ha x hx] at h1; cases h1; exact h2
  · have := hp A F P ha id hid
    rw [stOf_of_find ht] at this; exact Option.some.inj this

/-! ### single functions, for the families that read `Inv` or `TWI` after one of them -/

theorem addNewTasks_inv (nts : List NewTask) (s s' : State) (r r' : List TaskId)
    (hi : Inv s) (h : s.addNewTasks nts r = .ok (s', r')) : Inv s' :=
  ((addNewTasks_acts (sd := sideI) (D := []) (L := []) (U := []) nts h fun _ _ _ _ => trivial).keptI (hi := hi)).inv

theorem addNewTasks_tw {nts : List NewTask} {r r' : List TaskId} (hinv : Inv s) (hi : TWI noD s)
    (h : s.addNewTasks nts r = .ok (s', r')) : TWI noD s' :=
  ((addNewTasks_acts (sd := sideI) (D := []) (L := []) (U := []) nts h fun _ _ _ _ => trivial).keptI (hi := hinv)).tw hi

theorem updateState_inv {s s1 : State} {w : Nat} {u : Update} {rets rets' : List (List TaskId)}
    (hi : Inv s) (hok : UpdProto s w u) (h : s.updateState w u rets = .ok (s1, rets')) : Inv s1 :=
  ((updateState_acts (U := []) hok.side h).keptI (hi := hi)).inv

theorem updateState_tw {s s1 : State} {w : Nat} {u : Update} {rets rets' : List (List TaskId)}
    (hi : TWI noD s) (hinv : Inv s) (hok : UpdProto s w u) (h : s.updateState w u rets = .ok (s1, rets')) :
    TWI noD s1 := ((updateState_acts (U := []) hok.side h).keptI (hi := hinv)).tw hi

end HqModel.Core
