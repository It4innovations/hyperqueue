import HqModel.Lemmas.WorkerMinor
/-!
The flag `stopSent` of a running task is faithful: it is only ever set by a step that emits a stop signal for
that task id (`step_stopSent`), hence a running task with `stopSent = true` had the flag when the run began or was
sent a stop signal earlier in the run (`run_stopSent`).
-/
namespace HqModel.Worker

/-- every running task was running with these flags at the start of the step (`R0`), or has no stop signalled -/
def SMono (R0 : List Running) (a : Acc) : Prop := ∀ r' ∈ a.s.running, r' ∈ R0 ∨ r'.stopSent = false

theorem SMono.mv {R0 : List Running} {m m' : Mode} {a a' : Acc} (hm : Mv m a m' a') (h : SMono R0 a) : SMono R0 a' := by
  cases hm with
  | push | alloc | reject | fail | pop | release => exact h
  | block => exact fun r' hr' => h r' (insertBlocked_running .. ▸ hr')
  | start =>
    intro r' hr'
    rcases List.mem_append.mp hr' with hr' | hr'
    · exact h r' hr'
    · exact Or.inr (List.mem_singleton.mp hr' ▸ rfl)

theorem step_stopSent {s s' : State} {op : Op} {outs : List Out}
    (hs : step s op = .ok (s', outs)) : StopFaithful s s' outs := by
  have fromMono : ∀ {a : Acc}, SMono s.running a → StopFaithful s a.s outs := by
    intro a hm r' hr' hf
    rcases hm r' hr' with h | h
    · exact Or.inl ⟨r', h, rfl, hf⟩
    · rw [h] at hf; cases hf
  rcases step_path hs with ⟨es, a, -, hp, rfl, -⟩ | ⟨t, res, en, r, a, bl', upd', -, -, hp, rfl, -⟩ | ⟨-, -, h⟩
  · exact fromMono (hp.preserves (I := fun _ => SMono s.running) SMono.mv fun r' hr' => Or.inl hr')
  · exact fromMono (a := { a with s := { a.s with blocked := bl' } })
      (hp.preserves (I := fun _ => SMono s.running) SMono.mv fun r' hr' => Or.inl (List.mem_filter.mp hr').1)
  · exact h

theorem run_stopSent : ∀ (ops : List Op) {s0 s : State} {os : List (List Out)},
    run s0 ops = .ok (s, os) → ∀ r ∈ s.running, r.stopSent = true →
      (∃ r0 ∈ s0.running, r0.task.id = r.task.id ∧ r0.stopSent = true) ∨
      ∃ o ∈ os, ∃ k, Out.stop r.task.id k ∈ o
  | [], s0, s, os, hr, r, hrm, hf => by
    simp only [run] at hr; cases hr
    exact Or.inl ⟨r, hrm, rfl, hf⟩
  | op :: ops, s0, s, os, hr, r, hrm, hf => by
    obtain ⟨s1, o1, os1, h1, h2, rfl⟩ := run_cons_ok hr
    rcases run_stopSent ops h2 r hrm hf with ⟨r1, hr1, hid1, hf1⟩ | ⟨o, ho, k, hk⟩
    · rcases step_stopSent h1 r1 hr1 hf1 with ⟨r0, hr0, hid0, hf0⟩ | ⟨k, hk⟩
      · exact Or.inl ⟨r0, hr0, by rw [hid0, hid1], hf0⟩
      · exact Or.inr ⟨o1, List.mem_cons_self, k, by rw [← hid1]; exact hk⟩
    · exact Or.inr ⟨o, List.mem_cons_of_mem _ ho, k, hk⟩

end HqModel.Worker
