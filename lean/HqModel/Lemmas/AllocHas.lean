import HqModel.Lemmas.AllocBridge
import HqModel.Lemmas.AllocPolicy
/-!
"The groups `S` contain the amount": enough free whole indices in `S` and, for a fractional part, a spare whole index
or a group of `S` with that fraction free. On the concise state (`CHas`) this is what the admission test decides for
all groups (`le_maxAlloc_iff_has`) and what the constraints of the MILP say of a group set (`feasible_iff_has`); on the
pool it is `ScatterOk`, under which the claim loops do not stop, and the two agree (`GroupsLink.scatterOk`).
-/
namespace HqModel.Alloc

def freeLen (gs : List Group) (p : Nat) : Nat := (gs[p]?.map (·.free.length)).getD 0

/-- free whole indices in the groups `P` of the pool -/
def totalFreeP (gs : List Group) (P : List Nat) : Nat := (P.map (freeLen gs)).sum

/-- The groups `P` of the pool contain the amount. The hypothesis under which every claim loop goes through: the round
robin (`P` = the groups of the round), the `tight` loop (`P` = the solver's set), a list pool (`P = [0]`). -/
def ScatterOk (gs : List Group) (P : List Nat) (units fr : Nat) : Prop :=
  units ≤ totalFreeP gs P ∧
    (fr = 0 ∨ units < totalFreeP gs P ∨ ∃ p ∈ P, ∃ g, gs[p]? = some g ∧ bestVal g.fracs fr ≠ none)

theorem ScatterOk.nil {gs : List Group} {units fr : Nat} (h : ScatterOk gs [] units fr) : units = 0 ∧ fr = 0 := by
  obtain ⟨h1, h2⟩ := h
  simp only [totalFreeP, List.map_nil, List.sum_nil] at h1 h2
  refine ⟨Nat.le_zero.mp h1, ?_⟩
  rcases h2 with h | h | ⟨p, hp, -⟩
  · exact h
  · omega
  · cases hp

/-- free whole indices of group `p` according to the concise state (`ConciseResourceGroup.units`; 0 for a group that
does not exist) -/
def unitsAt (c : CState) (p : Nat) : Nat := (c[p]?.map (·.units)).getD 0

/-- what the unit constraints of the MILP sum over a group set `S` -/
def unitsIn (c : CState) (S : List Nat) : Nat := (S.map (unitsAt c)).sum

/-- The groups `S` of the concise state contain the amount: what `has_resources_for_request` tests with `S` = all
groups and what `group_solver` demands of a group set. -/
def CHas (c : CState) (S : List Nat) (amount : Nat) : Prop :=
  amount / FPU ≤ unitsIn c S ∧
    (amount % FPU = 0 ∨ amount / FPU < unitsIn c S ∨
      ∃ p ∈ S, ∃ cg, c[p]? = some cg ∧ amount % FPU ≤ fmax cg.fracs)

theorem entryLp_coefs_length (c : CState) (amount : Nat) : (entryLp c amount).coefs.length = c.length := by
  unfold entryLp
  dsimp only
  split <;> simp

/-- coefficient of group `j` in the first constraint: its whole indices, one more if it can serve the fraction -/
def coef1 (c : CState) (fr j : Nat) : Nat :=
  match c[j]? with
  | some cg => if fr ≠ 0 ∧ fr ≤ fmax cg.fracs then cg.units + 1 else cg.units
  | none => 0

theorem entryLp_sel (c : CState) (amount j : Nat) :
    ((entryLp c amount).coefs[j]?.map (·.c1)).getD 0 = coef1 c (amount % FPU) j ∧
      (amount % FPU ≠ 0 → ((entryLp c amount).coefs[j]?.map (·.c2)).getD 0 = unitsAt c j) := by
  unfold coef1 unitsAt entryLp
  by_cases hfr : amount % FPU = 0
  · cases hc : c[j]? <;> simp [hfr, hc]
  · cases hc : c[j]? with
    | none => simp [hfr, hc]
    | some cg => by_cases hle : amount % FPU ≤ fmax cg.fracs <;> simp [hfr, hc, hle]

theorem sumSel_c1 (c : CState) (amount : Nat) (S : List Nat) :
    sumSel (·.c1) (entryLp c amount).coefs S = (S.map (coef1 c (amount % FPU))).sum := by
  unfold sumSel
  rw [List.map_congr_left (fun j _ => (entryLp_sel c amount j).1)]

theorem sumSel_c2 (c : CState) {amount : Nat} (hfr : amount % FPU ≠ 0) (S : List Nat) :
    sumSel (·.c2) (entryLp c amount).coefs S = unitsIn c S := by
  unfold sumSel unitsIn
  rw [List.map_congr_left (fun j _ => (entryLp_sel c amount j).2 hfr)]

theorem unitsAt_le_coef1 (c : CState) (fr j : Nat) : unitsAt c j ≤ coef1 c fr j := by
  unfold unitsAt coef1
  cases c[j]? with
  | none => exact Nat.le_refl _
  | some cg => simp only [Option.map_some, Option.getD_some]; split <;> omega

theorem feasible_iff_has (c : CState) (amount : Nat) (S : List Nat) :
    (entryLp c amount).feasible S = true ↔
      (∀ p ∈ S, p < c.length) ∧ S.Pairwise (· < ·) ∧ CHas c S amount := by
  simp only [EntryLp.feasible, Bool.and_eq_true, List.all_eq_true, decide_eq_true_eq, entryLp_coefs_length,
    sumSel_c1, and_assoc]
  refine and_congr_right fun _ => and_congr_right fun _ => ?_
  unfold CHas
  by_cases hfr : amount % FPU = 0
  · -- whole amount: one constraint on the whole indices
    have h1 : (S.map (coef1 c (amount % FPU))).sum = unitsIn c S := by
      unfold unitsIn
      congr 1
      apply List.map_congr_left
      intro j _
      unfold coef1 unitsAt
      cases c[j]? <;> simp [hfr]
    have hr : (entryLp c amount).rhs1 = amount / FPU ∧ (entryLp c amount).rhs2 = 0 := by simp [entryLp, hfr]
    rw [h1, hr.1, hr.2]
    exact ⟨fun h => ⟨h.1, .inl hfr⟩, fun h => ⟨h.1, Nat.zero_le _⟩⟩
  · have hr1 : (entryLp c amount).rhs1 = amount / FPU + 1 := by simp [entryLp, hfr]
    have hr2 : (entryLp c amount).rhs2 ≤ amount / FPU := by
      simp only [entryLp, hfr, if_false]
      split
      · exact Nat.le_refl _
      · exact Nat.zero_le _
    rw [sumSel_c2 c hfr, hr1]
    have hge := sum_map_le S (unitsAt c) (coef1 c (amount % FPU)) (fun j _ => unitsAt_le_coef1 c _ j)
    by_cases hex : ∃ p ∈ S, ∃ cg, c[p]? = some cg ∧ amount % FPU ≤ fmax cg.fracs
    · -- a selected group can serve the fraction: the second constraint asks for the whole indices
      obtain ⟨p, hp, cg, hcg, hle⟩ := hex
      have hgt := sum_map_lt S (unitsAt c) (coef1 c (amount % FPU)) (fun j _ => unitsAt_le_coef1 c _ j) hp
        (by simp [unitsAt, coef1, hcg, hfr, hle])
      have hneed : c.any (fun g => decide (amount % FPU ≤ fmax g.fracs)) = true :=
        List.any_eq_true.mpr ⟨cg, List.mem_of_getElem? hcg, by simpa using hle⟩
      have hr2' : 0 < amount / FPU → (entryLp c amount).rhs2 = amount / FPU := fun hu => by
        simp [entryLp, hfr, hu, hneed]
      refine ⟨fun h => ⟨?_, .inr (.inr ⟨p, hp, cg, hcg, hle⟩)⟩, fun h => ⟨?_, Nat.le_trans hr2 h.1⟩⟩
      · rcases Nat.eq_zero_or_pos (amount / FPU) with h0 | hu
        · omega
        · rw [← hr2' hu]; exact h.2
      · unfold unitsIn at h; omega
    · -- none can: the first constraint asks for a spare whole index
      have h1 : (S.map (coef1 c (amount % FPU))).sum = unitsIn c S := by
        unfold unitsIn
        congr 1
        apply List.map_congr_left
        intro j hj
        unfold coef1 unitsAt
        cases hc : c[j]? with
        | none => rfl
        | some cg =>
          have : ¬ amount % FPU ≤ fmax cg.fracs := fun hle => hex ⟨j, hj, cg, hc, hle⟩
          simp [this]
      rw [h1]
      refine ⟨fun h => ⟨by omega, .inr (.inl h.1)⟩, fun h => ?_⟩
      rcases h.2 with h0 | hlt | hx
      · exact absurd h0 hfr
      · exact ⟨hlt, by omega⟩
      · exact absurd hx hex

theorem unitsIn_range (c : CState) : unitsIn c (List.range c.length) = totalUnits c := by
  unfold unitsIn totalUnits
  congr 1
  apply List.ext_getElem?
  intro j
  simp only [List.getElem?_map]
  by_cases hj : j < c.length <;> simp [hj, unitsAt]

theorem le_maxAlloc_iff_has {c : CState} (hlt : ∀ g ∈ c, ∀ kv ∈ g.fracs, kv.2 < FPU) (amount : Nat) :
    amount ≤ c.maxAlloc ↔ CHas c (List.range c.length) amount := by
  rw [maxAlloc_eq, le_maxAlloc_iff _ _ _ (maxFrac_lt c hlt)]
  unfold CHas
  rw [unitsIn_range]
  have hfrac : 0 < amount % FPU → (amount % FPU ≤ maxFrac c ↔
      ∃ p ∈ List.range c.length, ∃ cg, c[p]? = some cg ∧ amount % FPU ≤ fmax cg.fracs) := by
    intro hpos
    rw [le_maxFrac_iff_fmax c hpos]
    constructor
    · rintro ⟨cg, hcg, hle⟩
      obtain ⟨p, hp⟩ := List.getElem?_of_mem hcg
      exact ⟨p, List.mem_range.mpr (lt_length_of_getElem? hp), cg, hp, hle⟩
    · rintro ⟨p, -, cg, hcg, hle⟩
      exact ⟨cg, List.mem_of_getElem? hcg, hle⟩
  constructor
  · rintro (h | ⟨h, h2⟩)
    · exact ⟨Nat.le_of_lt h, .inr (.inl h)⟩
    · refine ⟨Nat.le_of_eq h, ?_⟩
      rcases Nat.eq_zero_or_pos (amount % FPU) with h0 | hpos
      · exact .inl h0
      · exact .inr (.inr ((hfrac hpos).mp h2))
  · rintro ⟨h1, h0 | hlt | hx⟩
    · rcases Nat.lt_or_eq_of_le h1 with h | h
      · exact .inl h
      · exact .inr ⟨h, by omega⟩
    · exact .inl hlt
    · rcases Nat.lt_or_eq_of_le h1 with h | h
      · exact .inl h
      · refine .inr ⟨h, ?_⟩
        rcases Nat.eq_zero_or_pos (amount % FPU) with h0 | hpos
        · omega
        · exact (hfrac hpos).mpr hx

theorem fget_of_fracOf_pos {m : FMap} {k v : Nat} (h : fracOf m k = v) (hv : 0 < v) : fget m k = some v := by
  unfold fracOf at h
  cases hg : fget m k with
  | none => rw [hg] at h; simp at h; omega
  | some w => rw [hg] at h; simp at h; rw [h]

theorem bestVal_ne_none_of_mem {m : FMap} {kv : Nat × Nat} {fr : Nat} (hm : kv ∈ m) (hle : fr ≤ kv.2) :
    bestVal m fr ≠ none := by
  induction m with
  | nil => cases hm
  | cons y m ih =>
    obtain ⟨k, w⟩ := y
    simp only [bestVal]
    rcases List.mem_cons.mp hm with rfl | hm'
    · split <;> simp [hle]
    · have := ih hm'
      split
      · rename_i hn; exact absurd hn this
      · split <;> simp

theorem bestVal_ne_none {m : FMap} {k v fr : Nat} (hget : fget m k = some v) (hle : fr ≤ v) :
    bestVal m fr ≠ none :=
  bestVal_ne_none_of_mem (mem_of_fget hget) hle

theorem GroupsLink.unitsAt {c : CState} {gs : List Group} (h : GroupsLink c gs) (p : Nat) :
    Alloc.unitsAt c p = freeLen gs p := by
  unfold Alloc.unitsAt freeLen
  cases hcg : c[p]? with
  | none =>
    rw [List.getElem?_eq_none (h.len ▸ List.getElem?_eq_none_iff.mp hcg)]
    rfl
  | some cg =>
    obtain ⟨g, hg, hu, -⟩ := h.link p cg hcg
    simp [hg, hu]

theorem GroupsLink.best {c : CState} {gs : List Group} (h : GroupsLink c gs) {p : Nat} {cg : CGroup}
    (hcg : c[p]? = some cg) {fr : Nat} (hpos : 0 < fr) (hle : fr ≤ fmax cg.fracs) :
    ∃ g, gs[p]? = some g ∧ bestVal g.fracs fr ≠ none := by
  obtain ⟨g, hg, -, hfr⟩ := h.link p cg hcg
  rcases fmax_mem cg.fracs with h0 | ⟨kv, hkv, he⟩
  · omega
  · have h3 := fget_of_mem (h.nodup p cg hcg) hkv
    have h4 : fracOf g.fracs kv.1 = kv.2 := by rw [← hfr, fracOf_of_fget h3]
    exact ⟨g, hg, bestVal_ne_none (fget_of_fracOf_pos h4 (by omega)) (by omega)⟩

theorem GroupsLink.scatterOk {c : CState} {gs : List Group} (h : GroupsLink c gs) {S : List Nat} {amount : Nat}
    (hc : CHas c S amount) : ScatterOk gs S (amount / FPU) (amount % FPU) := by
  have ht : totalFreeP gs S = unitsIn c S := by
    unfold totalFreeP unitsIn
    rw [List.map_congr_left (fun p _ => (h.unitsAt p).symm)]
  unfold ScatterOk
  rw [ht]
  refine ⟨hc.1, ?_⟩
  rcases hc.2 with h0 | hlt | ⟨p, hp, cg, hcg, hle⟩
  · exact .inl h0
  · exact .inr (.inl hlt)
  · rcases Nat.eq_zero_or_pos (amount % FPU) with h0 | hpos
    · exact .inl h0
    · obtain ⟨g, hg, hb⟩ := h.best hcg hpos hle
      exact .inr (.inr ⟨p, hp, g, hg, hb⟩)

end HqModel.Alloc
