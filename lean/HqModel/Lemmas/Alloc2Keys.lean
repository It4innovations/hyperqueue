import HqModel.Lemmas.AllocCompact
/-!
Two facts about every reachable state that the no-stop proof of `tight` and of the strict admission path rests on.
`PKeys`: the fraction maps of the pools have distinct keys; with `PoolInv.vals` this bounds every value stored in a
map — hence `group_amounts()` — below one unit (`gvals_of_inv`). `Static`: kinds / sizes / group counts of the pools,
`static_info.all_resources` and the coupling weights never change; `InitFacts`: what `ResourceAllocator::new` builds.
-/
namespace HqModel.Alloc

theorem Prim.gkeys {gs acc gs' acc'} (p : Prim gs acc gs' acc') (h : GKeys gs) : GKeys gs' := by
  cases p with
  | @whole gid g i rest hg hfree =>
    exact h.set (g' := { g with free := rest }) (h g (List.mem_of_getElem? hg))
  | @frac gid g i f fr hg _ _ _ =>
    exact h.set (g' := { g with fracs := fset g.fracs i (f - fr) })
      (fset_keys_nodup (h g (List.mem_of_getElem? hg)) _ _)
  | @split gid g i rest fr hg _ _ _ =>
    exact h.set (g' := { free := rest, fracs := fset g.fracs i (FPU - fr) })
      (fset_keys_nodup (h g (List.mem_of_getElem? hg)) _ _)

theorem Claims.gkeys {gs acc gs' acc'} (c : Claims gs acc gs' acc') (h : GKeys gs) : GKeys gs' := by
  induction c with
  | refl => exact h
  | step p _ ih => exact ih (p.gkeys h)
  | perm _ _ ih => exact ih h

theorem claimResources_gkeys {s : State} {rq : Request} {ch : Choices} {sols sols' : List (Option SolRec)}
    {pools' : List Pool} {al : Allocation} (h : claimResources s rq ch sols = .ok (pools', al, sols'))
    (hk : PKeys s.pools) : PKeys pools' :=
  claimResources_fold (P := fun pools _ => PKeys pools)
    (fun _ hp st hk => hk.set (st.claims.gkeys (hk _ (List.mem_of_getElem? hp)))) (fun _ hk => hk) h hk

/-- what never changes along a run (relative to the initial state `s₀`), plus `PKeys` -/
structure Static (s₀ s : State) : Prop where
  kinds : SameKinds s₀.pools s.pools
  allFree : s.allFree = s₀.allFree
  weights : s.weights = s₀.weights
  keys : PKeys s.pools

theorem tryAllocate_static {s s' : State} {h : Nat} {rq : Request} {ch : Choices} {r : Option Allocation}
    (hstep : tryAllocate s h rq ch = .ok (r, s')) :
    SameKinds s.pools s'.pools ∧ s'.allFree = s.allFree ∧ s'.weights = s.weights ∧
      (PKeys s.pools → PKeys s'.pools) := by
  cases r with
  | none =>
    obtain ⟨cache, -, rfl⟩ := tryAllocate_none hstep
    exact ⟨SameKinds.refl _, rfl, rfl, fun h => h⟩
  | some al =>
    obtain ⟨cache, sols, pools, concise, -, hcl, -, rfl⟩ := tryAllocate_some hstep
    exact ⟨(claimResources_exact hcl).2, rfl, rfl, claimResources_gkeys hcl⟩

theorem isEnabled_static {s s' : State} {rq : Request} {ch : Choices} {b : Bool}
    (hstep : isEnabled s rq ch = .ok (b, s')) :
    s'.pools = s.pools ∧ s'.allFree = s.allFree ∧ s'.weights = s.weights := by
  obtain ⟨cache, -, rfl⟩ := isEnabled_ok hstep
  exact ⟨rfl, rfl, rfl⟩

/-- the full size of an index pool is the number of its (free) indices -/
def Pool.FullOk : Pool → Prop
  | .indices full g => full = g.free.length * FPU
  | .groups full gs => full = (gs.map (·.free.length)).sum * FPU
  | _ => True

theorem stackRange_length (a n : Nat) : (stackRange a n).length = n := by simp [stackRange]

theorem groupsFrom_total (off : Nat) (sizes : List Nat) :
    ((groupsFrom off sizes).map (·.free.length)).sum = sizes.sum := by
  induction sizes generalizing off with
  | nil => simp [groupsFrom]
  | cons n ns ih => simp [groupsFrom, stackRange_length, ih]

theorem Pool.new_fullOk (k : Kind) : (Pool.new k).FullOk := by
  cases k with
  | list n => simp [Pool.new, Pool.FullOk, stackRange_length]
  | range s e => simp [Pool.new, Pool.FullOk, stackRange_length]
  | groups sizes => simp [Pool.new, Pool.FullOk, groupsFrom_total]
  | sum size => simp [Pool.new, Pool.FullOk]

structure InitFacts (s₀ : State) : Prop where
  fresh : ∀ p ∈ s₀.pools, p.Fresh
  full : ∀ p ∈ s₀.pools, p.FullOk
  live : s₀.live = []
  concise : s₀.concise = s₀.pools.map Pool.conciseState
  allFree : s₀.allFree = s₀.pools.map Pool.conciseState

theorem init_facts {d : Descriptor} {s₀ : State} (h : State.init d = some s₀) : InitFacts s₀ := by
  obtain ⟨hcr, hlive, hconc, hall⟩ := init_spec h
  refine ⟨init_fresh h, fun p hp => ?_, hlive, hconc, hall⟩
  rcases hcr p hp with rfl | ⟨k, rfl⟩
  · trivial
  · exact Pool.new_fullOk k

theorem init_static {s₀ : State} (hf : InitFacts s₀) : Static s₀ s₀ := by
  refine ⟨SameKinds.refl _, rfl, rfl, ?_⟩
  intro p hp g hg
  rw [(hf.fresh p hp).1 g hg |>.1]
  simp [KeysNodup]

/-- carried together with **Conserve**, under which `release` is known to go through pool by pool
(`releasePools_live`) -/
theorem reach_static {d : Descriptor} {s₀ s : State} (hinit : State.init d = some s₀) (hreach : Reach s₀ s) :
    Static s₀ s := by
  refine (hreach.rec_ops (P := fun s => Inv (univOf s₀.pools) s ∧ Static s₀ s)
    ⟨init_inv hinit, init_static (init_facts hinit)⟩ ?_ ?_ ?_).2
  · intro s s' rq ch b ⟨hi, hs⟩ hr
    obtain ⟨h1, h2, h3⟩ := isEnabled_static hr
    exact ⟨isEnabled_inv hi hr,
      by rw [h1]; exact hs.kinds, by rw [h2, hs.allFree], by rw [h3, hs.weights], by rw [h1]; exact hs.keys⟩
  · intro s s' h rq ch r ⟨hi, hs⟩ hr
    obtain ⟨h1, h2, h3, h4⟩ := tryAllocate_static hr
    exact ⟨tryAllocate_inv hi hr, hs.kinds.trans h1, by rw [h2, hs.allFree], by rw [h3, hs.weights], h4 hs.keys⟩
  · intro s s' h ⟨hi, hs⟩ hr
    obtain ⟨al, concise, pools, hg, -, hrel, rfl⟩ := release_some hr
    obtain ⟨pools', hrel', kinds, keys, hi'⟩ := releasePools_live hi hg
    obtain rfl : pools' = pools := Except.ok.inj (hrel'.symm.trans hrel)
    exact ⟨hi' concise, hs.kinds.trans kinds, hs.allFree, hs.weights, keys hs.keys⟩

theorem gvals_of_inv {U} {s : State} (hinv : Inv U s) (hk : PKeys s.pools) {rid full : Nat} {gs : List Group}
    (hp : s.pools[rid]? = some (.groups full gs)) : GVals gs := by
  intro p g hg kv hkv
  have hpool := hinv.pools.pool rid _ hp
  have hnd : KeysNodup g.fracs := hk _ (List.mem_of_getElem? hp) g (by
    simp only [Pool.groupsOf]; exact List.mem_of_getElem? hg)
  have h1 := fget_of_mem hnd hkv
  have h2 := hpool.vals p g (by simpa [Pool.groupsOf] using hg) kv.1
  rw [fracOf_of_fget h1] at h2
  exact h2

end HqModel.Alloc
