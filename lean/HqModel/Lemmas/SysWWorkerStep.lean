import HqModel.Lemmas.SysWWorkerLoop
import HqModel.Lemmas.WorkerMinor
/-!
The worker side of the pipeline invariants, whole steps: what a step of the worker says about ONE task id `n` and what it
holds of it afterwards, read off the trace of the message loop (`Lemmas/SysWWorkerLoop.lean`) — by what the message
carries for `n`: an assigned item (`step_asg`), a prefill item (`step_pre`), nothing (`step_other`).
-/
namespace HqModel.Worker

theorem retractCheck_ok {s s' : State} {order : List Nat} {outs : List Out}
    (h : retractCheck s order = .ok (s', outs)) :
    (s' = s ∧ outs = []) ∨ ∃ rem acc, order.isPerm s.bkeys = true ∧ retractCheckLoop s rem order {} = .ok acc ∧
      outs = [.updates acc.upd] ∧
      s' = { s with backlog := fun rq => if rq ∈ acc.toRemove then [] else s.backlog rq,
                    bkeys := s.bkeys.filter (fun rq => rq ∉ acc.toRemove) } := by
  rcases retractCheck_cases h with e | e | ⟨rem, -, hperm, ⟨_, _, e⟩ | ⟨acc, hacc, e⟩⟩ <;> cases e
  · exact .inl ⟨rfl, rfl⟩
  · exact .inr ⟨rem, acc, hperm, hacc, rfl, rfl⟩

theorem newRq_ok {s s' : State} {id : Nat} {mts : List Nat} {outs : List Out} (h : newRq s id mts = .ok (s', outs)) :
    s' = { s with rqs := s.rqs ++ [mts] } ∧ outs = [] := by
  revert h
  fun_cases newRq s id mts <;> intro h <;> cases h
  exact ⟨rfl, rfl⟩

end HqModel.Worker

namespace HqModel.SysW
open HqModel HqModel.Worker HqModel.SysW.NPP

theorem ok_pair {α β ε : Type} {x : α × β} {a : α} {b : β} (h : (Except.ok x : Except ε (α × β)) = .ok (a, b)) :
    a = x.1 ∧ b = x.2 := by
  cases h; exact ⟨rfl, rfl⟩

theorem evsOut_none {n : Nat} {o : Worker.Out} (h : outMsg o = none) : evsOut n o = [] := by
  cases o <;> simp_all [outMsg, evsOut]

theorem evsOuts_of_none {n : Nat} {outs : List Worker.Out} (h : ∀ o ∈ outs, outMsg o = none) : evsOuts n outs = [] := by
  simp only [evsOuts, List.flatMap_eq_nil_iff]
  exact fun o ho => evsOut_none (h o ho)

theorem evsOuts_finish (n : Nat) (a : Acc) (hev : ∀ o ∈ a.ev, outMsg o = none) :
    evsOuts n (finish a).2 = EA n a := by
  simp only [finish, evsOuts, List.flatMap_append]
  rw [show a.ev.flatMap (evsOut n) = [] from evsOuts_of_none hev, List.nil_append]
  split
  · rename_i hu; simp [EA, hu]
  · simp [evsOut, EA]

/-- the message carries no item for `n` -/
def NoItem (n : Nat) : Worker.Op → Prop
  | .compute es => itemsW n es = []
  | _ => True

theorem SameHold.map_running (n : Nat) (s : Worker.State) {f : Running → Running}
    (hf : ∀ x, (f x).task.id = x.task.id) : SameHold n s { s with running := s.running.map f } := by
  refine ⟨?_, fun _ => rfl⟩
  simp only [isRun, List.mem_map]
  constructor
  · rintro ⟨_, ⟨x, hx, rfl⟩, e⟩
    exact ⟨x, hx, (hf x).symm.trans e⟩
  · rintro ⟨x, hx, e⟩
    exact ⟨_, ⟨x, hx, rfl⟩, (hf x).trans e⟩

theorem SameHold.drop_running {n t : Nat} (s : Worker.State) (htn : t ≠ n) :
    SameHold n s { s with running := s.running.filter fun x => x.task.id != t } :=
  ⟨⟨fun ⟨x, hx, e⟩ => ⟨x, (List.mem_filter.mp hx).1, e⟩,
    fun ⟨x, hx, e⟩ => ⟨x, List.mem_filter.mpr ⟨hx, by simpa [e] using htn.symm⟩, e⟩⟩, fun _ => rfl⟩

theorem SameHold.filter_backlog {n : Nat} (s : Worker.State) {p : Task → Bool} (hp : ∀ x, x.id = n → p x = true) :
    SameHold n s { s with backlog := fun rq => (s.backlog rq).filter p } := by
  refine ⟨Iff.rfl, fun rq => ?_⟩
  simp only [bcount, List.filter_filter]
  congr 1
  apply List.filter_congr
  intro x _
  by_cases hx : x.id = n
  · simp [hx, hp x hx]
  · simp [hx]

theorem free_filter_backlog {n : Nat} {s : Worker.State} {p : Task → Bool} (hp : ∀ x, x.id = n → p x = false)
    (hr : ¬ isRun s n) : Free { s with backlog := fun rq => (s.backlog rq).filter p } n := by
  refine ⟨hr, fun rq => ?_⟩
  simp only [bcount, List.filter_filter, List.length_eq_zero_iff, List.filter_eq_nil_iff]
  intro x _
  by_cases hx : x.id = n
  · simp [hx, hp x hx]
  · simp [hx]

theorem retract_hold (n : Nat) (s : Worker.State) (ids : List Nat) :
    (n ∉ ids → SameHold n s (retract s ids).1) ∧
    (n ∈ ids → ¬ isRun s n → Free (retract s ids).1 n) :=
  ⟨fun hn => SameHold.filter_backlog s fun x hx => by simp [hx, hn],
   fun hn hr => free_filter_backlog (fun x hx => by simp [hx, hn]) hr⟩

theorem retract_evs (n : Nat) (s : Worker.State) (ids : List Nat) :
    evsOuts n (retract s ids).2 = [] ∨
    (evsOuts n (retract s ids).2 = [.resp] ∧ n ∈ ids ∧ ∃ rq, ∃ x ∈ s.backlog rq, x.id = n) := by
  simp only [retract, evsOuts]
  split
  · exact .inl rfl
  · simp only [List.flatMap_cons, List.flatMap_nil, List.append_nil, evsOut]
    split
    · rename_i h
      simp only [List.mem_flatMap, List.mem_map, List.mem_filter] at h
      obtain ⟨rq, _, x, ⟨hx, hid⟩, rfl⟩ := h
      exact .inr ⟨rfl, by simpa using hid, rq, x, hx, rfl⟩
    · exact .inl rfl

theorem cancelOne_hold (n : Nat) (a : Worker.State × List Worker.Out) (t : Nat) :
    (∀ o ∈ (cancelOne a t).2, o ∈ a.2 ∨ outMsg o = none) ∧
    (SameHold n a.1 (cancelOne a t).1 ∨ (¬ isRun a.1 n → Free (cancelOne a t).1 n)) := by
  obtain ⟨s, outs⟩ := a
  rcases cancelOne_cases s outs t with ⟨_, e⟩ | ⟨r, _, _, ⟨_, e⟩ | ⟨_, e⟩⟩ <;> rw [e]
  · refine ⟨fun o ho => .inl ho, ?_⟩
    by_cases ht : t = n
    · exact .inr (free_filter_backlog fun x hx => by simp [hx, ht])
    · exact .inl (SameHold.filter_backlog s fun x hx => by simp [hx, Ne.symm ht])
  · exact ⟨fun o ho => .inl ho, .inl (SameHold.refl _ _)⟩
  · refine ⟨fun o ho => ?_, .inl (SameHold.map_running n s fun x => by split <;> rfl)⟩
    rcases List.mem_append.mp ho with ho | ho
    · exact .inl ho
    · simp only [List.mem_singleton] at ho; subst ho; exact .inr rfl

theorem cancel_hold (n : Nat) : ∀ (ids : List Nat) (a : Worker.State × List Worker.Out),
    (∀ o ∈ (ids.foldl cancelOne a).2, o ∈ a.2 ∨ outMsg o = none) ∧
    (Free a.1 n → Free (ids.foldl cancelOne a).1 n) ∧
    (Back a.1 n → Back (ids.foldl cancelOne a).1 n ∨ Free (ids.foldl cancelOne a).1 n)
  | [], a => ⟨fun o ho => .inl ho, fun h => h, fun h => .inl h⟩
  | t :: rest, a => by
    simp only [List.foldl_cons]
    obtain ⟨g1, g2⟩ := cancelOne_hold n a t
    obtain ⟨k1, k2, k3⟩ := cancel_hold n rest (cancelOne a t)
    refine ⟨fun o ho => ?_, fun h => k2 ?_, fun h => ?_⟩
    · rcases k1 o ho with h | h
      · exact g1 o h
      · exact .inr h
    · rcases g2 with g | g
      · exact g.free h
      · exact g h.1
    · rcases g2 with g | g
      · exact k3 (g.back h)
      · exact .inr (k2 (g h.1))

theorem bcount_clear (s : Worker.State) (n : Nat) (rm bk : List Nat) (rq : Nat) :
    bcount { s with backlog := fun rq => if rq ∈ rm then [] else s.backlog rq, bkeys := bk } n rq =
      if rq ∈ rm then 0 else bcount s n rq := by
  simp only [bcount]
  split <;> rfl

theorem retractCheckLoop_spec {n : Nat} (s : Worker.State) (rem : Nat) : ∀ (order : List Nat) (acc acc' : RcAcc),
    retractCheckLoop s rem order acc = .ok acc' →
    ∃ rm, acc'.toRemove = acc.toRemove ++ rm ∧ rm.Sublist order ∧
      acc'.upd.flatMap (evsW n) = acc.upd.flatMap (evsW n) ++
        rm.flatMap (fun rq => ((s.backlog rq).reverse.map fun t => Update.reject t.id none).flatMap (evsW n))
  | [], acc, acc', hs => by
    simp only [retractCheckLoop] at hs; cases hs
    exact ⟨[], by simp, List.Sublist.refl _, by simp⟩
  | rq :: rest, acc, acc', hs => by
    simp only [retractCheckLoop] at hs
    split at hs
    · cases hs
    · split at hs
      · obtain ⟨rm, h1, h2, h3⟩ := retractCheckLoop_spec s rem rest _ _ hs
        refine ⟨rq :: rm, by rw [h1]; simp, h2.cons_cons _, ?_⟩
        rw [h3]; simp
      · obtain ⟨rm, h1, h2, h3⟩ := retractCheckLoop_spec s rem rest _ _ hs
        exact ⟨rm, h1, h2.cons _, h3⟩

theorem rejects_of_bcount (n : Nat) (s : Worker.State) (rq : Nat) :
    ((s.backlog rq).reverse.map fun t => Update.reject t.id none).flatMap (evsW n) =
      List.replicate (bcount s n rq) (.rej none) := by
  simp only [bcount]
  generalize s.backlog rq = l
  induction l with
  | nil => rfl
  | cons x xs ih =>
    simp only [List.reverse_cons, List.map_append, List.flatMap_append, ih, List.map_cons, List.map_nil,
      List.flatMap_cons, List.flatMap_nil, List.append_nil, List.filter_cons]
    by_cases hx : x.id = n
    · simp only [evsW, hx, if_true, decide_true, List.length_cons]
      rw [← List.replicate_succ']
    · simp [evsW, hx]

theorem cancelOne_bkeys (a : Worker.State × List Worker.Out) (t : Nat) : (cancelOne a t).1.bkeys = a.1.bkeys := by
  obtain ⟨s, outs⟩ := a
  rcases cancelOne_cases s outs t with ⟨_, e⟩ | ⟨r, _, _, ⟨_, e⟩ | ⟨_, e⟩⟩ <;> rw [e]

theorem cancel_bkeys (ids : List Nat) (a : Worker.State × List Worker.Out) :
    (ids.foldl cancelOne a).1.bkeys = a.1.bkeys :=
  cancel_induct (P := fun b => b.1.bkeys = a.1.bkeys) (fun b t h => (cancelOne_bkeys b t).trans h) ids a rfl

theorem calm_resultUpdates (n t : Nat) (res : TaskResult) : Calm ((resultUpdates t res).flatMap (evsW n)) := by
  intro e he
  cases res <;> by_cases h : t = n <;> simp [resultUpdates, evsW, h] at he <;> subst he <;> rfl

theorem compute_evs {n : Nat} {s s' : Worker.State} {es : List Entry} {outs : List Worker.Out}
    (hs : compute s es = .ok (s', outs)) :
    ∃ a, Path (.idle es) { s := s } (.idle []) a ∧ s' = a.s ∧ evsOuts n outs = EA n a := by
  obtain ⟨a, hp, rfl, rfl⟩ := compute_path hs
  exact ⟨a, hp, rfl, evsOuts_finish n a fun o ho => (hp.mute.1 o ho).resolve_left List.not_mem_nil⟩

/-- the end of a running task: the loop from the state without the task and with its result said; what follows the
loop (enabling blocked requests) says nothing about a task -/
theorem taskEnd_trace {n t : Nat} {s s' : Worker.State} {res : TaskResult} {en : List ((Nat × Nat) × Bool)}
    {outs : List Worker.Out} (hs : taskEnd s t res en = .ok (s', outs)) :
    ∃ (r : Running) (a : Acc), r ∈ s.running ∧ r.task.id = t ∧
      Path (.flight [] r.task.rq r.rv r.h)
        { s := { s with running := s.running.filter fun x => x.task.id != t }, upd := resultUpdates t res } (.idle []) a ∧
      SameHold n a.s s' ∧ evsOuts n outs = EA n a := by
  obtain ⟨r, a, bl', upd', hr, hp, rfl, rfl, ks, rfl⟩ := taskEnd_path hs
  refine ⟨r, a, List.mem_of_find?_eq_some hr, by simpa using List.find?_some hr, hp, SameHold.of_eq rfl rfl,
    (evsOuts_finish n { a with upd := a.upd ++ ks.map fun k => .enable k.1 k.2 } fun o ho =>
      (hp.mute.1 o ho).resolve_left List.not_mem_nil).trans ?_⟩
  rw [EA_upd (a := a) rfl, List.flatMap_eq_nil_iff.mpr, List.append_nil]
  intro u hu
  obtain ⟨k, _, rfl⟩ := List.mem_map.mp hu
  rfl

theorem EA_result_other {n t : Nat} (htn : t ≠ n) (s : Worker.State) (res : TaskResult) :
    EA n { s := s, upd := resultUpdates t res } = [] := by
  cases res <;> simp [EA, resultUpdates, evsW, htn]

theorem step_asg {n rv : Nat} {s s' : Worker.State} {es : List Entry} {outs : List Worker.Out} (hf : Free s n)
    (hi : itemsW n es = [some rv]) (hs : Worker.step s (.compute es) = .ok (s', outs)) :
    AsgDone rv (evsOuts n outs) s' n ∧
    ∀ rv' rest, evsOuts n outs = .run rv' :: rest → rv' = rv ∧ rest = [] ∧ NB s' n := by
  obtain ⟨a, hp, rfl, he⟩ := compute_evs (n := n) hs
  rw [he]
  rcases hp.tr (v := some rv) id (.inr ⟨hi, rfl, hf⟩) with ⟨_, ⟨_, _, hv⟩ | ⟨e, rv0, k1, k2, hv⟩⟩ | ⟨h, _⟩
  · cases hv
  · obtain rfl : rv0 = rv := by rcases hv with hv | hv <;> cases hv; rfl
    rw [k1]
    cases k2 with
    | run h => exact ⟨.inl ⟨_, [], rfl⟩, fun _ _ e => by cases e; exact ⟨rfl, rfl, h⟩⟩
    | fail _ => exact ⟨.inr (.inl ⟨[], rfl⟩), fun _ _ e => by cases e⟩
    | rej h => exact ⟨.inr (.inr ⟨rfl, h⟩), fun _ _ e => by cases e⟩
  · cases h

theorem Wt.preDone {P : List Ev} {n : Nat} {s : Worker.State} (h : Wt n none P s) : PreDone P s n := by
  rcases h with ⟨a, b, _⟩ | ⟨e, rv, rfl, hs, _⟩
  · exact .inl ⟨a, .inl b⟩
  · cases hs with
    | run _ => exact .inr (.inl ⟨rv, [], rfl⟩)
    | fail _ => exact .inr (.inr (.inl ⟨[], rfl⟩))
    | rej h => exact .inr (.inr (.inr (.inl ⟨_, rfl, h⟩)))

theorem Wt.runLast {P : List Ev} {n : Nat} {s : Worker.State} (h : Wt n none P s) : RunLast P s n := by
  intro rv' rest he
  rcases h with ⟨a, _⟩ | ⟨e, rv, rfl, hs, _⟩
  · rw [a] at he; cases he
  · cases he; exact ⟨rfl, hs.nb⟩

theorem step_pre {n : Nat} {s s' : Worker.State} {es : List Entry} {outs : List Worker.Out} (hf : Free s n)
    (hi : itemsW n es = [none]) (hs : Worker.step s (.compute es) = .ok (s', outs)) :
    PreDone (evsOuts n outs) s' n ∧ RunLast (evsOuts n outs) s' n := by
  obtain ⟨a, hp, rfl, he⟩ := compute_evs (n := n) hs
  rw [he]
  rcases hp.tr (v := none) id (.inr ⟨hi, rfl, hf⟩) with ⟨_, h⟩ | ⟨h, _⟩
  · exact ⟨h.preDone, h.runLast⟩
  · cases h

/-- what a step without an item for `n` says while `n` waits: it still waits or the one thing was said (`Wt`), or it was
taken out of its backlog without a start — silently (a cancel), with a retract response, or with the reject of the
retract check -/
def Waited (E : List Ev) (s : Worker.State) (n : Nat) : Prop :=
  (Free s n ∧ (E = [] ∨ E = [.resp] ∨ E = [.rej none])) ∨ Wt n none E s

theorem Waited.preDone {E : List Ev} {n : Nat} {s : Worker.State} (h : Waited E s n) : PreDone E s n := by
  rcases h with ⟨hf, rfl | rfl | rfl⟩ | h
  · exact .inl ⟨rfl, .inr hf⟩
  · exact .inr (.inr (.inr (.inr ⟨rfl, hf⟩)))
  · exact .inr (.inr (.inr (.inl ⟨_, rfl, hf⟩)))
  · exact h.preDone

theorem Waited.runLast {E : List Ev} {n : Nat} {s : Worker.State} (h : Waited E s n) : RunLast E s n := by
  rcases h with ⟨_, rfl | rfl | rfl⟩ | h
  · exact fun _ _ e => by cases e
  · exact fun _ _ e => by cases e
  · exact fun _ _ e => by cases e
  · exact h.runLast

theorem step_other {n : Nat} {s s' : Worker.State} {op : Worker.Op} {outs : List Worker.Out} (hno : NoItem n op)
    (hs : Worker.step s op = .ok (s', outs)) :
    (NB s n → NB s' n ∧ Calm (evsOuts n outs) ∧ (Free s n → Free s' n ∧ evsOuts n outs = [])) ∧
    (Back s n → s.bkeys.Nodup → Waited (evsOuts n outs) s' n) := by
  -- a step that says nothing about `n` and at most takes it out of a backlog
  have quiet : evsOuts n outs = [] → (NB s n → NB s' n) → (Free s n → Free s' n) → (Back s n → Back s' n ∨ Free s' n) →
      (NB s n → NB s' n ∧ Calm (evsOuts n outs) ∧ (Free s n → Free s' n ∧ evsOuts n outs = [])) ∧
      (Back s n → s.bkeys.Nodup → Waited (evsOuts n outs) s' n) := fun he hn hf hb => by
    rw [he]
    exact ⟨fun h => ⟨hn h, Calm.nil, fun h => ⟨hf h, rfl⟩⟩,
      fun h _ => (hb h).elim (fun b => .inr (.inl ⟨rfl, b, rfl⟩)) fun f => .inl ⟨f, .inl rfl⟩⟩
  have same : evsOuts n outs = [] → SameHold n s s' → _ := fun he hh =>
    quiet he hh.nb hh.free fun b => .inl (hh.back b)
  cases op with
  | compute es =>
    obtain ⟨a, hp, rfl, he⟩ := compute_evs (n := n) hs
    rw [he]
    refine ⟨fun hn => ?_, fun hb _ => ?_⟩
    · obtain ⟨p1, p2⟩ := hp.off hno id hn
      rw [p2]
      exact ⟨p1.nb hn, Calm.nil, fun hf => ⟨p1.free hf, rfl⟩⟩
    · rcases hp.tr (v := none) id (.inl ⟨hno, .inl ⟨rfl, hb, rfl⟩⟩) with ⟨_, h⟩ | ⟨h, _⟩
      · exact .inr h
      · cases h
  | retract ids =>
    obtain ⟨rfl, rfl⟩ := ok_pair hs
    have hh := retract_hold n s ids
    have hsub : ∀ rq, (((retract s ids).1).backlog rq).Sublist (s.backlog rq) := fun rq => List.filter_sublist
    rcases retract_evs n s ids with he | ⟨he, hn, rq, x, hx, hid⟩
    · refine quiet he (nb_of_sublist hsub) (fun hf => ?_) (fun hb => ?_)
      · by_cases hn : n ∈ ids
        · exact hh.2 hn hf.1
        · exact (hh.1 hn).free hf
      · by_cases hn : n ∈ ids
        · exact .inr (hh.2 hn hb.1)
        · exact .inl ((hh.1 hn).back hb)
    · rw [he]
      exact ⟨fun hnb => (not_nb_of_mem hx hid hnb).elim, fun hb _ => .inl ⟨hh.2 hn hb.1, .inr (.inl rfl)⟩⟩
  | cancel ids =>
    obtain ⟨rfl, rfl⟩ := ok_pair hs
    obtain ⟨g1, g2, g3⟩ := cancel_hold n ids (s, [])
    exact quiet (evsOuts_of_none fun o ho => (g1 o ho).resolve_left List.not_mem_nil)
      (nb_of_sublist (cancel_fold_minor ids (s, [])).backlog) g2 g3
  | taskEnd t res en =>
    obtain ⟨r, a, hr, hid, hp, h1, he⟩ := taskEnd_trace (n := n) hs
    rw [he]
    have other : ¬ isRun s n → SameHold n s { s with running := s.running.filter fun x => x.task.id != t } ∧
        EA n { s := { s with running := s.running.filter fun x => x.task.id != t }, upd := resultUpdates t res } = [] :=
      fun hnr =>
        have htn : t ≠ n := fun e => hnr ⟨r, hr, hid.trans e⟩
        ⟨SameHold.drop_running s htn, EA_result_other htn _ res⟩
    refine ⟨fun hn => ?_, fun hb _ => ?_⟩
    · obtain ⟨p1, p2⟩ := hp.off (n := n) rfl id hn
      rw [p2]
      refine ⟨(p1.trans h1).nb hn, calm_resultUpdates n t res, fun hf => ?_⟩
      obtain ⟨q1, q2⟩ := other hf.1
      exact ⟨h1.free (p1.free (q1.free hf)), q2⟩
    · obtain ⟨q1, q2⟩ := other hb.1
      rcases hp.tr (v := none) id (.inl ⟨rfl, .inl ⟨q2, q1.back hb, rfl⟩⟩) with ⟨_, h⟩ | ⟨h, _⟩
      · exact .inr (h.sameHold h1)
      · cases h
  | timeoutFire t =>
    obtain ⟨r, _, _, _, _, rfl, rfl⟩ := timeoutFire_ok hs
    exact same (by cases r.stopSent <;> rfl) (SameHold.map_running n s fun x => by split <;> rfl)
  | retractCheck order =>
    rcases retractCheck_ok hs with ⟨rfl, rfl⟩ | ⟨rem, acc, hperm, hacc, rfl, rfl⟩
    · exact same rfl (SameHold.refl _ _)
    · -- the classes removed are distinct keys, so the class of `n` is among them at most once
      obtain ⟨rm, h1, h2, h3⟩ := retractCheckLoop_spec (n := n) s rem order {} acc hacc
      clear quiet same
      obtain ⟨tr, upd⟩ := acc
      simp only [List.nil_append] at h1
      subst h1
      have hE : evsOuts n [.updates upd] = tr.flatMap fun rq => List.replicate (bcount s n rq) (.rej none) := by
        simp only [evsOuts, List.flatMap_cons, List.flatMap_nil, List.append_nil, evsOut, h3, List.nil_append,
          rejects_of_bcount]
      rw [hE]
      have hbc := fun rq => bcount_clear s n tr (s.bkeys.filter fun rq => rq ∉ tr) rq
      refine ⟨fun hn => ?_, fun hb hk => ?_⟩
      · have he : (tr.flatMap fun rq => List.replicate (bcount s n rq) (Ev.rej none)) = [] :=
          List.flatMap_eq_nil_iff.mpr fun rq _ => by rw [hn rq]; rfl
        rw [he]
        have hn' : NB _ n := fun rq => by
          rw [hbc]
          split
          · rfl
          · exact hn rq
        exact ⟨hn', Calm.nil, fun hf => ⟨⟨hf.1, hn'⟩, rfl⟩⟩
      · have hrn : tr.Nodup := h2.nodup ((List.isPerm_iff.mp hperm).nodup_iff.mpr hk)
        obtain ⟨hnr, rq0, hc1, hc0⟩ := hb
        rw [flatMap_at (fun rq => List.replicate (bcount s n rq) (Ev.rej none)) rq0 tr hrn
          fun rq _ hne => by rw [hc0 rq hne]; rfl]
        by_cases hm : rq0 ∈ tr
        · rw [if_pos hm, hc1]
          refine .inl ⟨⟨hnr, fun rq => ?_⟩, .inr (.inr rfl)⟩
          rw [hbc]
          split
          · rfl
          · rename_i hrq
            exact hc0 rq fun e => hrq (e ▸ hm)
        · rw [if_neg hm]
          refine .inr (.inl ⟨rfl, ⟨hnr, rq0, ?_, fun rq hrq => ?_⟩, rfl⟩)
          · rw [hbc, if_neg hm]; exact hc1
          · rw [hbc]
            split
            · rfl
            · exact hc0 rq hrq
  | newRq id mts =>
    obtain ⟨rfl, rfl⟩ := newRq_ok hs
    exact same rfl (SameHold.of_eq rfl rfl)
  | stop =>
    obtain ⟨rfl, rfl⟩ := ok_pair hs
    exact same rfl (SameHold.refl _ _)

theorem step_bkeys {s s' : Worker.State} {op : Worker.Op} {outs : List Worker.Out} (hk : s.bkeys.Nodup)
    (hs : Worker.step s op = .ok (s', outs)) : s'.bkeys.Nodup := by
  cases op with
  | compute es =>
    obtain ⟨a, hp, rfl, _⟩ := compute_path hs
    exact hp.mute.2 hk
  | retract ids =>
    obtain ⟨rfl, _⟩ := ok_pair hs
    exact hk
  | cancel ids =>
    obtain ⟨rfl, _⟩ := ok_pair hs
    exact (cancel_bkeys ids (s, [])).symm ▸ hk
  | taskEnd t res en =>
    obtain ⟨_, a, _, _, _, hp, rfl, _⟩ := taskEnd_path hs
    exact hp.mute.2 hk
  | timeoutFire t =>
    obtain ⟨_, _, _, _, _, rfl, _⟩ := timeoutFire_ok hs
    exact hk
  | retractCheck order =>
    rcases retractCheck_ok hs with ⟨rfl, _⟩ | ⟨_, _, _, _, _, rfl⟩
    · exact hk
    · exact hk.filter _
  | newRq id mts =>
    obtain ⟨rfl, _⟩ := newRq_ok hs
    exact hk
  | stop =>
    obtain ⟨rfl, _⟩ := ok_pair hs
    exact hk

end HqModel.SysW
