import HqModel.Lemmas.CoreInvMoves
/-!
`Inv`: the worker lists are SOUND — the structural invariant of the core model in the direction list → state.

`Inv s` =
* task ids are unique (`nd`),
* `LS3` — list → state: what `Worker::sanity_check` asserts about `assigned_tasks` / `prefilled_tasks` / the
  multi-node assignment and the shape of the redirect table (`ls`),
* `CW3` — every registered consumer of a task in the map is Waiting (`cw`; `on_cancel_tasks` removes the
  recursive consumers of a cancelled task without looking at their state, so `ls` is not inductive without it),
* `MN3` — a task in state RunningMultiNode has a multi-node request (`mn`; `task_failed` chooses the branch by the
  request, not by the state).

The file: `Inv` along `remove_task` and a new task; what `try_remove_redirection` does (`tryRemoveRedirection_spec`); the
protocol side conditions of `on_task_update` (`RejectOk`, `UpdatesOk`, `UpdProto`); tasks in no worker set (`LFree3`),
`FreshWorker`, new requests.
-/
namespace HqModel.Core

def isWaiting : TS → Prop
  | .waiting _ => True
  | _ => False

instance : DecidablePred isWaiting := fun st => by cases st <;> simp only [isWaiting] <;> infer_instance

def CW3 (ts : List Task) : Prop :=
  ∀ d dt, findTask ts d = some dt → ∀ c ∈ dt.consumers, ∀ st, stOf ts c = some st → isWaiting st

def isMultiNodeRq (rqs : List Rqv) (rq : Nat) : Bool :=
  match rqs[rq]? with
  | some (r :: _) => r.nNodes > 0
  | _ => false

theorem isMultiNode_eq (s : State) (rq : Nat) : s.isMultiNode rq = isMultiNodeRq s.rqs rq := rfl

def MN3 (ts : List Task) (rqs : List Rqv) : Prop :=
  ∀ t task l, findTask ts t = some task → task.state = .runningMN l → isMultiNodeRq rqs task.rq = true

structure Inv4 (ts : List Task) (ws : List Worker) (rd : List (TaskId × Nat × Nat)) (rqs : List Rqv) : Prop where
  nd : (taskIds ts).Nodup
  ls : LS3 ts ws rd
  cw : CW3 ts
  mn : MN3 ts rqs

def Inv (s : State) : Prop := Inv4 s.tasks s.workers s.redirects s.rqs

theorem CoreEq.inv {s s' : State} (h : CoreEq s s') (hi : Inv s) : Inv s' := by
  unfold Inv; rw [h.t, h.w, h.r, h.q]; exact hi
theorem Inv4.workers {ts ws rd rqs ws' rd'} (h : Inv4 ts ws rd rqs) (hl : LS3 ts ws' rd') : Inv4 ts ws' rd' rqs :=
  ⟨h.nd, hl, h.cw, h.mn⟩

theorem Inv4.put_of {ts ws rd rqs ws' rd'} (h : Inv4 ts ws rd rqs) {t' told : Task}
    (ht : findTask ts t'.id = some told) (hc : t'.consumers = told.consumers) (hq : t'.rq = told.rq)
    (hcw : ∀ d dt, findTask ts d = some dt → t'.id ∈ dt.consumers → isWaiting t'.state)
    (hmn : ∀ l', t'.state = .runningMN l' → isMultiNodeRq rqs told.rq = true)
    (hl : LS3 (putTask ts t') ws' rd') : Inv4 (putTask ts t') ws' rd' rqs := by
  refine ⟨by rw [taskIds_putTask]; exact h.nd, hl, ?_, ?_⟩
  · intro d dt hd c hcm st hst
    rw [findTask_putTask] at hd
    rw [stOf_put ht] at hst
    have hcons : ∃ dt0, findTask ts d = some dt0 ∧ c ∈ dt0.consumers := by
      split at hd
      · rename_i e
        rw [e, ht] at hd; simp at hd; subst hd
        exact ⟨told, by rw [e]; exact ht, hc ▸ hcm⟩
      · exact ⟨dt, hd, hcm⟩
    obtain ⟨dt0, hd0, hc0⟩ := hcons
    split at hst
    · rename_i e
      cases hst
      exact hcw d dt0 hd0 (e ▸ hc0)
    · exact h.cw d dt0 hd0 c hc0 st hst
  · intro t task l hf hs
    rw [findTask_putTask] at hf
    split at hf
    · rename_i e
      rw [e, ht] at hf; simp at hf; subst hf
      rw [hq]; exact hmn l hs
    · exact h.mn t task l hf hs

theorem Inv4.put {ts ws rd rqs ws' rd'} (h : Inv4 ts ws rd rqs) {t' told : Task}
    (ht : findTask ts t'.id = some told) (hc : t'.consumers = told.consumers) (hq : t'.rq = told.rq)
    (hw : isWaiting told.state → isWaiting t'.state)
    (hm : ∀ l', t'.state = .runningMN l' → ∃ l, told.state = .runningMN l)
    (hl : LS3 (putTask ts t') ws' rd') : Inv4 (putTask ts t') ws' rd' rqs :=
  h.put_of ht hc hq (fun d dt hd hcm => hw (h.cw d dt hd _ hcm told.state (stOf_of_find ht)))
    (fun l' hl' => (hm l' hl').elim fun l e => h.mn _ told l ht e) hl

theorem Inv4.put_dispatch {ts ws rd rqs ws' rd'} (h : Inv4 ts ws rd rqs) {t' told : Task}
    (ht : findTask ts t'.id = some told) (hc : t'.consumers = told.consumers) (hq : t'.rq = told.rq)
    (hnc : ∀ d dt, findTask ts d = some dt → t'.id ∉ dt.consumers)
    (hm : ∀ l', t'.state = .runningMN l' → isMultiNodeRq rqs told.rq = true)
    (hl : LS3 (putTask ts t') ws' rd') : Inv4 (putTask ts t') ws' rd' rqs :=
  h.put_of ht hc hq (fun d dt hd hcm => absurd hcm (hnc d dt hd)) hm hl

theorem Inv.ls' {s : State} (h : Inv s) : LS3 s.tasks s.workers s.redirects := h.ls

theorem Inv.free_of_state {s : State} (h : Inv s) {t : TaskId}
    (hs : stOf s.tasks t = none ∨ (∃ n, stOf s.tasks t = some (.waiting n)) ∨ stOf s.tasks t = some .finished) :
    Free s t := h.ls.free_of_state hs

/-- ids, states and requests are the same; consumer lists lost members or gained `c` -/
def ConsRel (c : Option TaskId) (ts ts' : List Task) : Prop :=
  taskIds ts' = taskIds ts ∧
  ∀ u, (findTask ts u = none → findTask ts' u = none) ∧
    ∀ x, findTask ts u = some x → ∃ x', findTask ts' u = some x' ∧ x'.state = x.state ∧ x'.rq = x.rq ∧
      ∀ y ∈ x'.consumers, y ∈ x.consumers ∨ some y = c

theorem ConsRel.refl (c : Option TaskId) (ts : List Task) : ConsRel c ts ts :=
  ⟨rfl, fun _ => ⟨id, fun x hx => ⟨x, hx, rfl, rfl, fun _ hy => Or.inl hy⟩⟩⟩

theorem ConsRel.trans {c : Option TaskId} {a b d : List Task} (h1 : ConsRel c a b) (h2 : ConsRel c b d) : ConsRel c a d := by
  refine ⟨h2.1.trans h1.1, fun u => ⟨fun hn => (h2.2 u).1 ((h1.2 u).1 hn), ?_⟩⟩
  intro x hx
  obtain ⟨x', hx', e1, e2, e3⟩ := (h1.2 u).2 x hx
  obtain ⟨x'', hx'', f1, f2, f3⟩ := (h2.2 u).2 x' hx'
  refine ⟨x'', hx'', f1.trans e1, f2.trans e2, ?_⟩
  intro y hy
  rcases f3 y hy with h | h
  · exact e3 y h
  · exact Or.inr h

theorem ConsRel.put {c : Option TaskId} {ts : List Task} {t' told : Task} (ht : findTask ts t'.id = some told)
    (hs : t'.state = told.state) (hq : t'.rq = told.rq) (hc : ∀ y ∈ t'.consumers, y ∈ told.consumers ∨ some y = c) :
    ConsRel c ts (putTask ts t') := by
  refine ⟨taskIds_putTask _ _, fun u => ?_⟩
  rw [findTask_putTask]
  by_cases e : u = t'.id
  · subst e
    simp only [if_true, ht]
    refine ⟨fun h => (by cases h), fun x hx => ?_⟩
    simp only [Option.map_some, Option.some.injEq] at hx ⊢
    subst hx
    exact ⟨t', rfl, hs, hq, hc⟩
  · simp only [e, if_false]
    exact ⟨id, fun x hx => ⟨x, hx, rfl, rfl, fun _ hy => Or.inl hy⟩⟩

theorem ConsRel.stOf {c : Option TaskId} {ts ts' : List Task} (h : ConsRel c ts ts') (u : TaskId) : stOf ts' u = stOf ts u := by
  unfold Core.stOf
  cases hf : findTask ts u with
  | none => rw [(h.2 u).1 hf]
  | some x =>
    obtain ⟨x', hx', e, _⟩ := (h.2 u).2 x hf
    rw [hx']; simp [e]

theorem Inv4.consShrink {ts ts' ws rd rqs} (h : Inv4 ts ws rd rqs) (hr : ConsRel none ts ts') : Inv4 ts' ws rd rqs := by
  refine ⟨by rw [hr.1]; exact h.nd, h.ls.congr_tasks hr.stOf, ?_, ?_⟩
  · intro d dt hd c hc st hst
    rw [hr.stOf] at hst
    cases hf : findTask ts d with
    | none => rw [(hr.2 d).1 hf] at hd; cases hd
    | some x =>
      obtain ⟨x', hx', _, _, e3⟩ := (hr.2 d).2 x hf
      rw [hx'] at hd; cases hd
      rcases e3 c hc with h1 | h1
      · exact h.cw d x hf c h1 st hst
      · cases h1
  · intro t task l hf hs
    cases hf0 : findTask ts t with
    | none => rw [(hr.2 t).1 hf0] at hf; cases hf
    | some x =>
      obtain ⟨x', hx', e1, e2, _⟩ := (hr.2 t).2 x hf0
      rw [hx'] at hf; cases hf
      rw [e2]; exact h.mn t x l hf0 (e1 ▸ hs)

theorem Inv4.erase {ts ws rd rqs} (h : Inv4 ts ws rd rqs) {t : TaskId} (hf : Free3 ws rd t) :
    Inv4 (eraseTask ts t) ws rd rqs := by
  have hfe := fun x => findTask_eraseTask h.nd t x
  refine ⟨(taskIds_eraseTask_sublist _ _).nodup h.nd, h.ls.mv_erase h.nd hf, ?_, ?_⟩
  · intro d dt hd c hc st hst
    rw [hfe] at hd
    unfold stOf at hst; rw [hfe] at hst
    split at hd
    · cases hd
    · split at hst
      · cases hst
      · exact h.cw d dt hd c hc st hst
  · intro u task l hu hs
    rw [hfe] at hu
    split at hu
    · cases hu
    · exact h.mn u task l hu hs

theorem tryRemoveRedirection_spec {s s' : State} {t : TaskId} {rq : Nat} (h : s.tryRemoveRedirection t rq = .ok s') :
    s'.tasks = s.tasks ∧ s'.rqs = s.rqs ∧
    ((s.redirects.find? (·.1 = t) = none ∧ s'.workers = s.workers ∧ s'.redirects = s.redirects) ∨
     (∃ w v r wk A F P F', s.redirects.find? (·.1 = t) = some (t, w, v) ∧ s.rq rq v = .ok r ∧
        findWorker s.workers w = some wk ∧ wk.assign = .sn A F P ∧ t ∈ A ∧ freeAdd F wk.total r.entries = .ok F' ∧
        s'.workers = putWorker s.workers { wk with assign := .sn (A.erase t) F' P } ∧
        s'.redirects = s.redirects.filter (·.1 ≠ t))) := by
  rcases tryRemoveRedirection_cases h with ⟨hn, rfl⟩ | ⟨w, v, r, hsome, hr, hw⟩
  · exact ⟨rfl, rfl, Or.inl ⟨hn, rfl, rfl⟩⟩
  · obtain ⟨wk, wk', hfw, hf, rfl⟩ := withWorker_spec hw
    obtain ⟨A, F, P, F', ha, hfa, hm, rfl⟩ := removeSn_spec hf
    exact ⟨rfl, rfl, Or.inr ⟨w, v, r, wk, A, F, P, F', hsome, hr, hfw, ha, hm, hfa, rfl, rfl⟩⟩

/-! ### `Core::remove_task` -/

theorem removeConsumer_rel {ts ts' : List Task} {d c : TaskId} (h : removeConsumer ts d c = .ok ts') :
    ConsRel none ts ts' := by
  simp only [removeConsumer] at h
  split at h
  · cases h; exact ConsRel.refl _ _
  · rename_i dt hd
    split at h
    · cases h
    · cases h
      have hid : dt.id = d := findTask_some_id hd
      exact ConsRel.put (told := dt) (by simpa [hid] using hd) rfl rfl
        (fun y hy => Or.inl (List.mem_of_mem_erase hy))

theorem removeConsumers_rel (deps : List TaskId) (ts ts' : List Task) (c : TaskId)
    (h : removeConsumers ts c deps = .ok ts') : ConsRel none ts ts' := by
  induction deps generalizing ts with
  | nil => simp only [removeConsumers] at h; cases h; exact ConsRel.refl _ _
  | cons d rest ih =>
    simp only [removeConsumers] at h
    split at h
    · cases h
    · rename_i ts1 h1
      exact (removeConsumer_rel h1).trans (ih _ h)

theorem removeTask_spec {s s' : State} {id : TaskId} {st : TS} (h : s.removeTask id = .ok (s', st)) :
    stOf s.tasks id = some st ∧ s'.workers = s.workers ∧ s'.redirects = s.redirects ∧ s'.rqs = s.rqs ∧
    ConsRel none (eraseTask s.tasks id) s'.tasks := by
  obtain ⟨task, ht, rfl, -⟩ := removeTask_cases h
  have e := removeTask_eq h
  refine ⟨stOf_of_find ht, (congrArg State.workers e :), (congrArg State.redirects e :), (congrArg State.rqs e :), ?_⟩
  exact removeTask_ind (R := fun s s' => ConsRel none (eraseTask s.tasks id) s'.tasks) h (ConsRel.refl _ _)
    (fun f hq => by obtain ⟨_, rfl⟩ := queueRemove_ok_iff.mp hq; exact f) fun f hc => f.trans (removeConsumers_rel _ _ _ _ hc)

theorem removeTask_inv {s s' : State} {id : TaskId} {st : TS} (hi : Inv s) (hf : Free s id)
    (h : s.removeTask id = .ok (s', st)) : Inv s' := by
  obtain ⟨_, hw, hr, hq, hc⟩ := removeTask_spec h
  unfold Inv; rw [hw, hr, hq]
  exact (Inv4.erase hi hf).consShrink hc

theorem removeTask_free {s s' : State} {id u : TaskId} {st : TS} (hf : Free s u)
    (h : s.removeTask id = .ok (s', st)) : Free s' u := by
  obtain ⟨_, hw, hr, _, _⟩ := removeTask_spec h
  unfold Free; rw [hw, hr]; exact hf

/-! ### `on_new_tasks` -/

theorem registerDeps_rel (deps : List TaskId) (ts : List Task) (id : TaskId) :
    ConsRel (some id) ts (registerDeps ts id deps).1 := by
  refine ⟨registerDeps_ids deps ts id, fun u => ⟨fun h => by rw [find_registerDeps, h]; rfl, fun x hx => ?_⟩⟩
  refine ⟨regOf deps id x, by rw [find_registerDeps, hx]; rfl, (regOf_eq deps id x).2.1, (regOf_eq deps id x).2.2.2.1,
    fun y hy => ?_⟩
  exact (mem_regOf_consumers.mp hy).imp_right fun e => congrArg some e.1

theorem Inv4.add_task {ts ts1 ws rd rqs} (h : Inv4 ts ws rd rqs) {task : Task} (hr : ConsRel (some task.id) ts ts1)
    (hn : findTask ts1 task.id = none) (hs : isWaiting task.state) (hc : task.consumers = []) :
    Inv4 (ts1 ++ [task]) ws rd rqs := by
  have hfa := findTask_append ts1 task
  have hst1 : ∀ u, stOf ts1 u = stOf ts u := hr.stOf
  have hmono : ∀ u st, stOf ts u = some st → stOf (ts1 ++ [task]) u = some st := by
    intro u st hu
    rw [← hst1] at hu
    obtain ⟨x, hx, e⟩ := stOf_some hu
    unfold stOf; rw [hfa, hx]; simp [e]
  refine ⟨?_, h.ls.extend hmono, ?_, ?_⟩
  · rw [show taskIds (ts1 ++ [task]) = taskIds ts1 ++ [task.id] from List.map_append]
    exact nodup_append_singleton (hr.1 ▸ h.nd) (not_mem_of_findTask_none hn)
  · -- `ConsRel (some task.id)` registers the new id as a consumer only, and the new id has no state in `ts1`:
    -- a consumer with a state is the new task (Waiting) or was registered, with that state, before
    intro d dt hd c hcm st hst
    have hcst : c = task.id ∨ stOf ts c = some st := by
      unfold stOf at hst; rw [hfa] at hst
      cases hf : findTask ts1 c with
      | none =>
        rw [hf] at hst
        simp only at hst
        split at hst
        · rename_i e; exact Or.inl e.symm
        · cases hst
      | some x =>
        rw [hf] at hst
        right; rw [← hst1]; unfold stOf; rw [hf]; exact hst
    rw [hfa] at hd
    cases hf : findTask ts1 d with
    | none =>
      rw [hf] at hd
      simp only at hd
      split at hd
      · cases hd; rw [hc] at hcm; cases hcm
      · cases hd
    | some x =>
      rw [hf] at hd; cases hd
      rcases hcst with e | hcs
      · subst e
        unfold stOf at hst; rw [hfa, hn] at hst
        simp at hst; rw [← hst]; exact hs
      · cases hf0 : findTask ts d with
        | none => rw [(hr.2 d).1 hf0] at hf; cases hf
        | some x0 =>
          obtain ⟨x', hx', _, _, e3⟩ := (hr.2 d).2 x0 hf0
          rw [hx'] at hf; cases hf
          rcases e3 c hcm with h1 | h1
          · exact h.cw d x0 hf0 c h1 st hcs
          · cases h1
            rw [← hst1] at hcs
            unfold stOf at hcs; rw [hn] at hcs; cases hcs
  · intro t tk l hf hsl
    rw [hfa] at hf
    cases hf1 : findTask ts1 t with
    | none =>
      rw [hf1] at hf
      simp only at hf
      split at hf
      · cases hf; rw [hsl] at hs; cases hs
      · cases hf
    | some x =>
      rw [hf1] at hf; cases hf
      cases hf0 : findTask ts t with
      | none => rw [(hr.2 t).1 hf0] at hf1; cases hf1
      | some x0 =>
        obtain ⟨x', hx', e1, e2, _⟩ := (hr.2 t).2 x0 hf0
        rw [hx'] at hf1; cases hf1
        rw [e2]; exact h.mn t x0 l hf0 (e1 ▸ hsl)

theorem emptySn_views (wk : Worker) : wAsg wk.emptySn = [] ∧ wPre wk.emptySn = [] ∧ wMn wk.emptySn = none ∧
    wk.emptySn.id = wk.id := ⟨rfl, rfl, rfl, rfl⟩

theorem LS3.free_of_mn {ts ws rd} (h : LS3 ts ws rd) {t : TaskId} {l : List Nat}
    (hs : stOf ts t = some (.runningMN l)) (hn : ∀ x, mnW ws x ≠ some t) : Free3 ws rd t :=
  have c := h.at hs
  ⟨fun x hx => (c.a x hx).elim, fun x hx => (nomatch c.p x hx), hn, fun x v hx => (c.r x v hx).elim fun _ e => nomatch e⟩

/-! ### `on_cancel_tasks` -/

theorem collectConsumers_mem (ts : List Task) (fuel : Nat) (stack out res : List TaskId)
    (h : collectConsumers ts fuel stack out = .ok res) :
    ∀ c ∈ res, c ∈ out ∨ ∃ d dt, findTask ts d = some dt ∧ c ∈ dt.consumers := by
  induction fuel generalizing stack out with
  | zero => simp only [collectConsumers] at h; cases h; exact fun c hc => Or.inl hc
  | succ n ih =>
    cases stack with
    | nil => simp only [collectConsumers] at h; cases h; exact fun c hc => Or.inl hc
    | cons t rest =>
      simp only [collectConsumers] at h
      split at h
      · cases h
      · rename_i task ht
        intro c hc
        rcases ih _ _ h c hc with h1 | h1
        · rcases List.mem_append.mp h1 with h2 | h2
          · exact Or.inl h2
          · right
            have := (List.mem_filter.mp (List.mem_eraseDups.mp h2)).1
            exact ⟨t, task, ht, this⟩
        · exact Or.inr h1

theorem recursiveConsumers_mem {s : State} {id : TaskId} {task : Task} {cons : List TaskId}
    (ht : findTask s.tasks id = some task) (h : s.recursiveConsumers task = .ok cons) :
    ∀ c ∈ cons, ∃ d dt, findTask s.tasks d = some dt ∧ c ∈ dt.consumers := by
  intro c hc
  simp only [State.recursiveConsumers] at h
  rcases collectConsumers_mem _ _ _ _ _ h c hc with h1 | h1
  · exact ⟨id, task, ht, List.mem_eraseDups.mp h1⟩
  · exact h1

/-- a registered consumer of a task in the map is free (it is Waiting or unknown) -/
theorem Inv.free_of_consumer {s : State} (hi : Inv s) {c : TaskId}
    (hc : ∃ d dt, findTask s.tasks d = some dt ∧ c ∈ dt.consumers) : Free s c := by
  obtain ⟨d, dt, hd, hcm⟩ := hc
  apply hi.free_of_state
  cases hs : stOf s.tasks c with
  | none => exact Or.inl rfl
  | some st =>
    have := hi.cw d dt hd c hcm st hs
    cases st <;> simp only [isWaiting] at this
    exact Or.inr (Or.inl ⟨_, rfl⟩)

/-! ## the side conditions of `on_task_update`; one record changes -/

theorem Inv.setWorker_same {s : State} (hi : Inv s) {wk wk' : Worker} (hfw : findWorker s.workers wk'.id = some wk)
    (e1 : wAsg wk' = wAsg wk) (e2 : wPre wk' = wPre wk) (e3 : wMn wk' = wMn wk) : Inv (s.setWorker wk') := by
  show Inv4 s.tasks (putWorker s.workers wk') s.redirects s.rqs
  exact hi.workers (hi.ls.mv_worker_shrink hfw (e1 ▸ .refl _) (e2 ▸ .refl _) (fun _ e => e3 ▸ e)).1

/-- the root worker of a multi-node task reports the start: only the `started` flag of its record changes -/
theorem mnStarted_views {wk wk' : Worker}
    (hk : (∃ t r st, wk.assign = .mn t r st ∧ wk' = { wk with assign := .mn t r true }) ∨
      ((∃ a f p, wk.assign = .sn a f p) ∧ wk' = wk)) :
    wk'.id = wk.id ∧ wAsg wk' = wAsg wk ∧ wPre wk' = wPre wk ∧ wMn wk' = wMn wk := by
  rcases hk with ⟨t, r, st, ha, rfl⟩ | ⟨_, rfl⟩
  · simp [wAsg, wPre, wMn, ha]
  · exact ⟨rfl, rfl, rfl, rfl⟩

/-- **protocol side condition** of a Reject message: for a task that is Assigned, the message comes from the
worker the task is assigned to and names the assigned variant. (`task_reject` in reactor.rs logs "Rejection from
invalid worker / invalid variant" otherwise and then falls through to `task.state = Waiting` + `add_ready_task`
WITHOUT `remove_sn_task`: the task would stay in `assigned_tasks` of its worker, see `reject_breaks_inv`.) -/
def RejectOk (s : State) (w : Nat) (id : TaskId) (rv : Option Nat) : Prop :=
  ∀ task w' rv', s.task? id = some task → task.state = .assigned w' rv' → w = w' ∧ rv = some rv'

instance (s : State) (w : Nat) (id : TaskId) (rv : Option Nat) : Decidable (RejectOk s w id rv) := by
  unfold RejectOk
  cases h : s.task? id with
  | none => exact isTrue (fun _ _ _ e => by cases e)
  | some task =>
    cases hs : task.state with
    | assigned w' rv' =>
      by_cases hc : w = w' ∧ rv = some rv'
      · exact isTrue (fun t a b e1 e2 => by cases e1; rw [hs] at e2; cases e2; exact hc)
      · exact isFalse (fun hh => hc (hh task w' rv' rfl hs))
    | _ => exact isTrue (fun t a b e1 e2 => by cases e1; rw [hs] at e2; cases e2)

theorem Inv.resolve_redirect {s : State} (hi : Inv s) {t' task : Task} {w0 target trv : Nat}
    (ht : findTask s.tasks t'.id = some task) (hs : task.state = .retracting w0)
    (hf : s.redirects.find? (·.1 = t'.id) = some (t'.id, target, trv))
    (hc : t'.consumers = task.consumers) (hq : t'.rq = task.rq) (hs' : t'.state = .assigned target trv) :
    Inv (({ s with redirects := s.redirects.filter (·.1 ≠ t'.id) } : State).setTask t') :=
  Inv4.put hi ht hc hq (by simp [hs, isWaiting]) (by simp [hs'])
    (hi.ls.mv_resolve_redirect ht hs (rd_mem_of_find hf).1 hs')

/-- a per-update side condition holds for every update of the message, each evaluated in the state in which the
reactor processes it -/
def UpdatesOk (P : State → Nat → Update → Prop) (s : State) (w : Nat) : List Update → List (List TaskId) → Prop
  | [], _ => True
  | u :: rest, rets =>
    P s w u ∧
    match s.updateState w u rets with
    | .ok (s1, rets') => UpdatesOk P s1 w rest rets'
    | .error _ => True

theorem UpdatesOk.mono {P Q : State → Nat → Update → Prop} (hpq : ∀ s w u, P s w u → Q s w u) {w : Nat}
    (us : List Update) : ∀ (s : State) (rets : List (List TaskId)), UpdatesOk P s w us rets → UpdatesOk Q s w us rets := by
  induction us with
  | nil => intro _ _ _; trivial
  | cons u rest ih =>
    intro s rets h
    simp only [UpdatesOk] at h ⊢
    refine ⟨hpq _ _ _ h.1, ?_⟩
    have h2 := h.2
    split
    · rename_i s1 rets' he
      rw [he] at h2
      exact ih _ _ h2
    · trivial

instance UpdatesOk.decidable (P : State → Nat → Update → Prop) [∀ s w u, Decidable (P s w u)] (w : Nat) :
    ∀ (us : List Update) (s : State) (rets : List (List TaskId)), Decidable (UpdatesOk P s w us rets)
  | [], _, _ => isTrue trivial
  | u :: rest, s, rets => by
    simp only [UpdatesOk]
    cases h : s.updateState w u rets with
    | error e => simp only; infer_instance
    | ok r =>
      obtain ⟨s1, rets'⟩ := r
      simp only
      have := UpdatesOk.decidable P w rest s1 rets'
      infer_instance

def UpdProto (s : State) (w : Nat) : Update → Prop
  | .reject t rv => RejectOk s w t rv
  | _ => True

instance (s : State) (w : Nat) (u : Update) : Decidable (UpdProto s w u) := by
  cases u <;> simp only [UpdProto] <;> infer_instance

theorem UpdatesOk.of_all {C : State → Nat → Update → Prop} (h : ∀ s w u, C s w u) {w : Nat} :
    ∀ (us : List Update) (s : State) (rets : List (List TaskId)), UpdatesOk C s w us rets
  | [], _, _ => trivial
  | u :: rest, s, rets => by
    simp only [UpdatesOk]
    refine ⟨h _ _ _, ?_⟩
    split
    · exact UpdatesOk.of_all h rest _ _
    · trivial

/-! ## tasks in no worker set; fresh workers; new requests -/

/-- the task is in no worker set (it may have a redirect) -/
structure LFree3 (ws : List Worker) (t : TaskId) : Prop where
  na : ∀ w, t ∉ asgW ws w
  np : ∀ w, t ∉ preW ws w
  nm : ∀ w, mnW ws w ≠ some t

theorem Free3.lfree {ws rd t} (h : Free3 ws rd t) : LFree3 ws t := ⟨h.na, h.np, h.nm⟩

theorem LS3.free_of_prefilled_gone {ts ws rd} (h : LS3 ts ws rd) {t : TaskId} {w : Nat}
    (hs : stOf ts t = some (.prefilled w)) (hg : preW ws w = []) : Free3 ws rd t := by
  have c := h.at hs
  refine ⟨fun x hx => (c.a x hx).elim, fun x hx => ?_, fun x hx => (c.m x hx).elim fun _ e => (nomatch e.1),
    fun x v hx => (c.r x v hx).elim fun _ e => nomatch e⟩
  cases c.p x hx
  rw [hg] at hx; cases hx

theorem LS3.lfree_of_holds_gone {ts ws rd} (h : LS3 ts ws rd) {t : TaskId} {w : Nat} {st : TS}
    (hs : stOf ts t = some st) (hh : Holds rd w t st) (hg : asgW ws w = []) : LFree3 ws t := by
  have c := h.at hs
  refine ⟨fun x hx => ?_, fun x hx => ?_, fun x hx => ?_⟩
  · have h2 := c.a x hx
    have hxw : x = w := by
      cases st <;> simp only [Holds_assigned, Holds_running, Holds_retracting, Holds_waiting, Holds_prefilled,
        Holds_runningMN, Holds_finished] at hh h2
      · rw [← hh, ← h2]
      · obtain ⟨v, hv⟩ := hh
        obtain ⟨v', hv'⟩ := h2
        exact (rd_unique h.d2 hv' hv).1
      · rw [← hh, ← h2]
    rw [hxw, hg] at hx; cases hx
  · cases c.p x hx; exact hh
  · obtain ⟨l, e, _⟩ := c.m x hx; cases e; exact hh

/-- side condition of a `newWorker` operation: the record is a fresh single-node worker (what `Worker::new` builds) -/
def FreshWorker (w : Worker) : Prop := w.assign = .sn [] w.total []

instance (w : Worker) : Decidable (FreshWorker w) := by
  unfold FreshWorker
  cases h : w.assign with
  | sn a f p =>
    by_cases h1 : a = [] ∧ f = w.total ∧ p = []
    · exact isTrue (by rw [h1.1, h1.2.1, h1.2.2])
    · exact isFalse (fun e => by cases e; exact h1 ⟨rfl, rfl, rfl⟩)
  | mn a b c => exact isFalse (fun e => by cases e)

theorem isMultiNodeRq_append {rqs : List Rqv} {rq : Nat} (l : List Rqv) (h : isMultiNodeRq rqs rq = true) :
    isMultiNodeRq (rqs ++ l) rq = true := by
  unfold isMultiNodeRq at h ⊢
  cases hq : rqs[rq]? with
  | none => simp [hq] at h
  | some r =>
    have : rq < rqs.length := by
      rcases Nat.lt_or_ge rq rqs.length with h1 | h1
      · exact h1
      · rw [List.getElem?_eq_none h1] at hq; cases hq
    rw [List.getElem?_append_left this, hq]
    rw [hq] at h; exact h

theorem newRq_inv {s : State} (rqv : Rqv) (hi : Inv s) : Inv (s.newRq rqv) := by
  show Inv4 s.tasks s.workers s.redirects (s.rqs ++ [rqv])
  exact ⟨hi.nd, hi.ls, hi.cw, fun t task l hf hs => isMultiNodeRq_append _ (hi.mn t task l hf hs)⟩

end HqModel.Core
