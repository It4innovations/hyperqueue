import HqModel.Lemmas.JobJournalRec
/-!
# `meaningStep` seen from the entry of ONE job

`entry_eq`: the effect of every record on one job of `meaning`, as a function of that job's entry only (`entryStep`) —
what the restart clauses of C06 / C07 fold over. (For a job that has an entry the whole-state equations of
`JobJournalRec.lean` say the same; the simulation uses those.) Also: the job ids of `meaning J` are pairwise distinct,
for EVERY journal.
-/
namespace HqModel.Emit
open HqModel.Job HqModel.Journal

def idsOf (job : Nat) (ids : List (Nat × Nat)) : List Nat := (ids.filter (·.1 == job)).map (·.2)

theorem mem_idsOf {job t : Nat} {ids : List (Nat × Nat)} : t ∈ idsOf job ids ↔ (job, t) ∈ ids := by
  simp only [idsOf, List.mem_map, List.mem_filter, beq_iff_eq]
  constructor
  · rintro ⟨p, ⟨hp, h1⟩, h2⟩
    obtain ⟨a, b⟩ := p
    simp only at h1 h2
    subst h1; subst h2; exact hp
  · intro h; exact ⟨(job, t), ⟨h, rfl⟩, rfl⟩

def entryStep (job : Nat) (o : Option AJob) : Record → Option AJob
  | .submit j closed mf d =>
    if j = job then
      if closed then some ⟨false, mf, d.specTasks, 1⟩
      else o.map fun aj => { aj with tasks := aj.tasks ++ d.specTasks, nSubmits := aj.nSubmits + 1 }
    else o
  | .jobOpen j mf => if j = job then some ⟨true, mf, [], 0⟩ else o
  | .jobClose j => if j = job then o.map (fun aj => { aj with isOpen := false }) else o
  | .jobCompleted j => if j = job then none else o
  | .taskStarted j t i ws => if j = job then o.map (fun aj => mapTasks aj (startF t i ws)) else o
  | .taskFinished j t => if j = job then o.map (fun aj => mapTasks aj (markF .finished [t])) else o
  | .taskFailed j t => if j = job then o.map (fun aj => mapTasks aj (markF .failed [t])) else o
  | .tasksCanceled ids => o.map (fun aj => mapTasks aj (markF .canceled (idsOf job ids)))
  | .tasksAborted ids => o.map (fun aj => mapTasks aj (markF .aborted (idsOf job ids)))
  | .workerLost w reason => o.map (fun aj => mapTasks aj (ATask.lose w reason.isFailure))
  | _ => o

theorem mapTasks_mapTasks (aj : AJob) (f g : ATask → ATask) : mapTasks (mapTasks aj f) g = mapTasks aj (g ∘ f) := by
  simp [mapTasks, List.map_map]

theorem updTask_get (A : AState) (j t : Nat) (f : ATask → ATask) (job : Nat) :
    alGet (updTask A j t f).jobs job =
      if j = job then (alGet A.jobs job).map (fun aj => mapTasks aj fun a => if a.id = t then f a else a)
      else alGet A.jobs job := by
  cases h : alGet A.jobs j with
  | none =>
    simp only [updTask, h]
    split
    · rename_i hj; subst hj; simp [h]
    · rfl
  | some aj =>
    rw [updTask_eq h]
    simp only [alGet_set]
    split
    · rename_i hj; subst hj; simp [h]
    · rfl

theorem markF_single (o : Outcome) (t : Nat) :
    (fun a : ATask => if a.id = t then setO o a else a) = markF o [t] := by
  funext a; simp [markF]

theorem setOutcome_get (o : Outcome) (A : AState) (p : Nat × Nat) (job : Nat) :
    alGet (setOutcome o A p).jobs job =
      if p.1 = job then (alGet A.jobs job).map (fun aj => mapTasks aj (markF o [p.2])) else alGet A.jobs job := by
  have : setOutcome o A p = updTask A p.1 p.2 (setO o) := rfl
  rw [this, updTask_get, markF_single]

theorem batch_get (o : Outcome) (job : Nat) (ids : List (Nat × Nat)) (A : AState) :
    alGet (ids.foldl (setOutcome o) A).jobs job =
      (alGet A.jobs job).map (fun aj => mapTasks aj (markF o (idsOf job ids))) := by
  induction ids generalizing A with
  | nil =>
    simp only [List.foldl_nil]
    cases alGet A.jobs job with
    | none => rfl
    | some aj => exact congrArg some (mapTasks_id aj _ (markF_nil o)).symm
  | cons p rest ih =>
    simp only [List.foldl_cons]
    rw [ih, setOutcome_get]
    by_cases hp : p.1 = job
    · have e : idsOf job (p :: rest) = p.2 :: idsOf job rest := by simp [idsOf, hp]
      rw [if_pos hp, e, Option.map_map]
      congr 1
      funext aj
      simp only [Function.comp, mapTasks_mapTasks]
      congr 1
      funext a
      have := markF_cons o p.2 (idsOf job rest) a
      simp only [Function.comp]
      rw [← this]
      simp [markF]
    · have e : idsOf job (p :: rest) = idsOf job rest := by simp [idsOf, hp]
      rw [if_neg hp, e]

theorem entry_eq (A : AState) (r : Record) (job : Nat) :
    alGet (meaningStep A r).jobs job = entryStep job (alGet A.jobs job) r := by
  cases r with
  | submit j closed mf d =>
    simp only [meaningStep, entryStep]
    by_cases hc : closed = true
    · simp only [hc, if_true, alGet_set]
    · simp only [hc, if_false, Bool.false_eq_true]
      cases h : alGet A.jobs j with
      | none =>
        simp only
        split
        · rename_i hj; subst hj; simp [h]
        · rfl
      | some aj =>
        simp only [alGet_set]
        split
        · rename_i hj; subst hj; simp [h]
        · rfl
  | jobOpen j mf => simp only [meaningStep, entryStep, alGet_set]
  | jobClose j =>
    simp only [meaningStep, entryStep]
    cases h : alGet A.jobs j with
    | none =>
      simp only
      split
      · rename_i hj; subst hj; simp [h]
      · rfl
    | some aj =>
      simp only [alGet_set]
      split
      · rename_i hj; subst hj; simp [h]
      · rfl
  | jobCompleted j => simp only [meaningStep, entryStep, alGet_del]
  | taskStarted j t i ws =>
    simp only [meaningStep, entryStep, updTask_get]
    rfl
  | taskFinished j t => simp only [meaningStep, entryStep, setOutcome_get]
  | taskFailed j t => simp only [meaningStep, entryStep, setOutcome_get]
  | tasksCanceled ids => simp only [meaningStep, entryStep, batch_get]
  | tasksAborted ids => simp only [meaningStep, entryStep, batch_get]
  | workerLost w reason =>
    simp only [meaningStep, entryStep, alGet_map]
    rfl
  | _ => rfl

theorem nodup_updTask {A : AState} (h : (A.jobs.map (·.1)).Nodup) {j t : Nat} {f : ATask → ATask} :
    ((updTask A j t f).jobs.map (·.1)).Nodup := by
  unfold updTask
  split
  · exact nodup_alSet h
  · exact h

theorem nodup_batch (o : Outcome) : ∀ (ids : List (Nat × Nat)) {A : AState}, (A.jobs.map (·.1)).Nodup →
    ((ids.foldl (setOutcome o) A).jobs.map (·.1)).Nodup
  | [], _, h => h
  | p :: rest, _, h => nodup_batch o rest (nodup_updTask (j := p.1) (t := p.2) h)

theorem nodup_step {A : AState} (h : (A.jobs.map (·.1)).Nodup) (r : Record) :
    ((meaningStep A r).jobs.map (·.1)).Nodup := by
  cases r with
  | submit j closed mf d =>
    simp only [meaningStep]
    split
    · exact nodup_alSet h
    · split
      · exact nodup_alSet h
      · exact h
  | jobOpen j mf => exact nodup_alSet h
  | jobClose j =>
    simp only [meaningStep]
    split
    · exact nodup_alSet h
    · exact h
  | jobCompleted j => exact nodup_alDel h
  | taskStarted j t i ws => exact nodup_updTask h
  | taskFinished j t => exact nodup_updTask h
  | taskFailed j t => exact nodup_updTask h
  | tasksCanceled ids => exact nodup_batch _ ids h
  | tasksAborted ids => exact nodup_batch _ ids h
  | workerLost w reason =>
    simp only [meaningStep, alMap, List.map_map]
    exact h
  | _ => exact h

theorem nodup_fold : ∀ (J : List Record) {A : AState}, (A.jobs.map (·.1)).Nodup →
    ((J.foldl meaningStep A).jobs.map (·.1)).Nodup
  | [], _, h => h
  | r :: rs, _, h => nodup_fold rs (nodup_step h r)

theorem meaning_nodup (J : List Record) : ((meaning J).jobs.map (·.1)).Nodup :=
  nodup_fold J (A := {}) (by simp)

theorem pending_task {J : List Record} {job t i c : Nat} {deps : List Nat}
    (h : (job, t, deps, i, c) ∈ (meaning J).pending) :
    ∃ aj a, alGet (meaning J).jobs job = some aj ∧ a ∈ aj.tasks ∧ a.id = t ∧ a.st = .waiting ∧
      i = (match a.inst with | some x => x + 1 | none => 0) ∧ c = a.crashes := by
  obtain ⟨⟨k, aj⟩, hja, a, ha, rfl, h2, hw, -, h4, h5⟩ := mem_pending h
  exact ⟨aj, a, alGet_of_mem (meaning_nodup J) hja, ha, h2, hw, h4, h5⟩

end HqModel.Emit
