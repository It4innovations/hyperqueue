import HqModel.Lemmas.StreamCodec
import HqModel.Stream.Spec
/-!
Byte-level lemmas for M8 Stream: what the chunk scanner sees on (a prefix of) a file body produced by the
writer, what `read_buffer` returns inside a cut file, and which chunks a cut leaves whole (`filter_take_nHdr`).
-/
namespace HqModel.Stream

theorem parseChunks_ok {pos : Nat} {bs : Bytes} {hd : ChunkHeader} {rest : Bytes} (h : decHdr bs = .ok hd rest) :
    parseChunks pos bs =
      (⟨hd, pos + (bs.length - rest.length)⟩ ::
        (parseChunks (pos + (bs.length - rest.length) + hd.size) (rest.drop hd.size)).1,
       (parseChunks (pos + (bs.length - rest.length) + hd.size) (rest.drop hd.size)).2) := by
  rw [parseChunks]
  split
  · rename_i hd' rest' h'
    rw [h] at h'
    simp only [Dec.ok.injEq] at h'
    obtain ⟨rfl, rfl⟩ := h'
    rfl
  · rename_i h'; rw [h] at h'; simp at h'
  · rename_i h'; rw [h] at h'; simp at h'

theorem parseChunks_eof {pos : Nat} {bs : Bytes} (h : decHdr bs = .eof) : parseChunks pos bs = ([], false) := by
  rw [parseChunks]
  split
  · rename_i h'; rw [h] at h'; simp at h'
  · rfl
  · rename_i h'; rw [h] at h'; simp at h'

theorem decHdr_nil : decHdr [] = .eof := by
  simp [decHdr, decFields, hdrPreds, decVarint]

/-- the records of a chunk list whose first byte is at absolute offset `p` -/
def recsOf (p : Nat) : List Chunk → List Rec
  | [] => []
  | c :: cs => ⟨c.hdr, p + (encHdr c.hdr).length⟩ :: recsOf (p + c.bytes.length) cs

/-- number of leading chunks whose *header* lies completely inside the first `k` bytes of the body -/
def nHdr (k : Nat) : List Chunk → Nat
  | [] => 0
  | c :: cs => if (encHdr c.hdr).length ≤ k then nHdr (k - c.bytes.length) cs + 1 else 0

theorem Chunk.bytes_length (c : Chunk) : c.bytes.length = (encHdr c.hdr).length + c.data.length :=
  List.length_append

theorem chunksBytes_cons (c : Chunk) (cs : List Chunk) :
    chunksBytes (c :: cs) = encHdr c.hdr ++ (c.data ++ chunksBytes cs) := by
  simp [chunksBytes, Chunk.bytes]

theorem parseChunks_take (cs : List Chunk) (hv : ∀ c ∈ cs, c.hdr.Valid) (hw : ∀ c ∈ cs, c.WF) (p k : Nat) :
    parseChunks p ((chunksBytes cs).take k) = (recsOf p (cs.take (nHdr k cs)), false) := by
  induction cs generalizing p k with
  | nil => simp [chunksBytes, parseChunks_eof decHdr_nil, recsOf]
  | cons c cs ih =>
    have v := hv c (by simp)
    have w : c.hdr.size = c.data.length := hw c (by simp)
    rw [chunksBytes_cons]
    by_cases hk : (encHdr c.hdr).length ≤ k
    · rw [List.take_append, List.take_of_length_le hk]
      have hd := (codes_hdr v).1 (List.take (k - (encHdr c.hdr).length) (c.data ++ chunksBytes cs))
      rw [parseChunks_ok hd]
      have hl : (encHdr c.hdr ++ List.take (k - (encHdr c.hdr).length) (c.data ++ chunksBytes cs)).length -
          (List.take (k - (encHdr c.hdr).length) (c.data ++ chunksBytes cs)).length = (encHdr c.hdr).length := by
        simp only [List.length_append]; omega
      rw [hl, List.drop_take, w, List.drop_left]
      have hb := c.bytes_length
      have ih' := ih (fun c hc => hv c (by simp [hc])) (fun c hc => hw c (by simp [hc]))
        (p + (encHdr c.hdr).length + c.data.length) (k - (encHdr c.hdr).length - c.data.length)
      rw [ih']
      simp only [nHdr, hk, if_true, List.take_succ_cons, recsOf, hb]
      simp only [Nat.add_assoc, Nat.sub_sub]
    · have hk' : k < (encHdr c.hdr).length := by omega
      rw [List.take_append_of_le_length (by omega)]
      rw [parseChunks_eof ((codes_hdr v).2 k hk')]
      simp [nHdr, hk, recsOf]

theorem nHdr_full (cs : List Chunk) : nHdr (chunksBytes cs).length cs = cs.length := by
  induction cs with
  | nil => rfl
  | cons c cs ih =>
    rw [chunksBytes_cons]
    have hb := c.bytes_length
    simp only [nHdr, List.length_append, hb]
    rw [if_pos (by omega)]
    have : (encHdr c.hdr).length + (c.data.length + (chunksBytes cs).length) -
        ((encHdr c.hdr).length + c.data.length) = (chunksBytes cs).length := by omega
    rw [this, ih]
    rfl

theorem nHdr_le (k : Nat) (cs : List Chunk) : nHdr k cs ≤ cs.length := by
  induction cs generalizing k with
  | nil => simp [nHdr]
  | cons c cs ih =>
    simp only [nHdr]
    split
    · have := ih (k - c.bytes.length); simp only [List.length_cons]; omega
    · omega

theorem readAt_take_of_le {file : Bytes} {K pos n : Nat} (h : pos + n ≤ K) (hf : pos + n ≤ file.length) :
    readAt (file.take K) pos n = some ((file.drop pos).take n) := by
  have : pos + n ≤ (file.take K).length := by simp only [List.length_take]; omega
  simp only [readAt, this, if_true, List.drop_take, List.take_take, Option.some.injEq]
  congr 1
  omega

theorem readAt_mid (pre d post : Bytes) (K : Nat) (h : pre.length + d.length ≤ K) :
    readAt ((pre ++ (d ++ post)).take K) pre.length d.length = some d := by
  rw [readAt_take_of_le h (by simp only [List.length_append]; omega)]
  simp

theorem chunkEnds_ge (b : Nat) (cs : List Chunk) : ∀ e ∈ chunkEnds b cs, b ≤ e := by
  induction cs generalizing b with
  | nil => simp [chunkEnds]
  | cons c cs ih =>
    intro e he
    simp only [chunkEnds, List.mem_cons] at he
    rcases he with rfl | he
    · omega
    · have := ih _ e he; omega

theorem chunkEnds_le (b : Nat) (cs : List Chunk) : ∀ e ∈ chunkEnds b cs, e ≤ b + (chunksBytes cs).length := by
  induction cs generalizing b with
  | nil => simp [chunkEnds]
  | cons c cs ih =>
    intro e he
    have hl : (chunksBytes (c :: cs)).length = c.bytes.length + (chunksBytes cs).length := by
      simp [chunksBytes]
    simp only [chunkEnds, List.mem_cons] at he
    rcases he with rfl | he
    · omega
    · have := ih _ e he; omega

theorem chunkEnds_length (b : Nat) (cs : List Chunk) : (chunkEnds b cs).length = cs.length := by
  induction cs generalizing b with
  | nil => rfl
  | cons c cs ih => simp [chunkEnds, ih]

/-- the chunks begin at offset `b` and `k` bytes of them survive: no chunk that `q` selects is lost when each of them
ends inside the surviving part -/
theorem filter_take_nHdr (q : Chunk → Bool) (cs : List Chunk) (b k : Nat)
    (hK : ∀ ce ∈ cs.zip (chunkEnds b cs), q ce.1 = true → ce.2 ≤ b + k) :
    (cs.take (nHdr k cs)).filter q = cs.filter q := by
  induction cs generalizing b k with
  | nil => simp
  | cons c cs ih =>
    have hb := c.bytes_length
    have hrest : ∀ ce ∈ cs.zip (chunkEnds (b + c.bytes.length) cs), q ce.1 = true → ce.2 ≤ b + k := by
      intro ce hce hq
      exact hK ce (by simp only [chunkEnds, List.zip_cons_cons, List.mem_cons]; exact Or.inr hce) hq
    have hge : ∀ ce ∈ cs.zip (chunkEnds (b + c.bytes.length) cs), b + c.bytes.length ≤ ce.2 := by
      intro ce hce
      exact chunkEnds_ge _ _ _ (List.of_mem_zip hce).2
    by_cases hk : c.bytes.length ≤ k
    · -- the whole chunk survives
      have : (encHdr c.hdr).length ≤ k := by omega
      simp only [nHdr, this, if_true, List.take_succ_cons, List.filter_cons]
      rw [ih (b + c.bytes.length) (k - c.bytes.length) (by
        intro ce hce hq
        have := hrest ce hce hq
        omega)]
    · -- the cut is inside this chunk: nothing selected may be here or later
      have hnone : ∀ c' ∈ cs, q c' = false := by
        intro c' hc'
        cases hq : q c' with
        | false => rfl
        | true =>
          obtain ⟨n, hn, rfl⟩ := List.mem_iff_getElem.mp hc'
          have hlen := chunkEnds_length (b + c.bytes.length) cs
          have hmem : (cs[n], (chunkEnds (b + c.bytes.length) cs)[n]'(by omega)) ∈
              cs.zip (chunkEnds (b + c.bytes.length) cs) := by
            apply List.mem_iff_getElem.mpr
            refine ⟨n, by simp [List.length_zip, hlen, hn], by simp⟩
          have h1 := hrest _ hmem hq
          have h2 := hge _ hmem
          simp only at h1 h2
          omega
      have hqc : q c = false := by
        cases hq : q c with
        | false => rfl
        | true =>
          have := hK (c, b + c.bytes.length) (by simp [chunkEnds]) hq
          simp only at this
          omega
      have hf : cs.filter q = [] := by
        simp only [List.filter_eq_nil_iff]
        intro c' hc'; simp [hnone c' hc']
      simp only [nHdr, List.filter_cons, hqc, Bool.false_eq_true, if_false, hf]
      split
      · simp only [List.take_succ_cons, List.filter_cons, hqc, Bool.false_eq_true, if_false]
        simp only [List.filter_eq_nil_iff]
        intro c' hc'
        simp [hnone c' (List.mem_of_mem_take hc')]
      · simp

end HqModel.Stream
