import HqModel.Lemmas.SchedCount
import HqModel.Lemmas.SchedBox
/-!
Which rows `milpOf` contains: monotonicity of `≤` rows; membership in `cutRowsFrom`; on a one-worker cluster the rows of a
cut in closed form, their shape, and what they say about a solution; the `B` rows.
-/
namespace HqModel.Sched

theorem mem_dedupAux {α} [DecidableEq α] {a : α} : ∀ {l seen : List α}, a ∈ dedupAux l seen ↔ a ∈ l ∧ a ∉ seen
  | [], seen => by simp [dedupAux]
  | a' :: l, seen => by
    simp only [dedupAux]
    split
    · rename_i hin
      rw [mem_dedupAux, List.mem_cons]
      exact ⟨fun ⟨h1, h2⟩ => ⟨Or.inr h1, h2⟩, fun ⟨h1, h2⟩ => ⟨h1.resolve_left fun e => h2 (e ▸ hin), h2⟩⟩
    · rename_i hnin
      rw [List.mem_cons, mem_dedupAux, List.mem_cons, List.mem_cons]
      by_cases he : a = a'
      · subst he; simp [hnin]
      · simp [he]

theorem rows_iff (inst : Instance) (bs : List Batch) {r : Row} :
    r ∈ (milpOf inst bs).rows ↔ r ∈ resourceRows inst bs ∨ r ∈ sizeRows inst bs ∨ r ∈ bRows inst bs ∨
      ∃ b ∈ bs, r ∈ batchCutRows inst bs b := by
  simp [milpOf, List.mem_flatMap]

theorem holds_of_le {r : Row} {x y : Assign} (hge : r.ge = false) (h : ∀ t ∈ r.terms, y t.1 ≤ x t.1) :
    r.holds x → r.holds y := by
  rw [Row.holds, Row.holds, hge, if_neg Bool.false_ne_true, if_neg Bool.false_ne_true]
  exact Nat.le_trans (sum_mul_mono h)

variable {inst : Instance} {w : Worker} {bs : List Batch} {b : Batch} {cut : Cut} {c' : Nat} {r : Row}

theorem mem_cutRowsFrom : ∀ {cuts earlier : List Cut}, r ∈ cutRowsFrom inst bs b earlier cuts →
    ∃ pre cut post, cuts = pre ++ cut :: post ∧ r ∈ cutRows inst bs b (earlier ++ pre) cut
  | [], _, h => by simp [cutRowsFrom] at h
  | cut :: rest, earlier, h => by
    simp only [cutRowsFrom, List.mem_append] at h
    rcases h with h | h
    · exact ⟨[], cut, rest, rfl, by simpa using h⟩
    · obtain ⟨pre, c, post, he, hr⟩ := mem_cutRowsFrom h
      exact ⟨cut :: pre, c, post, by simp [he], by simpa using hr⟩

theorem cutRows_sub {post : List Cut} : ∀ {pre earlier : List Cut}, r ∈ cutRows inst bs b (earlier ++ pre) cut →
    r ∈ cutRowsFrom inst bs b earlier (pre ++ cut :: post)
  | [], earlier, h => by
    simp only [List.nil_append, cutRowsFrom, List.mem_append]
    exact .inl (by simpa using h)
  | c :: pre, earlier, h => by
    simp only [List.cons_append, cutRowsFrom, List.mem_append]
    exact .inr (cutRows_sub (pre := pre) (earlier := earlier ++ [c]) (by simpa using h))

theorem capableWorkers_one (hw : inst.workers = [w]) (c : Nat) :
    capableWorkers inst c = if capable inst c w = true then [w] else [] := by
  simp only [capableWorkers, hw, List.filter_cons, List.filter_nil]

theorem zeroCond_one (hw : inst.workers = [w]) (b : Batch) (c' : Nat) :
    zeroCond inst b c' =
      if capable inst c' w = true ∧ gap inst c' b.rq w = 0 ∧ hasP inst w b.rq = true then [.P w.id b.rq] else [] := by
  simp only [zeroCond, capableWorkers_one hw]
  by_cases h1 : capable inst c' w = true
  · by_cases h2 : gap inst c' b.rq w = 0
    · cases h3 : hasP inst w b.rq <;> simp [h1, h2, h3]
    · simp [h1, h2]
  · simp [h1]

/-- the rows of one blocker of a cut on one worker: a single row, if any — the size of the cut plus the gap bounds the
placement of the batch, unless a bounded blocker holds its size (the zero row is the gap row for gap 0; for a blocker
beyond its limit it is written once per batch) -/
theorem blockerRows_one (hw : inst.workers = [w]) (hp : hasP inst w b.rq = true) (s? : Option Nat) (flag : Bool) :
    gapRows inst bs b cut c' s? ++ zeroRows inst bs b cut c' s? flag =
      if capable inst c' w = true then
        match s? with
        | some s =>
          if (countVarsOf inst bs c').isEmpty then []
          else [{ ge := false, bound := cut.size + b.size + gap inst c' b.rq w,
                  terms := [(.P w.id b.rq, 1), (.B c' s, b.size)] }]
        | none =>
          if gap inst c' b.rq w = 0 ∧ flag = false then []
          else [{ ge := false, bound := cut.size + gap inst c' b.rq w, terms := [(.P w.id b.rq, 1)] }]
      else [] := by
  simp only [gapRows, zeroRows, zeroCond_one hw, capableWorkers_one hw]
  by_cases hc : capable inst c' w = true
  · by_cases hg : gap inst c' b.rq w = 0
    · cases s? with
      | none => cases flag <;> simp [hc, hg, hp]
      | some s => simp [hc, hg, hp, Nat.add_comm]
    · cases s? with
      | none => simp [hc, hg, hp]
      | some s => cases (countVarsOf inst bs c').isEmpty <;> simp [hc, hg, hp]
  · simp [hc]

theorem cutRows_form (hw : inst.workers = [w]) (hp : hasP inst w b.rq = true) {earlier : List Cut}
    (hr : r ∈ cutRows inst bs b earlier cut) :
    ∃ bl ∈ cut.blockers, r.ge = false ∧
      ((∃ s, bl.2 = some s ∧ cut.size + b.size ≤ r.bound ∧ r.terms = [(.P w.id b.rq, 1), (.B bl.1 s, b.size)]) ∨
       (bl.2 = none ∧ cut.size ≤ r.bound ∧ r.terms = [(.P w.id b.rq, 1)])) := by
  simp only [cutRows, List.mem_flatMap, blockerRows_one hw hp, List.mem_ite_nil_right] at hr
  obtain ⟨bl, hbl, _, hr⟩ := hr
  refine ⟨bl, hbl, ?_⟩
  cases hs : bl.2 with
  | none =>
    simp only [hs, List.mem_ite_nil_left, List.mem_singleton] at hr
    rw [hr.2]; exact ⟨rfl, Or.inr ⟨rfl, Nat.le_add_right _ _, rfl⟩⟩
  | some s =>
    simp only [hs, List.mem_ite_nil_left, List.mem_singleton] at hr
    rw [hr.2]; exact ⟨rfl, Or.inl ⟨s, rfl, Nat.le_add_right _ _, rfl⟩⟩

theorem cutRows_bounded (hw : inst.workers = [w]) (hp : hasP inst w b.rq = true) (hcap : capable inst c' w = true)
    (hcv : (countVarsOf inst bs c').isEmpty = false) {s : Nat} (hbl : (c', some s) ∈ cut.blockers)
    {earlier : List Cut} {x : Assign} (hx : ∀ r ∈ cutRows inst bs b earlier cut, r.holds x) :
    x (.P w.id b.rq) + b.size * x (.B c' s) ≤ cut.size + b.size + gap inst c' b.rq w := by
  have := hx _ (List.mem_flatMap.mpr ⟨_, hbl, by
    rw [blockerRows_one hw hp, if_pos hcap]
    simp only [hcv, Bool.false_eq_true, ↓reduceIte]
    exact List.mem_singleton.mpr rfl⟩)
  simpa only [Row.holds, Row.lhs, Bool.false_eq_true, ↓reduceIte, List.map_cons, List.map_nil, List.sum_cons,
    List.sum_nil, Nat.one_mul, Nat.add_zero] using this

/-- what the rows of the cuts say when the blocker `c'` is beyond its limit: the row without a gap is written once
per batch and blocker, at the first cut that names the blocker so — and the cuts ascend -/
theorem cutRows_unbounded (hw : inst.workers = [w]) (hp : hasP inst w b.rq = true) (hcap : capable inst c' w = true)
    {x : Assign} : ∀ {cuts earlier : List Cut},
    (earlier.all fun e => !e.blockers.contains (c', none)) = true → cuts.Pairwise (fun c1 c2 => c1.size ≤ c2.size) →
    (∀ r ∈ cutRowsFrom inst bs b earlier cuts, r.holds x) → cut ∈ cuts → (c', none) ∈ cut.blockers →
    x (.P w.id b.rq) ≤ cut.size + gap inst c' b.rq w
  | [], _, _, _, _, h, _ => nomatch h
  | c :: rest, earlier, he, hs, hx, hcut, hbl => by
    simp only [cutRowsFrom, List.mem_append] at hx
    by_cases hcb : (c', none) ∈ c.blockers
    · -- the row of the first cut `c` that names the blocker
      have := hx _ (Or.inl (List.mem_flatMap.mpr ⟨_, hcb, by
        rw [blockerRows_one hw hp, if_pos hcap, he]
        simp only [Bool.true_eq_false, and_false, ↓reduceIte]
        exact List.mem_singleton.mpr rfl⟩))
      simp only [Row.holds, Row.lhs, Bool.false_eq_true, ↓reduceIte, List.map_cons, List.map_nil, List.sum_cons,
        List.sum_nil, Nat.one_mul, Nat.add_zero] at this
      refine Nat.le_trans this (Nat.add_le_add_right ?_ _)
      rcases List.mem_cons.mp hcut with rfl | hcut
      · exact Nat.le_refl _
      · exact (List.pairwise_cons.mp hs).1 _ hcut
    · have hrest : cut ∈ rest := by
        rcases List.mem_cons.mp hcut with rfl | hcut
        · exact absurd hbl hcb
        · exact hcut
      refine cutRows_unbounded hw hp hcap (earlier := earlier ++ [c]) ?_ (List.pairwise_cons.mp hs).2
        (fun r hr => hx r (Or.inr hr)) hrest hbl
      rw [List.all_append, he]
      simpa using hcb

theorem usesB_one (hw : inst.workers = [w]) (hp : hasP inst w b.rq = true) (hcap : capable inst c' w = true)
    (hcv : (countVarsOf inst bs c').isEmpty = false) : usesB inst bs b c' = true := by
  simp only [usesB, zeroCond_one hw, capableWorkers_one hw, hcap, hcv]
  by_cases hg : gap inst c' b.rq w = 0 <;> simp [hg, hp]

theorem mem_bVars {c s : Nat} : (c, s) ∈ bVars inst bs ↔ ∃ b ∈ bs, (countVars inst b).isEmpty = false ∧
    ∃ cut ∈ b.cuts, (c, some s) ∈ cut.blockers ∧ usesB inst bs b c = true := by
  simp only [bVars, mem_dedupAux, List.not_mem_nil, not_false_eq_true, and_true, List.mem_flatMap]
  refine exists_congr fun b => and_congr_right fun _ => ?_
  cases (countVars inst b).isEmpty
  · simp only [Bool.false_eq_true, ↓reduceIte, List.mem_flatMap, List.mem_filterMap, true_and]
    refine exists_congr fun cut => and_congr_right fun _ => ⟨?_, fun ⟨hbl, hu⟩ => ⟨_, hbl, by simp [hu]⟩⟩
    rintro ⟨⟨c1, s?⟩, hbl, h⟩
    cases s? with
    | none => cases h
    | some s1 =>
      simp only at h
      split at h
      · cases h; exact ⟨hbl, ‹_›⟩
      · cases h
  · simp

theorem bRows_form (hr : r ∈ bRows inst bs) :
    ∃ c s, (countVarsOf inst bs c).isEmpty = false ∧ r.ge = true ∧ r.bound = s ∧
      r.terms = (countVarsOf inst bs c).map (·, 1) ++ [(.B c s, s)] := by
  simp only [bRows, List.mem_map] at hr
  obtain ⟨⟨c, s⟩, hcs, rfl⟩ := hr
  obtain ⟨_, _, _, _, _, _, hu⟩ := mem_bVars.mp hcs
  simp only [usesB, Bool.and_eq_true, Bool.not_eq_true'] at hu
  exact ⟨c, s, hu.1, rfl, rfl, rfl⟩

theorem bRow_mem {s : Nat} (hb : b ∈ bs)
    (hcvb : (countVars inst b).isEmpty = false) (hcut : cut ∈ b.cuts) (hbl : (c', some s) ∈ cut.blockers)
    (hu : usesB inst bs b c' = true) :
    ({ ge := true, bound := s, terms := (countVarsOf inst bs c').map (·, 1) ++ [(.B c' s, s)] } : Row) ∈
      bRows inst bs :=
  List.mem_map.mpr ⟨(c', s), mem_bVars.mpr ⟨b, hb, hcvb, cut, hcut, hbl, hu⟩, rfl⟩

end HqModel.Sched
