import HqModel.Lemmas.CoreQueueKeep
import HqModel.Lemmas.CoreActUpd
/-!
The queue / dependency invariant along the acts of the reactor (`CoreAct`): one lemma, `Act.q`, by cases on the act;
every handler, every loop and every operation but a scheduling round by induction on its chain.

The accumulators say which instance of `QInv` holds between two acts: `fin` is the lister that does not count (the task
being finished), `pend` its consumers whose counter has not been decremented yet, `U` the ids submitted so far. The
tasks of a removed worker are written back to `Waiting 0` without a look at their state: that they have no unfinished
dependency is what the family is told of them (`qSide.lostP`, `qSide.lostA`; from `Inv`, list → state).
-/
namespace HqModel.Core

/-- what this family is told: a submitted id is new; the tasks a removed worker lists have no unfinished dependency -/
def qSide : Side :=
  { Side.any with
    fresh := fun U id => id ∉ U
    lostP := fun st => slack st = 0
    lostA := fun st => slack st = 0 }

structure QG (a : Gh × State) : Prop where
  q : QInv a.1.U a.1.fin a.1.pend a.2
  nd : a.1.pend.Nodup

theorem Act.q {a b : Gh × State} (h : Act qSide a b) (hi : QG a) : QG b := by
  obtain ⟨hq, hn⟩ := hi
  have safe : ∀ {g : Gh} {s s' : State}, QInv g.U g.fin g.pend s → g.pend.Nodup → Safe s s' → QG (g, s') :=
    fun hq hn h => ⟨h _ _ _ hq, hn⟩
  -- a record without slack goes back into its queue as `Waiting 0`
  have back : ∀ {s s2 : State} {id : TaskId} {task : Task} {i : Nat} {r : List TaskId}, s.task? id = some task →
      slack task.state = 0 → Requeued s { task with state := .waiting 0, inst := i } s2 r → Safe s s2 :=
    fun {s _ _ task _ _} ht hs h => by
      have ht' : findTask s.tasks task.id = some task := by rw [findTask_some_id ht]; exact ht
      exact (Safe.setState' ht' (by rw [hs]; rfl) (by simp)).trans (Safe.addReady' h (findTask_setState_self ht') rfl)
  cases h with
  | release _ h => exact safe hq hn h.safe
  | @finish D R U L s id task ht hd hs _ =>
    exact ⟨QInv4.finish hq ht (slack_eq_zero fun n => hs _), hq.cnd task (findTask_some_mem ht)⟩
  | wake ht hs _ => exact ⟨QInv4.wake hq ht hs (List.nodup_cons.mp hn).1, (List.nodup_cons.mp hn).2⟩
  | @wakeReady D R f p U L s s2 c t r ht hs h =>
    obtain ⟨hc, hn⟩ := List.nodup_cons.mp hn
    exact ⟨Safe.addReady' h (findTask_setState_self (by rw [findTask_some_id ht]; exact ht)) rfl U f p
      (QInv4.wake hq ht hs hc), hn⟩
  | requeue i ht _ hs h => exact safe hq hn (back ht (slack_eq_zero hs) h)
  | stale _ ht hs h => exact safe hq hn (back (i := _) ht (by rw [hs]; rfl) h)
  | @retract D R f p U L s s1 t task w ht hs hw =>
    have ht1 : findTask s1.tasks t = some task := by rw [withWorker_tasks hw]; exact ht
    exact safe hq hn ((Safe.withWorker hw).trans (Safe.setState ht1 (by simp [hs]) (by simp)))
  | doom => exact ⟨hq, hn⟩
  | erase h _ => exact safe hq hn (removeTask_safe h)
  | eraseW h => exact safe hq hn (removeTask_safe h)
  | eraseFin h => exact ⟨QInv4.unfin (removeTask_safe h _ _ _ hq) (removeTask_unknown hq.nd h), hn⟩
  | @resolve R f p U s id task w target trv i ht hs hf =>
    exact safe (g := ⟨[], R, f, p, U, []⟩) hq hn
      (Safe.trans (b := { s with redirects := s.redirects.filter (·.1 ≠ id) }) (Safe.of_eq rfl rfl)
        (Safe.setState ht (by simp [hs]) (by simp)))
  | @unretract R f p U s id task w i ht hs hf =>
    exact safe (g := ⟨[], R, f, p, U, []⟩) hq hn (Safe.setState ht (by simp [hs]) (by simp))
  | @run f p U s s' w id rv task ws ht h _ => exact safe (g := ⟨[], [], f, p, U, []⟩) hq hn (h.safe ht)
  | block b hw => exact safe hq hn (Safe.setWorker _ _)
  | ask => exact safe hq hn (Safe.ask _)
  | dropSn => exact safe hq hn (Safe.of_eq rfl rfl)
  | @dropMnRoot D R f p U L s s1 w wk t ro st task others _ _ _ _ _ h =>
    exact safe hq hn (Safe.trans (b := { s with workers := s.workers.filter (·.id ≠ w) }) (Safe.of_eq rfl rfl)
      (Safe.resetMnAll h))
  | @dropMnOther g s w wk t ro st task root others _ _ _ ht hs _ =>
    exact safe hq hn (Safe.trans (b := { s with workers := s.workers.filter (·.id ≠ w) }) (Safe.of_eq rfl rfl)
      (Safe.setState ht (by simp [hs]) (by simp)))
  | lostPrefilled ht _ hs h =>
    exact safe hq hn ((Safe.setState ht (by rw [show slack _ = 0 from hs]; rfl) (by simp)).trans
      (Safe.movePrefilledToReady h))
  | lostRequeue ht _ _ hs h => exact safe hq hn (back ht hs h)
  | @lostRedirect D R f p U L s s2 id task x r ht _ hs _ h =>
    have ht' : findTask s.tasks task.id = some task := by rw [findTask_some_id ht]; exact ht
    exact safe hq hn ((Safe.trans (b := { s with redirects := s.redirects.filter (·.1 ≠ id) }) (Safe.of_eq rfl rfl)
      (Safe.setState' ht' rfl fun e => e)).trans (Safe.addReady' h (findTask_setState_self ht') (by rw [hs]; rfl)))
  | crash n ht =>
    exact safe hq hn (Safe.setState' (by rw [findTask_some_id ht]; exact ht) rfl fun e => e)
  | @newWaiting D R U L s nt ts kept n hreg hnone _ hU =>
    have hr := registerDeps_spec nt.deps s.tasks nt.id hq.nd
    rw [hreg] at hr
    exact ⟨QInv4.new_task hq hU hr hnone rfl rfl rfl rfl (.inr (QSub.refl _)), .nil⟩
  | @newReady D R U L s s2 nt ts kept r hreg hnone hU h =>
    have hr := registerDeps_spec nt.deps s.tasks nt.id hq.nd
    rw [hreg] at hr
    refine ⟨?_, .nil⟩
    show QInv4 _ none [] (s2.tasks ++ [_]) s2.queues
    rw [show s2.tasks = ts from addReady_tasks h]
    have hqs := addReady_qsub h
    exact QInv4.new_task hq hU hr hnone rfl rfl rfl rfl (.inl ⟨rfl, hqs⟩)
  | newWorker => exact safe hq hn (Safe.of_eq rfl rfl)
  | newRq rqv => exact ⟨newRq_q rqv hq, hn⟩

theorem Acts.q {a b : Gh × State} (h : Acts qSide a b) (hi : QG a) : QG b := by
  induction h with
  | refl => exact hi
  | tail _ r ih => exact r.q ih

/-- a chain from the idle accumulators to the idle accumulators -/
theorem Acts.idle_q {U U' : List TaskId} {s s' : State} (h : Acts qSide (.idle U, s) (.idle U', s'))
    (hi : QInv U none [] s) : QInv U' none [] s' := (h.q ⟨hi, .nil⟩).q

/-- `UpdSide` asks only for fields that `qSide` leaves at `Side.any` -/
theorem UpdSide.q (s : State) (w : Nat) (u : Update) : UpdSide qSide s w u := by
  cases u <;> first | trivial | exact .inl trivial | exact fun _ _ => trivial

/-- the ids of a list that names no id twice are new one after the other -/
theorem fresh_of_nodup {U : List TaskId} {nts : List NewTask} (hfresh : ∀ nt ∈ nts, nt.id ∉ U)
    (hnd : (nts.map (·.id)).Nodup) : ∀ pre nt post, nts = pre ++ nt :: post → nt.id ∉ U ++ pre.map (·.id) := by
  rintro pre nt post rfl hm
  rcases List.mem_append.mp hm with h | h
  · exact hfresh nt (List.mem_append_right _ List.mem_cons_self) h
  · rw [List.map_append, List.map_cons, List.nodup_append] at hnd
    exact hnd.2.2 _ h _ List.mem_cons_self rfl

/-- what `qSide` wants to be told of an operation follows from the structural invariant and the freshness of the
submitted ids: the lists of a worker record name no task twice, and the tasks they name are held -/
theorem OpSide.q {U : List TaskId} {s : State} {op : Op} (hi : Inv s) (hfresh : ∀ x ∈ op.newIds, x ∉ U)
    (hnd : op.newIds.Nodup) (hop : ∀ sol, op ≠ .schedule sol) : OpSide qSide U s op := by
  cases op with
  | schedule sol => exact absurd rfl (hop sol)
  | newWorker | newRq | cancel | retracted => trivial
  | update w us rets => exact UpdatesOk.of_all UpdSide.q _ _ _
  | newTasks nts =>
    exact ⟨fresh_of_nodup (fun nt hnt => hfresh nt.id (List.mem_map_of_mem hnt)) hnd, fun _ _ => trivial⟩
  | removeWorker w reason f order rets =>
    intro wk hw
    have hP : ∀ A F P, wk.assign = .sn A F P → ∀ id ∈ P, stOf s.tasks id = some (.prefilled w) := fun A F P ha id hid =>
      hi.ls.a2 w id (by rw [preW_of_find hw]; simpa [wPre, ha] using hid)
    have hA : ∀ A F P, wk.assign = .sn A F P → ∀ id ∈ A, ∃ st, stOf s.tasks id = some st ∧ Holds s.redirects w id st :=
      fun A F P ha id hid => hi.ls.a1 w id (by rw [asgW_of_find hw]; simpa [wAsg, ha] using hid)
    refine ⟨?_, trivial, fun A F P ha => ⟨fun id hid task ht => ?_, fun id hid task ht => ?_⟩⟩
    · cases ha : wk.assign with
      | mn t ro st => exact List.nodup_cons.mpr ⟨(fun h => nomatch h), List.nodup_nil⟩
      | sn A F P =>
        refine List.nodup_append.mpr ⟨?_, ?_, fun x hx y hy e => ?_⟩
        · have := hi.ls.ndp w; rwa [preW_of_find hw, show wPre wk = P by simp [wPre, ha]] at this
        · have := hi.ls.nda w; rwa [asgW_of_find hw, show wAsg wk = A by simp [wAsg, ha]] at this
        · subst e
          obtain ⟨st, h1, h2⟩ := hA A F P ha x hy
          rw [hP A F P ha x hx] at h1
          cases h1
          exact h2
    · have := hP A F P ha id hid
      rw [stOf_of_find ht] at this
      rw [Option.some.inj this]; rfl
    · obtain ⟨st, h1, h2⟩ := hA A F P ha id hid
      rw [stOf_of_find ht] at h1
      cases h1
      cases hst : task.state <;> rw [hst] at h2 <;> first | rfl | exact h2.elim

end HqModel.Core
