import HqModel.Lemmas.JobState
/-!
Single operations of the job layer: a terminal task state is final (C01), `cancel_job` leaves every task of the job
terminal and is idempotent (C08), and what `process_task_failed` hands back to the core (C14).
-/
namespace HqModel.Job

def Job.allTerminal (job : Job) : Prop := ∀ p ∈ job.tasks, p.2.terminal = true

theorem nonFinished_eq_nil_iff {job : Job} : job.nonFinishedTaskIds = [] ↔ job.allTerminal := by
  simp only [Job.nonFinishedTaskIds, List.map_eq_nil_iff, List.filter_eq_nil_iff, Bool.not_eq_true',
    Bool.not_eq_false, Job.allTerminal]

theorem mem_nonFinished {job : Job} {t : Nat} {x : TState} (hl : lookup job.tasks t = some x)
    (hnt : x.terminal = false) : t ∈ job.nonFinishedTaskIds :=
  List.mem_map.mpr ⟨(t, x), List.mem_filter.mpr ⟨lookup_mem hl, by simp [hnt]⟩, rfl⟩

/-- a second terminal transition of a task is refused (the Rust code panics) by every terminal setter -/
theorem terminal_is_final {job : Job} {t : Nat} {st : TState} (hl : lookup job.tasks t = some st)
    (ht : st.terminal = true) :
    (∃ e, job.setFinished t = .error e) ∧ (∃ e, job.setFailed t = .error e) ∧ (∃ e, job.setWaiting t = .error e) ∧
    (∀ target site rest, ∃ e, job.markAll target site ((job.id, t) :: rest) = .error e) ∧
    job.setRunning t = .ok job := by
  -- each setter succeeds only on a task it finds in a non-terminal state
  have ne : ∀ {x : TState}, x = .running ∨ x = .waiting → lookup job.tasks t ≠ some x := by
    rintro x hx h
    cases hl.symm.trans h
    rcases hx with rfl | rfl <;> cases ht
  refine ⟨?_, ?_, ?_, ?_, ?_⟩
  · cases h : job.setFinished t with
    | error e => exact ⟨e, rfl⟩
    | ok r => exact absurd (setFinished_eq_ok h).1 (ne (.inl rfl))
  · cases h : job.setFailed t with
    | error e => exact ⟨e, rfl⟩
    | ok r => obtain ⟨_, ha, hl', -⟩ := setFailed_eq_ok h; exact absurd hl' (ne ha)
  · cases h : job.setWaiting t with
    | error e => exact ⟨e, rfl⟩
    | ok r => exact absurd (setWaiting_eq_ok h).1 (ne (.inl rfl))
  · intro target site rest
    cases h : job.markAll target site ((job.id, t) :: rest) with
    | error e => exact ⟨e, rfl⟩
    | ok r => obtain ⟨-, _, hl', ha, -⟩ := markAll_cons_eq_ok h; exact absurd hl' (ne ha)
  · rw [Job.setRunning, hl]
    cases st <;> first | rfl | cases ht

theorem cancelJob_allTerminal {s s' : State} {j : Nat} {evs : List Ev} {r : CancelResp} {job' : Job}
    (h : s.cancelJob j = .ok (s', evs, r)) (hj : s'.getJob j = some job') (hs : StateWF s) :
    job'.allTerminal := by
  rcases cancelJob_eq_ok h with ⟨hn, rfl, -⟩ | ⟨job, hjob, hemp, rfl, -⟩ | ⟨job, jobc, hjob, hne, hc, rfl, -⟩
  · rw [hn] at hj; cases hj
  · cases hjob.symm.trans hj
    exact nonFinished_eq_nil_iff.mp hemp
  · -- the job stored under `j` is the result of `set_cancel_state`
    cases (getJob_putJob_self hjob ((setCancel_id hc).trans (getJob_id hjob))).symm.trans hj
    rcases setCancel_eq_ok hc with ⟨hemp, -⟩ | ⟨-, job1, hm, rfl, -⟩
    · exact absurd (List.map_eq_nil_iff.mp hemp) hne
    · -- every task is terminal: either marked now or was already terminal
      intro p hp
      rcases markAll_all (by decide) _ _ _ hm p hp with h | h
      · exact h
      · cases ht : p.2.terminal with
        | true => rfl
        | false =>
          refine absurd (List.mem_map.mpr ⟨p.1, ?_, by rw [getJob_id hjob]⟩) h.2
          exact List.mem_map.mpr ⟨p, List.mem_filter.mpr ⟨h.1, by simp [ht]⟩, rfl⟩

theorem cancelJob_idempotent {s : State} {j : Nat} {job : Job} (hj : s.getJob j = some job)
    (hall : job.allTerminal) : s.cancelJob j = .ok (s, [], .canceled [] job.nTasks) := by
  simp [State.cancelJob, hj, nonFinished_eq_nil_iff.mpr hall]

theorem taskFailed_ret {s s' : State} {t : TaskId} {cons ret : List TaskId} {evs : List Ev}
    (h : s.taskFailed t cons = .ok (s', evs, ret)) :
    ∃ job job1 ev1 job2 ev2, s.getJob t.1 = some job ∧ job.abortTasks cons = .ok (job1, ev1) ∧
      job1.setFailed t.2 = .ok (job2, ev2) ∧
      ((∃ m, job2.maxFails = some m ∧ job2.cnt.failed > m ∧
          ret = job2.nonFinishedTaskIds.map (fun x => (job2.id, x))) ∨
       ((∀ m, job2.maxFails = some m → ¬ job2.cnt.failed > m) ∧ ret = [])) := by
  obtain ⟨job, job1, ev1, job2, ev2, hj, ha, hf, h3⟩ := taskFailed_eq_ok h
  refine ⟨job, job1, ev1, job2, ev2, hj, ha, hf, ?_⟩
  rcases h3 with ⟨m, _, _, hm, hgt, hret, -⟩ | ⟨hle, hret, -⟩
  · exact .inl ⟨m, hm, hgt, hret⟩
  · exact .inr ⟨hle, hret⟩

end HqModel.Job
