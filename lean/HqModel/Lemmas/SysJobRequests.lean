import HqModel.Lemmas.SysJobCallbacks
/-!
The client requests `submit`, `open`, `close`, `forget` of the job layer through the view `tst` (`…_spec`), and that no
client request panics in a well-formed state (`openJob_ok`, `forgetJob_ok`, `submit_ok`; `cancel` is `cancelJob_ok`, `close`
cannot panic by construction). `submit` needs the client-side conditions `SubmitCover` (one entry per id: the ids attached
to the job are the ids handed to the core) and `SubmitOk` (in addition no id twice in an array).
-/
namespace HqModel.Sys
open HqModel.Job

theorem attach_spec : ∀ (ids : List Nat) {job job' : Job}, job.attach ids = .ok job' →
    SameMeta job job' ∧ (∀ x ∈ ids, lookup job.tasks x = none) ∧
    ∀ x, lookup job'.tasks x = if x ∈ ids then some .waiting else lookup job.tasks x := by
  intro ids job job' h
  obtain ⟨_, hnone, rfl⟩ := attach_eq_ok ids h
  refine ⟨⟨rfl, rfl, rfl⟩, hnone, fun x => ?_⟩
  simp only [lookup_append, lookup_map_const]
  by_cases hx : x ∈ ids
  · simp [hx, hnone x hx]
  · simp [hx]

/-- what the `hq` client guarantees for an array with entries: one entry per id (or no ids: they are generated from
the entries). It speaks of the description before the id filling; after it, it gives the hypothesis of
`C02.c02_submit_ids` (`fillIds_cover`). -/
def SubmitCover : TaskDesc → Prop
  | .array ids (some n) => ids.isEmpty = true ∨ ids.iter.length ≤ n
  | _ => True

instance (d : TaskDesc) : Decidable (SubmitCover d) := by
  cases d with
  | array ids en => cases en <;> simp only [SubmitCover] <;> infer_instance
  | graph ts => simp only [SubmitCover]; infer_instance

/-- the id filling of `handle_submit`; `fillIdsOpen` and `fillIdsNew` differ in the first generated id only -/
def fillIds (newId : Nat) : TaskDesc → TaskDesc
  | .array ids entries =>
    if ids.isEmpty then
      match entries with
      | some n => .array (IntArray.fromRange newId n) entries
      | none => .array (IntArray.fromId newId) entries
    else .array ids entries
  | d => d

/-- the first id `handle_submit` generates for an open job: one above the largest id of the job -/
def nextId (job : Job) : Nat := match job.maxId with | some m => m + 1 | none => 0

theorem fillIdsOpen_eq (job : Job) (d : TaskDesc) : fillIdsOpen job d = fillIds (nextId job) d := by
  cases d <;> rfl

theorem fillIdsNew_eq (d : TaskDesc) : fillIdsNew d = fillIds 0 d := by
  cases d <;> rfl

theorem fillIds_cover (s : Nat) {d : TaskDesc} (h : SubmitCover d) : (fillIds s d).jobIds = (fillIds s d).coreIds := by
  cases d with
  | graph ts => rfl
  | array ids en =>
    cases en with
    | none => simp only [fillIds]; split <;> rfl
    | some n =>
      simp only [fillIds]
      split
      · simp only [TaskDesc.jobIds, TaskDesc.coreIds, fromRange_iter]
        exact (List.take_of_length_le (by simp)).symm
      · rename_i hne
        simp only [SubmitCover, hne, Bool.false_eq_true, false_or] at h
        exact (List.take_of_length_le h).symm

theorem getJob_ctr_none {js : Job.State} (hwf : StateWF js) : js.getJob js.jobCtr = none := by
  apply findJob_none_of_not_mem
  intro hm
  obtain ⟨x, hx, he⟩ := List.mem_map.mp hm
  have := hwf.below x hx
  omega

theorem submit_spec {js js' : Job.State} {jobId mf : Option Nat} {desc : TaskDesc} {evs : List Ev}
    {resp : SubmitResp} {core : List TaskId} (hwf : StateWF js) (hcov : SubmitCover desc)
    (h : js.submit jobId mf desc = .ok (js', evs, resp, core)) :
    ((∀ j, resp ≠ .ok j) ∧ js' = js ∧ core = []) ∨
    (∃ j, resp = .ok j ∧ js'.workers = js.workers ∧ js'.sent = js.sent ++ core ∧
      (∀ x ∈ core, x.1 = j ∧ tst js x = none) ∧
      ∀ x, tst js' x = if x ∈ core then some .waiting else tst js x) := by
  rcases submit_cases h with ⟨e, _, rfl, hne⟩ | ⟨j, job, job', rfl, hj, _, _, _, ha, e, _, rfl, rfl⟩ |
    ⟨job', rfl, _, ha, e, _, rfl, rfl⟩ <;> rw [e]
  · exact .inl ⟨hne, rfl, rfl⟩
  · rw [fillIdsOpen_eq] at ha ⊢
    rw [← fillIds_cover _ hcov]
    obtain ⟨m, hnone, hl⟩ := attach_spec _ ha
    refine .inr ⟨j, rfl, rfl, rfl, ?_, ?_⟩
    · intro x hx
      obtain ⟨rfl, h2⟩ := mem_map_pair.mp hx
      exact ⟨rfl, (tst_of_getJob hj x.2).trans (hnone _ h2)⟩
    · refine tst_putJob_ext hj (m.id.trans (getJob_id hj)) (fun x => ?_) (fun x hx => ?_)
      · simp only [hl, mem_map_pair, true_and, tst_of_getJob hj]
      · exact if_neg fun e => hx (mem_map_pair.mp e).1
  · rw [fillIdsNew_eq] at ha ⊢
    rw [← fillIds_cover _ hcov]
    obtain ⟨m, hnone, hl⟩ := attach_spec _ ha
    have hgn : findJob js.jobs js.jobCtr = none := getJob_ctr_none hwf
    have hid' : job'.id = js.jobCtr := m.id
    have hno : ∀ x : TaskId, x.1 = js.jobCtr → tst js x = none := by
      intro x hx
      simp only [tst, tstJ]
      rw [hx, hgn]
    refine .inr ⟨js.jobCtr, rfl, rfl, rfl, ?_, ?_⟩
    · intro x hx
      obtain ⟨h1, _⟩ := mem_map_pair.mp hx
      exact ⟨h1, hno x h1⟩
    · intro x
      show tstJ (js.jobs ++ [job']) x = _
      rw [tstJ_append (by rw [hid']; exact hgn), hid']
      by_cases hx1 : x.1 = js.jobCtr
      · simp only [hx1, if_true, hl, mem_map_pair, true_and, hno x hx1]
        rfl
      · rw [if_neg hx1, if_neg fun e => hx1 (mem_map_pair.mp e).1]
        rfl

theorem openJob_spec {js js' : Job.State} {mf : Option Nat} {evs : List Ev} {j : Nat} (hwf : StateWF js)
    (h : js.openJob mf = .ok (js', evs, j)) :
    js'.workers = js.workers ∧ js'.sent = js.sent ∧ ∀ x, tst js' x = tst js x := by
  obtain ⟨e, _, _⟩ := openJob_eq_ok h
  rw [e]
  have hgn : findJob js.jobs js.jobCtr = none := getJob_ctr_none hwf
  refine ⟨rfl, rfl, fun x => ?_⟩
  show tstJ (js.jobs ++ [_]) x = tstJ js.jobs x
  rw [tstJ_append hgn]
  split
  · rename_i hx
    simp only [tstJ, hx, hgn]
    rfl
  · rfl

theorem closeJob_spec (js : Job.State) (j : Nat) :
    (js.closeJob j).1.workers = js.workers ∧ (js.closeJob j).1.sent = js.sent ∧
    ∀ x, tst (js.closeJob j).1 x = tst js x := by
  simp only [Job.State.closeJob]
  split
  · exact ⟨rfl, rfl, fun _ => rfl⟩
  · rename_i job hj
    split
    · exact ⟨rfl, rfl, tst_putJob_ext (job' := { job with isOpen := false }) hj (getJob_id (job := job) hj)
        (fun x => (tst_of_getJob hj x).symm) fun _ _ => rfl⟩
    · exact ⟨rfl, rfl, fun _ => rfl⟩

theorem no_live_of_noActive {job : Job} (hw : JobWF job) (h : job.hasNoActiveTasks = true) (x : Nat) :
    live (lookup job.tasks x) = false := by
  cases hl : live (lookup job.tasks x) with
  | false => rfl
  | true =>
    obtain ⟨st, hs, ht⟩ := live_some hl
    rw [hasNoActive_false hw hs ht] at h
    cases h

theorem forgetJob_spec {js js' : Job.State} {j : Nat} {allowed : List Status} {b : Bool} (hwf : StateWF js)
    (h : js.forgetJob j allowed = .ok (js', b)) :
    js'.workers = js.workers ∧ js'.sent = js.sent ∧
    ((b = false ∧ js' = js) ∨
     (b = true ∧ NoLive js j ∧
      ∀ x : TaskId, tst js' x = if x.1 = j then none else tst js x)) := by
  rcases forgetJob_eq_ok h with ⟨e, rfl⟩ | ⟨job, hj, hterm, e, rfl⟩ <;> rw [e]
  · exact ⟨rfl, rfl, .inl ⟨rfl, rfl⟩⟩
  · refine ⟨rfl, rfl, .inr ⟨rfl, fun x hx => ?_, fun x => ?_⟩⟩
    · subst hx
      rw [show tst js x = _ from tst_of_getJob hj x.2]
      apply no_live_of_noActive (getJob_wf hwf hj)
      simp only [Job.isTerminated, Bool.and_eq_true] at hterm
      exact hterm.2
    · show tstJ (js.jobs.filter (·.id != j)) x = _
      simp only [tstJ, findJob_filter]
      by_cases hx : x.1 = j
      · simp [hx]
      · simp [hx, tst, tstJ]


theorem openJob_ok {js : Job.State} (hwf : StateWF js) (mf : Option Nat) : ∃ r, js.openJob mf = .ok r := by
  simp only [Job.State.openJob, getJob_ctr_none hwf]
  exact ⟨_, rfl⟩

theorem forgetJob_ok {js : Job.State} (hwf : StateWF js) (j : Nat) (allowed : List Status) :
    ∃ r, js.forgetJob j allowed = .ok r := by
  simp only [Job.State.forgetJob]
  split
  · exact ⟨_, rfl⟩
  · rename_i job hj
    split
    · exact ⟨_, rfl⟩
    · rw [status_eq (getJob_wf hwf hj)]
      simp only
      split <;> exact ⟨_, rfl⟩

/-- what the `hq` client guarantees about a submit: one entry per id, and no id twice in an array (the command-line
parser refuses overlapping ranges; `validate_submit` checks uniqueness for graphs only — an array with a repeated id
makes `attach_submit` panic, see notes/job_journal.md) -/
def SubmitOk (d : TaskDesc) : Prop :=
  SubmitCover d ∧
  match d with
  | .array ids _ => ids.iter.Nodup
  | .graph _ => True

instance (d : TaskDesc) : Decidable (SubmitOk d) := by
  unfold SubmitOk
  cases d <;> infer_instance

theorem attach_ok : ∀ (ids : List Nat) (job : Job), ids.Nodup → (∀ x ∈ ids, lookup job.tasks x = none) →
    ∃ job', job.attach ids = .ok job' := by
  intro ids
  induction ids with
  | nil => intro job _ _; exact ⟨job, rfl⟩
  | cons t rest ih =>
    intro job hnd hno
    simp only [List.nodup_cons] at hnd
    simp only [Job.attach, hno t (by simp)]
    apply ih _ hnd.2
    intro x hx
    simp only [lookup_append_one, hno x (by simp [hx])]
    have : x ≠ t := fun e => hnd.1 (e ▸ hx)
    simp [this]

theorem validateGraph_nodup {job : Option Job} {ts : List (Nat × List Nat)} {seen : List Nat}
    (h : validateGraph job ts seen = none) : (ts.map (·.1)).Nodup ∧ ∀ t ∈ ts.map (·.1), t ∉ seen := by
  induction ts generalizing seen with
  | nil => exact ⟨List.nodup_nil, fun _ h => nomatch h⟩
  | cons p rest ih =>
    obtain ⟨t, deps⟩ := p
    simp only [validateGraph] at h
    split at h
    · cases h
    · rename_i hns
      split at h
      · cases h
      · obtain ⟨a, b⟩ := ih h
        have hts : t ∉ seen := by simpa using hns
        refine ⟨List.nodup_cons.mpr ⟨fun hm => (b t hm) (by simp), a⟩, ?_⟩
        intro x hx
        rcases List.mem_cons.mp hx with e | e
        · simp only at e; subst e; exact hts
        · exact fun hm => b x e (List.mem_cons_of_mem _ hm)

theorem maxId_fold (l : List (Nat × TState)) (acc : Option Nat) :
    (∀ a, acc = some a → ∃ m, l.foldl (fun acc p => match acc with | none => some p.1 | some m => some (max m p.1)) acc = some m ∧ a ≤ m) ∧
    ∀ p ∈ l, ∃ m, l.foldl (fun acc p => match acc with | none => some p.1 | some m => some (max m p.1)) acc = some m ∧ p.1 ≤ m := by
  induction l generalizing acc with
  | nil => exact ⟨fun a h => ⟨a, h, Nat.le_refl _⟩, fun _ h => nomatch h⟩
  | cons q rest ih =>
    simp only [List.foldl_cons]
    constructor
    · intro a ha
      subst ha
      obtain ⟨m, hm, hle⟩ := (ih (some (max a q.1))).1 _ rfl
      exact ⟨m, hm, by omega⟩
    · intro p hp
      rcases List.mem_cons.mp hp with e | e
      · subst e
        cases acc with
        | none =>
          obtain ⟨m, hm, hle⟩ := (ih (some p.1)).1 _ rfl
          exact ⟨m, hm, hle⟩
        | some a =>
          obtain ⟨m, hm, hle⟩ := (ih (some (max a p.1))).1 _ rfl
          exact ⟨m, hm, by omega⟩
      · exact (ih _).2 p e

theorem lookup_above_maxId {job : Job} {x : Nat} (h : nextId job ≤ x) : lookup job.tasks x = none := by
  cases hl : lookup job.tasks x with
  | none => rfl
  | some st =>
    exfalso
    obtain ⟨m, hm, hle⟩ := (maxId_fold job.tasks none).2 (x, st) (lookup_mem hl)
    have : job.maxId = some m := hm
    simp only [nextId, this] at h
    simp only at hle
    omega

theorem validateSubmit_absent {job : Job} {desc : TaskDesc} (h : validateSubmit (some job) desc = none) :
    ∀ x ∈ desc.jobIds, lookup job.tasks x = none := by
  have key : ∀ {α : Type} {f : α → Nat} {l : List α},
      firstSome (fun a => if (lookup job.tasks (f a)).isSome then some (f a) else none) l = none →
      ∀ a ∈ l, lookup job.tasks (f a) = none := by
    intro α f l hfs a ha
    have := firstSome_none hfs a ha
    cases hl : lookup job.tasks (f a) with
    | none => rfl
    | some v => simp [hl] at this
  cases desc with
  | array ids en =>
    simp only [validateSubmit, Option.map_eq_none_iff] at h
    exact key (f := id) h
  | graph ts =>
    simp only [validateSubmit] at h
    split at h
    · cases h
    · rename_i hfs
      intro x hx
      obtain ⟨p, hp, rfl⟩ := List.mem_map.mp hx
      exact key (f := (·.1)) hfs p hp

/-- generated ids start at `s`, above every id of the job; given ones were checked by `validate_submit` -/
theorem attach_fillIds_ok {job : Job} {desc : TaskDesc} (s : Nat) (hok : SubmitOk desc) {jo : Option Job}
    (hval : validateSubmit jo desc = none) (hnew : ∀ x, s ≤ x → lookup job.tasks x = none)
    (hold : ∀ x ∈ desc.jobIds, lookup job.tasks x = none) : ∃ job', job.attach (fillIds s desc).jobIds = .ok job' := by
  cases desc with
  | array ids en =>
    simp only [fillIds]
    split
    · cases en with
      | some n =>
        simp only [TaskDesc.jobIds, fromRange_iter]
        exact attach_ok _ _ List.nodup_range' fun x hx => hnew x (List.mem_range'_1.mp hx).1
      | none =>
        simp only [TaskDesc.jobIds, fromId_iter]
        exact attach_ok _ _ (by simp) fun x hx => hnew x (by rw [List.mem_singleton.mp hx]; exact Nat.le_refl _)
    · exact attach_ok _ _ hok.2 hold
  | graph ts =>
    simp only [validateSubmit] at hval
    split at hval
    · cases hval
    · exact attach_ok _ _ (validateGraph_nodup hval).1 hold

theorem submit_ok {js : Job.State} (hwf : StateWF js) (jobId mf : Option Nat) {desc : TaskDesc} (hok : SubmitOk desc) :
    ∃ r, js.submit jobId mf desc = .ok r := by
  simp only [Job.State.submit, fillIdsOpen_eq, fillIdsNew_eq]
  -- the branches of `handle_submit`: refused by `validate_submit`; into job `j` (unknown, not open, a bad dependency:
  -- refused; else `attach_submit` on ids above the job's largest); a new job (`attach_submit` on an empty table)
  split
  · exact ⟨_, rfl⟩
  · rename_i hval
    split
    · rename_i j
      split
      · exact ⟨_, rfl⟩
      · rename_i job hj
        split
        · exact ⟨_, rfl⟩
        · split
          · exact ⟨_, rfl⟩
          · have hval' : validateSubmit (some job) desc = none := by simpa [Option.bind, hj] using hval
            obtain ⟨job', ha⟩ :=
              attach_fillIds_ok _ hok hval' (fun x hx => lookup_above_maxId hx) (validateSubmit_absent hval')
            rw [ha]; exact ⟨_, rfl⟩
    · simp only [getJob_ctr_none hwf]
      have hval' : validateSubmit none desc = none := by simpa [Option.bind] using hval
      obtain ⟨job', ha⟩ := attach_fillIds_ok (job := { id := js.jobCtr, isOpen := false, maxFails := mf }) 0 hok hval'
        (fun _ _ => rfl) (fun _ _ => rfl)
      simp only [Option.isSome_none, Bool.false_eq_true, if_false]
      rw [ha]; exact ⟨_, rfl⟩

end HqModel.Sys
