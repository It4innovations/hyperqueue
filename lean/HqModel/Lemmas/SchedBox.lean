import HqModel.Sched.Box
/-!
Optimality over ALL feasible integer points, decided by a search of the finite integer box (`optimal_of_box`): one Boolean,
`boxOptimalB`, which the kernel evaluates on a concrete instance. The search `noBetter` gives up a partial assignment as soon
as no feasible point with a larger objective can extend it; all coefficients are natural numbers, so a `≤` row is tested with
the open variables at 0, a `≥` row and the objective with the open variables at their bounds. The bounds `ub` are a parameter,
checked by `boundedBy`; the callers pass `boxBound inst`. The search `bruteBest` of `Sched/Box.lean` answers the same question
for the driver; nothing is proved about it, and no proof here uses it.
-/
namespace HqModel.Sched

def Milp.varList (m : Milp) : List Var := m.vars.map (·.1)

theorem Milp.mem_varList {m : Milp} {v : Var} : v ∈ m.varList ↔ ∃ e ∈ m.vars, e.1 = v := List.mem_map

/-- every term of every row is a variable of the MILP -/
def Milp.closed (m : Milp) : Bool := m.rows.all fun r => r.terms.all fun t => m.varList.contains t.1

/-- `ub` bounds every variable in every feasible point: it is 0/1, or a `≤` row bounds it -/
def boundedBy (m : Milp) (ub : Var → Nat) : Bool :=
  m.varList.all fun v =>
    (v.isBool && decide (1 ≤ ub v)) ||
    m.rows.any fun r => !r.ge && r.terms.any fun t => decide (t.1 = v) && decide (0 < t.2) && decide (r.bound / t.2 ≤ ub v)

theorem holdsB_iff (r : Row) (x : Assign) : r.holdsB x = true ↔ r.holds x := by
  unfold Row.holdsB Row.holds
  split <;> simp

theorem feasibleB_iff (m : Milp) (x : Assign) : feasibleB m x = true ↔ Feasible m x := by
  simp only [feasibleB, Feasible, Bool.and_eq_true, List.all_eq_true, holdsB_iff, Bool.or_eq_true,
    Bool.not_eq_true', decide_eq_true_eq]
  constructor
  · rintro ⟨h1, h2⟩
    refine ⟨h1, fun v hv hb => ?_⟩
    rcases h2 v hv with h | h
    · rw [h] at hb; cases hb
    · exact h
  · rintro ⟨h1, h2⟩
    refine ⟨h1, fun v hv => ?_⟩
    cases hb : v.1.isBool
    · left; rfl
    · right; exact h2 v hv hb

theorem sum_mul_mono {x y : Assign} : ∀ {l : List (Var × Nat)}, (∀ t ∈ l, x t.1 ≤ y t.1) →
    (l.map fun t => t.2 * x t.1).sum ≤ (l.map fun t => t.2 * y t.1).sum
  | [], _ => Nat.le_refl _
  | t :: l, h => by
    simp only [List.map_cons, List.sum_cons]
    exact Nat.add_le_add (Nat.mul_le_mul_left _ (h t List.mem_cons_self))
      (sum_mul_mono fun t ht => h t (List.mem_cons_of_mem _ ht))

theorem term_le_sum {x : Assign} : ∀ {terms : List (Var × Nat)} {t : Var × Nat}, t ∈ terms →
    t.2 * x t.1 ≤ (terms.map fun t => t.2 * x t.1).sum
  | [], _, h => by simp at h
  | a :: rest, t, h => by
    simp only [List.map_cons, List.sum_cons]
    rcases List.mem_cons.mp h with rfl | h
    · exact Nat.le_add_right _ _
    · exact Nat.le_trans (term_le_sum h) (Nat.le_add_left _ _)

theorem le_of_boundedBy {m : Milp} {ub : Var → Nat} (hb : boundedBy m ub = true) {y : Assign}
    (hy : Feasible m y) {v : Var} (hv : v ∈ m.varList) : y v ≤ ub v := by
  simp only [boundedBy, List.all_eq_true, Bool.or_eq_true, Bool.and_eq_true, decide_eq_true_eq,
    List.any_eq_true, Bool.not_eq_true'] at hb
  rcases hb v hv with ⟨hbool, h1⟩ | ⟨r, hr, hge, t, ht, ⟨htv, hpos⟩, hdiv⟩
  · obtain ⟨e, he, rfl⟩ := Milp.mem_varList.mp hv
    exact Nat.le_trans (hy.2 e he hbool) h1
  · have hrow := hy.1 r hr
    simp only [Row.holds, hge, Bool.false_eq_true, ↓reduceIte, Row.lhs] at hrow
    subst htv
    refine Nat.le_trans ?_ hdiv
    rw [Nat.le_div_iff_mul_le hpos, Nat.mul_comm]
    exact Nat.le_trans (term_le_sum ht) hrow

/-- the assignment that takes the values of the partial assignment `acc` and is `d` on the open variables -/
def fill (d : Var → Nat) (acc : List (Var × Nat)) : Assign := fun v =>
  match acc.find? (·.1 = v) with
  | some e => e.2
  | none => d v

theorem fill_cases {y : Assign} {acc : List (Var × Nat)} (h : ∀ e ∈ acc, y e.1 = e.2) (d : Var → Nat) (v : Var) :
    fill d acc v = y v ∨ fill d acc v = d v := by
  unfold fill
  split
  · rename_i e he
    have hv := List.find?_some he
    simp only [decide_eq_true_eq] at hv
    rw [← hv]
    exact .inl (h e (List.mem_of_find?_eq_some he)).symm
  · exact .inr rfl

/-- could a feasible point with an objective above `best` extend `acc`? -/
def viable (m : Milp) (ub : Var → Nat) (best : Nat) (acc : List (Var × Nat)) : Bool :=
  best < objective m (fill ub acc) &&
  m.rows.all fun r => if r.ge then r.bound ≤ r.lhs (fill ub acc) else r.lhs (fill (fun _ => 0) acc) ≤ r.bound

theorem viable_of_better {m : Milp} {ub : Var → Nat} {best : Nat} {acc : List (Var × Nat)} {y : Assign}
    (hc : m.closed = true) (hy : Feasible m y) (hub : ∀ v ∈ m.varList, y v ≤ ub v)
    (hacc : ∀ e ∈ acc, y e.1 = e.2) (hbest : best < objective m y) : viable m ub best acc = true := by
  have hlo : ∀ v, fill (fun _ => 0) acc v ≤ y v := fun v => by
    rcases fill_cases hacc (fun _ => 0) v with e | e <;> rw [e]
    · exact Nat.le_refl _
    · exact Nat.zero_le _
  have hhi : ∀ v ∈ m.varList, y v ≤ fill ub acc v := fun v hv => by
    rcases fill_cases hacc ub v with e | e <;> rw [e]
    · exact Nat.le_refl _
    · exact hub v hv
  simp only [Milp.closed, List.all_eq_true, List.contains_iff_mem] at hc
  simp only [viable, Bool.and_eq_true, List.all_eq_true, decide_eq_true_eq]
  refine ⟨Nat.lt_of_lt_of_le hbest (sum_mul_mono fun v hv => hhi _ (Milp.mem_varList.mpr ⟨v, hv, rfl⟩)), fun r hr => ?_⟩
  have hrow := hy.1 r hr
  unfold Row.holds at hrow
  split
  · rw [if_pos ‹_›] at hrow
    exact decide_eq_true (Nat.le_trans hrow (sum_mul_mono fun t ht => hhi _ (hc r hr t ht)))
  · rw [if_neg ‹_›] at hrow
    exact decide_eq_true (Nat.le_trans (sum_mul_mono fun t _ => hlo _) hrow)

/-- no feasible point of the box that extends `acc` has an objective above `best`: depth first over the values of
the variables `vs`, leaving a branch once it is not `viable` -/
def noBetter (m : Milp) (ub : Var → Nat) (best : Nat) : List Var → List (Var × Nat) → Bool
  | [], acc => !viable m ub best acc
  | v :: vs, acc =>
    !viable m ub best acc || (List.range (ub v + 1)).all fun k => noBetter m ub best vs ((v, k) :: acc)

theorem noBetter_sound {m : Milp} {ub : Var → Nat} {best : Nat} {y : Assign} (hc : m.closed = true)
    (hy : Feasible m y) (hub : ∀ v ∈ m.varList, y v ≤ ub v) : ∀ (vs : List Var) (acc : List (Var × Nat)),
    noBetter m ub best vs acc = true → vs ⊆ m.varList → (∀ e ∈ acc, y e.1 = e.2) → objective m y ≤ best
  | [], acc, h, _, hacc => Nat.le_of_not_lt fun hlt => by
    simp [noBetter, viable_of_better hc hy hub hacc hlt] at h
  | v :: vs, acc, h, hvs, hacc => Nat.le_of_not_lt fun hlt => by
    simp only [noBetter, viable_of_better hc hy hub hacc hlt, Bool.not_true, Bool.false_or, List.all_eq_true,
      List.mem_range] at h
    have ⟨hv, hvs'⟩ := List.cons_subset.mp hvs
    -- the branch of the value `y` has at `v`
    exact Nat.not_le_of_lt hlt (noBetter_sound hc hy hub vs _ (h (y v) (Nat.lt_succ_of_le (hub v hv))) hvs'
      (List.forall_mem_cons.mpr ⟨rfl, hacc⟩))

def boxOptimalB (m : Milp) (ub : Var → Nat) (x : Assign) : Bool :=
  m.closed && boundedBy m ub && feasibleB m x && noBetter m ub (objective m x) m.varList []

theorem optimal_of_box {m : Milp} {ub : Var → Nat} {x : Assign} (h : boxOptimalB m ub x = true) : Optimal m x := by
  simp only [boxOptimalB, Bool.and_eq_true] at h
  obtain ⟨⟨⟨hc, hb⟩, hx⟩, hall⟩ := h
  exact ⟨(feasibleB_iff m x).mp hx, fun y hy => noBetter_sound hc hy (fun v hv => le_of_boundedBy hb hy hv) _ _ hall
    (List.Subset.refl _) (by simp)⟩

end HqModel.Sched
