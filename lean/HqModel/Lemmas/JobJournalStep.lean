import HqModel.Lemmas.JobJournalOps
import HqModel.Lemmas.JobJournalSubmit
/-!
# Every operation of the job layer writes an allowed, failure-closed piece of journal

`step_leads`: under `EmitOk s A op`, a successful `step s op` writes records that `Leads` from `A` to the new state;
`run_inv`: the same over whole runs. At the end `emitFails_nil_iff`: the two forms of the side condition agree.
-/
namespace HqModel.Emit
open HqModel.Job HqModel.Journal

/-- a batch that contains every task without outcome is closed under dependents. (`jid` beside `j`: the max-fails abort
builds its list with `job2.id` while the job is stored under the id of the failed task; `hjid` says they agree.) -/
theorem closure_all {s : State} {A : AState} {j : Nat} {job : Job} (jid : Nat) (hjid : jid = j) (h : Inv s A)
    (hg : s.getJob j = some job) :
    ∀ aj, alGet A.jobs j = some aj → ∀ a ∈ aj.tasks, a.st = .waiting →
      (j, a.id) ∉ job.nonFinishedTaskIds.map (fun t => ((jid, t) : TaskId)) →
      ∀ d ∈ a.deps, (j, d) ∉ job.nonFinishedTaskIds.map (fun t => ((jid, t) : TaskId)) := by
  subst hjid
  intro aj haj a ha hwa hm
  exfalso
  have hs : JSim job aj := by have := h.sim jid job hg; rwa [haj] at this
  obtain ⟨x, hx, hnt⟩ := hs.waiting ha hwa
  exact hm (List.mem_map.mpr ⟨a.id, mem_nonFinished hx hnt, rfl⟩)

theorem setWaitingAll_inv : ∀ (ts : List TaskId) {s s' : State} {A : AState}, Inv s A →
    s.setWaitingAll ts = .ok s' → Inv s' A
  | [], s, s', A, h, e => by simp only [State.setWaitingAll] at e; cases e; exact h
  | t :: rest, s, s', A, h, e => by
    obtain ⟨job, job', hg, hw, e'⟩ := setWaitingAll_cons_eq_ok e
    obtain ⟨hx, hj'⟩ := setWaiting_eq_ok hw
    obtain ⟨aj, haj, hs⟩ := h.live hg (.inr ⟨t.2, .running, hx, rfl⟩)
    refine setWaitingAll_inv rest
      (h.putSame hg (by rw [hj']; exact (getJob_id hg : job.id = t.1)) ((getJob_wf h.wf hg).setWaiting hw) ?_) e'
    subst hj'
    rw [haj]
    refine ⟨hs.isOpen, hs.ids.trans (keys_setState ..).symm, ?_⟩
    intro a ha
    obtain ⟨x, hx', hst, hin⟩ := hs.st a ha
    simp only [lookup_setState_of hx]
    by_cases hk' : a.id = t.2
    · rw [hk', hx] at hx'
      cases hx'
      exact ⟨.waiting, by simp [hk'], hst, fun e => by cases e⟩
    · exact ⟨x, by simp [hk', hx'], hst, hin⟩

theorem Inv.lose {s : State} {A : AState} (h : Inv s A) (w : Nat) (b : Bool) (ws : List Nat) :
    Inv s { A with jobs := alMap (fun j => { j with tasks := j.tasks.map (ATask.lose w b) }) A.jobs, workers := ws } := by
  have hf : (fun (j : AJob) => ({ j with tasks := j.tasks.map (ATask.lose w b) } : AJob)) =
      fun j => mapTasks j (ATask.lose w b) := rfl
  rw [hf]
  refine ⟨h.wf, ?_, ?_, ?_⟩
  · intro ja hja
    obtain ⟨y, hy, rfl⟩ := mem_alMap (f := fun j => mapTasks j (ATask.lose w b)) (l := A.jobs) hja
    exact h.below y hy
  · intro j job hg
    simp only [alGet_map]
    have := h.sim j job hg
    cases haj : alGet A.jobs j with
    | none => rw [haj] at this; exact this
    | some aj =>
      rw [haj] at this
      simp only [Option.map_some]
      refine JSim.map this _ (fun a => (lose_fields w b a).1) rfl rfl ?_
      intro a _ x hx hst hin
      exact ⟨x, hx, by rw [(lose_fields w b a).2.2.1]; exact hst, by rw [(lose_fields w b a).2.2.2]; exact hin⟩
  · intro ja hja
    obtain ⟨y, hy, rfl⟩ := mem_alMap (f := fun j => mapTasks j (ATask.lose w b)) (l := A.jobs) hja
    exact (h.dep y hy).map_same _ (fun a => (lose_fields w b a).1) (fun a => (lose_fields w b a).2.1)
      (fun a => (lose_fields w b a).2.2.1)

theorem submit_open_leads {s : State} {A : AState} {j : Nat} {mf : Option Nat} {d : Job.TaskDesc} {job job' : Job}
    (h : Inv s A) (hg : s.getJob j = some job) (hop : job.isOpen = true)
    (hshape : arrayShapeOk d = true)
    (hv : Job.validateSubmit (some job) d = none) (hbd : badDep job d = none)
    (ha : job.attach (fillIdsOpen job d).jobIds = .ok job') :
    Leads A [.submit j false mf (descOf (fillIdsOpen job d))] (s.putJob job') := by
  have hjid := getJob_id hg
  obtain ⟨aj, haj, hs⟩ := h.live hg (.inl hop)
  have hw' : JobWF job' := JobWF.attach _ (getJob_wf h.wf hg) ha
  refine Leads.one h ?_ ?_
  · simp only [recordOk, haj, hs.isOpen, hop, Bool.true_and, Bool.false_eq_true, if_false]
    rw [hs.ids]
    refine submitOk_of_attach (some job) _ ?_ (fillIdsOpen_shape job hshape) ?_ ha
    · exact fun x hx => jobHas_some hx
    · intro g hg'
      have := fillIdsOpen_graph hg'
      subst this
      exact validateSubmit_graph hv
  · have e : meaningStep A (.submit j false mf (descOf (fillIdsOpen job d))) =
        { A with jobs := alSet A.jobs j { aj with tasks := aj.tasks ++ (descOf (fillIdsOpen job d)).specTasks,
                                                   nSubmits := aj.nSubmits + 1 } } := by
      simp [meaningStep, haj]
    rw [e]
    refine h.put hg ((attach_id _ ha).trans hjid) hw' (by simp [haj]) (hs.attach _ _ ha) ?_
    refine (h.dep _ (alGet_mem haj)).attach _ _ (fun a ha' => (specTasks_fresh ha').1) ?_
    intro a ha' x hx b hb
    obtain ⟨g, hg', p, hp, hxp⟩ := specTasks_deps ha' hx
    have := fillIdsOpen_graph hg'
    subst this
    obtain ⟨hbm, hbid⟩ := find_some hb
    obtain ⟨st, hst, hbs, -⟩ := hs.st b hbm
    rw [hbid] at hst
    rw [hbs]
    exact badDep_none hbd p hp x hxp st hst

theorem submit_new_leads {s : State} {A : AState} {mf : Option Nat} {d : Job.TaskDesc} {job' : Job}
    (h : Inv s A) (hshape : arrayShapeOk d = true) (hv : Job.validateSubmit none d = none)
    (ha : ({ id := s.jobCtr, isOpen := false, maxFails := mf } : Job).attach (fillIdsNew d).jobIds = .ok job')
    (l : List TaskId) :
    Leads A [.submit s.jobCtr true mf (descOf (fillIdsNew d))]
      { s with jobs := s.jobs ++ [job'], jobCtr := s.jobCtr + 1, sent := l } := by
  have hw' : JobWF job' := JobWF.attach _ (emptyJob_wf s.jobCtr false mf) ha
  have hs0 : JSim { id := s.jobCtr, isOpen := false, maxFails := mf } ⟨false, mf, [], 0⟩ :=
    ⟨rfl, rfl, fun a ha => by cases ha⟩
  have hd0 : JDep ⟨false, mf, [], 0⟩ := fun a ha => by cases ha
  refine Leads.one h ?_ ?_
  · simp only [recordOk, h.fresh, Option.isNone_none, Bool.true_and, if_true]
    refine submitOk_of_attach (job := { id := s.jobCtr, isOpen := false, maxFails := mf }) none _ ?_
      (fillIdsNew_eq d 0 false none ▸ fillIdsOpen_shape _ hshape) ?_ ha
    · exact fun x hx => nomatch hx
    · intro g hg'
      rw [fillIdsNew_eq d 0 false none] at hg'
      have := fillIdsOpen_graph hg'
      subst this
      exact validateSubmit_graph hv
  · have e : meaningStep A (.submit s.jobCtr true mf (descOf (fillIdsNew d))) =
        { A with jobs := alSet A.jobs s.jobCtr ⟨false, mf, (descOf (fillIdsNew d)).specTasks, 1⟩,
                 maxJob := max A.maxJob s.jobCtr } := by
      simp [meaningStep]
    rw [e]
    refine h.add (attach_id _ ha) hw' ?_ ?_ l _
    · simpa using hs0.attach (fillIdsNew d) 1 ha
    · have := hd0.attach (descOf (fillIdsNew d)).specTasks 1 (fun a ha' => (specTasks_fresh ha').1)
        (fun a _ x _ b hb => by simp [AJob.find] at hb)
      simpa using this

theorem taskFailed_leads {s s' : State} {A : AState} {t : TaskId} {cons ret : List TaskId} {evs : List Ev}
    (op : Op) (h : Inv s A) (hok : consumersClosed A t cons = true)
    (e : s.taskFailed t cons = .ok (s', evs, ret)) : Leads A (evs.flatMap (recOfEv s op)) s' := by
  obtain ⟨tj, tk⟩ := t
  obtain ⟨job, job1, ev1, job2, ev2, hg, ha, hf, h3⟩ := taskFailed_eq_ok e
  have hjid := getJob_id hg
  have id1 := abortTasks_id ha
  have id2 : job2.id = job1.id := (JobOp.failed hf).id_eq
  have hcl : ∀ aj, alGet A.jobs tj = some aj → ∀ a ∈ aj.tasks, a.st = .waiting → (tj, a.id) ∉ cons →
      ∀ d ∈ a.deps, d ≠ tk ∧ (tj, d) ∉ cons := by
    intro aj haj a ha' hwa hm d hd
    simp only [consumersClosed, haj, List.all_eq_true, Bool.or_eq_true, bne_iff_ne, ne_eq,
      List.contains_eq_mem, decide_eq_true_eq, Bool.and_eq_true, Bool.not_eq_true', decide_eq_false_iff_not] at hok
    rcases hok a ha' with (h1 | h1) | h1
    · exact absurd hwa h1
    · exact absurd h1 hm
    · exact h1 d hd
  obtain ⟨L1, hsub⟩ := abort_leads s op h hg ha
    (fun aj haj a ha' hwa hm d hd => (hcl aj haj a ha' hwa hm d hd).2)
  have hg1 : (s.putJob job1).getJob tj = some job1 := getJob_putJob_self hg (id1.trans hjid)
  have L2 := failed_leads s op L1.2 hg1 hf (by
    intro aj1 haj1 a1 ha1 hw1 _ hmem
    obtain ⟨aj, haj, hall⟩ := hsub aj1 haj1
    obtain ⟨a, ha', _, hdeps, hwa, hnc⟩ := hall a1 ha1 hw1
    exact (hcl aj haj a ha' hwa hnc tk (hdeps ▸ hmem)).1 rfl)
  have hrep : (s.putJob job2).jobs = ((s.putJob job1).putJob job2).jobs :=
    (replaceJob_replaceJob _ _ _ id2.symm).symm
  have hid2 : job2.id = tj := (id2.trans id1).trans hjid
  have hg2 : ∀ l, ({ s.putJob job2 with sent := l } : State).getJob tj = some job2 :=
    fun l => getJob_putJob_self hg hid2
  have L12 : ∀ l, Leads A (ev1.flatMap (recOfEv s op) ++ ev2.flatMap (recOfEv s op))
      { s.putJob job2 with sent := l } := fun l => (Leads.append L1 L2).congr hrep rfl
  rcases h3 with ⟨m, job3, ev3, -, -, rfl, ha3, rfl, rfl⟩ | ⟨-, -, rfl, rfl⟩
  · have L12' := L12 (removeAll s.sent ((tj, tk) :: cons))
    obtain ⟨L3, -⟩ := abort_leads s op L12'.2 (hg2 _) ha3 (closure_all job2.id hid2 L12'.2 (hg2 _))
    simp only [List.flatMap_append]
    exact (Leads.append L12' L3).congr rfl rfl
  · simp only [List.flatMap_append]
    exact L12 _

theorem step_leads {s s' : State} {A : AState} {op : Op} {evs : List Ev} (h : Inv s A)
    (hok : emitOkB s A op = true) (e : step s op = .ok (s', evs)) : Leads A (recordsOf s op evs) s' := by
  unfold recordsOf
  have nil : ∀ {s0 : State}, s0.jobs = s.jobs → s0.jobCtr = s.jobCtr →
      Leads A (List.flatMap (recOfEv s op) []) s0 := fun hj hc => (Leads.nil h).congr hj hc
  cases op with
  | openJob mf =>
    obtain ⟨_, e⟩ := map_eq_ok e
    obtain ⟨rfl, rfl, -⟩ := openJob_eq_ok e
    show Leads A [.jobOpen s.jobCtr mf] _
    refine Leads.one h (by simp [recordOk, h.fresh]) ?_
    exact h.add (job := { id := s.jobCtr, isOpen := true, maxFails := mf }) (aj := ⟨true, mf, [], 0⟩) rfl
      (emptyJob_wf _ _ _) ⟨rfl, rfl, fun a ha => by cases ha⟩ (fun a ha => by cases ha) s.sent _
  | submit j mf d =>
    have hshape : arrayShapeOk d = true := hok
    obtain ⟨⟨_, _⟩, e⟩ := map_eq_ok e
    rcases submit_cases e with ⟨rfl, rfl, -⟩ | ⟨jid, job, job', rfl, hg, hop, hv, hbd, ha, rfl, rfl, -⟩ |
      ⟨job', rfl, hv, ha, rfl, rfl, -⟩
    · exact nil rfl rfl
    · have e1 : List.flatMap (recOfEv s (.submit (some jid) mf d)) [Ev.submit jid false] =
          [.submit jid false mf (descOf (fillIdsOpen job d))] := by
        simp [recOfEv, filledDesc, hg]
      rw [e1]
      exact (submit_open_leads h hg hop hshape hv hbd ha).congr rfl rfl
    · exact submit_new_leads h hshape hv ha _
  | close j =>
    obtain ⟨_, hc⟩ := step_close e
    rcases closeJob_eq hc with ⟨rfl, rfl, -⟩ | ⟨job, hg, hop, rfl, rfl, -⟩
    · exact nil rfl rfl
    · have hjid := getJob_id hg
      have w := getJob_wf h.wf hg
      obtain ⟨aj, haj, hs⟩ := h.live hg (.inl hop)
      have hw' : JobWF { job with isOpen := false } := (JobOp.close hop).wf w
      have hinv : Inv (s.putJob { job with isOpen := false }) (meaningStep A (.jobClose j)) := by
        have e2 : meaningStep A (.jobClose j) = { A with jobs := alSet A.jobs j { aj with isOpen := false } } := by
          simp [meaningStep, haj]
        rw [e2]
        exact h.put hg hjid hw' (by simp [haj]) ⟨rfl, hs.ids, hs.st⟩ (h.dep _ (alGet_mem haj))
      have hsome : (alGet (meaningStep A (.jobClose j)).jobs j).isSome = true := by
        simp [meaningStep, haj, alGet_set_self]
      rw [List.flatMap_append]
      show Leads A ([.jobClose j] ++ _) _
      refine Leads.append (Leads.one h ?_ hinv) (tail_leads s (.close j) hinv (getJob_putJob_self hg hjid) hsome)
      simp [recordOk, haj, hs.isOpen, hop]
  | cancel j =>
    obtain ⟨_, e⟩ := map_eq_ok e
    rcases cancelJob_eq_ok e with ⟨-, rfl, rfl, -⟩ | ⟨_, -, -, rfl, rfl, -⟩ | ⟨job, job', hg, -, hc, rfl, -⟩
    · exact nil rfl rfl
    · exact nil rfl rfl
    · exact (cancel_leads s (.cancel j) h hg hc (closure_all j rfl h hg)).congr rfl rfl
  | forget j allowed =>
    obtain ⟨rfl, _, e⟩ := step_forget e
    rcases forgetJob_eq_ok e with ⟨rfl, -⟩ | ⟨_, -, -, rfl, -⟩
    · exact nil rfl rfl
    · simpa using Leads.nil (h.forget j)
  | started t i ws rv =>
    obtain ⟨tj, tk⟩ := t
    obtain ⟨job, job', hg, hr, rfl, rfl⟩ := taskStarted_eq_ok e
    simp only [emitOkB, Bool.and_eq_true] at hok
    obtain ⟨⟨h1, h2⟩, h3⟩ := hok
    show Leads A [.taskStarted tj tk i ws] _
    refine started_leads h hg hr ?_ h2 h3
    intro x hx
    simp only [notLate, hg, hx] at h1
    simpa using h1
  | finished t =>
    obtain ⟨job, job', hg, hr, rfl⟩ := taskFinished_eq_ok e
    exact (finished_leads s (.finished t) h hg hr).congr rfl rfl
  | failed t cons =>
    obtain ⟨_, e⟩ := map_eq_ok e
    exact taskFailed_leads (.failed t cons) h hok e
  | workerNew w =>
    obtain ⟨rfl, rfl, -⟩ := workerNew_eq_ok e
    show Leads A [.workerConnected w none] _
    refine Leads.one h (by simpa [recordOk, emitOkB] using hok) ?_
    exact h.congr rfl rfl rfl
  | workerLost w running reason =>
    obtain ⟨hs1, rfl⟩ := workerLost_eq_ok e
    show Leads A [.workerLost w (reasonOf reason)] _
    have h1 := setWaitingAll_inv running h hs1
    refine Leads.one h (by simpa [recordOk, emitOkB] using hok) ?_
    exact h1.lose w _ _

theorem run_inv : ∀ (ops : List Op) {s s' : State} {A : AState} {evs : List Ev}, Inv s A →
    emitOkFrom s A ops = true → run s ops = .ok (s', evs) → Inv s' ((journalFrom s ops).foldl meaningStep A)
  | [], s, s', A, evs, h, _, hr => by
    simp only [run] at hr; cases hr; exact h
  | op :: ops, s, s', A, evs, h, hok, hr => by
    obtain ⟨s1, ev1, _, hs, hr2, -⟩ := run_cons_eq_ok hr
    simp only [emitOkFrom, hs, Bool.and_eq_true] at hok
    simp only [journalFrom, hs, List.foldl_append]
    exact run_inv ops (step_leads h hok.1 hs).2 hok.2 hr2

theorem journalFrom_append : ∀ (ops1 ops2 : List Op) {s s1 : State} {evs : List Ev}, run s ops1 = .ok (s1, evs) →
    journalFrom s (ops1 ++ ops2) = journalFrom s ops1 ++ journalFrom s1 ops2
  | [], ops2, s, s1, evs, hr => by simp only [run] at hr; cases hr; rfl
  | op :: ops1, ops2, s, s1, evs, hr => by
    obtain ⟨sa, _, _, hs, hr2, -⟩ := run_cons_eq_ok hr
    simp only [List.cons_append, journalFrom, hs, journalFrom_append ops1 ops2 hr2, List.append_assoc]

theorem emitFails_nil_iff (s : State) (A : AState) (op : Op) : emitFails s A op = [] ↔ EmitOk s A op := by
  unfold EmitOk
  cases op with
  | started t i ws rv =>
    simp only [emitFails, emitOkB, Bool.and_eq_true, List.append_eq_nil_iff]
    constructor
    · rintro ⟨⟨h1, h2⟩, h3⟩
      refine ⟨⟨?_, ?_⟩, ?_⟩
      · by_cases h : notLate s t = true
        · exact h
        · simp [h] at h1
      · by_cases h : instFresh A t i = true
        · exact h
        · simp [h] at h2
      · by_cases h : (ws.all fun w => decide (w ≤ A.maxWorker)) = true
        · exact h
        · simp [h] at h3
    · rintro ⟨⟨h1, h2⟩, h3⟩
      simp [h1, h2, h3]
  | failed t cons =>
    simp only [emitFails, emitOkB]
    by_cases h : consumersClosed A t cons = true <;> simp [h]
  | workerNew w =>
    simp only [emitFails, emitOkB]
    by_cases h : decide (A.maxWorker < w) = true <;> simp [h]
  | workerLost w r reason =>
    simp only [emitFails, emitOkB]
    cases A.workers.contains w <;> simp
  | submit j mf d =>
    simp only [emitFails, emitOkB]
    by_cases h : arrayShapeOk d = true <;> simp [h]
  | openJob _ => simp [emitFails, emitOkB]
  | close _ => simp [emitFails, emitOkB]
  | cancel _ => simp [emitFails, emitOkB]
  | forget _ _ => simp [emitFails, emitOkB]
  | finished _ => simp [emitFails, emitOkB]

end HqModel.Emit
