import HqModel.Lemmas.SysLock
/-!
`step_good`: for every coupled state and every world action satisfying `OpOk` (`SysPair.lean`), `Sys.step` re-establishes
the coupling or stops for a reason other than a panic of the job layer (`StepGood`); `run_stepGood`: the same for every run
whose actions satisfy `RunOk`. Before `step_good`, its cases: the delivery after a core-driven action
(`coreStep_good`, `deliver_removeWorker`, `deliver_update`) and an accepted submit (`submit_coupled`); a cancel is
`Coupled0.killed`, a request that leaves every non-terminal task alone `Coupled0.job_only`.
-/
namespace HqModel.Sys
open HqModel

/-- what a composed step may do: succeed and re-establish `Coupled`, or stop for a reason other than a panic of the
job layer (a panic / `!bad-choice` refusal of the core, or one of the consistency checks `badRets` / `badSubmit` /
`badCancel`) -/
def StepGood : Except Stop (State × Out) → Prop
  | .ok (s', _) => Coupled s'
  | .error (.job _) => False
  | .error _ => True

theorem coreStep_good {js : Job.State} {c : Core.State} {cop : Core.Op} {rets : List (List TaskId)}
    {evs0 : List Job.Ev} {resp : Resp} (hi : Core.InvF c) (hok2 : Core.OpOk2 c cop)
    (hd : ∀ c' out, Core.step c cop = .ok (c', out) → ∃ rets', GoodR c' rets' (route js rets out.cbs)) :
    StepGood (coreStep { job := js, core := c } cop rets evs0 resp) := by
  simp only [coreStep]
  cases hs : Core.step c cop with
  | error e => cases e; trivial
  | ok r =>
    obtain ⟨c', out⟩ := r
    obtain ⟨rets', g⟩ := hd c' out hs
    simp only
    cases hr : route js rets out.cbs with
    | error e =>
      rw [hr] at g
      cases e <;> first | exact g | trivial
    | ok r2 =>
      obtain ⟨j', evs, left⟩ := r2
      rw [hr] at g
      simp only
      split
      · exact ⟨g.2, Core.step_invF hi hok2 hs⟩
      · trivial

theorem deliver_removeWorker {js : Job.State} {c c' : Core.State} {w : Nat} {reason : String} {f : Bool}
    {order : List TaskId} {rets : List (List TaskId)} {out : Core.Out} (h0 : Coupled0 js c)
    (h : c.removeWorker w reason f order rets = .ok (c', out)) : ∃ rets', GoodR c' rets' (route js rets out.cbs) := by
  obtain ⟨s3, s4, running, out0, hw, f3, e3, nd, hh, hc, hcb0, hcl, rfl⟩ := Core.removeWorker_spec h0.nd h
  obtain ⟨cbs, rets', ecb, g⟩ := lock_crash f running _ _ _ _ _ hcl
  refine ⟨rets', ?_⟩
  rw [ecb, hcb0]
  apply GoodR.mono (c1 := s4)
  · exact GoodR.append (pair_workerLost h0 hw f3 e3 nd hh hc) g
  · intro js1 h1; exact h1.core_eq rfl rfl

theorem deliver_update {js : Job.State} {c c' : Core.State} {w : Nat} {us : List Core.Update}
    {rets : List (List TaskId)} {out : Core.Out} (h0 : Coupled0 js c) (hi : Core.InvF c)
    (hok : Core.UpdatesOk UpdOk c w us rets) (h : c.taskUpdate w us rets = .ok (c', out)) :
    ∃ rets', GoodR c' rets' (route js rets out.cbs) := by
  obtain ⟨s1, need, rets1, h1, rfl⟩ := Core.taskUpdate_path h
  obtain ⟨cbs, ecb, g⟩ := lock_update w us _ _ _ _ _ _ _ _ hi hok h1
  refine ⟨rets1, ?_⟩
  rw [ecb]
  change GoodR _ _ (route js rets cbs)
  apply GoodR.mono (g js h0)
  intro js1 hc1
  split
  · exact hc1.core_eq rfl rfl
  · exact hc1

theorem deps_of_ntsOk {desc : Job.TaskDesc} {core : List TaskId} {nts : List Core.NewTask} (h : ntsOk desc core nts = true) :
    nts.map (·.id) = core ∧ ∀ nt ∈ nts, ∀ d ∈ nt.deps, d.1 = nt.id.1 := by
  simp only [ntsOk, Bool.and_eq_true, decide_eq_true_eq, List.all_eq_true] at h
  refine ⟨h.1, ?_⟩
  intro nt hnt d hd
  have := (mem_iff_of_sameSet (h.2 nt hnt).1.1 d).mp hd
  obtain ⟨x, _, rfl⟩ := List.mem_map.mp this
  rfl

theorem submit_coupled {js js' : Job.State} {c c' : Core.State} {core : List TaskId} {nts : List Core.NewTask}
    {o : Core.Out} (h0 : Coupled0 js c) (hwf' : Job.StateWF js') (hw : js'.workers = js.workers)
    (hsent : js'.sent = js.sent ++ core) (hnew : ∀ x ∈ core, tst js x = none)
    (hv : ∀ x, tst js' x = if x ∈ core then some .waiting else tst js x)
    (hids : nts.map (·.id) = core) (hdeps : ∀ nt ∈ nts, ∀ d ∈ nt.deps, d.1 = nt.id.1)
    (h : c.newTasks nts = .ok (c', o)) : o.cbs = [] ∧ Coupled0 js' c' := by
  obtain ⟨hcb, hi, hcj, hwfr, hhot⟩ := Core.newTasks_spec h0.nd hdeps h0.cons h
  refine ⟨hcb, hwf', Core.newTasks_nodup h0.nd h, ?_, ?_, ?_, hcj, ?_⟩
  · intro t
    rw [hi t, hids, hv t, h0.ids t]
    by_cases hm : t ∈ core
    · simp [hm, live, Job.TState.terminal]
    · simp [hm]
  · intro t
    rw [hsent, List.mem_append, hv t, h0.sent t]
    by_cases hm : t ∈ core
    · simp [hm, live, Job.TState.terminal]
    · simp [hm]
  · intro t ht
    have hr := h0.started t (hhot t ht)
    have hm : t ∉ core := fun hm => by rw [hnew t hm] at hr; cases hr
    rw [hv t]; simp only [hm, if_false]; exact hr
  · intro x wk' hx
    obtain ⟨wk, hw0, _⟩ := hwfr x wk' hx
    rw [hw]; exact h0.workers x wk hw0


theorem step_good {s : State} (hc : Coupled s) (op : Op) (hok : OpOk s op) : StepGood (step s op) := by
  obtain ⟨h0, hi⟩ := hc
  cases op with
  | openJob mf =>
    obtain ⟨⟨js', evs, id⟩, hj⟩ := openJob_ok h0.wf mf
    simp only [step, hj]
    obtain ⟨hw, hsent, hv⟩ := openJob_spec h0.wf hj
    refine ⟨h0.job_only (Job.step_wf (op := .openJob mf) (evs := evs) h0.wf (by simp [Job.step, hj, Except.map])) hw
      (fun x => by rw [hsent]) (fun x _ => hv x) (fun x h => by rw [← hv x]; exact h), hi⟩
  | close j =>
    simp only [step]
    obtain ⟨hw, hsent, hv⟩ := closeJob_spec s.job j
    refine ⟨h0.job_only (Job.step_wf (op := .close j) (evs := (s.job.closeJob j).2.1) h0.wf (by simp [Job.step])) hw
      (fun x => by rw [hsent]) (fun x _ => hv x) (fun x h => by rw [← hv x]; exact h), hi⟩
  | forget j allowed =>
    obtain ⟨⟨js', b⟩, hj⟩ := forgetJob_ok h0.wf j allowed
    simp only [step, hj]
    obtain ⟨hw, hsent, hcase⟩ := forgetJob_spec h0.wf hj
    have hwf' := Job.step_wf (op := .forget j allowed) (s' := js') (evs := []) h0.wf (by simp [Job.step, hj, Except.map])
    refine ⟨?_, hi⟩
    rcases hcase with ⟨_, rfl⟩ | ⟨_, hno, hv⟩
    · exact h0
    · refine h0.job_only hwf' hw (fun x => by rw [hsent]) ?_ ?_
      · intro x hl
        have : x.1 ≠ j := fun e => by rw [hno x e] at hl; cases hl
        rw [hv x]; simp [this]
      · intro x hl
        rw [hv x] at hl
        by_cases e : x.1 = j
        · simp [e, live] at hl
        · simpa [e] using hl
  | cancel j ids =>
    obtain ⟨⟨js', evs, resp⟩, hj⟩ := cancelJob_ok h0.wf j
    simp only [step, hj]
    obtain ⟨ts, hk, hresp⟩ := cancelJob_spec h0.wf hj
    have hwf' := Job.step_wf (op := .cancel j) (s' := js') (evs := evs) h0.wf (by simp [Job.step, hj, Except.map])
    rcases hresp with ⟨rfl, rfl⟩ | ⟨n, rfl⟩
    · exact ⟨h0.killed_none hk hwf', hi⟩
    · simp only
      split
      · rename_i hemp
        rw [show ts = [] by simpa using hemp] at hk
        exact ⟨h0.killed_none hk hwf', hi⟩
      · split
        · rename_i hss
          apply coreStep_good hi (opOk2_of_opOk hok rfl)
          intro c' out hstep
          obtain ⟨hcb, hc'⟩ := h0.killed hk rfl hwf' (mem_iff_of_sameSet hss) hstep
          exact ⟨[], by rw [hcb]; exact GoodR.nil hc'⟩
        · trivial
  | submit job mf desc nts =>
    obtain ⟨⟨js', evs, resp, core⟩, hj⟩ := submit_ok h0.wf job mf hok
    simp only [step, hj]
    have hwf' := Job.step_wf (op := .submit job mf desc) (s' := js') (evs := evs) h0.wf (by simp [Job.step, hj, Except.map])
    rcases submit_spec h0.wf hok.1 hj with ⟨hno, rfl, _⟩ | ⟨j, rfl, hw, hsent, hnew, hv⟩
    · have : StepGood (.ok ({ s with job := s.job }, { evs := evs, resp := .submit resp })) := ⟨h0, hi⟩
      cases resp with
      | ok j => exact absurd rfl (hno j)
      | _ => exact this
    · simp only
      split
      · rename_i hnts
        obtain ⟨hids, hdeps⟩ := deps_of_ntsOk hnts
        split
        · -- an empty `TaskSubmit` does not reach the reactor
          rename_i hemp
          have hcore : core = [] := by
            have : nts = [] := by simpa using hemp
            rw [← hids, this]; rfl
          subst hcore
          refine ⟨h0.job_only hwf' hw (fun x => by rw [hsent]; simp) (fun x _ => by rw [hv x]; simp) ?_, hi⟩
          intro x hl
          rw [hv x] at hl
          simpa using hl
        · apply coreStep_good hi (opOk2_of_opOk hok rfl)
          intro c' out hstep
          obtain ⟨hcb, hc'⟩ := submit_coupled h0 hwf' hw hsent (fun x hx => (hnew x hx).2) hv hids hdeps hstep
          exact ⟨[], by rw [hcb]; exact GoodR.nil hc'⟩
      · trivial
  | newWorker w =>
    simp only [step]
    refine coreStep_good (cop := .newWorker w) hi (opOk2_of_opOk hok rfl) ?_
    intro c' out hstep
    exact ⟨[], pair_newWorker h0 hok.1 hok.2 hstep⟩
  | removeWorker w reason f order rets =>
    simp only [step]
    apply coreStep_good hi (opOk2_of_opOk hok rfl)
    intro c' out hstep
    exact deliver_removeWorker h0 hstep
  | newRq rqv =>
    simp only [step]
    apply coreStep_good hi (opOk2_of_opOk hok rfl)
    intro c' out hstep
    simp only [Core.step] at hstep
    cases hstep
    exact ⟨[], GoodR.nil (h0.core_eq rfl rfl)⟩
  | update w us rets =>
    simp only [step]
    refine coreStep_good (cop := .update w us rets) hi (opOk2_of_opOk hok rfl) ?_
    intro c' out hstep
    exact deliver_update h0 hi hok hstep
  | retracted w ids =>
    simp only [step]
    apply coreStep_good hi (opOk2_of_opOk hok rfl)
    intro c' out hstep
    refine ⟨[], ?_⟩
    rw [Core.retractResponse_cbs hstep]
    exact GoodR.nil (h0.core_silent (Core.retractResponse_frc hstep) (Core.retractResponse_stable hstep))
  | schedule sol =>
    simp only [step]
    refine coreStep_good (cop := .schedule sol) hi (opOk2_of_opOk hok rfl) ?_
    intro c' out hstep
    refine ⟨[], ?_⟩
    rw [Core.schedule_cbs hstep]
    exact GoodR.nil (h0.core_sched hi.inv (Core.schedule_frs hstep) (Core.schedule_stable hstep))

theorem run_stepGood : ∀ (ops : List Op) {s : State}, Coupled s → RunOk s ops →
    match run s ops with
    | .ok (s', _) => Coupled s'
    | .error (.job _) => False
    | .error _ => True := by
  intro ops
  induction ops with
  | nil => intro s hc _; exact hc
  | cons op rest ih =>
    intro s hc hok
    have hg := step_good hc op hok.1
    simp only [run]
    cases h1 : step s op with
    | error e => rw [h1] at hg; cases e <;> first | exact hg | trivial
    | ok r =>
      obtain ⟨s1, o1⟩ := r
      rw [h1] at hg
      simp only [RunOk, h1] at hok
      have := ih hg hok.2
      simp only
      cases h2 : run s1 rest with
      | error e => rw [h2] at this; cases e <;> first | exact this | trivial
      | ok r2 => obtain ⟨s2, os⟩ := r2; rw [h2] at this; exact this

theorem run_coupled (ops : List Op) {s s' : State} {outs : List Out} (hc : Coupled s) (hok : RunOk s ops)
    (h : run s ops = .ok (s', outs)) : Coupled s' := by
  have := run_stepGood ops hc hok; rw [h] at this; exact this

end HqModel.Sys
