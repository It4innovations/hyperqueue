import HqModel.Lemmas.JobJournalRec
/-!
# The elementary transitions of one stored job and the records they write

For each elementary transition (`set_running_state`, `set_finished_state`, `set_failed_state`, the `markAll` loop of
cancel / abort, `check_termination`): the records it writes are allowed (`recordOk`) and `Inv` holds again (`Leads`).
-/
namespace HqModel.Emit
open HqModel.Job HqModel.Journal

theorem Inv.task {s : State} {A : AState} (h : Inv s A) {j t : Nat} {job : Job} {x : Job.TState}
    (hg : s.getJob j = some job) (hx : lookup job.tasks t = some x) (hnt : x.terminal = false) :
    ∃ aj a, alGet A.jobs j = some aj ∧ JSim job aj ∧ aj.find t = some a ∧ a.st = .waiting ∧
      (x = .running → a.inst.isSome = true) := by
  obtain ⟨aj, haj, hs⟩ := h.live hg (.inr ⟨t, x, hx, hnt⟩)
  obtain ⟨a, hfa, -, -, hst, hin⟩ := hs.find hx
  exact ⟨aj, a, haj, hs, hfa, by rw [hst]; exact (oc_waiting_iff x).mpr hnt, hin⟩

/-- `recOfEv s0 op` reads `s0` and `op` only on a `jobOpen` or `submit` event; the events of `check_termination` and of
the task setters are translated without them, so both stay arbitrary here and in the lemmas below -/
theorem tail_leads {s : State} {A : AState} {j : Nat} {job : Job} (s0 : State) (op : Op) (h : Inv s A)
    (hg : s.getJob j = some job) (hin : (alGet A.jobs j).isSome = true) :
    Leads A (job.checkTermination.flatMap (recOfEv s0 op)) s := by
  cases getJob_id hg
  unfold Job.checkTermination
  split
  · rename_i hna
    split
    · exact Leads.nil h
    · rename_i hop
      have hop' : job.isOpen = false := by simpa using hop
      have ht := (hasNoActive_iff (getJob_wf h.wf hg)).mp hna
      obtain ⟨aj, haj⟩ := Option.isSome_iff_exists.mp hin
      have hs : JSim job aj := by have := h.sim _ job hg; rwa [haj] at this
      show Leads A [.jobCompleted job.id] s
      refine Leads.one h ?_ (h.del hg hop' ht)
      simp only [recordOk, haj, hs.isOpen, hop', Bool.not_false, Bool.true_and]
      exact hs.all_outcome ht
  · exact Leads.nil h

theorem started_leads {s : State} {A : AState} {j t inst : Nat} {ws : List Nat} {job job' : Job} (h : Inv s A)
    (hg : s.getJob j = some job) (hr : job.setRunning t = .ok job')
    (hnl : ∀ x, lookup job.tasks t = some x → x.terminal = false)
    (hi : instFresh A (j, t) inst = true) (hws : ws.all (fun w => decide (w ≤ A.maxWorker)) = true) :
    Leads A [.taskStarted j t inst ws] (s.putJob job') := by
  have hjid := getJob_id hg
  have hw' : JobWF job' := (getJob_wf h.wf hg).setRunning hr
  obtain ⟨x, hx, hid, hop, hk, hl⟩ : ∃ x, lookup job.tasks t = some x ∧ job'.id = job.id ∧
      job'.isOpen = job.isOpen ∧ keys job'.tasks = keys job.tasks ∧
      ∀ k, lookup job'.tasks k = if k = t then some .running else lookup job.tasks k := by
    rcases setRunning_eq_ok hr with ⟨hl, rfl⟩ | ⟨x, hl, hnw, rfl⟩
    · exact ⟨_, hl, rfl, rfl, keys_setState .., lookup_setState_of hl _⟩
    · have hx : x = .running := by
        have := hnl x hl
        cases x <;> first | rfl | exact absurd rfl hnw | cases this
      refine ⟨x, hl, rfl, rfl, rfl, fun k => ?_⟩
      by_cases hk : k = t
      · rw [if_pos hk, hk, hl, hx]
      · rw [if_neg hk]
  have hnt := hnl x hx
  obtain ⟨aj, a, haj, hs, hfa, hst, -⟩ := h.task hg hx hnt
  refine Leads.one h ?_ ?_
  · simp only [instFresh, haj, hfa] at hi
    simp only [recordOk, taskIs, haj, hfa, hst, Bool.and_eq_true, hws, and_true, beq_self_eq_true, true_and]
    exact hi
  · rw [step_started haj]
    refine h.put hg (hid.trans hjid) hw' (by simp [haj]) ?_
      (JDep.map_same (h.dep _ (alGet_mem haj)) _ (startF_id t inst ws) (startF_deps t inst ws) (startF_st t inst ws))
    refine hs.map _ (startF_id t inst ws) hop hk ?_
    intro a0 _ x0 hx0 hs0 hi0
    rw [hl]
    by_cases hk0 : a0.id = t
    · rw [hk0, hx] at hx0
      cases hx0
      refine ⟨.running, by simp [hk0], ?_, fun _ => by rw [startF_in inst ws hk0]; rfl⟩
      rw [startF_st, hs0]
      cases x <;> simp [Job.TState.terminal] at hnt <;> rfl
    · refine ⟨x0, by simp [hk0, hx0], by rw [startF_st]; exact hs0, ?_⟩
      rw [startF_out inst ws hk0]; exact hi0

theorem outcome_inv {s : State} {A : AState} {j t : Nat} {job : Job} {x : Job.TState} (h : Inv s A)
    (hg : s.getJob j = some job) (hx : lookup job.tasks t = some x) (hnt : x.terminal = false)
    (target : Job.TState) (o : Outcome) (ho : oc target = o) (htt : target.terminal = true) {c : Job.Counters}
    (hw : JobWF { job with tasks := setState job.tasks t target, cnt := c })
    (hc : o = .finished ∨ ∀ aj, alGet A.jobs j = some aj → ∀ a ∈ aj.tasks, a.st = .waiting → a.id ≠ t → t ∉ a.deps) :
    Inv (s.putJob { job with tasks := setState job.tasks t target, cnt := c }) (setOutcome o A (j, t)) ∧
      (alGet (setOutcome o A (j, t)).jobs j).isSome = true := by
  obtain ⟨aj, a, haj, hs, -, -, -⟩ := h.task hg hx hnt
  have hne : target ≠ .running := by intro e; rw [e] at htt; cases htt
  have how : o ≠ .waiting := by
    intro e; rw [← ho, oc_waiting_iff, htt] at e; cases e
  have hl := lookup_setState_of hx target
  rw [step_outcome haj]
  refine ⟨h.put hg (getJob_id hg : job.id = j) hw (by simp [haj]) ?_ ?_, by simp [alGet_set_self]⟩
  · refine hs.mark o [t] target ho hne rfl (keys_setState ..) ?_ ?_
    · intro k hk' _
      rw [hl, if_pos (List.mem_singleton.mp hk')]
    · intro k hk'
      rw [hl, if_neg fun e => hk' (List.mem_singleton.mpr e)]
  · refine (h.dep _ (alGet_mem haj)).mark o [t] how ?_
    rcases hc with hc | hc
    · exact .inl hc
    · right
      intro a ha hwa hm d hd
      simp only [List.mem_singleton] at hm ⊢
      intro e
      exact hc aj haj a ha hwa hm (e ▸ hd)

theorem finished_leads {s : State} {A : AState} {j t : Nat} {job job' : Job} {evs : List Ev} (s0 : State) (op : Op)
    (h : Inv s A) (hg : s.getJob j = some job) (hf : job.setFinished t = .ok (job', evs)) :
    Leads A (evs.flatMap (recOfEv s0 op)) (s.putJob job') := by
  cases getJob_id hg
  have hw' : JobWF job' := (getJob_wf h.wf hg).setFinished hf
  obtain ⟨hx, rfl, rfl⟩ := setFinished_eq_ok hf
  obtain ⟨aj, a, haj, -, hfa, hst, hin⟩ := h.task hg hx rfl
  obtain ⟨hinv, hsome⟩ := outcome_inv h hg hx rfl .finished .finished rfl rfl hw' (.inl rfl)
  rw [List.flatMap_append]
  show Leads A ([.taskFinished job.id t] ++ _) _
  refine Leads.append (Leads.one h ?_ hinv) (tail_leads s0 op hinv (getJob_putJob_self hg rfl) hsome)
  simp [recordOk, taskIs, haj, hfa, hst, hin rfl]

theorem failed_leads {s : State} {A : AState} {j t : Nat} {job job' : Job} {evs : List Ev} (s0 : State) (op : Op)
    (h : Inv s A) (hg : s.getJob j = some job) (hf : job.setFailed t = .ok (job', evs))
    (hc : ∀ aj, alGet A.jobs j = some aj → ∀ a ∈ aj.tasks, a.st = .waiting → a.id ≠ t → t ∉ a.deps) :
    Leads A (evs.flatMap (recOfEv s0 op)) (s.putJob job') := by
  cases getJob_id hg
  have hw' : JobWF job' := (getJob_wf h.wf hg).setFailed hf
  obtain ⟨x, hx', hx, rfl, rfl⟩ := setFailed_eq_ok hf
  have hnt : x.terminal = false := by rcases hx' with rfl | rfl <;> rfl
  obtain ⟨aj, a, haj, -, hfa, hst, -⟩ := h.task hg hx hnt
  obtain ⟨hinv, hsome⟩ := outcome_inv h hg hx hnt .failed .failed rfl rfl hw' (.inr hc)
  rw [List.flatMap_append]
  show Leads A ([.taskFailed job.id t] ++ _) _
  refine Leads.append (Leads.one h ?_ hinv) (tail_leads s0 op hinv (getJob_putJob_self hg rfl) hsome)
  simp [recordOk, taskIs, haj, hfa, hst]

/-- the `markAll` loop of cancel and abort, once for both: the record `r` stays a variable, `hrec` / `hok` hand in what
`meaningStep` / `recordOk` compute for `tasksCanceled ids` resp. `tasksAborted ids` (both `rfl` at the two calls) -/
theorem batch_leads {s : State} {A : AState} {j : Nat} {job job1 job' : Job} {ids : List TaskId} {site : String}
    (target : Job.TState) (o : Outcome) (r : Record) (h : Inv s A) (hg : s.getJob j = some job)
    (hm : job.markAll target site ids = .ok job1) (hne : ids ≠ [])
    (ho : oc target = o) (htt : target.terminal = true)
    (htasks : job'.tasks = job1.tasks) (hop : job'.isOpen = job1.isOpen) (hid : job'.id = job1.id) (hw : JobWF job')
    (hrec : meaningStep A r = ids.foldl (setOutcome o) A)
    (hok : recordOk A r = (ids.all (fun id => taskIs A id fun a => a.st == .waiting) && decide ids.Nodup))
    (hc : ∀ aj, alGet A.jobs j = some aj → ∀ a ∈ aj.tasks, a.st = .waiting → (j, a.id) ∉ ids →
      ∀ d ∈ a.deps, (j, d) ∉ ids) :
    Leads A [r] (s.putJob job') ∧ ∃ aj, alGet A.jobs j = some aj ∧
      meaningStep A r = { A with jobs := alSet A.jobs j (mapTasks aj (markF o (ids.map (·.2)))) } := by
  have hjid := getJob_id hg
  have hne1 : target ≠ .running := by intro e; rw [e] at htt; cases htt
  have how : o ≠ .waiting := by
    intro e; rw [← ho, oc_waiting_iff, htt] at e; cases e
  have mh := markAll_hist target site htt ids job job1 hm
  have hown : ∀ p ∈ ids, p.1 = j := fun p hp => (mh.own p hp).trans hjid
  have hmem : ∀ {k : Nat}, k ∈ ids.map (·.2) ↔ (job.id, k) ∈ ids := by
    intro k
    constructor
    · intro hk
      obtain ⟨p, hp, rfl⟩ := List.mem_map.mp hk
      rw [← mh.own p hp]; exact hp
    · exact fun hk => List.mem_map.mpr ⟨_, hk, rfl⟩
  obtain ⟨p0, hp0⟩ := List.exists_mem_of_ne_nil ids hne
  obtain ⟨x0, hx0, hnt0⟩ := mh.before p0 hp0
  obtain ⟨aj, -, haj, hs, -, -, -⟩ := h.task hg hx0 hnt0
  have hstep : meaningStep A r = { A with jobs := alSet A.jobs j (mapTasks aj (markF o (ids.map (·.2)))) } := by
    rw [hrec, batch_eq o j ids A aj haj hown]
  have hsim : JSim job' (mapTasks aj (markF o (ids.map (·.2)))) := by
    refine hs.mark o _ target ho hne1 (hop.trans mh.isOpen) (by rw [htasks, markAll_keys hm]) ?_ ?_
    · intro k hk _
      rw [htasks]; exact mh.after _ (hmem.mp hk)
    · intro k hk
      rw [htasks]; exact mh.other k fun hk' => hk (hmem.mpr hk')
  have hdep : JDep (mapTasks aj (markF o (ids.map (·.2)))) := by
    refine (h.dep _ (alGet_mem haj)).mark o _ how (.inr ?_)
    intro a ha hwa hm' d hd hd'
    rw [hmem, hjid] at hm' hd'
    exact hc aj haj a ha hwa hm' d hd hd'
  refine ⟨Leads.one h ?_ (hstep ▸ h.put hg ((hid.trans mh.id).trans hjid) hw (by simp [haj]) hsim hdep),
    aj, haj, hstep⟩
  rw [hok]
  simp only [Bool.and_eq_true, List.all_eq_true, decide_eq_true_eq]
  refine ⟨?_, mh.nodup⟩
  intro p hp
  obtain ⟨x, hx, hnt⟩ := mh.before p hp
  obtain ⟨a, hfa, -, -, hst, -⟩ := hs.find hx
  have hp1 := hown p hp
  obtain ⟨pj, pt⟩ := p
  simp only at hp1 hfa
  subst hp1
  have : a.st = .waiting := by rw [hst]; exact (oc_waiting_iff x).mpr hnt
  simp [taskIs, haj, hfa, this]

theorem tail_get {s0 : State} {op : Op} {job : Job} {A : AState} {j : Nat} (hid : job.id = j) {aj' : AJob}
    (h : alGet ((job.checkTermination.flatMap (recOfEv s0 op)).foldl meaningStep A).jobs j = some aj') :
    alGet A.jobs j = some aj' := by
  unfold Job.checkTermination at h
  split at h
  · split at h
    · simpa [recOfEv] using h
    · simp [recOfEv, meaningStep, hid, alGet_del] at h
  · simpa using h

/-- second conjunct: afterwards the tasks without outcome of job `j` are tasks that had none before, outside `ids`, with
the same dependencies — through it the side condition on the pre-state reaches the next phase of
`process_task_failed` -/
theorem abort_leads {s : State} {A : AState} {j : Nat} {job job' : Job} {ids : List TaskId} {evs : List Ev}
    (s0 : State) (op : Op) (h : Inv s A) (hg : s.getJob j = some job) (ha : job.abortTasks ids = .ok (job', evs))
    (hc : ∀ aj, alGet A.jobs j = some aj → ∀ a ∈ aj.tasks, a.st = .waiting → (j, a.id) ∉ ids →
      ∀ d ∈ a.deps, (j, d) ∉ ids) :
    Leads A (evs.flatMap (recOfEv s0 op)) (s.putJob job') ∧
      ∀ aj', alGet ((evs.flatMap (recOfEv s0 op)).foldl meaningStep A).jobs j = some aj' →
        ∃ aj, alGet A.jobs j = some aj ∧ ∀ a' ∈ aj'.tasks, a'.st = .waiting →
          ∃ a ∈ aj.tasks, a.id = a'.id ∧ a.deps = a'.deps ∧ a.st = .waiting ∧ (j, a.id) ∉ ids := by
  have hjid := getJob_id hg
  have hw' : JobWF job' := (getJob_wf h.wf hg).abortTasks ha
  have hid' := abortTasks_id ha
  rcases abortTasks_eq_ok ha with ⟨rfl, rfl, rfl⟩ | ⟨hne, job1, hm, rfl, rfl⟩
  · refine ⟨by simpa using Leads.nil (h.putSame hg hjid (getJob_wf h.wf hg) (h.sim j _ hg)), ?_⟩
    intro aj' haj'
    exact ⟨aj', haj', fun a' ha' hw => ⟨a', ha', rfl, rfl, hw, List.not_mem_nil⟩⟩
  · obtain ⟨hl, aj, haj, hstep⟩ := batch_leads (job' := { job1 with cnt := { job1.cnt with aborted := job1.cnt.aborted + ids.length } })
      .aborted .aborted (.tasksAborted ids) h hg hm hne rfl rfl rfl rfl rfl hw' rfl rfl hc
    have hsome : (alGet (meaningStep A (.tasksAborted ids)).jobs j).isSome = true := by
      rw [hstep]; simp [alGet_set_self]
    rw [List.flatMap_append]
    have e : List.flatMap (recOfEv s0 op) [Ev.aborted ids] = [.tasksAborted ids] := by simp [recOfEv]
    rw [e]
    refine ⟨Leads.append hl (tail_leads s0 op hl.2 (getJob_putJob_self hg (hid'.trans hjid)) hsome), ?_⟩
    intro aj' haj'
    rw [List.foldl_append] at haj'
    have h1 := tail_get (hid'.trans hjid) haj'
    simp only [List.foldl_cons, List.foldl_nil] at h1
    rw [hstep] at h1
    simp only [alGet_set_self, Option.some.injEq] at h1
    subst h1
    refine ⟨aj, haj, ?_⟩
    intro a' ha' hw
    simp only [mapTasks_tasks, List.mem_map] at ha'
    obtain ⟨a, ha, rfl⟩ := ha'
    have hm' : a.id ∉ ids.map (·.2) := by
      intro hm'; rw [markF_in _ _ a hm'] at hw; cases hw
    rw [markF_out _ _ a hm'] at hw ⊢
    refine ⟨a, ha, rfl, rfl, hw, ?_⟩
    intro hm''
    exact hm' (List.mem_map.mpr ⟨_, hm'', rfl⟩)

theorem cancel_leads {s : State} {A : AState} {j : Nat} {job job' : Job} {ids : List TaskId} {evs : List Ev}
    (s0 : State) (op : Op) (h : Inv s A) (hg : s.getJob j = some job) (ha : job.setCancel ids = .ok (job', evs))
    (hc : ∀ aj, alGet A.jobs j = some aj → ∀ a ∈ aj.tasks, a.st = .waiting → (j, a.id) ∉ ids →
      ∀ d ∈ a.deps, (j, d) ∉ ids) :
    Leads A (evs.flatMap (recOfEv s0 op)) (s.putJob job') := by
  cases getJob_id hg
  have hw' : JobWF job' := (getJob_wf h.wf hg).setCancel ha
  have hid' := setCancel_id ha
  rcases setCancel_eq_ok ha with ⟨-, rfl, rfl⟩ | ⟨hne, job1, hm, rfl, rfl⟩
  · exact Leads.nil (h.putSame hg rfl (getJob_wf h.wf hg) (h.sim _ _ hg))
  · obtain ⟨hl, aj, haj, hstep⟩ := batch_leads (job' := { job1 with cnt := { job1.cnt with canceled := job1.cnt.canceled + ids.length } })
      .canceled .canceled (.tasksCanceled ids) h hg hm hne rfl rfl rfl rfl rfl hw' rfl rfl hc
    have hsome : (alGet (meaningStep A (.tasksCanceled ids)).jobs job.id).isSome = true := by
      rw [hstep]; simp [alGet_set_self]
    show Leads A ([.jobCancel job.id] ++ ([.tasksCanceled ids] ++ _)) _
    -- the job has an entry: `JobCancel` is allowed and changes nothing
    have hc1 : Leads A [.jobCancel job.id] s := Leads.one h (by simp [recordOk, haj]) h
    exact Leads.append hc1 (Leads.append hl (tail_leads s0 op hl.2 (getJob_putJob_self hg hid') hsome))

end HqModel.Emit
