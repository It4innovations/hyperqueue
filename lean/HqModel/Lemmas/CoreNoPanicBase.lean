import HqModel.Lemmas.CoreNoPanicDefs
/-!
What the whole progress family shares: forward ("it succeeds") lemmas for the worker-record operations, of which the
`*_spec` lemmas are the backward direction; `FRel f` (two task lists agree on a projection `f` of the records), with
`NPC.key` the projection the queue correspondence reads; introduction and elimination forms of the predicates the
clauses of `NpQ` and `NpIdx` are stated with; `Tot r Q`, total correctness of a computation of the model.
-/
namespace HqModel.Core

theorem NoCorePanic.of_error {α β : Type} {r : M α} {e : Stop} (h : NoCorePanic r) (he : r = .error e) :
    NoCorePanic (Except.error e : M β) := by
  subst he
  intro site hs
  cases hs
  exact h site rfl

theorem NoCorePanic.bind {α β : Type} {r : M α} {f : α → M β} (h1 : NoCorePanic r)
    (h2 : ∀ x, r = .ok x → NoCorePanic (f x)) :
    NoCorePanic (match r with | .error e => .error e | .ok x => f x) := by
  cases r with
  | error e =>
    intro site hs
    simp only at hs
    cases hs
    exact h1 site rfl
  | ok x => exact h2 x rfl

theorem noCorePanic_iff {α : Type} (r : M α) :
    NoCorePanic r ↔ (∃ x, r = .ok x) ∨ ∃ site, r = .error (.panic site) ∧ site.startsWith "!" = true := by
  constructor
  · intro h
    cases r with
    | ok x => exact Or.inl ⟨x, rfl⟩
    | error e => cases e with | panic site => exact Or.inr ⟨site, rfl, h site rfl⟩
  · rintro (⟨x, rfl⟩ | ⟨site, rfl, h⟩)
    · exact NoCorePanic.ok x
    · exact NoCorePanic.bang h

namespace NP

theorem fitsNow_idx {free total : List Nat} {es : List RqEntry} (h : fitsNow free total es = true) :
    ∀ e ∈ es, e.res < free.length := by
  intro e he
  simp only [fitsNow, List.all_eq_true, Bool.and_eq_true, decide_eq_true_eq] at h
  exact (h e he).1

theorem removeSn_ok {wk : Worker} {A F P} {t : TaskId} {r : Rq} (ha : wk.assign = .sn A F P) (ht : t ∈ A)
    (hidx : ∀ e ∈ r.entries, e.res < F.length) :
    ∃ F', wk.removeSn t r = .ok { wk with assign := .sn (A.erase t) F' P } ∧ F'.length = F.length := by
  obtain ⟨F', h1, h2⟩ := freeAdd_ok wk.total r.entries F hidx
  refine ⟨F', ?_, h2⟩
  simp [Worker.removeSn, ha, ht, h1]

theorem insertSn_ok {wk : Worker} {A F P} {t : TaskId} {r : Rq} (ha : wk.assign = .sn A F P) (ht : t ∉ A)
    (hidx : ∀ e ∈ r.entries, e.res < F.length) :
    ∃ F', wk.insertSn t r = .ok { wk with assign := .sn (A ++ [t]) F' P } ∧ F'.length = F.length := by
  obtain ⟨F', h1, h2⟩ := freeRemove_ok r.entries F hidx
  refine ⟨F', ?_, h2⟩
  simp [Worker.insertSn, ha, h1, ht]

theorem removePrefill_ok {wk : Worker} {A F P} {t : TaskId} (ha : wk.assign = .sn A F P) (ht : t ∈ P) :
    wk.removePrefill t = .ok { wk with assign := .sn A F (P.erase t) } := by
  simp [Worker.removePrefill, ha, ht]

theorem insertPrefill_ok {wk : Worker} {A F P} {t : TaskId} (ha : wk.assign = .sn A F P) (ht : t ∉ P) :
    wk.insertPrefill t = .ok { wk with assign := .sn A F (P ++ [t]) } := by
  simp [Worker.insertPrefill, ha, ht]

theorem prefilledToStarted_ok {wk : Worker} {A F P} {t : TaskId} {r : Rq} (ha : wk.assign = .sn A F P)
    (hp : t ∈ P) (hna : t ∉ A) (hidx : ∀ e ∈ r.entries, e.res < F.length) :
    ∃ F', wk.prefilledToStarted t r = .ok { wk with assign := .sn (A ++ [t]) F' (P.erase t) } ∧
      F'.length = F.length := by
  obtain ⟨F', h1, h2⟩ := freeRemove_ok r.entries F hidx
  refine ⟨F', ?_, h2⟩
  simp [Worker.prefilledToStarted, ha, h1, hp, hna]

theorem setMn_ok {wk : Worker} {t : TaskId} {root : Bool} (hf : wk.isFree = true) :
    wk.setMn t root = .ok { wk with assign := .mn t root false } := by
  simp [Worker.setMn, hf]

theorem mem_putWorker {ws : List Worker} {w x : Worker} (h : x ∈ putWorker ws w) : x = w ∨ x ∈ ws := by
  induction ws with
  | nil => simp [putWorker] at h
  | cons y ys ih =>
    simp only [putWorker] at h
    split at h
    · rcases List.mem_cons.mp h with e | e
      · exact .inl e
      · rcases ih e with e' | e'
        · exact .inl e'
        · exact .inr (List.mem_cons_of_mem _ e')
    · rcases List.mem_cons.mp h with e | e
      · exact .inr (e ▸ List.mem_cons_self)
      · rcases ih e with e' | e'
        · exact .inl e'
        · exact .inr (List.mem_cons_of_mem _ e')

theorem rq_congr {s s' : State} (h : s'.rqs = s.rqs) (rq v : Nat) : s'.rq rq v = s.rq rq v := by
  simp only [State.rq, h]

theorem isMultiNode_congr {s s' : State} (h : s'.rqs = s.rqs) (rq : Nat) : s'.isMultiNode rq = s.isMultiNode rq := by
  simp only [State.isMultiNode, h]

/-- every lookup in `ts'` agrees on `f` with the same lookup in `ts`, and every record of `ts'` has a record of `ts`
with the same id and the same `f` -/
structure FRel {α : Type} (f : Task → α) (ts ts' : List Task) : Prop where
  find : ∀ x, (findTask ts' x).map f = (findTask ts x).map f
  mem : ∀ t' ∈ ts', ∃ t ∈ ts, t.id = t'.id ∧ f t = f t'

theorem FRel.refl {α : Type} (f : Task → α) (ts : List Task) : FRel f ts ts :=
  ⟨fun _ => rfl, fun t h => ⟨t, h, rfl, rfl⟩⟩

theorem FRel.trans {α : Type} {f : Task → α} {a b c : List Task} (h1 : FRel f a b) (h2 : FRel f b c) : FRel f a c := by
  refine ⟨fun x => (h2.find x).trans (h1.find x), fun z hz => ?_⟩
  obtain ⟨y, hy, e2, k2⟩ := h2.mem z hz
  obtain ⟨x, hx, e1, k1⟩ := h1.mem y hy
  exact ⟨x, hx, e1.trans e2, k1.trans k2⟩

theorem FRel.find_some {α : Type} {f : Task → α} {ts ts' : List Task} (h : FRel f ts ts') {x : TaskId} {t' : Task}
    (hf : findTask ts' x = some t') : ∃ t, findTask ts x = some t ∧ f t = f t' :=
  Option.map_eq_some_iff.mp ((h.find x).symm.trans (congrArg (Option.map f) hf))

theorem FRel.find_some' {α : Type} {f : Task → α} {ts ts' : List Task} (h : FRel f ts ts') {x : TaskId} {t : Task}
    (hf : findTask ts x = some t) : ∃ t', findTask ts' x = some t' ∧ f t' = f t :=
  Option.map_eq_some_iff.mp ((h.find x).trans (congrArg (Option.map f) hf))

theorem FRel.find_isSome {α : Type} {f : Task → α} {ts ts' : List Task} (h : FRel f ts ts') (x : TaskId) :
    (findTask ts' x).isSome = (findTask ts x).isSome := by
  simpa using congrArg Option.isSome (h.find x)

theorem FRel.put {α : Type} {f : Task → α} {ts : List Task} {t' : Task}
    (hf : ∀ told, findTask ts t'.id = some told → f t' = f told) : FRel f ts (putTask ts t') := by
  refine ⟨fun x => ?_, fun x hx => ?_⟩
  · rw [findTask_putTask]
    split
    · rename_i e
      subst e
      cases ht : findTask ts t'.id with
      | none => rfl
      | some told => simp only [Option.map_some]; rw [hf told ht]
    · rfl
  · rcases mem_putTask hx with e | e
    · subst e
      cases ht : findTask ts x.id with
      | some told => exact ⟨told, findTask_some_mem ht, findTask_some_id ht, (hf told ht).symm⟩
      | none =>
        have h1 := not_mem_of_findTask_none ht
        rw [← taskIds_putTask ts x] at h1
        exact absurd (List.mem_map_of_mem (f := (·.id)) hx) h1
    · exact ⟨x, e, rfl, rfl⟩

/-- `registerDeps` keeps whatever of a record `Task.addConsumer` keeps -/
theorem FRel.registerDeps {α : Type} {f : Task → α} (id : TaskId) (hf : ∀ t, f (t.addConsumer id) = f t)
    (deps : List TaskId) (ts : List Task) : FRel f ts (registerDeps ts id deps).1 := by
  have hr : ∀ t, f (regOf deps id t) = f t := fun t => by unfold regOf; split; exact hf t; rfl
  refine ⟨fun x => ?_, fun t' ht' => ?_⟩
  · rw [find_registerDeps]
    cases findTask ts x <;> simp only [Option.map_none, Option.map_some, hr]
  · obtain ⟨t, ht, rfl⟩ := mem_registerDeps id deps ts t' ht'
    exact ⟨t, ht, (regOf_eq deps id t).1.symm, (hr t).symm⟩

theorem not_mem_eraseTask_id {ts : List Task} (hn : (taskIds ts).Nodup) {id : TaskId} {t : Task}
    (ht : t ∈ eraseTask ts id) : t.id ≠ id := by
  intro e
  have hn' : (taskIds (eraseTask ts id)).Nodup := List.Sublist.nodup (taskIds_eraseTask_sublist ts id) hn
  have := mem_find_of_nodup hn' ht
  rw [findTask_eraseTask hn, if_pos e] at this
  cases this

end NP

open NP

namespace NPC

/-- the data of a task record the queue correspondence reads -/
def key (t : Task) : TS × Nat × Int := (t.state, t.rq, t.prio)

theorem key_eq {a b : Task} (h : key a = key b) : a.state = b.state ∧ a.rq = b.rq ∧ a.prio = b.prio := by
  simp only [key, Prod.mk.injEq] at h; exact h

theorem krel_consumers {ts : List Task} {d : TaskId} {dt : Task} (hd : findTask ts d = some dt)
    (cs : List TaskId) : FRel key ts (putTask ts { dt with consumers := cs }) :=
  FRel.put fun told h => by
    rw [show findTask ts dt.id = some dt by rw [findTask_some_id hd]; exact hd] at h
    cases h; rfl

theorem removeConsumer_krel {ts ts' : List Task} {d c : TaskId} (h : removeConsumer ts d c = .ok ts') :
    FRel key ts ts' := by
  rcases removeConsumer_cases h with ⟨_, rfl⟩ | ⟨dt, hd, _, rfl⟩
  · exact FRel.refl _ _
  · exact krel_consumers hd _

theorem removeConsumers_krel : ∀ (deps : List TaskId) {ts ts' : List Task} {c : TaskId},
    removeConsumers ts c deps = .ok ts' → FRel key ts ts'
  | [], _, _, _, h => by cases h; exact FRel.refl _ _
  | _ :: rest, _, _, _, h => by
    obtain ⟨ts1, h1, h2⟩ := removeConsumers_cons_ok h
    exact (removeConsumer_krel h1).trans (removeConsumers_krel rest h2)

theorem registerDeps_krel (deps : List TaskId) (ts : List Task) (id : TaskId) :
    FRel key ts (registerDeps ts id deps).1 := .registerDeps (f := key) id (fun _ => rfl) deps ts

theorem mem_of_krel {ts ts' : List Task} (h : FRel key ts ts') :
    ∀ t' ∈ ts', ∃ t ∈ ts, t'.id = t.id ∧ t'.rq = t.rq ∧ t'.state = t.state := fun t' ht' => by
  obtain ⟨t, ht, e, k⟩ := h.mem t' ht'
  exact ⟨t, ht, e.symm, (key_eq k).2.1.symm, (key_eq k).1.symm⟩

/-- redirects exist only for Retracting tasks (`LS3.d1`, `TW3.d0`), by lookup; `NPA.RdRet` (`CoreNoPanicFrame`) is the
same for the members of the task list and follows under unique ids (`RdRet.of_stOf`) -/
def RdRetr (s : State) : Prop := ∀ t w v, (t, w, v) ∈ s.redirects → ∃ w0, stOf s.tasks t = some (.retracting w0)

theorem _root_.HqModel.Core.Inv.rdRetr {s : State} (h : Inv s) : RdRetr s := h.ls.d1

end NPC

theorem NpQ.rg' {D R} {s : State} (h : NpQ D R s) {i : Nat} {q : Queue} (hq : s.queues[i]? = some q)
    {e : Int × List TaskId} (he : e ∈ q.ready) {id : TaskId} (hid : id ∈ e.2) : ReadyGood R s i e.1 id :=
  h.rg (q, i) (List.mem_zipIdx_iff_getElem?.mpr hq) e he id hid

theorem NpQ.pg' {D R} {s : State} (h : NpQ D R s) {i : Nat} {q : Queue} (hq : s.queues[i]? = some q)
    {pp : Int} {ts : List TaskId} (hp : q.prefill = some (pp, ts)) {id : TaskId} (hid : id ∈ ts) : PfGood R s i pp id :=
  h.pg (q, i) (List.mem_zipIdx_iff_getElem?.mpr hq) pp ts hp id hid

theorem NpQ.mono {D D' : TaskId → Prop} {R} {s : State} (h : NpQ D R s) (hd : ∀ x, D x → D' x) : NpQ D' R s :=
  ⟨h.wf, h.rg, h.pnd, h.pg, fun t ht hp hr hn => h.pin t ht hp hr (fun e => hn (hd _ e)), h.rnd, h.rpre⟩

theorem ReadyGood.elim {R} {s : State} {i : Nat} {p : Int} {id : TaskId} (h : ReadyGood R s i p id) :
    ∃ t, s.task? id = some t ∧ t.rq = i ∧ t.prio = p ∧
      (t.state = .waiting 0 ∨ ((∃ w, t.state = .retracting w) ∧ ∀ x ∈ s.redirects, x.1 ≠ id) ∨
       ((∃ w, t.state = .prefilled w) ∧ id ∈ R)) := by
  unfold ReadyGood at h
  split at h
  · exact h.elim
  · rename_i t ht
    refine ⟨t, ht, h.1, h.2.1, ?_⟩
    have h3 := h.2.2
    split at h3
    · rename_i n hs; subst h3; exact .inl hs
    · rename_i w hs; exact .inr (.inl ⟨⟨w, hs⟩, h3⟩)
    · rename_i w hs; exact .inr (.inr ⟨⟨w, hs⟩, h3⟩)
    · exact h3.elim

theorem ReadyGood.intro {R} {s : State} {i : Nat} {p : Int} {id : TaskId} {t : Task} (ht : s.task? id = some t)
    (hrq : t.rq = i) (hp : t.prio = p)
    (hs : t.state = .waiting 0 ∨ ((∃ w, t.state = .retracting w) ∧ ∀ x ∈ s.redirects, x.1 ≠ id) ∨
       ((∃ w, t.state = .prefilled w) ∧ id ∈ R)) : ReadyGood R s i p id := by
  unfold ReadyGood
  rw [ht]
  refine ⟨hrq, hp, ?_⟩
  rcases hs with hs | ⟨⟨w, hs⟩, h2⟩ | ⟨⟨w, hs⟩, h2⟩ <;> rw [hs] <;> simp only
  · exact h2
  · exact h2

theorem PfGood.elim {R} {s : State} {i : Nat} {pp : Int} {id : TaskId} (h : PfGood R s i pp id) :
    ∃ t w, s.task? id = some t ∧ t.rq = i ∧ t.prio = pp ∧ id ∉ R ∧ t.state = .prefilled w := by
  unfold PfGood at h
  split at h
  · exact h.elim
  · rename_i t ht
    have h3 := h.2.2.2
    split at h3
    · rename_i w hs; exact ⟨t, w, ht, h.1, h.2.1, h.2.2.1, hs⟩
    · exact h3.elim

theorem PfGood.intro {R} {s : State} {i : Nat} {pp : Int} {id : TaskId} {t : Task} {w : Nat} (ht : s.task? id = some t)
    (hrq : t.rq = i) (hp : t.prio = pp) (hr : id ∉ R) (hs : t.state = .prefilled w) : PfGood R s i pp id := by
  unfold PfGood
  rw [ht]
  refine ⟨hrq, hp, hr, ?_⟩
  rw [hs]; trivial

theorem IsPrefilled.elim {s : State} {id : TaskId} (h : IsPrefilled s id) :
    ∃ t w, s.task? id = some t ∧ t.state = .prefilled w := by
  unfold IsPrefilled at h
  split at h
  · rename_i t ht
    split at h
    · rename_i w hs; exact ⟨t, w, ht, hs⟩
    · exact h.elim
  · exact h.elim

theorem IsPrefilled.intro {s : State} {id : TaskId} {t : Task} {w : Nat} (ht : s.task? id = some t)
    (hs : t.state = .prefilled w) : IsPrefilled s id := by
  unfold IsPrefilled; rw [ht]; simp only; rw [hs]; trivial

theorem InPrefill.elim {s : State} {t : Task} (h : InPrefill s t) :
    ∃ q pp ts, s.queues[t.rq]? = some q ∧ q.prefill = some (pp, ts) ∧ t.id ∈ ts := by
  unfold InPrefill at h
  split at h
  · rename_i q hq
    unfold pfIds at h
    split at h
    · rename_i pp ts hp; exact ⟨q, pp, ts, hq, hp, h⟩
    · cases h
  · exact h.elim

theorem InPrefill.intro {s : State} {t : Task} {q : Queue} {pp : Int} {ts : List TaskId}
    (hq : s.queues[t.rq]? = some q) (hp : q.prefill = some (pp, ts)) (hm : t.id ∈ ts) : InPrefill s t := by
  unfold InPrefill; rw [hq]; simp only [pfIds, hp]; exact hm

theorem IdxOk.elim {s : State} {w rq v : Nat} (h : IdxOk s w rq v) :
    ∃ r, s.rq rq v = .ok r ∧ ∀ wk, s.worker? w = some wk → ∀ e ∈ r.entries, e.res < wk.total.length := by
  unfold IdxOk at h
  split at h
  · rename_i r hr; exact ⟨r, hr, h⟩
  · exact h.elim

theorem IdxOk.intro {s : State} {w rq v : Nat} {r : Rq} (hr : s.rq rq v = .ok r)
    (h : ∀ wk, s.worker? w = some wk → ∀ e ∈ r.entries, e.res < wk.total.length) : IdxOk s w rq v := by
  unfold IdxOk; rw [hr]; exact h

theorem RunIdx.elim {s : State} {w rq rv : Nat} (h : RunIdx s w rq rv) :
    ∃ r wk, s.rq rq rv = .ok r ∧ s.worker? w = some wk ∧ ∀ e ∈ r.entries, e.res < wk.total.length := by
  unfold RunIdx at h
  split at h
  · rename_i r wk hr hw; exact ⟨r, wk, hr, hw, h⟩
  · exact h.elim

def Tot {α : Type} (r : M α) (Q : α → Prop) : Prop := NoCorePanic r ∧ ∀ x, r = .ok x → Q x

namespace Tot

variable {α β : Type} {Q Q' : α → Prop}

theorem ok {x : α} (h : Q x) : Tot (.ok x : M α) Q := ⟨.ok x, fun _ e => by cases e; exact h⟩

theorem mono {r : M α} (h : Tot r Q) (hq : ∀ x, r = .ok x → Q x → Q' x) : Tot r Q' :=
  ⟨h.1, fun x e => hq x e (h.2 x e)⟩

theorem bind {r : M α} {f : α → M β} {Q' : β → Prop} (h1 : Tot r Q) (h2 : ∀ x, Q x → Tot (f x) Q') :
    Tot (r.bind f) Q' := by
  cases r with
  | error e => exact ⟨fun site hs => h1.1 site (by cases hs; rfl), nofun⟩
  | ok x => exact h2 x (h1.2 x rfl)

/-- a loop `loop s (a :: l) = one s a >>= (loop · l)` with an invariant `I` (of the state and the remaining list)
that one iteration re-establishes. For the loops of a scheduling round, which may stop at a `!` site: there both that
the stop is no panic and the postcondition are needed. -/
theorem fold {σ : Type} {loop : σ → List α → M σ} {one : σ → α → M σ} {I : σ → List α → Prop}
    (hnil : ∀ s, loop s [] = .ok s) (hcons : ∀ s a l, loop s (a :: l) = (one s a).bind (loop · l))
    (hstep : ∀ s a l, I s (a :: l) → Tot (one s a) (I · l)) : ∀ l s, I s l → Tot (loop s l) (I · [])
  | [], s, h => hnil s ▸ ok h
  | a :: l, s, h => hcons s a l ▸ (hstep s a l h).bind fun s1 h1 => fold hnil hcons hstep l s1 h1

end Tot

end HqModel.Core
