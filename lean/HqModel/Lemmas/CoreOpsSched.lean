import HqModel.Lemmas.CoreOps
/-!
What each function of the scheduling round (`Core/Sched.lean`) does on a successful run: the outcomes of one placement
(`Placed`), for each loop its head followed by the loop on the rest (`…_cons_ok`), for the loops over the state with an
induction principle (`…_ind`; the three loops that build the messages have none), the phases of `take_tasks`, the stages
of `schedule`. The proofs that a function does not stop use the equations `NP.…_cons`, `proactive_succ`, `takeTasks_…_eq`.
-/
namespace HqModel.Core

/-! ### one placement -/

/-- what the validation in `placeSn` establishes -/
def State.placeFits (s : State) (r : Rq) (w : Nat) : Prop :=
  ∀ wk A F P, s.worker? w = some wk → wk.assign = .sn A F P → fitsNow F wk.total r.entries = true

/-- The four ways a placement succeeds, each with the primitive steps taken after the task `id` was entered at
worker `w` (`s1`): a Waiting task becomes Assigned; a Retracting task without a redirect gets one; a Retracting
task with a redirect is taken back from the old target and redirected anew; a task Prefilled at `old` leaves that
worker's prefill set, becomes Retracting and is redirected (a retract message for `old` is recorded). -/
inductive Placed (s : State) (m : List WUpdate) (v : Nat) (r : Rq) (id : TaskId) (w : Nat) : State → List WUpdate → Prop
  | waiting (s1 : State) (task : Task) (n : Nat) (hw : s.withWorker w (·.insertSn id r) = .ok s1)
      (ht : s1.getTask id = .ok task) (hs : task.state = .waiting n) :
      Placed s m v r id w (s1.setTask { task with state := .assigned w v })
        (updAt m w fun u => { u with assigned := u.assigned ++ [(id, v)] })
  | redirect (s1 : State) (task : Task) (old : Nat) (hw : s.withWorker w (·.insertSn id r) = .ok s1)
      (ht : s1.getTask id = .ok task) (hs : task.state = .retracting old)
      (hf : s1.redirects.find? (·.1 = id) = none) :
      Placed s m v r id w { s1 with redirects := (s1.redirects.filter (·.1 ≠ id)) ++ [(id, w, v)] } m
  | reredirect (s1 : State) (task : Task) (old oldTarget ov : Nat) (r' : Rq) (s3 : State)
      (hw : s.withWorker w (·.insertSn id r) = .ok s1)
      (ht : s1.getTask id = .ok task) (hs : task.state = .retracting old)
      (hf : s1.redirects.find? (·.1 = id) = some (id, oldTarget, ov))
      (hr : ({ s1 with redirects := (s1.redirects.filter (·.1 ≠ id)) ++ [(id, w, v)] } : State).rq task.rq ov = .ok r')
      (hw3 : ({ s1 with redirects := (s1.redirects.filter (·.1 ≠ id)) ++ [(id, w, v)] } : State).withWorker oldTarget
        (·.removeSn id r') = .ok s3) :
      Placed s m v r id w (s3.setTask { task with state := .retracting old }) m
  | prefilled (s1 : State) (task : Task) (old : Nat) (s2 : State) (hw : s.withWorker w (·.insertSn id r) = .ok s1)
      (ht : s1.getTask id = .ok task) (hs : task.state = .prefilled old)
      (hw2 : s1.withWorker old (·.removePrefill id) = .ok s2) (hn : s2.redirects.any (·.1 = id) = false) :
      Placed s m v r id w
        (({ s2 with redirects := s2.redirects ++ [(id, w, v)] } : State).setTask { task with state := .retracting old })
        (updAt m old fun u => { u with retracts := u.retracts ++ [id] })

theorem placeSn_cases {s s' : State} {m m' : List WUpdate} {v : Nat} {r : Rq} {id : TaskId} {w : Nat}
    (h : s.placeSn m v r id w = .ok (s', m')) : s.placeFits r w ∧ Placed s m v r id w s' m' := by
  unfold State.placeSn at h
  obtain ⟨hc, h⟩ := ok_of_guard h
  refine ⟨fun wk A F P hw ha => ?_, ?_⟩
  · rw [hw] at hc
    dsimp only at hc
    rw [ha] at hc
    simpa using hc
  split at h
  · cases h
  · rename_i s1 hw
    split at h
    · cases h
    · rename_i task ht
      split at h
      · rename_i n hs
        cases h
        exact .waiting s1 task n hw ht hs
      · rename_i old hs
        dsimp only at h
        split at h
        · rename_i x oldTarget ov hf
          have hx : x = id := by simpa using List.find?_some hf
          subst hx
          split at h
          · cases h
          · rename_i r' hr
            split at h
            · cases h
            · rename_i s3 hw3
              cases h
              exact .reredirect s1 task old oldTarget ov r' s3 hw ht hs hf hr hw3
        · rename_i hf
          cases h
          exact .redirect s1 task old hw ht hs hf
      · rename_i old hs
        split at h
        · cases h
        · rename_i s2 hw2
          split at h
          · cases h
          · rename_i hn
            cases h
            exact .prefilled s1 task old s2 hw ht hs hw2 (Bool.eq_false_iff.mpr hn)
      · cases h

/-! ### `take_tasks` -/

theorem takeFromFirst_nil (count : Nat) : takeFromFirst [] count = ([], []) := rfl

theorem takeFromFirst_cons (p : Int) (ids : List TaskId) (rest : List (Int × List TaskId)) (count : Nat) :
    takeFromFirst ((p, ids) :: rest) count =
      (if (ids.drop count).isEmpty then rest else (p, ids.drop count) :: rest, ids.take count) := rfl

theorem takeFromQueue_zero (fuel : Nat) (ready : List (Int × List TaskId)) (acc : List TaskId) :
    takeFromQueue fuel ready 0 acc = .ok (ready, acc) := by
  cases fuel <;> rfl

theorem takeFromQueue_succ (fuel : Nat) {ready : List (Int × List TaskId)} (hne : ready ≠ []) (count : Nat)
    (acc : List TaskId) :
    takeFromQueue (fuel + 1) ready (count + 1) acc =
      takeFromQueue fuel (takeFromFirst ready (count + 1)).1 (count + 1 - (takeFromFirst ready (count + 1)).2.length)
        (acc ++ (takeFromFirst ready (count + 1)).2) := by
  cases ready with
  | nil => exact absurd rfl hne
  | cons e rest => rfl

theorem takeFromQueue_succ_ok {fuel : Nat} {ready : List (Int × List TaskId)} {count : Nat} {acc : List TaskId}
    {x : List (Int × List TaskId) × List TaskId} (h : takeFromQueue fuel ready (count + 1) acc = .ok x) :
    ∃ f, fuel = f + 1 ∧ ready ≠ [] ∧
      takeFromQueue f (takeFromFirst ready (count + 1)).1 (count + 1 - (takeFromFirst ready (count + 1)).2.length)
        (acc ++ (takeFromFirst ready (count + 1)).2) = .ok x := by
  cases fuel with
  | zero => cases h
  | succ f =>
    cases ready with
    | nil => cases h
    | cons e rest => exact ⟨f, rfl, List.cons_ne_nil _ _, h⟩

theorem takeTasks_none_eq {q : Queue} (hp : q.prefill = none) (count : Nat) (taken : List TaskId) :
    q.takeTasks count taken =
      match takeFromQueue (count + q.ready.length + 1) q.ready count [] with
      | .error e => .error e
      | .ok (ready', res) =>
        if res ≠ taken then .error (.panic "!bad-choice take_tasks") else .ok { q with ready := ready' } := by
  unfold Queue.takeTasks
  rw [hp]
  rfl

/-- With a prefill set `take_tasks` runs in three phases: `res1` from the first entry of the ready list (only when
that entry has the prefill's priority), then `picks`, the observed choice from the prefill set, then `res3` from
the ready list again. -/
theorem takeTasks_some_eq {q : Queue} {pp : Int} {pset : List TaskId} (hp : q.prefill = some (pp, pset)) (count : Nat)
    (taken : List TaskId) :
    ∃ ready1 res1,
      ((ready1 = (takeFromFirst q.ready count).1 ∧ res1 = (takeFromFirst q.ready count).2) ∨
        (ready1 = q.ready ∧ res1 = [])) ∧
      q.takeTasks count taken =
        let k := min (count - res1.length) pset.length
        let picks := (taken.drop res1.length).take k
        if !(picks.all pset.contains) || picks.eraseDups.length ≠ picks.length || picks.length ≠ k then
          .error (.panic "!bad-choice take_tasks.prefill")
        else
          match takeFromQueue (count + q.ready.length + 1) ready1 (count - res1.length - k) [] with
          | .error e => .error e
          | .ok (ready', res3) =>
            if res1 ++ picks ++ res3 ≠ taken then .error (.panic "!bad-choice take_tasks") else
            .ok { ready := ready',
                  prefill := if (pset.filter fun x => !picks.contains x).isEmpty then none
                    else some (pp, pset.filter fun x => !picks.contains x) } := by
  generalize hx : q.takeTasks count taken = x
  unfold Queue.takeTasks at hx
  rw [hp] at hx
  split at hx
  · rename_i h0
    cases h0
  · rename_i pp' pset' h0
    cases h0
    extract_lets fuel samePrio at hx
    split at hx
    rename_i ready1 res1 h1
    refine ⟨ready1, res1, ?_, hx.symm⟩
    split at h1
    · exact .inl ⟨by rw [h1], by rw [h1]⟩
    · cases h1
      exact .inr ⟨rfl, rfl⟩

theorem takeTasks_cases {q q' : Queue} {count : Nat} {taken : List TaskId} (h : q.takeTasks count taken = .ok q') :
    (q.prefill = none ∧ ∃ ready', takeFromQueue (count + q.ready.length + 1) q.ready count [] = .ok (ready', taken) ∧
      q' = { q with ready := ready' }) ∨
    ∃ pp pset ready1 res1 k picks ready' res3, q.prefill = some (pp, pset) ∧
      ((ready1 = (takeFromFirst q.ready count).1 ∧ res1 = (takeFromFirst q.ready count).2) ∨
        (ready1 = q.ready ∧ res1 = [])) ∧
      k = min (count - res1.length) pset.length ∧ picks = (taken.drop res1.length).take k ∧
      (∀ id ∈ picks, id ∈ pset) ∧ picks.eraseDups.length = picks.length ∧ picks.length = k ∧
      takeFromQueue (count + q.ready.length + 1) ready1 (count - res1.length - k) [] = .ok (ready', res3) ∧
      res1 ++ picks ++ res3 = taken ∧
      q' = { ready := ready',
             prefill := if (pset.filter fun x => !picks.contains x).isEmpty then none
               else some (pp, pset.filter fun x => !picks.contains x) } := by
  cases hp : q.prefill with
  | none =>
    rw [takeTasks_none_eq hp] at h
    cases hq : takeFromQueue (count + q.ready.length + 1) q.ready count [] with
    | error e => rw [hq] at h; cases h
    | ok y =>
      rw [hq] at h
      obtain ⟨hres, h⟩ := ok_of_guard_ne h
      cases h
      cases hres
      exact .inl ⟨rfl, y.1, rfl, by rw [hp]⟩
  | some y =>
    obtain ⟨pp, pset⟩ := y
    obtain ⟨ready1, res1, h1, e⟩ := takeTasks_some_eq hp count taken
    rw [e] at h
    dsimp only at h
    obtain ⟨hchk, h⟩ := ok_of_guard h
    simp only [Bool.or_eq_true, Bool.not_eq_true', decide_eq_true_eq, not_or, Bool.not_eq_false, ne_eq,
      Decidable.not_not, List.all_eq_true, List.contains_iff_mem] at hchk
    cases hq : takeFromQueue (count + q.ready.length + 1) ready1
        (count - res1.length - min (count - res1.length) pset.length) [] with
    | error e => rw [hq] at h; cases h
    | ok y =>
      rw [hq] at h
      obtain ⟨hres, h⟩ := ok_of_guard_ne h
      cases h
      exact .inr ⟨pp, pset, ready1, res1, _, _, y.1, y.2, rfl, h1, rfl, rfl, hchk.1.1, hchk.1.2, hchk.2, hq, hres, rfl⟩

/-! ### the placements of one entry -/

namespace NP

theorem placeAll_cons (s : State) (m : List WUpdate) (v : Nat) (r : Rq) (id : TaskId) (w : Nat) (rest : List (TaskId × Nat)) :
    s.placeAll m v r ((id, w) :: rest) =
      match s.placeSn m v r id w with
      | .error e => .error e
      | .ok (s1, m1) => s1.placeAll m1 v r rest := rfl

end NP

theorem placeAll_cons_ok {s : State} {m : List WUpdate} {v : Nat} {r : Rq} {id : TaskId} {w : Nat}
    {rest : List (TaskId × Nat)} {x : State × List WUpdate} (h : s.placeAll m v r ((id, w) :: rest) = .ok x) :
    ∃ s1 m1, s.placeSn m v r id w = .ok (s1, m1) ∧ s1.placeAll m1 v r rest = .ok x := by
  rw [NP.placeAll_cons] at h
  cases h1 : s.placeSn m v r id w with
  | error e => rw [h1] at h; cases h
  | ok y => rw [h1] at h; exact ⟨y.1, y.2, rfl, h⟩

/-- `P` may speak of the placements still to be made -/
theorem placeAll_ind {P : List (TaskId × Nat) → State → List WUpdate → Prop} {v : Nat} {r : Rq}
    (step : ∀ id w rest s m s1 m1, P ((id, w) :: rest) s m → s.placeSn m v r id w = .ok (s1, m1) → P rest s1 m1) :
    ∀ {l : List (TaskId × Nat)} {s : State} {m : List WUpdate} {s' : State} {m' : List WUpdate}, P l s m →
      s.placeAll m v r l = .ok (s', m') → P [] s' m'
  | [], _, _, _, _, h0, h => by cases h; exact h0
  | (id, w) :: rest, s, m, _, _, h0, h => by
    obtain ⟨s1, m1, h1, h'⟩ := placeAll_cons_ok h
    exact placeAll_ind step (step id w rest s m s1 m1 h0 h1) h'

/-! ### the single-node entries -/

theorem mapSn_cons_ok {s : State} {now : Nat} {m : List WUpdate} {e : SnEntry} {rest : List SnEntry}
    {x : State × List WUpdate} (h : s.mapSn now m (e :: rest) = .ok x) :
    ∃ r q q' s2 m2, s.rq e.rq e.v = .ok r ∧
      (e.counts.all fun (p : Nat × Nat) => p.2 == 0 || s.placementAllowed now e.rq e.v r p.1) = true ∧
      s.queues[e.rq]? = some q ∧ q.takeTasks (e.counts.map (·.2)).sum e.taken = .ok q' ∧
      ({ s with queues := s.queues.set e.rq q' } : State).placeAll m e.v r
        (deal (e.taken.length + 1) e.counts e.taken []) = .ok (s2, m2) ∧
      s2.mapSn now m2 rest = .ok x := by
  rw [State.mapSn] at h
  cases hr : s.rq e.rq e.v with
  | error err => rw [hr] at h; cases h
  | ok r =>
    rw [hr] at h
    obtain ⟨hc, h⟩ := ok_of_guard_not h
    cases hq : s.queues[e.rq]? with
    | none => rw [hq] at h; cases h
    | some q =>
      rw [hq] at h
      dsimp only at h
      cases hk : q.takeTasks (e.counts.map (·.2)).sum e.taken with
      | error err => rw [hk] at h; cases h
      | ok q' =>
        rw [hk] at h
        dsimp only at h
        cases hp : ({ s with queues := s.queues.set e.rq q' } : State).placeAll m e.v r
            (deal (e.taken.length + 1) e.counts e.taken []) with
        | error err => rw [hp] at h; cases h
        | ok y =>
          rw [hp] at h
          exact ⟨r, q, q', y.1, y.2, rfl, hc, rfl, hk, hp, h⟩

theorem mapSn1_ok {s s' : State} {now : Nat} {m m' : List WUpdate} {e : SnEntry}
    (h : s.mapSn now m [e] = .ok (s', m')) :
    ∃ r q q', s.rq e.rq e.v = .ok r ∧
      (e.counts.all fun (p : Nat × Nat) => p.2 == 0 || s.placementAllowed now e.rq e.v r p.1) = true ∧
      s.queues[e.rq]? = some q ∧ q.takeTasks (e.counts.map (·.2)).sum e.taken = .ok q' ∧
      ({ s with queues := s.queues.set e.rq q' } : State).placeAll m e.v r
        (deal (e.taken.length + 1) e.counts e.taken []) = .ok (s', m') := by
  obtain ⟨r, q, q', s2, m2, hr, hc, hq, hk, hp, h'⟩ := mapSn_cons_ok h
  cases h'
  exact ⟨r, q, q', hr, hc, hq, hk, hp⟩

namespace NP

theorem mapSn_cons (s : State) (now : Nat) (m : List WUpdate) (e : SnEntry) (rest : List SnEntry) :
    s.mapSn now m (e :: rest) =
      match s.mapSn now m [e] with
      | .error err => .error err
      | .ok (s1, m1) => s1.mapSn now m1 rest := by
  rw [State.mapSn, State.mapSn]
  cases s.rq e.rq e.v with
  | error err => rfl
  | ok r =>
    dsimp only
    split
    · rfl
    · cases s.queues[e.rq]? with
      | none => rfl
      | some q =>
        dsimp only
        cases q.takeTasks (e.counts.map (·.2)).sum e.taken with
        | error err => rfl
        | ok q' =>
          dsimp only
          cases ({ s with queues := s.queues.set e.rq q' } : State).placeAll m e.v r
              (deal (e.taken.length + 1) e.counts e.taken []) with
          | error err => rfl
          | ok y => rfl

end NP

/-- the step is the loop on one entry, which `mapSn1_ok` opens -/
theorem mapSn_ind {P : List SnEntry → State → List WUpdate → Prop} {now : Nat}
    (step : ∀ e rest s m s1 m1, P (e :: rest) s m → s.mapSn now m [e] = .ok (s1, m1) → P rest s1 m1) :
    ∀ {es : List SnEntry} {s : State} {m : List WUpdate} {s' : State} {m' : List WUpdate}, P es s m →
      s.mapSn now m es = .ok (s', m') → P [] s' m'
  | [], _, _, _, _, h0, h => by cases h; exact h0
  | e :: rest, s, m, _, _, h0, h => by
    rw [NP.mapSn_cons] at h
    cases h1 : s.mapSn now m [e] with
    | error err => rw [h1] at h; cases h
    | ok y => rw [h1] at h; exact mapSn_ind step (step e rest s m y.1 y.2 h0 h1) h

/-! ### the multi-node entries -/

theorem setMnAll_cons_ok {s s' : State} {id : TaskId} {w : Nat} {rest : List Nat} {first : Bool}
    (h : setMnAll s id (w :: rest) first = .ok s') :
    ∃ s1, s.withWorker w (·.setMn id first) = .ok s1 ∧ setMnAll s1 id rest false = .ok s' := by
  rw [setMnAll] at h
  cases h1 : s.withWorker w (·.setMn id first) with
  | error e => rw [h1] at h; cases h
  | ok s1 => rw [h1] at h; exact ⟨s1, rfl, h⟩

theorem setMnAll_ind {P : State → Prop} {id : TaskId}
    (step : ∀ s w first s1, P s → s.withWorker w (·.setMn id first) = .ok s1 → P s1) :
    ∀ {ws : List Nat} {s : State} {first : Bool} {s' : State}, P s → setMnAll s id ws first = .ok s' → P s'
  | [], _, _, _, h0, h => by cases h; exact h0
  | w :: rest, s, first, _, h0, h => by
    obtain ⟨s1, h1, h'⟩ := setMnAll_cons_ok h
    exact setMnAll_ind step (step s w first s1 h0 h1) h'

theorem mapMnSets_cons_ok {s : State} {rq : Nat} {ws : List Nat} {rest : List (List Nat)} {acc : List TaskId}
    {x : State × List TaskId} (h : s.mapMnSets rq (ws :: rest) acc = .ok x) :
    ∃ q p id ids' more s2 task, s.queues[rq]? = some q ∧ q.ready = (p, id :: ids') :: more ∧
      setMnAll { s with queues := s.queues.set rq { q with ready := if ids'.isEmpty then more else (p, ids') :: more } }
        id ws true = .ok s2 ∧
      s2.getTask id = .ok task ∧ task.state = .waiting 0 ∧
      (s2.setTask { task with state := .runningMN ws }).mapMnSets rq rest (acc ++ [id]) = .ok x := by
  rw [State.mapMnSets] at h
  cases hq : s.queues[rq]? with
  | none => rw [hq] at h; cases h
  | some q =>
    rw [hq] at h
    dsimp only at h
    cases hr : q.ready with
    | nil => rw [hr] at h; cases h
    | cons e more =>
      obtain ⟨p, ids⟩ := e
      rw [hr] at h
      cases ids with
      | nil => cases h
      | cons id ids' =>
        dsimp only at h
        cases h2 : setMnAll { s with queues := s.queues.set rq ({ q with
            ready := if ids'.isEmpty then more else (p, ids') :: more }) } id ws true with
        | error e => rw [h2] at h; cases h
        | ok s2 =>
          rw [h2] at h
          dsimp only at h
          cases ht : s2.getTask id with
          | error e => rw [ht] at h; cases h
          | ok task =>
            rw [ht] at h
            obtain ⟨hs, h⟩ := ok_of_guard_ne h
            exact ⟨q, p, id, ids', more, s2, task, rfl, hr, h2, ht, hs, h⟩

theorem mapMnSets1_ok {s s' : State} {rq : Nat} {ws : List Nat} {acc acc' : List TaskId}
    (h : s.mapMnSets rq [ws] acc = .ok (s', acc')) :
    ∃ q p id ids' more s2 task, s.queues[rq]? = some q ∧ q.ready = (p, id :: ids') :: more ∧
      setMnAll { s with queues := s.queues.set rq { q with ready := if ids'.isEmpty then more else (p, ids') :: more } }
        id ws true = .ok s2 ∧
      s2.getTask id = .ok task ∧ task.state = .waiting 0 ∧
      s' = s2.setTask { task with state := .runningMN ws } ∧ acc' = acc ++ [id] := by
  obtain ⟨q, p, id, ids', more, s2, task, hq, hr, h2, ht, hs, h'⟩ := mapMnSets_cons_ok h
  cases h'
  exact ⟨q, p, id, ids', more, s2, task, hq, hr, h2, ht, hs, rfl, rfl⟩

theorem mapMn_cons_ok {s : State} {e : MnEntry} {rest : List MnEntry} {acc : List TaskId} {x : State × List TaskId}
    (h : s.mapMn (e :: rest) acc = .ok x) :
    ∃ s1 acc1, s.mapMnSets e.rq e.sets acc = .ok (s1, acc1) ∧ s1.mapMn rest acc1 = .ok x := by
  rw [State.mapMn] at h
  cases h1 : s.mapMnSets e.rq e.sets acc with
  | error err => rw [h1] at h; cases h
  | ok y => rw [h1] at h; exact ⟨y.1, y.2, rfl, h⟩

namespace NP

theorem mapMnSets_cons (s : State) (rq : Nat) (ws : List Nat) (rest : List (List Nat)) (acc : List TaskId) :
    s.mapMnSets rq (ws :: rest) acc =
      match s.mapMnSets rq [ws] acc with
      | .error err => .error err
      | .ok (s1, acc1) => s1.mapMnSets rq rest acc1 := by
  rw [State.mapMnSets, State.mapMnSets]
  cases s.queues[rq]? with
  | none => rfl
  | some q =>
    dsimp only
    cases q.ready with
    | nil => rfl
    | cons e more =>
      obtain ⟨p, ids⟩ := e
      cases ids with
      | nil => rfl
      | cons id ids' =>
        dsimp only
        cases setMnAll { s with queues := s.queues.set rq ({ q with
            ready := if ids'.isEmpty then more else (p, ids') :: more }) } id ws true with
        | error e => rfl
        | ok s2 =>
          dsimp only
          cases s2.getTask id with
          | error e => rfl
          | ok task =>
            dsimp only
            split <;> rfl

theorem mapMn_cons (s : State) (e : MnEntry) (rest : List MnEntry) (acc : List TaskId) :
    s.mapMn (e :: rest) acc =
      match s.mapMnSets e.rq e.sets acc with
      | .error err => .error err
      | .ok (s1, acc1) => s1.mapMn rest acc1 := rfl

end NP

/-- the step is the loop on one set, which `mapMnSets1_ok` opens -/
theorem mapMnSets_ind {P : List (List Nat) → State → List TaskId → Prop} {rq : Nat}
    (step : ∀ ws rest s acc s1 acc1, P (ws :: rest) s acc → s.mapMnSets rq [ws] acc = .ok (s1, acc1) → P rest s1 acc1) :
    ∀ {sets : List (List Nat)} {s : State} {acc : List TaskId} {s' : State} {acc' : List TaskId}, P sets s acc →
      s.mapMnSets rq sets acc = .ok (s', acc') → P [] s' acc'
  | [], _, _, _, _, h0, h => by cases h; exact h0
  | ws :: rest, s, acc, _, _, h0, h => by
    rw [NP.mapMnSets_cons] at h
    cases h1 : s.mapMnSets rq [ws] acc with
    | error err => rw [h1] at h; cases h
    | ok y => rw [h1] at h; exact mapMnSets_ind step (step ws rest s acc y.1 y.2 h0 h1) h

theorem mapMn_ind {P : List MnEntry → State → List TaskId → Prop}
    (step : ∀ e rest s acc s1 acc1, P (e :: rest) s acc → s.mapMnSets e.rq e.sets acc = .ok (s1, acc1) → P rest s1 acc1) :
    ∀ {es : List MnEntry} {s : State} {acc : List TaskId} {s' : State} {acc' : List TaskId}, P es s acc →
      s.mapMn es acc = .ok (s', acc') → P [] s' acc'
  | [], _, _, _, _, h0, h => by cases h; exact h0
  | e :: rest, s, acc, _, _, h0, h => by
    obtain ⟨s1, acc1, h1, h'⟩ := mapMn_cons_ok h
    exact mapMn_ind step (step e rest s acc s1 acc1 h0 h1) h'

/-! ### proactive filling -/

theorem prefillBack_cons_ok {rq : Nat} {s : State} {id : TaskId} {rest keep : List TaskId} {x : State × List TaskId}
    (h : State.prefillWorker.back rq s (id :: rest) keep = .ok x) :
    ∃ t, s.getTask id = .ok t ∧
      ((∃ w s2, t.state = .retracting w ∧ s.movePrefilledToReady rq id = .ok s2 ∧
          State.prefillWorker.back rq s2 rest keep = .ok x) ∨
       ((∀ w, t.state ≠ .retracting w) ∧ State.prefillWorker.back rq s rest (keep ++ [id]) = .ok x)) := by
  rw [State.prefillWorker.back] at h
  cases ht : s.getTask id with
  | error e => rw [ht] at h; cases h
  | ok t =>
    rw [ht] at h
    refine ⟨t, rfl, ?_⟩
    dsimp only at h
    split at h
    · rename_i w hs
      cases h2 : s.movePrefilledToReady rq id with
      | error e => rw [h2] at h; cases h
      | ok s2 => rw [h2] at h; exact .inl ⟨w, s2, hs, rfl, h⟩
    · rename_i hs
      exact .inr ⟨hs, h⟩

/-- `P` speaks of the ids still to be visited, the state and the ids kept so far -/
theorem prefillBack_ind {P : List TaskId → State → List TaskId → Prop} {rq : Nat}
    (move : ∀ id rest s keep t w s2, P (id :: rest) s keep → s.getTask id = .ok t → t.state = .retracting w →
      s.movePrefilledToReady rq id = .ok s2 → P rest s2 keep)
    (skip : ∀ id rest s keep t, P (id :: rest) s keep → s.getTask id = .ok t → (∀ w, t.state ≠ .retracting w) →
      P rest s (keep ++ [id])) :
    ∀ {l : List TaskId} {s : State} {keep : List TaskId} {s' : State} {keep' : List TaskId}, P l s keep →
      State.prefillWorker.back rq s l keep = .ok (s', keep') → P [] s' keep'
  | [], _, _, _, _, h0, h => by cases h; exact h0
  | id :: rest, s, keep, _, _, h0, h => by
    obtain ⟨t, ht, ⟨w, s2, hs, h2, h'⟩ | ⟨hs, h'⟩⟩ := prefillBack_cons_ok h
    · exact prefillBack_ind move skip (move id rest s keep t w s2 h0 ht hs h2) h'
    · exact prefillBack_ind move skip (skip id rest s keep t h0 ht hs) h'

theorem prefillMark_cons_ok {w : Nat} {s s' : State} {id : TaskId} {rest : List TaskId}
    (h : State.prefillWorker.mark w s (id :: rest) = .ok s') :
    ∃ t n s2, s.getTask id = .ok t ∧ t.state = .waiting n ∧
      (s.setTask { t with state := .prefilled w }).withWorker w (·.insertPrefill id) = .ok s2 ∧
      State.prefillWorker.mark w s2 rest = .ok s' := by
  rw [State.prefillWorker.mark] at h
  cases ht : s.getTask id with
  | error e => rw [ht] at h; cases h
  | ok t =>
    rw [ht] at h
    dsimp only at h
    split at h
    · rename_i n hs
      cases h2 : (s.setTask { t with state := .prefilled w }).withWorker w (·.insertPrefill id) with
      | error e => rw [h2] at h; cases h
      | ok s2 => rw [h2] at h; exact ⟨t, n, s2, rfl, hs, h2, h⟩
    · cases h

theorem prefillMark_ind {P : List TaskId → State → Prop} {w : Nat}
    (step : ∀ id rest s t n s2, P (id :: rest) s → s.getTask id = .ok t → t.state = .waiting n →
      (s.setTask { t with state := .prefilled w }).withWorker w (·.insertPrefill id) = .ok s2 → P rest s2) :
    ∀ {l : List TaskId} {s s' : State}, P l s → State.prefillWorker.mark w s l = .ok s' → P [] s'
  | [], _, _, h0, h => by cases h; exact h0
  | id :: rest, s, _, h0, h => by
    obtain ⟨t, n, s2, ht, hs, h2, h'⟩ := prefillMark_cons_ok h
    exact prefillMark_ind step (step id rest s t n s2 h0 ht hs h2) h'

/-- `take_tasks_for_prefill` for one worker: up to `size` ids leave the first entry of queue `rq` for its prefill
set (of the same priority), those found Retracting go back to the ready list, the others (`keep`) are marked
Prefilled at `w` and recorded for its compute message. -/
theorem prefillWorker_path {s s' : State} {m m' : List WUpdate} {rq size w : Nat}
    (h : s.prefillWorker m rq size w = .ok (s', m')) :
    ∃ q p ids more pf s2 keep, s.queues[rq]? = some q ∧ q.ready = (p, ids) :: more ∧
      ((q.prefill = none ∧ pf = (p, (takeFromFirst q.ready size).2)) ∨
       ∃ ts, q.prefill = some (p, ts) ∧ pf = (p, ts ++ (takeFromFirst q.ready size).2)) ∧
      State.prefillWorker.back rq
        { s with queues := s.queues.set rq { ready := (takeFromFirst q.ready size).1, prefill := some pf } }
        (takeFromFirst q.ready size).2 [] = .ok (s2, keep) ∧
      State.prefillWorker.mark w s2 keep = .ok s' ∧
      m' = updAt m w fun u => { u with prefills := u.prefills ++ keep } := by
  unfold State.prefillWorker at h
  cases hq : s.queues[rq]? with
  | none => rw [hq] at h; cases h
  | some q =>
    rw [hq] at h
    dsimp only at h
    cases hr : q.ready with
    | nil => rw [hr] at h; cases h
    | cons e more =>
      obtain ⟨p, ids⟩ := e
      rw [hr] at h
      simp only at h
      rw [← hr] at h
      split at h
      · cases h
      · rename_i pf hpf
        have hpf' : (q.prefill = none ∧ pf = (p, (takeFromFirst q.ready size).2)) ∨
            ∃ ts, q.prefill = some (p, ts) ∧ pf = (p, ts ++ (takeFromFirst q.ready size).2) := by
          cases hp : q.prefill with
          | none => rw [hp] at hpf; cases hpf; exact .inl ⟨rfl, rfl⟩
          | some y =>
            obtain ⟨pp, ts⟩ := y
            rw [hp] at hpf
            dsimp only at hpf
            obtain ⟨hpp, hpf⟩ := ok_of_guard_ne hpf
            cases hpf
            cases hpp
            exact .inr ⟨ts, rfl, rfl⟩
        split at h
        · cases h
        · rename_i s2 keep hb
          split at h
          · cases h
          · rename_i s3 hm
            cases h
            exact ⟨q, p, ids, more, pf, s2, keep, rfl, hr, hpf', hb, hm, rfl⟩

namespace NP

theorem prefillWorkers_cons (s : State) (m : List WUpdate) (rq size w : Nat) (rest : List Nat) :
    s.prefillWorkers m rq size (w :: rest) =
      match s.prefillWorker m rq size w with
      | .error e => .error e
      | .ok (s1, m1) => s1.prefillWorkers m1 rq size rest := rfl

end NP

theorem prefillWorkers_cons_ok {s : State} {m : List WUpdate} {rq size w : Nat} {rest : List Nat}
    {x : State × List WUpdate} (h : s.prefillWorkers m rq size (w :: rest) = .ok x) :
    ∃ s1 m1, s.prefillWorker m rq size w = .ok (s1, m1) ∧ s1.prefillWorkers m1 rq size rest = .ok x := by
  rw [NP.prefillWorkers_cons] at h
  cases h1 : s.prefillWorker m rq size w with
  | error e => rw [h1] at h; cases h
  | ok y => rw [h1] at h; exact ⟨y.1, y.2, rfl, h⟩

theorem prefillWorkers_ind {P : List Nat → State → List WUpdate → Prop} {rq size : Nat}
    (step : ∀ w rest s m s1 m1, P (w :: rest) s m → s.prefillWorker m rq size w = .ok (s1, m1) → P rest s1 m1) :
    ∀ {ws : List Nat} {s : State} {m : List WUpdate} {s' : State} {m' : List WUpdate}, P ws s m →
      s.prefillWorkers m rq size ws = .ok (s', m') → P [] s' m'
  | [], _, _, _, _, h0, h => by cases h; exact h0
  | w :: rest, s, m, _, _, h0, h => by
    obtain ⟨s1, m1, h1, h'⟩ := prefillWorkers_cons_ok h
    exact prefillWorkers_ind step (step w rest s m s1 m1 h0 h1) h'

/-- What `process_proactive_filling` has checked when it fills workers from queue `rq`: the top entry of the queue
has the round's top priority, more than the reserve is left in it, there are candidate workers, each of them gets
`pfs > 0` tasks; `ord` is the visiting order recorded for `rq` (that it rearranges the candidates is checked by the loop:
`proactive_succ`). -/
structure ProactiveFill (s : State) (m : List WUpdate) (orders : List (Nat × List Nat)) (top : Int) (rq : Nat)
    (q : Queue) (pfs : Nat) (ord : List Nat) : Prop where
  queue : s.queues[rq]? = some q
  top : ∃ ids rest, q.ready = (top, ids) :: rest
  size : q.topSizeNoPrefill - s.prefillReserve ≠ 0
  cands : s.prefillCandidates m rq ≠ []
  pfs_eq : pfs = min ((q.topSizeNoPrefill - s.prefillReserve) / (s.prefillCandidates m rq).length) s.prefillMax
  pfs_pos : pfs ≠ 0
  ord_eq : ord = match orders.find? (·.1 == rq) with | some o => o.2 | none => []

/-- One iteration of the loop over the queues: the loop ends at a missing queue, skips the queue, or (`ProactiveFill`)
checks the recorded order and runs `prefillWorkers`; then it goes on with the next queue. -/
theorem proactive_succ (s : State) (m : List WUpdate) (orders : List (Nat × List Nat)) (top : Int) (n rq : Nat) :
    (s.queues[rq]? = none ∧ s.proactive m orders top (n + 1) rq = .ok (s, m)) ∨
    s.proactive m orders top (n + 1) rq = s.proactive m orders top n (rq + 1) ∨
    ∃ q pfs ord, ProactiveFill s m orders top rq q pfs ord ∧
      s.proactive m orders top (n + 1) rq =
        if !(ord.all (s.prefillCandidates m rq).contains && (s.prefillCandidates m rq).all ord.contains &&
            ord.length = (s.prefillCandidates m rq).length) then
          .error (.panic "!bad-choice prefill-order")
        else
          match s.prefillWorkers m rq pfs ord with
          | .error e => .error e
          | .ok (s1, m1) => s1.proactive m1 orders top n (rq + 1) := by
  generalize hx : s.proactive m orders top (n + 1) rq = x
  rw [State.proactive] at hx
  cases hq : s.queues[rq]? with
  | none =>
    rw [hq] at hx
    exact .inl ⟨rfl, hx.symm⟩
  | some q =>
    rw [hq] at hx
    dsimp only at hx
    right
    cases hr : q.ready with
    | nil =>
      rw [hr, if_pos rfl] at hx
      exact .inl hx.symm
    | cons e rest =>
      rw [hr] at hx
      dsimp only at hx
      by_cases htop : decide (e.1 ≠ top) = true
      · rw [if_pos htop] at hx
        exact .inl hx.symm
      rw [if_neg htop] at hx
      by_cases hsize : q.topSizeNoPrefill - s.prefillReserve = 0
      · rw [if_pos hsize] at hx
        exact .inl hx.symm
      rw [if_neg hsize] at hx
      by_cases hc : (s.prefillCandidates m rq).isEmpty = true
      · rw [if_pos hc] at hx
        exact .inl hx.symm
      rw [if_neg hc] at hx
      by_cases hpfs : min ((q.topSizeNoPrefill - s.prefillReserve) / (s.prefillCandidates m rq).length) s.prefillMax = 0
      · rw [if_pos hpfs] at hx
        exact .inl hx.symm
      rw [if_neg hpfs] at hx
      refine .inr ⟨q, _, _, ⟨hq, ⟨e.2, rest, ?_⟩, hsize, ?_, rfl, hpfs, rfl⟩, hx.symm⟩
      · rw [hr, ← show e.1 = top by simpa using htop]
      · intro e
        rw [e] at hc
        exact hc rfl

theorem proactive_succ_ok {s : State} {m : List WUpdate} {orders : List (Nat × List Nat)} {top : Int} {n rq : Nat}
    {x : State × List WUpdate} (h : s.proactive m orders top (n + 1) rq = .ok x) :
    (s.queues[rq]? = none ∧ x = (s, m)) ∨ s.proactive m orders top n (rq + 1) = .ok x ∨
    ∃ q pfs ord s1 m1, ProactiveFill s m orders top rq q pfs ord ∧
      (∀ w ∈ ord, w ∈ s.prefillCandidates m rq) ∧ (∀ w ∈ s.prefillCandidates m rq, w ∈ ord) ∧
      ord.length = (s.prefillCandidates m rq).length ∧
      s.prefillWorkers m rq pfs ord = .ok (s1, m1) ∧ s1.proactive m1 orders top n (rq + 1) = .ok x := by
  rcases proactive_succ s m orders top n rq with ⟨hq, e⟩ | e | ⟨q, pfs, ord, hf, e⟩
  · rw [e] at h
    cases h
    exact .inl ⟨hq, rfl⟩
  · exact .inr (.inl (e ▸ h))
  · rw [e] at h
    obtain ⟨hord, h⟩ := ok_of_guard_not h
    simp only [Bool.and_eq_true, decide_eq_true_eq, List.all_eq_true, List.contains_iff_mem] at hord
    split at h
    · cases h
    · rename_i s1 m1 h1
      exact .inr (.inr ⟨q, pfs, ord, s1, m1, hf, hord.1.1, hord.1.2, hord.2, h1, h⟩)

theorem proactive_ind {P : State → List WUpdate → Prop} {orders : List (Nat × List Nat)} {top : Int}
    (step : ∀ s m rq q pfs ord s1 m1, P s m → ProactiveFill s m orders top rq q pfs ord →
      (∀ w ∈ ord, w ∈ s.prefillCandidates m rq) → s.prefillWorkers m rq pfs ord = .ok (s1, m1) → P s1 m1) :
    ∀ {n : Nat} {s : State} {m : List WUpdate} {rq : Nat} {s' : State} {m' : List WUpdate}, P s m →
      s.proactive m orders top n rq = .ok (s', m') → P s' m'
  | 0, _, _, _, _, _, h0, h => by cases h; exact h0
  | n + 1, s, m, rq, _, _, h0, h => by
    rcases proactive_succ_ok h with ⟨_, e⟩ | h' | ⟨q, pfs, ord, s1, m1, hf, ho, _, _, h1, h'⟩
    · cases e; exact h0
    · exact proactive_ind step h0 h'
    · exact proactive_ind step (step s m rq q pfs ord s1 m1 h0 hf ho h1) h'

/-! ### the messages -/

theorem computeList_cons_ok {s : State} {id : TaskId} {rv : Option Nat} {rest : List (TaskId × Option Nat)}
    {l : List (TaskId × Nat × Option Nat × List Nat)} (h : computeList s ((id, rv) :: rest) = .ok l) :
    ∃ t l', s.getTask id = .ok t ∧ computeList s rest = .ok l' ∧ l = computeOne t rv [] :: l' := by
  rw [computeList] at h
  cases ht : s.getTask id with
  | error e => rw [ht] at h; cases h
  | ok t =>
    rw [ht] at h
    dsimp only at h
    cases hl : computeList s rest with
    | error e => rw [hl] at h; cases h
    | ok l' => rw [hl] at h; cases h; exact ⟨t, l', rfl, rfl, rfl⟩

/-- `computeItems` (`on_retract_response`) is `computeList` (the scheduler's `send_messages`) on assigned items -/
theorem computeItems_eq (s : State) : ∀ (l : List (Nat × TaskId × Nat)),
    computeItems s l = computeList s (l.map fun it => (it.2.1, some it.2.2))
  | [] => rfl
  | it :: rest => by
    simp only [computeItems, List.map_cons, computeList, computeItems_eq s rest]
    -- the two sides print alike but go through the matchers of two definitions: no `rfl` before both scrutinees are split
    cases s.getTask it.2.1 with
    | error e => rfl
    | ok t => cases computeList s (rest.map fun it => (it.2.1, some it.2.2)) <;> rfl

theorem msgsOfAll_cons_ok {s : State} {u : WUpdate} {rest : List WUpdate} {ms : List Msg}
    (h : msgsOfAll s (u :: rest) = .ok ms) :
    ∃ l ms', computeList s ((u.prefills.map fun id => (id, none)) ++ (u.assigned.map fun a => (a.1, some a.2))) = .ok l ∧
      msgsOfAll s rest = .ok ms' ∧
      ms = (if u.retracts.isEmpty then [] else [Msg.retract u.w u.retracts]) ++
        (if l.isEmpty then [] else [Msg.compute u.w l]) ++ ms' := by
  rw [msgsOfAll] at h
  cases hl : computeList s ((u.prefills.map fun id => (id, none)) ++ (u.assigned.map fun a => (a.1, some a.2))) with
  | error e => rw [hl] at h; cases h
  | ok l =>
    rw [hl] at h
    dsimp only at h
    cases hm : msgsOfAll s rest with
    | error e => rw [hm] at h; cases h
    | ok ms' => rw [hm] at h; cases h; exact ⟨l, ms', rfl, rfl, rfl⟩

theorem mnMsgs_cons_ok {s : State} {id : TaskId} {rest : List TaskId} {ms : List Msg}
    (h : mnMsgs s (id :: rest) = .ok ms) :
    ∃ t root ws ms', s.getTask id = .ok t ∧ t.state = .runningMN (root :: ws) ∧ mnMsgs s rest = .ok ms' ∧
      ms = Msg.compute root [computeOne t (some 0) (root :: ws)] :: ms' := by
  rw [mnMsgs] at h
  cases ht : s.getTask id with
  | error e => rw [ht] at h; cases h
  | ok t =>
    rw [ht] at h
    dsimp only at h
    split at h
    · rename_i root ws hs
      cases hm : mnMsgs s rest with
      | error e => rw [hm] at h; cases h
      | ok ms' => rw [hm] at h; cases h; exact ⟨t, root, ws, ms', rfl, hs, rfl, rfl⟩
    · cases h

/-! ### the round -/

/-- The stages of a successful round. The proactive stage is a run of `proactive` in both cases: over no queue at
all (`n = 0`) when every ready list is empty, else over all queues with the top priority found. -/
theorem schedule_path {s s' : State} {sol : Solution} {o : Out} (h : s.schedule sol = .ok (s', o)) :
    ∃ s1 m1 s2 mnTasks s3 m3 msgs mm top n,
      s.mapSn sol.now [] sol.sn = .ok (s1, m1) ∧ s1.mapMn sol.mn [] = .ok (s2, mnTasks) ∧
      ((topPriority s2.queues = none ∧ n = 0) ∨ (topPriority s2.queues = some top ∧ n = s2.queues.length)) ∧
      s2.proactive
        (m1.map fun u =>
          { u with assigned := sortByPrio (fun id => match s1.task? id with | some t => t.prio | none => 0) u.assigned })
        sol.prefillOrders top n 0 = .ok (s3, m3) ∧
      msgsOfAll s3 m3 = .ok msgs ∧ mnMsgs s3 mnTasks = .ok mm ∧
      s' = { s3 with needSched := false } ∧ o = { msgs := msgs ++ mm } := by
  unfold State.schedule at h
  cases h1 : s.mapSn sol.now [] sol.sn with
  | error e => rw [h1] at h; cases h
  | ok y =>
    obtain ⟨s1, m1⟩ := y
    rw [h1] at h
    dsimp only at h
    cases h2 : s1.mapMn sol.mn [] with
    | error e => rw [h2] at h; cases h
    | ok y =>
      obtain ⟨s2, mnTasks⟩ := y
      rw [h2] at h
      dsimp only at h
      split at h
      · cases h
      · rename_i s3 m3 h3
        cases h4 : msgsOfAll s3 m3 with
        | error e => rw [h4] at h; cases h
        | ok msgs =>
          rw [h4] at h
          dsimp only at h
          cases h5 : mnMsgs s3 mnTasks with
          | error e => rw [h5] at h; cases h
          | ok mm =>
            rw [h5] at h
            cases h
            cases ht : topPriority s2.queues with
            | none =>
              rw [ht] at h3
              cases h3
              exact ⟨s1, m1, s2, mnTasks, _, _, msgs, mm, 0, 0, rfl, h2, .inl ⟨ht, rfl⟩, rfl, h4, h5, rfl, rfl⟩
            | some top =>
              rw [ht] at h3
              exact ⟨s1, m1, s2, mnTasks, s3, m3, msgs, mm, top, _, rfl, h2, .inr ⟨ht, rfl⟩, h3, h4, h5, rfl, rfl⟩

end HqModel.Core
