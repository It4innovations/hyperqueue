import HqModel.Lemmas.CoreMsgRun
import HqModel.Lemmas.CoreLoss
import HqModel.Lemmas.CoreInvFull
/-!
Message-level facts about the loss of a worker (`on_remove_worker`), for every reachable state.

* the crash counters (C07): every function leaves them alone (`Evo _ True`) except the crash loop, which runs over the
  `running` list it reported in the `workerLost` callback — `crashLoop_only`, `removeWorker_split`, and
  `removeWorker_crash`: a task of that list is charged exactly one crash;
* the instance ids (C06): **every task that comes back from a lost worker gets a strictly larger instance id** — a task
  Assigned / Running / Prefilled on the lost worker, a task that was being retracted from it, a multi-node task whose
  root it was: one `…_bumped` lemma per loop, `removeWorker_bumped` for all of the operation.
-/
namespace HqModel.Core

/-- the crash loop changes the counter only of tasks in its list, and only when the loss is a failure — by exactly one
when no task is named twice; the callbacks emitted before the loop stay in front -/
theorem crashLoop_only (ids : List TaskId) (s s' : State) (f : Bool) (rets : List (List TaskId)) (o o' : Out)
    (h : s.crashLoop f ids rets o = .ok (s', o')) :
    (∃ x, o'.cbs = o.cbs ++ x) ∧
    ∀ t' ∈ s'.tasks, ∃ t ∈ s.tasks, t'.id = t.id ∧
      (t'.crashes ≠ t.crashes → t'.id ∈ ids ∧ f = true ∧ (ids.Nodup → t'.crashes = t.crashes + 1)) := by
  induction ids generalizing s rets o with
  | nil =>
    cases h
    exact ⟨⟨[], by simp⟩, fun t ht => ⟨t, ht, rfl, fun hne => absurd rfl hne⟩⟩
  | cons id rest ih =>
    rcases crashLoop_cons_ok h with ⟨_, h'⟩ | ⟨task, ht, h'⟩
    · obtain ⟨a, b⟩ := ih _ _ _ h'
      refine ⟨a, fun t' ht' => ?_⟩
      obtain ⟨t, ht, e, hc⟩ := b t' ht'
      exact ⟨t, ht, e, fun hne => ⟨List.mem_cons_of_mem _ (hc hne).1, (hc hne).2.1,
        fun hnd => (hc hne).2.2 (List.nodup_cons.mp hnd).2⟩⟩
    · have hid : task.id = id := findTask_some_id ht
      have h1 : ∀ x ∈ (s.setTask { task with crashes := (crashOutcome task.crashLimit f task.crashes).1 }).tasks,
          ∃ t ∈ s.tasks, x.id = t.id ∧ (x.crashes ≠ t.crashes → x.id = id ∧ f = true ∧ x.crashes = t.crashes + 1) := by
        intro x hx
        rcases mem_putTask hx with e | e
        · subst e
          refine ⟨task, findTask_some_mem ht, rfl, fun hne => ?_⟩
          rcases crashOutcome_fst task.crashLimit f task.crashes with e | ⟨e, hf⟩
          · exact absurd e hne
          · exact ⟨hid, hf, e⟩
        · exact ⟨x, e, rfl, fun hne => absurd rfl hne⟩
      have comb : ∀ (s2 : State) (o2 : Out) (rets2 : List (List TaskId)),
          Evo True True (s.setTask { task with crashes := (crashOutcome task.crashLimit f task.crashes).1 }) s2 →
          (∃ x, o2.cbs = o.cbs ++ x) → s2.crashLoop f rest rets2 o2 = .ok (s', o') →
          (∃ x, o'.cbs = o.cbs ++ x) ∧
          ∀ t' ∈ s'.tasks, ∃ t ∈ s.tasks, t'.id = t.id ∧ (t'.crashes ≠ t.crashes →
            t'.id ∈ id :: rest ∧ f = true ∧ ((id :: rest).Nodup → t'.crashes = t.crashes + 1)) := by
        intro s2 o2 rets2 e2 hx2 h2
        obtain ⟨⟨x, hx⟩, b⟩ := ih _ _ _ h2
        obtain ⟨x2, hx2⟩ := hx2
        refine ⟨⟨x2 ++ x, by rw [hx, hx2, List.append_assoc]⟩, fun t' ht' => ?_⟩
        obtain ⟨t2, ht2, e, hc⟩ := b t' ht'
        obtain ⟨t1, ht1, r⟩ := e2 t2 ht2
        obtain ⟨t, ht0, e0, hc0⟩ := h1 t1 ht1
        have e12 : t2.crashes = t1.crashes := r.creq trivial
        refine ⟨t, ht0, e.trans (r.id.trans e0), fun hne => ?_⟩
        by_cases h3 : t'.crashes = t2.crashes
        · -- charged by this iteration only
          obtain ⟨a4, b4, c4⟩ := hc0 (by rw [← e12, ← h3]; exact hne)
          exact ⟨by rw [e, r.id, a4]; exact List.mem_cons_self, b4, fun _ => by rw [h3, e12, c4]⟩
        · -- charged by a later one: with distinct ids, not by this one
          obtain ⟨a5, b5, c5⟩ := hc h3
          refine ⟨List.mem_cons_of_mem _ a5, b5, fun hnd => ?_⟩
          obtain ⟨hni, hnd'⟩ := List.nodup_cons.mp hnd
          have h4 : t1.crashes = t.crashes := Classical.byContradiction fun hne1 =>
            hni (by rw [← (hc0 hne1).1, ← r.id, ← e]; exact a5)
          rw [c5 hnd', e12, h4]
      rcases h' with ⟨_, s2, o2, h2, h'⟩ | ⟨_, h'⟩
      · exact comb _ _ _ (taskFailed_evo (nw := True) (cr := True) h2).1 ⟨o2.cbs, rfl⟩ h'
      · exact comb _ _ _ (Evo.refl _ _ _) ⟨[], by simp⟩ h'

/-- `on_remove_worker` up to the crash loop: nothing before the loop changes a crash counter, and the loop runs
over the list reported in the `workerLost` callback -/
theorem removeWorker_split {s s' : State} {w : Nat} {reason : String} {f : Bool} {order : List TaskId}
    {rets : List (List TaskId)} {o : Out} (hn : (taskIds s.tasks).Nodup)
    (h : s.removeWorker w reason f order rets = .ok (s', o)) :
    ∃ (s3 s4 : State) (running : List TaskId) (o3 : Out), Evo True True s s3 ∧
      (∃ x, o3.cbs = x ++ [.workerLost w running reason]) ∧
      s3.crashLoop f running rets o3 = .ok (s4, o) ∧ s'.tasks = s4.tasks ∧ running.Nodup ∧
      ∀ id ∈ running, ∃ t ∈ s.tasks, t.id = id ∧
        ((∃ w' v, t.state = .running w' v ∧ id ∈ asgW s.workers w) ∨ (∃ others, t.state = .runningMN (w :: others))) := by
  obtain ⟨wk, s1, s2, s3, s4, running, retracted, out1, out2, hw, hp1, h2, h3, h4, rfl⟩ := removeWorker_phases h
  obtain ⟨e1, ids1⟩ := lossPart1_evo (nw := True) (cr := True) hp1
  have hn1 : (taskIds s1.tasks).Nodup := by rw [ids1]; exact hn
  obtain ⟨l, _, _, e2, _⟩ := lostRetracting_fx (nw := True) (cr := True) _ _ _ _ _ _ hn1 h2
  obtain ⟨e3, _, _⟩ := retract_evo (nw := True) (cr := True) h3
  have e1' : Evo True True s s1 := e1
  obtain ⟨hnd, hrun⟩ := lossPart1_running (s0 := { s with workers := s.workers.filter (·.id ≠ w) }) hn hp1
  refine ⟨s3, s4, running, _, (e1'.trans e2).trans e3, ⟨out1.cbs ++ out2.cbs, by simp⟩, h4, rfl, hnd, ?_⟩
  intro id hid
  obtain ⟨⟨t, ht0, hst⟩, _⟩ := hrun id hid
  refine ⟨t, findTask_some_mem ht0, findTask_some_id ht0,
    hst.imp (fun ⟨w', v, A, F, P, hs, ha, hm⟩ => ⟨w', v, hs, ?_⟩) (fun ⟨others, _, hs, _⟩ => ⟨others, hs⟩)⟩
  rw [asgW_of_find hw]
  simpa [wAsg, ha] using hm

/-- **the crash counter changes only by a failure loss, and only for a task reported as running there**: for an
operation `removeWorker w reason f order rets`, a task whose crash counter differs before and after is named in the
`running` list of the `workerLost` callback of this operation, `f = true`, and the counter grew by exactly one (the
list names no task twice: `lossPart1_running`) -/
theorem removeWorker_crash {s s' : State} {w : Nat} {reason : String} {f : Bool} {order : List TaskId}
    {rets : List (List TaskId)} {o : Out} (hi : Inv s)
    (h : s.removeWorker w reason f order rets = .ok (s', o)) {id : TaskId} {t t' : Task}
    (ht : s.task? id = some t) (ht' : s'.task? id = some t') (hne : t'.crashes ≠ t.crashes) :
    f = true ∧ t'.crashes = t.crashes + 1 ∧ (∃ running, Cb.workerLost w running reason ∈ o.cbs ∧ id ∈ running) ∧
    ((∃ v, t.state = .running w v) ∨ (∃ others, t.state = .runningMN (w :: others))) := by
  have hn := hi.nd
  obtain ⟨s3, s4, running, o3, e, ⟨x, hx⟩, hcl, hts, hnd, hrun⟩ := removeWorker_split hn h
  obtain ⟨⟨y, hy⟩, hc⟩ := crashLoop_only _ _ _ _ _ _ _ hcl
  have hm : t' ∈ s4.tasks := hts ▸ findTask_some_mem ht'
  obtain ⟨t3, ht3, e3, hc3⟩ := hc t' hm
  obtain ⟨t0, ht0, r⟩ := e t3 ht3
  cases eq_of_mem_of_find hn ht0 ((r.id.symm.trans e3.symm).trans (findTask_some_id ht')) ht
  have hne3 : t'.crashes ≠ t3.crashes := by rw [r.creq trivial]; exact hne
  obtain ⟨a, b, c⟩ := hc3 hne3
  have hidr : id ∈ running := findTask_some_id ht' ▸ a
  refine ⟨b, ?_, ⟨running, ?_, hidr⟩, ?_⟩
  · rw [c hnd, r.creq trivial]
  · rw [hy, hx]; simp
  · obtain ⟨tr, htr, hidt, hst⟩ := hrun id hidr
    cases eq_of_mem_of_find hn htr hidt ht
    rcases hst with ⟨w', v, hs, hm⟩ | hmn
    · left
      obtain ⟨st, h1, h2⟩ := hi.ls.a1 w id hm
      rw [stOf_of_find ht, hs] at h1
      cases h1
      simp only [Holds_running] at h2
      exact ⟨v, by rw [hs, h2]⟩
    · exact Or.inr hmn

/-- a record for `id` is replaced by one with the instance id + 1; before and after only `Evo` steps -/
theorem bump_between {nw cr : Prop} {s0 s s1 s' : State} {id : TaskId} {task t1 : Task}
    (e0 : Evo nw cr s0 s) (hf : s.task? id = some task) (h1 : s1.tasks = putTask s.tasks t1)
    (hid : t1.id = id) (hinst : t1.inst = task.inst + 1) (e1 : Evo nw cr s1 s') :
    ∀ t' ∈ s'.tasks, t'.id = id → ∃ t ∈ s0.tasks, t.id = id ∧ t.inst < t'.inst := by
  intro t' ht' hid'
  obtain ⟨x, hx, r⟩ := e1 t' ht'
  rw [h1] at hx
  have hx' : x = t1 := mem_putTask_id hx ((r.id.symm.trans hid').trans hid.symm)
  subst hx'
  obtain ⟨t, ht, r0⟩ := e0 task (findTask_some_mem hf)
  refine ⟨t, ht, r0.id.symm.trans (findTask_some_id hf), ?_⟩
  have := r.inst; have := r0.inst
  omega

theorem lostPrefilled_bumped (ids : List TaskId) (s0 s s' : State) (e0 : Evo True True s0 s)
    (h : s.lostPrefilled ids = .ok s') :
    ∀ t' ∈ s'.tasks, t'.id ∈ ids → ∃ t ∈ s0.tasks, t.id = t'.id ∧ t.inst < t'.inst := by
  induction ids generalizing s with
  | nil => intro t' _ h'; cases h'
  | cons id rest ih =>
    obtain ⟨task, s2, ht, h2, h'⟩ := lostPrefilled_cons_ok h
    have e2 : Evo True True s s2 :=
      (Evo.set rfl ht (TRel.bump task _ (by simp) (by simp))).trans (Evo.of_tasks (movePrefilledToReady_tasks h2))
    intro t' ht' hm
    by_cases hid : t'.id = id
    · obtain ⟨t, a, b, c⟩ := bump_between (task := task) e0 ht
        (t1 := { task with inst := task.inst + 1, state := .waiting 0 }) (movePrefilledToReady_tasks h2)
        (findTask_some_id (t := task) ht) rfl (lostPrefilled_evo _ h') t' ht' hid
      exact ⟨t, a, b.trans hid.symm, c⟩
    · rcases List.mem_cons.mp hm with h3 | h3
      · exact absurd h3 hid
      · exact ih _ (e0.trans e2) h' t' ht' h3

theorem lostAssigned_bumped (ids : List TaskId) (s0 s s' : State) (ru ru' re re' : List TaskId)
    (e0 : Evo True True s0 s) (h : s.lostAssigned ids ru re = .ok (s', ru', re')) :
    ∀ t' ∈ s'.tasks, t'.id ∈ ids → ∃ t ∈ s0.tasks, t.id = t'.id ∧ t.inst < t'.inst := by
  induction ids generalizing s ru re with
  | nil => intro t' _ h'; cases h'
  | cons id rest ih =>
    obtain ⟨task, sa, t1, ru1, s2, r, ht, hc, hq, h'⟩ := lostAssigned_cons_ok h
    obtain ⟨hsa, ht1⟩ := hc.writes
    have hs2 : s2.tasks = putTask s.tasks { t1 with inst := t1.inst + 1 } := by
      rw [addReady_tasks hq]; show putTask sa.tasks _ = _; rw [hsa]
    have e2 : Evo True True s s2 :=
      (Evo.set hsa ht (by
        rcases ht1 with rfl | rfl
        · exact TRel.bump task _ (by simp) (by simp)
        · exact TRel.bump t1 t1.state (fun _ h => h) (fun _ l' h => ⟨l', h, KeepL.refl _⟩))).trans
        (Evo.of_tasks (addReady_tasks hq))
    intro t' htm hm
    by_cases hid : t'.id = id
    · obtain ⟨t, a, b, c⟩ := bump_between (task := task) e0 ht (t1 := { t1 with inst := t1.inst + 1 }) hs2
        (by rcases ht1 with e | e <;> rw [e] <;> exact findTask_some_id (t := task) ht)
        (by rcases ht1 with e | e <;> rw [e])
        (lostAssigned_evo _ h') t' htm hid
      exact ⟨t, a, b.trans hid.symm, c⟩
    · rcases List.mem_cons.mp hm with h3 | h3
      · exact absurd h3 hid
      · exact ih _ _ _ (e0.trans e2) h' t' htm h3

theorem lostPrefilled_frame (ids : List TaskId) (s s' : State) (h : s.lostPrefilled ids = .ok s') :
    ∀ x, x ∉ ids → findTask s'.tasks x = findTask s.tasks x := by
  induction ids generalizing s with
  | nil => cases h; intro _ _; rfl
  | cons id rest ih =>
    obtain ⟨task, s2, ht, h2, h'⟩ := lostPrefilled_cons_ok h
    intro x hx
    simp only [List.mem_cons, not_or] at hx
    rw [ih _ h' x hx.2, movePrefilledToReady_tasks h2]
    show findTask (putTask s.tasks _) x = _
    rw [findTask_putTask, if_neg]
    exact fun e => hx.1 (e.trans (findTask_some_id (t := task) ht))

theorem lostAssigned_frame (ids : List TaskId) (s s' : State) (ru ru' re re' : List TaskId)
    (h : s.lostAssigned ids ru re = .ok (s', ru', re')) :
    ∀ x, x ∉ ids → findTask s'.tasks x = findTask s.tasks x := by
  induction ids generalizing s ru re with
  | nil => cases h; intro _ _; rfl
  | cons id rest ih =>
    obtain ⟨task, sa, t1, ru1, s2, r, ht, hc, hq, h'⟩ := lostAssigned_cons_ok h
    obtain ⟨hsa, ht1⟩ := hc.writes
    intro x hx
    simp only [List.mem_cons, not_or] at hx
    rw [ih _ _ _ h' x hx.2, addReady_tasks hq]
    show findTask (putTask sa.tasks _) x = _
    rw [findTask_putTask, hsa, if_neg]
    intro e
    refine hx.1 (e.trans ?_)
    rcases ht1 with e | e <;> rw [e] <;> exact findTask_some_id (t := task) ht

/-- every task of the list that is Retracting from `w` (the records of the list being the current ones) ends with
a strictly larger instance id -/
theorem lostRetracting_bumped (ts : List Task) (s s' : State) (w : Nat) (o o' : Out)
    (hn : (taskIds s.tasks).Nodup) (hnd : (ts.map (·.id)).Nodup) (hsame : ∀ t0 ∈ ts, s.task? t0.id = some t0)
    (h : s.lostRetracting w ts o = .ok (s', o')) :
    ∀ t' ∈ s'.tasks, ∀ t0 ∈ ts, t0.id = t'.id → t0.state = .retracting w → t0.inst < t'.inst := by
  induction ts generalizing s o with
  | nil => intro _ _ _ h0; cases h0
  | cons t0 rest ih =>
    simp only [List.map_cons, List.nodup_cons] at hnd
    have h00 := hsame t0 List.mem_cons_self
    have hrest : ∀ r ∈ rest, s.task? r.id = some r := fun r hr => hsame r (List.mem_cons_of_mem _ hr)
    have after : ∀ (s1 : State) (t1 : Task) (o1 : Out), s1.tasks = putTask s.tasks t1 → t1.id = t0.id →
        t1.inst = t0.inst + 1 → s1.lostRetracting w rest o1 = .ok (s', o') →
        ∀ t' ∈ s'.tasks, ∀ x ∈ t0 :: rest, x.id = t'.id → x.state = .retracting w → x.inst < t'.inst := by
      intro s1 t1 o1 hs1 hid1 hinst hloop t' ht' x hx hxid hxs
      have hn1 : (taskIds s1.tasks).Nodup := by rw [hs1, taskIds_putTask]; exact hn
      have hrest1 : ∀ r ∈ rest, s1.task? r.id = some r := by
        intro r hr
        show findTask s1.tasks r.id = some r
        rw [hs1, findTask_putTask, if_neg]
        · exact hrest r hr
        · exact fun e => hnd.1 (List.mem_map.mpr ⟨r, hr, e.trans hid1⟩)
      rcases List.mem_cons.mp hx with h1 | h1
      · subst h1
        obtain ⟨_, _, _, e, _⟩ := lostRetracting_fx (nw := True) (cr := True) _ _ _ _ _ _ hn1 hloop
        obtain ⟨y, hy, r⟩ := e t' ht'
        rw [hs1] at hy
        have : y = t1 := mem_putTask_id hy ((r.id.symm.trans hxid.symm).trans hid1.symm)
        subst this
        have := r.inst
        omega
      · exact ih _ _ hn1 hnd.2 hrest1 hloop t' ht' x h1 hxid hxs
    rcases lostRetracting_cons_ok h with ⟨hs, h'⟩ | ⟨task0, ht, _, ⟨target, rv, _, h'⟩ | ⟨_, h'⟩⟩
    · -- not Retracting from `w`: skipped
      intro t' ht' x hx hxid hxs
      rcases List.mem_cons.mp hx with h1 | h1
      · subst h1; exact absurd hxs (hs _ h00)
      · exact ih _ _ hn hnd.2 hrest h' t' ht' x h1 hxid hxs
    · cases h00.symm.trans ht
      exact after _ { t0 with inst := t0.inst + 1, state := .assigned target rv } _ rfl rfl rfl h'
    · cases h00.symm.trans ht
      exact after _ { t0 with inst := t0.inst + 1, state := .waiting 0 } _ rfl rfl rfl h'

/-- part 1 of `on_remove_worker`: a task held by the lost worker gets a larger instance id; a task that is only
being retracted from it gets one too or is left as it is (`lostRetracting` deals with it) -/
theorem lossPart1_bumped {s s1 : State} {w : Nat} {wk : Worker} {order running retracted : List TaskId}
    (hi : InvF s) (hw : s.worker? w = some wk)
    (hp1 : NPL.lossPart1 { s with workers := s.workers.filter (·.id ≠ w) } w wk.assign order = .ok (s1, running, retracted))
    {id : TaskId} {t : Task} (ht : s.task? id = some t)
    (hst : (∃ v, t.state = .assigned w v) ∨ (∃ v, t.state = .running w v) ∨ t.state = .prefilled w ∨
      t.state = .retracting w ∨ (∃ others, t.state = .runningMN (w :: others))) :
    (t.state ≠ .retracting w → ∀ x ∈ s1.tasks, x.id = id → t.inst < x.inst) ∧
    (t.state = .retracting w → (∀ x ∈ s1.tasks, x.id = id → t.inst < x.inst) ∨ findTask s1.tasks id = some t) := by
  have hn := hi.inv.nd
  have hidt : t.id = id := findTask_some_id ht
  -- where the task is held according to the invariant
  have held : t.state ≠ .retracting w → (∃ A F P, wk.assign = .sn A F P ∧ (id ∈ A ∨ id ∈ P)) ∨
      ∃ r st, wk.assign = .mn id r st := by
    intro hnr
    rcases hst with ⟨v, hs⟩ | ⟨v, hs⟩ | hs | hs | ⟨others, hs⟩
    · obtain ⟨wk', A, F, P, hw', ha, hm⟩ := hi.assigned_complete ht (Or.inl hs)
      cases hw.symm.trans hw'; exact .inl ⟨A, F, P, ha, .inl hm⟩
    · obtain ⟨wk', A, F, P, hw', ha, hm⟩ := hi.assigned_complete ht (Or.inr hs)
      cases hw.symm.trans hw'; exact .inl ⟨A, F, P, ha, .inl hm⟩
    · obtain ⟨wk', A, F, P, hw', ha, hm⟩ := hi.prefilled_complete ht hs
      cases hw.symm.trans hw'; exact .inl ⟨A, F, P, ha, .inr hm⟩
    · exact absurd hs hnr
    · obtain ⟨wk', r, st, hw', ha⟩ := hi.mn_complete ht hs (x := w) List.mem_cons_self
      cases hw.symm.trans hw'; exact .inr ⟨r, st, ha⟩
  rcases lossPart1_cases hp1 with ⟨A, F, P, sp, ha, hperm, hlp, hla⟩ |
    ⟨tid, isRoot, started, task, root, others, ha, htk, hs, ⟨rfl, sr, hr, hq, _⟩ | ⟨hroot, rfl, _⟩⟩
  · -- single-node worker
    have a := lostPrefilled_evo (nw := True) (cr := True) _ hlp
    have b := lostAssigned_evo (nw := True) (cr := True) _ hla
    have bumpP : id ∈ P → ∀ x ∈ s1.tasks, x.id = id → t.inst < x.inst := by
      intro hm x hx hxid
      obtain ⟨y, hy, r⟩ := b x hx
      obtain ⟨t0, ht0, e0, hlt⟩ := lostPrefilled_bumped P s { s with workers := s.workers.filter (·.id ≠ w) } sp (Evo.of_tasks rfl) hlp y hy
        (by rw [← r.id, hxid]; exact hm)
      cases eq_of_mem_of_find hn ht0 ((e0.trans r.id.symm).trans hxid) ht
      exact Nat.lt_of_lt_of_le hlt r.inst
    have bumpA : id ∈ order → ∀ x ∈ s1.tasks, x.id = id → t.inst < x.inst := by
      intro hm x hx hxid
      obtain ⟨t0, ht0, e0, hlt⟩ := lostAssigned_bumped _ s _ _ _ _ _ _ a hla x hx (by rw [hxid]; exact hm)
      cases eq_of_mem_of_find hn ht0 (e0.trans hxid) ht
      exact hlt
    refine ⟨fun hnr => ?_, fun _ => ?_⟩
    · rcases held hnr with ⟨A', F', P', ha', hm⟩ | ⟨r, st, ha'⟩
      · cases ha.symm.trans ha'
        rcases hm with hm | hm
        · exact bumpA (mem_of_all_contains ((Bool.and_eq_true _ _).mp ((Bool.and_eq_true _ _).mp hperm).1).2 _ hm)
        · exact bumpP hm
      · cases ha.symm.trans ha'
    · by_cases hP : id ∈ P
      · exact Or.inl (bumpP hP)
      · by_cases hO : id ∈ order
        · exact Or.inl (bumpA hO)
        · right
          rw [lostAssigned_frame _ _ _ _ _ _ _ hla id hO, lostPrefilled_frame _ _ _ hlp id hP]
          exact ht
  · -- the root of a multi-node task
    have htk' : s.task? tid = some task := htk
    have hs1 : s1.tasks = putTask s.tasks { task with state := .waiting 0, inst := task.inst + 1 } := by
      rw [addReady_tasks hq]; show putTask sr.tasks _ = _; rw [resetMnAll_tasks _ _ _ hr]
    have bump : id = tid → ∀ x ∈ s1.tasks, x.id = id → t.inst < x.inst := by
      intro hid x hx hxid
      subst hid
      cases htk'.symm.trans ht
      rw [hs1] at hx
      cases mem_putTask_id hx (hxid.trans hidt.symm)
      exact Nat.lt_succ_self _
    refine ⟨fun hnr => ?_, fun _ => ?_⟩
    · rcases held hnr with ⟨A', F', P', ha', _⟩ | ⟨r, st, ha'⟩
      · cases ha.symm.trans ha'
      · cases ha.symm.trans ha'; exact bump rfl
    · by_cases hid : id = tid
      · exact Or.inl (bump hid)
      · right
        rw [hs1, findTask_putTask, if_neg]
        · exact ht
        · exact fun e => hid (e.trans (findTask_some_id (t := task) htk'))
  · -- another worker of a multi-node task
    have htk' : s.task? tid = some task := htk
    refine ⟨fun hnr => ?_, fun hrt => ?_⟩
    · exfalso
      rcases held hnr with ⟨A', F', P', ha', _⟩ | ⟨r, st, ha'⟩
      · cases ha.symm.trans ha'
      · cases ha.symm.trans ha'
        cases htk'.symm.trans ht
        rcases hst with ⟨v, hs'⟩ | ⟨v, hs'⟩ | hs' | hs' | ⟨others', hs'⟩ <;> rw [hs] at hs' <;> cases hs'
        exact hroot rfl
    · right
      show findTask (putTask s.tasks _) id = _
      rw [findTask_putTask, if_neg]
      · exact ht
      · intro e
        cases htk'.symm.trans ((show id = tid from e.trans (findTask_some_id (t := task) htk')) ▸ ht)
        rw [hs] at hrt; cases hrt

/-- **every task that comes back from a lost worker gets a strictly larger instance id** -/
theorem removeWorker_bumped {s s' : State} {w : Nat} {reason : String} {f : Bool} {order : List TaskId}
    {rets : List (List TaskId)} {o : Out} (hi : InvF s)
    (h : s.removeWorker w reason f order rets = .ok (s', o)) {id : TaskId} {t t' : Task}
    (ht : s.task? id = some t) (ht' : s'.task? id = some t')
    (hst : (∃ v, t.state = .assigned w v) ∨ (∃ v, t.state = .running w v) ∨ t.state = .prefilled w ∨
      t.state = .retracting w ∨ (∃ others, t.state = .runningMN (w :: others))) : t.inst < t'.inst := by
  have hn := hi.inv.nd
  obtain ⟨wk, s1, s2, s3, s4, running, retracted, out1, out2, hw, hp1, h2, h3, h4, rfl⟩ := removeWorker_phases h
  obtain ⟨hnr, hrt⟩ := lossPart1_bumped hi hw hp1 ht hst
  have hn1 : (taskIds s1.tasks).Nodup := by rw [(lossPart1_evo (nw := True) (cr := True) hp1).2]; exact hn
  obtain ⟨l, _, _, e2, _⟩ := lostRetracting_fx (nw := True) (cr := True) _ _ _ _ _ _ hn1 h2
  obtain ⟨e3, _, _⟩ := retract_evo (nw := True) (cr := False) h3
  obtain ⟨e4, _, _⟩ := crashLoop_evo (nw := True) _ _ _ _ _ _ _ h4
  -- from `s2` on the instance id only grows
  obtain ⟨x2, hx2, r2⟩ := (e3.trans (e4.mono (fun x => x) (fun f => f.elim))) t' (findTask_some_mem ht')
  have hx2id : x2.id = id := r2.id.symm.trans (findTask_some_id ht')
  have viaS1 : (∀ x ∈ s1.tasks, x.id = id → t.inst < x.inst) → t.inst < x2.inst := by
    intro hb
    obtain ⟨x1, hx1, r1⟩ := e2 x2 hx2
    exact Nat.lt_of_lt_of_le (hb x1 hx1 (r1.id.symm.trans hx2id)) r1.inst
  refine Nat.lt_of_lt_of_le ?_ r2.inst
  by_cases hr : t.state = .retracting w
  · rcases hrt hr with hb | hfr
    · exact viaS1 hb
    · -- `by exact`: `taskIds` has to unfold to the `map (·.id)` of the statement
      exact lostRetracting_bumped _ _ _ _ _ _ hn1 (by exact hn1)
        (fun t0 ht0 => mem_find_of_nodup hn1 ht0) h2 x2 hx2 t (findTask_some_mem hfr)
        ((findTask_some_id ht).trans hx2id.symm) hr
  · exact viaS1 (hnr hr)

end HqModel.Core
