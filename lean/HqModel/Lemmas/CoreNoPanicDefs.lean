import HqModel.Lemmas.CoreQueueRun
/-!
C09 progress for the core model M1, vocabulary: from the invariant and the side conditions of the operation, `step s op`
is never `.error (.panic site)` with a site of the code (a site whose name starts with `!` is the refusal of an invalid
recorded input). The outcome predicate, the input side conditions that progress adds to `OpOk2q` (decidable facts about
the operation, evaluated on the pre-state), the exclusion of the known finding F27, and the state invariant `NpInv`
that progress needs on top of `InvF`, `QInv`.
-/
namespace HqModel.Core

/-- not a panic of the code: a value, or a refusal `!…` of an invalid recorded input -/
def NoCorePanic {α : Type} (r : M α) : Prop := ∀ site, r = .error (.panic site) → site.startsWith "!" = true

theorem NoCorePanic.ok {α : Type} (x : α) : NoCorePanic (Except.ok x : M α) := by
  intro site h; cases h

theorem NoCorePanic.of_ok {α : Type} {r : M α} (h : ∃ x, r = .ok x) : NoCorePanic r := by
  obtain ⟨x, rfl⟩ := h; exact NoCorePanic.ok x

theorem NoCorePanic.bang {α : Type} {site : String} (h : site.startsWith "!" = true) :
    NoCorePanic (Except.error (.panic site) : M α) := by
  intro site' e; cases e; exact h

/-- `on_new_tasks`: the message is not empty (`handle_new_tasks` returns early for an empty submit), every request id
was created before (`get_or_create_resource_rq_id` precedes the submit), no dependency is named twice
(`build_tasks_graph` collects the dependencies into a set) -/
def NewTasksOk (s : State) (nts : List NewTask) : Prop :=
  nts ≠ [] ∧ ∀ nt ∈ nts, nt.rq < s.rqs.length ∧ nt.deps.Nodup

instance (s : State) (nts : List NewTask) : Decidable (NewTasksOk s nts) := by unfold NewTasksOk; infer_instance

/-- the lists the client's `on_task_error` returned (ids to cancel) name no task twice -/
def RetsOk (rets : List (List TaskId)) : Prop := ∀ l ∈ rets, l.Nodup

instance (rets : List (List TaskId)) : Decidable (RetsOk rets) := by unfold RetsOk; infer_instance

/-- the variant `rv` of request `rq` exists and names only resources worker `w` (which exists) has a slot for -/
def RunIdx (s : State) (w rq rv : Nat) : Prop :=
  match s.rq rq rv, s.worker? w with
  | .ok r, some wk => ∀ e ∈ r.entries, e.res < wk.total.length
  | _, _ => False

instance (s : State) (w rq rv : Nat) : Decidable (RunIdx s w rq rv) := by
  unfold RunIdx
  cases s.rq rq rv <;> cases s.worker? w <;> simp only <;> infer_instance

/-- **worker protocol** (what the core's `assert!`s / `unreachable!`s of the update handlers demand of a message
from worker `w`, judged in the state in which the reactor processes it): the worker exists; the message is about a
task the core does not know (any more), or
* `Running`/`RunningPrefilled t rv`: `t` is Assigned to `w` with variant `rv`, or Prefilled on / Retracting from `w`
  and `rv` is a variant `w` can host, or multi-node with root `w`;
* `Finished t`: `t` is Running on `w` or multi-node with root `w` (a worker finishes only what it reported running);
* `Failed t`: `t` is Assigned / Running / Prefilled on, Retracting from `w`, or multi-node with root `w`;
* `RejectRequest t`: `t` is Assigned (`RejectOk` says: to `w`, same variant), Prefilled on `w`,
  Retracting, or RunningMultiNode (reset of the reserved workers + re-queue). -/
def UpdNP (s : State) (w : Nat) (u : Update) : Prop :=
  (s.worker? w).isSome = true ∧
  match u with
  | .running t rv | .runningPrefilled t rv =>
    (match s.task? t with
     | none => True
     | some task =>
       match task.state with
       | .assigned w' rv' => w' = w ∧ rv' = rv
       | .prefilled w' => w' = w ∧ RunIdx s w task.rq rv
       | .retracting w' => w' = w ∧ RunIdx s w task.rq rv
       | .runningMN ws => ws.head? = some w
       | _ => False)
  | .finished t =>
    (match s.task? t with
     | none => True
     | some task =>
       match task.state with
       | .running w' _ => w' = w
       | .runningMN ws => ws.head? = some w
       | _ => False)
  | .failed t =>
    (match s.task? t with
     | none => True
     | some task =>
       match task.state with
       | .assigned w' _ => w' = w
       | .running w' _ => w' = w
       | .prefilled w' => w' = w
       | .retracting w' => w' = w
       | .runningMN ws => ws.head? = some w
       | _ => False)
  | .reject t _ =>
    (match s.task? t with
     | none => True
     | some task =>
       match task.state with
       | .assigned _ _ => True
       | .prefilled w' => w' = w
       | .retracting _ => True
       | .runningMN _ => True
       | _ => False)
  | .enable _ _ => True

instance (s : State) (w : Nat) (u : Update) : Decidable (UpdNP s w u) := by
  unfold UpdNP
  refine @instDecidableAnd _ _ inferInstance ?_
  repeat' split
  all_goals infer_instance

/-- **exclusion of finding F27** (`insert_sn_task` → `unreachable!()`): no Running / RunningPrefilled message about a
task that is Retracting arrives from a worker that is in a multi-node assignment (the worker started a prefilled
task whose retraction was under way, and a multi-node task was placed on the — seemingly idle — worker meanwhile). -/
def NoF27 (s : State) (w : Nat) (u : Update) : Prop :=
  match u with
  | .running t _ | .runningPrefilled t _ =>
    (match s.task? t, s.worker? w with
     | some task, some wk =>
       (match task.state, wk.assign with
        | .retracting _, .mn _ _ _ => False
        | _, _ => True)
     | _, _ => True)
  | _ => True

instance (s : State) (w : Nat) (u : Update) : Decidable (NoF27 s w u) := by
  unfold NoF27
  repeat' split
  all_goals infer_instance

/-- one `sn_counts` entry, judged in the state in which `create_task_mapping` processes it: the (request, variant)
exists and is a single-node request (the solver creates `sn` variables only for those), and the solver did not
place more tasks than the queue offers (`count ≤ queue.size()` row of the MILP) -/
def SnEntryOk (s : State) (e : SnEntry) : Prop :=
  (∃ r, s.rq e.rq e.v = .ok r) ∧ s.isMultiNode e.rq = false ∧
  ∀ q, s.queues[e.rq]? = some q → (e.counts.map (·.2)).sum ≤ (rIds q.ready).length + (pfIds q).length

instance (s : State) (e : SnEntry) : Decidable (SnEntryOk s e) := by
  unfold SnEntryOk
  have : Decidable (∃ r, s.rq e.rq e.v = .ok r) := by
    cases s.rq e.rq e.v with
    | ok r => exact isTrue ⟨r, rfl⟩
    | error x => exact isFalse (fun ⟨r, h⟩ => by cases h)
  have : Decidable (∀ q, s.queues[e.rq]? = some q → (e.counts.map (·.2)).sum ≤ (rIds q.ready).length + (pfIds q).length) := by
    cases s.queues[e.rq]? with
    | none => exact isTrue (fun _ h => by cases h)
    | some q =>
      by_cases h : (e.counts.map (·.2)).sum ≤ (rIds q.ready).length + (pfIds q).length
      · exact isTrue (fun _ e => by cases e; exact h)
      · exact isFalse (fun hh => h (hh q rfl))
  infer_instance

def SnOk (now : Nat) : State → List WUpdate → List SnEntry → Prop
  | _, _, [] => True
  | s, m, e :: rest =>
    SnEntryOk s e ∧
    match s.mapSn now m [e] with
    | .ok (s1, m1) => SnOk now s1 m1 rest
    | .error _ => True

instance SnOk.decidable (now : Nat) : ∀ (es : List SnEntry) (s : State) (m : List WUpdate), Decidable (SnOk now s m es)
  | [], _, _ => isTrue trivial
  | e :: rest, s, m => by
    simp only [SnOk]
    cases h : s.mapSn now m [e] with
    | error x => simp only; infer_instance
    | ok r =>
      obtain ⟨s1, m1⟩ := r
      simp only
      have := SnOk.decidable now rest s1 m1
      infer_instance

/-- one multi-node placement, judged in the state in which it is processed: a non-empty set of distinct, existing,
free workers, and the queue has a ready task -/
def MnSetOk (s : State) (rq : Nat) (ws : List Nat) : Prop :=
  ws ≠ [] ∧ ws.Nodup ∧ (∀ w ∈ ws, ∃ wk, s.worker? w = some wk ∧ wk.isFree = true) ∧
  ∀ q, s.queues[rq]? = some q → q.ready ≠ []

instance (s : State) (rq : Nat) (ws : List Nat) : Decidable (MnSetOk s rq ws) := by
  unfold MnSetOk
  have : ∀ w, Decidable (∃ wk, s.worker? w = some wk ∧ wk.isFree = true) := by
    intro w
    cases s.worker? w with
    | none => exact isFalse (fun ⟨_, h, _⟩ => by cases h)
    | some wk =>
      by_cases h : wk.isFree = true
      · exact isTrue ⟨wk, rfl, h⟩
      · exact isFalse (fun ⟨_, e, h2⟩ => by cases e; exact h h2)
  have : Decidable (∀ q, s.queues[rq]? = some q → q.ready ≠ []) := by
    cases s.queues[rq]? with
    | none => exact isTrue (fun _ h => by cases h)
    | some q =>
      by_cases h : q.ready ≠ []
      · exact isTrue (fun _ e => by cases e; exact h)
      · exact isFalse (fun hh => h (hh q rfl))
  infer_instance

def MnSetsOk (rq : Nat) : State → List TaskId → List (List Nat) → Prop
  | _, _, [] => True
  | s, acc, ws :: rest =>
    MnSetOk s rq ws ∧
    match s.mapMnSets rq [ws] acc with
    | .ok (s1, acc1) => MnSetsOk rq s1 acc1 rest
    | .error _ => True

instance MnSetsOk.decidable (rq : Nat) : ∀ (sets : List (List Nat)) (s : State) (acc : List TaskId),
    Decidable (MnSetsOk rq s acc sets)
  | [], _, _ => isTrue trivial
  | ws :: rest, s, acc => by
    simp only [MnSetsOk]
    cases h : s.mapMnSets rq [ws] acc with
    | error x => simp only; infer_instance
    | ok r =>
      obtain ⟨s1, acc1⟩ := r
      simp only
      have := MnSetsOk.decidable rq rest s1 acc1
      infer_instance

def MnEntriesOk : State → List TaskId → List MnEntry → Prop
  | _, _, [] => True
  | s, acc, e :: rest =>
    MnSetsOk e.rq s acc e.sets ∧
    match s.mapMnSets e.rq e.sets acc with
    | .ok (s1, acc1) => MnEntriesOk s1 acc1 rest
    | .error _ => True

instance MnEntriesOk.decidable : ∀ (es : List MnEntry) (s : State) (acc : List TaskId), Decidable (MnEntriesOk s acc es)
  | [], _, _ => isTrue trivial
  | e :: rest, s, acc => by
    simp only [MnEntriesOk]
    cases h : s.mapMnSets e.rq e.sets acc with
    | error x => simp only; infer_instance
    | ok r =>
      obtain ⟨s1, acc1⟩ := r
      simp only
      have := MnEntriesOk.decidable rest s1 acc1
      infer_instance

/-- **what the solver and `take_tasks` guarantee about the recorded solution**, every entry judged in the state in
which `create_task_mapping` processes it (as `UpdatesOk` does for the updates of one message). Everything else about
the solution (`taken` is what `take_tasks` returns, placements only where allowed and fitting, prefill order a
permutation of the candidates) is validated by the model itself (`!bad-choice …`). -/
def SolOk (s : State) (sol : Solution) : Prop :=
  SnOk sol.now s [] sol.sn ∧
  match s.mapSn sol.now [] sol.sn with
  | .ok (s1, _) => MnEntriesOk s1 [] sol.mn
  | .error _ => True

instance (s : State) (sol : Solution) : Decidable (SolOk s sol) := by
  unfold SolOk
  cases s.mapSn sol.now [] sol.sn with
  | error x => simp only; infer_instance
  | ok r => obtain ⟨s1, m1⟩ := r; simp only; infer_instance

/-- the input conditions of one operation that progress needs on top of `OpOk2q` -/
def OpNP (s : State) : Op → Prop
  | .newWorker w => s.worker? w.id = none
  | .removeWorker w _ _ _ rets => (s.worker? w).isSome = true ∧ RetsOk rets
  | .newRq _ => True
  | .newTasks nts => NewTasksOk s nts
  | .cancel ids => ids.Nodup
  | .update w us rets => UpdatesOk UpdNP s w us rets ∧ RetsOk rets
  | .retracted _ _ => True
  | .schedule sol => SolOk s sol

instance (s : State) (op : Op) : Decidable (OpNP s op) := by
  cases op <;> simp only [OpNP] <;> infer_instance

/-- the exclusion of the known finding F27 -/
def OpExcl (s : State) : Op → Prop
  | .update w us rets => UpdatesOk NoF27 s w us rets
  | _ => True

instance (s : State) (op : Op) : Decidable (OpExcl s op) := by
  cases op <;> simp only [OpExcl] <;> infer_instance

/-- worker records: ids unique, the free vector has the length of the total vector -/
structure NpW (s : State) : Prop where
  nd : (s.workers.map (·.id)).Nodup
  free : ∀ wk ∈ s.workers, ∀ A F P, wk.assign = .sn A F P → F.length = wk.total.length

instance (s : State) : Decidable (NpW s) := by
  have : ∀ wk : Worker, Decidable (∀ A F P, wk.assign = .sn A F P → F.length = wk.total.length) := by
    intro wk
    cases h : wk.assign with
    | mn a b c => exact isTrue (fun _ _ _ e => by cases e)
    | sn A F P =>
      by_cases hl : F.length = wk.total.length
      · exact isTrue (fun _ _ _ e => by cases e; exact hl)
      · exact isFalse (fun hh => hl (hh A F P rfl))
  exact decidable_of_iff' _ ⟨fun h => And.intro h.nd h.free, fun h => ⟨h.1, h.2⟩⟩

/-- worker `w` holds a reservation of variant `v` for the task record `t` -/
def HeldT (rd : List (TaskId × Nat × Nat)) (t : Task) (w v : Nat) : Prop :=
  t.state = .assigned w v ∨ t.state = .running w v ∨ ((∃ w0, t.state = .retracting w0) ∧ (t.id, w, v) ∈ rd)

/-- the variant exists and names only resource slots the worker (if it is in the map) has -/
def IdxOk (s : State) (w rq v : Nat) : Prop :=
  match s.rq rq v with
  | .ok r => ∀ wk, s.worker? w = some wk → ∀ e ∈ r.entries, e.res < wk.total.length
  | .error _ => False

instance (s : State) (w rq v : Nat) : Decidable (IdxOk s w rq v) := by
  unfold IdxOk
  cases s.rq rq v with
  | error _ => exact isFalse (fun h => h)
  | ok r =>
    simp only
    cases s.worker? w with
    | none => exact isTrue (fun _ h => by cases h)
    | some wk =>
      by_cases h : ∀ e ∈ r.entries, e.res < wk.total.length
      · exact isTrue (fun _ e => by cases e; exact h)
      · exact isFalse (fun hh => h (hh wk rfl))

/-- what the reservation table says about one task record, decidable form -/
def heldList (rd : List (TaskId × Nat × Nat)) (t : Task) : List (Nat × Nat) :=
  match t.state with
  | .assigned w v => [(w, v)]
  | .running w v => [(w, v)]
  | .retracting _ => (rd.filter (·.1 = t.id)).map (·.2)
  | _ => []

theorem mem_heldList {rd : List (TaskId × Nat × Nat)} {t : Task} {w v : Nat} :
    (w, v) ∈ heldList rd t ↔ HeldT rd t w v := by
  unfold heldList HeldT
  cases h : t.state with
  | retracting w0 =>
    simp only [List.mem_map, List.mem_filter, decide_eq_true_eq, reduceCtorEq, false_or, TS.retracting.injEq,
      exists_eq', true_and]
    constructor
    · rintro ⟨x, ⟨hm, hx⟩, e⟩
      obtain ⟨a, b, c⟩ := x
      simp only at hx e
      cases e; subst hx; exact hm
    · intro hm; exact ⟨(t.id, w, v), ⟨hm, rfl⟩, rfl⟩
  | assigned w' v' => simp; constructor <;> (rintro ⟨a, b⟩; exact ⟨a.symm, b.symm⟩)
  | running w' v' => simp; constructor <;> (rintro ⟨a, b⟩; exact ⟨a.symm, b.symm⟩)
  | _ => simp

/-- index ranges -/
structure NpIdx (s : State) : Prop where
  /-- one task queue per request (`add_task_queue` in `get_or_create_resource_rq_id`) -/
  ql : s.queues.length = s.rqs.length
  rq : ∀ t ∈ s.tasks, t.rq < s.rqs.length
  held : ∀ t ∈ s.tasks, ∀ w v, HeldT s.redirects t w v → IdxOk s w t.rq v

instance (s : State) : Decidable (NpIdx s) := by
  have : Decidable (∀ t ∈ s.tasks, ∀ w v, HeldT s.redirects t w v → IdxOk s w t.rq v) :=
    decidable_of_iff (∀ t ∈ s.tasks, ∀ p ∈ heldList s.redirects t, IdxOk s p.1 t.rq p.2)
      ⟨fun h t ht w v hh => h t ht (w, v) (mem_heldList.mpr hh),
       fun h t ht p hp => h t ht p.1 p.2 (mem_heldList.mp hp)⟩
  exact decidable_of_iff' _ ⟨fun h => And.intro h.ql (And.intro h.rq h.held), fun h => ⟨h.1, h.2.1, h.2.2⟩⟩

/-- states in which a task is placed on (or being taken from) a single-node worker -/
def snState : TS → Prop
  | .assigned .. => True
  | .prefilled _ => True
  | .retracting _ => True
  | .running .. => True
  | _ => False

instance : DecidablePred snState := fun st => by cases st <;> simp only [snState] <;> infer_instance

/-- multi-node shape -/
structure NpMn (s : State) : Prop where
  /-- the worker list of a RunningMultiNode task is not empty and names no worker twice -/
  ne : ∀ t ∈ s.tasks, ∀ ws, t.state = .runningMN ws → ws ≠ [] ∧ ws.Nodup
  /-- only tasks with a single-node request are in a single-node placement state -/
  sn : ∀ t ∈ s.tasks, snState t.state → s.isMultiNode t.rq = false

instance (s : State) : Decidable (NpMn s) := by
  have : ∀ t : Task, Decidable (∀ ws, t.state = .runningMN ws → ws ≠ [] ∧ ws.Nodup) := by
    intro t
    cases h : t.state with
    | runningMN ws =>
      by_cases hc : ws ≠ [] ∧ ws.Nodup
      · exact isTrue (fun _ e => by cases e; exact hc)
      · exact isFalse (fun hh => hc (hh ws rfl))
    | _ => exact isTrue (fun _ e => by cases e)
  exact decidable_of_iff' _ ⟨fun h => And.intro h.ne h.sn, fun h => ⟨h.1, h.2⟩⟩

/-- dependency registration (`U` = ghost list of all ids submitted so far, as in `QInv`) -/
structure NpDeps (U : List TaskId) (s : State) : Prop where
  /-- every registered consumer is a task of the map -/
  cin : ∀ t ∈ s.tasks, ∀ c ∈ t.consumers, (s.task? c).isSome = true
  /-- a task is listed only by tasks it depends on -/
  cdep : ∀ t ∈ s.tasks, ∀ c ∈ t.consumers, ∀ ct, s.task? c = some ct → t.id ∈ ct.deps
  /-- every dependency that is in the map lists the task (`remove_task` asserts it) -/
  reg : ∀ ct ∈ s.tasks, ∀ d ∈ ct.deps, ∀ dt, s.task? d = some dt → ct.id ∈ dt.consumers
  dnd : ∀ t ∈ s.tasks, t.deps.Nodup
  uD : ∀ t ∈ s.tasks, ∀ d ∈ t.deps, d ∈ U

instance (U : List TaskId) (s : State) : Decidable (NpDeps U s) := by
  have d1 : ∀ (c : TaskId) (P : Task → Prop) [DecidablePred P], Decidable (∀ ct, s.task? c = some ct → P ct) := by
    intro c P _
    cases h : s.task? c with
    | none => exact isTrue (fun _ e => by cases e)
    | some ct =>
      by_cases hp : P ct
      · exact isTrue (fun _ e => by cases e; exact hp)
      · exact isFalse (fun hh => hp (hh ct rfl))
  have : ∀ (t : Task) (c : TaskId), Decidable (∀ ct, s.task? c = some ct → t.id ∈ ct.deps) :=
    fun t c => d1 c (fun ct => t.id ∈ ct.deps)
  have : ∀ (ct : Task) (d : TaskId), Decidable (∀ dt, s.task? d = some dt → ct.id ∈ dt.consumers) :=
    fun ct d => d1 d (fun dt => ct.id ∈ dt.consumers)
  exact decidable_of_iff' _
    ⟨fun h => And.intro h.cin (And.intro h.cdep (And.intro h.reg (And.intro h.dnd h.uD))),
     fun h => ⟨h.1, h.2.1, h.2.2.1, h.2.2.2.1, h.2.2.2.2⟩⟩

/-- an id in the ready list of queue `i` under priority `p`: a task of the map with that request and priority that is
`Waiting 0`, or Retracting without a redirect, or Prefilled and waiting for `process_retracted` (`R`) -/
def ReadyGood (R : List TaskId) (s : State) (i : Nat) (p : Int) (id : TaskId) : Prop :=
  match s.task? id with
  | none => False
  | some t =>
    t.rq = i ∧ t.prio = p ∧
    match t.state with
    | .waiting n => n = 0
    | .retracting _ => ∀ x ∈ s.redirects, x.1 ≠ id
    | .prefilled _ => id ∈ R
    | _ => False

instance (R : List TaskId) (s : State) (i : Nat) (p : Int) (id : TaskId) : Decidable (ReadyGood R s i p id) := by
  unfold ReadyGood
  cases s.task? id with
  | none => exact isFalse (fun h => h)
  | some t => simp only; cases t.state <;> simp only <;> infer_instance

/-- an id in the prefill set of queue `i`: a Prefilled task of the map with that request and priority -/
def PfGood (R : List TaskId) (s : State) (i : Nat) (pp : Int) (id : TaskId) : Prop :=
  match s.task? id with
  | none => False
  | some t =>
    t.rq = i ∧ t.prio = pp ∧ id ∉ R ∧
    match t.state with
    | .prefilled _ => True
    | _ => False

instance (R : List TaskId) (s : State) (i : Nat) (pp : Int) (id : TaskId) : Decidable (PfGood R s i pp id) := by
  unfold PfGood
  cases s.task? id with
  | none => exact isFalse (fun h => h)
  | some t => simp only; cases t.state <;> simp only <;> infer_instance

/-- the Prefilled task `t` is in the prefill set of its queue -/
def InPrefill (s : State) (t : Task) : Prop :=
  match s.queues[t.rq]? with
  | some q => t.id ∈ pfIds q
  | none => False

instance (s : State) (t : Task) : Decidable (InPrefill s t) := by
  unfold InPrefill
  cases s.queues[t.rq]? <;> simp only <;> infer_instance

/-- `id` is a Prefilled task of the map -/
def IsPrefilled (s : State) (id : TaskId) : Prop :=
  match s.task? id with
  | some t => (match t.state with | .prefilled _ => True | _ => False)
  | none => False

instance (s : State) (id : TaskId) : Decidable (IsPrefilled s id) := by
  unfold IsPrefilled
  cases s.task? id with
  | none => exact isFalse (fun h => h)
  | some t => simp only; cases t.state <;> simp only <;> infer_instance

/-- **the queues against the task states**: an id in a ready list (`rg`) or in a prefill set (`pg`) is that of a task
in the matching state, and a Prefilled task is in a prefill set (`pin`); that a `Waiting 0` task is in a ready list is
not part of it. `R` = ids disposed from a prefill set that `process_retracted` has not seen yet (Prefilled tasks, `rpre`):
empty at operation boundaries; `D` = tasks "in repair", exempt from `pin`: empty at boundaries -/
structure NpQ (D : TaskId → Prop) (R : List TaskId) (s : State) : Prop where
  wf : ∀ q ∈ s.queues, ReadyWf q.ready
  rg : ∀ p ∈ s.queues.zipIdx, ∀ e ∈ p.1.ready, ∀ id ∈ e.2, ReadyGood R s p.2 e.1 id
  pnd : ∀ q ∈ s.queues, (pfIds q).Nodup
  pg : ∀ p ∈ s.queues.zipIdx, ∀ pp ts, p.1.prefill = some (pp, ts) → ∀ id ∈ ts, PfGood R s p.2 pp id
  pin : ∀ t ∈ s.tasks, (∃ w, t.state = .prefilled w) → t.id ∉ R → ¬ D t.id → InPrefill s t
  rnd : R.Nodup
  rpre : ∀ id ∈ R, IsPrefilled s id

instance (R : List TaskId) (s : State) : Decidable (NpQ noD R s) := by
  have : ∀ p : Queue × Nat, Decidable (∀ pp ts, p.1.prefill = some (pp, ts) → ∀ id ∈ ts, PfGood R s p.2 pp id) := by
    intro p
    cases h : p.1.prefill with
    | none => exact isTrue (fun _ _ e => by cases e)
    | some x =>
      obtain ⟨pp, ts⟩ := x
      by_cases hc : ∀ id ∈ ts, PfGood R s p.2 pp id
      · exact isTrue (fun _ _ e => by cases e; exact hc)
      · exact isFalse (fun hh => hc (hh pp ts rfl))
  have : ∀ t : Task, Decidable (∃ w, t.state = .prefilled w) := by
    intro t
    cases h : t.state with
    | prefilled w => exact isTrue ⟨w, rfl⟩
    | _ => exact isFalse (fun ⟨_, e⟩ => by cases e)
  have : ∀ x : TaskId, Decidable (noD x) := fun _ => isFalse (fun e => e)
  exact decidable_of_iff' _
    ⟨fun h => And.intro h.wf (And.intro h.rg (And.intro h.pnd (And.intro h.pg (And.intro h.pin
      (And.intro h.rnd h.rpre))))),
     fun h => ⟨h.1, h.2.1, h.2.2.1, h.2.2.2.1, h.2.2.2.2.1, h.2.2.2.2.2.1, h.2.2.2.2.2.2⟩⟩

/-- **the additional invariant progress needs** (`noD = fun _ => False`: no task in repair) -/
structure NpInv (U : List TaskId) (R : List TaskId) (s : State) : Prop where
  w : NpW s
  idx : NpIdx s
  mn : NpMn s
  deps : NpDeps U s
  q : NpQ noD R s

instance (U R : List TaskId) (s : State) : Decidable (NpInv U R s) :=
  decidable_of_iff (NpW s ∧ NpIdx s ∧ NpMn s ∧ NpDeps U s ∧ NpQ noD R s)
    ⟨fun h => ⟨h.1, h.2.1, h.2.2.1, h.2.2.2.1, h.2.2.2.2⟩, fun h => ⟨h.1, h.2, h.3, h.4, h.5⟩⟩

end HqModel.Core
