import HqModel.Lemmas.CoreNoPanicFrameReactor
import HqModel.Lemmas.CoreNoPanicFrameSched
/-!
Preservation of `NpW` / `NpIdx` / `NpMn`: the frame lemmas read off per function and per component.
Functions that contain `process_retracted` need `RdRet s` (`Inv.rdRet`, `TWI.rdRet`) of the state they are applied to
for `NpIdx`. For the functions of `Sched.lean` the three components depend on each other: one lemma `<fn>_np3` for
`Np3 s = NpW s ∧ NpIdx s ∧ NpMn s`.
-/
namespace HqModel.Core.NPA

open HqModel.Core.NP

theorem addReady_npw {s s' : State} {t : Task} {r : List TaskId} (h : NpW s)
    (heq : s.addReady t = .ok (s', r)) : NpW s' := (addReady_fr heq : Fr True s s').npw h

theorem addReady_npidx {s s' : State} {t : Task} {r : List TaskId} (h : NpIdx s)
    (heq : s.addReady t = .ok (s', r)) : NpIdx s' := (addReady_fr heq).npidx h

theorem addReady_npmn {s s' : State} {t : Task} {r : List TaskId} (h : NpMn s)
    (heq : s.addReady t = .ok (s', r)) : NpMn s' := (addReady_fr heq : Fr True s s').npmn h

theorem queueRemove_npw {s s' : State} {rq : Nat} {t : TaskId} {p : Int} (h : NpW s)
    (heq : s.queueRemove rq t p = .ok s') : NpW s' := (queueRemove_fr heq : Fr True s s').npw h

theorem queueRemove_npidx {s s' : State} {rq : Nat} {t : TaskId} {p : Int} (h : NpIdx s)
    (heq : s.queueRemove rq t p = .ok s') : NpIdx s' := (queueRemove_fr heq).npidx h

theorem queueRemove_npmn {s s' : State} {rq : Nat} {t : TaskId} {p : Int} (h : NpMn s)
    (heq : s.queueRemove rq t p = .ok s') : NpMn s' := (queueRemove_fr heq : Fr True s s').npmn h

theorem removePrefilled_npw {s s' : State} {rq : Nat} {t : TaskId} (h : NpW s)
    (heq : s.removePrefilled rq t = .ok s') : NpW s' := (removePrefilled_fr heq : Fr True s s').npw h

theorem removePrefilled_npidx {s s' : State} {rq : Nat} {t : TaskId} (h : NpIdx s)
    (heq : s.removePrefilled rq t = .ok s') : NpIdx s' := (removePrefilled_fr heq).npidx h

theorem removePrefilled_npmn {s s' : State} {rq : Nat} {t : TaskId} (h : NpMn s)
    (heq : s.removePrefilled rq t = .ok s') : NpMn s' := (removePrefilled_fr heq : Fr True s s').npmn h

theorem movePrefilledToReady_npw {s s' : State} {rq : Nat} {t : TaskId} (h : NpW s)
    (heq : s.movePrefilledToReady rq t = .ok s') : NpW s' := (movePrefilledToReady_fr heq : Fr True s s').npw h

theorem movePrefilledToReady_npidx {s s' : State} {rq : Nat} {t : TaskId} (h : NpIdx s)
    (heq : s.movePrefilledToReady rq t = .ok s') : NpIdx s' := (movePrefilledToReady_fr heq).npidx h

theorem movePrefilledToReady_npmn {s s' : State} {rq : Nat} {t : TaskId} (h : NpMn s)
    (heq : s.movePrefilledToReady rq t = .ok s') : NpMn s' := (movePrefilledToReady_fr heq : Fr True s s').npmn h

theorem withWorker_npw {s s' : State} {w : Nat} {f : Worker → M Worker} (hop : WOp f) (h : NpW s)
    (heq : s.withWorker w f = .ok s') : NpW s' := (withWorker_fr hop heq : Fr True s s').npw h

theorem withWorker_npidx {s s' : State} {w : Nat} {f : Worker → M Worker} (hop : WOp f) (h : NpIdx s)
    (heq : s.withWorker w f = .ok s') : NpIdx s' := (withWorker_fr hop heq).npidx h

theorem withWorker_npmn {s s' : State} {w : Nat} {f : Worker → M Worker} (hop : WOp f) (h : NpMn s)
    (heq : s.withWorker w f = .ok s') : NpMn s' := (withWorker_fr hop heq : Fr True s s').npmn h

theorem processRetracted_npw (l : List TaskId) (s s' : State) (acc acc' : List (Nat × TaskId)) (h : NpW s)
    (heq : s.processRetracted l acc = .ok (s', acc')) : NpW s' := (processRetracted_fr _ _ _ _ _ heq : Fr True s s').npw h

theorem processRetracted_npidx (l : List TaskId) (s s' : State) (acc acc' : List (Nat × TaskId)) (hr : RdRet s) (h : NpIdx s)
    (heq : s.processRetracted l acc = .ok (s', acc')) : NpIdx s' := (processRetracted_fr _ _ _ _ _ heq).npidx' hr h

theorem processRetracted_npmn (l : List TaskId) (s s' : State) (acc acc' : List (Nat × TaskId)) (h : NpMn s)
    (heq : s.processRetracted l acc = .ok (s', acc')) : NpMn s' := (processRetracted_fr _ _ _ _ _ heq : Fr True s s').npmn h

theorem retract_npw {s s' : State} {l : List TaskId} {o : Out} (h : NpW s)
    (heq : s.retract l = .ok (s', o)) : NpW s' := (retract_fr heq : Fr True s s').npw h

theorem retract_npidx {s s' : State} {l : List TaskId} {o : Out} (hr : RdRet s) (h : NpIdx s)
    (heq : s.retract l = .ok (s', o)) : NpIdx s' := (retract_fr heq).npidx' hr h

theorem retract_npmn {s s' : State} {l : List TaskId} {o : Out} (h : NpMn s)
    (heq : s.retract l = .ok (s', o)) : NpMn s' := (retract_fr heq : Fr True s s').npmn h

theorem tryRemoveRedirection_npw {s s' : State} {t : TaskId} {rq : Nat} (h : NpW s)
    (heq : s.tryRemoveRedirection t rq = .ok s') : NpW s' := (tryRemoveRedirection_fr heq : Fr True s s').npw h

theorem tryRemoveRedirection_npidx {s s' : State} {t : TaskId} {rq : Nat} (h : NpIdx s)
    (heq : s.tryRemoveRedirection t rq = .ok s') : NpIdx s' := (tryRemoveRedirection_fr heq).npidx h

theorem tryRemoveRedirection_npmn {s s' : State} {t : TaskId} {rq : Nat} (h : NpMn s)
    (heq : s.tryRemoveRedirection t rq = .ok s') : NpMn s' := (tryRemoveRedirection_fr heq : Fr True s s').npmn h

theorem removeTask_npw {s s' : State} {id : TaskId} {st : TS} (h : NpW s)
    (heq : s.removeTask id = .ok (s', st)) : NpW s' := (removeTask_fr heq : Fr True s s').npw h

theorem removeTask_npidx {s s' : State} {id : TaskId} {st : TS} (h : NpIdx s)
    (heq : s.removeTask id = .ok (s', st)) : NpIdx s' := (removeTask_fr heq).npidx h

theorem removeTask_npmn {s s' : State} {id : TaskId} {st : TS} (h : NpMn s)
    (heq : s.removeTask id = .ok (s', st)) : NpMn s' := (removeTask_fr heq : Fr True s s').npmn h

theorem resetMnAll_npw (ws : List Nat) (s s' : State) (h : NpW s)
    (heq : resetMnAll s ws = .ok s') : NpW s' := (resetMnAll_fr _ _ _ heq : Fr True s s').npw h

theorem resetMnAll_npidx (ws : List Nat) (s s' : State) (h : NpIdx s)
    (heq : resetMnAll s ws = .ok s') : NpIdx s' := (resetMnAll_fr _ _ _ heq).npidx h

theorem resetMnAll_npmn (ws : List Nat) (s s' : State) (h : NpMn s)
    (heq : resetMnAll s ws = .ok s') : NpMn s' := (resetMnAll_fr _ _ _ heq : Fr True s s').npmn h

theorem cancelLoop_npw (ids : List TaskId) (s s' : State) (u u' : List TaskId) (r r' : List (Nat × List TaskId)) (h : NpW s)
    (heq : s.cancelLoop ids u r = .ok (s', u', r')) : NpW s' := (cancelLoop_fr _ _ _ _ _ _ _ heq : Fr True s s').npw h

theorem cancelLoop_npidx (ids : List TaskId) (s s' : State) (u u' : List TaskId) (r r' : List (Nat × List TaskId)) (h : NpIdx s)
    (heq : s.cancelLoop ids u r = .ok (s', u', r')) : NpIdx s' := (cancelLoop_fr _ _ _ _ _ _ _ heq).npidx h

theorem cancelLoop_npmn (ids : List TaskId) (s s' : State) (u u' : List TaskId) (r r' : List (Nat × List TaskId)) (h : NpMn s)
    (heq : s.cancelLoop ids u r = .ok (s', u', r')) : NpMn s' := (cancelLoop_fr _ _ _ _ _ _ _ heq : Fr True s s').npmn h

theorem removeTasksBatched_npw (ids : List TaskId) (s s' : State) (h : NpW s)
    (heq : s.removeTasksBatched ids = .ok s') : NpW s' := (removeTasksBatched_fr _ _ _ heq : Fr True s s').npw h

theorem removeTasksBatched_npidx (ids : List TaskId) (s s' : State) (h : NpIdx s)
    (heq : s.removeTasksBatched ids = .ok s') : NpIdx s' := (removeTasksBatched_fr _ _ _ heq).npidx h

theorem removeTasksBatched_npmn (ids : List TaskId) (s s' : State) (h : NpMn s)
    (heq : s.removeTasksBatched ids = .ok s') : NpMn s' := (removeTasksBatched_fr _ _ _ heq : Fr True s s').npmn h

theorem cancelTasks_npw {s s' : State} {ids : List TaskId} {o : Out} (h : NpW s)
    (heq : s.cancelTasks ids = .ok (s', o)) : NpW s' := (cancelTasks_fr heq : Fr True s s').npw h

theorem cancelTasks_npidx {s s' : State} {ids : List TaskId} {o : Out} (h : NpIdx s)
    (heq : s.cancelTasks ids = .ok (s', o)) : NpIdx s' := (cancelTasks_fr heq).npidx h

theorem cancelTasks_npmn {s s' : State} {ids : List TaskId} {o : Out} (h : NpMn s)
    (heq : s.cancelTasks ids = .ok (s', o)) : NpMn s' := (cancelTasks_fr heq : Fr True s s').npmn h

theorem removeWaitingAll_npw (ids : List TaskId) (s s' : State) (h : NpW s)
    (heq : s.removeWaitingAll ids = .ok s') : NpW s' := (removeWaitingAll_fr _ _ _ heq : Fr True s s').npw h

theorem removeWaitingAll_npidx (ids : List TaskId) (s s' : State) (h : NpIdx s)
    (heq : s.removeWaitingAll ids = .ok s') : NpIdx s' := (removeWaitingAll_fr _ _ _ heq).npidx h

theorem removeWaitingAll_npmn (ids : List TaskId) (s s' : State) (h : NpMn s)
    (heq : s.removeWaitingAll ids = .ok s') : NpMn s' := (removeWaitingAll_fr _ _ _ heq : Fr True s s').npmn h

theorem taskFailed_npw {s s' : State} {worker : Option Nat} {id : TaskId} {ret : List TaskId} {o : Out} (h : NpW s)
    (heq : s.taskFailed worker id ret = .ok (s', o)) : NpW s' := (taskFailed_fr heq : Fr True s s').npw h

theorem taskFailed_npidx {s s' : State} {worker : Option Nat} {id : TaskId} {ret : List TaskId} {o : Out} (h : NpIdx s)
    (heq : s.taskFailed worker id ret = .ok (s', o)) : NpIdx s' := (taskFailed_fr heq).npidx h

theorem taskFailed_npmn {s s' : State} {worker : Option Nat} {id : TaskId} {ret : List TaskId} {o : Out} (h : NpMn s)
    (heq : s.taskFailed worker id ret = .ok (s', o)) : NpMn s' := (taskFailed_fr heq : Fr True s s').npmn h

theorem taskRunning_npw {s s' : State} {w : Nat} {id : TaskId} {rv : Nat} {o : Out} (hnp : UpdNP s w (.running id rv)) (h : NpW s)
    (heq : s.taskRunning w id rv = .ok (s', o)) : NpW s' := (taskRunning_fr hnp heq : Fr True s s').npw h

theorem taskRunning_npidx {s s' : State} {w : Nat} {id : TaskId} {rv : Nat} {o : Out} (hnp : UpdNP s w (.running id rv)) (h : NpIdx s)
    (heq : s.taskRunning w id rv = .ok (s', o)) : NpIdx s' := (taskRunning_fr hnp heq).npidx h

theorem taskRunning_npmn {s s' : State} {w : Nat} {id : TaskId} {rv : Nat} {o : Out} (hnp : UpdNP s w (.running id rv)) (h : NpMn s)
    (heq : s.taskRunning w id rv = .ok (s', o)) : NpMn s' := (taskRunning_fr hnp heq : Fr True s s').npmn h

theorem resetMnChecked_npw (ws : List Nat) (s s' : State) (id : TaskId) (h : NpW s)
    (heq : resetMnChecked s id ws = .ok s') : NpW s' := (resetMnChecked_fr _ _ _ _ heq : Fr True s s').npw h

theorem resetMnChecked_npidx (ws : List Nat) (s s' : State) (id : TaskId) (h : NpIdx s)
    (heq : resetMnChecked s id ws = .ok s') : NpIdx s' := (resetMnChecked_fr _ _ _ _ heq).npidx h

theorem resetMnChecked_npmn (ws : List Nat) (s s' : State) (id : TaskId) (h : NpMn s)
    (heq : resetMnChecked s id ws = .ok s') : NpMn s' := (resetMnChecked_fr _ _ _ _ heq : Fr True s s').npmn h

theorem wakeConsumers_npw (cs : List TaskId) (s s' : State) (r r' : List TaskId) (h : NpW s)
    (heq : s.wakeConsumers cs r = .ok (s', r')) : NpW s' := (wakeConsumers_fr _ _ _ _ _ heq : Fr True s s').npw h

theorem wakeConsumers_npidx (cs : List TaskId) (s s' : State) (r r' : List TaskId) (h : NpIdx s)
    (heq : s.wakeConsumers cs r = .ok (s', r')) : NpIdx s' := (wakeConsumers_fr _ _ _ _ _ heq).npidx h

theorem wakeConsumers_npmn (cs : List TaskId) (s s' : State) (r r' : List TaskId) (h : NpMn s)
    (heq : s.wakeConsumers cs r = .ok (s', r')) : NpMn s' := (wakeConsumers_fr _ _ _ _ _ heq : Fr True s s').npmn h

theorem taskFinished_npw {s s' : State} {w : Nat} {id : TaskId} {o : Out} {b : Bool} (h : NpW s)
    (heq : s.taskFinished w id = .ok (s', o, b)) : NpW s' := (taskFinished_fr heq : Fr True s s').npw h

theorem taskFinished_npidx {s s' : State} {w : Nat} {id : TaskId} {o : Out} {b : Bool} (hr : RdRet s) (h : NpIdx s)
    (heq : s.taskFinished w id = .ok (s', o, b)) : NpIdx s' := (taskFinished_fr heq).npidx' hr h

theorem taskFinished_npmn {s s' : State} {w : Nat} {id : TaskId} {o : Out} {b : Bool} (h : NpMn s)
    (heq : s.taskFinished w id = .ok (s', o, b)) : NpMn s' := (taskFinished_fr heq : Fr True s s').npmn h

theorem taskReject_npw {s s' : State} {w : Nat} {id : TaskId} {rv : Option Nat} {o : Out} {b : Bool} (h : NpW s)
    (heq : s.taskReject w id rv = .ok (s', o, b)) : NpW s' := (taskReject_fr heq : Fr True s s').npw h

theorem taskReject_npidx {s s' : State} {w : Nat} {id : TaskId} {rv : Option Nat} {o : Out} {b : Bool} (hr : RdRet s) (h : NpIdx s)
    (heq : s.taskReject w id rv = .ok (s', o, b)) : NpIdx s' := (taskReject_fr heq).npidx' hr h

theorem taskReject_npmn {s s' : State} {w : Nat} {id : TaskId} {rv : Option Nat} {o : Out} {b : Bool} (h : NpMn s)
    (heq : s.taskReject w id rv = .ok (s', o, b)) : NpMn s' := (taskReject_fr heq : Fr True s s').npmn h

theorem requestEnabled_npw {s s' : State} {w rq rv : Nat} (h : NpW s)
    (heq : s.requestEnabled w rq rv = .ok s') : NpW s' := (requestEnabled_fr heq : Fr True s s').npw h

theorem requestEnabled_npidx {s s' : State} {w rq rv : Nat} (h : NpIdx s)
    (heq : s.requestEnabled w rq rv = .ok s') : NpIdx s' := (requestEnabled_fr heq).npidx h

theorem requestEnabled_npmn {s s' : State} {w rq rv : Nat} (h : NpMn s)
    (heq : s.requestEnabled w rq rv = .ok s') : NpMn s' := (requestEnabled_fr heq : Fr True s s').npmn h

theorem updateState_npw {s s' : State} {w : Nat} {u : Update} {rets rets' : List (List TaskId)} (hnp : UpdNP s w u) (h : NpW s)
    (heq : s.updateState w u rets = .ok (s', rets')) : NpW s' := (updateState_fr hnp heq : Fr True s s').npw h

theorem updateState_npidx {s s' : State} {w : Nat} {u : Update} {rets rets' : List (List TaskId)} (hnp : UpdNP s w u) (hr : RdRet s) (h : NpIdx s)
    (heq : s.updateState w u rets = .ok (s', rets')) : NpIdx s' := (updateState_fr hnp heq).npidx' hr h

theorem updateState_npmn {s s' : State} {w : Nat} {u : Update} {rets rets' : List (List TaskId)} (hnp : UpdNP s w u) (h : NpMn s)
    (heq : s.updateState w u rets = .ok (s', rets')) : NpMn s' := (updateState_fr hnp heq : Fr True s s').npmn h

theorem updateLoop_npw (us : List Update) (s s' : State) (w : Nat) (rets rets' : List (List TaskId)) (o o' : Out) (n n' : Bool) (hok : UpdatesOk UpdNP s w us rets) (h : NpW s)
    (heq : s.updateLoop w us rets o n = .ok (s', o', n', rets')) : NpW s' := (updateLoop_fr _ _ _ _ _ _ _ _ _ _ hok heq : Fr True s s').npw h

theorem updateLoop_npidx (us : List Update) (s s' : State) (w : Nat) (rets rets' : List (List TaskId)) (o o' : Out) (n n' : Bool) (hok : UpdatesOk UpdNP s w us rets) (hr : RdRet s) (h : NpIdx s)
    (heq : s.updateLoop w us rets o n = .ok (s', o', n', rets')) : NpIdx s' := (updateLoop_fr _ _ _ _ _ _ _ _ _ _ hok heq).npidx' hr h

theorem updateLoop_npmn (us : List Update) (s s' : State) (w : Nat) (rets rets' : List (List TaskId)) (o o' : Out) (n n' : Bool) (hok : UpdatesOk UpdNP s w us rets) (h : NpMn s)
    (heq : s.updateLoop w us rets o n = .ok (s', o', n', rets')) : NpMn s' := (updateLoop_fr _ _ _ _ _ _ _ _ _ _ hok heq : Fr True s s').npmn h

theorem taskUpdate_npw {s s' : State} {w : Nat} {us : List Update} {rets : List (List TaskId)} {o : Out} (hok : UpdatesOk UpdNP s w us rets) (h : NpW s)
    (heq : s.taskUpdate w us rets = .ok (s', o)) : NpW s' := (taskUpdate_fr hok heq : Fr True s s').npw h

theorem taskUpdate_npidx {s s' : State} {w : Nat} {us : List Update} {rets : List (List TaskId)} {o : Out} (hok : UpdatesOk UpdNP s w us rets) (hr : RdRet s) (h : NpIdx s)
    (heq : s.taskUpdate w us rets = .ok (s', o)) : NpIdx s' := (taskUpdate_fr hok heq).npidx' hr h

theorem taskUpdate_npmn {s s' : State} {w : Nat} {us : List Update} {rets : List (List TaskId)} {o : Out} (hok : UpdatesOk UpdNP s w us rets) (h : NpMn s)
    (heq : s.taskUpdate w us rets = .ok (s', o)) : NpMn s' := (taskUpdate_fr hok heq : Fr True s s').npmn h

theorem retractLoop_npw (ids : List TaskId) (s s' : State) (w : Nat) (acc acc' : List (Nat × TaskId × Nat)) (h : NpW s)
    (heq : s.retractLoop w ids acc = .ok (s', acc')) : NpW s' := (retractLoop_fr _ _ _ _ _ _ heq : Fr True s s').npw h

theorem retractLoop_npidx (ids : List TaskId) (s s' : State) (w : Nat) (acc acc' : List (Nat × TaskId × Nat)) (h : NpIdx s)
    (heq : s.retractLoop w ids acc = .ok (s', acc')) : NpIdx s' := (retractLoop_fr _ _ _ _ _ _ heq).npidx h

theorem retractLoop_npmn (ids : List TaskId) (s s' : State) (w : Nat) (acc acc' : List (Nat × TaskId × Nat)) (h : NpMn s)
    (heq : s.retractLoop w ids acc = .ok (s', acc')) : NpMn s' := (retractLoop_fr _ _ _ _ _ _ heq : Fr True s s').npmn h

theorem retractResponse_npw {s s' : State} {w : Nat} {ids : List TaskId} {o : Out} (h : NpW s)
    (heq : s.retractResponse w ids = .ok (s', o)) : NpW s' := (retractResponse_fr heq : Fr True s s').npw h

theorem retractResponse_npidx {s s' : State} {w : Nat} {ids : List TaskId} {o : Out} (h : NpIdx s)
    (heq : s.retractResponse w ids = .ok (s', o)) : NpIdx s' := (retractResponse_fr heq).npidx h

theorem retractResponse_npmn {s s' : State} {w : Nat} {ids : List TaskId} {o : Out} (h : NpMn s)
    (heq : s.retractResponse w ids = .ok (s', o)) : NpMn s' := (retractResponse_fr heq : Fr True s s').npmn h

theorem lostPrefilled_npw (ids : List TaskId) (s s' : State) (h : NpW s)
    (heq : s.lostPrefilled ids = .ok s') : NpW s' := (lostPrefilled_fr _ _ _ heq : Fr True s s').npw h

theorem lostPrefilled_npidx (ids : List TaskId) (s s' : State) (h : NpIdx s)
    (heq : s.lostPrefilled ids = .ok s') : NpIdx s' := (lostPrefilled_fr _ _ _ heq).npidx h

theorem lostPrefilled_npmn (ids : List TaskId) (s s' : State) (h : NpMn s)
    (heq : s.lostPrefilled ids = .ok s') : NpMn s' := (lostPrefilled_fr _ _ _ heq : Fr True s s').npmn h

theorem lostAssigned_npw (ids : List TaskId) (s s' : State) (ru ru' re re' : List TaskId) (h : NpW s)
    (heq : s.lostAssigned ids ru re = .ok (s', ru', re')) : NpW s' := (lostAssigned_fr _ _ _ _ _ _ _ heq : Fr True s s').npw h

theorem lostAssigned_npidx (ids : List TaskId) (s s' : State) (ru ru' re re' : List TaskId) (h : NpIdx s)
    (heq : s.lostAssigned ids ru re = .ok (s', ru', re')) : NpIdx s' := (lostAssigned_fr _ _ _ _ _ _ _ heq).npidx h

theorem lostAssigned_npmn (ids : List TaskId) (s s' : State) (ru ru' re re' : List TaskId) (h : NpMn s)
    (heq : s.lostAssigned ids ru re = .ok (s', ru', re')) : NpMn s' := (lostAssigned_fr _ _ _ _ _ _ _ heq : Fr True s s').npmn h

theorem lostRetracting_npw (l : List Task) (s s' : State) (w : Nat) (o o' : Out) (h : NpW s)
    (heq : s.lostRetracting w l o = .ok (s', o')) : NpW s' := (lostRetracting_fr _ _ _ _ _ _ heq : Fr True s s').npw h

theorem lostRetracting_npidx (l : List Task) (s s' : State) (w : Nat) (o o' : Out) (h : NpIdx s)
    (heq : s.lostRetracting w l o = .ok (s', o')) : NpIdx s' := (lostRetracting_fr _ _ _ _ _ _ heq).npidx h

theorem lostRetracting_npmn (l : List Task) (s s' : State) (w : Nat) (o o' : Out) (h : NpMn s)
    (heq : s.lostRetracting w l o = .ok (s', o')) : NpMn s' := (lostRetracting_fr _ _ _ _ _ _ heq : Fr True s s').npmn h

theorem crashLoop_npw (ids : List TaskId) (s s' : State) (f : Bool) (rets : List (List TaskId)) (o o' : Out) (h : NpW s)
    (heq : s.crashLoop f ids rets o = .ok (s', o')) : NpW s' := (crashLoop_fr _ _ _ _ _ _ _ heq : Fr True s s').npw h

theorem crashLoop_npidx (ids : List TaskId) (s s' : State) (f : Bool) (rets : List (List TaskId)) (o o' : Out) (h : NpIdx s)
    (heq : s.crashLoop f ids rets o = .ok (s', o')) : NpIdx s' := (crashLoop_fr _ _ _ _ _ _ _ heq).npidx h

theorem crashLoop_npmn (ids : List TaskId) (s s' : State) (f : Bool) (rets : List (List TaskId)) (o o' : Out) (h : NpMn s)
    (heq : s.crashLoop f ids rets o = .ok (s', o')) : NpMn s' := (crashLoop_fr _ _ _ _ _ _ _ heq : Fr True s s').npmn h

theorem removeWorker_npw {s s' : State} {w : Nat} {reason : String} {f : Bool} {order : List TaskId} {rets : List (List TaskId)} {o : Out} (h : NpW s)
    (heq : s.removeWorker w reason f order rets = .ok (s', o)) : NpW s' := (removeWorker_fr heq : Fr True s s').npw h

theorem removeWorker_npidx {s s' : State} {w : Nat} {reason : String} {f : Bool} {order : List TaskId} {rets : List (List TaskId)} {o : Out} (hr : RdRet s) (h : NpIdx s)
    (heq : s.removeWorker w reason f order rets = .ok (s', o)) : NpIdx s' := (removeWorker_fr heq).npidx' hr h

theorem removeWorker_npmn {s s' : State} {w : Nat} {reason : String} {f : Bool} {order : List TaskId} {rets : List (List TaskId)} {o : Out} (h : NpMn s)
    (heq : s.removeWorker w reason f order rets = .ok (s', o)) : NpMn s' := (removeWorker_fr heq : Fr True s s').npmn h

theorem placeSn_np3 {s s' : State} {m m' : List WUpdate} {v rq : Nat} {r : Rq} {id : TaskId} {w : Nat} (hn : Np3 s) (hr : s.rq rq v = .ok r) (hmn : s.isMultiNode rq = false) (hq : ∀ t ∈ s.tasks, t.id = id → t.rq = rq)
    (heq : s.placeSn m v r id w = .ok (s', m')) : Np3 s' := Fr.np3 ((placeSn_fr hn.1 hr hmn hq heq).fr) hn

theorem placeAll_np3 (l : List (TaskId × Nat)) (s s' : State) (m m' : List WUpdate) (v rq : Nat) (r : Rq) (hn : Np3 s) (hr : s.rq rq v = .ok r) (hmn : s.isMultiNode rq = false) (hq : ∀ p ∈ l, ∀ t ∈ s.tasks, t.id = p.1 → t.rq = rq)
    (heq : s.placeAll m v r l = .ok (s', m')) : Np3 s' := Fr.np3 ((placeAll_fr _ _ _ _ _ _ _ _ hn.1 hr hmn hq heq).fr) hn

theorem mapSn_np3 (es : List SnEntry) (s s' : State) (now : Nat) (m m' : List WUpdate) (hn : Np3 s) (hq : QRq s) (hok : SnOk now s m es)
    (heq : s.mapSn now m es = .ok (s', m')) : Np3 s' := Fr.np3 ((mapSn_fr _ _ _ _ _ _ hn.1 hq hok heq).fr) hn

theorem setMnAll_np3 (l : List Nat) (s s' : State) (id : TaskId) (first : Bool) (hn : Np3 s)
    (heq : setMnAll s id l first = .ok s') : Np3 s' := Fr.np3 ((setMnAll_fr _ _ _ _ _ heq).fr) hn

theorem mapMnSets_np3 (sets : List (List Nat)) (s s' : State) (rq : Nat) (acc acc' : List TaskId) (hn : Np3 s) (hok : MnSetsOk rq s acc sets)
    (heq : s.mapMnSets rq sets acc = .ok (s', acc')) : Np3 s' := Fr.np3 ((mapMnSets_fr _ _ _ _ _ _ hok heq).fr) hn

theorem mapMn_np3 (es : List MnEntry) (s s' : State) (acc acc' : List TaskId) (hn : Np3 s) (hok : MnEntriesOk s acc es)
    (heq : s.mapMn es acc = .ok (s', acc')) : Np3 s' := Fr.np3 ((mapMn_fr _ _ _ _ _ hok heq).fr) hn

theorem prefillBack_np3 (rq : Nat) (l : List TaskId) (s s' : State) (keep keep' : List TaskId) (hn : Np3 s)
    (heq : State.prefillWorker.back rq s l keep = .ok (s', keep')) : Np3 s' := Fr.np3 ((prefillBack_fr _ _ _ _ _ _ heq).1.fr) hn

theorem prefillMark_np3 (w rq : Nat) (l : List TaskId) (s s' : State) (hn : Np3 s) (hmn : s.isMultiNode rq = false) (hq : ∀ id ∈ l, ∀ t ∈ s.tasks, t.id = id → t.rq = rq)
    (heq : State.prefillWorker.mark w s l = .ok s') : Np3 s' := Fr.np3 ((prefillMark_fr _ _ _ _ _ hmn hq heq).fr) hn

theorem prefillWorker_np3 {s s' : State} {m m' : List WUpdate} {rq size w : Nat} (hn : Np3 s) (hq : QRq s) (hmn : s.isMultiNode rq = false)
    (heq : s.prefillWorker m rq size w = .ok (s', m')) : Np3 s' := Fr.np3 ((prefillWorker_fr hq hmn heq).fr) hn

theorem prefillWorkers_np3 (ws : List Nat) (s s' : State) (m m' : List WUpdate) (rq size : Nat) (hn : Np3 s) (hq : QRq s) (hmn : s.isMultiNode rq = false)
    (heq : s.prefillWorkers m rq size ws = .ok (s', m')) : Np3 s' := Fr.np3 ((prefillWorkers_fr _ _ _ _ _ _ _ hq hmn heq).fr) hn

theorem proactive_np3 {c0 : State} {acc : List TaskId} (n : Nat) (s s' : State) (m m' : List WUpdate) (orders : List (Nat × List Nat)) (top : Int) (rq : Nat) (hn : Np3 s) (hq : QRq s) (hm : SI c0 s m acc)
    (heq : s.proactive m orders top n rq = .ok (s', m')) : Np3 s' := Fr.np3 ((proactive_fr _ _ _ _ _ _ _ _ hq hn.2.2 hm heq).fr) hn

theorem schedule_np3 {s s' : State} {sol : Solution} {o : Out} (hn : Np3 s) (hnd : (taskIds s.tasks).Nodup) (hq : QRq s) (hok : SolOk s sol)
    (heq : s.schedule sol = .ok (s', o)) : Np3 s' := Fr.np3 (schedule_fr hq hn.1 hn.2.2 hok heq) hn

end HqModel.Core.NPA
