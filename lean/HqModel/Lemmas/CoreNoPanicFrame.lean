import HqModel.Lemmas.CoreNoPanicBase
/-!
Preservation of `NpW`, `NpIdx`, `NpMn`: one frame relation `Fr all s s'` carries all three. It is a preorder, so it
chains through every intermediate state of an operation and no invariant is needed in between. The flag: `HG False` is
the clause `NpIdx.held`; `HG True` also covers redirects of tasks that are not Retracting. `process_retracted` turns
Prefilled into Retracting without looking at the redirect table, so it and its callers are frames only for
`all = True`, and `Fr.npidx'` then needs `RdRet` of the state the function is applied to. Then the frame for the
functions of `Core/Model.lean`.
-/
namespace HqModel.Core.NPA

open HqModel.Core.NP

def FreeOk (wk : Worker) : Prop := ∀ A F P, wk.assign = .sn A F P → F.length = wk.total.length

/-- worker ids are a sublist; a record found in `ws'` descends from the one found in `ws` under the same id, with the
same `total`, and keeps `FreeOk` -/
structure WFr (ws ws' : List Worker) : Prop where
  ids : (ws'.map (·.id)).Sublist (ws.map (·.id))
  find : ∀ w wk', findWorker ws' w = some wk' →
    ∃ wk, findWorker ws w = some wk ∧ wk.total = wk'.total ∧ (FreeOk wk → FreeOk wk')

theorem WFr.refl (ws : List Worker) : WFr ws ws :=
  ⟨List.Sublist.refl _, fun _ wk' h => ⟨wk', h, rfl, fun h => h⟩⟩

theorem WFr.trans {a b c : List Worker} (h1 : WFr a b) (h2 : WFr b c) : WFr a c := by
  refine ⟨h2.ids.trans h1.ids, ?_⟩
  intro w wk'' h
  obtain ⟨wk', hf', e', f'⟩ := h2.find w wk'' h
  obtain ⟨wk, hf, e, f⟩ := h1.find w wk' hf'
  exact ⟨wk, hf, e.trans e', fun x => f' (f x)⟩

theorem WFr.put {ws : List Worker} {wk wk' : Worker} (hf : findWorker ws wk'.id = some wk)
    (ht : wk'.total = wk.total) (hfree : FreeOk wk → FreeOk wk') : WFr ws (putWorker ws wk') := by
  refine ⟨by rw [putWorker_ids]; exact List.Sublist.refl _, ?_⟩
  intro w x hx
  rw [findWorker_putWorker] at hx
  split at hx
  · rename_i e
    subst e
    rw [hf] at hx
    simp only [Option.map_some, Option.some.injEq] at hx
    subst hx
    exact ⟨wk, hf, ht.symm, hfree⟩
  · exact ⟨x, hx, rfl, fun h => h⟩

theorem WFr.filter (ws : List Worker) (w : Nat) : WFr ws (ws.filter (·.id ≠ w)) := by
  refine ⟨List.Sublist.map _ List.filter_sublist, ?_⟩
  intro x wk' hx
  rw [findWorker_filter] at hx
  split at hx
  · cases hx
  · exact ⟨wk', hx, rfl, fun h => h⟩

theorem findWorker_none_of_not_mem {ws : List Worker} {w : Nat} (h : w ∉ ws.map (·.id)) : findWorker ws w = none := by
  induction ws with
  | nil => rfl
  | cons y ys ih =>
    simp only [List.map_cons, List.mem_cons, not_or] at h
    have : ¬ y.id = w := fun e => h.1 e.symm
    simp only [findWorker, this, if_false]
    exact ih h.2

theorem not_mem_of_findWorker_none {ws : List Worker} {w : Nat} (h : findWorker ws w = none) : w ∉ ws.map (·.id) := by
  induction ws with
  | nil => simp
  | cons y ys ih =>
    simp only [findWorker] at h
    split at h
    · cases h
    · rename_i hy
      simp only [List.map_cons, List.mem_cons, not_or]
      exact ⟨fun e => hy e.symm, ih h⟩

def WOp (f : Worker → M Worker) : Prop :=
  ∀ wk wk', f wk = .ok wk' → wk'.id = wk.id ∧ wk'.total = wk.total ∧ (FreeOk wk → FreeOk wk')

theorem WOp.of_sn {f : Worker → M Worker}
    (h : ∀ wk wk', f wk = .ok wk' → ∃ A F P A' F' P', wk.assign = .sn A F P ∧ F'.length = F.length ∧
      wk' = { wk with assign := .sn A' F' P' }) : WOp f := by
  intro wk wk' hf
  obtain ⟨A, F, P, A', F', P', ha, hl, rfl⟩ := h wk wk' hf
  refine ⟨rfl, rfl, fun hfo A'' F'' P'' e => ?_⟩
  cases e
  rw [hl]; exact hfo A F P ha

theorem wop_removeSn (t : TaskId) (r : Rq) : WOp (·.removeSn t r) :=
  WOp.of_sn fun _ _ h => by
    obtain ⟨A, F, P, F', ha, hf, _, rfl⟩ := removeSn_spec h
    exact ⟨A, F, P, _, F', _, ha, freeAdd_length hf, rfl⟩

theorem wop_insertSn (t : TaskId) (r : Rq) : WOp (·.insertSn t r) :=
  WOp.of_sn fun _ _ h => by
    obtain ⟨A, F, P, F', ha, hf, _, rfl⟩ := insertSn_spec h
    exact ⟨A, F, P, _, F', _, ha, freeRemove_length hf, rfl⟩

theorem wop_removePrefill (t : TaskId) : WOp (·.removePrefill t) :=
  WOp.of_sn fun _ _ h => by
    obtain ⟨A, F, P, ha, _, rfl⟩ := removePrefill_spec h
    exact ⟨A, F, P, _, F, _, ha, rfl, rfl⟩

theorem wop_insertPrefill (t : TaskId) : WOp (·.insertPrefill t) :=
  WOp.of_sn fun _ _ h => by
    obtain ⟨A, F, P, ha, _, rfl⟩ := insertPrefill_spec h
    exact ⟨A, F, P, _, F, _, ha, rfl, rfl⟩

theorem wop_prefilledToStarted (t : TaskId) (r : Rq) : WOp (·.prefilledToStarted t r) :=
  WOp.of_sn fun _ _ h => by
    obtain ⟨A, F, P, F', ha, hf, _, _, rfl⟩ := prefilledToStarted_spec h
    exact ⟨A, F, P, _, F', _, ha, freeRemove_length hf, rfl⟩

theorem wop_setMn (t : TaskId) (root : Bool) : WOp (·.setMn t root) := by
  intro wk wk' h
  obtain ⟨_, rfl⟩ := setMn_spec h
  exact ⟨rfl, rfl, fun _ A F P e => by cases e⟩

theorem wop_unblock (rq rv : Nat) : WOp (fun wk => (.ok { wk with blocked := wk.blocked.erase (rq, rv) } : M Worker)) := by
  intro wk wk' h
  cases h; exact ⟨rfl, rfl, fun h => h⟩

theorem freeOk_emptySn (wk : Worker) : FreeOk wk.emptySn := by
  intro A F P e
  simp only [Worker.emptySn, Assign.sn.injEq] at e
  obtain ⟨_, rfl, _⟩ := e
  rfl

def MnOkS (st : TS) : Prop := ∀ ws, st = .runningMN ws → ws ≠ [] ∧ ws.Nodup

/-- `HeldT` on (id, state) -/
def HeldS (rd : List (TaskId × Nat × Nat)) (id : TaskId) (st : TS) (w v : Nat) : Prop :=
  st = .assigned w v ∨ st = .running w v ∨ ((∃ w0, st = .retracting w0) ∧ (id, w, v) ∈ rd)

theorem heldT_iff {rd : List (TaskId × Nat × Nat)} {t : Task} {w v : Nat} :
    HeldT rd t w v ↔ HeldS rd t.id t.state w v := Iff.rfl

/-- held, or (flag `all`) named by a redirect whatever the state is -/
def Held (all : Prop) (rd : List (TaskId × Nat × Nat)) (id : TaskId) (st : TS) (w v : Nat) : Prop :=
  HeldS rd id st w v ∨ (all ∧ (id, w, v) ∈ rd)

def HG (all : Prop) (s : State) (t : Task) : Prop :=
  ∀ w v, Held all s.redirects t.id t.state w v → IdxOk s w t.rq v

def SnG (s : State) (t : Task) : Prop := snState t.state → s.isMultiNode t.rq = false

/-- `t'` descends from `t`: `MnOkS`, `SnG` and `HG all` carry over. Pointwise implications, so a function may justify a
new state by the old record or directly (by `RunIdx`, `placeFits`, `MnSetOk`) -/
structure TK (all : Prop) (s s' : State) (t t' : Task) : Prop where
  rq : t'.rq = t.rq
  id : t'.id = t.id
  mn : MnOkS t.state → MnOkS t'.state
  sn : SnG s t → SnG s' t'
  hg : HG all s t → HG all s' t'

structure Fr (all : Prop) (s s' : State) : Prop where
  rqs : s'.rqs = s.rqs
  ql : s'.queues.length = s.queues.length
  w : WFr s.workers s'.workers
  t : ∀ t' ∈ s'.tasks, ∃ t ∈ s.tasks, TK all s s' t t'

theorem TK.refl (all : Prop) (s : State) (t : Task) : TK all s s t t := ⟨rfl, rfl, fun h => h, fun h => h, fun h => h⟩

theorem TK.trans {all : Prop} {a b c : State} {x y z : Task} (h1 : TK all a b x y) (h2 : TK all b c y z) :
    TK all a c x z :=
  ⟨h2.rq.trans h1.rq, h2.id.trans h1.id, fun h => h2.mn (h1.mn h), fun h => h2.sn (h1.sn h), fun h => h2.hg (h1.hg h)⟩

theorem Fr.refl (all : Prop) (s : State) : Fr all s s :=
  ⟨rfl, rfl, WFr.refl _, fun t ht => ⟨t, ht, TK.refl all s t⟩⟩

theorem Fr.trans {all : Prop} {a b c : State} (h1 : Fr all a b) (h2 : Fr all b c) : Fr all a c := by
  refine ⟨h2.rqs.trans h1.rqs, h2.ql.trans h1.ql, h1.w.trans h2.w, ?_⟩
  intro z hz
  obtain ⟨y, hy, r2⟩ := h2.t z hz
  obtain ⟨x, hx, r1⟩ := h1.t y hy
  exact ⟨x, hx, r1.trans r2⟩

theorem IdxOk.fr {s s' : State} {w rq v : Nat} (hr : s'.rqs = s.rqs) (hw : WFr s.workers s'.workers)
    (h : IdxOk s w rq v) : IdxOk s' w rq v := by
  obtain ⟨r, h1, h2⟩ := h.elim
  refine IdxOk.intro (r := r) (by rw [rq_congr hr]; exact h1) ?_
  intro wk' hwk' e he
  obtain ⟨wk, hf, ht, _⟩ := hw.find w wk' hwk'
  rw [← ht]; exact h2 wk hf e he

theorem Fr.npw {all : Prop} {s s' : State} (h : Fr all s s') (hn : NpW s) : NpW s' := by
  have hnd : (s'.workers.map (·.id)).Nodup := h.w.ids.nodup hn.nd
  refine ⟨hnd, ?_⟩
  intro wk' hwk'
  obtain ⟨wk, hf, _, hfo⟩ := h.w.find wk'.id wk' (findWorker_of_mem hnd hwk')
  exact hfo (hn.free wk (findWorker_some_mem hf))

theorem Fr.npmn {all : Prop} {s s' : State} (h : Fr all s s') (hn : NpMn s) : NpMn s' := by
  refine ⟨?_, ?_⟩
  · intro t' ht'
    obtain ⟨t, ht, r⟩ := h.t t' ht'
    exact r.mn (hn.ne t ht)
  · intro t' ht'
    obtain ⟨t, ht, r⟩ := h.t t' ht'
    exact r.sn (hn.sn t ht)

/-- redirects exist only for Retracting tasks, for the members of the task list (`NPC.RdRetr` is the lookup form): the
frame relation speaks of members, and with this form `Fr.npidx'` needs no unique ids -/
def RdRet (s : State) : Prop :=
  ∀ x ∈ s.redirects, ∀ t ∈ s.tasks, t.id = x.1 → ∃ w0, t.state = .retracting w0

theorem hg_of_held {s : State} {t : Task} (h : ∀ w v, HeldT s.redirects t w v → IdxOk s w t.rq v) : HG False s t := by
  intro w v hh
  rcases hh with hh | ⟨f, _⟩
  · exact h w v hh
  · exact f.elim

theorem hg_of_held' {s : State} {t : Task} (hr : RdRet s) (ht : t ∈ s.tasks)
    (h : ∀ w v, HeldT s.redirects t w v → IdxOk s w t.rq v) : HG True s t := by
  intro w v hh
  rcases hh with hh | ⟨_, hm⟩
  · exact h w v hh
  · exact h w v (Or.inr (Or.inr ⟨hr _ hm t ht rfl, hm⟩))

theorem HG.held {all : Prop} {s : State} {t : Task} (h : HG all s t) :
    ∀ w v, HeldT s.redirects t w v → IdxOk s w t.rq v := fun w v hh => h w v (Or.inl hh)

theorem Fr.npidx_core {all : Prop} {s s' : State} (h : Fr all s s') (hn : NpIdx s)
    (hg : ∀ t ∈ s.tasks, HG all s t) : NpIdx s' := by
  refine ⟨by rw [h.ql, h.rqs]; exact hn.ql, ?_, ?_⟩
  · intro t' ht'
    obtain ⟨t, ht, r⟩ := h.t t' ht'
    rw [r.rq, h.rqs]; exact hn.rq t ht
  · intro t' ht'
    obtain ⟨t, ht, r⟩ := h.t t' ht'
    exact (r.hg (hg t ht)).held

theorem Fr.npidx {s s' : State} (h : Fr False s s') (hn : NpIdx s) : NpIdx s' :=
  h.npidx_core hn (fun t ht => hg_of_held (hn.held t ht))

theorem Fr.npidx' {s s' : State} (h : Fr True s s') (hr : RdRet s) (hn : NpIdx s) : NpIdx s' :=
  h.npidx_core hn (fun t ht => hg_of_held' hr ht (hn.held t ht))

theorem RdRet.of_stOf {s : State} (hn : (taskIds s.tasks).Nodup)
    (hd : NPC.RdRetr s) : RdRet s := by
  intro x hx t ht hid
  obtain ⟨a, w, v⟩ := x
  obtain ⟨w0, h0⟩ := hd a w v hx
  have := mem_find_of_nodup hn ht
  simp only at hid
  rw [hid] at this
  rw [stOf_of_find this] at h0
  exact ⟨w0, by simpa using h0⟩

theorem _root_.HqModel.Core.Inv.rdRet {s : State} (hi : Inv s) : RdRet s := RdRet.of_stOf hi.nd hi.ls.d1

theorem _root_.HqModel.Core.TWI.rdRet {D : TaskId → Prop} {s : State} (hi : TWI D s) (hn : (taskIds s.tasks).Nodup) :
    RdRet s := RdRet.of_stOf hn hi.tw.d0

def Np3 (s : State) : Prop := NpW s ∧ NpIdx s ∧ NpMn s

theorem Fr.np3 {s s' : State} (h : Fr False s s') (hn : Np3 s) : Np3 s' :=
  ⟨h.npw hn.1, h.npidx hn.2.1, h.npmn hn.2.2⟩

theorem Fr.np3' {s s' : State} (h : Fr True s s') (hr : RdRet s) (hn : Np3 s) : Np3 s' :=
  ⟨h.npw hn.1, h.npidx' hr hn.2.1, h.npmn hn.2.2⟩

theorem HeldS.mono {rd rd' : List (TaskId × Nat × Nat)} (hrd : ∀ x ∈ rd', x ∈ rd) {id : TaskId} {st : TS} {w v : Nat}
    (h : HeldS rd' id st w v) : HeldS rd id st w v := by
  rcases h with h | h | ⟨h1, h2⟩
  · exact Or.inl h
  · exact Or.inr (Or.inl h)
  · exact Or.inr (Or.inr ⟨h1, hrd _ h2⟩)

theorem Held.mono {all : Prop} {rd rd' : List (TaskId × Nat × Nat)} (hrd : ∀ x ∈ rd', x ∈ rd) {id : TaskId} {st : TS}
    {w v : Nat} (h : Held all rd' id st w v) : Held all rd id st w v := by
  rcases h with h | ⟨a, h⟩
  · exact Or.inl (h.mono hrd)
  · exact Or.inr ⟨a, hrd _ h⟩

theorem TK.of_eq {all : Prop} {s s' : State} {t t' : Task} (hrqs : s'.rqs = s.rqs) (hw : WFr s.workers s'.workers)
    (hrd : ∀ x ∈ s'.redirects, x ∈ s.redirects) (hid : t'.id = t.id) (hrq : t'.rq = t.rq) (hst : t'.state = t.state) :
    TK all s s' t t' := by
  refine ⟨hrq, hid, by rw [hst]; exact fun h => h, ?_, ?_⟩
  · intro h hs
    rw [hst] at hs
    rw [isMultiNode_congr hrqs, hrq]; exact h hs
  · intro h w v hh
    rw [hid, hst] at hh
    rw [hrq]
    exact IdxOk.fr hrqs hw (h w v (hh.mono hrd))

theorem Fr.of_tasks {all : Prop} {s s' : State} (hrqs : s'.rqs = s.rqs) (hql : s'.queues.length = s.queues.length)
    (hw : WFr s.workers s'.workers) (hrd : ∀ x ∈ s'.redirects, x ∈ s.redirects)
    (ht : ∀ t' ∈ s'.tasks, ∃ t ∈ s.tasks, t'.id = t.id ∧ t'.rq = t.rq ∧ t'.state = t.state) : Fr all s s' := by
  refine ⟨hrqs, hql, hw, ?_⟩
  intro t' ht'
  obtain ⟨t, hm, a, b, c⟩ := ht t' ht'
  exact ⟨t, hm, TK.of_eq hrqs hw hrd a b c⟩

theorem Fr.of_same {all : Prop} {s s' : State} (hrqs : s'.rqs = s.rqs) (hql : s'.queues.length = s.queues.length)
    (hw : WFr s.workers s'.workers) (hrd : ∀ x ∈ s'.redirects, x ∈ s.redirects) (ht : s'.tasks = s.tasks) :
    Fr all s s' :=
  Fr.of_tasks hrqs hql hw hrd (fun t' h => ⟨t', by rw [← ht]; exact h, rfl, rfl, rfl⟩)

/-- **one record replaced** (`told` ↦ `tn`), redirects shrink: the new state of the record is justified by the old
one (`Held … told`) or directly (`IdxOk`, single-node request) -/
theorem Fr.of_put {all : Prop} {s s' : State} {told tn : Task} (hrqs : s'.rqs = s.rqs)
    (hql : s'.queues.length = s.queues.length) (hw : WFr s.workers s'.workers)
    (hts : s'.tasks = putTask s.tasks tn) (hrd : ∀ x ∈ s'.redirects, x ∈ s.redirects)
    (hf : told ∈ s.tasks) (hid : tn.id = told.id) (hrq : tn.rq = told.rq)
    (hmn : MnOkS told.state → MnOkS tn.state)
    (hsn : snState tn.state → snState told.state ∨ s.isMultiNode told.rq = false)
    (hh : ∀ w v, HeldS s'.redirects tn.id tn.state w v →
      Held all s.redirects told.id told.state w v ∨ IdxOk s w told.rq v) : Fr all s s' := by
  refine ⟨hrqs, hql, hw, ?_⟩
  intro t' ht'
  rw [hts] at ht'
  rcases mem_putTask ht' with e | e
  · subst e
    refine ⟨told, hf, hrq, hid, hmn, ?_, ?_⟩
    · intro h hs
      rw [isMultiNode_congr hrqs, hrq]
      rcases hsn hs with h1 | h1
      · exact h h1
      · exact h1
    · intro h w v hx
      rw [hrq]
      have : Held all s.redirects told.id told.state w v ∨ IdxOk s w told.rq v := by
        rcases hx with hx | ⟨a, hx⟩
        · exact hh w v hx
        · exact Or.inl (Or.inr ⟨a, by rw [← hid]; exact hrd _ hx⟩)
      rcases this with h1 | h1
      · exact IdxOk.fr hrqs hw (h w v h1)
      · exact IdxOk.fr hrqs hw h1
  · exact ⟨t', e, TK.of_eq hrqs hw hrd rfl rfl rfl⟩

theorem Fr.setTask {all : Prop} {s : State} {told tn : Task} {id : TaskId} (hf : findTask s.tasks id = some told)
    (hid : tn.id = told.id) (hrq : tn.rq = told.rq)
    (hmn : MnOkS told.state → MnOkS tn.state)
    (hsn : snState tn.state → snState told.state ∨ s.isMultiNode told.rq = false)
    (hh : ∀ w v, HeldS s.redirects tn.id tn.state w v →
      Held all s.redirects told.id told.state w v ∨ IdxOk s w told.rq v) : Fr all s (s.setTask tn) :=
  Fr.of_put rfl rfl (WFr.refl _) rfl (fun _ h => h) (findTask_some_mem hf) hid hrq hmn hsn hh

theorem mnOkS_of_not_mn {st st' : TS} (h : ∀ ws, st' ≠ .runningMN ws) : MnOkS st → MnOkS st' :=
  fun _ ws e => absurd e (h ws)

theorem Fr.setFree {all : Prop} {s : State} {told tn : Task} {id : TaskId} (hf : findTask s.tasks id = some told)
    (hid : tn.id = told.id) (hrq : tn.rq = told.rq) (hst : (∃ n, tn.state = .waiting n) ∨ tn.state = .finished) :
    Fr all s (s.setTask tn) := by
  refine Fr.setTask hf hid hrq ?_ ?_ ?_
  · refine mnOkS_of_not_mn ?_
    rcases hst with ⟨n, e⟩ | e <;> rw [e] <;> intro ws h <;> cases h
  · rcases hst with ⟨n, e⟩ | e <;> rw [e] <;> intro h <;> exact h.elim
  · intro w v h
    rcases hst with ⟨n, e⟩ | e <;> rw [e] at h <;> rcases h with h | h | ⟨⟨_, h⟩, _⟩ <;> cases h

theorem Fr.setSame {all : Prop} {s : State} {told tn : Task} {id : TaskId} (hf : findTask s.tasks id = some told)
    (hid : tn.id = told.id) (hrq : tn.rq = told.rq) (hst : tn.state = told.state) : Fr all s (s.setTask tn) := by
  refine Fr.setTask hf hid hrq (by rw [hst]; exact fun h => h) (by rw [hst]; exact fun h => Or.inl h) ?_
  intro w v h
  rw [hid, hst] at h
  exact Or.inl (Or.inl h)

theorem Fr.ask {all : Prop} (s : State) : Fr all s (ask s) :=
  Fr.of_same rfl rfl (WFr.refl _) (fun _ h => h) rfl

theorem withWorker_fr {all : Prop} {s s' : State} {w : Nat} {f : Worker → M Worker} (hop : WOp f)
    (h : s.withWorker w f = .ok s') : Fr all s s' := by
  obtain ⟨wk, wk', hfw, hf, rfl⟩ := withWorker_spec h
  obtain ⟨a, b, c⟩ := hop wk wk' hf
  have hid : wk.id = w := findWorker_some_id hfw
  exact Fr.of_same rfl rfl (WFr.put (wk := wk) (by rw [a, hid]; exact hfw) b c) (fun _ h => h) rfl

theorem setWorker_fr {all : Prop} {s : State} {w : Nat} {wk wk' : Worker} (hfw : findWorker s.workers w = some wk)
    (hid : wk'.id = wk.id) (ht : wk'.total = wk.total) (hfree : FreeOk wk → FreeOk wk') : Fr all s (s.setWorker wk') := by
  have : wk.id = w := findWorker_some_id hfw
  exact Fr.of_same rfl rfl (WFr.put (wk := wk) (by rw [hid, this]; exact hfw) ht hfree) (fun _ h => h) rfl

theorem Fr.of_queues {all : Prop} {s s' : State} (ht : s'.tasks = s.tasks) (hw : s'.workers = s.workers)
    (hr : s'.rqs = s.rqs) (hrd : s'.redirects = s.redirects) (hql : s'.queues.length = s.queues.length) : Fr all s s' :=
  Fr.of_same hr hql (by rw [hw]; exact WFr.refl _) (by rw [hrd]; exact fun _ h => h) ht

theorem addReady_fr {all : Prop} {s s' : State} {t : Task} {r : List TaskId} (h : s.addReady t = .ok (s', r)) :
    Fr all s s' := by
  obtain ⟨-, -, rfl⟩ := addReady_ok_iff.mp h
  exact Fr.of_queues rfl rfl rfl rfl (by simp [NPC.length_modifyQueue, NPC.length_disposeAll])

theorem queueRemove_fr {all : Prop} {s s' : State} {rq : Nat} {t : TaskId} {p : Int}
    (h : s.queueRemove rq t p = .ok s') : Fr all s s' := by
  obtain ⟨-, rfl⟩ := queueRemove_ok_iff.mp h
  exact Fr.of_queues rfl rfl rfl rfl (by simp [NPC.length_modifyQueue])

theorem removePrefilled_fr {all : Prop} {s s' : State} {rq : Nat} {t : TaskId}
    (h : s.removePrefilled rq t = .ok s') : Fr all s s' := by
  obtain ⟨q, pp, ts, -, -, -, rfl⟩ := removePrefilled_ok_iff.mp h
  exact Fr.of_queues rfl rfl rfl rfl (by simp)

theorem movePrefilledToReady_fr {all : Prop} {s s' : State} {rq : Nat} {t : TaskId}
    (h : s.movePrefilledToReady rq t = .ok s') : Fr all s s' := by
  obtain ⟨q, pp, ts, -, -, -, rfl⟩ := movePrefilledToReady_ok_iff.mp h
  exact Fr.of_queues rfl rfl rfl rfl (by simp)

theorem tryRemoveRedirection_fr {all : Prop} {s s' : State} {t : TaskId} {rq : Nat}
    (h : s.tryRemoveRedirection t rq = .ok s') : Fr all s s' := by
  rcases tryRemoveRedirection_cases h with ⟨-, rfl⟩ | ⟨w, rv, r, -, -, hw⟩
  · exact Fr.refl _ _
  · exact Fr.trans (b := { s with redirects := s.redirects.filter (·.1 ≠ t) })
      (Fr.of_same rfl rfl (WFr.refl _) (fun x hx => (List.mem_filter.mp hx).1) rfl) (withWorker_fr (wop_removeSn _ _) hw)

theorem removeConsumer_fr {all : Prop} {s : State} {ts' : List Task} {d c : TaskId}
    (h : removeConsumer s.tasks d c = .ok ts') : Fr all s { s with tasks := ts' } :=
  Fr.of_tasks rfl rfl (WFr.refl _) (fun _ h => h) (NPC.mem_of_krel (NPC.removeConsumer_krel h))

theorem removeConsumers_fr {all : Prop} {s : State} {ts' : List Task} {c : TaskId} {deps : List TaskId}
    (h : removeConsumers s.tasks c deps = .ok ts') : Fr all s { s with tasks := ts' } :=
  Fr.of_tasks rfl rfl (WFr.refl _) (fun _ h => h) (NPC.mem_of_krel (NPC.removeConsumers_krel _ h))

theorem Fr.erase {all : Prop} (s : State) (id : TaskId) : Fr all s { s with tasks := eraseTask s.tasks id } :=
  Fr.of_tasks rfl rfl (WFr.refl _) (fun _ h => h) (fun t' h => ⟨t', mem_eraseTask h, rfl, rfl, rfl⟩)

theorem removeTask_fr {all : Prop} {s s' : State} {id : TaskId} {st : TS} (h : s.removeTask id = .ok (s', st)) :
    Fr all s s' :=
  removeTask_ind h (Fr.erase s id) (fun f hq => f.trans (queueRemove_fr hq)) fun f hc => f.trans (removeConsumers_fr hc)

end HqModel.Core.NPA
