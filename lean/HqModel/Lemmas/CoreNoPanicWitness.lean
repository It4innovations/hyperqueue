import HqModel.Lemmas.CoreNoPanicDefs
import HqModel.Lemmas.CoreMsgWitness
/-!
C09 progress, concrete runs (all `decide`d): `f27Ops`, the finding F27 in the model; the witness runs of
`CoreMsgWitness.lean` satisfy all side conditions `NpOk` (non-vacuity); `NecWitness` for conjuncts of the input side
conditions `OpNP`.
-/
namespace HqModel.Core

/-- all side conditions of the C09 progress theorems on one operation (`OpOk5` + `OpNP` + the exclusion `OpExcl`) -/
def NpOk (s : State) (op : Op) : Prop := OpOk5 s op ∧ OpNP s op ∧ OpExcl s op

instance (s : State) (op : Op) : Decidable (NpOk s op) := by unfold NpOk; infer_instance

/-- the side conditions without the exclusion -/
def NpOk0 (s : State) (op : Op) : Prop := OpOk5 s op ∧ OpNP s op

instance (s : State) (op : Op) : Decidable (NpOk0 s op) := by unfold NpOk0; infer_instance

/-- the outcome of a run: `none` = no stop, `some site` = stopped at `site` -/
def runStop (ops : List Op) : Option String :=
  match run {} ops with
  | .ok _ => none
  | .error (.panic site) => some site

/-- **F27**: worker 1 runs task 0 and has task 1 prefilled; a task of higher priority arrives, the prefill set is
disposed and task 1 is being retracted (worker 1's prefilled list is empty now); task 0 finishes: worker 1 looks
free; a multi-node task is placed on worker 1; worker 1 had started task 1 from its backlog before the retract
message arrived and reports RunningPrefilled: `task_running` (Retracting arm) calls `insert_sn_task` on a worker
in a multi-node assignment. -/
def f27Ops : List Op :=
  [.newWorker (wkr 1),
   .newRq [{ entries := [⟨0, .amount 5000⟩] }],
   .newRq [{ nNodes := 1 }],
   .newTasks [ntk 0, ntk 1, ntk 2],
   .schedule { sn := [{ rq := 0, v := 0, counts := [(1, 1)], taken := [(1, 0)] }], prefillOrders := [(0, [1])] },
   .newTasks [{ id := (1, 3), rq := 0, prio := 5, crashLimit := .max 5, deps := [] }],
   .update 1 [.running (1, 0) 0] [],
   .update 1 [.finished (1, 0)] [],
   .newTasks [{ id := (2, 0), rq := 1, prio := 9, crashLimit := .max 5, deps := [] }],
   .schedule { mn := [{ rq := 1, sets := [[1]] }] }]

def f27Op : Op := .update 1 [.runningPrefilled (1, 1) 0] []

def stepStop (s : State) (op : Op) : Option String :=
  match step s op with
  | .ok _ => none
  | .error (.panic site) => some site

theorem stepStop_eq_some {s : State} {op : Op} {site : String} :
    stepStop s op = some site ↔ step s op = .error (.panic site) := by
  unfold stepStop
  split
  · rename_i hs; rw [hs]; exact ⟨nofun, nofun⟩
  · rename_i site' hs; rw [hs]; exact ⟨fun h => by cases h; rfl, fun h => by cases h; rfl⟩

instance (s : State) (op : Op) (site : String) : Decidable (step s op = .error (.panic site)) :=
  decidable_of_iff _ stepStop_eq_some

/-- the state a run from the empty core ends in (the empty state if it stops) -/
def endState (ops : List Op) : State :=
  match run {} ops with
  | .ok (s, _) => s
  | .error _ => {}

theorem resendOps_npOk : RunOk NpOk {} resendOps ∧ NoIdReuse resendOps ∧ runStop resendOps = none := by decide +kernel
theorem lossOps_npOk : RunOk NpOk {} lossOps ∧ NoIdReuse lossOps ∧ runStop lossOps = none := by decide +kernel
theorem depOps_npOk : RunOk NpOk {} depOps ∧ NoIdReuse depOps ∧ runStop depOps = none := by decide +kernel

example : RunOk NpOk {} resendOps ∧ NoIdReuse resendOps ∧ runStop resendOps = none := resendOps_npOk
example : RunOk NpOk {} rejectOps ∧ NoIdReuse rejectOps ∧ runStop rejectOps = none := by decide +kernel
example : RunOk NpOk {} lossOps ∧ NoIdReuse lossOps ∧ runStop lossOps = none := lossOps_npOk
example : RunOk NpOk {} depOps ∧ NoIdReuse depOps ∧ runStop depOps = none := depOps_npOk

/-- the condition fails exactly on the last operation and the run stops there at `site` -/
def NecWitness (ops : List Op) (last : Op) (site : String) : Prop :=
  RunOk NpOk {} ops ∧ NoIdReuse (ops ++ [last]) ∧ runStop ops = none ∧
  OpOk5 (endState ops) last ∧ OpExcl (endState ops) last ∧ ¬ OpNP (endState ops) last ∧
  stepStop (endState ops) last = some site

instance (ops : List Op) (last : Op) (site : String) : Decidable (NecWitness ops last site) := by
  unfold NecWitness; infer_instance

def baseOps : List Op :=
  [.newWorker (wkr 1), .newWorker (wkr 2),
   .newRq [{ entries := [⟨0, .amount 5000⟩] }],
   .newTasks [ntk 0, ntk 1]]

def placed : List Op :=
  baseOps ++ [.schedule { sn := [{ rq := 0, v := 0, counts := [(1, 1)], taken := [(1, 0)] }] }]

/-- `NewTasksOk`: an empty message -/
example : NecWitness baseOps (.newTasks []) "on_new_tasks.assert_nonempty" := by decide +kernel
/-- `NewTasksOk`: a request id that was never created -/
example : NecWitness baseOps (.newTasks [{ id := (1, 5), rq := 7, prio := 0, crashLimit := .max 5, deps := [] }])
    "task_queues.index" := by decide +kernel
/-- `cancel`: a task named twice (the second `remove_sn_task` asserts) -/
example : NecWitness placed (.cancel [(1, 0), (1, 0)]) "remove_sn_task.assert" := by decide +kernel
/-- `RetsOk`: the client's cancel list names an Assigned task twice -/
example : NecWitness (placed ++ [.schedule { sn := [{ rq := 0, v := 0, counts := [(2, 1)], taken := [(1, 1)] }] }])
    (.update 1 [.failed (1, 0)] [[(1, 1), (1, 1)]]) "remove_sn_task.assert" := by decide +kernel
/-- `UpdNP`: Running from a worker the task is not assigned to -/
example : NecWitness placed (.update 2 [.running (1, 0) 0] []) "task_running.assert_worker" := by decide +kernel
/-- `UpdNP`: Running twice -/
example : NecWitness (placed ++ [.update 1 [.running (1, 0) 0] []]) (.update 1 [.running (1, 0) 0] [])
    "task_running.unreachable" := by decide +kernel
/-- `UpdNP`: Finished for a task that is Waiting -/
example : NecWitness placed (.update 1 [.finished (1, 1)] []) "task_finished.unreachable" := by decide +kernel
/-- `UpdNP`: a message from a worker that is not in the map -/
example : NecWitness placed (.update 9 [.enable 0 0] []) "get_worker" := by decide +kernel
/-- `removeWorker`: an unknown worker -/
example : NecWitness placed (.removeWorker 9 "lost" true [] []) "remove_worker.get_worker" := by decide +kernel
/-- `SolOk`: an sn entry for a request that does not exist -/
example : NecWitness baseOps (.schedule { sn := [{ rq := 3, v := 0, counts := [], taken := [] }] })
    "request_map.get" := by decide +kernel
/-- `SolOk`: more placements than the queue offers -/
example : NecWitness baseOps (.schedule { sn := [{ rq := 0, v := 0, counts := [(1, 2), (2, 1)], taken := [(1, 0), (1, 1)] }] })
    "take_tasks.first_entry_unwrap" := by decide +kernel

/-- `NewTasksOk`: a dependency named twice is counted twice but registered once; removing the consumer later
asserts in `remove_task`. The stop comes one operation after the offending one, so this is not a `NecWitness` (the left
disjunct does not hold); the right one says that the prefix satisfies everything and the longer run stops. -/
example : NecWitness (baseOps ++ [.newTasks [ntk 2 0 [(1, 0), (1, 0)]]]) (.cancel [(1, 2)]) "never" ∨
    (RunOk NpOk {} baseOps ∧
     runStop (baseOps ++ [.newTasks [ntk 2 0 [(1, 0), (1, 0)]], .cancel [(1, 2)]]) = some "remove_task.assert_consumer") := by
  right; decide +kernel

end HqModel.Core
