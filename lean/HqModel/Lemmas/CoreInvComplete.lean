import HqModel.Lemmas.CoreInvSound
/-!
`TWI`: the worker lists are COMPLETE — the structural invariant of the core model in the direction state → list
(`TW3`): a task Assigned/Running/Prefilled on `w` is in the corresponding set of worker `w`, every worker of a
RunningMultiNode task is reserved for it, every redirect target holds the task.

Three procedures drop the worker side first and repair the task side later (`on_cancel_tasks`, `task_failed`,
`on_remove_worker`): inside them the clauses hold for all tasks outside a set `D` of tasks "in repair"
(`TW3 D`); at operation boundaries `D` is empty (`noD`). `MNU` is the clause that also holds for tasks in repair:
every worker of a RunningMultiNode task is reserved for it or idle. `TWI D s` is the two on a state.

Organised around `TW3.frame` (one task changes), `TW3.detach` (a worker gives up a task, which joins `D`),
the loops that run with any `D`, `TW3.mv_sn` (the single-node move) and `TWI.drop_worker` (a lost worker's record goes).
-/
namespace HqModel.Core

structure TW3 (D : TaskId → Prop) (ts : List Task) (ws : List Worker) (rd : List (TaskId × Nat × Nat)) : Prop where
  /-- a task Assigned / Running on `w` is in `assigned_tasks` of `w` -/
  t1 : ∀ t w v, ¬ D t → (stOf ts t = some (.assigned w v) ∨ stOf ts t = some (.running w v)) → t ∈ asgW ws w
  /-- a task Prefilled on `w` is in `prefilled_tasks` of `w` -/
  t2 : ∀ t w, ¬ D t → stOf ts t = some (.prefilled w) → t ∈ preW ws w
  /-- every worker of a RunningMultiNode task is in a multi-node assignment for it -/
  t3 : ∀ t l, ¬ D t → stOf ts t = some (.runningMN l) → ∀ x ∈ l, mnW ws x = some t
  /-- every redirect target holds the task -/
  d1 : ∀ t w v, ¬ D t → (t, w, v) ∈ rd → t ∈ asgW ws w
  /-- redirects exist only for Retracting tasks (as in `LS3`; repeated here so that this half is self-contained) -/
  d0 : ∀ t w v, (t, w, v) ∈ rd → ∃ w0, stOf ts t = some (.retracting w0)

/-- every worker of a RunningMultiNode task is reserved for it or idle (also while the task is in repair) -/
def MNU (ts : List Task) (ws : List Worker) : Prop :=
  ∀ t l, stOf ts t = some (.runningMN l) → ∀ x ∈ l,
    mnW ws x = some t ∨ (asgW ws x = [] ∧ preW ws x = [] ∧ mnW ws x = none)

def noD : TaskId → Prop := fun _ => False
theorem not_noD (t : TaskId) : ¬ noD t := id

theorem TW3.mono {D D' ts ws rd} (h : TW3 D ts ws rd) (hd : ∀ u, D u → D' u) : TW3 D' ts ws rd :=
  ⟨fun t w v hn => h.t1 t w v (fun e => hn (hd t e)), fun t w hn => h.t2 t w (fun e => hn (hd t e)),
   fun t l hn => h.t3 t l (fun e => hn (hd t e)), fun t w v hn => h.d1 t w v (fun e => hn (hd t e)), h.d0⟩

theorem TW3.no_rd_of_state {D ts ws rd} (h : TW3 D ts ws rd) {t : TaskId} {st : TS} (hs : stOf ts t = some st)
    (hn : ∀ w0, st ≠ .retracting w0) : ∀ x v, (t, x, v) ∉ rd := by
  intro x v hm
  obtain ⟨w0, h1⟩ := h.d0 t x v hm
  rw [hs] at h1
  cases h1
  exact hn w0 rfl

/-- **frame lemma** (state → list direction): the state, the memberships and the redirects of ONE task `t`
change; every other task keeps its state, loses no membership and gains no redirect -/
theorem TW3.frame {D D' ts ws rd ts' ws' rd'} (h : TW3 D ts ws rd) (t : TaskId)
    (hD : ∀ u, u ≠ t → D' u ∨ ¬ D u)
    (hst : ∀ u, u ≠ t → stOf ts' u = stOf ts u)
    (hasg : ∀ x u, u ≠ t → u ∈ asgW ws x → u ∈ asgW ws' x)
    (hpre : ∀ x u, u ≠ t → u ∈ preW ws x → u ∈ preW ws' x)
    (hmn : ∀ x u, u ≠ t → mnW ws x = some u → mnW ws' x = some u)
    (hrd : ∀ u x v, u ≠ t → (u, x, v) ∈ rd' → (u, x, v) ∈ rd)
    (h1 : ∀ w v, ¬ D' t → (stOf ts' t = some (.assigned w v) ∨ stOf ts' t = some (.running w v)) → t ∈ asgW ws' w)
    (h2 : ∀ w, ¬ D' t → stOf ts' t = some (.prefilled w) → t ∈ preW ws' w)
    (h3 : ∀ l, ¬ D' t → stOf ts' t = some (.runningMN l) → ∀ x ∈ l, mnW ws' x = some t)
    (h4 : ∀ w v, ¬ D' t → (t, w, v) ∈ rd' → t ∈ asgW ws' w)
    (h5 : ∀ w v, (t, w, v) ∈ rd' → ∃ w0, stOf ts' t = some (.retracting w0)) :
    TW3 D' ts' ws' rd' := by
  have hnd : ∀ u, u ≠ t → ¬ D' u → ¬ D u := fun u hu hn => (hD u hu).resolve_left hn
  refine ⟨?_, ?_, ?_, ?_, ?_⟩
  · intro u w v hn hs
    by_cases e : u = t
    · subst e; exact h1 w v hn hs
    · rw [hst u e] at hs; exact hasg w u e (h.t1 u w v (hnd u e hn) hs)
  · intro u w hn hs
    by_cases e : u = t
    · subst e; exact h2 w hn hs
    · rw [hst u e] at hs; exact hpre w u e (h.t2 u w (hnd u e hn) hs)
  · intro u l hn hs x hx
    by_cases e : u = t
    · subst e; exact h3 l hn hs x hx
    · rw [hst u e] at hs; exact hmn x u e (h.t3 u l (hnd u e hn) hs x hx)
  · intro u w v hn hm
    by_cases e : u = t
    · subst e; exact h4 w v hn hm
    · exact hasg w u e (h.d1 u w v (hnd u e hn) (hrd u w v e hm))
  · intro u w v hm
    by_cases e : u = t
    · subst e; exact h5 w v hm
    · rw [hst u e]; exact h.d0 u w v (hrd u w v e hm)

theorem TW3.put {D ts ws rd rd'} (h : TW3 D ts ws rd) {t' told : Task} (ht : findTask ts t'.id = some told)
    (hrd : ∀ u x v, u ≠ t'.id → (u, x, v) ∈ rd' → (u, x, v) ∈ rd)
    (h1 : ∀ w v, t'.state = .assigned w v ∨ t'.state = .running w v → t'.id ∈ asgW ws w)
    (h2 : ∀ w, t'.state = .prefilled w → t'.id ∈ preW ws w)
    (h3 : ∀ l, t'.state = .runningMN l → ∀ x ∈ l, mnW ws x = some t'.id)
    (h4 : ∀ x v, (t'.id, x, v) ∈ rd' → (∃ w0, t'.state = .retracting w0) ∧ t'.id ∈ asgW ws x) :
    TW3 (fun u => D u ∧ u ≠ t'.id) (putTask ts t') ws rd' := by
  have hst : ∀ st, stOf (putTask ts t') t'.id = some st → t'.state = st := fun st e => by
    rw [stOf_put ht, if_pos rfl] at e; exact Option.some.inj e
  refine h.frame t'.id (fun u hu => (Classical.em (D u)).imp (fun hd => ⟨hd, hu⟩) id)
    (fun u hu => by rw [stOf_put ht, if_neg hu]) (fun _ _ _ h => h)
    (fun _ _ _ h => h) (fun _ _ _ h => h) hrd (fun w v _ e => h1 w v (e.imp (hst _) (hst _))) (fun w _ e => h2 w (hst _ e))
    (fun l _ e => h3 l (hst _ e)) (fun w v _ hm => (h4 w v hm).2) ?_
  intro w v hm
  obtain ⟨w0, e⟩ := (h4 w v hm).1
  exact ⟨w0, by rw [stOf_put ht, if_pos rfl, e]⟩

theorem TW3.congr_tasks {D ts ts' ws rd} (h : TW3 D ts ws rd) (hst : ∀ u, stOf ts' u = stOf ts u) : TW3 D ts' ws rd :=
  ⟨fun t w v hn hs => h.t1 t w v hn (by rw [← hst]; exact hs), fun t w hn hs => h.t2 t w hn (by rw [← hst]; exact hs),
   fun t l hn hs => h.t3 t l hn (by rw [← hst]; exact hs), h.d1, fun t w v hm => by rw [hst]; exact h.d0 t w v hm⟩

theorem MNU.congr_tasks {ts ts' ws} (h : MNU ts ws) (hst : ∀ u, stOf ts' u = stOf ts u) : MNU ts' ws :=
  fun t l hs => h t l (by rw [← hst]; exact hs)

theorem MNU.put {ts ws} (h : MNU ts ws) {t' told : Task} (ht : findTask ts t'.id = some told)
    (hs : ∀ l', t'.state = .runningMN l' → ∃ l, told.state = .runningMN l ∧ ∀ x ∈ l', x ∈ l) :
    MNU (putTask ts t') ws := by
  intro t l' hst x hx
  rw [stOf_put ht] at hst
  split at hst
  · rename_i e
    obtain ⟨l, hl, hsub⟩ := hs l' (Option.some.inj hst)
    rw [e]
    exact h t'.id l ((stOf_of_find ht).trans (congrArg some hl)) x (hsub x hx)
  · exact h t l' hst x hx

theorem MNU.put_nonmn {ts ws} (h : MNU ts ws) {t' told : Task} (ht : findTask ts t'.id = some told)
    (hs : ∀ l, t'.state ≠ .runningMN l) : MNU (putTask ts t') ws :=
  h.put ht fun l e => absurd e (hs l)

theorem MNU.put_worker {ts ws} (h : MNU ts ws) {wk wk' : Worker} (hw : findWorker ws wk'.id = some wk)
    (hc : ∀ t l, stOf ts t = some (.runningMN l) → wk'.id ∈ l →
      wMn wk' = some t ∨ (wAsg wk' = [] ∧ wPre wk' = [] ∧ wMn wk' = none)) : MNU ts (putWorker ws wk') := by
  intro t l hst x hx
  rw [asgW_put hw, preW_put hw, mnW_put hw]
  split
  · rename_i e; subst e; exact hc t l hst hx
  · exact h t l hst x hx

/-- the sets of a worker in a multi-node assignment are empty by definition of the views -/
theorem mnW_some_sets {ws : List Worker} {x : Nat} {t : TaskId} (h : mnW ws x = some t) :
    asgW ws x = [] ∧ preW ws x = [] := by
  unfold mnW at h
  unfold asgW preW
  cases hf : findWorker ws x with
  | none => exact ⟨rfl, rfl⟩
  | some wk =>
    rw [hf] at h
    cases ha : wk.assign <;> simp [wMn, wAsg, wPre, ha] at h ⊢

theorem MNU.not_in_list {ts ws} (h : MNU ts ws) {x : Nat} (hne : asgW ws x ≠ [] ∨ preW ws x ≠ [])
    {t : TaskId} {l : List Nat} (hst : stOf ts t = some (.runningMN l)) : x ∉ l := by
  intro hx
  have : asgW ws x = [] ∧ preW ws x = [] := by
    rcases h t l hst x hx with h1 | ⟨h1, h2, _⟩
    · exact mnW_some_sets h1
    · exact ⟨h1, h2⟩
  exact hne.elim (fun e => e this.1) (fun e => e this.2)

theorem MNU.put_holder {ts ws} (h : MNU ts ws) {wk wk' : Worker} (hw : findWorker ws wk'.id = some wk)
    (hne : wAsg wk ≠ [] ∨ wPre wk ≠ []) : MNU ts (putWorker ws wk') :=
  h.put_worker hw fun _ _ hst hx =>
    absurd hx (h.not_in_list (by rw [asgW_of_find hw, preW_of_find hw]; exact hne) hst)

/-- one worker record is replaced and every task but `id` keeps its memberships: `id` joins the tasks in repair -/
theorem TW3.detach {D ts ws rd} (h : TW3 D ts ws rd) (id : TaskId) {wk wk' : Worker}
    (hw : findWorker ws wk'.id = some wk)
    (hA : ∀ u, u ≠ id → u ∈ wAsg wk → u ∈ wAsg wk') (hP : ∀ u, u ≠ id → u ∈ wPre wk → u ∈ wPre wk')
    (hM : ∀ u, u ≠ id → wMn wk = some u → wMn wk' = some u) :
    TW3 (fun u => D u ∨ u = id) ts (putWorker ws wk') rd := by
  refine h.frame id (fun u _ => (Classical.em (D u)).imp .inl fun e => e) (fun _ _ => rfl) ?_ ?_ ?_ (fun _ _ _ _ hm => hm)
    (fun _ _ hn => absurd (.inr rfl) hn) (fun _ hn => absurd (.inr rfl) hn) (fun _ hn => absurd (.inr rfl) hn)
    (fun _ _ hn => absurd (.inr rfl) hn) (h.d0 id)
  · intro x u hu hx
    rw [asgW_put hw]; split
    · rename_i e; rw [e, asgW_of_find hw] at hx; exact hA u hu hx
    · exact hx
  · intro x u hu hx
    rw [preW_put hw]; split
    · rename_i e; rw [e, preW_of_find hw] at hx; exact hP u hu hx
    · exact hx
  · intro x u hu hx
    rw [mnW_put hw]; split
    · rename_i e; rw [e, mnW_of_find hw] at hx; exact hM u hu hx
    · exact hx

theorem TW3.detach_sn {D ts ws rd} (h : TW3 D ts ws rd) (id : TaskId) {w : Nat} {wk : Worker}
    {A A' P P' : List TaskId} {F F' : List Nat} (hw : findWorker ws w = some wk) (ha : wk.assign = .sn A F P)
    (hA : ∀ u, u ≠ id → u ∈ A → u ∈ A') (hP : ∀ u, u ≠ id → u ∈ P → u ∈ P') :
    TW3 (fun u => D u ∨ u = id) ts (putWorker ws { wk with assign := .sn A' F' P' }) rd := by
  refine h.detach id (wk := wk) (wk' := { wk with assign := .sn A' F' P' }) (findWorker_of_id hw rfl) ?_ ?_ (fun u _ hu => ?_)
  · rw [wAsg, ha]; exact hA
  · rw [wPre, ha]; exact hP
  · rw [wMn, ha] at hu; cases hu

theorem removePrefill_tw {D : TaskId → Prop} {s s1 : State} {ts : List Task} (h : TW3 D ts s.workers s.redirects)
    (hm : MNU ts s.workers) {w : Nat} {id : TaskId} (hw : s.withWorker w (·.removePrefill id) = .ok s1) :
    TW3 (fun u => D u ∨ u = id) ts s1.workers s1.redirects ∧ MNU ts s1.workers := by
  obtain ⟨wk, wk', hfw, hf, rfl⟩ := withWorker_spec hw
  obtain ⟨A, F, P, ha, hmem, rfl⟩ := removePrefill_spec hf
  exact ⟨h.detach_sn id hfw ha (fun _ _ hx => hx) (fun u hu hx => (List.mem_erase_of_ne hu).mpr hx),
    hm.put_holder (wk := wk) (findWorker_of_id hfw rfl) (.inr (by rw [wPre, ha]; exact List.ne_nil_of_mem hmem))⟩

/-! ## `TWI`: task-record moves, loops with any set in repair -/

/-- state → list clauses + the multi-node clause, on a state -/
structure TWI (D : TaskId → Prop) (s : State) : Prop where
  tw : TW3 D s.tasks s.workers s.redirects
  mnu : MNU s.tasks s.workers

theorem CoreEq.twi {D} {s s' : State} (h : CoreEq s s') (hi : TWI D s) : TWI D s' := by
  constructor
  · rw [h.t, h.w, h.r]; exact hi.tw
  · rw [h.t, h.w]; exact hi.mnu

theorem TWI.mono {D D'} {s : State} (h : TWI D s) (hd : ∀ u, D u → D' u) : TWI D' s := ⟨h.tw.mono hd, h.mnu⟩

theorem TWI.of_tasks {D} {s s1 : State} (e : s1.tasks = s.tasks) (a : TW3 D s.tasks s1.workers s1.redirects)
    (b : MNU s.tasks s1.workers) : TWI D s1 :=
  ⟨e ▸ a, e ▸ b⟩

theorem TWI.congr_workers {D} {s s' : State} (hi : TWI D s) (et : s'.tasks = s.tasks) (er : s'.redirects = s.redirects)
    (a : ∀ x, asgW s'.workers x = asgW s.workers x) (b : ∀ x, preW s'.workers x = preW s.workers x)
    (c : ∀ x, mnW s'.workers x = mnW s.workers x) : TWI D s' := by
  constructor
  · rw [et, er]
    exact ⟨fun t w v hd hs => by rw [a]; exact hi.tw.t1 t w v hd hs, fun t w hd hs => by rw [b]; exact hi.tw.t2 t w hd hs,
      fun t l hd hs x hx => by rw [c]; exact hi.tw.t3 t l hd hs x hx, fun t w v hd hm => by rw [a]; exact hi.tw.d1 t w v hd hm,
      hi.tw.d0⟩
  · rw [et]
    intro t l hs x hx
    rw [a, b, c]; exact hi.mnu t l hs x hx

/-- states without state → list obligations -/
def NoOb : TS → Prop
  | .waiting _ => True
  | .finished => True
  | .retracting _ => True
  | _ => False

theorem NoOb.not_mn {st : TS} (h : NoOb st) : ∀ l, st ≠ .runningMN l := by
  intro l e; rw [e] at h; exact h

theorem TW3.put_noob {D ts ws rd rd'} (h : TW3 D ts ws rd) {t' told : Task} (ht : findTask ts t'.id = some told)
    (hs : NoOb t'.state)
    (hrd : ∀ u x v, u ≠ t'.id → (u, x, v) ∈ rd' → (u, x, v) ∈ rd)
    (hr : ∀ x v, (t'.id, x, v) ∈ rd' → (∃ w0, t'.state = .retracting w0) ∧ t'.id ∈ asgW ws x) :
    TW3 (fun u => D u ∧ u ≠ t'.id) (putTask ts t') ws rd' :=
  have hs' : ∀ st, t'.state = st → NoOb st := fun _ e => e ▸ hs
  h.put ht hrd (fun _ _ e => e.elim (fun e => (hs' _ e).elim) fun e => (hs' _ e).elim) (fun _ e => (hs' _ e).elim)
    (fun _ e => (hs' _ e).elim) hr

theorem TWI.put_noob {D} {s : State} (h : TWI D s) {t' told : Task} (ht : findTask s.tasks t'.id = some told)
    (hs : NoOb t'.state) (hnr : ∀ x v, (t'.id, x, v) ∉ s.redirects) :
    TWI (fun u => D u ∧ u ≠ t'.id) (s.setTask t') :=
  ⟨h.tw.put_noob ht hs (fun _ _ _ _ h => h) (fun x v hm => absurd hm (hnr x v)), h.mnu.put_nonmn ht hs.not_mn⟩

theorem TWI.put_released {D} {s : State} {t' told : Task} (h : TWI (fun u => D u ∨ u = t'.id) s)
    (ht : findTask s.tasks t'.id = some told) (hs : NoOb t'.state) (hnr : ∀ x v, (t'.id, x, v) ∉ s.redirects) :
    TWI D (s.setTask t') :=
  (h.put_noob ht hs hnr).mono fun _ hu => hu.1.resolve_right hu.2

theorem TWI.put_same {D} {s : State} (h : TWI D s) {t' told : Task} (ht : findTask s.tasks t'.id = some told)
    (hs : t'.state = told.state) : TWI D (s.setTask t') :=
  ⟨h.tw.congr_tasks (stOf_put_same ht hs), h.mnu.congr_tasks (stOf_put_same ht hs)⟩

theorem TW3.erase {D ts ws rd} (h : TW3 D ts ws rd) (hn : (taskIds ts).Nodup) (t : TaskId)
    (hnr : ∀ w v, (t, w, v) ∉ rd) :
    TW3 (fun u => D u ∧ u ≠ t) (eraseTask ts t) ws rd := by
  have hst := stOf_eraseTask hn t
  refine h.frame t (fun u hu => (Classical.em (D u)).imp (fun hd => ⟨hd, hu⟩) id) (fun u hu => by rw [hst, if_neg hu])
    (fun _ _ _ h => h) (fun _ _ _ h => h) (fun _ _ _ h => h) (fun _ _ _ _ h => h) ?_ ?_ ?_
    (fun w v _ hm => absurd hm (hnr w v)) (fun w v hm => absurd hm (hnr w v))
  · intro w v _ hs; rw [hst, if_pos rfl] at hs; rcases hs with e | e <;> cases e
  · intro w _ hs; rw [hst, if_pos rfl] at hs; cases hs
  · intro l _ hs; rw [hst, if_pos rfl] at hs; cases hs

theorem MNU.erase {ts ws} (h : MNU ts ws) (hn : (taskIds ts).Nodup) (t : TaskId) : MNU (eraseTask ts t) ws := by
  intro u l hs
  unfold stOf at hs
  rw [findTask_eraseTask hn] at hs
  split at hs
  · cases hs
  · exact h u l hs

theorem TW3.append {D ts ws rd} (h : TW3 D ts ws rd) {task : Task} (hs : NoOb task.state) : TW3 D (ts ++ [task]) ws rd := by
  have hs' : ∀ st, some task.state = some st → NoOb st := fun st e => Option.some.inj e ▸ hs
  refine ⟨?_, ?_, ?_, h.d1, ?_⟩
  · intro u w v hd hsu
    rcases stOf_append ts task u with e | ⟨_, e⟩ <;> rw [e] at hsu
    · exact h.t1 u w v hd hsu
    · exact hsu.elim (fun e1 => (hs' _ e1).elim) fun e1 => (hs' _ e1).elim
  · intro u w hd hsu
    rcases stOf_append ts task u with e | ⟨_, e⟩ <;> rw [e] at hsu
    · exact h.t2 u w hd hsu
    · exact (hs' _ hsu).elim
  · intro u l hd hsu
    rcases stOf_append ts task u with e | ⟨_, e⟩ <;> rw [e] at hsu
    · exact h.t3 u l hd hsu
    · exact (hs' _ hsu).elim
  · intro u w v hm
    obtain ⟨w0, e0⟩ := h.d0 u w v hm
    rcases stOf_append ts task u with e | ⟨e1, _⟩
    · exact ⟨w0, by rw [e]; exact e0⟩
    · rw [e1] at e0; cases e0

theorem MNU.append {ts ws} (h : MNU ts ws) {task : Task} (hs : NoOb task.state) : MNU (ts ++ [task]) ws := by
  intro t l hst
  rcases stOf_append ts task t with e | ⟨_, e⟩ <;> rw [e] at hst
  · exact h t l hst
  · exact ((Option.some.inj hst ▸ hs : NoOb (.runningMN l))).elim

theorem processRetracted_tw {D} (l : List TaskId) (s s' : State) (acc acc' : List (Nat × TaskId))
    (hi : TWI D s) (h : s.processRetracted l acc = .ok (s', acc')) : TWI D s' := by
  induction l generalizing s acc with
  | nil => cases h; exact hi
  | cons t rest ih =>
    obtain ⟨task, w, s1, ht, hs, hw, h'⟩ := processRetracted_cons_ok h
    change findTask s.tasks t = some task at ht
    obtain rfl : task.id = t := findTask_some_id ht
    obtain ⟨a, b⟩ := removePrefill_tw hi.tw hi.mnu hw
    refine ih _ _ ((TWI.of_tasks (withWorker_tasks hw) a b).put_released (t' := { task with state := .retracting w })
      (by rw [withWorker_tasks hw]; exact ht) trivial ?_) h'
    rw [withWorker_redirects hw]
    exact hi.tw.no_rd_of_state (stOf_of_find ht) fun w0 e => by rw [hs] at e; cases e

theorem retract_tw {D} {s s' : State} {l : List TaskId} {o : Out} (hi : TWI D s) (h : s.retract l = .ok (s', o)) :
    TWI D s' := by
  obtain ⟨_, hp, _⟩ := retract_ok_iff.mp h
  exact processRetracted_tw _ _ _ _ _ hi hp

theorem removeTask_tw {D} {s s' : State} {id : TaskId} {st : TS} (hi : TWI D s) (hn : (taskIds s.tasks).Nodup)
    (hnr : ∀ w v, (id, w, v) ∉ s.redirects) (h : s.removeTask id = .ok (s', st)) : TWI (fun u => D u ∧ u ≠ id) s' := by
  obtain ⟨_, hw, hr, _, hc⟩ := removeTask_spec h
  constructor
  · rw [hw, hr]; exact (hi.tw.erase hn id hnr).congr_tasks hc.stOf
  · rw [hw]; exact (hi.mnu.erase hn id).congr_tasks hc.stOf

theorem removeTasksBatched_tw {D0 : TaskId → Prop} (ids : List TaskId) (s s' : State)
    (hi : TWI (fun x => x ∈ ids ∨ D0 x) s) (hn : (taskIds s.tasks).Nodup) (hu : ∀ x ∈ ids, Free s x)
    (h : s.removeTasksBatched ids = .ok s') : TWI D0 s' := by
  induction ids generalizing s with
  | nil => cases h; exact hi.mono fun x hx => hx.elim (fun h1 => by cases h1) (fun h1 => h1)
  | cons t rest ih =>
    obtain ⟨s1, st, h1, h'⟩ := removeTasksBatched_cons_ok h
    refine ih _ ((removeTask_tw hi hn (hu t (.head _)).nr h1).mono fun x hx => ?_) ((removeTask_sub h1).nodup hn)
      (fun x hx => removeTask_free (hu x (.tail _ hx)) h1) h'
    exact hx.1.imp_left fun h2 => (List.mem_cons.mp h2).resolve_left hx.2

/-! ## the single-node move; a redirect resolved -/

theorem TWI.setWorker_same {D} {s : State} (hi : TWI D s) {wk wk' : Worker} (hfw : findWorker s.workers wk'.id = some wk)
    (e1 : wAsg wk' = wAsg wk) (e2 : wPre wk' = wPre wk) (e3 : wMn wk' = wMn wk) : TWI D (s.setWorker wk') :=
  hi.congr_workers rfl rfl (asgW_put_same hfw e1) (preW_put_same hfw e2) (mnW_put_same hfw e3)

/-- **single-node move**: the task `t'.id` (in repair at most itself) gets the record `t'`, its redirects become those
of `rd'`, and the single-node worker `w` new sets in which no other task lost a membership; whatever the new record
claims — Assigned / Running / Prefilled somewhere, a redirect — names `w`, which now holds the task -/
theorem TW3.mv_sn {D ts ws rd rd'} (h : TW3 D ts ws rd) (hm : MNU ts ws) {t' told : Task} {w : Nat} {wk : Worker}
    {A A' P P' : List TaskId} {F F' : List Nat} (hD : ∀ u, D u → u = t'.id) (ht : findTask ts t'.id = some told)
    (hold : ∀ l, told.state ≠ .runningMN l) (hw : findWorker ws w = some wk) (ha : wk.assign = .sn A F P)
    (hA : ∀ u, u ≠ t'.id → u ∈ A → u ∈ A') (hP : ∀ u, u ≠ t'.id → u ∈ P → u ∈ P')
    (hrd : ∀ u x v, u ≠ t'.id → (u, x, v) ∈ rd' → (u, x, v) ∈ rd) (hmn : ∀ l, t'.state ≠ .runningMN l)
    (h1 : ∀ x v, t'.state = .assigned x v ∨ t'.state = .running x v → x = w ∧ t'.id ∈ A')
    (h2 : ∀ x, t'.state = .prefilled x → x = w ∧ t'.id ∈ P')
    (hr : ∀ x v, (t'.id, x, v) ∈ rd' → (∃ w0, t'.state = .retracting w0) ∧ x = w ∧ t'.id ∈ A') :
    TW3 noD (putTask ts t') (putWorker ws { wk with assign := .sn A' F' P' }) rd' ∧
    MNU (putTask ts t') (putWorker ws { wk with assign := .sn A' F' P' }) := by
  obtain rfl := findWorker_some_id hw
  have hw' : findWorker ws ({ wk with assign := .sn A' F' P' } : Worker).id = some wk := hw
  constructor
  · refine ((h.detach_sn t'.id hw ha hA hP).put ht hrd (fun x v e => ?_) (fun x e => ?_) (fun l e => absurd e (hmn l))
      (fun x v hx => ?_)).mono fun u hu => hu.2 (hu.1.elim (hD u) id)
    · obtain ⟨rfl, hmem⟩ := h1 x v e
      rw [asgW_put hw', if_pos rfl]; exact hmem
    · obtain ⟨rfl, hmem⟩ := h2 x e
      rw [preW_put hw', if_pos rfl]; exact hmem
    · obtain ⟨hret, rfl, hmem⟩ := hr x v hx
      exact ⟨hret, by rw [asgW_put hw', if_pos rfl]; exact hmem⟩
  · refine (hm.put_worker hw' fun t l hst hx => ?_).put_nonmn ht hmn
    -- a worker of a multi-node task is reserved for it or idle: `w` has a single-node record
    by_cases hd : D t
    · rw [hD t hd, stOf_of_find ht] at hst; exact absurd (Option.some.inj hst) (hold l)
    · have := h.t3 t l hd hst _ hx
      rw [mnW_of_sn hw ha] at this; cases this

theorem removeWaitingAll_tw {D} (ids : List TaskId) (s s' : State) (hi : TWI D s) (hinv : Inv s)
    (h : s.removeWaitingAll ids = .ok s') : TWI D s' := by
  induction ids generalizing s with
  | nil => cases h; exact hi
  | cons t rest ih =>
    obtain ⟨s1, n, h1, h'⟩ := removeWaitingAll_cons_ok h
    have hf : Free s t := hinv.free_of_state (.inr (.inl ⟨n, (removeTask_spec h1).1⟩))
    exact ih _ ((removeTask_tw hi hinv.nd hf.nr h1).mono fun _ hu => hu.1) (removeTask_inv hinv hf h1) h'

theorem TWI.resolve_redirect {s : State} (hi : TWI noD s) {t' task : Task} {target trv : Nat}
    (ht : findTask s.tasks t'.id = some task) (hs' : t'.state = .assigned target trv)
    (hf : s.redirects.find? (·.1 = t'.id) = some (t'.id, target, trv)) :
    TWI noD (({ s with redirects := s.redirects.filter (·.1 ≠ t'.id) } : State).setTask t') := by
  have hin := hi.tw.d1 _ target trv (not_noD _) (rd_mem_of_find hf).1
  have hgone : ∀ x v, (t'.id, x, v) ∉ s.redirects.filter (·.1 ≠ t'.id) := fun x v hm => (rd_filter_mem.mp hm).2 rfl
  refine ⟨(hi.tw.put ht (fun _ _ _ _ h => (rd_filter_mem.mp h).1) (fun x v e => ?_) (fun x e => ?_) (fun l e => ?_)
    (fun x v hm => absurd hm (hgone x v))).mono fun _ hu => hu.1, hi.mnu.put_nonmn ht fun l e => ?_⟩
  · rw [hs'] at e; rcases e with e | e <;> cases e; exact hin
  · rw [hs'] at e; cases e
  · rw [hs'] at e; cases e
  · rw [hs'] at e; cases e

/-! ## a lost worker's record is dropped; new requests -/

/-- the record of worker `w` goes: the tasks it listed are in repair -/
theorem TWI.drop_worker {s : State} {D0 : TaskId → Prop} (hi : TWI D0 s) (w : Nat) {D : TaskId → Prop} (h0 : ∀ u, D0 u → D u)
    (hA : ∀ u, u ∈ asgW s.workers w → D u) (hP : ∀ u, u ∈ preW s.workers w → D u)
    (hM : ∀ u, mnW s.workers w = some u → D u) :
    TW3 D s.tasks (s.workers.filter (·.id ≠ w)) s.redirects ∧ MNU s.tasks (s.workers.filter (·.id ≠ w)) := by
  have hn : ∀ {u}, ¬ D u → ¬ D0 u := fun hd e => hd (h0 _ e)
  constructor
  · refine ⟨?_, ?_, ?_, ?_, hi.tw.d0⟩
    · intro u w' v hd hs
      have := hi.tw.t1 u w' v (hn hd) hs
      rw [asgW_filter]; split
      · rename_i e; subst e; exact absurd (hA u this) hd
      · exact this
    · intro u w' hd hs
      have := hi.tw.t2 u w' (hn hd) hs
      rw [preW_filter]; split
      · rename_i e; subst e; exact absurd (hP u this) hd
      · exact this
    · intro u l hd hs x hx
      have := hi.tw.t3 u l (hn hd) hs x hx
      rw [mnW_filter]; split
      · rename_i e; subst e; exact absurd (hM u this) hd
      · exact this
    · intro u w' v hd hm
      have := hi.tw.d1 u w' v (hn hd) hm
      rw [asgW_filter]; split
      · rename_i e; subst e; exact absurd (hA u this) hd
      · exact this
  · intro t l hs x hx
    rw [asgW_filter, preW_filter, mnW_filter]
    split
    · exact Or.inr ⟨rfl, rfl, rfl⟩
    · exact hi.mnu t l hs x hx

/-- the record of a worker in a multi-node assignment for `t` goes: only `t` joins the tasks in repair -/
theorem TWI.drop_mn_worker {s : State} {D : TaskId → Prop} (hi : TWI D s) {w : Nat} {wk : Worker} {t : TaskId}
    {ro st : Bool} (hfw : findWorker s.workers w = some wk) (ha : wk.assign = .mn t ro st) :
    TW3 (fun u => D u ∨ u = t) s.tasks (s.workers.filter (·.id ≠ w)) s.redirects ∧
    MNU s.tasks (s.workers.filter (·.id ≠ w)) :=
  hi.drop_worker w (fun _ => .inl) (fun u hu => by rw [asgW_of_mn hfw ha] at hu; cases hu)
    (fun u hu => by rw [preW_of_mn hfw ha] at hu; cases hu)
    (fun u hu => by rw [mnW_of_mn hfw ha] at hu; cases hu; exact .inr rfl)

theorem newRq_tw {D} {s : State} (rqv : Rqv) (hi : TWI D s) : TWI D (s.newRq rqv) := ⟨hi.tw, hi.mnu⟩

end HqModel.Core
