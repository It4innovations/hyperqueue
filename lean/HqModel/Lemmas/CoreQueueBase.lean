import HqModel.Lemmas.CoreMsgRun
import HqModel.Lemmas.CoreInvFull
/-!
The queue / dependency half of the sanity checks as an inductive invariant: the vocabulary — who lists a task as a
consumer (`lst`, `nL`) against the dependency count of its state (`slack`), containment of queue contents (`QSub`), the
invariant `QInv` and the preorder `Safe` on states that every instance of it passes.
-/
namespace HqModel.Core

/-- `dt` is not the finishing task and lists `c` as a consumer -/
def lst (f : Option TaskId) (c : TaskId) (dt : Task) : Bool := decide (c ∈ dt.consumers) && decide (some dt.id ≠ f)

/-- number of tasks (other than `f`) that list `c` as a consumer -/
def nL (f : Option TaskId) (ts : List Task) (c : TaskId) : Nat := ts.countP (lst f c)

/-- the number of unfinished dependencies recorded in a state -/
def slack : TS → Nat
  | .waiting n => n
  | _ => 0

@[simp] theorem slack_waiting (n : Nat) : slack (.waiting n) = n := rfl
@[simp] theorem slack_assigned (w v : Nat) : slack (.assigned w v) = 0 := rfl
@[simp] theorem slack_prefilled (w : Nat) : slack (.prefilled w) = 0 := rfl
@[simp] theorem slack_retracting (w : Nat) : slack (.retracting w) = 0 := rfl
@[simp] theorem slack_running (w v : Nat) : slack (.running w v) = 0 := rfl
@[simp] theorem slack_runningMN (l : List Nat) : slack (.runningMN l) = 0 := rfl
@[simp] theorem slack_finished : slack .finished = 0 := rfl

theorem slack_eq_zero {st : TS} (h : ∀ n, st ≠ .waiting (n + 1)) : slack st = 0 := by
  cases st with
  | waiting n => cases n with
    | zero => rfl
    | succ k => exact absurd rfl (h k)
  | _ => rfl

theorem slack_of_not_waiting {st : TS} (h : ¬ isWaiting st) : slack st = 0 :=
  slack_eq_zero fun _ e => h (e ▸ trivial)

def owed (pend : List TaskId) (c : TaskId) : Nat := if c ∈ pend then 1 else 0

@[simp] theorem owed_nil (c : TaskId) : owed [] c = 0 := rfl

theorem lst_true {f : Option TaskId} {c : TaskId} {dt : Task} :
    lst f c dt = true ↔ c ∈ dt.consumers ∧ some dt.id ≠ f := by
  simp [lst]

theorem nL_zero {f : Option TaskId} {ts : List Task} {c : TaskId} :
    nL f ts c = 0 ↔ ∀ dt ∈ ts, c ∈ dt.consumers → some dt.id = f := by
  unfold nL
  rw [List.countP_eq_zero]
  constructor
  · intro h dt hdt hc
    have := h dt hdt
    rw [lst_true] at this
    exact Classical.byContradiction fun hne => this ⟨hc, hne⟩
  · intro h dt hdt hl
    rw [lst_true] at hl
    exact hl.2 (h dt hdt hl.1)

theorem putTask_of_not_mem {ts : List Task} {t : Task} (h : t.id ∉ taskIds ts) : putTask ts t = ts := by
  induction ts with
  | nil => rfl
  | cons y ys ih =>
    simp only [taskIds, List.map_cons, List.mem_cons, not_or] at h
    simp only [putTask]
    have : ¬ y.id = t.id := fun e => h.1 e.symm
    simp only [this, if_false]
    rw [ih h.2]

/-- exact effect of replacing one record on the number of listers -/
theorem nL_putTask {f : Option TaskId} {ts : List Task} {t' told : Task} (hn : (taskIds ts).Nodup)
    (hf : findTask ts t'.id = some told) (c : TaskId) :
    nL f (putTask ts t') c + (if lst f c told then 1 else 0) = nL f ts c + (if lst f c t' then 1 else 0) := by
  induction ts with
  | nil => cases hf
  | cons y ys ih =>
    simp only [taskIds, List.map_cons, List.nodup_cons] at hn
    simp only [findTask] at hf
    simp only [putTask]
    split at hf
    · rename_i hy
      cases hf
      simp only [hy, if_true]
      rw [putTask_of_not_mem (by rw [← hy]; exact hn.1)]
      simp only [nL, List.countP_cons]
      omega
    · rename_i hy
      simp only [hy, if_false]
      have := ih hn.2 hf
      simp only [nL, List.countP_cons] at this ⊢
      omega

theorem eraseTask_sublist (ts : List Task) (id : TaskId) : (eraseTask ts id).Sublist ts := by
  induction ts with
  | nil => exact List.Sublist.refl _
  | cons y ys ih =>
    simp only [eraseTask]
    split
    · exact List.sublist_cons_self _ _
    · exact List.Sublist.cons_cons _ ih

theorem nL_eraseTask_le (f : Option TaskId) (ts : List Task) (id c : TaskId) :
    nL f (eraseTask ts id) c ≤ nL f ts c :=
  List.Sublist.countP_le (eraseTask_sublist ts id)

/-- a property of all (queue index, id) pairs of the queues -/
def qsAll (qs : List Queue) (P : Nat → TaskId → Prop) : Prop :=
  ∀ (i : Nat) (q : Queue), qs[i]? = some q → ∀ id ∈ qIds q, P i id

/-- the ids of every queue of `qs'` come from the same queue of `qs`, or are `t` in queue `rq` -/
def QSubAdd (qs qs' : List Queue) (rq : Nat) (t : TaskId) : Prop :=
  ∀ (i : Nat) (q' : Queue), qs'[i]? = some q' → ∀ id ∈ qIds q', (∃ q, qs[i]? = some q ∧ id ∈ qIds q) ∨ (i = rq ∧ id = t)

def QSub (qs qs' : List Queue) : Prop :=
  ∀ (i : Nat) (q' : Queue), qs'[i]? = some q' → ∀ id ∈ qIds q', ∃ q, qs[i]? = some q ∧ id ∈ qIds q

theorem QSub.refl (qs : List Queue) : QSub qs qs := fun _ q hq _ hid => ⟨q, hq, hid⟩

theorem QSub.all {qs qs' : List Queue} (h : QSub qs qs') {P : Nat → TaskId → Prop} (ha : qsAll qs P) : qsAll qs' P := by
  intro i q' hq' id hid
  obtain ⟨q, hq, hid'⟩ := h i q' hq' id hid
  exact ha i q hq id hid'

theorem QSubAdd.all {qs qs' : List Queue} {rq : Nat} {t : TaskId} (h : QSubAdd qs qs' rq t)
    {P : Nat → TaskId → Prop} (ha : qsAll qs P) (ht : P rq t) : qsAll qs' P := by
  intro i q' hq' id hid
  rcases h i q' hq' id hid with ⟨q, hq, hid'⟩ | ⟨rfl, rfl⟩
  · exact ha i q hq id hid'
  · exact ht

theorem getElem?_modifyQueue (qs : List Queue) (i : Nat) (g : Queue → Queue) (j : Nat) :
    (modifyQueue qs i g)[j]? = if j = i then (qs[i]?).map g else qs[j]? := by
  unfold modifyQueue
  cases hq : qs[i]? with
  | none =>
    simp only [Option.map_none]
    split
    · rename_i e; rw [e, hq]
    · rfl
  | some q =>
    simp only [Option.map_some, List.getElem?_set]
    by_cases e : i = j
    · subst e
      simp only [if_true]
      have : i < qs.length := by
        rcases Nat.lt_or_ge i qs.length with h | h
        · exact h
        · rw [List.getElem?_eq_none h] at hq; cases hq
      simp [this]
    · have : ¬ j = i := fun e' => e e'.symm
      simp [e, this]

theorem readyRemove_sub (ready : List (Int × List TaskId)) (t : TaskId) (p : Int) (x : TaskId)
    (h : x ∈ rIds (readyRemove ready t p)) : x ∈ rIds ready := by
  obtain ⟨q, hq⟩ := NP.mem_rIds_iff_pairs.mp h
  exact NP.mem_rIds_iff_pairs.mpr ⟨q, NPC.mem_rPairs_readyRemove_sub hq⟩

theorem Queue.remove_sub (q : Queue) (t : TaskId) (p : Int) (x : TaskId) (h : x ∈ qIds (q.remove t p)) :
    x ∈ qIds q := by
  rw [NP.mem_qIds] at h ⊢
  rcases NPC.remove_cases q t p with ⟨pp, ts, hp, _, _, e⟩ | ⟨_, e⟩ <;> rw [e] at h
  · refine h.imp (fun a => a) fun a => ?_
    obtain ⟨_, _, e1, hx⟩ := NP.mem_pfIds.mp a
    cases e1
    exact NP.mem_pfIds.mpr ⟨pp, ts, hp, List.mem_of_mem_erase hx⟩
  · exact h.imp (readyRemove_sub _ _ _ _) fun a => a

theorem checkDispose_sub (q : Queue) (p : Int) (x : TaskId) (h : x ∈ qIds (q.checkDispose p).1) : x ∈ qIds q := by
  rw [NP.mem_qIds] at h ⊢
  rcases h with h | h
  · obtain ⟨pr, hq⟩ := NP.mem_rIds_iff_pairs.mp h
    rcases NPC.mem_rPairs_checkDispose.mp hq with a | ⟨pp, ts, hp, _, _, hx⟩
    · exact .inl (NP.mem_rIds_iff_pairs.mpr ⟨pr, a⟩)
    · exact .inr (NP.mem_pfIds.mpr ⟨pp, ts, hp, hx⟩)
  · obtain ⟨pp, ts, hp, hx⟩ := NP.mem_pfIds.mp h
    exact .inr (NP.mem_pfIds.mpr ⟨pp, ts, (NPC.checkDispose_prefill.mp hp).1, hx⟩)

theorem getElem?_disposeAll (qs : List Queue) (p : Int) (j : Nat) :
    (disposeAll qs p).1[j]? = (qs[j]?).map fun q => (q.checkDispose p).1 := by
  induction qs generalizing j with
  | nil => simp [disposeAll]
  | cons q rest ih =>
    simp only [disposeAll]
    cases j with
    | zero => simp
    | succ k => simpa using ih k

theorem addReady_qsub {s s' : State} {t : Task} {r : List TaskId} (h : s.addReady t = .ok (s', r)) :
    QSubAdd s.queues s'.queues t.rq t.id := by
  obtain ⟨_, _, rfl⟩ := addReady_ok_iff.mp h
  intro i q' hq' id hid
  rw [show ({ s with queues := _ } : State).queues = _ from rfl, getElem?_modifyQueue] at hq'
  by_cases e : i = t.rq
  · rw [if_pos e, getElem?_disposeAll] at hq'
    cases hq : s.queues[t.rq]? with
    | none => rw [hq] at hq'; cases hq'
    | some q =>
      rw [hq] at hq'
      cases hq'
      rw [qIds_eq, List.mem_append] at hid
      rcases hid with h1 | h1
      · rcases readyAdd_sub _ _ _ _ h1 with h2 | h2
        · exact Or.inr ⟨e, h2⟩
        · exact Or.inl ⟨q, by rw [e]; exact hq, checkDispose_sub q _ _ (by rw [qIds_eq]; exact List.mem_append_left _ h2)⟩
      · exact Or.inl ⟨q, by rw [e]; exact hq, checkDispose_sub q _ _ (by rw [qIds_eq]; exact List.mem_append_right _ h1)⟩
  · rw [if_neg e, getElem?_disposeAll] at hq'
    cases hq : s.queues[i]? with
    | none => rw [hq] at hq'; cases hq'
    | some q =>
      rw [hq] at hq'
      cases hq'
      exact Or.inl ⟨q, rfl, checkDispose_sub q _ _ hid⟩

theorem queueRemove_qsub {s s' : State} {rq : Nat} {t : TaskId} {p : Int} (h : s.queueRemove rq t p = .ok s') :
    QSub s.queues s'.queues := by
  obtain ⟨_, rfl⟩ := queueRemove_ok_iff.mp h
  intro i q' hq' id hid
  rw [show ({ s with queues := _ } : State).queues = _ from rfl, getElem?_modifyQueue] at hq'
  by_cases e : i = rq
  · rw [if_pos e] at hq'
    cases hq : s.queues[rq]? with
    | none => rw [hq] at hq'; cases hq'
    | some q =>
      rw [hq] at hq'
      cases hq'
      exact ⟨q, by rw [e]; exact hq, Queue.remove_sub q _ _ _ hid⟩
  · rw [if_neg e] at hq'
    exact ⟨q', hq', hid⟩

theorem removePrefilled_qsub {s s' : State} {rq : Nat} {t : TaskId} (h : s.removePrefilled rq t = .ok s') :
    QSub s.queues s'.queues := by
  obtain ⟨q, pp, ts, hq, hpre, _, rfl⟩ := removePrefilled_ok_iff.mp h
  intro i q' hq' id hid
  rw [show ({ s with queues := _ } : State).queues = _ from rfl] at hq'
  by_cases e : rq = i
  · subst e
    rw [List.getElem?_set_self (List.getElem?_eq_some_iff.mp hq).1] at hq'
    cases hq'
    refine ⟨q, hq, ?_⟩
    rw [qIds_eq, List.mem_append] at hid ⊢
    refine hid.imp (fun x => x) fun h1 => ?_
    rw [hpre]
    by_cases he : (ts.erase t).isEmpty = true
    · rw [if_pos he] at h1; cases h1
    · rw [if_neg he] at h1; exact List.mem_of_mem_erase h1
  · rw [List.getElem?_set_ne e] at hq'
    exact ⟨q', hq', hid⟩

structure QGood (U : List TaskId) (f : Option TaskId) (ts : List Task) (i : Nat) (id : TaskId) : Prop where
  u : id ∈ U
  rq : ∀ t, findTask ts id = some t → t.rq = i
  nl : ∀ dt ∈ ts, id ∈ dt.consumers → some dt.id = f
  /-- a queued task has no unfinished dependency: it is `Waiting 0` or not Waiting -/
  z : ∀ t, findTask ts id = some t → slack t.state = 0

/-- the invariant on a task list and a queue list (`QInv`: those of a state).
* `U` — all task ids submitted so far (ghost); every id in the map, in a consumer list or in a queue is in `U`;
* `f` — the task that is being finished (`none` at operation boundaries): the only task that may be in state
  Finished, and the only lister that does not count;
* `cnt` — **the dependency count**: for every task `c` of the map, the number of tasks (other than `f`) that list
  `c` as a consumer is at most `slack c.state` (`n` for `Waiting n`, 0 for every other state); `pend` = consumers of
  `f` whose counter has not been decremented yet (they owe one);
* `qg` — every id in ready/prefill queue `i` is in `U`, is (if known) a task of request `i` whose state has no
  slack (`Waiting 0` or not Waiting), and no task other than `f` lists it as a consumer.
(Not claimed, because false of the model: that a queued id IS a task of the map — see `CoreQueueWitness.lean`.) -/
structure QInv4 (U : List TaskId) (f : Option TaskId) (pend : List TaskId) (ts : List Task) (qs : List Queue) : Prop where
  nd : (taskIds ts).Nodup
  uT : ∀ t ∈ ts, t.id ∈ U
  uC : ∀ t ∈ ts, ∀ c ∈ t.consumers, c ∈ U
  cnd : ∀ t ∈ ts, t.consumers.Nodup
  fin : ∀ t ∈ ts, t.state = .finished → some t.id = f
  cnt : ∀ c t, findTask ts c = some t → nL f ts c + owed pend c ≤ slack t.state
  qg : qsAll qs (QGood U f ts)

def QInv (U : List TaskId) (f : Option TaskId) (pend : List TaskId) (s : State) : Prop :=
  QInv4 U f pend s.tasks s.queues

/-- every instance of the invariant that holds in `s` holds in `s'` (a preorder: it chains through the intermediate
states of an operation) -/
def Safe (s s' : State) : Prop := ∀ U f pend, QInv U f pend s → QInv U f pend s'

theorem Safe.refl (s : State) : Safe s s := fun _ _ _ h => h
theorem Safe.trans {a b c : State} (h1 : Safe a b) (h2 : Safe b c) : Safe a c := fun U f p h => h2 U f p (h1 U f p h)

theorem Safe.of_eq {s s' : State} (ht : s'.tasks = s.tasks) (hq : s'.queues = s.queues) : Safe s s' := by
  intro U f p h
  unfold QInv at h ⊢
  rw [ht, hq]; exact h

theorem QInv4.queues {U f pend ts qs qs'} (h : QInv4 U f pend ts qs) (hq : qsAll qs' (QGood U f ts)) :
    QInv4 U f pend ts qs' := ⟨h.nd, h.uT, h.uC, h.cnd, h.fin, h.cnt, hq⟩

theorem Safe.of_qsub {s s' : State} (ht : s'.tasks = s.tasks) (hq : QSub s.queues s'.queues) : Safe s s' := by
  intro U f p h
  unfold QInv at h ⊢
  rw [ht]
  exact h.queues (hq.all h.qg)

/-- a task whose state has no slack is listed by nobody (but the finishing task) -/
theorem QInv4.nl_of_slack {U f pend ts qs} (h : QInv4 U f pend ts qs) {c : TaskId} {t : Task}
    (hf : findTask ts c = some t) (hs : slack t.state = 0) : ∀ dt ∈ ts, c ∈ dt.consumers → some dt.id = f := by
  have := h.cnt c t hf
  rw [hs] at this
  exact nL_zero.mp (by omega)

/-- the task (if known) is in a state without unfinished dependencies -/
def NotPos (s : State) (id : TaskId) : Prop := ∀ task, findTask s.tasks id = some task → slack task.state = 0

theorem NotPos.of_tasks {s s2 : State} (h2 : s2.tasks = s.tasks) : ∀ x, NotPos s x → NotPos s2 x := by
  intro x hx task hf
  rw [h2] at hf
  exact hx task hf

end HqModel.Core
