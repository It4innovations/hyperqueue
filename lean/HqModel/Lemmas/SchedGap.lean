import HqModel.Sched.Milp
/-!
What `fitCount` (`task_max_count_for_request`) and `gap` (`GapCache::get_gap`) mean per resource kind: the gap tasks of the
lower class fit, in BOTH kinds, beside a maximal packing of the higher class into the worker's total resources (`gap_fits`), and
in SOME kind the higher class asks for they take less than one task of it (`gap_lt_some_kind`). The objective adds the shares
of both kinds, so through the OTHER kind the gap tasks may weigh more: the mechanism of `c15_counterexample_two_resources`.
-/
namespace HqModel.Sched

theorem gapLeft_le (g : Nat → Nat) (high : Nat) : ∀ (l : List Nat) (base : Nat), gapLeft g high l base ≤ base
  | [], base => Nat.le_refl _
  | a :: rest, base => by
    simp only [gapLeft, List.foldl_cons]
    split
    · exact Nat.le_trans (gapLeft_le g high rest _) (Nat.sub_le _ _)
    · exact gapLeft_le g high rest _

theorem fitCount_fits1 {a1 a2 n1 n2 : Nat} : n1 * fitCount a1 a2 n1 n2 ≤ a1 := by
  unfold fitCount
  split
  · exact Nat.mul_div_le _ _
  · exact Nat.le_trans (Nat.mul_le_mul_left _ (Nat.min_le_left _ _)) (Nat.mul_div_le _ _)

theorem fitCount_fits2 {a1 a2 n1 n2 : Nat} : n2 * fitCount a1 a2 n1 n2 ≤ a2 := by
  unfold fitCount
  split
  · rename_i h; simp [h]
  · exact Nat.le_trans (Nat.mul_le_mul_left _ (Nat.min_le_right _ _)) (Nat.mul_div_le _ _)

theorem le_fitCount {a1 a2 n1 n2 k : Nat} (h1 : 0 < n1) (hk1 : n1 * k ≤ a1) (hk2 : n2 * k ≤ a2) :
    k ≤ fitCount a1 a2 n1 n2 := by
  have e1 : k ≤ a1 / n1 := by rw [Nat.le_div_iff_mul_le h1, Nat.mul_comm]; exact hk1
  unfold fitCount
  split
  · exact e1
  · rename_i h
    have h2 : 0 < n2 := Nat.pos_of_ne_zero h
    have e2 : k ≤ a2 / n2 := by rw [Nat.le_div_iff_mul_le h2, Nat.mul_comm]; exact hk2
    exact Nat.le_min.mpr ⟨e1, e2⟩

theorem add_le_of_le_gapLeft {g : Nat → Nat} {high : Nat} {assigned : List Nat} {base cnt k : Nat}
    (hk : k ≤ gapLeft g high assigned (base - cnt)) (hc : cnt ≤ base) : k + cnt ≤ base := by
  have := gapLeft_le g high assigned (base - cnt)
  omega

theorem gap_fits (inst : Instance) (high low : Nat) (w : Worker) :
    inst.need low * gap inst high low w +
        inst.need high * fitCount w.total w.total2 (inst.need high) (inst.need2 high) ≤ w.total ∧
      inst.need2 low * gap inst high low w +
        inst.need2 high * fitCount w.total w.total2 (inst.need high) (inst.need2 high) ≤ w.total2 :=
  ⟨add_le_of_le_gapLeft fitCount_fits1 fitCount_fits1,
   add_le_of_le_gapLeft fitCount_fits2 fitCount_fits2⟩

theorem gap_lt_some_kind (inst : Instance) (high low : Nat) (w : Worker) (hpos : 0 < inst.need high) :
    inst.need low * gap inst high low w < inst.need high ∨
      (inst.need2 high ≠ 0 ∧ inst.need2 low * gap inst high low w < inst.need2 high) := by
  obtain ⟨f1, f2⟩ := gap_fits inst high low w
  generalize hn : fitCount w.total w.total2 (inst.need high) (inst.need2 high) = n at f1 f2
  -- n + 1 tasks of `high` do not fit
  have hmax : ¬ (inst.need high * (n + 1) ≤ w.total ∧ inst.need2 high * (n + 1) ≤ w.total2) := by
    rintro ⟨h1, h2⟩
    have := le_fitCount hpos h1 h2
    omega
  by_cases h1 : inst.need high * (n + 1) ≤ w.total
  · right
    have h2 : ¬ inst.need2 high * (n + 1) ≤ w.total2 := fun h2 => hmax ⟨h1, h2⟩
    rw [Nat.mul_add, Nat.mul_one] at h2
    refine ⟨fun h0 => ?_, by omega⟩
    rw [h0] at h2
    simp at h2
  · left
    rw [Nat.mul_add, Nat.mul_one] at h1
    omega

end HqModel.Sched
