import HqModel.Journal.File
/-!
Under `Codec.Lawful` (what Journal/File.lean asks of bincode) the reader returns the records of
`header ++ enc r₁ ++ … ++ enc rₙ` before it looks at whatever follows (`readLoop_records`).
-/
namespace HqModel.Journal

/-- What the theorems assume about the serialisation of one event (bincode of `Event`; trusted, swept by the harness). -/
structure Codec.Lawful (c : Codec ρ) : Prop where
  /-- decoding does not depend on what follows and returns the number of bytes consumed -/
  dec_enc : ∀ r rest, c.dec (c.enc r ++ rest) = .ok r (c.enc r).length
  enc_ne : ∀ r, c.enc r ≠ []
  /-- a non-empty strict prefix of an encoding runs into the end of the file (`UnexpectedEof`) -/
  dec_prefix : ∀ r p, p <+: c.enc r → p ≠ c.enc r → p ≠ [] → c.dec p = .eof

theorem length_le_flatMap_enc {c : Codec ρ} (hc : c.Lawful) (J : List ρ) : J.length ≤ (J.flatMap c.enc).length := by
  induction J with
  | nil => simp
  | cons r rs ih =>
    have : 0 < (c.enc r).length := List.length_pos_iff.2 (hc.enc_ne r)
    simp only [List.flatMap_cons, List.length_append, List.length_cons]
    omega

theorem readLoop_records {c : Codec ρ} (hc : c.Lawful) (J : List ρ) : ∀ (f : Nat) (tail : Bytes) (pos : Nat) (acc : List ρ),
    readLoop c (J.length + f) (J.flatMap c.enc ++ tail) pos acc =
      readLoop c f tail (pos + (J.flatMap c.enc).length) (acc ++ J) := by
  induction J with
  | nil => intro f tail pos acc; simp
  | cons r rs ih =>
    intro f tail pos acc
    have hne : c.enc r ≠ [] := hc.enc_ne r
    have hlen : 0 < (c.enc r).length := List.length_pos_iff.2 hne
    have e1 : (r :: rs).length + f = (rs.length + f) + 1 := by simp; omega
    rw [e1]
    simp only [List.flatMap_cons, List.append_assoc]
    conv => lhs; unfold readLoop
    have hnonempty : (c.enc r ++ (rs.flatMap c.enc ++ tail)).isEmpty = false := by
      cases h : c.enc r with
      | nil => exact absurd h hne
      | cons a as => simp
    simp only [hnonempty, Bool.false_eq_true, if_false, hc.dec_enc]
    have : (c.enc r).length ≠ 0 := by omega
    simp only [this, if_false, List.drop_left]
    rw [ih]
    simp only [List.length_append, List.append_assoc, List.singleton_append, Nat.add_assoc]

theorem truncateAppend_eq {c : Codec ρ} (hdr : Bytes) (J K : List ρ) (p : Bytes) :
    truncateAppend c (fileOf c hdr J ++ p) (fileOf c hdr J).length K = fileOf c hdr (J ++ K) := by
  unfold truncateAppend fileOf
  rw [List.take_left' rfl, List.flatMap_append, List.append_assoc]

end HqModel.Journal
