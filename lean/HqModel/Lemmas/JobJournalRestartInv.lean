import HqModel.Lemmas.JobJournalRestart
/-!
# `StateWF` and `Emit.Inv` of the restored job-layer state

For a producible journal `J`, `restore J = .ok (R, X)` gives an M4 state `jobStateOf R X` that is well-formed
(`restart_wf`) and, when `meaning J` is failure-closed, satisfies
`Emit.Inv (jobStateOf R X) (meaning (J ++ [.serverStart uid]))` (`restart_inv`). Both rest on `restart_core`: every
restored job has an entry in `meaning J` with the same id, open flag, task outcomes and counters (`Match`).
-/
namespace HqModel.Emit
open HqModel.Job HqModel.Journal

theorem restore_facts {J : List Record} {R : Restorer} {X : Restored} (hp : Producible J)
    (e : restore J = .ok (R, X)) :
    Journal.Inv R (meaning J) ∧ X.jobs.map RestoredJob.view = (meaning J).jobs.map (fun ja => ja.2.view ja.1) := by
  obtain ⟨R', X', e', h1, h2, -⟩ := restore_inv hp
  cases e.symm.trans e'
  exact ⟨h1, h2⟩

theorem oc_tstate (st : Journal.TState) : oc (tstate st) = st.outcome := by
  cases st <;> rfl

theorem tstate_not_running {st : Journal.TState} (h : st = .waiting ∨ st.isCompleted = true) :
    tstate st ≠ .running := by
  cases st <;> simp [tstate, Journal.TState.isCompleted] at h ⊢

/-- one restored job against its entry in `meaning J` -/
structure Match (rj : RestoredJob) (k : Nat) (aj : AJob) : Prop where
  id : k = rj.id
  isOpen : aj.isOpen = rj.isOpen
  tasks : aj.tasks.map (fun a => (a.id, a.st)) = rj.tasks.map (fun t => (t.1, t.2.outcome))
  counters : aj.counters = rj.counters

theorem match_of_views {xs : List RestoredJob} {as : List (Nat × AJob)}
    (h : xs.map RestoredJob.view = as.map (fun ja => ja.2.view ja.1)) :
    ∀ rj ∈ xs, ∃ ja ∈ as, Match rj ja.1 ja.2 := by
  intro rj hrj
  have : rj.view ∈ as.map (fun ja => ja.2.view ja.1) := h ▸ List.mem_map.mpr ⟨rj, hrj, rfl⟩
  obtain ⟨ja, hja, hv⟩ := List.mem_map.mp this
  simp only [AJob.view, RestoredJob.view, Prod.mk.injEq] at hv
  exact ⟨ja, hja, hv.1, hv.2.1, hv.2.2.2.2.1, hv.2.2.2.2.2⟩

theorem Match.keys {rj : RestoredJob} {k : Nat} {aj : AJob} (h : Match rj k aj) :
    keys (jobOf rj).tasks = aj.tasks.map (·.id) := by
  have := congrArg (List.map Prod.fst) h.tasks
  simp only [List.map_map, Function.comp_def] at this
  unfold Job.keys jobOf
  simp only [List.map_map, Function.comp_def]
  exact this.symm

theorem Match.count {rj : RestoredJob} {k : Nat} {aj : AJob} (h : Match rj k aj) (x : Job.TState)
    (hx : x.terminal = true) : countS (jobOf rj).tasks x = aj.count (oc x) := by
  have e1 : aj.count (oc x) = List.countP (fun pr : Nat × Outcome => pr.2 == oc x) (aj.tasks.map fun a => (a.id, a.st)) := by
    rw [AJob.count, ← List.countP_eq_length_filter, List.countP_map]
    rfl
  have e2 : countS (jobOf rj).tasks x =
      List.countP (fun pr : Nat × Outcome => pr.2 == oc x) (rj.tasks.map fun t => (t.1, t.2.outcome)) := by
    simp only [countS, jobOf, List.countP_map, Function.comp_def]
    apply List.countP_congr
    intro p _
    cases x <;> simp [Job.TState.terminal] at hx <;> cases p.2 <;> simp [tstate, oc, Journal.TState.outcome]
  rw [e1, e2, h.tasks]

theorem Match.wf {rj : RestoredJob} {k : Nat} {aj : AJob} (h : Match rj k aj) (hc : Clean rj.tasks)
    (hnd : (aj.tasks.map (·.id)).Nodup) : JobWF (jobOf rj) := by
  have hcnt := h.counters
  simp only [AJob.counters] at hcnt
  refine ⟨by rw [h.keys]; exact hnd, ?_, ?_, ?_, ?_, ?_⟩
  · have h0 : countS (jobOf rj).tasks .running = 0 := by
      refine List.countP_eq_zero.mpr ?_
      intro p hp
      simp only [jobOf, List.mem_map] at hp
      obtain ⟨q, hq, rfl⟩ := hp
      simpa using tstate_not_running (hc q hq)
    rw [h0]
    simp only [jobOf, ← hcnt]
  · rw [h.count .finished rfl]; simp only [jobOf, ← hcnt]; rfl
  · rw [h.count .failed rfl]; simp only [jobOf, ← hcnt]; rfl
  · rw [h.count .canceled rfl]; simp only [jobOf, ← hcnt]; rfl
  · rw [h.count .aborted rfl]; simp only [jobOf, ← hcnt]; rfl

theorem Match.jsim {rj : RestoredJob} {k : Nat} {aj : AJob} (h : Match rj k aj) (hc : Clean rj.tasks)
    (hnd : (aj.tasks.map (·.id)).Nodup) : JSim (jobOf rj) aj := by
  refine ⟨h.isOpen, h.keys.symm, ?_⟩
  intro a ha
  have : (a.id, a.st) ∈ rj.tasks.map (fun t => (t.1, t.2.outcome)) :=
    h.tasks ▸ List.mem_map.mpr ⟨a, ha, rfl⟩
  obtain ⟨p, hp, hpe⟩ := List.mem_map.mp this
  simp only [Prod.mk.injEq] at hpe
  have hm : (a.id, tstate p.2) ∈ (jobOf rj).tasks := by
    simp only [jobOf, List.mem_map]
    exact ⟨p, hp, by rw [hpe.1]⟩
  have hl := lookup_of_mem (by rw [h.keys]; exact hnd) hm
  exact ⟨tstate p.2, hl, by rw [oc_tstate]; exact hpe.2.symm,
    fun e => absurd e (tstate_not_running (hc p hp))⟩

theorem restart_core {J : List Record} {R : Restorer} {X : Restored} (hp : Producible J)
    (e : restore J = .ok (R, X)) :
    (∀ rj ∈ X.jobs, ∃ aj, alGet (meaning J).jobs rj.id = some aj ∧ Match rj rj.id aj ∧ Clean rj.tasks ∧
      (aj.tasks.map (·.id)).Nodup ∧ rj.id ≤ (meaning J).maxJob) ∧
    X.jobs.map (·.id) = (meaning J).jobs.map (·.1) ∧ R.maxJob = (meaning J).maxJob := by
  obtain ⟨hinv, hv⟩ := restore_facts hp e
  have hnd := meaning_nodup J
  have hkeys := (meaning_keysLe J hp).1
  refine ⟨?_, ?_, hinv.maxJob⟩
  · intro rj hrj
    obtain ⟨ja, hja, hm⟩ := match_of_views hv rj hrj
    obtain ⟨k, aj⟩ := ja
    have hk : k = rj.id := hm.id
    subst hk
    have hg := alGet_of_mem hnd hja
    obtain ⟨rj0, -, hrel, -⟩ := hinv.getJob hg
    exact ⟨aj, hg, hm, restore_clean e rj hrj, JobRel.ids_nodup hrel, hkeys _ _ hg⟩
  · have := congrArg (List.map fun v : Nat × Bool × Option Nat × Nat × List (Nat × Outcome) × JCounters => v.1) hv
    simpa [List.map_map, Function.comp_def, RestoredJob.view, AJob.view] using this

theorem restart_wf {J : List Record} {R : Restorer} {X : Restored} (hp : Producible J)
    (e : restore J = .ok (R, X)) : StateWF (jobStateOf R X) := by
  obtain ⟨h1, h2, h3⟩ := restart_core hp e
  refine ⟨?_, ?_, ?_⟩
  · intro job hj
    simp only [jobStateOf, List.mem_map] at hj
    obtain ⟨rj, hrj, rfl⟩ := hj
    obtain ⟨aj, -, hm, hc, hnd, -⟩ := h1 rj hrj
    exact hm.wf hc hnd
  · have : (jobStateOf R X).jobs.map (·.id) = X.jobs.map (·.id) := by
      simp [jobStateOf, jobOf, List.map_map, Function.comp_def]
    rw [this, h2]
    exact meaning_nodup J
  · intro job hj
    simp only [jobStateOf, List.mem_map] at hj
    obtain ⟨rj, hrj, rfl⟩ := hj
    obtain ⟨aj, -, -, -, -, hle⟩ := h1 rj hrj
    simp only [jobStateOf, jobOf, counters]
    omega

theorem restart_inv {J : List Record} {R : Restorer} {X : Restored} (hp : Producible J)
    (hd : DepOk (meaning J)) (e : restore J = .ok (R, X)) (uid : String) :
    Inv (jobStateOf R X) (meaning (J ++ [.serverStart uid])) := by
  obtain ⟨h1, h2, h3⟩ := restart_core hp e
  have hA : (meaning (J ++ [.serverStart uid])).jobs = (meaning J).jobs := by rw [meaning_snoc]; rfl
  have base : Inv (jobStateOf R X) (meaning J) := by
    refine ⟨restart_wf hp e, ?_, ?_, hd⟩
    · intro ja hja
      have := (meaning_keysLe J hp).1 ja.1 ja.2 (alGet_of_mem (meaning_nodup J) hja)
      simp only [jobStateOf, counters]
      omega
    · intro j job hg
      obtain ⟨hmem, hid⟩ := findJob_some hg
      simp only [jobStateOf, List.mem_map] at hmem
      obtain ⟨rj, hrj, rfl⟩ := hmem
      obtain ⟨aj, hga, hm, hc, hnd, -⟩ := h1 rj hrj
      have : j = rj.id := hid.symm
      subst this
      rw [hga]
      exact hm.jsim hc hnd
  exact base.congr rfl rfl hA

theorem nextState_nil : nextState [] = {} := rfl

end HqModel.Emit
