import HqModel.Lemmas.AllocHas
import HqModel.Lemmas.ListFacts
/-!
Which groups the whole indices of `scatter` come from, for any free state. The round-robin loop of
`claim_scatter_from_groups` is a water-filling: there are a level `k` (completed rounds) and a cut position `j` such
that group `p` gives `min(free_p, k)` whole indices, plus one more iff `p < j` and it still has one (`lvl`). Corollary:
the number of groups used is `min(units, #groups with a free index)` — the formula of the harness monitor `c16.scatter`.
-/
namespace HqModel.Alloc

def wcount (acc : List AIdx) (p : Nat) : Nat := (acc.filter (fun e => e.fractions == 0 && e.group == p)).length

theorem wcount_append (a b : List AIdx) (p : Nat) : wcount (a ++ b) p = wcount a p + wcount b p := by
  simp [wcount, List.filter_append]

theorem wcount_whole (i g p : Nat) : wcount [⟨i, g, 0⟩] p = if p = g then 1 else 0 := by
  unfold wcount
  by_cases h : p = g
  · subst h; simp
  · have : ¬ g = p := fun h' => h h'.symm
    simp [h, this]

theorem wcount_frac {e : AIdx} (h : e.fractions ≠ 0) (p : Nat) : wcount [e] p = 0 := by
  simp [wcount, h]

theorem wcount_perm {a b : List AIdx} (h : a.Perm b) (p : Nat) : wcount a p = wcount b p := (h.filter _).length_eq

def lvl (f : Nat → Nat) (k j p : Nat) : Nat := min (f p) k + (if p < j ∧ k < f p then 1 else 0)

/-- the level reached is `k`, or `k + 1` before the cut, capped by what the group has -/
theorem lvl_eq_min (f : Nat → Nat) (k j p : Nat) : lvl f k j p = min (f p) (k + if p < j then 1 else 0) := by
  unfold lvl
  by_cases hk : k < f p
  · rw [Nat.min_eq_right (Nat.le_of_lt hk)]
    by_cases hj : p < j
    · rw [if_pos ⟨hj, hk⟩, if_pos hj, Nat.min_eq_right (Nat.succ_le_of_lt hk)]
    · rw [if_neg (fun h => hj h.1), if_neg hj, Nat.add_zero, Nat.min_eq_right (Nat.le_of_lt hk)]
  · have hle := Nat.le_of_not_lt hk
    rw [Nat.min_eq_left hle, if_neg (fun h => hk h.2), Nat.add_zero,
      Nat.min_eq_left (Nat.le_trans hle (Nat.le_add_right _ _))]

theorem lvl_step_take {f : Nat → Nat} {k index : Nat} (hk : k < f index) (p : Nat) :
    lvl f k (index + 1) p = lvl f k index p + (if p = index then 1 else 0) := by
  rw [lvl_eq_min, lvl_eq_min]
  by_cases hp : p = index
  · subst hp
    simp only [Nat.lt_succ_self, Nat.lt_irrefl, if_true, if_false]
    omega
  · have : p < index + 1 ↔ p < index := by omega
    simp only [this, hp, if_false, Nat.add_zero]

theorem lvl_step_skip {f : Nat → Nat} {k index : Nat} (hle : f index ≤ k) (p : Nat) :
    lvl f k (index + 1) p = lvl f k index p := by
  rw [lvl_eq_min, lvl_eq_min]
  by_cases hp : p = index
  · subst hp
    simp only [Nat.lt_succ_self, Nat.lt_irrefl, if_true, if_false]
    omega
  · have : p < index + 1 ↔ p < index := by omega
    simp only [this]

theorem lvl_wrap {f : Nat → Nat} {n : Nat} (hf0 : ∀ p, n ≤ p → f p = 0) (k p : Nat) :
    lvl f (k + 1) 0 p = lvl f k n p := by
  rw [lvl_eq_min, lvl_eq_min]
  rcases Nat.lt_or_ge p n with hp | hp
  · simp only [Nat.not_lt_zero, if_false, hp, if_true, Nat.add_zero]
  · rw [hf0 p hp, Nat.zero_min, Nat.zero_min]

theorem lvl_mono {f : Nat → Nat} {k j k' j' : Nat} (h : k < k' ∨ (k = k' ∧ j ≤ j')) (p : Nat) :
    lvl f k j p ≤ lvl f k' j' p := by
  rw [lvl_eq_min, lvl_eq_min]
  have : (k + if p < j then 1 else 0) ≤ k' + if p < j' then 1 else 0 := by
    split <;> split <;> omega
  exact Nat.le_min.mpr ⟨Nat.min_le_left _ _, Nat.le_trans (Nat.min_le_right _ _) this⟩

def sumL (f : Nat → Nat) (k j n : Nat) : Nat := ((List.range n).map (lvl f k j)).sum

theorem lvl_next {f : Nat → Nat} {n : Nat} (hf0 : ∀ p, n ≤ p → f p = 0) (k : Nat) {index : Nat} (hilt : index < n) :
    ∃ k₂ j₂, (index + 1) % n = j₂ ∧ j₂ ≤ n ∧ ∀ p, lvl f k₂ j₂ p = lvl f k (index + 1) p := by
  rcases Nat.lt_or_ge (index + 1) n with h1 | h1
  · exact ⟨k, index + 1, Nat.mod_eq_of_lt h1, by omega, fun _ => rfl⟩
  · obtain rfl : index + 1 = n := by omega
    exact ⟨k + 1, 0, Nat.mod_self _, by omega, lvl_wrap hf0 k⟩

/-- `f` = free whole indices per group at the start; at position `index` of round `k` exactly `lvl f k index p`
indices of group `p` have been taken -/
theorem scatterLoop_level {pick : Option Nat} (f : Nat → Nat) (n : Nat) (hf0 : ∀ p, n ≤ p → f p = 0) :
    ∀ (fuel : Nat) (gs : List Group) (units fr index : Nat) (acc : List AIdx) (gs' : List Group) (acc' : List AIdx)
      (k : Nat), scatterLoop none pick fuel gs units fr index acc = .ok (gs', acc') →
      gs.length = n → index ≤ n →
      (∀ p, p < n → freeLen gs p = f p - lvl f k index p) →
      (∀ p, wcount acc p = lvl f k index p) →
      ∃ k' j', j' ≤ n ∧ (∀ p, wcount acc' p = lvl f k' j' p) ∧ sumL f k' j' n = sumL f k index n + units := by
  intro fuel gs units fr index acc gs' acc' k h
  -- the entry that takes the fraction is not a whole one: the counts stay
  have hlast : ∀ {index acc k} {e : AIdx}, e.fractions ≠ 0 → acc' = acc ++ [e] → index ≤ n →
      (∀ p, wcount acc p = lvl f k index p) →
      ∃ k' j', j' ≤ n ∧ (∀ p, wcount acc' p = lvl f k' j' p) ∧ sumL f k' j' n = sumL f k index n + 0 := by
    rintro index acc k e he rfl hidx hacc
    exact ⟨k, index, hidx, fun p => by rw [wcount_append, wcount_frac he, Nat.add_zero, hacc p], rfl⟩
  refine scatterLoop_induct (motive := fun gs units _ index acc => ∀ k, gs.length = n → index ≤ n →
    (∀ p, p < n → freeLen gs p = f p - lvl f k index p) → (∀ p, wcount acc p = lvl f k index p) →
    ∃ k' j', j' ≤ n ∧ (∀ p, wcount acc' p = lvl f k' j' p) ∧ sumL f k' j' n = sumL f k index n + units)
    (fun index k _ hidx _ hacc => ⟨k, index, hidx, hacc, rfl⟩) ?_ ?_ ?_ ?_ h k
  · intro gs units fr index acc gidx g i rest hget hg hu hfree ih k hlen hidx hgs hacc
    obtain rfl : index = gidx := Option.some.inj hget
    have hilt : index < n := hlen ▸ lt_length_of_getElem? hg
    obtain ⟨k₂, j₂, hj₂, hj₂n, hl₂⟩ := lvl_next hf0 k hilt
    rw [show (index + 1) % setLen none gs.length = j₂ by rw [← hj₂, ← hlen]; rfl] at ih
    have hk : k < f index := by
      have := hgs index hilt
      simp only [freeLen, hg, hfree, lvl, Nat.lt_irrefl, false_and, if_false, Option.map_some, Option.getD_some,
        List.length_cons] at this
      omega
    obtain ⟨k', j', r1, r2, r3⟩ := ih k₂ (by simp [hlen]) hj₂n
      (fun p hp => by
        rw [hl₂, lvl_step_take hk]
        have := hgs p hp
        by_cases hpi : p = index
        · subst hpi
          simp only [freeLen, hg, hfree, Option.map_some, Option.getD_some, List.length_cons] at this
          simp only [freeLen, get_set_same _ hg, Option.map_some,
            Option.getD_some, if_true]
          omega
        · rw [if_neg hpi, Nat.add_zero, ← this]
          unfold freeLen
          rw [List.getElem?_set_ne (fun h' => hpi h'.symm)])
      (fun p => by rw [hl₂, lvl_step_take hk, wcount_append, wcount_whole, hacc p])
    refine ⟨k', j', r1, r2, ?_⟩
    have : sumL f k₂ j₂ n = sumL f k index n + 1 := by
      unfold sumL
      rw [← sum_range_indicator (lvl f k index) hilt]
      exact sum_range_congr (fun p _ => by rw [hl₂, lvl_step_take hk])
    omega
  · intro gs units fr index acc gidx g hget hg hfree _ ih k hlen hidx hgs hacc
    obtain rfl : index = gidx := Option.some.inj hget
    have hilt : index < n := hlen ▸ lt_length_of_getElem? hg
    obtain ⟨k₂, j₂, hj₂, hj₂n, hl₂⟩ := lvl_next hf0 k hilt
    rw [show (index + 1) % setLen none gs.length = j₂ by rw [← hj₂, ← hlen]; rfl] at ih
    have hle : f index ≤ k := by
      have := hgs index hilt
      simp only [freeLen, hg, hfree, lvl, Nat.lt_irrefl, false_and, if_false, Option.map_some, Option.getD_some,
        List.length_nil] at this
      omega
    obtain ⟨k', j', r1, r2, r3⟩ := ih k₂ hlen hj₂n
      (fun p hp => by rw [hl₂, lvl_step_skip hle]; exact hgs p hp)
      (fun p => by rw [hl₂, lvl_step_skip hle]; exact hacc p)
    refine ⟨k', j', r1, r2, ?_⟩
    rw [r3]
    congr 1
    exact sum_range_congr (fun p _ => by rw [hl₂, lvl_step_skip hle])
  · intro _ _ _ _ _ _ _ _ _ _ hpos _ _ _ hacc' k _ hidx _ hacc
    exact hlast (Nat.ne_of_gt hpos) hacc' hidx hacc
  · intro _ _ _ _ _ _ _ _ _ _ hpos _ _ _ hacc' k _ hidx _ hacc
    exact hlast (Nat.ne_of_gt hpos) hacc' hidx hacc

theorem lvl_zero (f : Nat → Nat) (p : Nat) : lvl f 0 0 p = 0 := by simp [lvl]

theorem freeLen_ge (gs : List Group) (p : Nat) (h : gs.length ≤ p) : freeLen gs p = 0 := by
  simp [freeLen, List.getElem?_eq_none h]

theorem claimScatter_level {amount : Nat} {gs gs' : List Group} {pick : Option Nat} {acc : List AIdx}
    (h : claimScatter amount gs none pick = .ok (gs', acc)) :
    ∃ k j, j ≤ gs.length ∧ (∀ p, wcount acc p = lvl (freeLen gs) k j p) ∧
      sumL (freeLen gs) k j gs.length = amount / FPU := by
  unfold claimScatter at h
  split at h
  · cases h
  · rename_i gs₁ acc₁ hl
    simp only [Except.ok.injEq, Prod.mk.injEq] at h
    obtain ⟨rfl, rfl⟩ := h
    obtain ⟨k, j, hj, hc, hs⟩ := scatterLoop_level (freeLen gs) gs.length (freeLen_ge gs) _ gs _ _ 0 [] gs₁ acc₁ 0 hl
      rfl (Nat.zero_le _) (fun p _ => by rw [lvl_zero]; omega) (fun p => by rw [lvl_zero]; rfl)
    refine ⟨k, j, hj, fun p => ?_, ?_⟩
    · rw [wcount_perm (sortIdx_perm acc₁)]
      exact hc p
    · rw [hs]
      have : sumL (freeLen gs) 0 0 gs.length = 0 := by
        unfold sumL
        rw [List.map_congr_left (fun p _ => lvl_zero (freeLen gs) p)]
        generalize gs.length = m
        induction m with
        | zero => rfl
        | succ m ih => simp [List.range_succ, ih]
      omega

theorem indicator_le (x : Nat) : (if decide (0 < x) = true then 1 else 0) ≤ x := by
  cases x <;> simp

theorem indicator_eq {x : Nat} (h : x ≤ 1) : x = if decide (0 < x) = true then 1 else 0 := by
  match x, h with
  | 0, _ => rfl
  | 1, _ => rfl

theorem lvl_pos_iff (f : Nat → Nat) (k j p : Nat) : 0 < lvl f k j p ↔ 0 < f p ∧ (0 < k ∨ p < j) := by
  rw [lvl_eq_min]
  split <;> omega

theorem claimScatter_groups_used {amount : Nat} {gs gs' : List Group} {pick : Option Nat} {acc : List AIdx}
    (h : claimScatter amount gs none pick = .ok (gs', acc)) :
    ((List.range gs.length).filter (fun p => decide (0 < wcount acc p))).length =
      min (amount / FPU) ((List.range gs.length).filter (fun p => decide (0 < freeLen gs p))).length := by
  obtain ⟨k, j, hj, hc, hs⟩ := claimScatter_level h
  rw [filter_length_congr _ (fun p _ => by rw [hc p]), ← hs]
  unfold sumL
  -- a group that is used gives at least one index, and has one
  have hsum : ((List.range gs.length).filter (fun p => decide (0 < lvl (freeLen gs) k j p))).length ≤
      ((List.range gs.length).map (lvl (freeLen gs) k j)).sum := by
    rw [← sum_indicator]
    exact sum_map_le _ _ _ (fun p _ => indicator_le _)
  have hfree := List.filter_length_mono (l := List.range gs.length)
    (p := fun p => decide (0 < lvl (freeLen gs) k j p)) (q := fun p => decide (0 < freeLen gs p))
    (fun p _ hp => by simpa using ((lvl_pos_iff _ _ _ _).mp (by simpa using hp)).1)
  rcases Nat.eq_zero_or_pos k with rfl | hk
  · -- first round not completed: one index from each group used
    have : ((List.range gs.length).map (lvl (freeLen gs) 0 j)).sum =
        ((List.range gs.length).filter (fun p => decide (0 < lvl (freeLen gs) 0 j p))).length := by
      rw [← sum_indicator]
      refine sum_range_congr (fun p _ => indicator_eq ?_)
      rw [lvl_eq_min]
      split <;> omega
    omega
  · -- at least one complete round: every non-empty group is used
    have : ((List.range gs.length).filter (fun p => decide (0 < lvl (freeLen gs) k j p))).length =
        ((List.range gs.length).filter (fun p => decide (0 < freeLen gs p))).length :=
      filter_length_congr _ (fun p _ => by rw [decide_eq_decide, lvl_pos_iff]; exact ⟨fun h => h.1, fun h => ⟨h, .inl hk⟩⟩)
    omega

end HqModel.Alloc
