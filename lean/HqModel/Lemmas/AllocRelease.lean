import HqModel.Lemmas.AllocBasic
/-!
Releasing entries that are held (i.e. counted in the pool invariant) never panics and preserves the invariant with
the released entries removed from the held list; it keeps the number of groups and the distinctness of the keys of
the fraction maps (`GKeys`).
-/
namespace HqModel.Alloc

theorem count_eq_zero_of_mul {c x : Nat} (h : FPU * c + x = 0) : c = 0 := by
  unfold FPU at h; omega

theorem releaseIdx_inv {gs : List Group} {U : Nat → List Nat} {e : AIdx} {rest : List AIdx}
    (h : PoolInv gs U (e :: rest)) :
    ∃ gs', releaseIdx gs e = .ok gs' ∧ PoolInv gs' U rest ∧ gs'.length = gs.length ∧ (GKeys gs → GKeys gs') := by
  have hk := h.keys e (by simp)
  obtain ⟨g, hg⟩ : ∃ g, gs[e.group]? = some g := ⟨gs[e.group]'hk.1, by simp [hk.1]⟩
  have hkg : GKeys gs → KeysNodup g.fracs := fun hK => hK g (List.mem_of_getElem? hg)
  have hv := h.vals _ g hg
  -- free + what `e` holds + what the others hold of `e.index` is at most one unit, so the index is not free
  have hc := h.conserve e.group e.index
  have hU := List.nodup_iff_count.mp (h.univ e.group) e.index
  rw [freeAmt_of_get hg, heldBy_cons] at hc
  simp only [and_self, if_true, Group.freeAmt] at hc
  have hamt := e.amt_pos
  have hcnt : g.free.count e.index = 0 := by unfold FPU at hc; omega
  have hsum : fracOf g.fracs e.index + e.amt + heldBy rest e.group e.index ≤ FPU := by
    have hle : FPU * (U e.group).count e.index ≤ FPU := Nat.mul_one FPU ▸ Nat.mul_le_mul_left FPU hU
    rw [hcnt] at hc
    omega
  clear hc hU
  unfold releaseIdx
  rw [hg]
  by_cases hf : e.fractions = 0
  · have hamt : e.amt = FPU := by simp [AIdx.amt, hf]
    simp only [hf, if_true]
    refine ⟨_, rfl, h.pop hg hv (fun i => ?_) (fun _ _ _ hs => hs), by simp, fun hK => hK.set (hkg hK)⟩
    simp only [Group.freeAmt, List.count_cons, hamt, beq_iff_eq]
    split <;> simp [Nat.mul_add] <;> omega
  · have hamt : e.amt = e.fractions := by simp [AIdx.amt, hf]
    obtain ⟨g₀, hg₀, hs⟩ := hk.2 hf
    obtain rfl : g = g₀ := Option.some.inj (hg.symm.trans hg₀)
    obtain ⟨f, hget⟩ := Option.isSome_iff_exists.mp hs
    obtain rfl : fracOf g.fracs e.index = f := fracOf_of_fget hget
    simp only [hf, if_false, hget]
    by_cases hfull : fracOf g.fracs e.index + e.fractions = FPU
    · have hrest0 : heldBy rest e.group e.index = 0 := by omega
      simp only [hfull, if_true]
      refine ⟨_, rfl, h.pop hg (fun j => ?_) (fun i => ?_)
        (fun e' he' hgrp hs' => ?_), by simp, fun hK => hK.set (ferase_keys_nodup (hkg hK) _)⟩
      · simp only [fracOf_ferase]
        split
        · exact FPU_pos
        · exact hv j
      · simp only [Group.freeAmt, List.count_cons, fracOf_ferase, hamt, beq_iff_eq]
        split
        · subst i; simp [hcnt]; omega
        · rename_i hne; simp [Ne.symm hne]
      · have hne : e'.index ≠ e.index := by
          intro heq
          have := heldBy_ge_of_mem he'
          rw [hgrp, heq, hrest0] at this
          have := e'.amt_pos
          omega
        simpa [fget_ferase, hne] using hs'
    · simp only [hfull, if_false]
      refine ⟨_, rfl, h.pop hg (fun j => ?_) (fun i => ?_)
        (fun _ _ _ => fget_fset_isSome), by simp, fun hK => hK.set (fset_keys_nodup (hkg hK) _ _)⟩
      · simp only [fracOf_fset]
        split
        · omega
        · exact hv j
      · simp only [Group.freeAmt, fracOf_fset, hamt]
        split
        · subst i; simp; omega
        · rename_i hne; simp [Ne.symm hne]

theorem releaseList_inv {gs : List Group} {U : Nat → List Nat} {l others : List AIdx}
    (h : PoolInv gs U (l ++ others)) :
    ∃ gs', releaseList gs l = .ok gs' ∧ PoolInv gs' U others ∧ gs'.length = gs.length ∧ (GKeys gs → GKeys gs') := by
  induction l generalizing gs with
  | nil => exact ⟨gs, rfl, h, rfl, id⟩
  | cons e es ih =>
    obtain ⟨gs₁, h₁, inv₁, len₁, k₁⟩ := releaseIdx_inv (rest := es ++ others) (by simpa using h)
    obtain ⟨gs₂, h₂, inv₂, len₂, k₂⟩ := ih inv₁
    exact ⟨gs₂, by simp [releaseList, h₁, h₂], inv₂, len₂.trans len₁, k₂ ∘ k₁⟩

end HqModel.Alloc
