import HqModel.Sched.Spec
import HqModel.Lemmas.ListFacts
/-!
The loop invariant of `batches` (`stepLevel` folded over the priorities), in terms of prefix sums `N inst c done` of
the per-level counts: every level lets the batches it finds grow by their count (`grow`), and the `else` branch also
gives them the cut of the level.
-/
namespace HqModel.Sched

/-- tasks of class `c` at the priorities `ps` -/
def N (inst : Instance) (c : Nat) (ps : List Int) : Nat := (ps.map (cnt (inst.queue c))).sum

theorem N_append (inst : Instance) (c : Nat) (ps qs : List Int) : N inst c (ps ++ qs) = N inst c ps + N inst c qs := by
  simp only [N, List.map_append, List.sum_append_nat]

theorem N_snoc (inst : Instance) (c : Nat) (ps : List Int) (p : Int) :
    N inst c (ps ++ [p]) = N inst c ps + cnt (inst.queue c) p :=
  N_append inst c ps [p]

theorem map_filter_congr {α β} {l : List α} {P Q : α → Bool} {f g : α → β} (hP : ∀ a ∈ l, P a = Q a)
    (hf : ∀ a ∈ l, Q a = true → f a = g a) : (l.filter P).map f = (l.filter Q).map g := by
  rw [List.filter_congr hP]
  exact List.map_congr_left fun a ha => hf a (List.mem_filter.mp ha).1 (List.mem_filter.mp ha).2

/-- `blockersAt` with prefix sums instead of counts above a priority -/
def blockersAtN (inst : Instance) (c : Nat) (ps : List Int) : List (Nat × Option Nat) :=
  (inst.readyClasses.filter fun c' => c' != c && N inst c' ps > 0).map fun c' =>
    (c', if N inst c' ps > inst.limitOf c' then none else some (N inst c' ps))

theorem blockersAtN_stable {inst : Instance} {c : Nat} {done : List Int} {p : Int}
    (h : ∀ c' ∈ inst.readyClasses, c' ≠ c → cnt (inst.queue c') p = 0 ∨ N inst c' done > inst.limitOf c') :
    blockersAtN inst c (done ++ [p]) = blockersAtN inst c done := by
  -- entry by entry: the count is the same, or it is beyond the limit before and after
  have key : ∀ c' ∈ inst.readyClasses, c' ≠ c → N inst c' (done ++ [p]) = N inst c' done ∨
      (inst.limitOf c' < N inst c' (done ++ [p]) ∧ inst.limitOf c' < N inst c' done) := by
    intro c' hc' hne
    rw [N_snoc]
    rcases h c' hc' hne with h0 | hl
    · exact Or.inl (by rw [h0]; rfl)
    · exact Or.inr ⟨Nat.lt_add_right _ hl, hl⟩
  refine map_filter_congr (fun c' hc' => ?_) (fun c' hc' hq => ?_)
  · by_cases hne : c' = c
    · rw [hne, bne_self_eq_false, Bool.false_and, Bool.false_and]
    · rcases key c' hc' hne with e | ⟨h1, h2⟩
      · rw [e]
      · rw [decide_eq_true (Nat.zero_lt_of_lt h1), decide_eq_true (Nat.zero_lt_of_lt h2)]
  · rcases key c' hc' (bne_iff_ne.mp (Bool.and_eq_true_iff.mp hq).1) with e | ⟨h1, h2⟩
    · rw [e]
    · rw [if_pos h1, if_pos h2]

-- `BatchesSpec` after the levels `done`, plus two things the loop needs: a batch has at most one cut per level (the
-- last part of `sizes`; with at most 32 levels pruning then drops nothing), and `uniq` — while one batch alone has been
-- found level after level, the code writes no new cut for it, so its last cut must still name the blockers of now.
structure Inv (inst : Instance) (done : List Int) (s : MState) : Prop where
  rqs : s.bs.map (·.rq) = inst.readyClasses
  limit : ∀ b ∈ s.bs, b.limit = inst.limitOf b.rq
  open_ : ∀ b ∈ s.bs, b.reached = false → b.size = N inst b.rq done ∧ b.size ≤ b.limit
  closed : ∀ b ∈ s.bs, b.reached = true → b.size = b.limit ∧ b.limit < N inst b.rq done
  sound : ∀ b ∈ s.bs, ∀ cut ∈ b.cuts, ∃ pre p post, done = pre ++ p :: post ∧ cnt (inst.queue b.rq) p > 0 ∧
      cut.size = N inst b.rq pre ∧ cut.size ≤ b.limit ∧ cut.blockers = blockersAtN inst b.rq pre
  exists_ : ∀ b ∈ s.bs, ∀ pre p post, done = pre ++ p :: post → cnt (inst.queue b.rq) p > 0 →
      N inst b.rq pre ≤ b.limit → blockersAtN inst b.rq pre ≠ [] →
      ∃ cut ∈ b.cuts, cut.size ≤ N inst b.rq pre ∧ cut.blockers = blockersAtN inst b.rq pre
  sizes : ∀ b ∈ s.bs, (∀ cut ∈ b.cuts, cut.size ≤ b.size) ∧ (b.cuts.Pairwise fun c1 c2 => c1.size ≤ c2.size) ∧
      b.cuts.length ≤ done.length
  uniq : ∀ c, s.unique = some c → ∀ b ∈ s.bs, b.rq = c → b.reached = false →
      blockersAtN inst c done = [] ∨ ∃ cut ∈ b.cuts, cut.size ≤ b.size ∧ cut.blockers = blockersAtN inst c done

theorem readyClasses_nodup (inst : Instance) : inst.readyClasses.Nodup :=
  List.Nodup.sublist List.filter_sublist List.nodup_range

theorem blockersOf_eq_map_filter (bs : List Batch) (c : Nat) :
    blockersOf bs c = (bs.filter fun b => b.rq ≠ c && b.live).map fun b =>
      (b.rq, if b.reached then none else some b.size) := by
  rw [← List.filterMap_eq_map, List.filterMap_filter]
  rfl

theorem inv_view {inst : Instance} {done : List Int} {s : MState} (h : Inv inst done s) {b : Batch} (hb : b ∈ s.bs) :
    b.live = decide (N inst b.rq done > 0) ∧
    (if b.reached then none else some b.size) =
      if N inst b.rq done > inst.limitOf b.rq then none else some (N inst b.rq done) := by
  rw [Batch.live, ← h.limit b hb]
  cases hre : b.reached with
  | true =>
    obtain ⟨h1, h2⟩ := h.closed b hb hre
    rw [if_pos h2, Bool.or_true, decide_eq_true (Nat.zero_lt_of_lt h2)]
    exact ⟨rfl, rfl⟩
  | false =>
    obtain ⟨h1, h2⟩ := h.open_ b hb hre
    rw [← h1, if_neg (Nat.not_lt.mpr h2), Bool.or_false]
    exact ⟨rfl, rfl⟩

theorem blockersOf_eq {inst : Instance} {done : List Int} {s : MState} (h : Inv inst done s) (c : Nat) :
    blockersOf s.bs c = blockersAtN inst c done := by
  rw [blockersOf_eq_map_filter, blockersAtN, ← h.rqs, List.filter_map, List.map_map]
  refine map_filter_congr (fun b hb => ?_) (fun b hb _ => congrArg _ (inv_view h hb).2)
  show (decide (b.rq ≠ c) && b.live) = (b.rq != c && decide (N inst b.rq done > 0))
  rw [(inv_view h hb).1]
  -- no simp lemma relates `decide (a ≠ c)` and `a != c`
  by_cases hbc : b.rq = c <;> simp [hbc]

theorem snoc_split {α} {done pre post : List α} {p q : α} (h : done ++ [p] = pre ++ q :: post) :
    (post = [] ∧ pre = done ∧ q = p) ∨ ∃ post0, post = post0 ++ [p] ∧ done = pre ++ q :: post0 := by
  rcases List.eq_nil_or_concat post with rfl | ⟨post0, x, rfl⟩
  · obtain ⟨rfl, e⟩ := List.append_inj' h rfl
    cases e
    exact Or.inl ⟨rfl, rfl, rfl⟩
  · rw [List.concat_eq_append, ← List.cons_append, ← List.append_assoc] at h
    obtain ⟨rfl, e⟩ := List.append_inj' h rfl
    cases e
    exact Or.inr ⟨post0, List.concat_eq_append, rfl⟩

theorem addLevel_frame (b : Batch) (n : Nat) : (b.addLevel n).rq = b.rq ∧ (b.addLevel n).limit = b.limit ∧
    (b.addLevel n).cuts = b.cuts := by
  unfold Batch.addLevel
  split <;> exact ⟨rfl, rfl, rfl⟩

theorem addLevel_spec (b : Batch) (n : Nat) :
    (b.limit < b.size + n ∧ (b.addLevel n).size = b.limit ∧ (b.addLevel n).reached = true) ∨
    (b.size + n ≤ b.limit ∧ (b.addLevel n).size = b.size + n ∧ (b.addLevel n).reached = b.reached) := by
  unfold Batch.addLevel
  split
  · next h => exact Or.inl ⟨h, rfl, rfl⟩
  · next h => exact Or.inr ⟨Nat.le_of_not_lt h, rfl, rfl⟩

/-- what a level does to the sizes: the batches in `fnd` take the tasks of level `p` -/
def grow (inst : Instance) (fnd : List Nat) (p : Int) (b : Batch) : Batch :=
  if fnd.contains b.rq then b.addLevel (cnt (inst.queue b.rq) p) else b

theorem grow_frame (inst : Instance) (fnd : List Nat) (p : Int) (b : Batch) :
    (grow inst fnd p b).rq = b.rq ∧ (grow inst fnd p b).limit = b.limit ∧ (grow inst fnd p b).cuts = b.cuts := by
  unfold grow
  split
  · exact addLevel_frame b _
  · exact ⟨rfl, rfl, rfl⟩

theorem mem_found {inst : Instance} {done : List Int} {s : MState} (h : Inv inst done s) {p : Int} {b : Batch}
    (hb : b ∈ s.bs) : b.rq ∈ found inst s.bs p ↔ (b.reached = false ∧ cnt (inst.queue b.rq) p > 0) := by
  simp only [found, List.mem_map, List.mem_filter, Bool.and_eq_true, Bool.not_eq_true', decide_eq_true_eq]
  constructor
  · rintro ⟨b', ⟨hb', h1⟩, e⟩
    cases List.nodup_map_inj (h.rqs ▸ readyClasses_nodup inst) hb' hb e
    exact h1
  · exact fun h1 => ⟨b, ⟨hb, h1⟩, rfl⟩

theorem others_stable {inst : Instance} {done : List Int} {s : MState} (h : Inv inst done s) {p : Int} {c : Nat}
    (hf : ∀ c' ∈ found inst s.bs p, c' = c) :
    ∀ c' ∈ inst.readyClasses, c' ≠ c → cnt (inst.queue c') p = 0 ∨ N inst c' done > inst.limitOf c' := by
  intro c' hc' hne
  rw [← h.rqs] at hc'
  obtain ⟨b, hb, rfl⟩ := List.mem_map.mp hc'
  cases hre : b.reached with
  | true =>
    right
    rw [← h.limit b hb]
    exact (h.closed b hb hre).2
  | false =>
    left
    exact Nat.eq_zero_of_not_pos fun hc => hne (hf _ ((mem_found h hb).mpr ⟨hre, hc⟩))

/-- a batch of the invariant after a level: `b'` is the batch `b` with new cuts or a new `blocker` flag, `g` is `b'`
grown -/
theorem grow_spec {inst : Instance} {done : List Int} {s : MState} (h : Inv inst done s) (p : Int) {b b' g : Batch}
    (hb : b ∈ s.bs) (e1 : b'.rq = b.rq) (e2 : b'.size = b.size) (e3 : b'.limit = b.limit)
    (e4 : b'.reached = b.reached) (hg : g = grow inst (found inst s.bs p) p b') :
    g.rq = b.rq ∧ g.limit = b.limit ∧ g.cuts = b'.cuts ∧ b.size ≤ g.size ∧
    (g.reached = false → b.reached = false ∧ g.size = N inst b.rq (done ++ [p]) ∧ g.size ≤ b.limit) ∧
    (g.reached = true → g.size = b.limit ∧ b.limit < N inst b.rq (done ++ [p])) := by
  subst hg
  obtain ⟨g1, g2, g3⟩ := grow_frame inst (found inst s.bs p) p b'
  refine ⟨g1.trans e1, g2.trans e3, g3, ?_⟩
  have hm := mem_found h (p := p) hb
  rw [N_snoc, grow, e1]
  cases hre : b.reached with
  | true =>
    obtain ⟨h1, h2⟩ := h.closed b hb hre
    rw [if_neg (by rw [List.contains_iff_mem, hm, hre]; simp), e2, e4, hre]
    exact ⟨Nat.le_refl _, nofun, fun _ => ⟨h1, Nat.lt_add_right _ h2⟩⟩
  | false =>
    obtain ⟨h1, h2⟩ := h.open_ b hb hre
    by_cases hc : b.rq ∈ found inst s.bs p
    · rw [if_pos (List.contains_iff_mem.mpr hc)]
      rcases addLevel_spec b' (cnt (inst.queue b.rq) p) with ⟨a1, a2, a3⟩ | ⟨a1, a2, a3⟩ <;>
        rw [a2, a3] <;> rw [e2, e3] at a1
      · rw [e3]
        exact ⟨h2, nofun, fun _ => ⟨rfl, h1 ▸ a1⟩⟩
      · rw [e2, e4, hre, h1]
        exact ⟨Nat.le_add_right _ _, fun _ => ⟨rfl, rfl, h1 ▸ a1⟩, nofun⟩
    · have h0 : cnt (inst.queue b.rq) p = 0 := Nat.eq_zero_of_not_pos fun hp => hc (hm.mpr ⟨hre, hp⟩)
      rw [if_neg (by rwa [List.contains_iff_mem]), e2, e4, hre, h0]
      exact ⟨Nat.le_refl _, fun _ => ⟨rfl, h1, h2⟩, nofun⟩

/-- one level of the loop: a step `g` that changes nothing but the `blocker` flags and appends at most the cut of this
level, then the found batches grow. Every found batch must end up with a cut for the level unless it has no blockers
(`hnew`), and a batch stays `unique` only while no other batch is found (`hu`). -/
theorem inv_step {inst : Instance} {done : List Int} {s : MState} (h : Inv inst done s) (p : Int)
    (g : Batch → Batch) (u : Option Nat)
    (hg : ∀ b ∈ s.bs, (g b).rq = b.rq ∧ (g b).size = b.size ∧ (g b).limit = b.limit ∧ (g b).reached = b.reached ∧
      ((g b).cuts = b.cuts ∨ (b.rq ∈ found inst s.bs p ∧
        (g b).cuts = b.cuts ++ [{ size := b.size, blockers := blockersOf s.bs b.rq }])))
    (hnew : ∀ b ∈ s.bs, b.rq ∈ found inst s.bs p → blockersAtN inst b.rq done = [] ∨
      ∃ cut ∈ (g b).cuts, cut.size ≤ b.size ∧ cut.blockers = blockersAtN inst b.rq done)
    (hu : ∀ c, u = some c → found inst s.bs p = [c] ∨ (found inst s.bs p = [] ∧ s.unique = some c)) :
    Inv inst (done ++ [p]) { bs := s.bs.map fun b => grow inst (found inst s.bs p) p (g b), unique := u } := by
  have key := fun b hb => let ⟨e1, e2, e3, e4, _⟩ := hg b hb; grow_spec h p hb e1 e2 e3 e4 rfl
  have hsub : ∀ b ∈ s.bs, ∀ cut ∈ b.cuts, cut ∈ (g b).cuts := by
    intro b hb cut hcut
    rcases (hg b hb).2.2.2.2 with e | ⟨_, e⟩ <;> rw [e]
    · exact hcut
    · exact List.mem_append_left _ hcut
  refine ⟨?_, List.forall_mem_map.mpr ?_, List.forall_mem_map.mpr ?_, List.forall_mem_map.mpr ?_,
    List.forall_mem_map.mpr ?_, List.forall_mem_map.mpr ?_, List.forall_mem_map.mpr ?_,
    fun c hc => List.forall_mem_map.mpr ?_⟩
  · rw [List.map_map, ← h.rqs]
    exact List.map_congr_left fun b hb => (key b hb).1
  · intro b hb
    rw [(key b hb).1, (key b hb).2.1]
    exact h.limit b hb
  · intro b hb hre'
    obtain ⟨f1, f2, _, _, hop, _⟩ := key b hb
    rw [f1, f2]
    exact (hop hre').2
  · intro b hb hre'
    obtain ⟨f1, f2, _, _, _, hcl⟩ := key b hb
    rw [f1, f2]
    exact hcl hre'
  · -- sound: the old cuts, and the new one sits at the end of `done`
    intro b hb cut hcut
    obtain ⟨f1, f2, f3, _⟩ := key b hb
    rw [f1, f2]
    rw [f3] at hcut
    have hold : cut ∈ b.cuts → ∃ pre p' post, done ++ [p] = pre ++ p' :: post ∧ cnt (inst.queue b.rq) p' > 0 ∧
        cut.size = N inst b.rq pre ∧ cut.size ≤ b.limit ∧ cut.blockers = blockersAtN inst b.rq pre := by
      intro hcut
      obtain ⟨pre, p', post, e, r⟩ := h.sound b hb cut hcut
      exact ⟨pre, p', post ++ [p], by rw [e, List.append_assoc, List.cons_append], r⟩
    rcases (hg b hb).2.2.2.2 with e | ⟨hm, e⟩ <;> rw [e] at hcut
    · exact hold hcut
    · rcases List.mem_append.mp hcut with hcut | hcut
      · exact hold hcut
      · cases List.mem_singleton.mp hcut
        obtain ⟨hre, hcnt⟩ := (mem_found h hb).mp hm
        obtain ⟨h1, h2⟩ := h.open_ b hb hre
        exact ⟨done, p, [], rfl, hcnt, h1, h2, blockersOf_eq h b.rq⟩
  · -- exists: the last level is the business of `hnew`
    intro b hb pre p' post hsplit hcnt hle hne
    obtain ⟨f1, f2, f3, _⟩ := key b hb
    rw [f1] at hcnt hle hne ⊢
    rw [f2] at hle
    rw [f3]
    rcases snoc_split hsplit with ⟨_, rfl, rfl⟩ | ⟨post0, _, e⟩
    · cases hre : b.reached with
      | true => exact absurd (Nat.lt_of_lt_of_le (h.closed b hb hre).2 hle) (Nat.lt_irrefl _)
      | false =>
        rcases hnew b hb ((mem_found h hb).mpr ⟨hre, hcnt⟩) with h0 | ⟨cut, hcut, h1, h2⟩
        · exact absurd h0 hne
        · exact ⟨cut, hcut, (h.open_ b hb hre).1 ▸ h1, h2⟩
    · obtain ⟨cut, hcut, r⟩ := h.exists_ b hb pre p' post0 e hcnt hle hne
      exact ⟨cut, hsub b hb cut hcut, r⟩
  · intro b hb
    obtain ⟨_, _, f3, hle, _⟩ := key b hb
    obtain ⟨s1, s2, s3⟩ := h.sizes b hb
    have hold : ∀ cut ∈ b.cuts, cut.size ≤ (grow inst (found inst s.bs p) p (g b)).size :=
      fun cut hcut => Nat.le_trans (s1 cut hcut) hle
    rw [f3, List.length_append]
    rcases (hg b hb).2.2.2.2 with e | ⟨_, e⟩ <;> rw [e]
    · exact ⟨hold, s2, Nat.le_succ_of_le s3⟩
    · refine ⟨List.forall_mem_append.mpr ⟨hold, List.forall_mem_singleton.mpr hle⟩,
        List.pairwise_append.mpr ⟨s2, List.pairwise_singleton _ _, fun c1 hc1 c2 hc2 => ?_⟩,
        by rw [List.length_append]; exact Nat.succ_le_succ s3⟩
      cases List.mem_singleton.mp hc2
      exact s1 c1 hc1
  · -- unique: the blockers of `c` do not change, and `c` has its cut from `hnew` or from before
    intro b hb hrqc hre'
    obtain ⟨f1, _, f3, hle, hop, _⟩ := key b hb
    rw [f1] at hrqc
    subst hrqc
    have hcov : (∀ c' ∈ found inst s.bs p, c' = b.rq) ∧ (blockersAtN inst b.rq done = [] ∨
        ∃ cut ∈ (g b).cuts, cut.size ≤ b.size ∧ cut.blockers = blockersAtN inst b.rq done) := by
      rcases hu _ hc with e | ⟨e, hus⟩ <;> rw [e]
      · exact ⟨fun _ => List.mem_singleton.mp, hnew b hb (e ▸ List.mem_singleton_self _)⟩
      · refine ⟨nofun, ?_⟩
        rcases h.uniq _ hus b hb rfl (hop hre').1 with h0 | ⟨cut, hcut, r⟩
        · exact Or.inl h0
        · exact Or.inr ⟨cut, hsub b hb cut hcut, r⟩
    rw [f3, blockersAtN_stable (others_stable h hcov.1)]
    rcases hcov.2 with h0 | ⟨cut, hcut, h1, h2⟩
    · exact Or.inl h0
    · exact Or.inr ⟨cut, hcut, Nat.le_trans h1 hle, h2⟩

/-- no cut: nothing is found, or only the batch that is `unique` already -/
theorem step_grow {inst : Instance} {done : List Int} {s : MState} (h : Inv inst done s) {p : Int}
    (hu : ∀ c ∈ found inst s.bs p, found inst s.bs p = [c] ∧ s.unique = some c) :
    Inv inst (done ++ [p]) { s with bs := s.bs.map (grow inst (found inst s.bs p) p) } := by
  refine inv_step h p id s.unique (fun b _ => ⟨rfl, rfl, rfl, rfl, Or.inl rfl⟩) (fun b hb hm => ?_) (fun c hc => ?_)
  · exact h.uniq _ (hu _ hm).2 b hb rfl ((mem_found h hb).mp hm).1
  · cases hf : found inst s.bs p with
    | nil => exact Or.inr ⟨rfl, hc⟩
    | cons c' _ =>
      obtain ⟨e, hus⟩ := hu c' (by rw [hf]; exact List.mem_cons_self)
      rw [hus] at hc
      cases hc
      exact Or.inl (hf ▸ e)

/-- the first stage of the `else` branch: the found batches that have blockers get the cut of the level -/
def withCut (bs : List Batch) (fnd : List Nat) (b : Batch) : Batch :=
  let b1 : Batch :=
    if fnd.contains b.rq then
      if (blockersOf bs b.rq).isEmpty then b
      else { b with cuts := b.cuts ++ [{ size := b.size, blockers := blockersOf bs b.rq }] }
    else b
  if b.live && fnd.any (· != b.rq) then { b1 with blocker := true } else b1

theorem withCut_spec (bs : List Batch) (fnd : List Nat) (b : Batch) :
    (withCut bs fnd b).rq = b.rq ∧ (withCut bs fnd b).size = b.size ∧ (withCut bs fnd b).limit = b.limit ∧
    (withCut bs fnd b).reached = b.reached ∧
    (withCut bs fnd b).cuts =
      if fnd.contains b.rq then
        if (blockersOf bs b.rq).isEmpty then b.cuts
        else b.cuts ++ [{ size := b.size, blockers := blockersOf bs b.rq }]
      else b.cuts := by
  simp only [withCut, apply_ite Batch.rq, apply_ite Batch.size, apply_ite Batch.limit, apply_ite Batch.reached,
    apply_ite Batch.cuts, ite_self, and_self]

theorem cutAndAdd_eq (inst : Instance) (bs : List Batch) (fnd : List Nat) (p : Int) :
    cutAndAdd inst bs fnd p = bs.map fun b => grow inst fnd p (withCut bs fnd b) :=
  List.map_congr_left fun b _ => by rw [grow, (withCut_spec bs fnd b).1]; rfl

theorem step_cut {inst : Instance} {done : List Int} {s : MState} (h : Inv inst done s) {p : Int}
    (u : Option Nat) (hu : ∀ c, u = some c → found inst s.bs p = [c]) :
    Inv inst (done ++ [p]) { bs := cutAndAdd inst s.bs (found inst s.bs p) p, unique := u } := by
  rw [cutAndAdd_eq]
  refine inv_step h p _ u (fun b _ => ?_) (fun b _ hm => ?_) (fun c hc => Or.inl (hu c hc)) <;>
    obtain ⟨e1, e2, e3, e4, e5⟩ := withCut_spec s.bs (found inst s.bs p) b
  · refine ⟨e1, e2, e3, e4, ?_⟩
    by_cases hm : (found inst s.bs p).contains b.rq = true
    · by_cases he : (blockersOf s.bs b.rq).isEmpty = true
      · exact Or.inl (by rw [e5, if_pos hm, if_pos he])
      · exact Or.inr ⟨List.contains_iff_mem.mp hm, by rw [e5, if_pos hm, if_neg he]⟩
    · exact Or.inl (by rw [e5, if_neg hm])
  · rw [e5, if_pos (List.contains_iff_mem.mpr hm), ← blockersOf_eq h]
    cases hbl : blockersOf s.bs b.rq with
    | nil => exact Or.inl rfl
    | cons _ _ => exact Or.inr ⟨_, List.mem_append_right _ (List.mem_singleton_self _), Nat.le_refl _, rfl⟩

theorem stepLevel_inv {inst : Instance} {done : List Int} {s : MState} (h : Inv inst done s) (p : Int) :
    Inv inst (done ++ [p]) (stepLevel inst s p) := by
  unfold stepLevel
  split
  · next hf =>
    have := step_grow h (p := p) (by rw [hf]; nofun)
    rwa [hf, List.map_id'' (f := grow inst [] p) fun _ => rfl] at this
  · next c hf =>
    split
    · next hus =>
      have := step_grow h (p := p) (by rw [hf]; intro c' hc'; cases List.mem_singleton.mp hc'; exact ⟨rfl, hus⟩)
      have e : grow inst [c] p = fun b => if b.rq = c then b.addLevel (cnt (inst.queue c) p) else b := by
        funext b
        unfold grow
        by_cases hbc : b.rq = c <;> simp [hbc]
      rwa [hf, e] at this
    · have := step_cut h (p := p) (some c) (fun c' hc' => by cases hc'; exact hf)
      rwa [hf] at this
  · exact step_cut h none nofun

theorem foldl_inv {inst : Instance} : ∀ (ps done : List Int) (s : MState), Inv inst done s →
    Inv inst (done ++ ps) (ps.foldl (stepLevel inst) s)
  | [], done, s, h => by rwa [List.append_nil]
  | p :: rest, done, s, h => by
    rw [List.append_cons]
    exact foldl_inv rest (done ++ [p]) (stepLevel inst s p) (stepLevel_inv h p)

end HqModel.Sched
