import HqModel.Worker.Contract
/-!
The worker model M2: the vocabulary of the statements of `Props/WorkerSide.lean` (`launchedIn`, `Op.mentions`,
`NoBacklog`; `Disj` is in `WorkerLaunch`, `handles` / `HInv` in `WorkerHandover`), then the case analysis of every
function of the model (`…_cases`, `…_ok`) and where its stops come from (`…_error`).
-/
namespace HqModel.Worker

def Out.isLaunchOf (t : Nat) : Out → Prop
  | .launch t' _ _ _ _ => t' = t
  | _ => False

instance (t : Nat) (o : Out) : Decidable (o.isLaunchOf t) := by
  cases o <;> simp only [Out.isLaunchOf] <;> infer_instance

def launchedIn (outs : List Out) (t : Nat) : Prop := ∃ o ∈ outs, o.isLaunchOf t

instance (outs : List Out) (t : Nat) : Decidable (launchedIn outs t) := by
  unfold launchedIn; infer_instance

def Op.mentions : Op → Nat → Prop
  | .compute es, t => t ∈ es.map (·.task.id)
  | _, _ => False

instance (op : Op) (t : Nat) : Decidable (op.mentions t) := by
  cases op <;> simp only [Op.mentions] <;> infer_instance

def NoBacklog (t : Nat) (s : State) : Prop := ∀ rq, ∀ x ∈ s.backlog rq, x.id ≠ t

@[simp] theorem setBacklog_running (s : State) (rq l) : (setBacklog s rq l).running = s.running := rfl
@[simp] theorem setBacklog_live (s : State) (rq l) : (setBacklog s rq l).live = s.live := rfl
@[simp] theorem setBacklog_blocked (s : State) (rq l) : (setBacklog s rq l).blocked = s.blocked := rfl
@[simp] theorem setBacklog_bkeys (s : State) (rq l) : (setBacklog s rq l).bkeys = s.bkeys := rfl
@[simp] theorem setBacklog_rqs (s : State) (rq l) : (setBacklog s rq l).rqs = s.rqs := rfl
@[simp] theorem setBacklog_remaining (s : State) (rq l) : (setBacklog s rq l).remaining = s.remaining := rfl
@[simp] theorem setBacklog_backlog_same (s : State) (rq l) : (setBacklog s rq l).backlog rq = l := by
  simp [setBacklog]
theorem setBacklog_backlog (s : State) (rq l r) :
    (setBacklog s rq l).backlog r = if r = rq then l else s.backlog r := rfl

@[simp] theorem minTime_setBacklog (s : State) (rq l a b) : minTime (setBacklog s rq l) a b = minTime s a b := rfl
@[simp] theorem tooLate_setBacklog (s : State) (rq l m) : tooLate (setBacklog s rq l) m = tooLate s m := rfl
@[simp] theorem isRunning_setBacklog (s : State) (rq l t) : isRunning (setBacklog s rq l) t = isRunning s t := rfl

@[simp] theorem insertBlocked_running (s : State) (k) : (insertBlocked s k).running = s.running := by
  unfold insertBlocked; split <;> rfl
@[simp] theorem insertBlocked_live (s : State) (k) : (insertBlocked s k).live = s.live := by
  unfold insertBlocked; split <;> rfl
@[simp] theorem insertBlocked_backlog (s : State) (k) : (insertBlocked s k).backlog = s.backlog := by
  unfold insertBlocked; split <;> rfl
@[simp] theorem insertBlocked_bkeys (s : State) (k) : (insertBlocked s k).bkeys = s.bkeys := by
  unfold insertBlocked; split <;> rfl
@[simp] theorem insertBlocked_rqs (s : State) (k) : (insertBlocked s k).rqs = s.rqs := by
  unfold insertBlocked; split <;> rfl

theorem isRunning_false_iff (s : State) (t : Nat) : isRunning s t = false ↔ ∀ r ∈ s.running, r.task.id ≠ t := by
  simp [isRunning]

/-- the record updates of `tryStart`, `computeEntry` (prefill entry) and `prefillLoop` (release); the model functions
reduce to them by `rfl` -/
def started (s : State) (t : Task) (rv h : Nat) : State :=
  { s with running := s.running ++ [{ task := t, rv := rv, h := h }] }

def pushed (s : State) (t : Task) : State :=
  { setBacklog s t.rq (t :: s.backlog t.rq) with bkeys := if t.rq ∈ s.bkeys then s.bkeys else t.rq :: s.bkeys }

def released (s : State) (rq h : Nat) : State := { setBacklog s rq [] with live := s.live.erase h }

theorem tryStart_cases {a : Acc} {t : Task} {rv h : Nat} {p : Bool} {r : Except Stop (Acc × Bool)}
    (hr : tryStart a t rv p h = r) :
    (∃ e, minTime a.s t.rq rv = .error e ∧ r = .error e) ∨
    ∃ mt, minTime a.s t.rq rv = .ok mt ∧
      (r = .ok ({ a with upd := a.upd ++ [.reject t.id (some rv)] }, false) ∨
       r = .ok ({ a with ev := a.ev ++ [.launch t.id t.inst rv h false], upd := a.upd ++ [.failed t.id .launch] },
                false) ∨
       (isRunning a.s t.id = true ∧ r = .error (.panic .runningDup)) ∨
       (isRunning a.s t.id = false ∧
        r = .ok ({ s := started a.s t rv h, ev := a.ev ++ [.launch t.id t.inst rv h true],
                   upd := a.upd ++ [if p then .runningPrefilled t.id rv else .running t.id rv] }, true))) := by
  unfold tryStart at hr
  cases hmt : minTime a.s t.rq rv with
  | error e => rw [hmt] at hr; exact .inl ⟨e, rfl, hr.symm⟩
  | ok mt =>
    rw [hmt] at hr
    refine .inr ⟨mt, rfl, ?_⟩
    by_cases h1 : tooLate a.s mt = true
    · simp only [if_pos h1] at hr; exact .inl hr.symm
    · by_cases h2 : t.launchFails = true
      · simp only [if_neg h1, if_pos h2] at hr; exact .inr (.inl hr.symm)
      · by_cases h3 : isRunning a.s t.id = true
        · simp only [if_neg h1, if_neg h2, if_pos h3] at hr; exact .inr (.inr (.inl ⟨h3, hr.symm⟩))
        · simp only [if_neg h1, if_neg h2, if_neg h3] at hr
          exact .inr (.inr (.inr ⟨by simpa using h3, hr.symm⟩))

def BadStart (s : State) (x : Task) (rv : Nat) (e : Stop) : Prop :=
  minTime s x.rq rv = .error e ∨ (e = .panic .runningDup ∧ isRunning s x.id = true)

theorem tryStart_error {a : Acc} {t : Task} {rv h : Nat} {p : Bool} {e : Stop}
    (hs : tryStart a t rv p h = .error e) : BadStart a.s t rv e := by
  rcases tryStart_cases hs with ⟨_, hm, h⟩ | ⟨_, _, h | h | ⟨hrun, h⟩ | ⟨_, h⟩⟩ <;> cases h
  · exact .inl hm
  · exact .inr ⟨rfl, hrun⟩

theorem minTime_error {s : State} {rq rv : Nat} {e : Stop} (h : minTime s rq rv = .error e) :
    e = .panic .rqUnknown ∨ e = .panic .rvUnknown := by
  unfold minTime at h
  split at h
  · cases h; exact Or.inl rfl
  · split at h
    · cases h; exact Or.inr rfl
    · cases h

theorem minTime_ok_iff {s : State} {rq rv : Nat} :
    (∃ mt, minTime s rq rv = .ok mt) ↔ ∃ vs, s.rqs[rq]? = some vs ∧ rv < vs.length := by
  unfold minTime
  constructor
  · rintro ⟨mt, h⟩
    split at h
    · cases h
    · rename_i vs hvs
      split at h
      · cases h
      · rename_i m hm
        exact ⟨vs, hvs, by
          rcases List.getElem?_eq_some_iff.mp hm with ⟨hlt, _⟩; exact hlt⟩
  · rintro ⟨vs, hvs, hlt⟩
    simp [hvs, List.getElem?_eq_getElem hlt]

theorem tryStart_false {a a' : Acc} {t : Task} {rv h : Nat} {p : Bool}
    (hs : tryStart a t rv p h = .ok (a', false)) : a'.s = a.s := by
  rcases tryStart_cases hs with ⟨_, _, h⟩ | ⟨_, _, h | h | ⟨_, h⟩ | ⟨_, h⟩⟩ <;> cases h <;> rfl

theorem prefillLoop_error {rq rv h : Nat} : ∀ (bl : List Task) {a : Acc} {e : Stop},
    prefillLoop rq rv h bl a = .error e → ∃ x ∈ bl, BadStart a.s x rv e
  | [], a, e, hs => by simp only [prefillLoop] at hs; cases hs
  | x :: rest, a, e, hs => by
    simp only [prefillLoop] at hs
    split at hs
    · rename_i e' he
      cases hs
      have hbad := tryStart_error he
      exact ⟨x, List.mem_cons_self, hbad⟩
    · cases hs
    · rename_i a1 hts
      obtain ⟨y, hy, hbad⟩ := prefillLoop_error rest hs
      rw [tryStart_false hts] at hbad
      exact ⟨y, List.mem_cons_of_mem _ hy, hbad⟩

theorem computeEntry_ok {a a' : Acc} {e : Entry} (hs : computeEntry a e = .ok a') :
    (e.rv = none ∧ a' = { a with s := pushed a.s e.task }) ∨
    ∃ rv, e.rv = some rv ∧ (∃ mt, minTime a.s e.task.rq rv = .ok mt) ∧
      ((e.alloc = none ∧
          a' = { a with s := insertBlocked a.s (e.task.rq, rv), upd := a.upd ++ [.reject e.task.id (some rv)] }) ∨
       ∃ h, e.alloc = some h ∧ h ∉ a.s.live ∧
         (tryStart { a with s := { a.s with live := h :: a.s.live } } e.task rv false h = .ok (a', true) ∨
          ∃ a1 c, tryStart { a with s := { a.s with live := h :: a.s.live } } e.task rv false h = .ok (a1, false) ∧
            prefillLoop e.task.rq rv h (a1.s.backlog e.task.rq) a1 = .ok (a', c))) := by
  unfold computeEntry at hs
  split at hs
  · rename_i hrv
    cases hs
    exact Or.inl ⟨hrv, rfl⟩
  · rename_i rv hrv
    refine Or.inr ⟨rv, hrv, ?_⟩
    split at hs
    · cases hs
    · rename_i mt hmt
      refine ⟨⟨mt, hmt⟩, ?_⟩
      split at hs
      · rename_i hal
        cases hs
        exact Or.inl ⟨hal, rfl⟩
      · rename_i h hal
        split at hs
        · cases hs
        · rename_i hlive
          refine Or.inr ⟨h, hal, hlive, ?_⟩
          split at hs
          · cases hs
          · rename_i a1 hts
            cases hs
            exact Or.inl hts
          · rename_i a1 hts
            split at hs
            · cases hs
            · rename_i a2 c' hpl
              cases hs
              exact Or.inr ⟨a1, c', hts, hpl⟩

theorem computeEntry_error {a : Acc} {e : Entry} {err : Stop} (hs : computeEntry a e = .error err) :
    err = .badChoice ∨ ∃ rv, e.rv = some rv ∧ ∃ x ∈ e.task :: a.s.backlog e.task.rq, BadStart a.s x rv err := by
  unfold computeEntry at hs
  split at hs
  · cases hs
  · rename_i rv hrv
    split at hs
    · rename_i err' hmt
      cases hs
      exact Or.inr ⟨rv, hrv, e.task, List.mem_cons_self, Or.inl hmt⟩
    · split at hs
      · cases hs
      · rename_i h _
        split at hs
        · cases hs; exact Or.inl rfl
        · refine Or.inr ⟨rv, hrv, ?_⟩
          split at hs
          · rename_i err' hts
            cases hs
            have hbad := tryStart_error hts
            exact ⟨e.task, List.mem_cons_self, hbad⟩
          · cases hs
          · rename_i a1 hts
            split at hs
            · rename_i err' hpl
              cases hs
              obtain ⟨x, hx, hbad⟩ := prefillLoop_error _ hpl
              rw [tryStart_false hts] at hx hbad
              exact ⟨x, List.mem_cons_of_mem _ hx, hbad⟩
            · cases hs

theorem mem_finish {a : Acc} {o : Out} : o ∈ (finish a).2 ↔ o ∈ a.ev ∨ (a.upd ≠ [] ∧ o = .updates a.upd) := by
  unfold finish
  split <;> simp [*]

theorem compute_ok {s s' : State} {es : List Entry} {outs : List Out} (hs : compute s es = .ok (s', outs)) :
    ∃ a, computeEntries es { s := s } = .ok a ∧ s' = a.s ∧ outs = (finish a).2 := by
  unfold compute at hs
  split at hs
  · cases hs
  · rename_i a ha
    cases hs
    exact ⟨a, ha, rfl, rfl⟩

theorem taskEnd_ok {s s' : State} {t : Nat} {res : TaskResult} {en : List ((Nat × Nat) × Bool)} {outs : List Out}
    (hs : taskEnd s t res en = .ok (s', outs)) :
    ∃ r a used bl' upd', s.running.find? (fun r => r.task.id == t) = some r ∧
      prefillLoop r.task.rq r.rv r.h (s.backlog r.task.rq)
        { s := { s with running := s.running.filter (fun x => x.task.id != t) }, upd := resultUpdates t res }
        = .ok (a, used) ∧
      s' = { a.s with blocked := bl' } ∧ outs = (finish { a with upd := upd' }).2 ∧
      ((used = false ∧ a.s.blocked ≠ [] ∧ (en.map (·.1)).isPerm a.s.blocked = true ∧
          bl' = a.s.blocked.filter (fun k => k ∉ (en.filter (·.2)).map (·.1)) ∧
          upd' = a.upd ++ ((en.filter (·.2)).map (·.1)).map (fun k => .enable k.1 k.2)) ∨
       (¬ (used = false ∧ a.s.blocked ≠ []) ∧ bl' = a.s.blocked ∧ upd' = a.upd)) := by
  unfold taskEnd at hs
  split at hs
  · cases hs
  · rename_i r hr
    dsimp only at hs
    split at hs
    · cases hs
    · rename_i a used hpl
      by_cases hc : used = false ∧ a.s.blocked ≠ []
      · rw [if_pos hc] at hs
        by_cases hperm : (en.map (·.1)).isPerm a.s.blocked = true
        · rw [if_pos hperm] at hs
          cases hs
          exact ⟨r, a, used, _, _, hr, hpl, rfl, rfl, Or.inl ⟨hc.1, hc.2, hperm, rfl, rfl⟩⟩
        · rw [if_neg hperm] at hs; cases hs
      · rw [if_neg hc] at hs
        cases hs
        exact ⟨r, a, used, _, _, hr, hpl, rfl, rfl, Or.inr ⟨hc, rfl, rfl⟩⟩

theorem taskEnd_error {s : State} {t : Nat} {res : TaskResult} {en : List ((Nat × Nat) × Bool)} {err : Stop}
    (hs : taskEnd s t res en = .error err) :
    err = .notEnabled ∨ err = .badChoice ∨
    ∃ r, s.running.find? (fun r => r.task.id == t) = some r ∧
      prefillLoop r.task.rq r.rv r.h (s.backlog r.task.rq)
        { s := { s with running := s.running.filter (fun x => x.task.id != t) }, upd := resultUpdates t res }
        = .error err := by
  unfold taskEnd at hs
  split at hs
  · cases hs; exact Or.inl rfl
  · rename_i r hr
    dsimp only at hs
    split at hs
    · rename_i err' hpl
      cases hs
      exact Or.inr (Or.inr ⟨r, hr, hpl⟩)
    · rename_i a used _
      by_cases hc : used = false ∧ a.s.blocked ≠ []
      · rw [if_pos hc] at hs
        by_cases hperm : (en.map (·.1)).isPerm a.s.blocked = true
        · rw [if_pos hperm] at hs; cases hs
        · rw [if_neg hperm] at hs; cases hs; exact Or.inr (Or.inl rfl)
      · rw [if_neg hc] at hs; cases hs

theorem cancelOne_cases (s : State) (outs : List Out) (t : Nat) :
    ((∀ r ∈ s.running, r.task.id ≠ t) ∧
      cancelOne (s, outs) t = ({ s with backlog := fun rq => (s.backlog rq).filter (fun x => x.id ≠ t) }, outs)) ∨
    ∃ r ∈ s.running, r.task.id = t ∧
      ((r.stopSent = true ∧ cancelOne (s, outs) t = (s, outs)) ∨
       (r.stopSent = false ∧ cancelOne (s, outs) t =
          ({ s with running := s.running.map fun x => if x.task.id = t then { x with stopSent := true } else x },
           outs ++ [.stop t .cancel]))) := by
  simp only [cancelOne]
  split
  · rename_i hf
    exact Or.inl ⟨by simpa using hf, rfl⟩
  · rename_i r hr
    refine Or.inr ⟨r, List.mem_of_find?_eq_some hr, by simpa using List.find?_some hr, ?_⟩
    split
    · rename_i hss; exact Or.inl ⟨hss, rfl⟩
    · rename_i hss; exact Or.inr ⟨by simpa using hss, rfl⟩

theorem cancel_induct {P : State × List Out → Prop} (hstep : ∀ a t, P a → P (cancelOne a t))
    (ids : List Nat) (a : State × List Out) (h : P a) : P (ids.foldl cancelOne a) :=
  List.foldlRecOn ids cancelOne h fun b hb t _ => hstep b t hb

theorem timeoutFire_ok {s s' : State} {t : Nat} {outs : List Out} (hs : timeoutFire s t = .ok (s', outs)) :
    ∃ r, s.running.find? (fun r => r.task.id == t) = some r ∧ r.task.id = t ∧ r.task.timeLimit ≠ none ∧ r.fired = false ∧
      s' = { s with running := s.running.map fun x =>
               if x.task.id = t then { x with stopSent := true, fired := true } else x } ∧
      outs = if r.stopSent then [] else [.stop t .timeout] := by
  unfold timeoutFire at hs
  split at hs
  · cases hs
  · rename_i r hr
    split at hs
    · cases hs
    · rename_i hc
      cases hs
      exact ⟨r, hr, by simpa using List.find?_some hr,
        fun h => hc (Or.inl h), by simpa using fun h => hc (Or.inr h), rfl, rfl⟩

theorem retractCheckLoop_error {s : State} {rem : Nat} {err : Stop} : ∀ (order : List Nat) {acc : RcAcc},
    retractCheckLoop s rem order acc = .error err → ∃ rq ∈ order, s.rqs[rq]? = none
  | [], _, hs => by simp only [retractCheckLoop] at hs; cases hs
  | rq :: rest, acc, hs => by
    simp only [retractCheckLoop] at hs
    split at hs
    · rename_i hn; exact ⟨rq, List.mem_cons_self, hn⟩
    · split at hs
      · obtain ⟨r, hr, hn⟩ := retractCheckLoop_error rest hs
        exact ⟨r, List.mem_cons_of_mem _ hr, hn⟩
      · obtain ⟨r, hr, hn⟩ := retractCheckLoop_error rest hs
        exact ⟨r, List.mem_cons_of_mem _ hr, hn⟩

theorem retractCheck_cases {s : State} {order : List Nat} {r : Except Stop (State × List Out)}
    (hr : retractCheck s order = r) :
    r = .ok (s, []) ∨ r = .error .badChoice ∨
    ∃ rem, s.remaining = some rem ∧ order.isPerm s.bkeys = true ∧
      ((∃ err, retractCheckLoop s rem order {} = .error err ∧ r = .error err) ∨
       ∃ a, retractCheckLoop s rem order {} = .ok a ∧
         r = .ok ({ s with backlog := fun rq => if rq ∈ a.toRemove then [] else s.backlog rq,
                           bkeys := s.bkeys.filter (fun rq => rq ∉ a.toRemove) }, [.updates a.upd])) := by
  unfold retractCheck at hr
  by_cases hk : s.bkeys = []
  · rw [if_pos hk] at hr; exact Or.inl hr.symm
  · rw [if_neg hk] at hr
    cases hrem : s.remaining with
    | none => rw [hrem] at hr; exact Or.inl hr.symm
    | some rem =>
      rw [hrem] at hr
      by_cases hperm : order.isPerm s.bkeys = true
      · simp only [if_pos hperm] at hr
        cases he : retractCheckLoop s rem order {} with
        | error err => rw [he] at hr; exact Or.inr (Or.inr ⟨rem, rfl, hperm, Or.inl ⟨err, he, hr.symm⟩⟩)
        | ok a =>
          rw [he] at hr
          by_cases hu : a.upd = []
          · simp only [if_pos hu] at hr; exact Or.inl hr.symm
          · simp only [if_neg hu] at hr; exact Or.inr (Or.inr ⟨rem, rfl, hperm, Or.inr ⟨a, he, hr.symm⟩⟩)
      · simp only [if_neg hperm] at hr; exact Or.inr (Or.inl hr.symm)

theorem run_cons_ok {s s' : State} {op : Op} {ops : List Op} {os : List (List Out)}
    (hr : run s (op :: ops) = .ok (s', os)) :
    ∃ s1 o1 os1, step s op = .ok (s1, o1) ∧ run s1 ops = .ok (s', os1) ∧ os = o1 :: os1 := by
  simp only [run] at hr
  split at hr
  · cases hr
  · rename_i s1 o1 h1
    split at hr
    · cases hr
    · rename_i s2 os2 h2
      cases hr
      exact ⟨s1, o1, os2, h1, h2, rfl⟩

theorem run_cons_error {s : State} {op : Op} {ops : List Op} {err : Stop}
    (hr : run s (op :: ops) = .error err) :
    step s op = .error err ∨ ∃ s1 o1, step s op = .ok (s1, o1) ∧ run s1 ops = .error err := by
  simp only [run] at hr
  split at hr
  · rename_i e he; cases hr; exact Or.inl he
  · rename_i s1 o1 h1
    split at hr
    · rename_i e he; cases hr; exact Or.inr ⟨s1, o1, h1, he⟩
    · cases hr

end HqModel.Worker
