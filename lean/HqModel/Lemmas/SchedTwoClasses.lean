import HqModel.Lemmas.SchedTwoBatches
import HqModel.Lemmas.SchedGap
import HqModel.Lemmas.SchedQueueOrder
/-!
Fragment F2: arithmetic of the gap and of the limit on one worker; the ready classes, the blockers and the batches of
a two-class instance; what a violating pair says about the counts of a placement on the single worker.
-/
namespace HqModel.Sched

theorem capable_cpu {inst : Instance} {c : Nat} (hc2 : inst.need2 c = 0) (w : Worker) :
    capable inst c w = decide (inst.need c ≤ w.total) := by
  simp [capable, hc2]

theorem fitsNow_cpu {inst : Instance} {c : Nat} (hc2 : inst.need2 c = 0) (w : Worker) :
    fitsNow inst c w = decide (inst.need c ≤ w.free) := by
  simp [fitsNow, hc2]

/-- the cpu case of `gap_lt_some_kind` (false with a second resource kind: `c15_counterexample_two_resources`) -/
theorem gap_mul_lt (inst : Instance) (high low : Nat) (w : Worker) (hpos : 0 < inst.need high)
    (hh : inst.need2 high = 0) : inst.need low * gap inst high low w < inst.need high :=
  (gap_lt_some_kind inst high low w hpos).resolve_right fun h => h.1 hh

theorem limitOf_one {inst : Instance} {w : Worker} (hw : inst.workers = [w]) {c : Nat}
    (hc2 : inst.need2 c = 0) (hcap : inst.need c ≤ w.total) : inst.limitOf c = max 1 (w.free / inst.need c) := by
  simp [Instance.limitOf, hw, capable_cpu hc2, hcap, fitCount, hc2]

theorem le_limitOf_one {inst : Instance} {w : Worker} (hw : inst.workers = [w]) {c n : Nat}
    (hc2 : inst.need2 c = 0) (hcap : inst.need c ≤ w.total) (hpos : 0 < inst.need c)
    (hfit : inst.need c * n ≤ w.free) :
    n ≤ inst.limitOf c := by
  rw [limitOf_one hw hc2 hcap]
  have : n ≤ w.free / inst.need c := by
    rw [Nat.le_div_iff_mul_le hpos, Nat.mul_comm]; exact hfit
  exact Nat.le_trans this (Nat.le_max_right _ _)

theorem need_le_free {inst : Instance} {w : Worker} {c : Nat} (hp : hasP inst w c = true) : inst.need c ≤ w.free := by
  simp only [hasP, fitsNow, Bool.and_eq_true, decide_eq_true_eq] at hp
  exact hp.2.1

theorem limitOf_pos_one {inst : Instance} {w : Worker} (hw : inst.workers = [w]) {c : Nat}
    (hc2 : inst.need2 c = 0) (hcap : inst.need c ≤ w.total) : 0 < inst.limitOf c := by
  rw [limitOf_one hw hc2 hcap]
  exact Nat.lt_of_lt_of_le Nat.one_pos (Nat.le_max_left _ _)

theorem two_of_length_le_two {a b : Nat} : ∀ {l : List Nat}, l.length ≤ 2 → a ∈ l → b ∈ l → a ≠ b →
    l = [a, b] ∨ l = [b, a]
  | [], _, ha, _, _ => nomatch ha
  | [x], _, ha, hb, hne => absurd ((List.mem_singleton.mp ha).trans (List.mem_singleton.mp hb).symm) hne
  | [x, y], _, ha, hb, hne => by
    simp only [List.mem_cons, List.not_mem_nil, or_false] at ha hb
    rcases ha with rfl | rfl <;> rcases hb with rfl | rfl
    · exact absurd rfl hne
    · exact Or.inl rfl
    · exact Or.inr rfl
    · exact absurd rfl hne
  | _ :: _ :: _ :: _, hlen, _, _, _ => by simp at hlen

theorem blockersAt_two {inst : Instance} {c c' : Nat} (hne : c ≠ c')
    (hr : inst.readyClasses = [c, c'] ∨ inst.readyClasses = [c', c]) (p : Int) :
    blockersAt inst c p =
      if above inst c' p > 0 then
        [(c', if above inst c' p > inst.limitOf c' then none else some (above inst c' p))]
      else [] := by
  have hne' : ¬ c' = c := fun e => hne e.symm
  unfold blockersAt
  rcases hr with e | e <;> rw [e] <;> by_cases ha : above inst c' p > 0 <;>
    simp [hne', ha]

theorem cut_blockers_two {inst : Instance} {bs : List Batch} (hspec : BatchesSpec inst bs) {b : Batch} (hb : b ∈ bs)
    {c' : Nat} (hne : b.rq ≠ c') (hr : inst.readyClasses = [b.rq, c'] ∨ inst.readyClasses = [c', b.rq])
    {cut : Cut} (hcut : cut ∈ b.cuts) {bl : Nat × Option Nat} (hbl : bl ∈ cut.blockers) :
    ∃ t ∈ inst.tasks, t.cls = b.rq ∧ cut.size = above inst b.rq t.prio ∧
      bl = (c', if above inst c' t.prio > inst.limitOf c' then none else some (above inst c' t.prio)) := by
  obtain ⟨t, ht, htc, hsz, _, hblk⟩ := hspec.cutSound b hb cut hcut
  rw [hblk, blockersAt_two hne hr, List.mem_ite_nil_right, List.mem_singleton] at hbl
  exact ⟨t, ht, htc, hsz, hbl.2⟩

theorem map_eq_pair {α β} {f : α → β} {a b : β} : ∀ {l : List α}, l.map f = [a, b] →
    ∃ x y, l = [x, y] ∧ f x = a ∧ f y = b
  | [], h => by simp at h
  | [_], h => by simp at h
  | [x, y], h => by
    simp only [List.map_cons, List.map_nil, List.cons.injEq, and_true] at h
    exact ⟨x, y, rfl, h.1, h.2⟩
  | _ :: _ :: _ :: _, h => by simp at h

theorem twoBatches_of_spec {inst : Instance} {w : Worker} {bs : List Batch} (hspec : BatchesSpec inst bs)
    (hw : inst.workers = [w]) (hft : w.free ≤ w.total) {H L : Nat} (hne : H ≠ L)
    (hready : inst.readyClasses = [H, L] ∨ inst.readyClasses = [L, H])
    (hpH : hasP inst w H = true) (hpL : hasP inst w L = true) (hcH : inst.need2 H = 0) (hcL : inst.need2 L = 0) :
    ∃ bH bL, TwoBatches inst w bs bH bL ∧ bH.rq = H ∧ bL.rq = L := by
  -- by symmetry `H` is the smaller class id
  have key : ∀ {H L : Nat}, H ≠ L → inst.readyClasses = [H, L] →
      hasP inst w H = true → hasP inst w L = true → inst.need2 H = 0 → inst.need2 L = 0 →
      ∃ bH bL, TwoBatches inst w bs bH bL ∧ bH.rq = H ∧ bL.rq = L := by
    intro H L hne e hpH hpL hcH hcL
    have hlimH := limitOf_pos_one hw hcH (Nat.le_trans (need_le_free hpH) hft)
    have hlimL := limitOf_pos_one hw hcL (Nat.le_trans (need_le_free hpL) hft)
    have hcl := hspec.classes
    rw [e] at hcl
    simp only [List.filter_cons, hlimH, hlimL, decide_true, ↓reduceIte, List.filter_nil] at hcl
    obtain ⟨b1, b2, hb, rfl, rfl⟩ := map_eq_pair hcl
    exact ⟨b1, b2, ⟨hw, Or.inl hb, hne, hpH, hpL, hcH, hcL⟩, rfl, rfl⟩
  rcases hready with e | e
  · exact key hne e hpH hpL hcH hcL
  · obtain ⟨bL, bH, h, hL, hH⟩ := key hne.symm e hpL hpH hcL hcH
    exact ⟨bH, bL, h.symm, hH, hL⟩

/-- the weight of a cpu-only class on the single worker: its cpus, times a factor common to all such classes (the
free amount of the second resource kind enters only through the common denominator) -/
theorem weightP_one {inst : Instance} {w : Worker} (hw : inst.workers = [w]) (hfree : 0 < w.free) {c : Nat}
    (hc2 : inst.need2 c = 0) (hwt : inst.weight c = 10000) :
    weightP inst 0 c = (max w.free2 1 * 1000000) * inst.need c := by
  have hs : inst.freeSum = w.free := by simp [Instance.freeSum, hw]
  have hs2 : inst.freeSum2 = w.free2 := by simp [Instance.freeSum2, hw]
  have : ¬ w.free = 0 := Nat.ne_of_gt hfree
  simp only [weightP, shareP, hs, hs2, this, ↓reduceIte, hw, List.length_cons, List.length_nil, hwt, hc2,
    Nat.zero_mul, ite_self, Nat.add_zero, Nat.sub_zero]
  rw [Nat.mul_right_comm (max w.free2 1), Nat.mul_comm (max w.free2 1)]
  omega

theorem weight_of_classes {inst : Instance} (hwt : ∀ k ∈ inst.classes, k.weight = 10000) {c : Nat}
    (hc : c < inst.classes.length) : inst.weight c = 10000 := by
  simp only [Instance.weight, List.getElem?_eq_getElem hc]
  exact hwt _ (List.getElem_mem hc)

theorem need_pos_of_classes {inst : Instance} (hwf : inst.WF) {c : Nat} (hc : c < inst.classes.length) :
    0 < inst.need c := by
  simp only [Instance.need, List.getElem?_eq_getElem hc]
  exact hwf.needPos _ (List.getElem_mem hc)

variable {inst : Instance} {x : Assign} {pl : Placement}

theorem dispatched_on_one {w : Worker} (hw : inst.workers = [w]) (hv : ValidPlacement inst x pl)
    {t : HqModel.Core.TaskId} (h : pl.dispatched t = true) : pl.on t w.id = true := by
  simp only [Placement.dispatched, List.any_eq_true, decide_eq_true_eq] at h
  obtain ⟨e, he, rfl⟩ := h
  obtain ⟨w', hw', hid⟩ := hv.workers e he
  rw [hw, List.mem_singleton] at hw'
  subst hw'
  rw [Placement.on, List.contains_iff_mem, hid]
  exact he

theorem countOn_lt_atLeast (hwf : inst.WF) (hv : ValidPlacement inst x pl) {h : TaskInfo} (hh : h ∈ inst.tasks)
    (hnd : pl.dispatched h.id = false) (w : Nat) : countOn inst pl w h.cls + 1 ≤ atLeast inst h.cls h.prio := by
  refine filter_length_lt (fun t ht hp => ?_) hh (by simp) ?_
  · simp only [Bool.and_eq_true, decide_eq_true_eq] at hp ⊢
    exact ⟨hp.1, dispatched_prio_ge hwf hv hh ht hp.1.symm hnd (on_dispatched hp.2)⟩
  · cases hon : pl.on h.id w with
    | false => simp
    | true => rw [on_dispatched hon] at hnd; cases hnd

theorem on_of_prio_gt (hwf : inst.WF) (hv : ValidPlacement inst x pl) {w : Worker} (hw : inst.workers = [w])
    {l : TaskInfo} (hl : l ∈ inst.tasks) (hon : pl.on l.id w.id = true) {t : TaskInfo} (ht : t ∈ inst.tasks)
    (hc : t.cls = l.cls) (hp : l.prio < t.prio) : pl.on t.id w.id = true := by
  apply dispatched_on_one hw hv
  cases hd : pl.dispatched t.id with
  | true => rfl
  | false =>
    exact absurd (dispatched_prio_ge hwf hv ht hl hc hd (on_dispatched hon)) (Int.not_le.mpr hp)

theorem atLeast_lt_countOn (hwf : inst.WF) (hv : ValidPlacement inst x pl) {w : Worker} (hw : inst.workers = [w])
    {l : TaskInfo} (hl : l ∈ inst.tasks) (hon : pl.on l.id w.id = true) {p : Int} (hlt : l.prio < p) :
    atLeast inst l.cls p + 1 ≤ countOn inst pl w.id l.cls := by
  refine filter_length_lt (fun t ht hp => ?_) hl (by simp [hon]) (by simpa using hlt)
  simp only [Bool.and_eq_true, decide_eq_true_eq] at hp ⊢
  exact ⟨hp.1, on_of_prio_gt hwf hv hw hl hon ht hp.1 (Int.lt_of_lt_of_le hlt hp.2)⟩

theorem room_beside_kept (hwf : inst.WF) (hv : ValidPlacement inst x pl) {w : Worker} (hw : inst.workers = [w])
    {h l : TaskInfo} (hh : h ∈ inst.tasks) (hl : l ∈ inst.tasks) (hne : h.cls ≠ l.cls)
    (hnd : pl.dispatched h.id = false) (hon : pl.on l.id w.id = true) (hlt : l.prio < h.prio)
    (hfit : keptLoad inst pl w.id h.prio + inst.need h.cls ≤ w.free) :
    inst.need h.cls * (countOn inst pl w.id h.cls + 1) + inst.need l.cls * atLeast inst l.cls h.prio ≤ w.free := by
  have hkept : inst.need h.cls * countOn inst pl w.id h.cls + inst.need l.cls * atLeast inst l.cls h.prio ≤
      keptLoad inst pl w.id h.prio := by
    refine load_ge (fun t : TaskInfo => inst.need t.cls)
      (fun t => pl.on t.id w.id && decide (h.prio ≤ t.prio))
      (fun t => decide (t.cls = h.cls) && pl.on t.id w.id)
      (fun t => decide (t.cls = l.cls) && decide (h.prio ≤ t.prio))
      (inst.need h.cls) (inst.need l.cls) inst.tasks (fun t ht hp => ?_) (fun t ht hp => ?_)
    · simp only [Bool.and_eq_true, decide_eq_true_eq] at hp
      refine ⟨?_, by rw [hp.1], ?_⟩
      · simp only [Bool.and_eq_true, decide_eq_true_eq]
        exact ⟨hp.2, dispatched_prio_ge hwf hv hh ht hp.1.symm hnd (on_dispatched hp.2)⟩
      · simp only [Bool.and_eq_false_iff, decide_eq_false_iff_not]
        left; rw [hp.1]; exact hne
    · simp only [Bool.and_eq_true, decide_eq_true_eq] at hp
      refine ⟨?_, by rw [hp.1]⟩
      simp only [Bool.and_eq_true, decide_eq_true_eq]
      exact ⟨on_of_prio_gt hwf hv hw hl hon ht hp.1 (Int.lt_of_lt_of_le hlt hp.2), hp.2⟩
  rw [Nat.mul_add, Nat.mul_one]
  omega

end HqModel.Sched
