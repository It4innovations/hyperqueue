import HqModel.Lemmas.JobJournalEntry
import HqModel.Lemmas.JobJournalRestartSpec
import HqModel.Lemmas.JournalStep
/-!
# C06, restart clause: the instance id recorded in `meaning J` bounds every `TaskStarted` record of `J`
-/
namespace HqModel.Emit
open HqModel.Job HqModel.Journal

theorem startedJob_eq_some {r : Record} {j : Nat} (h : startedJob r = some j) :
    ∃ t i ws, r = .taskStarted j t i ws := by
  cases r <;> first | exact ⟨_, _, _, by cases h; rfl⟩ | cases h

/-- every instance id in `R` (recorded starts of task `t`) is bounded by the instance id of `t` in the entry `o` -/
def InstBound (t : Nat) (o : Option AJob) (R : Nat → Prop) : Prop :=
  ∀ aj, o = some aj → ∀ k, R k →
    (∃ a ∈ aj.tasks, a.id = t) ∧ ∀ a ∈ aj.tasks, a.id = t → ∃ i, a.inst = some i ∧ k ≤ i

theorem InstBound.mono {t : Nat} {o : Option AJob} {R R' : Nat → Prop} (h : InstBound t o R)
    (hr : ∀ k, R' k → R k) : InstBound t o R' :=
  fun aj ho k hk => h aj ho k (hr k hk)

theorem InstBound.map {t : Nat} {o : Option AJob} {R : Nat → Prop} (h : InstBound t o R) (f : ATask → ATask)
    (hid : ∀ a, (f a).id = a.id) (hi : ∀ a i, a.inst = some i → ∃ i', (f a).inst = some i' ∧ i ≤ i') :
    InstBound t (o.map fun aj => mapTasks aj f) R := by
  intro aj' ho k hk
  cases o with
  | none => cases ho
  | some aj =>
    simp only [Option.map_some, Option.some.injEq] at ho
    subst ho
    obtain ⟨⟨a0, ha0, hid0⟩, hb⟩ := h aj rfl k hk
    refine ⟨⟨f a0, List.mem_map.mpr ⟨a0, ha0, rfl⟩, by rw [hid]; exact hid0⟩, ?_⟩
    intro a' ha' hid'
    simp only [mapTasks_tasks, List.mem_map] at ha'
    obtain ⟨a, ha, rfl⟩ := ha'
    rw [hid] at hid'
    obtain ⟨i, hi1, hi2⟩ := hb a ha hid'
    obtain ⟨i', hi1', hi2'⟩ := hi a i hi1
    exact ⟨i', hi1', by omega⟩

theorem InstBound.mark {t : Nat} {o : Option AJob} {R : Nat → Prop} (h : InstBound t o R) (oc' : Outcome)
    (S : List Nat) : InstBound t (o.map fun aj => mapTasks aj (markF oc' S)) R :=
  h.map _ (markF_id _ _) (fun a i hi => ⟨i, by rw [markF_inst]; exact hi, Nat.le_refl _⟩)

theorem startF_inst_ge (t i : Nat) (ws : List Nat) (a : ATask) (i0 : Nat) (h : a.inst = some i0) :
    ∃ i', (startF t i ws a).inst = some i' ∧ i0 ≤ i' := by
  unfold startF
  split
  · exact ⟨max i (a.inst.getD 0), rfl, by simp [h]; omega⟩
  · exact ⟨i0, h, Nat.le_refl _⟩

theorem InstBound.step {A : AState} {job t : Nat} {R : Nat → Prop} {seen : List Nat} (r : Record)
    (h : InstBound t (alGet A.jobs job) R) (hok : recordOk A r = true)
    (hseen : ∀ k, R k → job ∈ seen)
    (hc : (match createdJob r with | some j => !seen.contains j | none => true) = true) :
    InstBound t (alGet (meaningStep A r).jobs job) (fun k => R k ∨ ∃ ws, r = .taskStarted job t k ws) := by
  rw [entry_eq]
  -- records that are no start of `(job, t)`: the set of recorded ids does not grow
  have same : ∀ {o'}, (∀ k ws, r ≠ .taskStarted job t k ws) → InstBound t o' R →
      InstBound t o' (fun k => R k ∨ ∃ ws, r = .taskStarted job t k ws) := by
    intro o' hne h'
    exact h'.mono (fun k hk => hk.elim id (fun ⟨ws, e⟩ => absurd e (hne k ws)))
  -- a record that creates `job`: nothing was recorded for it before
  have fresh : createdJob r = some job → ∀ k, ¬ R k := by
    intro hcr k hk
    rw [hcr] at hc
    have := hseen k hk
    simp [this] at hc
  cases r with
  | submit j closed mf d =>
    refine same (fun _ _ e => by cases e) ?_
    simp only [entryStep]
    by_cases hj : j = job
    · subst hj
      simp only [if_true]
      by_cases hcl : closed = true
      · subst hcl
        intro aj _ k hk
        exact absurd hk (fresh rfl k)
      · simp only [hcl, Bool.false_eq_true, if_false]
        intro aj' ho k hk
        cases hg : alGet A.jobs j with
        | none => rw [hg] at ho; cases ho
        | some aj =>
          rw [hg] at ho
          simp only [Option.map_some, Option.some.injEq] at ho
          subst ho
          obtain ⟨⟨a0, ha0, hid0⟩, hb⟩ := h aj hg k hk
          refine ⟨⟨a0, by simp [ha0], hid0⟩, ?_⟩
          intro a ha hid
          simp only [List.mem_append] at ha
          rcases ha with ha | ha
          · exact hb a ha hid
          · exfalso
            have hcl' : closed = false := by simpa using hcl
            simp only [recordOk, hcl', Bool.false_eq_true, if_false, hg, Bool.and_eq_true] at hok
            have := submitOk_fresh hok.2 a.id (specTasks_fresh ha).2.2.1
            exact this (List.mem_map.mpr ⟨a0, ha0, by rw [hid0, hid]⟩)
    · simp only [hj, if_false]; exact h
  | jobOpen j mf =>
    refine same (fun _ _ e => by cases e) ?_
    simp only [entryStep]
    by_cases hj : j = job
    · subst hj
      simp only [if_true]
      intro aj _ k hk
      exact absurd hk (fresh rfl k)
    · simp only [hj, if_false]; exact h
  | jobClose j =>
    refine same (fun _ _ e => by cases e) ?_
    simp only [entryStep]
    split
    · intro aj' ho k hk
      cases hg : alGet A.jobs job with
      | none => rw [hg] at ho; cases ho
      | some aj =>
        rw [hg] at ho
        simp only [Option.map_some, Option.some.injEq] at ho
        subst ho
        exact h aj hg k hk
    · exact h
  | jobCompleted j =>
    refine same (fun _ _ e => by cases e) ?_
    simp only [entryStep]
    split
    · intro aj ho; cases ho
    · exact h
  | taskStarted j t' i ws =>
    simp only [entryStep]
    by_cases hj : j = job
    · subst hj
      simp only [if_true]
      have hmap := h.map (startF t' i ws) (startF_id t' i ws) (startF_inst_ge t' i ws)
      intro aj' ho k hk
      rcases hk with hk | ⟨ws', e⟩
      · exact hmap aj' ho k hk
      · simp only [Record.taskStarted.injEq, true_and] at e
        obtain ⟨rfl, rfl, -⟩ := e
        -- the new record: the task exists (`recordOk`) and gets an instance id ≥ `i`
        simp only [recordOk, Bool.and_eq_true] at hok
        obtain ⟨aj, a0, hg, hm0, hid0, -⟩ := taskIs_elim hok.1
        rw [hg] at ho
        cases ho
        refine ⟨⟨startF t' i ws a0, List.mem_map.mpr ⟨a0, hm0, rfl⟩, (startF_id ..).trans hid0⟩, ?_⟩
        intro a' ha' hid'
        simp only [mapTasks_tasks, List.mem_map] at ha'
        obtain ⟨a, _, rfl⟩ := ha'
        rw [startF_id] at hid'
        exact ⟨max i (a.inst.getD 0), by rw [startF_in i ws hid'], Nat.le_max_left _ _⟩
    · simp only [hj, if_false]
      exact same (fun _ _ e => by cases e; exact hj rfl) h
  | taskFinished j t' =>
    refine same (fun _ _ e => by cases e) ?_
    simp only [entryStep]
    split
    · exact h.mark _ _
    · exact h
  | taskFailed j t' =>
    refine same (fun _ _ e => by cases e) ?_
    simp only [entryStep]
    split
    · exact h.mark _ _
    · exact h
  | tasksCanceled ids =>
    refine same (fun _ _ e => by cases e) ?_
    exact h.mark _ _
  | tasksAborted ids =>
    refine same (fun _ _ e => by cases e) ?_
    exact h.mark _ _
  | workerLost w reason =>
    refine same (fun _ _ e => by cases e) ?_
    exact h.map _ (fun a => (lose_fields w _ a).1)
      (fun a i hi => ⟨i, by rw [(lose_fields w _ a).2.2.2]; exact hi, Nat.le_refl _⟩)
  | _ => exact same (fun _ _ e => by cases e) h

theorem InstBound.fold (job t : Nat) : ∀ (J : List Record) {A : AState} {R : Nat → Prop} {seen : List Nat},
    producibleFrom A J = true → noStartBeforeCreate seen J = true → (∀ k, R k → job ∈ seen) →
    InstBound t (alGet A.jobs job) R →
    InstBound t (alGet (J.foldl meaningStep A).jobs job) (fun k => R k ∨ ∃ ws, .taskStarted job t k ws ∈ J)
  | [], _, _, _, _, _, _, h => h.mono (fun k hk => hk.elim id (fun ⟨_, e⟩ => by cases e))
  | r :: rs, A, R, seen, hp, hn, hseen, h => by
    simp only [producibleFrom, Bool.and_eq_true] at hp
    simp only [noStartBeforeCreate, Bool.and_eq_true] at hn
    have h1 := h.step r hp.1 hseen hn.1
    have := InstBound.fold job t rs hp.2 hn.2 (R := fun k => R k ∨ ∃ ws, r = .taskStarted job t k ws) (by
      intro k hk
      rcases hk with hk | ⟨ws, e⟩
      · have := hseen k hk
        split <;> simp [this]
      · subst e; simp [startedJob]) h1
    simp only [List.foldl_cons]
    refine this.mono ?_
    intro k hk
    rcases hk with hk | ⟨ws, hm⟩
    · exact .inl (.inl hk)
    · simp only [List.mem_cons] at hm
      rcases hm with hm | hm
      · exact .inl (.inr ⟨ws, hm.symm⟩)
      · exact .inr ⟨ws, hm⟩

end HqModel.Emit
