import HqModel.Lemmas.JobJournal
import HqModel.Lemmas.JobCompleted
import HqModel.Lemmas.JournalInv
/-!
# The simulation between the job layer (M4) and the meaning of the journal it writes

`Inv s A`: the M4 state `s` and `A = meaning (journal so far)` agree — a stored job the journal has not reported
completed is a job of `A` with the same open flag, task ids in the same order, recorded outcome = terminal state
(`waiting` for Waiting and Running; a Running task has a recorded instance id): `JSim`; one it no longer has is closed
with every task terminal; job ids of `A` are below the job counter; `A` is failure-closed (`DepOk`).
`goodFrom A recs`: every record is allowed (`recordOk`) where it is appended, and `DepOk` holds at every boundary.
-/
namespace HqModel.Emit
open HqModel.Job HqModel.Journal

def mapTasks (aj : AJob) (f : ATask → ATask) : AJob := { aj with tasks := aj.tasks.map f }

@[simp] theorem mapTasks_isOpen (aj : AJob) (f : ATask → ATask) : (mapTasks aj f).isOpen = aj.isOpen := rfl
@[simp] theorem mapTasks_tasks (aj : AJob) (f : ATask → ATask) : (mapTasks aj f).tasks = aj.tasks.map f := rfl

theorem mapTasks_id (aj : AJob) (f : ATask → ATask) (h : ∀ a, f a = a) : mapTasks aj f = aj := by
  have : f = id := funext h
  subst this
  cases aj; simp [mapTasks]

theorem find_of_nodup {aj : AJob} {a : ATask} (hnd : (aj.tasks.map (·.id)).Nodup) (ha : a ∈ aj.tasks) :
    aj.find a.id = some a := by
  unfold AJob.find
  generalize aj.tasks = l at hnd ha
  induction l with
  | nil => cases ha
  | cons x xs ih =>
    simp only [List.map_cons, List.nodup_cons] at hnd
    simp only [List.mem_cons] at ha
    rcases ha with rfl | ha
    · simp
    · have hne : x.id ≠ a.id := fun e => hnd.1 (List.mem_map.mpr ⟨a, ha, e.symm⟩)
      rw [List.find?_cons_of_neg (by simpa using hne)]
      exact ih hnd.2 ha

theorem find_mapTasks (aj : AJob) (f : ATask → ATask) (hid : ∀ a, (f a).id = a.id) (t : Nat) :
    (mapTasks aj f).find t = (aj.find t).map f := by
  unfold AJob.find mapTasks
  simp only [List.find?_map]
  have : ((fun x : ATask => x.id == t) ∘ f) = (fun x => x.id == t) := by
    funext a; simp [hid]
  rw [this]

theorem find_append (aj : AJob) (extra : List ATask) (n : Nat) (t : Nat) :
    ({ aj with tasks := aj.tasks ++ extra, nSubmits := n } : AJob).find t =
      match aj.find t with
      | some a => some a
      | none => extra.find? (·.id == t) := by
  unfold AJob.find
  simp only [List.find?_append]
  cases aj.tasks.find? (·.id == t) <;> rfl

/-- recorded outcome of a job-layer task state -/
def oc : Job.TState → Outcome
  | .waiting | .running => .waiting
  | .finished => .finished
  | .failed => .failed
  | .canceled => .canceled
  | .aborted => .aborted

theorem oc_waiting_iff (x : Job.TState) : oc x = .waiting ↔ x.terminal = false := by
  cases x <;> simp [oc, Job.TState.terminal]

structure JSim (job : Job) (aj : AJob) : Prop where
  isOpen : aj.isOpen = job.isOpen
  ids : aj.tasks.map (·.id) = keys job.tasks
  st : ∀ a ∈ aj.tasks, ∃ x, lookup job.tasks a.id = some x ∧ a.st = oc x ∧ (x = .running → a.inst.isSome = true)

/-- closure under failure propagation of one abstract job -/
def JDep (aj : AJob) : Prop :=
  ∀ a ∈ aj.tasks, a.st = .waiting → ∀ d ∈ a.deps, ∀ b, aj.find d = some b → b.st = .waiting ∨ b.st = .finished

/-- `C03.DepClosed`, stated here to keep the lemma files independent of the property files -/
def DepOk (A : AState) : Prop := ∀ ja ∈ A.jobs, JDep ja.2

/-- a job of the job layer against the journal's entry for its id (`none`: reported completed) -/
def SimJ (job : Job) : Option AJob → Prop
  | some aj => JSim job aj
  | none => job.isOpen = false ∧ job.allTerminal

theorem JSim.find {job : Job} {aj : AJob} (h : JSim job aj) {t : Nat} {x : Job.TState}
    (hl : lookup job.tasks t = some x) :
    ∃ a, aj.find t = some a ∧ a ∈ aj.tasks ∧ a.id = t ∧ a.st = oc x ∧ (x = .running → a.inst.isSome = true) := by
  have hk : t ∈ aj.tasks.map (·.id) := by rw [h.ids]; exact mem_keys_of_lookup hl
  obtain ⟨a, ha⟩ := find_of_mem hk
  obtain ⟨hm, hid⟩ := find_some ha
  obtain ⟨x', hx', hst, hin⟩ := h.st a hm
  rw [hid, hl] at hx'
  cases hx'
  exact ⟨a, ha, hm, hid, hst, hin⟩

theorem JSim.nodup {job : Job} {aj : AJob} (h : JSim job aj) (w : JobWF job) : (aj.tasks.map (·.id)).Nodup := by
  rw [h.ids]; exact w.nodup

theorem JSim.all_outcome {job : Job} {aj : AJob} (h : JSim job aj) (ht : job.allTerminal) :
    aj.tasks.all (fun a => a.st != .waiting) = true := by
  simp only [List.all_eq_true, bne_iff_ne, ne_eq]
  intro a ha
  obtain ⟨x, hx, hst, -⟩ := h.st a ha
  have := ht _ (lookup_mem hx)
  rw [hst, oc_waiting_iff]
  simp [this]

theorem JSim.waiting {job : Job} {aj : AJob} (h : JSim job aj) {a : ATask} (ha : a ∈ aj.tasks)
    (hw : a.st = .waiting) : ∃ x, lookup job.tasks a.id = some x ∧ x.terminal = false := by
  obtain ⟨x, hx, hst, -⟩ := h.st a ha
  exact ⟨x, hx, (oc_waiting_iff x).mp (hst ▸ hw)⟩

theorem JSim.map {job job' : Job} {aj : AJob} (h : JSim job aj) (f : ATask → ATask)
    (hid : ∀ a, (f a).id = a.id) (hop : job'.isOpen = job.isOpen) (hk : keys job'.tasks = keys job.tasks)
    (hst : ∀ a ∈ aj.tasks, ∀ x, lookup job.tasks a.id = some x → a.st = oc x →
      (x = .running → a.inst.isSome = true) →
      ∃ x', lookup job'.tasks a.id = some x' ∧ (f a).st = oc x' ∧ (x' = .running → (f a).inst.isSome = true)) :
    JSim job' (mapTasks aj f) := by
  refine ⟨by simp [h.isOpen, hop], ?_, ?_⟩
  · simp only [mapTasks_tasks, List.map_map, hk, ← h.ids]
    exact List.map_congr_left (fun a _ => hid a)
  · intro a' ha'
    simp only [mapTasks_tasks, List.mem_map] at ha'
    obtain ⟨a, ha, rfl⟩ := ha'
    obtain ⟨x, hx, hs, hi⟩ := h.st a ha
    rw [hid]
    exact hst a ha x hx hs hi

theorem JDep.map {aj : AJob} (h : JDep aj) (f : ATask → ATask)
    (hid : ∀ a, (f a).id = a.id) (hdeps : ∀ a, (f a).deps = a.deps)
    (hw : ∀ a ∈ aj.tasks, (f a).st = .waiting → a.st = .waiting)
    (hb : ∀ a ∈ aj.tasks, a.st = .waiting → (f a).st = .waiting → ∀ d ∈ a.deps, ∀ b ∈ aj.tasks, b.id = d →
      (b.st = .waiting ∨ b.st = .finished) → ((f b).st = .waiting ∨ (f b).st = .finished)) :
    JDep (mapTasks aj f) := by
  intro a' ha' hw' d hd b' hb'
  simp only [mapTasks_tasks, List.mem_map] at ha'
  obtain ⟨a, ha, rfl⟩ := ha'
  rw [find_mapTasks aj f hid] at hb'
  cases hf : aj.find d with
  | none => rw [hf] at hb'; cases hb'
  | some b =>
    rw [hf] at hb'
    simp only [Option.map_some, Option.some.injEq] at hb'
    subst hb'
    rw [hdeps] at hd
    obtain ⟨hbm, hbid⟩ := find_some hf
    exact hb a ha (hw a ha hw') hw' d hd b hbm hbid (h a ha (hw a ha hw') d hd b hf)

theorem JDep.map_same {aj : AJob} (h : JDep aj) (f : ATask → ATask)
    (hid : ∀ a, (f a).id = a.id) (hdeps : ∀ a, (f a).deps = a.deps) (hst : ∀ a, (f a).st = a.st) :
    JDep (mapTasks aj f) :=
  h.map f hid hdeps (fun a _ h' => by rw [← hst]; exact h') (fun _ _ _ _ _ _ b _ _ hb => by rw [hst]; exact hb)

structure Inv (s : State) (A : AState) : Prop where
  wf : StateWF s
  below : ∀ ja ∈ A.jobs, ja.1 < s.jobCtr
  sim : ∀ j job, s.getJob j = some job → SimJ job (alGet A.jobs j)
  dep : DepOk A

theorem Inv.congr {s s' : State} {A A' : AState} (h : Inv s A) (hj : s'.jobs = s.jobs)
    (hc : s'.jobCtr = s.jobCtr) (ha : A'.jobs = A.jobs) : Inv s' A' := by
  refine ⟨stateWF_congr h.wf hj hc, ?_, ?_, ?_⟩
  · rw [ha, hc]; exact h.below
  · intro j job hg
    rw [ha]
    exact h.sim j job (by simpa [State.getJob, hj] using hg)
  · intro ja hja; rw [ha] at hja; exact h.dep ja hja

theorem Inv.init (A : AState) (hA : A.jobs = []) : Inv {} A := by
  refine ⟨init_wf, ?_, ?_, ?_⟩
  · intro ja hja; rw [hA] at hja; cases hja
  · intro j job hg; simp [State.getJob, findJob] at hg
  · intro ja hja; rw [hA] at hja; cases hja

theorem Inv.put {s : State} {A : AState} {j : Nat} {job job' : Job} {aj' : AJob} (h : Inv s A)
    (hg : s.getJob j = some job) (hid : job'.id = j) (hw : JobWF job')
    (hin : (alGet A.jobs j).isSome = true) (hs : JSim job' aj') (hd : JDep aj') :
    Inv (s.putJob job') { A with jobs := alSet A.jobs j aj' } := by
  subst hid
  have hjid := getJob_id hg
  refine ⟨h.wf.putJob (by rw [hjid]; exact hg) hjid.symm hw, ?_, ?_, ?_⟩
  · intro ja hja
    simp only [State.putJob]
    rcases mem_alSet hja with hja | rfl
    · exact h.below ja hja
    · obtain ⟨aj, haj⟩ := Option.isSome_iff_exists.mp hin
      exact h.below (job'.id, aj) (alGet_mem haj)
  · intro k job'' hg'
    rw [alGet_set]
    rcases findJob_replaceJob_some (hjid ▸ hg) hjid.symm hg' with ⟨rfl, rfl⟩ | ⟨hk, hg'⟩
    · rw [if_pos hjid.symm]; exact hs
    · rw [if_neg fun e : job'.id = k => hk (e.symm.trans hjid.symm)]; exact h.sim k job'' hg'
  · intro ja hja
    rcases mem_alSet hja with hja | rfl
    · exact h.dep ja hja
    · exact hd

theorem Inv.putSame {s : State} {A : AState} {j : Nat} {job job' : Job} (h : Inv s A)
    (hg : s.getJob j = some job) (hid : job'.id = j) (hw : JobWF job')
    (hs : SimJ job' (alGet A.jobs j)) : Inv (s.putJob job') A := by
  subst hid
  have hjid := getJob_id hg
  refine ⟨h.wf.putJob (by rw [hjid]; exact hg) hjid.symm hw, h.below, ?_, h.dep⟩
  intro k job'' hg'
  rcases findJob_replaceJob_some (hjid ▸ hg) hjid.symm hg' with ⟨rfl, rfl⟩ | ⟨-, hg'⟩
  · exact hjid ▸ hs
  · exact h.sim k job'' hg'

theorem Inv.del {s : State} {A : AState} {j : Nat} {job : Job} (h : Inv s A)
    (hg : s.getJob j = some job) (hc : job.isOpen = false) (ht : job.allTerminal) :
    Inv s { A with jobs := alDel A.jobs j } := by
  refine ⟨h.wf, fun ja hja => h.below ja (mem_alDel hja), ?_, fun ja hja => h.dep ja (mem_alDel hja)⟩
  intro k job' hg'
  simp only [alGet_del]
  by_cases hk : j = k
  · subst hk
    rw [hg] at hg'; cases hg'
    simp only [if_true]
    exact ⟨hc, ht⟩
  · simp only [hk, if_false]
    exact h.sim k job' hg'

theorem Inv.add {s : State} {A : AState} {job : Job} {aj : AJob} (h : Inv s A) (hid : job.id = s.jobCtr)
    (hw : JobWF job) (hs : JSim job aj) (hd : JDep aj) (l : List TaskId) (mj : Nat) :
    Inv { s with jobs := s.jobs ++ [job], jobCtr := s.jobCtr + 1, sent := l }
      { A with jobs := alSet A.jobs s.jobCtr aj, maxJob := mj } := by
  refine ⟨h.wf.addJob hid hw l, ?_, ?_, ?_⟩
  · intro ja hja
    rcases mem_alSet hja with hja | rfl
    · have := h.below ja hja; simp only []; omega
    · simp only []; omega
  · intro k job' hg'
    simp only [alGet_set]
    rcases findJob_append_some hg' with hf | ⟨rfl, rfl⟩
    · have hlt := h.wf.below job' (findJob_some hf).1
      rw [(findJob_some hf).2] at hlt
      rw [if_neg (Nat.ne_of_gt hlt)]
      exact h.sim k job' hf
    · rw [if_pos hid.symm]
      exact hs
  · intro ja hja
    rcases mem_alSet hja with hja | rfl
    · exact h.dep ja hja
    · exact hd

theorem Inv.fresh {s : State} {A : AState} (h : Inv s A) : alGet A.jobs s.jobCtr = none := by
  cases hf : alGet A.jobs s.jobCtr with
  | none => rfl
  | some aj => have := h.below _ (alGet_mem hf); simp at this

theorem Inv.live {s : State} {A : AState} (h : Inv s A) {j : Nat} {job : Job} (hg : s.getJob j = some job)
    (hl : job.isOpen = true ∨ ∃ t x, lookup job.tasks t = some x ∧ x.terminal = false) :
    ∃ aj, alGet A.jobs j = some aj ∧ JSim job aj := by
  have := h.sim j job hg
  cases hf : alGet A.jobs j with
  | some aj => rw [hf] at this; exact ⟨aj, rfl, this⟩
  | none =>
    rw [hf] at this
    obtain ⟨hc, ht⟩ := this
    rcases hl with hl | ⟨t, x, hx, hnt⟩
    · rw [hl] at hc; cases hc
    · have := ht _ (lookup_mem hx)
      simp only at this
      rw [this] at hnt; cases hnt

theorem Inv.forget {s : State} {A : AState} (h : Inv s A) (j : Nat) :
    Inv { s with jobs := s.jobs.filter (·.id != j) } A :=
  ⟨h.wf.forget j, h.below, fun k job hg => h.sim k job (findJob_filter_some hg), h.dep⟩

def goodFrom (A : AState) : List Record → Prop
  | [] => DepOk A
  | r :: rs => DepOk A ∧ recordOk A r = true ∧ goodFrom (meaningStep A r) rs

theorem goodFrom.dep {A : AState} {l : List Record} (h : goodFrom A l) : DepOk A := by
  cases l with
  | nil => exact h
  | cons _ _ => exact h.1

theorem goodFrom_append (A : AState) (l m : List Record) :
    goodFrom A (l ++ m) ↔ goodFrom A l ∧ goodFrom (l.foldl meaningStep A) m := by
  induction l generalizing A with
  | nil =>
    simp only [List.nil_append, goodFrom, List.foldl_nil]
    constructor
    · exact fun h => ⟨h.dep, h⟩
    · exact fun h => h.2
  | cons r rs ih =>
    simp only [List.cons_append, goodFrom, List.foldl_cons, ih]
    constructor
    · exact fun ⟨a, b, c, d⟩ => ⟨⟨a, b, c⟩, d⟩
    · exact fun ⟨⟨a, b, c⟩, d⟩ => ⟨a, b, c, d⟩

theorem goodFrom.producible {A : AState} {l : List Record} (h : goodFrom A l) : producibleFrom A l = true := by
  induction l generalizing A with
  | nil => rfl
  | cons r rs ih => simp only [producibleFrom, Bool.and_eq_true]; exact ⟨h.2.1, ih h.2.2⟩

theorem goodFrom.prefix {A : AState} {l k : List Record} (h : goodFrom A l) (hk : k <+: l) :
    DepOk (k.foldl meaningStep A) := by
  obtain ⟨m, rfl⟩ := hk
  exact ((goodFrom_append A k m).mp h).2.dep

theorem prefix_append_cases : ∀ (l m K : List Record), K <+: l ++ m →
    K <+: l ∨ ∃ K', K = l ++ K' ∧ K' <+: m
  | [], m, K, h => .inr ⟨K, rfl, h⟩
  | a :: l, m, K, h => by
    cases K with
    | nil => exact .inl List.nil_prefix
    | cons b K =>
      rw [List.cons_append] at h
      obtain ⟨hab, hK⟩ := List.cons_prefix_cons.mp h
      subst hab
      rcases prefix_append_cases l m K hK with h1 | ⟨K', rfl, h2⟩
      · exact .inl (List.cons_prefix_cons.mpr ⟨rfl, h1⟩)
      · exact .inr ⟨K', rfl, h2⟩

theorem meaning_append (J L : List Record) : meaning (J ++ L) = L.foldl meaningStep (meaning J) := by
  simp [meaning, List.foldl_append]

theorem meaning_snoc (J : List Record) (r : Record) : meaning (J ++ [r]) = meaningStep (meaning J) r :=
  meaning_append J [r]

/-- `goodFrom`, read for the journal FILE `J ++ r :: L` -/
theorem goodFrom.journal {J L : List Record} {r : Record} (g : goodFrom (meaningStep (meaning J) r) L)
    (hp : Producible J) (hd : ∀ K, K <+: J → DepOk (meaning K)) (hr : recordOk (meaning J) r = true) :
    Producible (J ++ r :: L) ∧ ∀ K, K <+: J ++ r :: L → DepOk (meaning K) := by
  refine ⟨?_, fun K hK => ?_⟩
  · unfold Producible
    rw [producibleFrom_append]
    simp only [producibleFrom, Bool.and_eq_true]
    exact ⟨hp, hr, g.producible⟩
  · rcases prefix_append_cases _ _ K hK with h1 | ⟨K', rfl, h2⟩
    · exact hd K h1
    · cases K' with
      | nil => rw [List.append_nil]; exact hd J (List.prefix_refl J)
      | cons r' K'' =>
        obtain ⟨rfl, hK''⟩ := List.cons_prefix_cons.mp h2
        rw [meaning_append]
        exact g.prefix hK''

theorem goodFrom.journal_start {uid : String} {L : List Record} (g : goodFrom (meaningStep {} (.serverStart uid)) L) :
    Producible (.serverStart uid :: L) ∧ ∀ K, K <+: .serverStart uid :: L → DepOk (meaning K) :=
  goodFrom.journal (J := []) g rfl (fun K hK => by rw [List.prefix_nil.mp hK]; exact fun _ h => nomatch h) rfl

end HqModel.Emit
