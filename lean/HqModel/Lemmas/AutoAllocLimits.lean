import HqModel.Lemmas.AutoAllocFrame
/-!
C17 `c17_limits`: the per-queue invariant `QInv` is kept by every primitive `QPrim` (feeding an input never
re-activates an allocation; `queue_try_submit` appends a prefix of the permit, which was computed from the limits).
-/
namespace HqModel.AutoAlloc

theorem filter_map_length_le (l : List Alloc) (f : Alloc → Alloc) (p : Alloc → Bool)
    (h : ∀ y, p (f y) = true → p y = true) :
    ((l.map f).filter p).length ≤ (l.filter p).length := by
  rw [← List.countP_eq_length_filter, ← List.countP_eq_length_filter, List.countP_map]
  exact List.countP_mono_left fun y _ => h y

theorem filter_map_sum_le (l : List Alloc) (f : Alloc → Alloc) (p : Alloc → Bool)
    (h : ∀ y, p (f y) = true → p y = true) (ht : ∀ y, (f y).target = y.target) :
    (((l.map f).filter p).map (·.target)).sum ≤ ((l.filter p).map (·.target)).sum := by
  induction l with
  | nil => simp
  | cons y ys ih =>
    simp only [List.map_cons, List.filter_cons]
    by_cases h1 : p (f y) = true
    · simp only [h1, h y h1, if_true, List.map_cons, List.sum_cons, ht]
      exact Nat.add_le_add_left ih _
    · rw [if_neg h1]
      split
      · exact Nat.le_trans ih (Nat.le_add_left _ _)
      · exact ih

theorem QInv_congr (q q' : Queue) (h1 : q'.allocs = q.allocs) (h2 : q'.params = q.params) (h : QInv q) : QInv q' := by
  unfold QInv Queue.queuedCount Queue.activeWorkers at *
  rw [h1, h2]; exact h

theorem QInv_feed (c : Consts) (q : Queue) (a : Nat) (i : AIn) (lim : Limiter) (h : QInv q) :
    QInv (q.feed c a i lim) := by
  obtain ⟨h1, h2, h3⟩ := h
  refine ⟨Nat.le_trans ?_ h1, fun m hm => Nat.le_trans ?_ (h2 m hm), ?_⟩
  · refine filter_map_length_le _ _ _ fun y hy => (AState.isQueued_iff _).mpr ?_
    exact Nat.le_zero.mp ((AState.isQueued_iff _).mp hy ▸ feedMap_rank c a i y)
  · refine filter_map_sum_le _ _ _ (fun y hy => (AState.isActive_iff _).mpr ?_) (feedMap_target c a i)
    exact Nat.le_trans (feedMap_rank c a i y) ((AState.isActive_iff _).mp hy)
  · intro al hal
    obtain ⟨y, hy, rfl⟩ := List.mem_map.mp hal
    rw [feedMap_target]
    exact h3 y hy

theorem QInv_append (q q' : Queue) (extra : List Alloc) (ha : q'.allocs = q.allocs ++ extra)
    (hp : q'.params = q.params) (hq : ∀ x ∈ extra, x.st = .queued 0)
    (hr : ∀ x ∈ extra, 1 ≤ x.target ∧ x.target ≤ q.params.wpa)
    (hb : q.queuedCount + extra.length ≤ q.params.backlog)
    (hm : ∀ m, q.params.mwc = some m → q.activeWorkers + (extra.map (·.target)).sum ≤ m)
    (h : QInv q) : QInv q' := by
  have e1 : extra.filter (·.st.isQueued) = extra :=
    List.filter_eq_self.mpr fun x hx => by rw [hq x hx]; rfl
  have e2 : extra.filter (·.st.isActive) = extra :=
    List.filter_eq_self.mpr fun x hx => by rw [hq x hx]; rfl
  unfold QInv Queue.queuedCount Queue.activeWorkers at *
  rw [ha, hp]
  simp only [List.filter_append, e1, e2, List.length_append, List.map_append, List.sum_append]
  refine ⟨hb, hm, fun x hx => ?_⟩
  rcases List.mem_append.mp hx with hx | hx
  · exact h.2.2 x hx
  · exact hr x hx

variable {c : Consts} {P : Nat → AIn → Prop}

theorem State.setQueue_Inv (s : State) (q : Queue) (h : Inv s) (hq : QInv q) : Inv (s.setQueue q) := by
  intro x hx
  obtain ⟨y, hy, rfl⟩ := State.mem_setQueue.mp hx
  split
  · exact hq
  · exact h y hy

theorem QPrim.qinv {q q' : Queue} (h : QPrim c P q q') (hq : QInv q) :
    QInv q' := by
  cases h with
  | sync a r hp =>
    rcases Queue.sync_cases c q a r with ⟨_, h⟩ | ⟨x, _, h⟩ <;> rw [h]
    · exact hq
    · exact QInv_feed c q a _ _ hq
  | bumpErr a hp =>
    rcases Queue.bumpErr_cases c q a with ⟨_, h⟩ | ⟨x, _, h⟩ <;> rw [h]
    · exact hq
    · exact QInv_feed c q a _ _ hq
  | tryPause =>
    rcases q.tryPause_cases with h | ⟨_, h⟩ <;> rw [h]
    · exact hq
    · exact QInv_congr _ _ rfl rfl hq
  | trySubmit r now res =>
    obtain ⟨extra, g, h7⟩ := Queue.trySubmit_q q r now res
    rcases h7 with rfl | ⟨p, hp, t, ht⟩
    · exact QInv_congr _ _ (by simpa using g.allocs) g.params hq
    · obtain ⟨p1, p2, p3⟩ := Queue.permit_spec q r p hp
      have hlen : extra.length ≤ p.length := by
        rw [← ht, List.length_append, List.length_map]; exact Nat.le_add_right _ _
      have hsum : (extra.map (·.target)).sum ≤ p.sum := by
        rw [← ht, List.sum_append]; exact Nat.le_add_right _ _
      refine QInv_append q _ extra g.allocs g.params g.queued (fun x hx => p1 _ ?_) ?_ (fun m hm => ?_) hq
      · rw [← ht]
        exact List.mem_append_left _ (List.mem_map_of_mem hx)
      · rw [Nat.add_comm]
        exact Nat.add_le_of_le_sub hq.1 (Nat.le_trans hlen p2)
      · rw [Nat.add_comm]
        exact Nat.add_le_of_le_sub (hq.2.1 m hm) (Nat.le_trans hsum (p3 m hm))
  | pause => exact QInv_congr _ _ rfl rfl hq

theorem QTrans.qinv {q q' : Queue} (h : QTrans c P q q') : QInv q → QInv q' :=
  QTrans.lift (fun a b => QInv a → QInv b) (fun _ h => h) (fun _ _ _ h1 h2 h => h2 (h1 h)) (fun _ _ h => h.qinv) h

end HqModel.AutoAlloc
