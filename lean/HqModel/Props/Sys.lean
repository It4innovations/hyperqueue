import HqModel.Lemmas.SysProj
import HqModel.Lemmas.SysStep
import HqModel.Lemmas.SysMaxFails
import HqModel.Props.C01
/-!
# The composed system: job layer (M4) on top of the tako core (M1)

`HqModel/Sys/Model.lean` wires the two hand-written models the way the server wires the two layers: client
requests run M4 and hand the core what `submit.rs` / `client/mod.rs` hand it; every core-driven action runs
`Core.step` and delivers EVERY callback of `Out.cbs`, in order, to the matching M4 operation; the lists
`on_task_error` returns are checked against the `rets` the core step consumed (`Stop.badRets`). The theorems below
are about ALL runs of that system from the empty state `initState reserve max` (`{}` is `initState 1 1`; the two
numbers are the core's proactive-filling parameters, fixed per run) whose world actions satisfy the decidable side
conditions `Sys.OpOk` (`Lemmas/SysPair.lean`; a driver evaluates `decide (OpOk s op)` on every real step):

* `sys_registry` (C02, second sentence) — in every reachable state the key set of the core's task map, `job.sent`, and
  the set of non-terminal tasks of the stored jobs are the same set: no phantom and no orphan tasks;
* `sys_no_job_panic` / `sys_run_no_job_panic` (C09 / C01, the composed part) — every callback the core makes is
  accepted by the job layer and no client request panics in it: `Sys.step` never stops with `Stop.job _`;
  `sys_started_running` exposes the state coupling this rests on (core Running / started multi-node ⇒ job `running`);
* `sys_cancel_final` (C08) — after a client cancel of job `j` no task of `j` is in the core map (so, by
  `C01.c01_core_ignores_unknown`, no later message about such a task produces a callback: `sys_cancel_no_callback`);
* `sys_max_fails` (C14) — after a `task_failed` whose callback made the job exceed `max_fails`, no task of the job is in
  the core map.

Proof: `Lemmas/Sys*.lean` — the coupling invariant `Coupled` (`SysInv.lean`) is inductive over `Sys.step`
(`step_good`, `SysStep.lean`); the two re-entrant loops of the core are followed in lock step with the job layer
(`SysLock.lean`).
-/
namespace HqModel.Sys
open HqModel

/-- the invariant behind everything: `Coupled` holds in every reachable state -/
theorem sys_coupled (reserve max : Nat) (ops : List Op) (s : State) (outs : List Out) (hok : RunOk (initState reserve max) ops)
    (h : run (initState reserve max) ops = .ok (s, outs)) : Coupled s :=
  run_coupled ops (coupled_initState reserve max) hok h

/-- **`sys_registry`** — in every reachable state of the composed system
1. the keys of the core's task map are exactly the ids in `job.sent` (and they are distinct);
2. *no orphan*: every key of the core's task map is a task of a stored job, in a non-terminal state;
3. *no phantom*: a task of a stored job is non-terminal iff its id is a key of the core's task map. -/
theorem sys_registry (reserve max : Nat) (ops : List Op) (s : State) (outs : List Out) (hok : RunOk (initState reserve max) ops)
    (h : run (initState reserve max) ops = .ok (s, outs)) :
    (∀ t, t ∈ Core.taskIds s.core.tasks ↔ t ∈ s.job.sent) ∧ (Core.taskIds s.core.tasks).Nodup ∧
    (∀ t ∈ Core.taskIds s.core.tasks, ∃ job st, s.job.getJob t.1 = some job ∧ Job.lookup job.tasks t.2 = some st ∧
      st.terminal = false) ∧
    (∀ job ∈ s.job.jobs, ∀ p ∈ job.tasks, p.2.terminal = false ↔ (job.id, p.1) ∈ Core.taskIds s.core.tasks) := by
  have hc := (sys_coupled reserve max ops s outs hok h).c0
  refine ⟨fun t => by rw [hc.ids t, hc.sent t], hc.nd, ?_, ?_⟩
  · intro t ht
    obtain ⟨st, hst, hterm⟩ := live_some ((hc.ids t).mp ht)
    obtain ⟨job, hj, hl⟩ := getJob_of_tst (js := s.job) (t := t) (by rw [hst]; rfl)
    exact ⟨job, st, hj, by rw [hl, hst], hterm⟩
  · intro job hjob p hp
    have hw := hc.wf.jobs job hjob
    have hg : s.job.getJob job.id = some job := Job.findJob_of_mem hc.wf.ids hjob
    have hl : tst s.job (job.id, p.1) = some p.2 := by
      rw [tst_of_getJob hg, Job.lookup_of_mem hw.nodup (a := p.2) hp]
    rw [hc.ids, hl]
    simp [live]

/-- **`sys_no_job_panic`** — in every reachable state, no world action satisfying the side conditions makes the job
layer panic: every callback of the core step (`started` / `finished` / `error` / `worker new` / `worker lost`) is
accepted by `process_task_started`, …, and no client request hits a panic site of the job layer -/
theorem sys_no_job_panic (reserve max : Nat) (ops : List Op) (s : State) (outs : List Out) (hok : RunOk (initState reserve max) ops)
    (h : run (initState reserve max) ops = .ok (s, outs)) (op : Op) (hop : OpOk s op) (site : String) :
    step s op ≠ .error (.job site) := by
  intro he
  have := step_good (sys_coupled reserve max ops s outs hok h) op hop
  rw [he] at this
  exact this

/-- the same for whole runs: a run whose actions satisfy the side conditions never stops in the job layer -/
theorem sys_run_no_job_panic (reserve max : Nat) (ops : List Op) (hok : RunOk (initState reserve max) ops)
    (site : String) : run (initState reserve max) ops ≠ .error (.job site) := by
  intro h
  have := run_stepGood ops (coupled_initState reserve max) hok
  rw [h] at this
  exact this

/-- **the state coupling**: in every reachable state a task the core holds as Running — or as RunningMultiNode with
the `started` flag of a reserved worker set — is `running` in the job layer, and every task of the core map is
`waiting` or `running` there -/
theorem sys_started_running (reserve max : Nat) (ops : List Op) (s : State) (outs : List Out) (hok : RunOk (initState reserve max) ops)
    (h : run (initState reserve max) ops = .ok (s, outs)) (t : TaskId) (task : Core.Task) (ht : s.core.task? t = some task) :
    (∃ job, s.job.getJob t.1 = some job ∧
      (Job.lookup job.tasks t.2 = some .waiting ∨ Job.lookup job.tasks t.2 = some .running) ∧
      ((∃ w v, task.state = .running w v) → Job.lookup job.tasks t.2 = some .running) ∧
      (∀ l x wk r, task.state = .runningMN l → s.core.worker? x = some wk → wk.assign = .mn t r true →
        Job.lookup job.tasks t.2 = some .running)) := by
  have hc := (sys_coupled reserve max ops s outs hok h).c0
  have hlive := (hc.ids t).mp (Core.mem_ids_of_task? ht)
  obtain ⟨st, hst, _⟩ := live_some hlive
  obtain ⟨job, hj, hl⟩ := getJob_of_tst (js := s.job) (t := t) (by rw [hst]; rfl)
  have hstate := Core.stOf_of_find (show Core.findTask s.core.tasks t = some task from ht)
  refine ⟨job, hj, by rw [hl]; exact live_iff.mp hlive, ?_, ?_⟩
  · rintro ⟨w, v, hs⟩
    rw [hl]; exact hc.started t (.inl ⟨w, v, by rw [hstate, hs]⟩)
  · intro l x wk r hs hw ha
    rw [hl]; exact hc.started t (.inr ⟨l, by rw [hstate, hs], x, wk, r, hw, ha⟩)

/-- **`sys_cancel_final`** — after a client cancel of job `j` (in any reachable state), no task of job `j` is in the
core's task map, and every task of the job is terminal in the job layer -/
theorem sys_cancel_final (reserve max : Nat) (ops : List Op) (s : State) (outs : List Out) (hok : RunOk (initState reserve max) ops)
    (h : run (initState reserve max) ops = .ok (s, outs)) (j : Nat) (ids : List TaskId) (s' : State) (o : Out)
    (hstep : step s (.cancel j ids) = .ok (s', o)) :
    (∀ t ∈ Core.taskIds s'.core.tasks, t.1 ≠ j) ∧
    (∀ job', s'.job.getJob j = some job' → ∀ p ∈ job'.tasks, p.2.terminal = true) := by
  have hc := sys_coupled reserve max ops s outs hok h
  have hg := step_good hc (.cancel j ids) trivial
  rw [hstep] at hg
  obtain ⟨evs, resp, hj⟩ := step_cancel_job hstep
  obtain ⟨_, hk, _⟩ := cancelJob_spec hc.c0.wf hj
  constructor
  · intro t ht hjt
    have hl := (hg.c0.ids t).mp ht
    rw [hk.noLive rfl t hjt] at hl
    cases hl
  · intro job' hj'
    exact Job.cancelJob_allTerminal hj hj' hc.c0.wf

/-- … hence no later message about a task of the cancelled job makes the core call back (until the job gets new
tasks): the task is unknown to the core -/
theorem sys_cancel_no_callback (reserve max : Nat) (ops : List Op) (s : State) (outs : List Out) (hok : RunOk (initState reserve max) ops)
    (h : run (initState reserve max) ops = .ok (s, outs)) (j : Nat) (ids : List TaskId) (s' : State) (o : Out)
    (hstep : step s (.cancel j ids) = .ok (s', o)) (t : TaskId) (ht : t.1 = j) (w rv : Nat) (orv : Option Nat) :
    s'.core.taskRunning w t rv = .ok (s'.core, {}) ∧ s'.core.taskFinished w t = .ok (s'.core, {}, false) ∧
    s'.core.taskFailed (some w) t [] = .ok (s'.core, {}) ∧ s'.core.taskReject w t orv = .ok (s'.core, {}, false) := by
  apply Core.unknown_task_ignored
  have := (sys_cancel_final reserve max ops s outs hok h j ids s' o hstep).1
  cases hf : s'.core.task? t with
  | none => rfl
  | some task => exact absurd ht (this t (Core.mem_ids_of_task? hf))

/-- **`sys_max_fails`** — if a world action (in any reachable state) contains a failure of a task `t` — the core made
the callback `error t consumers` — and the job of `t` has more failed tasks than its `max_fails` limit afterwards,
then no task of that job is in the core's task map any more (`on_task_error` returned ALL remaining tasks of the job,
`C14.c14_decision`, and the core cancelled exactly those) — so none of them can be started later
(`C01.c01_core_ignores_unknown`) -/
theorem sys_max_fails (reserve max : Nat) (ops : List Op) (s : State) (outs : List Out) (hok : RunOk (initState reserve max) ops)
    (h : run (initState reserve max) ops = .ok (s, outs)) (op : Op) (hop : OpOk s op) (s' : State) (o : Out)
    (hstep : step s op = .ok (s', o)) (t : TaskId) (consumers : List TaskId)
    (hcb : Core.Cb.error t consumers ∈ o.core.cbs) (job' : Job.Job) (m : Nat)
    (hj : s'.job.getJob t.1 = some job') (hm : job'.maxFails = some m) (hex : job'.cnt.failed > m) :
    (∀ x ∈ Core.taskIds s'.core.tasks, x.1 ≠ t.1) ∧
    (∀ p ∈ job'.tasks, p.2.terminal = true) := by
  have hc := sys_coupled reserve max ops s outs hok h
  have hg := step_good hc op hop
  rw [hstep] at hg
  have hq : MaxFailsOk s'.job t.1 := by
    obtain ⟨js1, evs0, rets, evs, hr0, hr⟩ := step_route hstep
    exact route_maxfails t.1 (Job.run_wf _ hc.c0.wf hr0) hr (.inr ⟨t, consumers, hcb, rfl⟩)
  have hnl := hq ⟨m, job'.cnt.failed, by simp [jmeta, hj, hm], hex⟩
  constructor
  · intro x hx hxt
    have := (hg.c0.ids x).mp hx
    rw [hnl x hxt] at this; cases this
  · intro p hp
    have hw := Job.getJob_wf hg.c0.wf hj
    have hl : tst s'.job (t.1, p.1) = some p.2 := by
      rw [tst_of_getJob hj, Job.lookup_of_mem hw.nodup (a := p.2) hp]
    have := hnl (t.1, p.1) rfl
    rw [hl] at this
    simpa [live] using this

/-- **the job layer of a composed run is a run of M4** over the client requests and the delivered callbacks
(`runJobOps`), with the composed run's events — so every theorem about all `Job.run`s applies -/
theorem sys_job_run (reserve max : Nat) (ops : List Op) (s : State) (outs : List Out)
    (h : run (initState reserve max) ops = .ok (s, outs)) :
    Job.run {} (runJobOps ops outs) = .ok (s.job, (outs.map (·.evs)).flatten) :=
  run_job_run ops h

/-- **the core of a composed run is a run of M1** whose operations satisfy `Core.OpOk2` — so `Core.run_invF` and every
other theorem about all such `Core.run`s applies (for the default parameters; the general form is `run_core_run`) -/
theorem sys_core_run (ops : List Op) (s : State) (outs : List Out) (hok : RunOk {} ops)
    (h : run {} ops = .ok (s, outs)) :
    ∃ cops out, Core.run {} cops = .ok (s.core, out) ∧ Core.RunOk Core.OpOk2 {} cops := by
  obtain ⟨cops, out, hr, hk⟩ := run_core_run ops h
  exact ⟨cops, out, hr, hk hok⟩

/-- **C01 over composed runs** (`C01.c01_outcome_once` transferred): in the event stream of every composed run no task
has more than one outcome, the stored jobs' tasks have exactly one iff they are terminal, and every `finished` is
preceded by a `started` — with the callbacks the CORE makes, not arbitrary ones -/
theorem sys_outcome_once (reserve max : Nat) (ops : List Op) (s : State) (outs : List Out)
    (h : run (initState reserve max) ops = .ok (s, outs)) :
    (∀ t : Job.TaskId, Job.termCount t (outs.map (·.evs)).flatten ≤ 1) ∧
    (∀ job ∈ s.job.jobs, ∀ p ∈ job.tasks,
      Job.termCount (job.id, p.1) (outs.map (·.evs)).flatten = if p.2.terminal then 1 else 0) ∧
    (∀ t pre post, (outs.map (·.evs)).flatten = pre ++ [Job.Ev.finished t] ++ post →
      ∃ i ws rv, Job.Ev.started t i ws rv ∈ pre) :=
  C01.c01_outcome_once _ _ _ (sys_job_run reserve max ops s outs h)

section examples

private def stopOf {α : Type} : Except Stop α → Option Stop
  | .error e => some e
  | .ok _ => none

private def rq1 : Core.Rqv := [{ nNodes := 0, entries := [{ res := 0, pol := .amount 10000 }] }]
private def wk1 : Core.Worker := { id := 1, assign := .sn [] [40000] [], total := [40000] }
private def nt (j t : Nat) (deps : List TaskId := []) (cl : Core.CrashLimit := .max 5) : Core.NewTask :=
  { id := (j, t), rq := 0, prio := 0, crashLimit := cl, deps := deps }

/-- a graph job with `max_fails = 0`: task 0 and 2 are placed, 0 starts and fails; the consumer 1 is reported in the
`error` callback, the job layer answers with the remaining task 2, the core cancels it -/
private def opsFail : List Op := [
  .newRq rq1, .newWorker wk1,
  .submit none (some 0) (.graph [(0, []), (1, [0]), (2, [])]) [nt 1 0, nt 1 1 [(1, 0)], nt 1 2],
  .schedule { now := 10, sn := [{ rq := 0, v := 0, counts := [(1, 2)], taken := [(1, 0), (1, 2)] }] },
  .update 1 [.running (1, 0) 0] [],
  .update 1 [.failed (1, 0)] [[(1, 2)]]]

/-- the side conditions hold on this run, it does not stop, and both registries are empty afterwards -/
example : RunOk {} opsFail := by decide +kernel
example : ((run {} opsFail).toOption.map fun r => (r.1.job.sent, r.1.core.tasks.map (·.id))) = some ([], []) ∧
    ((run {} opsFail).toOption.map fun r => r.1.job.jobs.map (·.tasks)) =
      some [[(0, .failed), (1, .aborted), (2, .aborted)]] ∧
    ((run {} opsFail).toOption.map fun r => r.2.map (·.core.cbs.length)) = some [0, 1, 0, 0, 1, 1] := by decide +kernel

/-- `rets` is checked: the same run with a wrong list for the `error` callback stops with `badRets` -/
example : stopOf (run {} (opsFail.dropLast ++ [.update 1 [.failed (1, 0)] [[]]])) = some .badRets := by decide +kernel

/-- a worker is lost while two tasks run on it: both go back to `waiting` in the job layer; the never-restart task
0 fails in the crash loop (one `error` callback, with its consumer 1), task 2 stays in both registries -/
private def opsLost : List Op := [
  .newRq rq1, .newWorker wk1,
  .submit none none (.graph [(0, []), (1, [0]), (2, [])]) [nt 1 0 [] .never, nt 1 1 [(1, 0)], nt 1 2],
  .schedule { now := 10, sn := [{ rq := 0, v := 0, counts := [(1, 2)], taken := [(1, 0), (1, 2)] }] },
  .update 1 [.running (1, 0) 0, .running (1, 2) 0] [],
  .removeWorker 1 "lost" true [(1, 0), (1, 2)] [[]]]

example : RunOk {} opsLost := by decide +kernel
example : ((run {} opsLost).toOption.map fun r => (r.1.job.sent, r.1.core.tasks.map (·.id))) =
      some ([(1, 2)], [(1, 2)]) ∧
    ((run {} opsLost).toOption.map fun r => r.1.job.jobs.map (·.tasks)) =
      some [[(0, .failed), (1, .aborted), (2, .waiting)]] := by decide +kernel

/-- a cancel after one task finished: the two remaining tasks leave both registries -/
private def opsCancel : List Op := [
  .newRq rq1, .newWorker wk1,
  .submit none none (.array [⟨0, 3, 1⟩] none) [nt 1 0, nt 1 1, nt 1 2],
  .schedule { now := 10, sn := [{ rq := 0, v := 0, counts := [(1, 2)], taken := [(1, 0), (1, 1)] }] },
  .update 1 [.running (1, 0) 0, .finished (1, 0)] [],
  .cancel 1 [(1, 2), (1, 1)]]

example : RunOk {} opsCancel := by decide +kernel
example : ((run {} opsCancel).toOption.map fun r => (r.1.job.sent, r.1.core.tasks.map (·.id))) = some ([], []) ∧
    ((run {} opsCancel).toOption.map fun r => r.1.job.jobs.map (·.tasks)) =
      some [[(0, .finished), (1, .canceled), (2, .canceled)]] := by decide +kernel

/-- **the worker-protocol side condition cannot be dropped**: a `finished` message for a task that was never reported
running (the core holds it as Assigned) is accepted by the core and makes the job layer panic
(`set_finished_state`: "finished for a task that is not Running"); `FinProto` is false on that step -/
private def opsNoRunning : List Op := [
  .newRq rq1, .newWorker wk1,
  .submit none none (.array [⟨0, 1, 1⟩] none) [nt 1 0],
  .schedule { now := 10, sn := [{ rq := 0, v := 0, counts := [(1, 1)], taken := [(1, 0)] }] },
  .update 1 [.finished (1, 0)] []]

example : stopOf (run {} opsNoRunning) = some (.job "set_finished_state.invalid_state") ∧ ¬ RunOk {} opsNoRunning := by
  decide +kernel

end examples

end HqModel.Sys
