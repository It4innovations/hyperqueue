import HqModel.Lemmas.JobJournalIds
import HqModel.Props.C10Emit
/-!
# C06, restart clause — a task handed back to the core gets an instance id above every recorded one

Corollary of `C10.c10_restore_refines` (restore hands every pending task back with instance id = highest instance id
recorded in `meaning J`, plus one) and of `Emit.InstBound.fold` (`Lemmas/JobJournalInst.lean`: the instance id recorded
in `meaning J` is an upper bound of the instance id of every `TaskStarted` record of `J` for that task).

The statement over ALL records of `J` needs one more fact about the journal than `Producible`: `Producible` allows
the id of a job that was reported completed to be created again (`recordOk` of `Submit`/`JobOpen` only asks that the
id is not in use), and then the records of the old job say nothing about the new one (`c06_restart_reuse_witness`).
`NoStartBeforeCreate J` (decidable): no record creates a job id for which an earlier record reports a task start. The
server issues job ids from a counter that restarts above every id of the journal (C11), so real journals satisfy it.
-/
namespace HqModel.C06
open HqModel.Journal HqModel.Emit

/-- **c06_restart.** For every producible journal `J` in which no job id is created again after one of its tasks
started: restore succeeds, and every task `(job, t, deps, i, c)` it hands back to the core is resubmitted with an
instance id `i` STRICTLY LARGER than the instance id `k` of EVERY record `TaskStarted job t k ws` of `J` — so no
instance id of an execution that may still be alive on a worker of the previous server life is issued again. -/
theorem c06_restart (J : List Record) (hp : Producible J) (hn : NoStartBeforeCreate J) :
    ∃ R X, restore J = .ok (R, X) ∧
      ∀ job t deps i c, (job, t, deps, i, c) ∈ batchPending X.batches →
        ∀ k ws, Record.taskStarted job t k ws ∈ J → k < i := by
  obtain ⟨R, X, hr, href⟩ := HqModel.C10.c10_restore_refines J hp
  refine ⟨R, X, hr, ?_⟩
  intro job t deps i c hm k ws hrec
  rw [href.pending] at hm
  obtain ⟨aj, a, haj, ha, hid, -, hi, -⟩ := pending_task hm
  have hb := InstBound.fold job t J (A := {}) (R := fun _ => False) (seen := []) hp hn (fun _ h => h.elim)
    (fun aj ho => by simp [alGet] at ho)
  obtain ⟨-, hb2⟩ := hb aj haj k (.inr ⟨ws, hrec⟩)
  obtain ⟨i0, hi0, hk⟩ := hb2 a ha hid
  rw [hi0] at hi
  simp only at hi
  omega

/-- **c06_restart_emitted.** For the journal the job layer (M4) writes, cut at any record boundary `K`, both hypotheses
are theorems (`C10.c10_emitted_producible_prefix` under the side condition `EmitOkRun`;
`Emit.journalOf_noStartBeforeCreate` without any: job ids come from `job_id_counter`, a started task belongs to a
stored job): the conclusion of `c06_restart` holds with no assumption on the journal. -/
theorem c06_restart_emitted (uid : String) (ops : List HqModel.Job.Op) (h : EmitOkRun uid ops)
    (K : List Record) (hK : K <+: journalOf uid ops) :
    ∃ R X, restore K = .ok (R, X) ∧
      ∀ job t deps i c, (job, t, deps, i, c) ∈ batchPending X.batches →
        ∀ k ws, Record.taskStarted job t k ws ∈ K → k < i := by
  refine c06_restart K (HqModel.C10.c10_emitted_producible_prefix uid ops h K hK) ?_
  obtain ⟨M, hM⟩ := hK
  exact nsbc_prefix K M [] (hM ▸ journalOf_noStartBeforeCreate uid ops)

/-- the hypothesis cannot be dropped: a producible journal that creates job 1 again after it was completed; task
`(1, 0)` is handed back with instance id 0 although a `TaskStarted 1 0 5` is in the journal -/
def reuseJournal : List Record :=
  [.serverStart "u", .workerConnected 1 none, .submit 1 true none (.array [⟨0, 1, 1⟩] none),
   .taskStarted 1 0 5 [1], .taskFinished 1 0, .jobCompleted 1, .submit 1 true none (.array [⟨0, 1, 1⟩] none)]

theorem c06_restart_reuse_witness :
    Producible reuseJournal ∧ ¬ NoStartBeforeCreate reuseJournal ∧
    (∃ R X, restore reuseJournal = .ok (R, X) ∧ batchPending X.batches = [(1, 0, [], 0, 0)]) ∧
    Record.taskStarted 1 0 5 [1] ∈ reuseJournal :=
  ⟨by decide +kernel, by decide +kernel, ⟨_, _, rfl, rfl⟩, by decide +kernel⟩

/-- task `(1, 0)` ran as instance 0 on worker 1 (lost) and as instance 3 on worker 2 (lost): it is handed back with
instance id 4, above both; task `(1, 1)` never started: instance id 0 -/
def restartSample : List Record :=
  [.serverStart "u", .workerConnected 1 none, .workerConnected 2 none,
   .submit 1 true none (.array [⟨0, 2, 1⟩] none),
   .taskStarted 1 0 0 [1], .workerLost 1 .heartbeatLost, .taskStarted 1 0 3 [2], .workerLost 2 .stopped]

example : Producible restartSample ∧ NoStartBeforeCreate restartSample := by decide +kernel

example : ∃ R X, restore restartSample = .ok (R, X) ∧ batchPending X.batches = [(1, 0, [], 4, 1), (1, 1, [], 0, 0)] :=
  ⟨_, _, rfl, rfl⟩

end HqModel.C06
