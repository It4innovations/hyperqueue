import HqModel.Env.Model
/-!
C04, clause "the resource values it is told about are the ones it holds" — theorems about model M8
(`HqModel/Env/Model.lean`, the resource part of `build_program_task` in `worker/start/program.rs`).
-/
namespace HqModel.Env

theorem get?_set (e : Env) (k k' : Key) (v : Str) : (e.set k v).get? k' = if k' = k then some v else e.get? k' := by
  unfold Env.set Env.get?
  by_cases h : k' = k
  · subst h; simp
  · rw [if_neg h, List.find?_cons_of_neg (by simpa using fun e' : k = k' => h e'.symm)]
    congr 1
    induction e with
    | nil => rfl
    | cons x xs ih =>
      by_cases hx : x.1 = k
      · have hne : ¬ x.1 = k' := fun e' => h (e'.symm.trans hx)
        rw [List.filter_cons_of_neg (by simpa using hx), List.find?_cons_of_neg (by simpa using hne)]
        exact ih
      · rw [List.filter_cons_of_pos (by simpa using hx)]
        by_cases hx' : x.1 = k'
        · rw [List.find?_cons_of_pos (by simpa using hx'), List.find?_cons_of_pos (by simpa using hx')]
        · rw [List.find?_cons_of_neg (by simpa using hx'), List.find?_cons_of_neg (by simpa using hx')]
          exact ih

/-- `e'` arises from `e` by inserts `(k, v)` that satisfy `P`: every variable is unchanged or holds a value written
under `P`. Both directions of C04 follow the functions of the launch through this one relation. -/
def Writes (P : Key → Str → Prop) (e e' : Env) : Prop :=
  ∀ k, e'.get? k = e.get? k ∨ ∃ v, P k v ∧ e'.get? k = some v

theorem Writes.refl {P : Key → Str → Prop} (e : Env) : Writes P e e := fun _ => .inl rfl

theorem Writes.set {P : Key → Str → Prop} {e e' : Env} (h : Writes P e e') {k : Key} {v : Str} (hp : P k v) :
    Writes P e (e'.set k v) := fun k' => by
  rw [get?_set]
  by_cases hk : k' = k
  · subst hk; rw [if_pos rfl]; exact .inr ⟨v, hp, rfl⟩
  · rw [if_neg hk]; exact h k'

theorem Writes.get? {P : Key → Str → Prop} {e e' : Env} (h : Writes P e e') {k : Key} (hk : ∀ v, ¬ P k v) :
    e'.get? k = e.get? k :=
  (h k).elim id fun ⟨v, hp, _⟩ => absurd hp (hk v)

def ToldBy (held : List Held) (v : Str) : Prop := ∃ h ∈ held, h.told = some v

/-- keys whose value is a list of resource values -/
def Key.isValues : Key → Bool
  | .hqCpus | .values _ | .cuda | .rocr => true
  | _ => false

def OnlyHeld (held : List Held) (e : Env) : Prop :=
  ∀ k v, k.isValues = true → e.get? k = some v → ToldBy held v

theorem OnlyHeld.writes {held : List Held} {P : Key → Str → Prop} {e e' : Env} (ho : OnlyHeld held e)
    (h : Writes P e e') (hp : ∀ k v, P k v → k.isValues = true → ToldBy held v) : OnlyHeld held e' := by
  intro k v hk hg
  rcases h k with h | ⟨v', hp', h⟩ <;> rw [h] at hg
  · exact ho k v hk hg
  · cases hg
    exact hp k v hp' hk

/-- what the loop of `insert_resources_into_env` may write: for some told allocation `h` of `l`, its told string into a
value variable, and of the `HQ_RESOURCE_VALUES_*` only the one of `h` -/
def LoopP (l : List Held) (k : Key) (v : Str) : Prop :=
  ∃ h ∈ l, (k.isValues = true → h.told = some v) ∧ ∀ n, k = .values n → h.labels ≠ [] ∧ n = norm h.name

theorem Held.told_eq_some {h : Held} {v : Str} : h.told = some v ↔ h.labels ≠ [] ∧ v = joinLabels h.labels := by
  unfold Held.told
  cases h.labels with
  | nil => simp
  | cons a l => simp [eq_comm]

theorem insertOne_writes {l : List Held} {e0 e : Env} {h : Held} (hm : h ∈ l) (hw : Writes (LoopP l) e0 e) :
    Writes (LoopP l) e0 (insertOne e h) := by
  unfold insertOne
  cases ht : h.told with
  | none => exact hw
  | some t =>
    have hne : h.labels ≠ [] := (Held.told_eq_some.mp ht).1
    have val : ∀ (k : Key), (∀ n, k = .values n → n = norm h.name) → LoopP l k t := fun _ hk =>
      ⟨h, hm, fun _ => ht, fun n e => ⟨hne, hk n e⟩⟩
    have oth : ∀ {k : Key} {v : Str}, k.isValues = false → LoopP l k v := fun {k v} hk =>
      ⟨h, hm, fun e => (by rw [hk] at e; cases e), fun n e => (by rw [e] at hk; cases hk)⟩
    have h1 : Writes (LoopP l) e0 (stepCpus h t e) := by
      unfold stepCpus
      split
      · simp only
        split
        · exact (hw.set (val .hqCpus nofun)).set (oth rfl)
        · exact hw.set (val .hqCpus nofun)
      · exact hw
    have h2 : Writes (LoopP l) e0 (stepCuda h t (stepCpus h t e)) := by
      unfold stepCuda
      split
      · exact (h1.set (val .cuda nofun)).set (oth rfl)
      · exact h1
    have h3 : Writes (LoopP l) e0 (stepRocr h t (stepCuda h t (stepCpus h t e))) := by
      unfold stepRocr
      split
      · exact h2.set (val .rocr nofun)
      · exact h2
    exact h3.set (val _ fun n e => (Key.values.inj e).symm)

theorem foldl_writes {l : List Held} {e0 : Env} (r : List Held) (e : Env) (hs : ∀ h ∈ r, h ∈ l)
    (hw : Writes (LoopP l) e0 e) : Writes (LoopP l) e0 (r.foldl insertOne e) :=
  List.foldlRecOn r insertOne hw fun _ he h hm => insertOne_writes (hs h hm) he

/-- the program definition of the user sets no resource-value variable (the harness presets only OpenMP variables; a
user who sets `HQ_CPUS` himself is told what he wrote until the launcher overwrites it) -/
def PresetOk (i : Input) : Prop := ∀ k ∈ i.preset, k.isValues = false

instance (i : Input) : Decidable (PresetOk i) := by unfold PresetOk; infer_instance

theorem presetEnv_onlyHeld {i : Input} (hp : PresetOk i) : OnlyHeld i.held (presetEnv i) := by
  intro k v hk hg
  unfold Env.get? presetEnv at hg
  cases hf : List.find? (fun x => decide (x.1 = k)) (List.map (fun k => (k, ['P'])) i.preset) with
  | none => rw [hf] at hg; cases hg
  | some x =>
    have hm := List.mem_of_find?_eq_some hf
    have hx := List.find?_some hf
    simp only [List.mem_map] at hm
    obtain ⟨k0, hk0, rfl⟩ := hm
    simp only [decide_eq_true_eq] at hx
    subst hx
    have := hp k0 hk0
    rw [this] at hk; cases hk

theorem pinProgram_writes {i : Input} {e e' : Env} {ts : Option Str} (h : pinProgram i e = .ok (e', ts)) :
    Writes (fun k _ => k.isValues = false) e e' := by
  have r := Writes.refl (P := fun k _ => k.isValues = false) e
  unfold pinProgram at h
  split at h
  · cases h; exact r
  · split at h
    · cases h; exact r.set rfl
    · cases h
  · split at h
    · cases h
      refine Writes.set ?_ rfl
      split
      · split
        · exact r
        · exact r.set rfl
      · split
        · exact r.set rfl
        · exact (r.set rfl).set rfl
    · cases h

/-- **C04 (told ⊆ held)**, no condition on the resource names: when the user's program definition sets no resource-value
variable itself (`PresetOk`), every resource-value variable of the started process (`HQ_RESOURCE_VALUES_*`,
`HQ_CPUS`, `CUDA_VISIBLE_DEVICES`, `ROCR_VISIBLE_DEVICES`) carries the comma-joined labels of the indices of one resource
allocation the task holds. -/
theorem c04_told_only_held (i : Input) (hp : PresetOk i) {e : Env} {ts : Option Str} (h : launch i = .ok (e, ts)) :
    ∀ k v, k.isValues = true → e.get? k = some v → ∃ a ∈ i.held, a.labels ≠ [] ∧ v = joinLabels a.labels := by
  unfold launch at h
  split at h
  · cases h
  · rename_i e0 ts0 hpin
    cases h
    have nv : ∀ (k : Key) (v : Str), k.isValues = false → k.isValues = true → ToldBy i.held v :=
      fun k _ h hk => by rw [h] at hk; cases hk
    have ho := (presetEnv_onlyHeld hp).writes (pinProgram_writes hpin) nv
    have ho2 : OnlyHeld i.held (insertResources i e0) := by
      unfold insertResources
      refine OnlyHeld.writes ?_ (foldl_writes i.held _ (fun _ hx => hx) (Writes.refl _))
        fun k v ⟨h, hm, ht, _⟩ hk => ⟨h, hm, ht hk⟩
      refine ho.writes (P := fun k _ => k.isValues = false) ?_ nv
      split
      · exact (Writes.refl e0).set rfl
      · exact Writes.refl e0
    intro k v hk hg
    obtain ⟨a, ha, hta⟩ := ho2 k v hk hg
    exact ⟨a, ha, Held.told_eq_some.mp hta⟩

/-- resources that hold indices have pairwise different normalised names -/
def NamesOk (held : List Held) : Prop :=
  held.Pairwise fun a b => a.labels = [] ∨ b.labels = [] ∨ norm a.name ≠ norm b.name

instance (held : List Held) : Decidable (NamesOk held) := by unfold NamesOk; infer_instance

theorem insertOne_get_same {e : Env} {h : Held} {l : Str} (ht : h.told = some l) :
    (insertOne e h).get? (.values (norm h.name)) = some l := by
  unfold insertOne
  rw [ht]
  exact (get?_set _ _ _ _).trans (if_pos rfl)

theorem foldl_get_held : ∀ (l : List Held) (e : Env), NamesOk l → ∀ a ∈ l, a.labels ≠ [] →
    (l.foldl insertOne e).get? (.values (norm a.name)) = some (joinLabels a.labels)
  | [], _, _, a, ha, _ => by cases ha
  | h :: rest, e, hok, a, ha, hne => by
    rw [List.foldl_cons]
    unfold NamesOk at hok
    rw [List.pairwise_cons] at hok
    rcases List.mem_cons.1 ha with rfl | hin
    · -- the allocations after `a` write other variables
      rw [(foldl_writes rest _ (fun _ hx => hx) (Writes.refl _)).get? fun v ⟨x, hx, _, hn⟩ => by
        obtain ⟨hl, hnm⟩ := hn _ rfl
        rcases hok.1 x hx with h0 | h0 | h0
        · exact hne h0
        · exact hl h0
        · exact h0 hnm]
      exact insertOne_get_same (Held.told_eq_some.mpr ⟨hne, rfl⟩)
    · exact foldl_get_held rest _ hok.2 a hin hne

/-- **C04 (held ⊆ told)**: every resource allocation with indices is told to the task under its own normalised name as
exactly the comma-joined labels of the held indices, when the normalised names are distinct. -/
theorem c04_told_values (i : Input) (hn : NamesOk i.held) {e : Env} {ts : Option Str} (h : launch i = .ok (e, ts)) :
    ∀ a ∈ i.held, a.labels ≠ [] → e.get? (.values (norm a.name)) = some (joinLabels a.labels) := by
  unfold launch at h
  split at h
  · cases h
  · cases h
    intro a ha hne
    unfold insertResources
    exact foldl_get_held _ _ hn a ha hne

/-- `NamesOk` cannot be dropped: two resources whose names differ only in a special character share one variable, the later
allocation overwrites the earlier one (the real `Map::insert` does the same). -/
private def collInput : Input :=
  { held := [⟨0, ['c', 'p', 'u', 's'], [['0']], 1, 0⟩, ⟨1, ['a', '.', 'b'], [['7']], 1, 0⟩, ⟨2, ['a', '-', 'b'], [['9']], 1, 0⟩],
    pin := .none, nVariants := 1, variant := 0, preset := [] }

theorem c04_told_collision_witness :
    ¬ NamesOk collInput.held ∧ getOk? (launch collInput) (.values (norm ['a', '.', 'b'])) = some ['9'] := by
  decide

/-- **C04 (pinning)**: the CPU list handed to `taskset` is the told string of the CPU allocation (resource id 0), i.e. the
labels of the CPU indices the task holds; a task that holds no CPU index cannot be pinned — the launch fails. -/
theorem c04_told_taskset (i : Input) (hp : i.pin = .taskset) :
    (∀ e ts, launch i = .ok (e, ts) → ∃ c ∈ i.held, c.rid = 0 ∧ c.labels ≠ [] ∧ ts = some (joinLabels c.labels)) ∧
    (cpuList i.held = none → ∃ m, launch i = .error m) := by
  constructor
  · intro e ts h
    unfold launch pinProgram at h
    rw [hp] at h
    simp only at h
    cases hc : cpuList i.held with
    | none => rw [hc] at h; cases h
    | some l =>
      rw [hc] at h
      cases h
      unfold cpuList at hc
      cases hf : i.held.find? (·.rid = 0) with
      | none => rw [hf] at hc; cases hc
      | some c =>
        rw [hf] at hc
        simp only [Option.bind] at hc
        have hm := List.mem_of_find?_eq_some hf
        have hr := List.find?_some hf
        exact ⟨c, hm, by simpa using hr, (Held.told_eq_some.mp hc).imp_right (congrArg some)⟩
  · intro hc
    unfold launch pinProgram
    rw [hp, hc]
    exact ⟨_, rfl⟩

def splitC : List Char → List (List Char)
  | [] => [[]]
  | c :: cs =>
    if c = ',' then [] :: splitC cs
    else match splitC cs with
      | [] => [[c]]
      | l :: ls => (c :: l) :: ls

theorem splitC_single : ∀ (l : List Char), ',' ∉ l → splitC l = [l]
  | [], _ => rfl
  | c :: cs, h => by
    have hc : c ≠ ',' := fun e => h (e ▸ List.mem_cons_self)
    have ih := splitC_single cs (fun hm => h (List.mem_cons_of_mem _ hm))
    simp [splitC, hc, ih]

theorem splitC_append : ∀ (l rest : List Char), ',' ∉ l → splitC (l ++ ',' :: rest) = l :: splitC rest
  | [], rest, _ => by simp [splitC]
  | c :: cs, rest, h => by
    have hc : c ≠ ',' := fun e => h (e ▸ List.mem_cons_self)
    have ih := splitC_append cs rest (fun hm => h (List.mem_cons_of_mem _ hm))
    simp [splitC, hc, ih]

theorem splitC_joinC : ∀ (ls : List (List Char)), ls ≠ [] → (∀ l ∈ ls, ',' ∉ l) → splitC (joinC ls) = ls
  | [], h, _ => absurd rfl h
  | [l], _, hc => by simpa [joinC] using splitC_single l (hc l List.mem_cons_self)
  | l :: l2 :: rest, _, hc => by
    have ih := splitC_joinC (l2 :: rest) (List.cons_ne_nil _ _) (fun x hx => hc x (List.mem_cons_of_mem _ hx))
    have hj : joinC (l :: l2 :: rest) = l ++ ',' :: joinC (l2 :: rest) := rfl
    rw [hj, splitC_append _ _ (hc l List.mem_cons_self), ih]

/-- **C04 (the told string is unambiguous)**: splitting the told string at commas gives back exactly the labels of the held
indices, in order, when no label contains a comma. -/
theorem c04_labels_roundtrip (a : Held) (hne : a.labels ≠ []) (hc : ∀ l ∈ a.labels, ',' ∉ l) :
    splitC (joinLabels a.labels) = a.labels :=
  splitC_joinC _ hne hc

private def exInput : Input :=
  { held := [⟨0, ['c', 'p', 'u', 's'], [['0'], ['3']], 2, 0⟩,
             ⟨1, ['g', 'p', 'u', 's', '/', 'n', 'v', 'i', 'd', 'i', 'a'], [['G', '-', 'a']], 0, 5000⟩,
             ⟨2, ['m', 'e', 'm'], [], 100, 0⟩],
    pin := .taskset, nVariants := 2, variant := 1, preset := [.ompPlaces] }

example : PresetOk exInput ∧ NamesOk exInput.held := by decide

example : tsOk? (launch exInput) = some ['0', ',', '3'] ∧ getOk? (launch exInput) .hqCpus = some ['0', ',', '3'] ∧
    getOk? (launch exInput) .cuda = some ['G', '-', 'a'] ∧
    getOk? (launch exInput) (.values ['g', 'p', 'u', 's', '_', 'n', 'v', 'i', 'd', 'i', 'a']) = some ['G', '-', 'a'] ∧
    getOk? (launch exInput) (.values ['m', 'e', 'm']) = none ∧ getOk? (launch exInput) .ompNum = some ['2'] ∧
    getOk? (launch exInput) .variant = some ['1'] ∧ getOk? (launch exInput) .ompPlaces = some ['P'] := by decide

/-- a task that holds no CPU index cannot be pinned -/
example : failed (launch { exInput with held := exInput.held.drop 1 }) = true := by decide

example : splitC (joinLabels [['0'], ['3'], ['x', '1']]) = [['0'], ['3'], ['x', '1']] := by decide

end HqModel.Env
