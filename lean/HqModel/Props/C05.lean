import HqModel.Lemmas.CoreSteps
import HqModel.Lemmas.CoreInvFull
import HqModel.Lemmas.OkAnd
/-!
# C05 — the server never overbooks and only places where a task can run

Proved here (M1, all states and inputs): reservations are exact and reversible — when a request fits into the
free vector of a worker, `WorkerResources::remove` subtracts exactly the requested amounts (no saturation) and
`add` of the same request restores every component. The global invariant `ResInv` (free + Σ reserved = total for
every single-node worker) is preserved by every operation under the decidable side conditions listed below
(`c05_inv_partial`), hence holds in every state reached by a run that satisfies them (`c05_resinv_reachable`); it
is also evaluated on every state of every real trace by the monitor `c05.resinv` (harness, from the core
snapshot). The multi-node clauses are monitored (`c05.mn`).
-/
namespace HqModel.C05
open HqModel.Core

/-- **Exact, non-saturating reservation**: if every requested amount fits, `remove` yields a vector in which
each requested resource is reduced by exactly the requested amount and all others are unchanged. -/
theorem c05_reserve_exact (es : List RqEntry) (free : List Nat) (h : Fits free es) :
    ∃ free', freeRemove free es = .ok free' ∧ free'.length = free.length ∧
      (∀ r, (∀ e ∈ es, e.res ≠ r) → getD free' r = getD free r) ∧
      (∀ e ∈ es, ∀ a, e.pol = .amount a → getD free' e.res + a = getD free e.res) := by
  obtain ⟨f1, hok, hlen⟩ := NP.freeRemove_ok es free fun e he => (h.idx e he).1
  have hn := freeRemove_need [] es free f1 hok (h.noSat [])
  refine ⟨f1, hok, hlen, fun r hr => ?_, fun e he a ha => ?_⟩
  · have := hn r; rwa [need_of_not_mem [] hr] at this
  · have := hn e.res; rwa [h.need [] e he a ha] at this

/-- **Release restores the reservation**: `add` after `remove` of a fitting request gives back the original
free amounts, component by component. -/
theorem c05_release_restores (total : List Nat) (es : List RqEntry) (free : List Nat) (h : Fits free es)
    (hnd : (es.map (·.res)).Nodup) :
    ∃ f1 f2, freeRemove free es = .ok f1 ∧ freeAdd f1 total es = .ok f2 ∧ ∀ r, getD f2 r = getD free r := by
  obtain ⟨f1, h1, hl⟩ := NP.freeRemove_ok es free fun e he => (h.idx e he).1
  obtain ⟨f2, h2, _⟩ := NP.freeAdd_ok total es f1 fun e he => hl ▸ (h.idx e he).1
  exact ⟨f1, f2, h1, h2, freeAdd_freeRemove total h1 (h.noSat total)
    (fun e he hp => by obtain ⟨_, a, ha⟩ := h.idx e he; rw [ha] at hp; cases hp) h2⟩

/-- non-vacuity: 2 of 4 cpus and 1 of 2 gpus fit and are restored -/
example : Fits [40000, 20000] [⟨0, .amount 20000⟩, ⟨1, .amount 10000⟩] := by
  refine ⟨by decide, ⟨20000, rfl, by decide⟩, by decide, ⟨by decide, ⟨10000, rfl, by decide⟩, by decide, trivial⟩⟩

/-! ## The global invariant

`Core.C05Full s` = `Core.C05Inv s ∧ Core.TWI noD s`, i.e.
* the structural invariant `Core.Inv` — task ids unique; **list → state**: every id in `assigned_tasks` /
  `prefilled_tasks` / a multi-node assignment of a worker is a task in the matching state (Assigned/Running there,
  or Retracting with a redirect to that worker); redirects only for Retracting tasks, at most one per task; the
  sets have no duplicates; registered consumers of a task in the map are Waiting; RunningMultiNode ⇒ multi-node
  request;
* **state → list** (`Core.TW3`, `Core.MNU`): a task Assigned/Running/Prefilled on `w` is in the corresponding set of
  worker `w`; every worker of a RunningMultiNode task is in a multi-node assignment for it; every redirect target
  holds the task;
* the resource equation `Core.Res`; every request names each resource once (`Core.RqsOk`).

`c05_inv_partial` is *partial* in exactly these points (all side conditions are decidable and stated on the
pre-state of the step / of the message):
* `NoSaturation` — a Running/RunningPrefilled for a Prefilled or Retracting task must fit into the reporting
  worker's free vector. The protocol does NOT guarantee this (finding F29, `c05_f29_witness`).
* `StepHyp4`, update part (`RejectOk`) — a Reject of an Assigned task comes from its worker and variant; otherwise
  `task_reject` re-queues the task without `remove_sn_task` (`c05_reject_witness`). A correct worker obeys it.
* `StepHyp4`, schedule part — `QueueOkD` (every id in ready/prefill queue `i` that is a task of the map has request
  `i`, and no task of the map lists it as a consumer): the queue/dependency clause of the repo's
  `TaskQueues/Core::sanity_check`, a hypothesis in this file (evaluated on every real snapshot by the driver);
  `Props/C05Queue.lean` proves it of
  every state reached by a run that submits no task id twice (`c05_queue_redundant`). And `SolMnOk` (multi-node
  placements only for multi-node requests). Placement feasibility itself needs no hypothesis: the model rejects an
  overbooking placement (`!bad-choice placement-overbooks`). The redirect-target clause `RdIn` is part of the
  invariant (no hypothesis).
* `newWorker` carries a fresh record, `newRq` a request without repeated resource indices (what `Worker::new` /
  `ResourceRequest::validate` guarantee).
-/

/-- **`ResInv` is inductive**: the invariant (structure in both directions + `free + Σ reserved = total`) is
preserved by EVERY operation of the core — new worker, worker loss, new request, new tasks, cancel, every
task-update message list, retract response, one scheduling round with an arbitrary solver solution and arbitrary
hash-order picks — under the side conditions `StepHyp4` and `NoSaturation`. -/
theorem c05_inv_partial (s s' : Core.State) (op : Core.Op) (out : Core.Out) (hi : Core.C05Full s)
    (hstep : Core.StepHyp4 s op) (hns : Core.NoSaturation s op) (h : Core.step s op = .ok (s', out)) :
    Core.C05Full s' :=
  Core.c05_step_full hi hstep hns h

/-- **the server never overbooks**, for all operation sequences: in every state reached from the empty core by a
run whose operations satisfy the side conditions, for every single-node worker and every resource index `r`:
`free r + Σ_{t ∈ assigned_tasks} need(t) r = total r` — exact, no truncation, `Policy.all` counted as the whole
`total r`; `need t` = the entries of variant `v` of the task's request, `v` from the state (Assigned/Running) or
from the redirect (Retracting) (`Core.reserved_assigned`, `Core.reserved_retracting`). -/
theorem c05_resinv_reachable (ops : List Core.Op) (s : Core.State) (out : Core.Out)
    (hok : Core.RunOk Core.OpOk4 {} ops) (hrun : Core.run {} ops = .ok (s, out))
    (w : Nat) (wk : Core.Worker) (A : List Core.TaskId) (F : List Nat) (P : List Core.TaskId)
    (hw : s.worker? w = some wk) (ha : wk.assign = .sn A F P) (r : Nat) :
    Core.getD F r + (A.map fun t => Core.need wk.total (s.reserved t) r).sum = Core.getD wk.total r :=
  (Core.c05_run_full hok hrun).c05.resinv hw ha r

/-- in particular no component of the free vector exceeds the worker's total -/
theorem c05_free_le_total (ops : List Core.Op) (s : Core.State) (out : Core.Out)
    (hok : Core.RunOk Core.OpOk4 {} ops) (hrun : Core.run {} ops = .ok (s, out))
    (w : Nat) (wk : Core.Worker) (A : List Core.TaskId) (F : List Nat) (P : List Core.TaskId)
    (hw : s.worker? w = some wk) (ha : wk.assign = .sn A F P) (r : Nat) : Core.getD F r ≤ Core.getD wk.total r := by
  have := c05_resinv_reachable ops s out hok hrun w wk A F P hw ha r
  omega

/-- **the worker ↔ task half of the sanity checks holds in every reachable state** (both directions), for all
operation sequences satisfying the protocol/sanity side conditions `OpOk2` (no saturation condition needed):
list → state for the assigned set, the prefilled set and the multi-node assignment, the same three state → list, and
the redirects in both directions. -/
theorem c05_worker_task_wf (ops : List Core.Op) (s : Core.State) (out : Core.Out)
    (hok : Core.RunOk Core.OpOk2 {} ops) (hrun : Core.run {} ops = .ok (s, out)) :
    (∀ w wk A F P t, s.worker? w = some wk → wk.assign = .sn A F P → t ∈ A →
      ∃ task, s.task? t = some task ∧ ((∃ v, task.state = .assigned w v) ∨ (∃ v, task.state = .running w v) ∨
        (∃ w0 v, task.state = .retracting w0 ∧ (t, w, v) ∈ s.redirects))) ∧
    (∀ w wk A F P t, s.worker? w = some wk → wk.assign = .sn A F P → t ∈ P →
      ∃ task, s.task? t = some task ∧ task.state = .prefilled w) ∧
    (∀ w wk t root st, s.worker? w = some wk → wk.assign = .mn t root st →
      ∃ task l, s.task? t = some task ∧ task.state = .runningMN l ∧ w ∈ l) ∧
    (∀ t task w v, s.task? t = some task → (task.state = .assigned w v ∨ task.state = .running w v) →
      ∃ wk A F P, s.worker? w = some wk ∧ wk.assign = .sn A F P ∧ t ∈ A) ∧
    (∀ t task w, s.task? t = some task → task.state = .prefilled w →
      ∃ wk A F P, s.worker? w = some wk ∧ wk.assign = .sn A F P ∧ t ∈ P) ∧
    (∀ t task l x, s.task? t = some task → task.state = .runningMN l → x ∈ l →
      ∃ wk root st, s.worker? x = some wk ∧ wk.assign = .mn t root st) ∧
    (∀ t w v, (t, w, v) ∈ s.redirects → (∃ task w0, s.task? t = some task ∧ task.state = .retracting w0) ∧
      t ∈ Core.asgW s.workers w ∧ ∀ w' v', (t, w', v') ∈ s.redirects → w' = w ∧ v' = v) := by
  have hF := Core.run_invF hok hrun
  refine ⟨?_, ?_, ?_, ?_, ?_, ?_, ?_⟩
  · intro w wk A F P t hw ha ht; exact hF.inv.assigned_sound hw ha ht
  · intro w wk A F P t hw ha ht; exact hF.inv.prefilled_sound hw ha ht
  · intro w wk t root st hw ha; exact hF.inv.mn_sound hw ha
  · intro t task w v ht hs; exact hF.assigned_complete ht hs
  · intro t task w ht hs; exact hF.prefilled_complete ht hs
  · intro t task l x ht hs hx; exact hF.mn_complete ht hs hx
  · intro t w v hm
    obtain ⟨h1, h2⟩ := hF.inv.redirect_sound hm
    exact ⟨h1, hF.redirect_complete t w v hm, h2⟩

/-- **F29 — `NoSaturation` cannot be dropped**: a concrete run satisfying all side conditions (hence ending in a
state with `C05Full`) followed by one `RunningPrefilled` message for which `NoSaturation` fails; the reactor accepts
it, `task_from_prefilled_to_started` saturates and afterwards `free + Σ reserved ≠ total` on worker 1 (resource 0:
`0 + 2·10000 ≠ 10000`). Scenario: a running task is cancelled while the worker has a prefilled backlog task; the
server releases the reservation at once and assigns another task; the worker reuses the allocation for the
backlog task. -/
theorem c05_f29_witness :
    ∃ s s' out out', Core.RunOk Core.OpOk4 {} Core.f29Ops ∧ Core.run {} Core.f29Ops = .ok (s, out) ∧ Core.C05Full s ∧
      ¬ Core.NoSaturation s Core.f29Op ∧ Core.StepHyp4 s Core.f29Op ∧
      Core.step s Core.f29Op = .ok (s', out') ∧ Core.resAtB s' 1 0 = false ∧ ¬ Core.C05Full s' := by
  -- one evaluation: the side conditions along the run, the run, the message, the equation after it
  have hok : Core.RunOk Core.OpOk4 {} Core.f29Ops := by decide +kernel
  obtain ⟨⟨s, out⟩, hrun, hev⟩ := Run.of_okAnd (x := Core.run {} Core.f29Ops) (c := fun r =>
    Run.okAnd (Core.step r.1 Core.f29Op) fun r' => decide (Core.StepHyp4 r.1 Core.f29Op) && !Core.resAtB r'.1 1 0)
    (by decide +kernel)
  obtain ⟨⟨s', out'⟩, hstep, hd⟩ := Run.of_okAnd hev
  obtain ⟨hsh, hbad⟩ : Core.StepHyp4 s Core.f29Op ∧ Core.resAtB s' 1 0 = false := by simpa using hd
  have hi := Core.c05_run_full hok hrun
  have hni : ¬ Core.C05Full s' := fun hi' => by
    have := hi'.c05.ir.res.resAtB 1 0
    rw [hbad] at this
    cases this
  -- the message violates its side condition: otherwise the invariant would survive it
  exact ⟨s, s', out, out', hok, hrun, hi, fun hns => hni (Core.c05_step_full hi hsh hns hstep), hsh, hstep, hbad, hni⟩

/-- **the Reject protocol condition cannot be dropped**: after a run satisfying all side conditions a Reject from
a worker the task is not assigned to is accepted, the task becomes Waiting and stays in `assigned_tasks` of its
worker: the structural invariant is broken. -/
theorem c05_reject_witness :
    ∃ s s' out out', Core.RunOk Core.OpOk2 {} Core.rejectWitnessOps ∧ Core.run {} Core.rejectWitnessOps = .ok (s, out) ∧
      Core.Inv s ∧ ¬ Core.OpOk2 s Core.rejectWitnessOp ∧ Core.step s Core.rejectWitnessOp = .ok (s', out') ∧
      ¬ Core.Inv s' :=
  Core.reject_breaks_inv

/-- non-vacuity: the run of `c05_f29_witness` satisfies all side conditions, reaches a state in which worker 1
holds a task and has nothing free — and the equation `0 + 10000 = 10000` is the theorem's instance -/
example : Core.RunOk Core.OpOk4 {} Core.f29Ops ∧
    ((Core.run {} Core.f29Ops).toOption.map fun r => r.1.workers.map fun w => (Core.wAsg w, Core.wPre w, w.total)) =
      some [([(1, 2)], [(1, 1)], [10000])] := by decide

end HqModel.C05
