import HqModel.Rpc.Model
/-!
C09 / C02 / C07, connection-level clauses — theorems about model M9 (`HqModel/Rpc/Model.lean`): a decision table, stated outright.
The table is tied to the real `worker_rpc_loop` by component `rpc` (real tako server over TCP, hand-made workers).
-/
namespace HqModel.Rpc

/-- **C09 (connection end)**: however the connection of a registered worker ends, the loss is announced, the worker is
removed from the server, and the server keeps serving (a later submit and scheduling round do not bring it down). -/
theorem c09_conn_end_removes (k : EndKind) (pre other : Bool) :
    (connEnd k pre other).lost.isSome = true ∧ (connEnd k pre other).removed = true ∧ (connEnd k pre other).alive = true := by
  cases k <;> simp [connEnd]

/-- **C02 (connection end)**: a task that was assigned to the lost worker is sent to another capable worker. -/
theorem c09_conn_end_resends (k : EndKind) : (connEnd k true true).resent = some true := by
  cases k <;> rfl

/-- **C07 (connection end)**: exactly the ends that are not an orderly shutdown — close, read error, undecodable frame,
interrupt, silence — are failure losses; a worker that announces its idle timeout or its time limit is not charged. -/
theorem c07_conn_end_failure (k : EndKind) :
    (reasonOf k).isFailure = true ↔ k ≠ .stopIdle ∧ k ≠ .stopTime := by
  cases k <;> simp [reasonOf, Reason.isFailure]

/-- the table is not constant: all four announced reasons occur -/
example : reasonOf .eof = .connectionLost ∧ reasonOf .silent = .heartbeatLost ∧ reasonOf .stopIdle = .idleTimeout ∧
    reasonOf .stopTime = .timeLimitReached := by decide

end HqModel.Rpc
