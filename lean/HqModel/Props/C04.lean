import HqModel.Props.C04Env
import HqModel.Props.WorkerSide
import HqModel.Alloc.Run
import HqModel.Lemmas.AllocInv
import HqModel.Lemmas.AllocExact
import HqModel.Lemmas.AllocBridge
/-!
# C04 — worker resources are exclusive and conserved

Model: `HqModel.Alloc` (M3). Every theorem quantifies over all descriptors, all requests, all operation sequences
(`Reach`) and all choices the model accepts (group sets returned by the solver, hash-order dependent fraction picks).
-/
namespace HqModel.C04
open HqModel.Alloc

/-- **c04_inv.** `Conserve` (`Inv`) holds in the state `ResourceAllocator::new` builds and is preserved by every
operation (`is_enabled`, `try_allocate` with every allowed choice, `release_allocation` of a live allocation):
for every resource `rid`, group `gid` and index `i`

  free amount of `i` + Σ over live allocations of what they hold of `i`  =  one unit (if `i` belongs to the group)

and for sum pools `free + Σ live amounts = size`; free lists are duplicate free and disjoint from the partially
free indices. -/
theorem c04_inv {d : Descriptor} {s₀ s : State} (hinit : State.init d = some s₀) (hreach : Reach s₀ s) :
    Inv (univOf s₀.pools) s := by
  refine hreach.rec_ops (init_inv hinit) isEnabled_inv tryAllocate_inv (fun {s s' h} ih hr => ?_)
  obtain ⟨al, concise, pools, hg, -, hrel, rfl⟩ := release_some hr
  obtain ⟨pools', hrel', -, -, hinv'⟩ := releasePools_live ih hg
  obtain rfl : pools' = pools := Except.ok.inj (hrel'.symm.trans hrel)
  exact hinv' concise

/-- **No index is ever held beyond 100 %, sums never exceed the size** (consequence of `c04_inv`). -/
theorem c04_exclusive {d : Descriptor} {s₀ s : State} (hinit : State.init d = some s₀) (hreach : Reach s₀ s) :
    (∀ rid gid i, heldBy (heldOf s.live rid) gid i ≤ FPU) ∧
      (∀ rid full free, s.pools[rid]? = some (.sum full free) → heldAmount s.live rid ≤ full) := by
  have hinv := c04_inv hinit hreach
  refine ⟨fun rid gid i => ?_, fun rid full free hp => ?_⟩
  · rcases Nat.eq_zero_or_pos (heldBy (heldOf s.live rid) gid i) with h0 | hpos
    · omega
    · have hnd : (univOf s₀.pools rid gid).Nodup := by
        cases hp : s.pools[rid]? with
        | none => rw [hinv.heldOf_nil hp] at hpos; simp at hpos
        | some p => exact (hinv.pools.pool rid p hp).univ gid
      exact ((hinv.heldBound rid).mem_le hnd hpos).2
  · have := hinv.pools.sum rid full free hp
    omega

/-- **c04_release.** In every reachable state (a) `release_allocation` of any live allocation never stops (no failing
`unwrap`, `assert!`, index), and (b) a grant followed by the release of that grant restores the free state: the same
allocations are live and, for every resource, every group and every index, the free amount (`freeAmt`: one unit if
the index is in the free list, else its free fraction — an absent map entry counts as 0) is what it was, and sum
pools have their free amount back. -/
theorem c04_release {d : Descriptor} {s₀ s : State} (hinit : State.init d = some s₀) (hns : NoSingletonGroups s₀)
    (hreach : Reach s₀ s) :
    (∀ h al, liveGet s.live h = some al → ∃ s', release s h = some (.ok s')) ∧
    (∀ h rq ch al s₁, tryAllocate s h rq ch = .ok (some al, s₁) →
      ∃ s₂, release s₁ h = some (.ok s₂) ∧ s₂.live = s.live ∧
        ∀ (rid : Nat) (p p₂ : Pool), s.pools[rid]? = some p → s₂.pools[rid]? = some p₂ →
          (∀ gid i, freeAmt p₂.groupsOf gid i = freeAmt p.groupsOf gid i) ∧ p₂.tag = p.tag ∧
            p₂.sumFree = p.sumFree) := by
  have hinv := reach_inv2 hinit hns hreach
  obtain ⟨-, hU⟩ := init_inv2 hinit hns
  refine ⟨fun h al hg => ?_, fun h rq ch al s₁ halloc => ?_⟩
  · obtain ⟨s', hr, -⟩ := release_inv2 hinv hU hg
    exact ⟨s', hr⟩
  · have hinv₁ := tryAllocate_inv2 hinv hU halloc
    obtain ⟨-, hkinds₁⟩ := tryAllocate_exact halloc
    have hlive₁ : s₁.live = (h, al) :: s.live := by
      obtain ⟨_, _, _, _, -, -, -, rfl⟩ := tryAllocate_some halloc
      rfl
    have hg₁ : liveGet s₁.live h = some al := by rw [hlive₁]; simp [liveGet]
    obtain ⟨s₂, hr, hinv₂⟩ := release_inv2 hinv₁ hU hg₁
    obtain ⟨al', concise₂, pools₂, hg', -, hrp, hs₂⟩ := release_some hr
    have hlive : s₂.live = s.live := by rw [hs₂, hlive₁]; simp [liveErase]
    obtain ⟨pools', hrp', hkinds₂, -, -⟩ := releasePools_live hinv₁.inv hg'
    obtain rfl : pools' = s₂.pools := by rw [hs₂]; exact Except.ok.inj (hrp'.symm.trans hrp)
    refine ⟨s₂, hr, hlive, fun rid p p₂ hp hp₂ => ?_⟩
    obtain ⟨t, f, -⟩ := (hkinds₁.trans hkinds₂).2 rid p p₂ hp hp₂
    have c := (hinv.inv.pools.pool rid p hp).conserve
    have c₂ := (hinv₂.inv.pools.pool rid p₂ hp₂).conserve
    rw [hlive] at c₂
    refine ⟨fun gid i => by have := c gid i; have := c₂ gid i; omega, t, ?_⟩
    by_cases h3 : p.tag = 3
    · have e := hinv.inv.sum_free hp h3
      have e₂ := hinv₂.inv.sum_free hp₂ (t.trans h3)
      rw [hlive, f] at e₂
      omega
    · rw [sumFree_of_tag h3, sumFree_of_tag (by rw [t]; exact h3)]

/-- **c04_concise.** In every reachable state `ConciseFreeResources` equals `summary pools`
(`ResourcePool::concise_state`) for every resource: same number of groups, same units per group and the same free
fraction for every index, where an absent map entry counts as 0 (`CEquiv` = equality after `strip_zeros`, the
relation `ResourceAllocator::validate()` asserts in debug builds only). -/
theorem c04_concise {d : Descriptor} {s₀ s : State} (hinit : State.init d = some s₀) (hns : NoSingletonGroups s₀)
    (hreach : Reach s₀ s) :
    s.concise.length = s.pools.length ∧
      ∀ (rid : Nat) (p : Pool) (c : CState), s.pools[rid]? = some p → s.concise[rid]? = some c →
        CEquiv c p.conciseState := by
  have hinv := reach_inv2 hinit hns hreach
  exact ⟨hinv.concise.len, fun rid p c hp hc => concise_eq_summary hinv rid p c hp hc⟩

/-- **c04_exact.** A successful `tryAllocate rq` (any state, any allowed choices) returns only resource allocations
that answer an entry of the request exactly: same resource id, `amount` = the requested amount (`all` ⇒ the full size
of the pool), and

* sum pool: no indices;
* index pool (list / range), and grouped pool with any policy except `all`: `amount / FPU` whole indices first,
  followed — iff `amount % FPU ≠ 0` — by exactly one entry holding `amount % FPU` (`Shape`);
* grouped pool, `all`: only whole indices (that these are *all* indices of the resource is `c16_all`).

The pool kinds and sizes never change (`SameKinds`). -/
theorem c04_exact {s s' : State} {h : Nat} {rq : Request} {ch : Choices} {al : Allocation}
    (hstep : tryAllocate s h rq ch = .ok (some al, s')) :
    (∀ ra ∈ al, ∃ e ∈ rq, ∃ p, s.pools[e.rid]? = some p ∧ ExactFor p.tag p.fullSize e ra) ∧
      SameKinds s.pools s'.pools :=
  tryAllocate_exact hstep

/-! Non-vacuity: a concrete descriptor (4 cpus in 2 groups, a list resource, a fractional sum resource) and a
reachable state with two live allocations, one of them holding a fraction of an index. -/

def exDesc : Descriptor :=
  { items := [(0, .groups [2, 2]), (1, .list 3), (2, .sum 25000)], couplings := [] }

def exRq₁ : Request := [⟨1, .compact, 15000⟩, ⟨2, .compact, 5000⟩]
def exRq₂ : Request := [⟨0, .scatter, 20000⟩, ⟨1, .tight, 2500⟩]

def exS₀ : State := (State.init exDesc).get (by decide)

def exS : State :=
  (runOps exS₀ [.alloc 0 exRq₁ ⟨[], []⟩, .alloc 1 exRq₂ ⟨[], [(1, 1)]⟩]).get (by decide)

theorem exS₀_init : State.init exDesc = some exS₀ := by simp [exS₀]

theorem exS_reach : Reach exS₀ exS := reach_of_runOps Reach.init (Option.some_get _).symm

/-- the hypotheses of `c04_inv` / `c04_exclusive` are satisfied by a non-trivial reachable state -/
example : State.init exDesc = some exS₀ ∧ Reach exS₀ exS ∧ exS.live.length = 2 ∧
    heldBy (heldOf exS.live 1) 0 1 = 7500 ∧ heldAmount exS.live 2 = 5000 :=
  ⟨exS₀_init, exS_reach, by decide, by decide, by decide⟩

/-- the side condition holds for the example and its reachable state has live allocations (non-vacuity of
`c04_release`, `c04_concise`) -/
example : NoSingletonGroups exS₀ ∧ (liveGet exS.live 1).isSome :=
  ⟨.of_all (by decide), by decide⟩

/-- `c04_exact` is not vacuous: the second grant of the example exists and contains a fractional entry -/
example : ∃ al s', tryAllocate
    ((runOps exS₀ [.alloc 0 exRq₁ ⟨[], []⟩]).get (by decide)) 1 exRq₂ ⟨[], [(1, 1)]⟩ = .ok (some al, s') ∧
    al.length = 2 :=
  ⟨_, _, rfl, by decide⟩

end HqModel.C04
