import HqModel.Props.SysW
import HqModel.Props.WorkerSide
import HqModel.Lemmas.JobSteps
import HqModel.Lemmas.CoreSteps
import HqModel.Lemmas.CoreInvIds
/-!
# C08 — cancel is final

Job layer (M4): after the cancel is answered every task of the job is terminal and a repeated cancel changes
nothing; a terminal task never changes again (`C01.c01_terminal_is_final`). Core (M1): a cancelled task is
removed from the task map in the same step (`c08_core_forgets`), every later message about it is ignored
(`C01.c01_core_ignores_unknown`). Worker: `HqModel.WorkerSide.c08_worker`. For the composed models the statement is
`Sys.sys_cancel_final` / `sys_cancel_no_callback` (`Props/Sys.lean`) and `SysW.sysw_cancel_final` / `sysw_c08_cancel_sent`
(`Props/SysW.lean`); on real cluster traces it is monitored (`c08.*`).
-/
namespace HqModel.C08
open HqModel

/-- **All tasks terminal after the answer**, in every well-formed state. -/
theorem c08_all_terminal (s s' : Job.State) (j : Nat) (evs : List Job.Ev) (r : Job.CancelResp) (job' : Job.Job)
    (h : s.cancelJob j = .ok (s', evs, r)) (hj : s'.getJob j = some job') (hs : Job.StateWF s) :
    job'.allTerminal :=
  Job.cancelJob_allTerminal h hj hs

/-- **Repeating the cancel changes nothing** and answers `Canceled([], n)`. -/
theorem c08_idempotent (s : Job.State) (j : Nat) (job : Job.Job) (hj : s.getJob j = some job)
    (hall : job.allTerminal) : s.cancelJob j = .ok (s, [], .canceled [] job.nTasks) :=
  Job.cancelJob_idempotent hj hall

/-- **Other jobs are unaffected** by the job-layer part of a cancel: only the job with id `j` is replaced. -/
theorem c08_other_jobs (s s' : Job.State) (j : Nat) (evs : List Job.Ev) (r : Job.CancelResp)
    (h : s.cancelJob j = .ok (s', evs, r)) :
    s'.jobs.map (·.id) = s.jobs.map (·.id) ∧ ∀ x ∈ s'.jobs, x.id ≠ j → x ∈ s.jobs := by
  rcases Job.cancelJob_eq_ok h with ⟨-, rfl, -⟩ | ⟨_, -, -, rfl, -⟩ | ⟨job, job', hjob, -, hc, rfl, -⟩
  · exact ⟨rfl, fun x hx _ => hx⟩
  · exact ⟨rfl, fun x hx _ => hx⟩
  · refine ⟨Job.replaceJob_ids _ _, fun x hx hne => (Job.mem_replaceJob hx).resolve_left fun e => hne ?_⟩
    rw [e, Job.setCancel_id hc]
    exact Job.getJob_id hjob

/-- **The core forgets a cancelled task in the same step** (so nothing can be reported for it later). -/
theorem c08_core_forgets (s s' : Core.State) (id : Core.TaskId) (st : Core.TS)
    (hnd : (Core.taskIds s.tasks).Nodup) (h : s.removeTask id = .ok (s', st)) : s'.task? id = none :=
  Core.removeTask_unknown hnd h

/-- non-vacuity: cancelling a job with a running and a waiting task makes both canceled -/
example :
    ((Job.State.cancelJob (⟨[(⟨1, [(0, .running), (1, .waiting)], ⟨1, 0, 0, 0, 0⟩, false, none⟩ : Job.Job)],
        2, [], []⟩ : Job.State) 1).toOption.map
      (fun r => r.1.jobs.map (·.tasks))) = some [[(0, .canceled), (1, .canceled)]] := by decide

/-- **The core forgets a cancelled task in the same step, in every reachable state** (ids are unique after
every sequence of operations from the empty core, `Core.run_nodup`). -/
theorem c08_core_forgets_reachable (ops : List Core.Op) (s : Core.State) (out : Core.Out)
    (hrun : Core.run {} ops = .ok (s, out)) (s' : Core.State) (id : Core.TaskId) (st : Core.TS)
    (h : s.removeTask id = .ok (s', st)) : s'.task? id = none :=
  Core.removeTask_unknown (Core.run_nodup hrun) h

/-- non-vacuity: a run that submits a task and cancels it; the task is unknown afterwards -/
example : ((Core.run {} [.newRq [{}], .newTasks [⟨(1, 0), 0, 0, .max 5, [], 0, 0⟩], .cancel [(1, 0)]]).toOption.map
    fun r => r.1.tasks.map (·.id)) = some [] := by decide

end HqModel.C08
