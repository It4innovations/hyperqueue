import HqModel.Props.C10
/-!
# C03, restart clause — no task is handed back to the core with a dependency that can never finish

`c10_restore_refines` gives every pending task "its original dependencies minus the ones with a recorded outcome".
That is the right dependency list exactly when what the journal durably records is *closed under failure
propagation* at the cut: no task without outcome depends on a task recorded as failed / canceled / aborted
(`DepClosed`). The server writes `TasksAborted` for all transitive dependents BEFORE the `TaskFailed` that caused
them (state.rs `process_task_failed`), and one `TasksCanceled` record for a whole cancel, so every prefix of a real
journal is `DepClosed`; this is an assumption about the code that emits the journal, validated on every run on
journals persisted by the REAL server in simulated cluster runs (harness kind `sim`, monitor `c03.restart`).
-/
namespace HqModel.C03
open HqModel.Journal HqModel.Job

/-- the recorded state is closed under failure propagation: a task without outcome depends only on tasks that are
still without outcome or finished -/
def DepClosed (A : AState) : Prop :=
  ∀ ja ∈ A.jobs, ∀ a ∈ ja.2.tasks, a.st = .waiting → ∀ d ∈ a.deps, ∀ b, ja.2.find d = some b →
    b.st = .waiting ∨ b.st = .finished

/-- **c03_restart.** For every producible journal whose recorded state is closed under failure propagation, restore
succeeds and every task it resubmits to the core `(job, t, deps, …)` is a task without recorded outcome whose every
ORIGINAL dependency is either still among the dependencies it is resubmitted with (so the core holds it back until
that dependency finishes, `c03_not_ready_with_deps`) or recorded as finished. -/
theorem c03_restart (J : List Record) (hp : Producible J) (hc : DepClosed (meaning J)) :
    ∃ R X, restore J = .ok (R, X) ∧
      ∀ job t deps i c, (job, t, deps, i, c) ∈ batchPending X.batches →
        ∃ ja ∈ (meaning J).jobs, ∃ a ∈ ja.2.tasks, ja.1 = job ∧ a.id = t ∧ a.st = .waiting ∧
          ∀ d ∈ a.deps, d ∈ deps ∨ ∃ b, ja.2.find d = some b ∧ b.st = .finished := by
  obtain ⟨R, X, hr, href⟩ := HqModel.C10.c10_restore_refines J hp
  refine ⟨R, X, hr, fun job t deps i c hm => ?_⟩
  obtain ⟨ja, hja, a, ha, h1, h2, hw, rfl, -, -⟩ := mem_pending (href.pending ▸ hm)
  refine ⟨ja, hja, a, ha, h1, h2, hw, fun d hd => ?_⟩
  -- a dependency that was filtered out has an outcome, which by `DepClosed` is `finished`
  cases hb : ja.2.find d with
  | none => exact Or.inl (List.mem_filter.2 ⟨hd, by simp [AJob.isTerminal, hb]⟩)
  | some b =>
    rcases hc ja hja a ha hw d hd b hb with h | h
    · exact Or.inl (List.mem_filter.2 ⟨hd, by simp [AJob.isTerminal, hb, h]⟩)
    · exact Or.inr ⟨b, rfl, h⟩

/-- executable form of `DepClosed` -/
def depClosedB (A : AState) : Bool :=
  A.jobs.all fun ja => ja.2.tasks.all fun a => a.st != .waiting || a.deps.all fun d =>
    match ja.2.find d with
    | some b => b.st == .waiting || b.st == .finished
    | none => true

theorem depClosed_iff (A : AState) : DepClosed A ↔ depClosedB A = true := by
  unfold DepClosed depClosedB
  simp only [List.all_eq_true, Bool.or_eq_true, bne_iff_ne, ne_eq]
  constructor
  · intro h ja hja a ha
    by_cases hw : a.st = .waiting
    · right
      intro d hd
      split
      · rename_i b hb
        rcases h ja hja a ha hw d hd b hb with h | h <;> simp [h]
      · rfl
    · left; exact hw
  · intro h ja hja a ha hw d hd b hb
    rcases h ja hja a ha with h | h
    · exact absurd hw h
    · have := h d hd
      rw [hb] at this
      simpa using this

instance (A : AState) : Decidable (DepClosed A) := decidable_of_iff _ (depClosed_iff A).symm

/-- the hypothesis is not vacuous and not trivial: in the journal "A → B submitted, A started, A failed" cut before the
abort of B is written, B is without outcome and depends on the failed A. The unchanged server never writes this
prefix (it writes `TasksAborted [B]` first, then `TaskFailed A`: second example); a server that does breaks C03 at
that crash point. -/
example : ¬ DepClosed (meaning
    [ .serverStart "u", .workerConnected 1 none,
      .submit 1 true none (.graph [⟨0, [], true⟩, ⟨1, [0], true⟩]),
      .taskStarted 1 0 0 [1], .taskFailed 1 0 ]) := by decide

example : DepClosed (meaning
    [ .serverStart "u", .workerConnected 1 none,
      .submit 1 true none (.graph [⟨0, [], true⟩, ⟨1, [0], true⟩]),
      .taskStarted 1 0 0 [1], .tasksAborted [(1, 1)] ]) ∧
  Producible
    [ .serverStart "u", .workerConnected 1 none,
      .submit 1 true none (.graph [⟨0, [], true⟩, ⟨1, [0], true⟩]),
      .taskStarted 1 0 0 [1], .tasksAborted [(1, 1)] ] := by decide

end HqModel.C03
