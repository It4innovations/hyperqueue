import HqModel.Alloc.Run
import HqModel.Lemmas.AllocExact
import HqModel.Lemmas.AllocAdmit
import HqModel.Lemmas.AllocPolicy
import HqModel.Lemmas.AllocBridge
import HqModel.Lemmas.Alloc2NoStop
/-!
# C16 — allocation policies mean what the documentation says; no spurious refusals

Model: `HqModel.Alloc` (M3).
-/
namespace HqModel.C16
open HqModel.Alloc

/-- **c16_grant_agrees (agreement part).** The admission test and the grant agree: if `is_enabled rq` answers `b`
and `try_allocate rq` is executed next, it grants iff `b`.

Hypothesis `hdet` (determinism of the solver): when the request has a strict (`compact!`/`tight!`) entry on a grouped
resource — the only case in which the admission test consults the solver — the solver reports for the current free
state the same objective value in both operations (`curObj` = objective value of the first recorded answer). Both
questions are the identical MILP; HiGHS is deterministic but may stop anywhere within its relative gap, which is why
this is a hypothesis on the recorded answers and not a consequence of their validation. For requests without such an
entry there is no hypothesis.

`_partial`: the other half of the property — "when admitted, `claim` does not stop (every `pop().unwrap()` is
guarded, the loops terminate)" — is `c16_claim_nostop_partial` below, `c16_claim_nostop` (`C16Full.lean`, every
policy) and `C04.c04_release` (release). -/
theorem c16_grant_agrees_partial {s s₁ s₂ : State} {rq : Request} {ch₁ ch₂ : Choices} {h : Nat} {b : Bool}
    {r : Option Allocation} (he : isEnabled s rq ch₁ = .ok (b, s₁)) (ha : tryAllocate s₁ h rq ch₂ = .ok (r, s₂))
    (hdet : (coupledEntries s.pools rq).all (fun e => !e.policy.forced) = false → curObj ch₂.sols = curObj ch₁.sols) :
    r.isSome = b := by
  obtain ⟨cache, hr, rfl⟩ := isEnabled_ok he
  have hspec := hasResources_with hr
  have hb : b = (admitWith s rq (curObj ch₁.sols) (bestObj ch₁.sols)).1 := by rw [hspec]
  have hcache : cache = (admitWith s rq (curObj ch₁.sols) (bestObj ch₁.sols)).2 := by rw [hspec]
  have key : ∀ {b₂ : Bool} {cache₂ rest₂}, hasResources { s with cache := cache } rq ch₂.sols =
      .ok (b₂, cache₂, rest₂) → b₂ = b := by
    intro b₂ cache₂ rest₂ hr'
    have h2 := hasResources_with hr'
    have hb₂ : b₂ = (admitWith { s with cache := cache } rq (curObj ch₂.sols) (bestObj ch₂.sols)).1 := by rw [h2]
    rw [hb₂, hb, hcache]
    by_cases hf : (coupledEntries s.pools rq).all (fun e => !e.policy.forced) = true
    · rw [admitWith_nonforced { s with cache := (admitWith s rq (curObj ch₁.sols) (bestObj ch₁.sols)).2 } rq
        (curObj ch₂.sols) (curObj ch₁.sols) (bestObj ch₂.sols) (bestObj ch₂.sols) (.inr hf)]
      exact admitWith_idem s rq _ _ _
    · rw [hdet (by simpa using hf)]
      exact admitWith_idem s rq _ _ _
  cases r with
  | none =>
    obtain ⟨_, hr', -⟩ := tryAllocate_none ha
    exact key hr'
  | some al =>
    obtain ⟨_, _, _, _, hr', -, -, -⟩ := tryAllocate_some ha
    exact key hr'

/-- **c16_grant_agrees (no-stop part).** In every reachable state (side condition `NoSingletonGroups`) `try_allocate`
never stops — no failing `pop().unwrap()`, `group_solver(..).unwrap()`, `assert!`, `unreachable!`, index, and no
non-termination, in the claims and in `free_resources.remove` — whatever the admission test answers, for every request
with distinct resource ids (what `validate()` enforces) whose entries address resources the worker has
(`is_capable_to_run_request`) and that are
* list / range / sum resources with any policy and any amount, or
* grouped resources with `all`, `scatter` or `compact` (the default policy); this includes termination of the
  round-robin `while` loop of `claim_scatter_from_groups`.
`hw`: the coupling items address existing groups (`ResourceDescriptor::validate`), otherwise `vars[r][group]` in
`group_solver` is out of bounds. (`NoStop`: the only error allowed is `Stop.badChoice`.)

`_partial`: entries with `tight` and with the strict policies `compact!`/`tight!` on GROUPED resources are excluded
here (the loop of `claim_compact_from_groups` and the solver calls of the strict admission path); `c16_claim_nostop`
in `C16Full.lean` covers every policy. -/
theorem c16_claim_nostop_partial {d : Descriptor} {s₀ s : State} (hinit : State.init d = some s₀)
    (hns : NoSingletonGroups s₀) (hreach : Reach s₀ s) (h : Nat) (rq : Request) (ch : Choices)
    (hvalid : (rq.map (·.rid)).Nodup)
    (hcap : ∀ e ∈ rq, s.pools[e.rid]? ≠ some .empty)
    (hpol : ∀ e ∈ rq, ∀ full gs, s.pools[e.rid]? = some (.groups full gs) →
      e.policy = .all ∨ e.policy = .scatter ∨ e.policy = .compact)
    (hw : (mkLp s.concise (coupledEntries s.pools rq) s.weights).weightOob = false) :
    NoStop (tryAllocate s h rq ch) := by
  have hinv := reach_inv2 hinit hns hreach
  obtain ⟨-, hU⟩ := init_inv2 hinit hns
  refine tryAllocate_nostop_full hinv hU (init_facts hinit) (reach_static hinit hreach) h rq ch hvalid hcap
    (fun e he ht => ?_) hw
  obtain ⟨hin, -, full, gs, hp⟩ := coupled_info he
  rcases hpol e hin full gs hp with h1 | h1 | h1 <;> rw [h1] at ht <;> rcases ht with ht | ht <;> cases ht

/-- **c16_single_fraction.** In every resource allocation of a grant at most one entry has `fractions > 0`, and it
is the last one. -/
theorem c16_single_fraction {s s' : State} {h : Nat} {rq : Request} {ch : Choices} {al : Allocation}
    (hstep : tryAllocate s h rq ch = .ok (some al, s')) :
    ∀ ra ∈ al, ∃ ws, WholeOnly ws ∧ (ra.indices = ws ∨ ∃ f, f.fractions ≠ 0 ∧ ra.indices = ws ++ [f]) := by
  intro ra hra
  obtain ⟨e, -, p, -, -, -, hcases⟩ := (tryAllocate_exact hstep).1 ra hra
  have ofShape : Shape ra.amount ra.indices →
      ∃ ws, WholeOnly ws ∧ (ra.indices = ws ∨ ∃ f, f.fractions ≠ 0 ∧ ra.indices = ws ++ [f]) := by
    rintro ⟨ws, hw, -, hres⟩
    rcases hres with ⟨-, hl⟩ | ⟨f, hf, hne, hl⟩
    · exact ⟨ws, hw, .inl hl⟩
    · exact ⟨ws, hw, .inr ⟨f, by rw [hf]; exact hne, hl⟩⟩
  rcases hcases with ⟨-, h0⟩ | ⟨-, hs⟩ | ⟨-, -, hs⟩ | ⟨-, -, hw⟩
  · exact ⟨[], WholeOnly.nil, .inl h0⟩
  · exact ofShape hs
  · exact ofShape hs
  · exact ⟨ra.indices, hw, .inl rfl⟩

/-- the admission test of one entry in closed form: enough whole indices, and for a fractional part either a spare
whole index or one index (of any group) with at least that fraction free -/
def Contains (c : CState) (amount : Nat) : Prop :=
  amount / FPU < totalUnits c ∨
    (amount / FPU = totalUnits c ∧ (amount % FPU = 0 ∨ ∃ g ∈ c, ∃ kv ∈ g.fracs, amount % FPU ≤ kv.2))

/-- **c16_admit_iff.** For a request without strict (`compact!`/`tight!`) entries, `has_resources_for_request`
answers `true` iff every entry passes its own test, and for an entry with an amount (not `all`) on an existing pool
that test is exactly `Contains`: the concise free state of the resource contains the amount (the closed form
`amount ≤ Σ units + max fraction` is equivalent to the existence statement).

`_partial`: this version holds for ANY state but has the hypothesis `hlt` (every free fraction recorded in the concise
state is below one unit); `c16_admit_iff` below discharges it for reachable states. -/
theorem c16_admit_iff_partial {s : State} {rq : Request} {sols rest : List (Option SolRec)} {b : Bool}
    {cache : List (Request × Int)} (h : hasResources s rq sols = .ok (b, cache, rest))
    (hnf : ∀ e ∈ rq, e.policy.forced = false) :
    b = rq.all (entryHasResources s.pools s.concise) ∧
      ∀ e ∈ rq, e.policy ≠ .all → ∀ (pool : Pool) (c : CState), s.pools[e.rid]? = some pool →
        s.concise[e.rid]? = some c → (∀ g ∈ c, ∀ kv ∈ g.fracs, kv.2 < FPU) →
          (entryHasResources s.pools s.concise e = true ↔ Contains c e.amount) := by
  constructor
  · have hall : (coupledEntries s.pools rq).all (fun e => !e.policy.forced) = true := by
      rw [List.all_eq_true]
      intro e he
      have := hnf e (List.mem_filter.mp he).1
      simp [this]
    rw [hasResources_nonforced sols hall] at h
    simp only [Except.ok.injEq, Prod.mk.injEq] at h
    exact h.1.symm
  · intro e _ hpol pool c hp hc hlt
    have hF := maxFrac_lt c hlt
    have hentry : entryHasResources s.pools s.concise e = decide (e.amount ≤ c.maxAlloc) := by
      unfold entryHasResources
      rw [hp]
      simp only [hc, Option.getD_some]
    rw [hentry, decide_eq_true_iff, maxAlloc_eq, le_maxAlloc_iff _ _ _ hF]
    unfold Contains
    constructor
    · rintro (h1 | ⟨h1, h2⟩)
      · exact .inl h1
      · refine .inr ⟨h1, ?_⟩
        rcases Nat.eq_zero_or_pos (e.amount % FPU) with h0 | hpos
        · exact .inl h0
        · exact .inr ((le_maxFrac_iff c _ hpos).mp h2)
    · rintro (h1 | ⟨h1, h2⟩)
      · exact .inl h1
      · refine .inr ⟨h1, ?_⟩
        rcases h2 with h0 | hex
        · omega
        · rcases Nat.eq_zero_or_pos (e.amount % FPU) with h0 | hpos
          · omega
          · exact (le_maxFrac_iff c _ hpos).mpr hex

/-- **c16_admit_iff.** In every reachable state (side condition `NoSingletonGroups`), for a request without strict
entries: `has_resources_for_request` answers `true` iff every entry passes its test; for an entry with an amount on an
existing pool that test holds iff the free state contains the amount (`Contains`: enough whole indices and, for a
fractional part, a spare whole index or one index with at least that fraction free), where the concise state `c` the
test reads is the summary of the pool (`CEquiv c pool.conciseState`, from `C04.c04_concise`). No spurious refusal and
no spurious admission for non-strict policies. -/
theorem c16_admit_iff {d : Descriptor} {s₀ s : State} (hinit : State.init d = some s₀) (hns : NoSingletonGroups s₀)
    (hreach : Reach s₀ s) {rq : Request} {sols rest : List (Option SolRec)} {b : Bool}
    {cache : List (Request × Int)} (h : hasResources s rq sols = .ok (b, cache, rest))
    (hnf : ∀ e ∈ rq, e.policy.forced = false) :
    b = rq.all (entryHasResources s.pools s.concise) ∧
      ∀ e ∈ rq, e.policy ≠ .all → ∀ (pool : Pool) (c : CState), s.pools[e.rid]? = some pool →
        s.concise[e.rid]? = some c →
          (entryHasResources s.pools s.concise e = true ↔ Contains c e.amount) ∧ CEquiv c pool.conciseState := by
  have hinv := reach_inv2 hinit hns hreach
  obtain ⟨h1, h2⟩ := c16_admit_iff_partial h hnf
  refine ⟨h1, fun e he hpol pool c hp hc => ⟨?_, concise_eq_summary hinv e.rid pool c hp hc⟩⟩
  exact h2 e he hpol pool c hp hc (concise_vals_lt hinv e.rid pool c hp hc)

/-- **c16_all.** `all` on a grouped resource grants the full size of the resource, takes every free index of every
group as a whole index and leaves no free whole index behind (for list/range resources `all` is `C04.c04_exact`:
exactly `full / FPU` whole indices).

`_partial`: that *all* indices of the resource are free at that moment follows from the admission test of `all`
(`amount_max_alloc == full_size`); that step is `c16_all_claim` / `c16_all` in `C16Full.lean`. -/
theorem c16_all_partial {full : Nat} {gs : List Group} {e : Entry} {pick : Option Nat} {p' : Pool} {ra : RAlloc}
    (hpol : e.policy = .all) (h : (Pool.groups full gs).claim e pick = .ok (p', ra)) :
    ra.amount = full ∧ WholeOnly ra.indices ∧ (ra.indices.map (·.index)).Perm ((gs.map (·.free)).flatten) ∧
      ∀ g ∈ p'.groupsOf, g.free = [] := by
  simp only [Pool.claim, hpol, Except.ok.injEq, Prod.mk.injEq] at h
  obtain ⟨rfl, rfl⟩ := h
  obtain ⟨h1, h2, -⟩ := claimAllAux_spec 0 gs
  exact ⟨rfl, claimAllAux_whole 0 gs, h2, h1⟩

/-- **c16_scatter.** If every group has a free whole index and a whole number of at most `#groups` indices is
requested, `scatter` takes exactly one index from each of the groups `0 … units-1`: the number of groups used is the
number of requested indices = min(requested indices, non-empty groups).

`_partial`: the general case (some groups empty: they are skipped; more indices than non-empty groups: further
rounds) is `c16_scatter_claim` / `c16_scatter` in `C16Full.lean`; the harness monitor `c16.scatter` checks its
closed form on every scatter grant. -/
theorem c16_scatter_partial {amount : Nat} {gs gs' : List Group} {pick : Option Nat} {acc : List AIdx}
    (h : claimScatter amount gs none pick = .ok (gs', acc)) (hwhole : amount % FPU = 0)
    (hle : amount / FPU ≤ gs.length) (hne : ∀ g ∈ gs, g.free ≠ []) :
    (acc.map (·.group)).Perm (List.range' 0 (amount / FPU)) := by
  unfold claimScatter at h
  split at h
  · cases h
  · rename_i gs₁ acc₁ hl
    simp only [Except.ok.injEq, Prod.mk.injEq] at h
    obtain ⟨rfl, rfl⟩ := h
    rw [hwhole] at hl
    obtain ⟨ws, rfl, h1⟩ := scatterLoop_first_round hl (by simpa using hle)
      (fun j g _ _ hg => hne g (List.mem_of_getElem? hg))
    rw [← h1]
    exact (sortIdx_perm _).map _

/-- deviation of the objective of a group set from `-1024` per group (the tie-break / bonus terms), scaled -/
def dev (lp : EntryLp) (S : List Nat) : Int := objSel lp.coefs S + groupCost * S.length

/-- **c16_min_groups.** For a single coupled entry without coupling terms: every set `S` the model allows as solver
answer with objective at least that of a feasible set `S'` (in particular every optimal `S`, against every feasible
`S'`) has at most as many groups as `S'` — i.e. an optimal solution of the objective (`objSel`) has minimum cardinality
among the feasible sets — provided the tie-break terms cannot outweigh one `-1024`:
whole amounts (`dev ≤ 0`, `dev = -u/32` summed): fewer than 32 768 indices in a feasible selection, i.e. `-K < dev`;
fractional amounts (`dev ≥ 0`, bonus `< 16` per group): fewer than 64 groups, i.e. `dev < K`.

`_partial`: the bound is a hypothesis on `dev` (not derived from the descriptor size), coupling terms are excluded
(weights ≥ 1024 deliberately trade groups for affinity), and solver answers inside the MIP gap but not optimal are
covered only through the explicit premise `hopt`. -/
theorem c16_min_groups_partial (lp : EntryLp) (S S' : List Nat)
    (hopt : objSel lp.coefs S' ≤ objSel lp.coefs S)
    (hdev : (-groupCost < dev lp S' ∧ dev lp S ≤ 0) ∨ (0 ≤ dev lp S' ∧ dev lp S < groupCost)) :
    S.length ≤ S'.length := by
  unfold dev groupCost at hdev
  rcases Nat.lt_or_ge S'.length S.length with hlt | hge
  · exfalso
    have : (S'.length : Int) + 1 ≤ S.length := by omega
    rcases hdev with ⟨h1, h2⟩ | ⟨h1, h2⟩ <;> omega
  · exact hge

/-- **c16_strict.** A strict request is admitted only if the solver's objective for the current free state reaches
the cached optimum of the empty worker minus 0.1 (`hadm`, see `admitWith`); for a single coupled entry without
coupling terms this implies that the granted set `S` uses no more groups than the set `B` the solver chose on the
empty worker, under the same no-outweighing bound as `c16_min_groups_partial` (with the margin 0.1 added).

`_partial`: only this direction. The converse ("refused only if more groups would be needed") is FALSE for the code:
with groups of different sizes the tie-break term `-u/32` alone can exceed the margin (known finding F30,
`corpus/alloc/strict_refusal_tiebreak.trace`); with couplings the documented stricter rule applies and is modelled
as is (`admitWith`). -/
theorem c16_strict_partial (lpCur lpEmpty : EntryLp) (S B : List Nat)
    (hadm : objSel lpEmpty.coefs B - strictMargin ≤ objSel lpCur.coefs S)
    (hdev : dev lpCur S - dev lpEmpty B + strictMargin < groupCost) :
    S.length ≤ B.length := by
  unfold dev groupCost strictMargin at *
  rcases Nat.lt_or_ge B.length S.length with hlt | hge
  · exfalso
    have : (B.length : Int) + 1 ≤ S.length := by omega
    omega
  · exact hge

/-- a grouped resource 3×2 with one index of group 1 half taken -/
def exC : CState := [⟨2, []⟩, ⟨1, [(3, 5000)]⟩, ⟨2, []⟩]

example : Contains exC 55000 ∧ ¬ Contains exC 57500 := by
  refine ⟨.inr ⟨by decide, .inr ⟨⟨1, [(3, 5000)]⟩, by simp [exC], (3, 5000), by simp, by decide⟩⟩, ?_⟩
  rintro (h | ⟨-, h | ⟨g, hg, kv, hkv, hle⟩⟩)
  · revert h; decide
  · revert h; decide
  · simp only [exC, List.mem_cons, List.not_mem_nil, or_false] at hg
    rcases hg with rfl | rfl | rfl
    · cases hkv
    · simp at hkv; subst hkv; revert hle; decide
    · cases hkv

def exGs : List Group := [⟨[1, 0], []⟩, ⟨[3, 2], []⟩, ⟨[5, 4], []⟩]

/-- `all`, scatter and the hypotheses of `c16_min_groups_partial` are satisfiable -/
example : (∃ p' ra, (Pool.groups 60000 exGs).claim ⟨0, .all, 0⟩ none = .ok (p', ra) ∧ ra.indices.length = 6) ∧
    (∃ gs' acc, claimScatter 30000 exGs none none = .ok (gs', acc) ∧ acc.map (·.group) = [0, 1, 2]) ∧
    ((entryLp exC 30000).feasible [0, 1] = true ∧ (entryLp exC 30000).feasible [0, 1, 2] = true ∧
      objSel (entryLp exC 30000).coefs [0, 1, 2] ≤ objSel (entryLp exC 30000).coefs [0, 1] ∧
      -groupCost < dev (entryLp exC 30000) [0, 1, 2] ∧ dev (entryLp exC 30000) [0, 1] ≤ 0) := by
  refine ⟨⟨_, _, rfl, by decide⟩, ⟨_, _, rfl, by decide⟩, by decide, by decide, by decide, by decide, by decide⟩

/-- `c16_admit_iff`, `c16_claim_nostop_partial`: their hypotheses hold for a list resource in its initial state
(which is reachable) and the request `1.5 compact` -/
example : ∃ s₀, State.init { items := [(0, .list 3)], couplings := [] } = some s₀ ∧ NoSingletonGroups s₀ ∧
    Reach s₀ s₀ ∧ hasResources s₀ [⟨0, .compact, 15000⟩] [] = .ok (true, [], []) ∧
    (([⟨0, .compact, 15000⟩] : Request).map (·.rid)).Nodup ∧
    (∀ e ∈ ([⟨0, .compact, 15000⟩] : Request), s₀.pools[e.rid]? ≠ some .empty) ∧
    (∀ e ∈ ([⟨0, .compact, 15000⟩] : Request), ∀ full gs, s₀.pools[e.rid]? = some (.groups full gs) →
      e.policy = .all ∨ e.policy = .scatter ∨ e.policy = .compact) ∧
    (mkLp s₀.concise (coupledEntries s₀.pools [⟨0, .compact, 15000⟩]) s₀.weights).weightOob = false := by
  refine ⟨_, rfl, .of_all (by decide), Reach.init, rfl, by decide, ?_, ?_, by decide⟩
  · intro e he
    simp only [List.mem_cons, List.not_mem_nil, or_false] at he
    subst he
    simp [placeItems, Pool.new]
  · intro e he full gs hp
    simp only [List.mem_cons, List.not_mem_nil, or_false] at he
    subst he
    simp [placeItems, Pool.new] at hp

/-- `c16_claim_nostop_partial` on a grouped resource (2×2) with the default policy `compact` -/
example : ∃ s₀, State.init { items := [(0, .groups [2, 2])], couplings := [] } = some s₀ ∧ NoSingletonGroups s₀ ∧
    (∀ e ∈ ([⟨0, .compact, 25000⟩] : Request), s₀.pools[e.rid]? ≠ some .empty) ∧
    (∀ e ∈ ([⟨0, .compact, 25000⟩] : Request), ∀ full gs, s₀.pools[e.rid]? = some (.groups full gs) →
      e.policy = .all ∨ e.policy = .scatter ∨ e.policy = .compact) ∧
    (mkLp s₀.concise (coupledEntries s₀.pools [⟨0, .compact, 25000⟩]) s₀.weights).weightOob = false ∧
    (∃ al s₁, tryAllocate s₀ 0 [⟨0, .compact, 25000⟩] ⟨[some ⟨-40960000, [[0, 1]]⟩], []⟩ = .ok (some al, s₁)) := by
  refine ⟨_, rfl, .of_all (by decide), ?_, ?_, by decide, ⟨_, _, rfl⟩⟩
  · intro e he
    simp only [List.mem_cons, List.not_mem_nil, or_false] at he
    subst he
    simp [placeItems, Pool.new]
  · intro e he full gs _
    simp only [List.mem_cons, List.not_mem_nil, or_false] at he
    subst he
    exact .inr (.inr rfl)

/-- the two operations of `c16_grant_agrees_partial` on a strict request -/
example : ∃ s₀ b s₁ r s₂,
    State.init { items := [(0, .groups [2, 2])], couplings := [] } = some s₀ ∧
    isEnabled s₀ [⟨0, .forceCompact, 20000⟩] ⟨[some ⟨-20481250, [[0]]⟩, some ⟨-20481250, [[0]]⟩], []⟩ = .ok (b, s₁) ∧
    tryAllocate s₁ 0 [⟨0, .forceCompact, 20000⟩] ⟨[some ⟨-20481250, [[0]]⟩, some ⟨-20481250, [[0]]⟩], []⟩ =
      .ok (r, s₂) ∧ b = true ∧ r.isSome = true :=
  ⟨_, _, _, _, _, rfl, rfl, rfl, rfl, rfl⟩

end HqModel.C16
