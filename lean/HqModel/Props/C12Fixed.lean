import HqModel.Props.C12
import HqModel.Lemmas.JournalPrune2Restore
/-!
C12 for the FIXED pruner (`prune_journal` after notes/f12_fix.patch = `Journal.prune2`, Journal/Prune2.lean): the
pruner is stateful — it collects the worker ids of every kept `TaskStarted` (`task_worker_ids`) and keeps a
`WorkerLost w` iff `w` is live or `w ∈ task_worker_ids` (as accumulated from the records earlier in the file).

Compared with the stateless pruner of Props/C12.lean the crash counters are INSIDE the proved view (`SameView2`: equal
job entries instead of `SameView`: equal up to crash counters), the job tables are even equal as lists, and therefore
`restore_jobs_and_queues` returns the same jobs and the same `TaskSubmit` batches (adjust maps included). What stays
outside is `queue_to_worker_resources` only (finding F25: `WorkerConnected` of a no-longer-live allocation worker is
still dropped) — hence the main theorem is named `_partial`.
-/
namespace HqModel.C12
open HqModel.Journal

/-- **Full-strength statement for the fixed pruner** (FALSE in exactly one component, see
`c12_f25_witness2`): as `C12Full`, with `prune2`. -/
def C12Full2 : Prop :=
  ∀ (J : List Record) (lj lw : List Nat) (R : Restorer), restorerFold J = .ok R → LiveCovers R lj →
    ∃ R', restorerFold (prune2 lj lw J) = .ok R' ∧ R'.jobs = R.jobs ∧ R'.queues = R.queues ∧ R'.queueRes = R.queueRes ∧
      R'.uid = R.uid

/-- **c12_prune2_equiv (partial: everything but `queue_to_worker_resources`).** For EVERY journal `J` on which
`load_event_file` succeeds (in particular every producible one, C10), every set of live workers and every set of live
jobs that covers the jobs a restart would restore (`handle_prune_journal`): `load_event_file` also succeeds on
`prune2 J`, and the two restorer states have the same view INCLUDING the crash counters — `SameView2`: for every job id
the same entry (description, submits, open flag, and per task: state with started data, last instance id, crash
counter) or no entry on both sides, the same allocation queues, queue high-water mark and uid. Moreover the two job
tables are equal as lists (same iteration order).
Missing w.r.t. `C12Full2`: `queue_to_worker_resources` (F25) only. Same hypotheses as `c12_prune_equiv_partial`. -/
theorem c12_prune2_equiv_partial (J : List Record) (lj lw : List Nat) (R : Restorer) (h : restorerFold J = .ok R)
    (hl : LiveCovers R lj) :
    ∃ R', restorerFold (prune2 lj lw J) = .ok R' ∧ SameView2 R R' ∧ R'.jobs = R.jobs := by
  obtain ⟨R', h1, h2, h3⟩ := prune2_fold_full lj lw J [] {} {} R rfl ⟨rfl, rfl, rfl⟩ (fun _ hkv => nomatch hkv) h
  have hj : R'.jobs = R.jobs := h2.trans (alFilter_eq_self _ _ hl)
  exact ⟨R', h1, ⟨fun j => by rw [hj], h3.1, h3.2.1, h3.2.2⟩, hj⟩

/-- the view proved for the fixed pruner refines the one proved for the stateless pruner
(`c12_prune_equiv_partial`) -/
theorem c12_sameView2_sameView (R R' : Restorer) (h : SameView2 R R') : SameView R R' :=
  ⟨fun j => by rw [h.jobs j]; rfl, h.queues, h.maxQueue, h.uid⟩

/-- **c12_prune2_restore: what the restart hands to the server.** If restoring `J` succeeds with restorer `R` and
result `X`, then restoring `prune2 J` (live sets as above) succeeds as well and returns the SAME restored jobs (ids,
open flags, task states, counters, number of submits), the SAME `TaskSubmit` batches — tasks, remaining dependencies and
the adjust maps, i.e. next instance ids AND crash counters — and the same allocation queues (their
"worker resources known" flag excepted: F25). In particular the core holds the same tasks with the same crash counters
(`coreFeed`, `batchPending` are functions of the batches). -/
theorem c12_prune2_restore (J : List Record) (lj lw : List Nat) (R : Restorer) (X : Restored)
    (h : restore J = .ok (R, X)) (hl : LiveCovers R lj) :
    ∃ R' X', restore (prune2 lj lw J) = .ok (R', X') ∧ X'.jobs = X.jobs ∧ X'.batches = X.batches ∧
      X'.queues.map (·.1) = X.queues.map (·.1) ∧ R'.uid = R.uid ∧ R'.maxQueue = R.maxQueue := by
  obtain ⟨hf, hr⟩ := restore_ok_iff.1 h
  obtain ⟨R', h1, hv, hj⟩ := c12_prune2_equiv_partial J lj lw R hf hl
  obtain ⟨X', g1, g2, g3, g4⟩ := restoreJobs_of_jobs_eq R R' X hj hv.queues hr
  exact ⟨R', X', restore_ok_iff.2 ⟨h1, g1⟩, g2, g3, g4, hv.uid, hv.maxQueue⟩

/-- **c12_append2 (the pruned journal can be appended to).** Whatever the server writes after the prune (`K`, any
records, not pruned): if the unpruned journal followed by `K` restores, so does `prune2 J` followed by `K`, with the same
view (crash counters included) and the same job table. With `K = []`: restore does not stop on the pruned journal —
in particular a kept `WorkerLost w` whose `WorkerConnected w` was dropped is harmless. -/
theorem c12_append2 (J K : List Record) (lj lw : List Nat) (R R2 : Restorer) (h : restorerFold J = .ok R)
    (hl : LiveCovers R lj) (h2 : restorerFold (J ++ K) = .ok R2) :
    ∃ R2', restorerFold (prune2 lj lw J ++ K) = .ok R2' ∧ SameView2 R2 R2' ∧ R2'.jobs = R2.jobs := by
  obtain ⟨R', h1, hv, hj⟩ := c12_prune2_equiv_partial J lj lw R h hl
  unfold restorerFold at *
  rw [restorerFoldFrom_append, h] at h2
  obtain ⟨R2', g1, g2, g3⟩ := fold_common_eq K R R' R2 hj ⟨hv.queues, hv.maxQueue, hv.uid⟩ h2
  exact ⟨R2', by rw [restorerFoldFrom_append, h1]; exact g1, ⟨fun j => by rw [g2], g3.1, g3.2.1, g3.2.2⟩, g2⟩

/-- **c12_wf2, part 1 (the pruner is a streaming pass).** Pruning `J ++ K` = pruning `J`, then continuing on `K` with
the `task_worker_ids` collected on `J`. -/
theorem c12_wf2_append (lj lw : List Nat) (J K : List Record) :
    prune2 lj lw (J ++ K) = prune2 lj lw J ++ prune2From lj lw (taskWorkersFrom lj [] J) K :=
  prune2From_append lj lw J K []

/-- **c12_wf2, part 2 (the pruned journal can be pruned again — semantic form, no side condition).** Prune `J`, let
the server append any `K`, prune the result again with live sets that cover what a restart of `J ++ K` would restore:
the twice-pruned journal restores with the same view (crash counters included) as `J ++ K`. -/
theorem c12_prune2_twice (J K : List Record) (lj lw lj2 lw2 : List Nat) (R R2 : Restorer)
    (h : restorerFold J = .ok R) (hl : LiveCovers R lj) (h2 : restorerFold (J ++ K) = .ok R2)
    (hl2 : LiveCovers R2 lj2) :
    ∃ R2', restorerFold (prune2 lj2 lw2 (prune2 lj lw J ++ K)) = .ok R2' ∧ SameView2 R2 R2' ∧ R2'.jobs = R2.jobs := by
  obtain ⟨R1, g1, gv, gj⟩ := c12_append2 J K lj lw R R2 h hl h2
  have hl1 : LiveCovers R1 lj2 := by intro j hj; rw [gj] at hj; exact hl2 j hj
  obtain ⟨R2', k1, kv, kj⟩ := c12_prune2_equiv_partial _ lj2 lw2 R1 g1 hl1
  exact ⟨R2', k1, ⟨fun j => (gv.jobs j).trans (kv.jobs j), by rw [kv.queues, gv.queues],
    by rw [kv.maxQueue, gv.maxQueue], by rw [kv.uid, gv.uid]⟩, by rw [kj, gj]⟩

/-- **c12_wf2, part 3 (syntactic form).** Pruning a pruned journal (after more records `K` were appended) is pruning
the original with the intersections of the live sets — PROVIDED no worker that ran a task of a live job before the
first prune is live at the second prune without having been live at the first one (`hmono`; true of
`handle_prune_journal` as long as worker ids are not reissued; the stateless law `c12_wf` needs no such condition).
`K` is pruned with the `task_worker_ids` collected on the twice-live part of `J`. -/
theorem c12_wf2 (lj lw lj2 lw2 : List Nat) (J K : List Record)
    (hmono : ∀ w, lw2.contains w = true → w ∈ taskWorkersFrom lj [] J → lw.contains w = true) :
    prune2 lj2 lw2 (prune2 lj lw J ++ K) =
      prune2 (inter lj lj2) (inter lw lw2) J ++ prune2From lj2 lw2 (taskWorkersFrom (inter lj lj2) [] J) K := by
  obtain ⟨e1, e2⟩ := prune2From_prune2From lj lw lj2 lw2 J [] [] (fun _ h => h) hmono
  unfold prune2
  rw [prune2From_append, e1, e2]

theorem c12_prune2_idem (lj lw : List Nat) (J : List Record) : prune2 lj lw (prune2 lj lw J) = prune2 lj lw J := by
  rw [prune2_prune2 lj lw lj lw J (fun _ h _ => h), inter_self, inter_self]

/-- the side condition of `c12_wf2` cannot be dropped: worker 1 ran a task of the live job 1, was not live at the
first prune and is "live" at the second one (a reissued id) — the composed prune keeps its `WorkerLost`, the prune with
the intersections does not. Both restore the same view (`c12_prune2_twice`). -/
theorem c12_wf2_needs_hmono :
    prune2 [] [1] (prune2 [1] [] witnessF12) ≠ prune2 (inter [1] []) (inter [] [1]) witnessF12 := by decide

/-- regression for F12: on `witnessF12` the fixed pruner keeps `WorkerLost 1` (worker 1 is not live but ran
task 1.0 of the live job 1), and the crash counter handed to the core for the still pending task 1.0 is 1 as without
pruning; with the stateless pruner it is 0. -/
theorem c12_f12_regression :
    prune2 [1] [] witnessF12 =
      [.serverStart "abc123", .submit 1 true none (.array [⟨0, 1, 1⟩] none), .taskStarted 1 0 0 [1],
       .workerLost 1 .connectionLost] ∧
    (∃ R X, restore witnessF12 = .ok (R, X) ∧ batchPending X.batches = [(1, 0, [], 1, 1)]) ∧
    (∃ R X, restore (prune2 [1] [] witnessF12) = .ok (R, X) ∧ batchPending X.batches = [(1, 0, [], 1, 1)]) ∧
    (∃ R X, restore (prune [1] [] witnessF12) = .ok (R, X) ∧ batchPending X.batches = [(1, 0, [], 1, 0)]) :=
  ⟨rfl, ⟨_, _, rfl, rfl⟩, ⟨_, _, rfl, rfl⟩, ⟨_, _, rfl, rfl⟩⟩

/-- F25 for the fixed pruner (unchanged): the `WorkerConnected` record of a no-longer-live worker that came from an
allocation is still dropped, so the queue restored from the pruned journal has no worker resources. -/
theorem c12_f25_witness2 : Producible witnessF25 ∧
    (∃ R X, restore witnessF25 = .ok (R, X) ∧ X.queues = [(1, true)]) ∧
    (∃ R X, restore (prune2 [] [] witnessF25) = .ok (R, X) ∧ X.queues = [(1, false)]) :=
  ⟨rfl, ⟨_, _, rfl, rfl⟩, ⟨_, _, rfl, rfl⟩⟩

/-- the full-strength statement is still false of the fixed code — in the `queue_to_worker_resources` component -/
theorem c12_full2_statement_false : ¬ C12Full2 := by
  intro h
  obtain ⟨R', h1, _, _, h4, _⟩ := h witnessF25 [] []
    { maxWorker := 1, queueRes := [(1, ())], allocQueue := [(100, 1)], queues := [(1, ())], maxQueue := 1,
      uid := "abc123" } rfl (fun j hj => by simp [alGet] at hj)
  have : restorerFold (prune2 [] [] witnessF25) = .ok
      { allocQueue := [(100, 1)], queues := [(1, ())], maxQueue := 1, uid := "abc123" } := rfl
  rw [this] at h1
  cases h1
  revert h4
  decide

/-! ### non-vacuity: the hypotheses are satisfiable, the pruner really drops and really keeps `WorkerLost` records -/

/-- job 1 done, job 2 live with the multi-node task 2.0 on workers [3, 4]; workers 1 (ran only the finished job),
2 (ran nothing) and 3 (root of 2.0) are lost, 4 and 5 are live -/
def witnessMixed : List Record :=
  [.serverStart "abc123",
   .submit 1 true none (.array [⟨0, 1, 1⟩] none), .submit 2 true none (.array [⟨0, 2, 1⟩] none),
   .workerConnected 1 none, .workerConnected 2 none, .workerConnected 3 none, .workerConnected 4 none,
   .taskStarted 1 0 0 [1], .taskFinished 1 0, .jobCompleted 1,
   .workerLost 2 .heartbeatLost,
   .taskStarted 2 0 0 [3, 4], .workerLost 1 .connectionLost, .workerLost 3 .connectionLost,
   .workerConnected 5 none, .taskStarted 2 1 0 [5]]

example : Producible witnessMixed := rfl

/-- what the fixed pruner writes: the losses of workers 1 and 2 are dropped, the loss of worker 3 is kept although 3 is
not live and its `WorkerConnected` is gone -/
example : prune2 [2] [4, 5] witnessMixed =
    [.serverStart "abc123", .submit 2 true none (.array [⟨0, 2, 1⟩] none),
     .workerConnected 4 none, .taskStarted 2 0 0 [3, 4], .workerLost 3 .connectionLost,
     .workerConnected 5 none, .taskStarted 2 1 0 [5]] := rfl

/-- the hypotheses of `c12_prune2_equiv_partial` / `c12_prune2_restore` hold for it, and the crash counter of 2.0
(1, instance 1) survives the prune; the stateless pruner loses it -/
example : ∃ R X, restore witnessMixed = .ok (R, X) ∧ LiveCovers R [2] ∧
    batchPending X.batches = [(2, 0, [], 1, 1), (2, 1, [], 1, 0)] :=
  ⟨_, _, rfl, covers_of_keys _ _ (by decide), rfl⟩

example : (∃ R X, restore (prune2 [2] [4, 5] witnessMixed) = .ok (R, X) ∧
      batchPending X.batches = [(2, 0, [], 1, 1), (2, 1, [], 1, 0)]) ∧
    (∃ R X, restore (prune [2] [4, 5] witnessMixed) = .ok (R, X) ∧
      batchPending X.batches = [(2, 0, [], 1, 0), (2, 1, [], 1, 0)]) :=
  ⟨⟨_, _, rfl, rfl⟩, ⟨_, _, rfl, rfl⟩⟩

/-- a `WorkerLost` BEFORE the `TaskStarted` that mentions the worker is dropped (the set is the one accumulated so
far), one after it is kept -/
example : prune2 [1] [] [.workerLost 7 .connectionLost, .taskStarted 1 0 0 [7], .workerLost 7 .connectionLost] =
    [.taskStarted 1 0 0 [7], .workerLost 7 .connectionLost] := rfl

/-- the hypothesis of `c12_wf2` is satisfiable with a second prune that really removes more -/
example : (∀ w, [5].contains w = true → w ∈ taskWorkersFrom [2] [] witnessMixed → [4, 5].contains w = true) ∧
    prune2 [2] [5] (prune2 [2] [4, 5] witnessMixed) = prune2 [2] [5] witnessMixed ∧
    prune2 [2] [5] witnessMixed ≠ prune2 [2] [4, 5] witnessMixed :=
  ⟨by intro w hw _; simp at hw; subst hw; decide, rfl, by decide⟩

end HqModel.C12
