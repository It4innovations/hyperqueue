import HqModel.Props.WorkerSide
import HqModel.Lemmas.JobSteps
import HqModel.Lemmas.JobHistory
import HqModel.Lemmas.CoreSteps
import HqModel.Lemmas.CoreInvIds
/-!
# C01 — exactly one terminal outcome, reported once, in order

Two layers carry the property: the job layer (M4) refuses every second terminal transition and every finish
that was not preceded by a start; the core (M1) makes a task unknown in the very step in which it reports its
outcome, and ignores every later worker message about an unknown task. The worker-side clause (time limit)
is `HqModel.WorkerSide.c01_timeout`. The history form is proved here for all runs of the job layer
(`c01_outcome_once`) and carried to the composed models in `Props/Sys.lean` (`sys_outcome_once`) and
`Props/SysW.lean` (`sysw_outcome_once`); on real cluster traces it is checked by the harness monitor
`c01.outcome_once`.
-/
namespace HqModel.C01
open HqModel

/-- **A finish is accepted only for a Running task**: `set_finished_state` succeeds only on a task whose state is
Running, for all jobs and tasks. (That a task becomes Running only together with a `started` report is clause (c) of
`c01_outcome_once`.) -/
theorem c01_finish_needs_start (job job' : Job.Job) (t : Nat) (evs : List Job.Ev)
    (e : job.setFinished t = .ok (job', evs)) : Job.lookup job.tasks t = some .running :=
  (Job.setFinished_eq_ok e).1

/-- **The outcome is final in the job layer**: once a task is finished / failed / canceled / aborted, every
further terminal transition (finish, fail, cancel, abort, worker-lost reset) is refused (the Rust code panics
instead of announcing a second outcome) and a late start report does not change the task. -/
theorem c01_terminal_is_final (job : Job.Job) (t : Nat) (st : Job.TState)
    (hl : Job.lookup job.tasks t = some st) (ht : st.terminal = true) :
    (∃ e, job.setFinished t = .error e) ∧ (∃ e, job.setFailed t = .error e) ∧ (∃ e, job.setWaiting t = .error e) ∧
    (∀ target site rest, ∃ e, job.markAll target site ((job.id, t) :: rest) = .error e) ∧
    job.setRunning t = .ok job :=
  Job.terminal_is_final hl ht

/-- **The core forgets the task together with its outcome**: after `Core::remove_task` (called by
`task_finished`, `task_failed`, `on_cancel_tasks` in the step that reports the outcome) the id is unknown. -/
theorem c01_core_forgets (s s' : Core.State) (id : Core.TaskId) (st : Core.TS)
    (hnd : (Core.taskIds s.tasks).Nodup) (h : s.removeTask id = .ok (s', st)) : s'.task? id = none :=
  Core.removeTask_unknown hnd h

/-- **Nothing is reported for an unknown task**: Running / Finished / Failed / Reject messages about a task
the core no longer knows produce no callback and no state change, for every worker and state. -/
theorem c01_core_ignores_unknown (s : Core.State) (w : Nat) (id : Core.TaskId) (rv : Nat) (orv : Option Nat)
    (h : s.task? id = none) :
    s.taskRunning w id rv = .ok (s, {}) ∧ s.taskFinished w id = .ok (s, {}, false) ∧
    s.taskFailed (some w) id [] = .ok (s, {}) ∧ s.taskReject w id orv = .ok (s, {}, false) :=
  Core.unknown_task_ignored s w id rv orv h

/-- non-vacuity: a job with a finished task refuses a second finish -/
example : (({ id := 1, tasks := [(0, .finished)], isOpen := false, maxFails := none } : Job.Job).setFinished 0).toOption
    = none := by decide

/-- **The core forgets the task together with its outcome, in every reachable state**: task ids are unique in
every state the core reaches from the empty state by ANY sequence of operations (`Core.run_nodup`), hence after
`Core::remove_task` the id is unknown — no uniqueness hypothesis. -/
theorem c01_core_forgets_reachable (ops : List Core.Op) (s : Core.State) (out : Core.Out)
    (hrun : Core.run {} ops = .ok (s, out)) (s' : Core.State) (id : Core.TaskId) (st : Core.TS)
    (h : s.removeTask id = .ok (s', st)) : s'.task? id = none :=
  Core.removeTask_unknown (Core.run_nodup hrun) h

/-- non-vacuity of `c01_core_forgets_reachable`: a run that submits two tasks, after which `remove_task` succeeds -/
example : ((Core.run {} [.newRq [{}], .newTasks [⟨(1, 0), 0, 0, .max 5, [], 0, 0⟩, ⟨(1, 1), 0, 0, .max 5, [(1, 0)], 0, 0⟩]]).toOption.map
    fun r => (r.1.tasks.map (·.id), (r.1.removeTask (1, 1)).toOption.map (·.1.tasks.map (·.id)))) =
    some ([(1, 0), (1, 1)], some [(1, 0)]) := by decide

/-- **History form for the job layer: every task gets at most one terminal report, exactly one iff its state
is terminal, and a finish is reported only after a start.** For ALL operation sequences `ops` (client requests
and tako callbacks in any order, any length) and every run from the empty server state that does not stop with
a panic, with `evs` = all events emitted during the run (`Job.termCount t evs` counts the terminal reports of
`t`: `finished t`, `failed t`, and the occurrences of `t` in the id lists of `canceled` / `aborted` events):

* (a) no task id — also of jobs that were forgotten meanwhile — is reported more than once;
* (b) for every job still stored and every task of it: exactly one report if the task's state is terminal
  (finished / failed / canceled / aborted), none if it is waiting or running;
* (c) every `finished t` event is preceded in `evs` by a `started t …` event. -/
theorem c01_outcome_once (ops : List Job.Op) (s : Job.State) (evs : List Job.Ev)
    (h : Job.run {} ops = .ok (s, evs)) :
    (∀ t : Job.TaskId, Job.termCount t evs ≤ 1) ∧
    (∀ job ∈ s.jobs, ∀ p ∈ job.tasks,
      Job.termCount (job.id, p.1) evs = if p.2.terminal then 1 else 0) ∧
    (∀ t pre post, evs = pre ++ [Job.Ev.finished t] ++ post →
      ∃ i ws rv, Job.Ev.started t i ws rv ∈ pre) := by
  have hist := Job.run_hist h
  have wf := Job.run_wf ops Job.init_wf h
  refine ⟨hist.once, ?_, ?_⟩
  · intro job hj p hp
    have hf := Job.findJob_of_mem wf.ids hj
    have hl := Job.lookup_of_mem (wf.jobs job hj).nodup (t := p.1) (a := p.2) hp
    rw [hist.cnt _ _ hf p.1, hl]
    rfl
  · intro t pre post he
    exact hist.order t pre post (by simpa using he)

/-- non-vacuity of `c01_outcome_once`: open job 1, submit tasks 0,1,2, start and finish task 0, fail task 1
(running) with task 2 as a consumer, close: the run does not panic, task 0 and 1 have one report each (finished
/ failed), task 2 one (aborted), an id that is no task has none. -/
example :
    (Job.run {} [.openJob none, .submit (some 1) none (.array [⟨0, 3, 1⟩] none),
             .started (1, 0) 0 [1] 0, .started (1, 1) 0 [1] 0, .finished (1, 0), .failed (1, 1) [(1, 2)],
             .close 1]).toOption.map
      (fun r => ([(1, 0), (1, 1), (1, 2), (1, 3)].map (Job.termCount · r.2),
                 r.1.jobs.map fun j => j.tasks.map (·.2)))
    = some ([1, 1, 1, 0], [[.finished, .failed, .aborted]]) := by decide

end HqModel.C01
