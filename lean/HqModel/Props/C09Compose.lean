import HqModel.Lemmas.SysWNoPanic
import HqModel.Props.SysW
/-!
# C09 — no reachable panic, COMPOSED: in the composed systems a run never stops with a panic of EITHER layer

`Props/Sys.lean` / `Props/SysW.lean` prove that the composed systems `Sys` (job layer M4 on the core M1) and `SysW`
(+ one worker model M2 per worker, FIFO queues) never stop in the JOB layer (`Stop.job`); they explicitly do not
exclude `Stop.core` (a panic site of the core). `Props/C09Core.lean` proves that the core alone never panics, under
side conditions on its operations. This file composes the two: in every reachable state of `Sys` / `SysW`, a step
whose action satisfies the side conditions stops neither with `Stop.job _` nor with `Stop.core site` for a site of the
CODE (a `site` starting with `!` is the core's refusal of an invalid RECORDED input — solver answer, hash-order pick
—, `!bad-choice …`; it is not a panic of the server).

The statements are PARTIAL by design (`_partial`): the lifted input conditions `OpNPc` are hypotheses.

* `Sys.sys_core_good` — in every reachable state of `Sys`: `Core.CoreGood U s.core` for a ghost `U`, `U` ⊆ ids known to M4;
* `Sys.sys_no_core_panic_partial` — per step: `Sys.step s op = .error (.core site)` ⇒ `site` starts with `!`;
* `Sys.sys_never_panics_partial` — per step: neither `Stop.job _` nor a non-`!` `Stop.core`; `Sys.sys_run_never_panics_partial`: run form;
* `SysW.sysw_core_good`, `SysW.sysw_never_stops_partial`, `SysW.sysw_run_never_stops_partial` — the same for `SysW`
  (neither `.sys (.job _)` nor a non-`!` `.sys (.core site)`);
* non-vacuity: `RunOk ∧ RunNPc` by kernel evaluation on witness runs of both systems, all ending without a stop.

**What is derived from the composition** (not a hypothesis):
* `Core.OpOk2q` — from `Sys.OpOk` (`opOk2_of_opOk`); in `SysW` its worker-protocol part (`UpdProto` / `RejectOk`, and
  `FinProto` for the job layer) is itself a theorem (`sysw_fin_proto`);
* **`NoIdReuse`** ("no task id is submitted twice", a hypothesis of `c09_core_run_no_panic`): in `Sys` it is a THEOREM
  about M4 — `Lemmas/SysJobGrow.lean`: every id handed to the core stays `Known` to the job layer (its job id
  is below the job counter and, while the job is stored, the task id is a key of its table; `JGrow`: preserved by
  every M4 operation), and an accepted submit hands out only unknown, pairwise distinct ids (`submit_fresh`:
  `attach_submit` succeeded; a new job gets the counter value). So the ghost list `U` of `Core.CoreGood` is threaded
  through the composed run with freshness proved at every submit (`GoodU`). (The `submitted` clause of `SysW.OpOk` is
  still used by the `SysW` pipeline invariant `WInv`, not by this part.)
* the initial state `initState reserve max` satisfies `CoreGood []` for all parameters.

**What is a HYPOTHESIS here** (`OpNPc`, decidable, evaluated per step on the pre-state like `OpOk`; `RunNPc` = on the
pre-state of every action): for the core operation `cop` the step actually hands to `Core.step s.core`
(`Sys.coreOpOf s op`, mirroring `Sys.step`: none for `openJob` / `close` / `forget`, a refused or empty `submit`, a
`cancel` naming no task, and for the `badSubmit` / `badCancel` inputs), `Core.OpNP s.core cop ∧ Core.OpExcl s.core cop`:
* `newWorker`: the worker id is new to the core; `removeWorker`: the worker is known, `RetsOk rets`;
* `submit`: `NewTasksOk` (request ids in range, no dependency named twice; non-emptiness is automatic);
* `cancel`: `ids.Nodup`;
* `update w us rets`: the WORKER PROTOCOL `UpdatesOk UpdNP` (per update, in the state in which the reactor processes
  it) and `RetsOk rets`, and the EXCLUSION of the known finding F27 (`UpdatesOk NoF27`);
* `schedule sol`: `SolOk` (what solver + `take_tasks` guarantee about the recorded solution).
In `SysW` the `update` of a `deliverW2S` is the batch at the head of the worker's queue, so `UpdNP` / `NoF27` there are
statements about what the worker model M2 sent. `sysw_fin_proto` proves the analogous facts for `Finished` (`FinProto`)
and `Reject` (`RejectOk`) from the pipeline invariant; the whole of `UpdNP` is the worker-protocol hypothesis of this
file. `Props/C09Pipe.lean` derives it from the composition up to its `RunIdx` conjuncts (variant hostable).
`RetsOk`, `ids.Nodup` and `NewTasksOk.deps.Nodup` would follow from `route` / `ntsOk` only up to `sameSet` (the real
lists are hash-ordered SETS; `sameSet` does not exclude a repetition in the recorded list), so they stay input
conditions of the world action.

**Which `Stop`s remain possible** (none is a panic of the server code):
* `Sys`: `Stop.core "!…"` (refusal of an invalid recorded choice), `badRets`, `badSubmit`, `badCancel` (the world
  action's `rets` / `NewTask` list / cancel list is not what the job layer computed: a wrong INPUT of the composition);
* `SysW`: `.sys` of those four; `worker w e` (a stop of the worker model M2: its own panic sites / `badChoice` —
  M2's C09 is a separate property); `notAllowed` (a `Sys` / M2 operation issued through the wrong world action),
  `noWorker`, `emptyQueue` (delivery for an unknown worker / from an empty queue), `badInput` (a worker id added
  twice, wrong number of `Extra`s): wrong inputs of the composition.
-/
namespace HqModel.Sys
open HqModel

/-- **the progress invariant of the core holds in every reachable state of `Sys`**: for a ghost list `U` (the ids
handed to the core so far), `Core.CoreGood U s.core`; the job layer is well-formed and still knows every
id of `U` (which is why no id can be handed out twice). -/
theorem sys_core_good (reserve max : Nat) (ops : List Op) (s : State) (outs : List Out)
    (hok : RunOk (initState reserve max) ops) (hnp : RunNPc (initState reserve max) ops)
    (h : run (initState reserve max) ops = .ok (s, outs)) :
    ∃ U, Core.CoreGood U s.core ∧ Job.StateWF s.job ∧ ∀ x ∈ U, NPX.Known s.job x := by
  obtain ⟨U, hg⟩ := (NPX.run_good ops ⟨_, NPX.goodU_initState reserve max⟩ hok hnp).1 s outs h
  exact ⟨U, hg.core, hg.wf, hg.known⟩

/-- **`sys_no_core_panic_partial`** (C09, composed, core layer) — in every reachable state of `Sys` (a run from
`initState reserve max` whose actions satisfy `RunOk` and the lifted input conditions `RunNPc`), for every world
action `op` with `OpOk s op` and `OpNPc s op`: if `Sys.step s op` stops in the core, the site is a `!…` refusal of an
invalid recorded input — never a panic site of the code. PARTIAL: `OpNPc` (the core's new input conditions incl. the
worker protocol `UpdNP`, and the exclusion of F27) is a hypothesis, not derived from the composition. -/
theorem sys_no_core_panic_partial (reserve max : Nat) (ops : List Op) (s : State) (outs : List Out)
    (hok : RunOk (initState reserve max) ops) (hnp : RunNPc (initState reserve max) ops)
    (h : run (initState reserve max) ops = .ok (s, outs)) (op : Op) (hop : OpOk s op) (hopnp : OpNPc s op)
    (site : String) : step s op = .error (.core site) → site.startsWith "!" = true := by
  obtain ⟨U, hg⟩ := (NPX.run_good ops ⟨_, NPX.goodU_initState reserve max⟩ hok hnp).1 s outs h
  exact NPX.good_no_core_panic hg hop hopnp site

/-- **no step of `Sys` panics in either layer** (`sys_no_job_panic` + `sys_no_core_panic_partial`): in every reachable
state, a world action satisfying `OpOk ∧ OpNPc` stops neither with `Stop.job _` nor with `Stop.core site` for a site of
the code. Remaining stops: `Stop.core "!…"`, `badRets`, `badSubmit`, `badCancel` (wrong inputs of the composition). -/
theorem sys_never_panics_partial (reserve max : Nat) (ops : List Op) (s : State) (outs : List Out)
    (hok : RunOk (initState reserve max) ops) (hnp : RunNPc (initState reserve max) ops)
    (h : run (initState reserve max) ops = .ok (s, outs)) (op : Op) (hop : OpOk s op) (hopnp : OpNPc s op) :
    (∀ site, step s op ≠ .error (.job site)) ∧
    ∀ site, step s op = .error (.core site) → site.startsWith "!" = true :=
  ⟨sys_no_job_panic reserve max ops s outs hok h op hop,
   sys_no_core_panic_partial reserve max ops s outs hok hnp h op hop hopnp⟩

/-- **`sys_run_never_panics_partial`** — a run of `Sys` from `initState reserve max` whose actions satisfy
`RunOk ∧ RunNPc` never stops with a panic of EITHER layer: not with `Stop.job _`, and with `Stop.core site` only for a
`!…` refusal. -/
theorem sys_run_never_panics_partial (reserve max : Nat) (ops : List Op)
    (hok : RunOk (initState reserve max) ops) (hnp : RunNPc (initState reserve max) ops) :
    (∀ site, run (initState reserve max) ops ≠ .error (.job site)) ∧
    ∀ site, run (initState reserve max) ops = .error (.core site) → site.startsWith "!" = true :=
  ⟨sys_run_no_job_panic reserve max ops hok,
   (NPX.run_good ops ⟨_, NPX.goodU_initState reserve max⟩ hok hnp).2⟩

end HqModel.Sys

namespace HqModel.SysW
open HqModel

/-- **the progress invariant of the core holds in every reachable state of `SysW`** -/
theorem sysw_core_good (reserve max : Nat) (ops : List Op) (s : State) (outs : List Out)
    (hok : RunOk (initState reserve max) ops) (hnp : RunNPc (initState reserve max) ops)
    (h : run (initState reserve max) ops = .ok (s, outs)) :
    ∃ U, Core.CoreGood U s.sys.core ∧ Job.StateWF s.sys.job ∧ ∀ x ∈ U, Sys.NPX.Known s.sys.job x := by
  obtain ⟨U, hg⟩ := ((NPX.run_wgood ops (NPX.wgood_init reserve max) hok hnp).1 h).good
  exact ⟨U, hg.core, hg.wf, hg.known⟩

/-- **`sysw_never_stops_partial`** (C09, composed with the workers), per step — in every reachable state of `SysW` (a
run from `initState reserve max` whose actions satisfy `RunOk` and `RunNPc`), a world action satisfying
`OpOk s op ∧ OpNPc s op` — in particular the delivery of the message at the head of a worker's queue — never stops
with `.sys (.job _)`, and never with `.sys (.core site)` for a site of the code (`site` starts with `!` otherwise: a
refusal of an invalid recorded choice).

Other `Stop`s remain possible and are not panics of the server: `.sys (.core "!…")`, `.sys badRets / badSubmit /
badCancel`, `worker w e` (the worker model's own stops), `notAllowed`, `noWorker`, `emptyQueue`, `badInput` (wrong
inputs of the composition).

PARTIAL: `OpNPc` is a hypothesis. Its `update` part for a `deliverW2S` (the worker protocol `UpdatesOk UpdNP`, the F27
exclusion `UpdatesOk NoF27`) speaks about the batch the worker model sent; `sysw_fin_proto` proves the corresponding
facts for `Finished` / `Reject` from the pipeline invariant; `sysw_never_stops_pipe` (`Props/C09Pipe.lean`) reduces
`UpdNP` to its `RunIdx` part. `OpOk` contains NO worker-protocol condition (`FinProto`, `UpdProto` are theorems in
`SysW`). -/
theorem sysw_never_stops_partial (reserve max : Nat) (ops : List Op) (s : State) (outs : List Out)
    (hok : RunOk (initState reserve max) ops) (hnp : RunNPc (initState reserve max) ops)
    (h : run (initState reserve max) ops = .ok (s, outs)) (op : Op) (hop : OpOk s op) (hopnp : OpNPc s op) :
    (∀ site, step s op ≠ .error (.sys (.job site))) ∧
    ∀ site, step s op = .error (.sys (.core site)) → site.startsWith "!" = true :=
  ⟨sysw_no_job_panic reserve max ops s outs hok h op hop,
   NPX.wgood_no_core_panic ((NPX.run_wgood ops (NPX.wgood_init reserve max) hok hnp).1 h) hop hopnp⟩

/-- **`sysw_run_never_stops_partial`**, run form — a run of `SysW` from `initState reserve max` whose actions satisfy
`RunOk ∧ RunNPc` never stops with `.sys (.job _)` and never with `.sys (.core site)` for a non-`!` site: no panic of
the server in either layer. (Remaining stops and the partiality: see `sysw_never_stops_partial`.) -/
theorem sysw_run_never_stops_partial (reserve max : Nat) (ops : List Op)
    (hok : RunOk (initState reserve max) ops) (hnp : RunNPc (initState reserve max) ops) :
    (∀ site, run (initState reserve max) ops ≠ .error (.sys (.job site))) ∧
    ∀ site, run (initState reserve max) ops = .error (.sys (.core site)) → site.startsWith "!" = true :=
  ⟨sysw_run_no_job_panic reserve max ops hok,
   (NPX.run_wgood ops (NPX.wgood_init reserve max) hok hnp).2⟩

end HqModel.SysW

/-! ### non-vacuity: the hypotheses are satisfiable on non-trivial runs (all `decide`) -/

namespace HqModel.Sys
section examples

private def stopOf {α : Type} : Except Stop α → Option Stop
  | .error e => some e
  | .ok _ => none

private def rq1 : Core.Rqv := [{ nNodes := 0, entries := [{ res := 0, pol := .amount 10000 }] }]
private def wk1 : Core.Worker := { id := 1, assign := .sn [] [40000] [], total := [40000] }
private def nt (j t : Nat) (deps : List TaskId := []) (cl : Core.CrashLimit := .max 5) : Core.NewTask :=
  { id := (j, t), rq := 0, prio := 0, crashLimit := cl, deps := deps }

/-- the witnesses of `Props/Sys.lean`: a failing task with `max_fails = 0` (consumer reported, remaining task
returned by the job layer and cancelled by the core) -/
private def opsFail : List Op := [
  .newRq rq1, .newWorker wk1,
  .submit none (some 0) (.graph [(0, []), (1, [0]), (2, [])]) [nt 1 0, nt 1 1 [(1, 0)], nt 1 2],
  .schedule { now := 10, sn := [{ rq := 0, v := 0, counts := [(1, 2)], taken := [(1, 0), (1, 2)] }] },
  .update 1 [.running (1, 0) 0] [],
  .update 1 [.failed (1, 0)] [[(1, 2)]]]

/-- a worker lost under two running tasks (crash loop with a never-restart task) -/
private def opsLost : List Op := [
  .newRq rq1, .newWorker wk1,
  .submit none none (.graph [(0, []), (1, [0]), (2, [])]) [nt 1 0 [] .never, nt 1 1 [(1, 0)], nt 1 2],
  .schedule { now := 10, sn := [{ rq := 0, v := 0, counts := [(1, 2)], taken := [(1, 0), (1, 2)] }] },
  .update 1 [.running (1, 0) 0, .running (1, 2) 0] [],
  .removeWorker 1 "lost" true [(1, 0), (1, 2)] [[]]]

/-- a cancel after a finish -/
private def opsCancel : List Op := [
  .newRq rq1, .newWorker wk1,
  .submit none none (.array [⟨0, 3, 1⟩] none) [nt 1 0, nt 1 1, nt 1 2],
  .schedule { now := 10, sn := [{ rq := 0, v := 0, counts := [(1, 2)], taken := [(1, 0), (1, 1)] }] },
  .update 1 [.running (1, 0) 0, .finished (1, 0)] [],
  .cancel 1 [(1, 2), (1, 1)]]

example : RunOk {} opsFail ∧ RunNPc {} opsFail ∧ stopOf (run {} opsFail) = none := by decide +kernel
example : RunOk {} opsLost ∧ RunNPc {} opsLost ∧ stopOf (run {} opsLost) = none := by decide +kernel
example : RunOk {} opsCancel ∧ RunNPc {} opsCancel ∧ stopOf (run {} opsCancel) = none := by decide +kernel

/-- the lifted condition is not vacuous: a second worker with the id of the first violates `OpNPc` (`Core.OpNP`:
the worker id is new to the core) -/
example : ¬ RunNPc {} [.newWorker wk1, .newWorker wk1] := by decide

/-- `coreOpOf` follows `Sys.step`: a refused submit (unknown job) reaches the core with nothing — `OpNPc` is `True`
although the `NewTask` list names a request that does not exist -/
example : coreOpOf {} (.submit (some 7) none (.array [⟨0, 1, 1⟩] none) [nt 7 0]) = none ∧
    OpNPc {} (.submit (some 7) none (.array [⟨0, 1, 1⟩] none) [nt 7 0]) := by decide

/-- … while an accepted one must satisfy `NewTasksOk` (here: request 0 does not exist yet) -/
example : ¬ OpNPc {} (.submit none none (.array [⟨0, 1, 1⟩] none) [nt 1 0]) := by decide

end examples
end HqModel.Sys

namespace HqModel.SysW
section examples

private def stopOf {α : Type} : Except Stop α → Bool
  | .error _ => true
  | .ok _ => false

private def rq1 : Core.Rqv := [{ entries := [⟨0, .amount 5000⟩] }]
private def wkr (id : Nat) : Core.Worker := { id := id, assign := .sn [] [10000] [], total := [10000] }
private def ntk (j : Nat) : Core.NewTask := { id := (1, j), rq := 0, prio := 0, crashLimit := .max 5, deps := [] }

/-- the witnesses of `Props/SysW.lean`: the life of one task through the queues -/
private def opsLife : List Op := [
  .srv (.newRq rq1), .addWorker (wkr 1) [[0]] none,
  .srv (.submit none none (.array [⟨0, 1, 1⟩] none) [ntk 0]),
  .srv (.schedule { now := 10, sn := [{ rq := 0, v := 0, counts := [(1, 1)], taken := [(1, 0)] }] }),
  .deliverS2W 1 [{ rq := 0, alloc := some 7 }],
  .deliverW2S 1 [],
  .wlocal 1 (.taskEnd (enc (1, 0)) .finished []),
  .deliverW2S 1 []]

/-- cancel overtakes the worker: `Running`, `Finished` delivered to a core that forgot the task -/
private def opsCancelRace : List Op := [
  .srv (.newRq rq1), .addWorker (wkr 1) [[0]] none,
  .srv (.submit none none (.array [⟨0, 1, 1⟩] none) [ntk 0]),
  .srv (.schedule { now := 10, sn := [{ rq := 0, v := 0, counts := [(1, 1)], taken := [(1, 0)] }] }),
  .deliverS2W 1 [{ rq := 0, alloc := some 7 }],
  .srv (.cancel 1 [(1, 0)]),
  .wlocal 1 (.taskEnd (enc (1, 0)) .finished []),
  .deliverW2S 1 [], .deliverW2S 1 [], .deliverS2W 1 []]

/-- the retract comes too late: `RunningPrefilled` for a Retracting task (the core takes it back to Running) -/
private def opsRetractRace : List Op := [
  .srv (.newRq rq1), .addWorker (wkr 1) [[0]] none, .addWorker (wkr 2) [[0]] none,
  .srv (.submit none none (.array [⟨0, 3, 1⟩] none) [ntk 0, ntk 1, ntk 2]),
  .srv (.schedule { sn := [{ rq := 0, v := 0, counts := [(1, 1)], taken := [(1, 0)] }], prefillOrders := [(0, [1])] }),
  .srv (.schedule { sn := [{ rq := 0, v := 0, counts := [(2, 2)], taken := [(1, 2), (1, 1)] }] }),
  .deliverS2W 1 [{ rq := 0 }, { rq := 0, alloc := some 1 }],
  .wlocal 1 (.taskEnd (enc (1, 0)) .finished []),
  .deliverS2W 1 [],
  .deliverW2S 1 [], .deliverW2S 1 [], .deliverW2S 1 []]

/-- the worker is lost with three messages in flight -/
private def opsLost : List Op :=
  opsRetractRace.take 8 ++ [.loseWorker 1 "lost" true [(1, 0)] [], .srv (.schedule { sn := [] })]

/-- the four runs satisfy both hypotheses and end without a stop; theorems, because the examples of `Props/C09Pipe.lean`
about the same four lists follow from them -/
theorem witness_life : RunOk {} opsLife ∧ RunNPc {} opsLife ∧ (run {} opsLife).isOk = true := by decide +kernel
theorem witness_cancelRace : RunOk {} opsCancelRace ∧ RunNPc {} opsCancelRace ∧ (run {} opsCancelRace).isOk = true := by
  decide +kernel
theorem witness_retractRace :
    RunOk {} opsRetractRace ∧ RunNPc {} opsRetractRace ∧ (run {} opsRetractRace).isOk = true := by decide +kernel
theorem witness_lost : RunOk {} opsLost ∧ RunNPc {} opsLost ∧ (run {} opsLost).isOk = true := by decide +kernel

private theorem stopOf_ok {α : Type} {r : Except Stop α} (h : r.isOk = true) : stopOf r = false := by
  cases r with
  | ok _ => rfl
  | error _ => cases h

example : RunOk {} opsLife ∧ RunNPc {} opsLife ∧ stopOf (run {} opsLife) = false :=
  ⟨witness_life.1, witness_life.2.1, stopOf_ok witness_life.2.2⟩
example : RunOk {} opsCancelRace ∧ RunNPc {} opsCancelRace ∧ stopOf (run {} opsCancelRace) = false :=
  ⟨witness_cancelRace.1, witness_cancelRace.2.1, stopOf_ok witness_cancelRace.2.2⟩
example : RunOk {} opsRetractRace ∧ RunNPc {} opsRetractRace ∧ stopOf (run {} opsRetractRace) = false :=
  ⟨witness_retractRace.1, witness_retractRace.2.1, stopOf_ok witness_retractRace.2.2⟩
example : RunOk {} opsLost ∧ RunNPc {} opsLost ∧ stopOf (run {} opsLost) = false :=
  ⟨witness_lost.1, witness_lost.2.1, stopOf_ok witness_lost.2.2⟩

/-- `{}` is `initState 1 1` -/
example : (initState 1 1 : State) = {} := rfl

end examples
end HqModel.SysW
