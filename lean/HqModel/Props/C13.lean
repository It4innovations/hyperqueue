import HqModel.Lemmas.JobState
import HqModel.Lemmas.IntArray
import HqModel.Lemmas.JobCompleted
import HqModel.Props.C13Wait
/-!
# C13 — job bookkeeping: counters match tasks, atomic submits, status rules

Property theorems over the job-layer model `HqModel.Job` (M4). `c13_counters`, `c13_status` and `c13_completed_once`
quantify over ALL operation sequences (client requests open / submit / close / cancel / forget with arbitrary id
arrays, entries and task graphs, interleaved with arbitrary tako callbacks), with no bound on their length;
`c13_submit_reject_no_effect` is about one `submit` from an arbitrary state, `c13_auto_ids` / `c13_auto_id_single` about
the id filling for an arbitrary job.
-/
namespace HqModel.C13
open HqModel.Job

/-- **Counters match tasks.** After every run from the empty server state that does not stop with a panic,
each of the five per-state counters of every job equals the number of the job's tasks in that state, task ids
are unique in the job, the counters never exceed the number of tasks (so the u32 subtraction in
`n_waiting_tasks` cannot underflow) and the derived number of waiting tasks is the number of waiting tasks. -/
theorem c13_counters (ops : List Op) (s : State) (evs : List Ev) (h : run {} ops = .ok (s, evs)) :
    ∀ job ∈ s.jobs,
      (keys job.tasks).Nodup ∧
      job.cnt.running = countS job.tasks .running ∧
      job.cnt.finished = countS job.tasks .finished ∧
      job.cnt.failed = countS job.tasks .failed ∧
      job.cnt.canceled = countS job.tasks .canceled ∧
      job.cnt.aborted = countS job.tasks .aborted ∧
      job.cnt.sum ≤ job.nTasks ∧
      job.nWaiting = countS job.tasks .waiting := by
  intro job hj
  have w := (run_wf ops init_wf h).jobs job hj
  have hs := countS_sum job.tasks
  refine ⟨w.nodup, w.running, w.finished, w.failed, w.canceled, w.aborted, ?_, nWaiting_eq w⟩
  simp only [Counters.sum, Job.nTasks, w.running, w.finished, w.failed, w.canceled, w.aborted]; omega

/-- **Job state follows the documented rules** (and `job_status` never hits its final `assert_eq!`)
in every reachable state. -/
theorem c13_status (ops : List Op) (s : State) (evs : List Ev) (h : run {} ops = .ok (s, evs)) :
    ∀ job ∈ s.jobs, job.status = .ok (statusRule job.tasks job.isOpen) :=
  fun job hj => status_eq ((run_wf ops init_wf h).jobs job hj)

/-- **A rejected submit has no effect**: whenever `submit` answers anything but `Ok` (closed / unknown job,
duplicate id, non-unique id, invalid dependency), the state is unchanged, no event is emitted and nothing is
handed to the scheduler. -/
theorem c13_submit_reject_no_effect (s s' : State) (j mf : Option Nat) (d : TaskDesc) (evs : List Ev)
    (resp : SubmitResp) (core : List TaskId)
    (h : s.submit j mf d = .ok (s', evs, resp, core)) (hr : ∀ jid, resp ≠ .ok jid) :
    s' = s ∧ evs = [] ∧ core = [] := by
  rcases submit_cases h with ⟨h1, h2, h3, -⟩ | ⟨j, _, _, _, _, _, _, _, _, _, _, rfl, _⟩ | ⟨_, _, _, _, _, _, rfl, _⟩
  · exact ⟨h1, h2, h3⟩
  · exact absurd rfl (hr j)
  · exact absurd rfl (hr _)

/-- **Auto-assigned ids continue directly after the largest existing id**: for a submit with entries and no
explicit ids into an open job, the ids attached to the job and the ids handed to the scheduler are both
exactly `max+1, …, max+k` for `k` = number of entries (this is the statement that was false before the
`fix:` commit d6e3c5a, see KNOWN_FINDINGS.jsonl). -/
theorem c13_auto_ids (job : Job) (n : Nat) :
    let m := match job.maxId with | some m => m + 1 | none => 0
    (fillIdsOpen job (.array [] (some n))).jobIds = List.range' m n ∧
    (fillIdsOpen job (.array [] (some n))).coreIds = List.range' m n := by
  simp only [fillIdsOpen, List.isEmpty_nil, if_true, TaskDesc.jobIds, TaskDesc.coreIds, fromRange_iter]
  refine ⟨rfl, ?_⟩
  exact List.take_of_length_le (by simp)

/-- the same for a single auto-assigned id (no entries) -/
theorem c13_auto_id_single (job : Job) :
    let m := match job.maxId with | some m => m + 1 | none => 0
    (fillIdsOpen job (.array [] none)).jobIds = [m] ∧ (fillIdsOpen job (.array [] none)).coreIds = [m] := by
  simp only [fillIdsOpen, List.isEmpty_nil, if_true, TaskDesc.jobIds, TaskDesc.coreIds, fromId_iter]
  exact ⟨rfl, rfl⟩

/-- open job 1, submit tasks 0,1 into it, start and finish task 0, fail task 1, close: no panic,
and the theorems above apply to the resulting state (counters 0,1,1,0,0). -/
example :
    (run {} [.openJob none, .submit (some 1) none (.array [⟨0, 2, 1⟩] none),
             .started (1, 0) 0 [1] 0, .finished (1, 0), .failed (1, 1) [], .close 1]).toOption.map
      (fun r => r.1.jobs.map fun j => (j.cnt.running, j.cnt.finished, j.cnt.failed, j.isOpen, j.tasks.length))
    = some [(0, 1, 1, false, 2)] := by decide +kernel

example : (State.submit {} (some 7) none (.array [⟨0, 1, 1⟩] none)).toOption.map (fun r => r.2.2.1)
    = some SubmitResp.jobNotFound := by decide +kernel

/-- **A job is reported completed exactly once, exactly when it is closed and all its tasks are terminal,
never before.** For ALL operation sequences `ops` in which no submit creates a new job without tasks
(`NoEmptySubmit`: every `.submit none _ d` has `d.nonEmpty`; submits into existing jobs are unrestricted) and
every run from the empty server state that does not stop with a panic, with `evs` = all events of the run:

* no job id — also of jobs forgotten meanwhile — has more than one `jobCompleted` event;
* for every job still stored, `jobCompleted` occurs once if the job is closed and has no active task and not
  at all otherwise; and "no active task" (the counters) says that every task of the job is terminal;
* *never before*: the same holds at every earlier moment — after every prefix `ops1` of the run, with `e1` the
  events emitted so far (a prefix of `evs`), a stored job that is still open or still has a waiting / running
  task has no `jobCompleted` event in `e1`, a terminated one has exactly one.

The hypothesis cannot be dropped: see the `example` below (`submit` of an array with `entries = Some(0)`
creates a closed job without tasks that is terminated from the start and never reported). -/
theorem c13_completed_once (ops : List Op) (hne : NoEmptySubmit ops = true) (s : State) (evs : List Ev)
    (h : run {} ops = .ok (s, evs)) :
    (∀ j, evs.count (Ev.jobCompleted j) ≤ 1) ∧
    (∀ job ∈ s.jobs,
      evs.count (Ev.jobCompleted job.id) = (if !job.isOpen && job.hasNoActiveTasks then 1 else 0) ∧
      (job.hasNoActiveTasks = true ↔ ∀ p ∈ job.tasks, p.2.terminal = true)) ∧
    (∀ ops1 ops2, ops = ops1 ++ ops2 → ∃ s1 e1 e2, run {} ops1 = .ok (s1, e1) ∧ evs = e1 ++ e2 ∧
      ∀ job ∈ s1.jobs,
        e1.count (Ev.jobCompleted job.id) = (if !job.isOpen && job.hasNoActiveTasks then 1 else 0)) := by
  have hc := run_completed hne h
  have wf := run_wf ops init_wf h
  refine ⟨hc.1, fun job hj => ⟨hc.2 job hj, hasNoActive_iff (wf.jobs job hj)⟩, ?_⟩
  intro ops1 ops2 hsplit
  subst hsplit
  obtain ⟨s1, e1, e2, h1, _, he⟩ := run_append ops1 ops2 h
  exact ⟨s1, e1, e2, h1, he, (run_completed (NoEmptySubmit_append hne) h1).2⟩

/-- non-vacuity of `c13_completed_once`: open job 1, submit tasks 0,1, close (no completion yet: both tasks
are active), start and finish task 0, fail task 1: the run satisfies the hypotheses, `jobCompleted 1` occurs
exactly once and it is the last event. -/
example :
    let ops : List Op := [.openJob none, .submit (some 1) none (.array [⟨0, 2, 1⟩] none), .close 1,
      .started (1, 0) 0 [1] 0, .finished (1, 0), .failed (1, 1) []]
    NoEmptySubmit ops = true ∧
    (run {} ops).toOption.map (fun r => (r.2.count (Ev.jobCompleted 1), r.2.getLast?, r.1.jobs.map (·.isTerminated)))
      = some (1, some (Ev.jobCompleted 1), [true]) := by decide +kernel

/-- the hypothesis of `c13_completed_once` is needed: a submit with `entries = Some(0)` and no ids creates
a closed job without tasks; it is terminated but `JobCompleted` is never emitted for it. -/
example :
    (run {} [.submit none none (.array [] (some 0))]).toOption.map
      (fun r => (r.2.count (Ev.jobCompleted 1), r.1.jobs.map (·.isTerminated)))
    = some (0, [true]) := by decide +kernel

end HqModel.C13
