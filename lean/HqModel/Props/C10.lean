import HqModel.Lemmas.JournalRestore
import HqModel.Lemmas.JournalFile
/-!
C10 — restart from the journal at every crash point (model M5 Journal: restore.rs, bootstrap.rs, journal/read.rs,
journal/write.rs, the re-run parts of client/submit.rs and job.rs).

Spec: `meaning : List Record → AState` (Journal/Spec.lean), `Producible` (same file), view `RefinesCore`, full
statement `RestoreRefines`.
-/
namespace HqModel.C10
open HqModel.Journal

/-- **c10_restore_refines** (full strength; holds of the code after the fixes 08d60f1 (F9), 05de231 (F10), 360a725
(F11), 40220c7 (F17)). For every producible journal `J` — every prefix of every history the server can write,
including failures before the first start, several submits into an open job, earlier restarts, worker losses of every
reason — `restore J` does not stop (no error, no panic) and yields
* exactly the jobs `meaning J` has (= not completed), in the same order, with the same open flag, `max_fails`, number
  of submits, task table (every task carrying its recorded outcome, or `waiting`) and **job counters that agree with
  the task states** (`RestoredJob.view = AJob.view`);
* `TaskSubmit` batches that contain every task without outcome exactly once, in submit order, with dependencies =
  original dependencies minus completed tasks (restart clause of C03), the instance id = highest recorded + 1 (restart
  clause of C06) and the crash counter = number of recorded failure-losses of its root worker while it ran (restart
  clause of C07), as `handle_new_tasks` applies the adjust map (`batchPending X.batches = (meaning J).pending`);
* the recorded allocation queues, the id counters `max + 1`, the uid of the last `ServerStart`. -/
theorem c10_restore_refines (J : List Record) (hp : Producible J) : RestoreRefines J := by
  obtain ⟨R, X, e, hinv, h2, h3, hq⟩ := restore_inv hp
  refine ⟨R, X, e, h2, h3, ?_, ?_, hinv.uid⟩
  · simp [hq, ← hinv.queues, List.map_map, Function.comp_def]
  · simp [counters, hinv.maxJob, hinv.maxWorker, hinv.maxQueue]

/-- **c10_prefix.** The statement is closed under prefixes: every record boundary of a producible journal is a crash
point at which the theorem applies again. -/
theorem c10_prefix (J K : List Record) (h : Producible (J ++ K)) : Producible J :=
  (Bool.and_eq_true_iff.1 ((producibleFrom_append J K {}).symm.trans h)).1

/-- restore at every crash point of a producible journal (corollary of the two theorems above) -/
theorem c10_every_crash_point (J : List Record) (hp : Producible J) (n : Nat) : RestoreRefines (J.take n) := by
  have e : J.take n ++ J.drop n = J := List.take_append_drop n J
  exact c10_restore_refines (J.take n) (c10_prefix _ (J.drop n) (by rw [e]; exact hp))

/-- **c10_torn_tail.** For every lawful event code (the trusted bincode assumption), every header, every journal `J`
and every strict prefix `p` of one more encoded record: reading `header ++ enc J ++ p` yields exactly the records `J`,
`position` = the end of the last complete record, and `contains_partial_data()` iff `p ≠ []`. -/
theorem c10_torn_tail {ρ : Type} (c : Codec ρ) (hc : c.Lawful) (hdr : Bytes) (J : List ρ) (r : ρ) (p : Bytes)
    (hp : p <+: c.enc r) (hne : p ≠ c.enc r) :
    readAll c hdr (fileOf c hdr J ++ p) =
      some ⟨J, (fileOf c hdr J).length, if p = [] then .clean else .partialTail⟩ := by
  unfold readAll fileOf
  simp only [List.append_assoc, List.drop_left]
  have hl := length_le_flatMap_enc hc J
  obtain ⟨f, hf⟩ : ∃ f, (hdr ++ (J.flatMap c.enc ++ p)).length + 1 = J.length + (f + 1) := by
    refine ⟨(hdr ++ (J.flatMap c.enc ++ p)).length - J.length, ?_⟩
    simp only [List.length_append] at *
    omega
  rw [hf, readLoop_records hc]
  unfold readLoop
  by_cases h0 : p = []
  · subst h0; simp
  · have : p.isEmpty = false := by cases p <;> simp_all
    simp [this, hc.dec_prefix r p hp hne h0, h0]

/-- … hence `load_event_file` on the torn file = `load_event_file` on the clean prefix, plus `truncate_size`. -/
theorem c10_torn_tail_load (c : Codec Record) (hc : c.Lawful) (hdr : Bytes) (J : List Record) (r : Record) (p : Bytes)
    (hp : p <+: c.enc r) (hne : p ≠ c.enc r) :
    loadFile c hdr (fileOf c hdr J ++ p) =
      (match restorerFold J with
       | .ok R => .ok (if p = [] then R else { R with truncate := some (fileOf c hdr J).length })
       | .error e => .error e) := by
  simp only [loadFile, c10_torn_tail c hc hdr J r p hp hne]
  cases restorerFold J with
  | error e => rfl
  | ok R => by_cases h0 : p = [] <;> simp [h0]

/-- **c10_truncate_append.** Re-opening with `create_or_append(path, Some(position))` cuts the torn tail, and whatever is
appended afterwards reads back as `J ++ K` with a clean end. -/
theorem c10_truncate_append {ρ : Type} (c : Codec ρ) (hc : c.Lawful) (hdr : Bytes) (J K : List ρ) (r : ρ) (p : Bytes) :
    readAll c hdr (truncateAppend c (fileOf c hdr J ++ p) (fileOf c hdr J).length K) =
      some ⟨J ++ K, (fileOf c hdr (J ++ K)).length, .clean⟩ := by
  rw [truncateAppend_eq]
  have := c10_torn_tail c hc hdr (J ++ K) r [] (List.nil_prefix) (fun h => hc.enc_ne r h.symm)
  simpa using this

/-! ### The hypotheses are satisfiable; the codec laws are satisfiable -/

def sample : List Record :=
  [.serverStart "abc123", .workerConnected 1 none, .jobOpen 1 (some 1),
   .submit 1 false (some 1) (.graph [⟨0, [], true⟩, ⟨1, [0], true⟩, ⟨2, [0, 1], true⟩]),
   .taskStarted 1 0 0 [1], .taskFinished 1 0, .taskStarted 1 1 0 [1], .workerLost 1 .heartbeatLost,
   .submit 2 true none (.array [⟨0, 3, 1⟩] none), .tasksCanceled [(2, 1)], .jobCancel 2]

example : Producible sample := by decide

example : (meaning sample).pending = [(1, 1, [], 1, 1), (1, 2, [1], 0, 0), (2, 0, [], 0, 0), (2, 2, [], 0, 0)] := by
  decide

example : (⟨fun _ => [0], fun b => match b with | [] => .eof | _ :: _ => .ok () 1⟩ : Codec Unit).Lawful :=
  ⟨fun _ _ => rfl, fun _ => by simp, fun _ p hp hne h0 => by
    cases p with
    | nil => exact absurd rfl h0
    | cons a as =>
      exfalso
      have := List.IsPrefix.length_le hp
      cases as with
      | nil => obtain ⟨t, ht⟩ := hp; simp at ht; exact hne (by simp [ht.1])
      | cons _ _ => simp at this⟩

/-! ### Regression witnesses of the defects fixed in /repo (each was replayed on the pre-fix code, see
/verif/notes/journal.md and /verif/corpus/journal/); on the fixed code — which the model follows — they restore fine. -/

/-- F9 (fixed by 08d60f1): a task fails before its first start (worker-side launch error: `try_start_task` →
`WorkerTaskUpdate::Failed` without `Running`). Pre-fix: `job.tasks.get_mut(..).unwrap()` on `None` → panic. -/
def witnessF9 : List Record :=
  [.serverStart "abc123", .submit 1 true none (.array [⟨0, 2, 1⟩] none), .workerConnected 1 none, .taskFailed 1 0]

theorem c10_f9_regression : Producible witnessF9 ∧
    ∃ R X, restore witnessF9 = .ok (R, X) ∧
      X.jobs.map RestoredJob.view = [(1, false, none, 1, [(0, .failed), (1, .waiting)], ⟨0, 0, 1, 0, 0⟩)] ∧
      batchPending X.batches = [(1, 1, [], 0, 0)] := by
  exact ⟨by decide, _, _, rfl, rfl, rfl⟩

/-- F10 (fixed by 05de231): an open job with two submits. Pre-fix the counters loop of `restore_job` ran over ALL
`job.tasks` once per submit: `n_finished_tasks = 2` with one finished task, `Job::is_terminated()` although task 1 had
not run. -/
def witnessF10 : List Record :=
  [.serverStart "abc123", .jobOpen 1 none, .submit 1 false none (.array [⟨0, 1, 1⟩] none), .workerConnected 1 none,
   .taskStarted 1 0 0 [1], .taskFinished 1 0, .submit 1 false none (.array [⟨1, 1, 1⟩] none), .jobClose 1]

theorem c10_f10_regression : Producible witnessF10 ∧
    ∃ R X, restore witnessF10 = .ok (R, X) ∧ (X.jobs.map (·.counters)) = [⟨0, 1, 0, 0, 0⟩] := by
  exact ⟨by decide, _, _, rfl, rfl⟩

/-- F11 + F17 (fixed by 360a725, 40220c7): task 1.0 crashes once on worker 1 and is started again on worker 2 (pre-fix:
crash counter reset to 0); the multi-node task 1.1 runs on [2, 3] and loses its non-root worker 3 (pre-fix: a crash was
charged). Now the core gets crash counters 1 and 0. -/
def witnessF11F17 : List Record :=
  [.serverStart "abc123", .submit 1 true none (.array [⟨0, 2, 1⟩] none), .workerConnected 1 none, .workerConnected 2 none,
   .workerConnected 3 none, .taskStarted 1 0 0 [1], .workerLost 1 .connectionLost, .taskStarted 1 0 1 [2],
   .taskStarted 1 1 0 [2, 3], .workerLost 3 .heartbeatLost]

theorem c10_f11_f17_regression : Producible witnessF11F17 ∧
    ∃ R X, restore witnessF11F17 = .ok (R, X) ∧ batchPending X.batches = [(1, 0, [], 2, 1), (1, 1, [], 1, 0)] := by
  exact ⟨by decide, _, _, rfl, rfl⟩

end HqModel.C10
