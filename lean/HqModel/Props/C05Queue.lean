import HqModel.Props.C05
import HqModel.Props.C03
import HqModel.Lemmas.CoreQueueWitness
/-!
# C05 — the queue / dependency clause of the sanity checks is part of the inductive invariant

`c05_inv_partial`, `c05_resinv_reachable`, `c05_worker_task_wf` (and the C03/C06/C07 run theorems) assume, for every
scheduling round of the run, `Core.QueueOkD s` — a fact about the STATE the round starts from (the queue/dependency
clause of `TaskQueues::sanity_check` / `Core::sanity_check`). Here it is proved to hold in every reachable state,
as part of a stronger invariant `Core.QInv` (`Lemmas/CoreQueue*.lean`), for every run in which no task id is
submitted twice (`Core.NoIdReuse`, a decidable fact about the input; `c05_queue_reuse_witness`: it cannot be
dropped). What remains as side conditions (`Core.OpOk5`) are facts about the inputs of the operations:

* `newWorker`: a fresh record; `newRq`: every resource index once;
* `update`: the Reject protocol condition (`c05_reject_witness`) and `NoSaturation` (finding F29);
* `schedule`: `SolMnOk` — multi-node placements only for multi-node requests.

`Core.QInv U none [] s` (`U` = the ids submitted so far):
* task ids unique; every id in the map / in a consumer list / in a queue was submitted;
* consumer lists have no duplicates; no task of the map is Finished (at operation boundaries);
* **dependency count**: for every task `c` of the map, the number of tasks that list `c` as a consumer is at most
  `n` if `c` is `Waiting n` and 0 in every other state (`≤`, not `=`: a dependency named twice in a submit is
  counted twice by `on_new_tasks` and registered once);
* **queues**: every id in ready/prefill queue `i` is, if it is a task of the map, a task of request `i` that is not
  `Waiting (n+1)`, and no task of the map lists it as a consumer.
-/
namespace HqModel.C05
open HqModel.Core

/-- **The queue / dependency invariant holds in every reachable state**: for every run from the empty core whose
operations satisfy `OpOk5` and in which no task id is submitted twice, the state reached satisfies `QueueOkD` and
(a) every id in queue `i` was submitted, is (if known) a task of request `i` whose dependency counter is 0 (it is
`Waiting 0` or not Waiting at all) and is listed by nobody; (b) the
dependency count; (c) no task is Finished, consumer lists have no duplicates, only submitted ids occur. -/
theorem c05_queue_inv_reachable (ops : List Op) (s : State) (out : Out) (hok : RunOk OpOk5 {} ops)
    (hr : NoIdReuse ops) (hrun : run {} ops = .ok (s, out)) :
    QueueOkD s ∧
    (∀ (i : Nat) (q : Queue) (id : TaskId), s.queues[i]? = some q → id ∈ qIds q →
      id ∈ allNewIds ops ∧ (∀ t, s.task? id = some t → t.rq = i) ∧
      (∀ t, s.task? id = some t → ∀ n, t.state ≠ .waiting (n + 1)) ∧ ∀ dt ∈ s.tasks, id ∉ dt.consumers) ∧
    (∀ (c : TaskId) (t : Task), s.task? c = some t →
      (s.tasks.filter fun dt => decide (c ∈ dt.consumers)).length ≤ slack t.state) ∧
    (∀ t ∈ s.tasks, t.state ≠ .finished ∧ t.consumers.Nodup ∧ t.id ∈ allNewIds ops ∧
      ∀ c ∈ t.consumers, c ∈ allNewIds ops) := by
  obtain ⟨_, hq⟩ := run_queue_full hok hr hrun
  refine ⟨hq.queueOkD, ?_, ?_, ?_⟩
  · intro i q id hqi hid
    obtain ⟨g1, g2, g3, g4⟩ := hq.qg i q hqi id hid
    refine ⟨g1, g2, ?_, fun dt hdt hc => ?_⟩
    · intro t ht n hs
      have := g4 t ht
      rw [hs] at this
      simp at this
    · have := g3 dt hdt hc
      cases this
  · intro c t ht
    have := hq.cnt c t ht
    simp only [owed_nil, Nat.add_zero] at this
    have e : nL none s.tasks c = (s.tasks.filter fun dt => decide (c ∈ dt.consumers)).length := by
      unfold nL
      rw [List.countP_eq_length_filter]
      congr 1
      refine List.filter_congr fun dt _ => ?_
      simp [lst]
    rw [← e]; exact this
  · intro t ht
    refine ⟨fun e => ?_, hq.cnd t ht, hq.uT t ht, hq.uC t ht⟩
    have := hq.fin t ht e
    cases this

/-- in particular: a task that is not Waiting, or is `Waiting 0`, is listed by nobody (all its registered
dependencies have finished) -/
theorem c05_ready_unlisted (ops : List Op) (s : State) (out : Out) (hok : RunOk OpOk5 {} ops)
    (hr : NoIdReuse ops) (hrun : run {} ops = .ok (s, out)) (c : TaskId) (t : Task) (ht : s.task? c = some t)
    (hs : ∀ n, t.state ≠ .waiting (n + 1)) : ∀ dt ∈ s.tasks, c ∉ dt.consumers := by
  obtain ⟨_, hq⟩ := run_queue_full hok hr hrun
  intro dt hdt hc
  have := hq.nl_of_slack ht (slack_eq_zero hs) dt hdt hc
  cases this

/-- **`QueueOkD` is redundant**: a run from the empty core that satisfies the remaining side conditions `OpOk5`
and submits no id twice satisfies the side conditions `OpOk4` of `c05_resinv_reachable` … -/
theorem c05_queue_redundant (ops : List Op) (hok : RunOk OpOk5 {} ops) (hr : NoIdReuse ops) : RunOk OpOk4 {} ops :=
  runOk4_of_runOk5 hok hr

/-- … and, without any saturation condition, `OpOk2q` (= `OpOk2` without `QueueOkD`) implies `OpOk2`, the side
condition of `c05_worker_task_wf` and of the C03 / C06 / C07 run theorems -/
theorem c05_queue_redundant2 (ops : List Op) (hok : RunOk OpOk2q {} ops) (hr : NoIdReuse ops) : RunOk OpOk2 {} ops :=
  runOk2_of_runOk2q hok hr

/-- the step form: the full invariant `C05Full ∧ QInv` is preserved by EVERY operation under `StepHyp5`,
`NoSaturation` and freshness of the submitted ids (`U` = ids submitted before) -/
theorem c05_queue_step (U : List TaskId) (s s' : State) (op : Op) (out : Out) (hi : C05Full s)
    (hq : QInv U none [] s) (hstep : StepHyp5 s op) (hns : NoSaturation s op)
    (hfresh : ∀ x ∈ op.newIds, x ∉ U) (hnd : op.newIds.Nodup) (h : step s op = .ok (s', out)) :
    C05Full s' ∧ QInv (U ++ op.newIds) none [] s' :=
  ⟨c05_step_full hi (hstep.hyp4 hq.queueOkD) hns h,
   step_q hq hi.invF.inv (OpOk5.ok2q ⟨hstep, hns⟩).sol hfresh hnd h⟩

/-! ### the history theorems without the queue hypothesis -/

/-- `c05_resinv_reachable` without `QueueOkD`: **the server never overbooks**, for all operation sequences -/
theorem c05_resinv_reachable' (ops : List Op) (s : State) (out : Out)
    (hok : RunOk OpOk5 {} ops) (hr : NoIdReuse ops) (hrun : run {} ops = .ok (s, out))
    (w : Nat) (wk : Worker) (A : List TaskId) (F : List Nat) (P : List TaskId)
    (hw : s.worker? w = some wk) (ha : wk.assign = .sn A F P) (r : Nat) :
    getD F r + (A.map fun t => need wk.total (s.reserved t) r).sum = getD wk.total r :=
  c05_resinv_reachable ops s out (runOk4_of_runOk5 hok hr) hrun w wk A F P hw ha r

theorem c05_free_le_total' (ops : List Op) (s : State) (out : Out)
    (hok : RunOk OpOk5 {} ops) (hr : NoIdReuse ops) (hrun : run {} ops = .ok (s, out))
    (w : Nat) (wk : Worker) (A : List TaskId) (F : List Nat) (P : List TaskId)
    (hw : s.worker? w = some wk) (ha : wk.assign = .sn A F P) (r : Nat) : getD F r ≤ getD wk.total r :=
  c05_free_le_total ops s out (runOk4_of_runOk5 hok hr) hrun w wk A F P hw ha r

/-- `c05_worker_task_wf` without `QueueOkD`: the worker ↔ task half of the sanity checks in every reachable state -/
theorem c05_worker_task_wf' (ops : List Op) (s : State) (out : Out)
    (hok : RunOk OpOk2q {} ops) (hr : NoIdReuse ops) (hrun : run {} ops = .ok (s, out)) :
    (∀ w wk A F P t, s.worker? w = some wk → wk.assign = .sn A F P → t ∈ A →
      ∃ task, s.task? t = some task ∧ ((∃ v, task.state = .assigned w v) ∨ (∃ v, task.state = .running w v) ∨
        (∃ w0 v, task.state = .retracting w0 ∧ (t, w, v) ∈ s.redirects))) ∧
    (∀ w wk A F P t, s.worker? w = some wk → wk.assign = .sn A F P → t ∈ P →
      ∃ task, s.task? t = some task ∧ task.state = .prefilled w) ∧
    (∀ w wk t root st, s.worker? w = some wk → wk.assign = .mn t root st →
      ∃ task l, s.task? t = some task ∧ task.state = .runningMN l ∧ w ∈ l) ∧
    (∀ t task w v, s.task? t = some task → (task.state = .assigned w v ∨ task.state = .running w v) →
      ∃ wk A F P, s.worker? w = some wk ∧ wk.assign = .sn A F P ∧ t ∈ A) ∧
    (∀ t task w, s.task? t = some task → task.state = .prefilled w →
      ∃ wk A F P, s.worker? w = some wk ∧ wk.assign = .sn A F P ∧ t ∈ P) ∧
    (∀ t task l x, s.task? t = some task → task.state = .runningMN l → x ∈ l →
      ∃ wk root st, s.worker? x = some wk ∧ wk.assign = .mn t root st) ∧
    (∀ t w v, (t, w, v) ∈ s.redirects → (∃ task w0, s.task? t = some task ∧ task.state = .retracting w0) ∧
      t ∈ asgW s.workers w ∧ ∀ w' v', (t, w', v') ∈ s.redirects → w' = w ∧ v' = v) :=
  c05_worker_task_wf ops s out (runOk2_of_runOk2q hok hr) hrun

/-- `C03.c03_compute_only_ready_run` without `QueueOkD`: only ready tasks are sent, every step of every run -/
theorem c03_compute_only_ready_run' (pre post : List Op) (op : Op) (s s' : State) (out out' : Out)
    (hok : RunOk OpOk2q {} (pre ++ op :: post)) (hr : NoIdReuse (pre ++ op :: post))
    (hrun : run {} pre = .ok (s, out)) (hstep : step s op = .ok (s', out')) (w : Nat)
    (items : List (TaskId × Nat × Option Nat × List Nat)) (hm : Msg.compute w items ∈ out'.msgs)
    (it : TaskId × Nat × Option Nat × List Nat) (hit : it ∈ items) :
    (∃ task, s.task? it.1 = some task) ∧ ∀ dt ∈ s.tasks, it.1 ∉ dt.consumers :=
  C03.c03_compute_only_ready_run pre post op s s' out out' (runOk2_of_runOk2q hok hr) hrun hstep w items hm it hit

/-- `C03.c03_consumers_waiting_reachable` without `QueueOkD` -/
theorem c03_consumers_waiting_reachable' (ops : List Op) (s : State) (out : Out)
    (hok : RunOk OpOk2q {} ops) (hr : NoIdReuse ops) (hrun : run {} ops = .ok (s, out))
    (d c : TaskId) (dt ct : Task) (hd : s.task? d = some dt) (hc : c ∈ dt.consumers) (hct : s.task? c = some ct) :
    ∃ n, ct.state = .waiting n :=
  C03.c03_consumers_waiting_reachable ops s out (runOk2_of_runOk2q hok hr) hrun d c dt ct hd hc hct

/-! ### `NoIdReuse` cannot be dropped -/

/-- **`NoIdReuse` is necessary**: a run that satisfies all remaining side conditions (and `OpOk4` up to the
resubmission) but submits the id (1,1) twice — the first record left the map by a `Finished` while it was Retracting
in the ready queue, `remove_task` of a Finished task does not touch the queues, so the id stayed in queue 0 — reaches
a state in which `QueueOkD` is false (the id is in queue 0 and a task of request 1); the next scheduling round places
it with the amounts of request 0 and the resource equation of worker 1 is false afterwards. -/
theorem c05_queue_reuse_witness :
    RunOk OpOk5 {} (reuseQOps ++ [reuseQOp]) ∧ RunOk OpOk4 {} reuseQOps ∧ ¬ NoIdReuse (reuseQOps ++ [reuseQOp]) ∧
    (∃ s out, run {} reuseQOps = .ok (s, out) ∧ ¬ QueueOkD s) ∧
    (∃ s out, run {} (reuseQOps ++ [reuseQOp]) = .ok (s, out) ∧ resAtB s 1 0 = false) := by
  obtain ⟨h1, h2, h3, h4, _, _, h5⟩ := reuseQ_witness
  obtain ⟨⟨s, out⟩, hr, e4⟩ := toOption_map_some h4
  obtain ⟨⟨s', out'⟩, hr', e5⟩ := toOption_map_some h5
  exact ⟨h1, h2, h3, ⟨s, out, hr, of_decide_eq_false e4⟩, ⟨s', out', hr', congrArg Prod.fst e5⟩⟩

/-- **The stronger clause "every queued id is a task of the map" is FALSE of the model** (so the invariant is stated
conditionally, like `QueueOkD`): a run satisfying `OpOk4` and `NoIdReuse` after which (1,1) is in ready queue 0 and
not in the map — the core accepted `Finished` for a task that was Retracting in the ready queue (`task_finished` has
an arm for it; `remove_task` of a Finished task does not touch the queues) — and the scheduling round that takes the
stale id stops with the panic `get_task`. Needs a worker that reports `Finished` for a task it never reported
`Running`; a C09-type observation, not reachable with the real worker. -/
theorem c05_queue_stale_witness :
    RunOk OpOk4 {} (reuseQOps.take 6 ++ [reuseQOp]) ∧ NoIdReuse (reuseQOps.take 6 ++ [reuseQOp]) ∧
    (∃ s out, run {} (reuseQOps.take 6) = .ok (s, out) ∧ (∃ q, s.queues[0]? = some q ∧ (1, 1) ∈ qIds q) ∧
      s.task? (1, 1) = none) ∧
    run {} (reuseQOps.take 6 ++ [reuseQOp]) = .error (.panic "get_task") := by
  obtain ⟨h1, h2, h3, h5⟩ := staleQ_witness
  obtain ⟨⟨s, out⟩, hr, hc⟩ := Run.of_okAnd h3
  rw [Bool.and_eq_true, Option.any_eq_true, Option.isNone_iff_eq_none] at hc
  obtain ⟨⟨q, hq, hm⟩, hn⟩ := hc
  refine ⟨h1, h2, ⟨s, out, hr, ⟨q, hq, of_decide_eq_true hm⟩, hn⟩, ?_⟩
  · cases hrun : run {} (reuseQOps.take 6 ++ [reuseQOp]) with
    | ok r => rw [hrun] at h5; exact absurd (show "ok" = "get_task" from h5) (by decide)
    | error e =>
      rw [hrun] at h5
      cases e with
      | panic site => rw [show site = "get_task" from h5]

/-- **the dependency count is `≤`, not `=`** (`dupDep_witness`): a dependency named twice in one submit is counted
twice and registered once; after it finished the consumer is `Waiting 1`, listed by nobody, in no queue. -/
theorem c05_queue_dup_dep_witness :
    RunOk OpOk4 {} dupDepOps ∧ NoIdReuse dupDepOps ∧
    ((run {} dupDepOps).toOption.map fun r => r.1.tasks.map fun t => (t.id, t.consumers, t.state)) =
      some [((1, 1), [], .waiting 1)] ∧
    ((run {} dupDepOps).toOption.map fun r => r.1.queues.map fun q => qIds q) = some [[]] :=
  ⟨dupDep_witness.1, dupDep_witness.2.1, dupDep_witness.2.2.2.1, dupDep_witness.2.2.2.2⟩

/-! ### non-vacuity -/

/-- the dependency run `depOps` (task (1,1) depends on (1,0)) and the F29 run satisfy `OpOk5` and `NoIdReuse` -/
example : RunOk OpOk5 {} depOps ∧ NoIdReuse depOps ∧ RunOk OpOk5 {} f29Ops ∧ NoIdReuse f29Ops :=
  ⟨RunOk.mono (fun _ _ h => h.ok5) _ _ depOps_ok.1, depOps_ok.2.1, by decide +kernel, by decide +kernel⟩

/-- while (1,0) is running, (1,1) is `Waiting 1`, listed once (count 1 ≤ 1), and in no queue; after (1,0) finished it
is `Waiting 0`, listed by nobody, and in the ready queue of its request -/
example :
    ((run {} (depOps.take 5)).toOption.map fun r => r.1.tasks.map fun t => (t.id, t.consumers, t.state)) =
      some [((1, 0), [(1, 1)], .running 1 0), ((1, 1), [], .waiting 1)] ∧
    ((run {} (depOps.take 5)).toOption.map fun r => r.1.queues.map fun q => qIds q) = some [[]] ∧
    ((run {} (depOps.take 6)).toOption.map fun r => r.1.tasks.map fun t => (t.id, t.consumers, t.state)) =
      some [((1, 1), [], .waiting 0)] ∧
    ((run {} (depOps.take 6)).toOption.map fun r => r.1.queues.map fun q => qIds q) = some [[(1, 1)]] :=
  ⟨by decide +kernel, by decide +kernel, by decide +kernel, by decide +kernel⟩

/-- in the F29 run two tasks are queued / prefilled when the round starts: the clause is not vacuous there -/
example : ((run {} (f29Ops.take 4)).toOption.map fun r => decide (QueueOkD r.1)) = some true ∧
    ((run {} (f29Ops.take 4)).toOption.map fun r => r.1.queues.map fun q => qIds q) = some [[(1, 2), (1, 1)]] :=
  by decide +kernel

end HqModel.C05
