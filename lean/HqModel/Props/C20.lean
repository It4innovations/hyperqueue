import HqModel.Props.C20Sites
import HqModel.Lemmas.AuthInv
/-!
# C20 — connections are accepted only from peers holding the same key and the right role

Model: `HqModel/Auth/Model.lean` (the three `Authenticator` functions as coded) and
`HqModel/Auth/Trace.lean` (unbounded Dolev–Yao trace system).  Premises of the symbolic model
(= trusted cryptographic assumptions, see `checks/props_stream_auth.py`): AEAD unforgeability incl. first-chunk /
tag binding (`openC_eq_some`), freshness + unpredictability of `secure_rand_bytes` (side condition of
`Action.start`), honest keys not known to the adversary (`k ∉ adv`).
-/
namespace HqModel.C20
open HqModel.Auth

/-- **Completeness.** Two honest endpoints with the same key option, the same protocol number and
complementary roles, undisturbed exchange (16-byte challenges, any nonces): both accept. -/
theorem c20_complete (cfgA cfgB : Config) (chalA chalB : Bytes) (nA nB : Nat)
    (hkey : cfgA.key = cfgB.key) (hproto : cfgA.protocol = cfgB.protocol)
    (hAB : cfgA.peerRole = cfgB.myRole) (hBA : cfgB.peerRole = cfgA.myRole)
    (hlA : chalA.length = challengeLength) (hlB : chalB.length = challengeLength) :
    run2 cfgA cfgB chalA chalB nA nB = (true, true) := by
  obtain ⟨pA, mA, rA, kA⟩ := cfgA
  obtain ⟨pB, mB, rB, kB⟩ := cfgB
  simp only at hkey hproto hAB hBA
  subst hkey hproto hAB hBA
  cases kA <;>
    simp [run2, makeRequest, makeResponse, finish, Authenticator.new, openC, hlA, hlB]

/-- Whatever an endpoint accepts at the end, the request it received before carried ITS protocol number,
the role IT expects of the peer and the authentication mode that fits ITS key (with a 16-byte challenge):
the error latch makes every rejected request fatal, whatever response arrives afterwards. -/
theorem c20_accept_request_checked (a : Authenticator) (req : Request) (n : Nat) (resp : Response)
    (h : finish (makeResponse a req n).1 resp = true) :
    req.protocol = a.protocol ∧ req.role = a.peerRole ∧
      ((req.mode = .noAuth ∧ a.key = none) ∨
       (∃ c k, req.mode = .encryption c ∧ a.key = some k ∧ c.length = challengeLength)) := by
  rcases makeResponse_cases a req n with e | ⟨hp, hr, ⟨hm, hk, _⟩ | ⟨c, k, hm, hk, hl, _⟩⟩
  · rw [e, finish_latched rfl] at h; cases h
  · exact ⟨hp, hr, .inl ⟨hm, hk⟩⟩
  · exact ⟨hp, hr, .inr ⟨c, k, hm, hk, hl⟩⟩

theorem accept_agrees {a b : Authenticator} {reqA reqB : Request} {nA nB : Nat}
    (hA : reqA.protocol = a.protocol ∧ reqA.role = a.myRole) (hB : reqB.protocol = b.protocol ∧ reqB.role = b.myRole)
    (h : finish (makeResponse a reqB nA).1 (makeResponse b reqA nB).2 = true) :
    a.key = b.key ∧ a.protocol = b.protocol ∧ a.peerRole = b.myRole ∧ b.peerRole = a.myRole := by
  obtain ⟨hp, hr, _⟩ := c20_accept_request_checked a reqB nA _ h
  -- the reply `a` accepts is one `b` made in `a`'s key mode (with `a`'s key, if any) after checking the role in `a`'s request
  have hkr : a.key = b.key ∧ reqA.role = b.peerRole := by
    cases hk : a.key with
    | none =>
      have hn := ((finish_keyless (by rw [makeResponse_key, hk]) _).mp h).2
      rcases makeResponse_cases b reqA nB with e | ⟨_, hr', ⟨_, hkb, _⟩ | ⟨_, _, _, _, _, e⟩⟩
      · rw [e] at hn; cases hn
      · exact ⟨hkb.symm, hr'⟩
      · rw [e] at hn; cases hn
    | some k =>
      obtain ⟨_, n, hn⟩ := (finish_keyed (by rw [makeResponse_key, hk]) _).mp h
      obtain ⟨k', _, hkb, _, _, _, hct, _, hr'⟩ := makeResponse_encryption hn
      exact ⟨(Cipher.seal.inj hct).1 ▸ hkb.symm, hr'⟩
  exact ⟨hkr.1, hB.1 ▸ hp.symm, hB.2 ▸ hr.symm, hkr.2 ▸ hA.2⟩

/-- **Mismatch.** Undisturbed exchange, but the configurations differ in ANY of: key option (different
keys, or a key on one side only), protocol number, A's expectation of B's role, B's expectation of A's
role: both refuse (whatever the challenges and nonces are). -/
theorem c20_mismatch (cfgA cfgB : Config) (chalA chalB : Bytes) (nA nB : Nat)
    (h : cfgA.key ≠ cfgB.key ∨ cfgA.protocol ≠ cfgB.protocol ∨
         cfgA.peerRole ≠ cfgB.myRole ∨ cfgB.peerRole ≠ cfgA.myRole) :
    run2 cfgA cfgB chalA chalB nA nB = (false, false) := by
  have hA := accept_agrees (nA := nA) (nB := nB) (makeRequest_req (.new cfgA) chalA) (makeRequest_req (.new cfgB) chalB)
  have hB := accept_agrees (nA := nB) (nB := nA) (makeRequest_req (.new cfgB) chalB) (makeRequest_req (.new cfgA) chalA)
  simp only [makeRequest_key, makeRequest_protocol, makeRequest_peerRole, makeRequest_myRole, Authenticator.new]
    at hA hB
  simp only [run2, Prod.mk.injEq, Bool.eq_false_iff]
  refine ⟨fun hacc => ?_, fun hacc => ?_⟩
  · obtain ⟨h1, h2, h3, h4⟩ := hA hacc
    exact h.elim (· h1) fun h => h.elim (· h2) fun h => h.elim (· h3) (· h4)
  · obtain ⟨h1, h2, h3, h4⟩ := hB hacc
    exact h.elim (· h1.symm) fun h => h.elim (· h2.symm) fun h => h.elim (· h4) (· h3)

/-- **Authentication (injective agreement, with recentness), for every reachable state of the unbounded
trace system** — any number of sessions, any interleaving, any adversary behaviour.

(1) If session `i` holds a key `k` the adversary does not know and has ACCEPTED, then there is a logged
responded-event `e` of an honest session `τ` such that: `τ` holds the same key `k`; `τ` acts in the role
that `σ` expects of its peer; `e` answers exactly `σ`'s challenge; the response `σ` consumed is exactly
the (nonce, seal) of that event; `e` happened after `σ` started; `τ` has indeed responded.
(2) Injectivity: two different keyed sessions never agree with the same event.

`role_chal_inj` is used in `Inv.deliverResponse` (field `accepted`): the opened plaintext equals
`peer_role ++ challenge` and, by `seal_origin`, also `e.role ++ e.chal`; both challenges have 16 bytes. -/
theorem c20_auth {adv : List Nat} {s : State} (hr : Reachable adv s) :
    (∀ {i σ k}, s.sessions i = some σ → σ.result = some true → σ.auth.key = some k → k ∉ adv →
      ∃ e ∈ s.log, Agrees σ k e ∧ σ.startTime < e.time ∧
        ∃ τ, s.sessions e.sid = some τ ∧ τ.auth.key = some k ∧ τ.auth.myRole = σ.auth.peerRole ∧
          τ.phase ≠ .awaitRequest) ∧
    (∀ {i j σi σj ki kj ei ej}, i ≠ j → s.sessions i = some σi → s.sessions j = some σj →
      σi.auth.key = some ki → σj.auth.key = some kj → Agrees σi ki ei → Agrees σj kj ej → ei ≠ ej) := by
  have inv := hr.inv
  constructor
  · intro i σ k hs hacc hk hadv
    obtain ⟨e, he, hag⟩ := inv.accepted hs hacc hk hadv
    obtain ⟨τ, hτ, h1, h2, h3, _, _⟩ := inv.event_origin he
    refine ⟨e, he, hag, inv.recent he hs hk hag.2.2.1, τ, hτ, ?_, ?_, h3⟩
    · rw [h1, hag.1]
    · rw [h2, hag.2.1]
  · intro i j σi σj ki kj ei ej hij hi hj hki hkj hai haj heq
    apply inv.chal_distinct hi hj hki hkj hij
    rw [← hai.2.2.1, ← haj.2.2.1, heq]

/-- No reflection: when an endpoint's own role differs from the role it expects (true for all four
declared role pairs), the session whose answer it accepted is a *different* session. -/
theorem c20_no_reflection {adv : List Nat} {s : State} (hr : Reachable adv s) {i : Nat} {σ : Session}
    {k : Nat} (hs : s.sessions i = some σ) (hacc : σ.result = some true) (hk : σ.auth.key = some k)
    (hadv : k ∉ adv) (hroles : σ.auth.myRole ≠ σ.auth.peerRole) :
    ∃ e ∈ s.log, Agrees σ k e ∧ e.sid ≠ i := by
  obtain ⟨e, he, hag, _, τ, hτ, _, hrole, _⟩ := (c20_auth hr).1 hs hacc hk hadv
  refine ⟨e, he, hag, ?_⟩
  intro heq
  rw [heq, hs] at hτ
  cases hτ
  exact hroles hrole

/-- `my_role ++ challenge` is concatenated without a separator; the pair is still determined because the
responder only answers 16-byte challenges and the requester's own challenge has 16 bytes. -/
theorem c20_role_chal_inj {r₁ c₁ r₂ c₂ : Bytes} (h : r₁ ++ c₁ = r₂ ++ c₂)
    (hl : c₁.length = c₂.length) : r₁ = r₂ ∧ c₁ = c₂ :=
  role_chal_inj h hl

/-- What a keyed endpoint accepts, exactly: its latch is clear and the response is the seal, under ITS key
and the announced nonce, of `peer_role ++ its own challenge`.  Hence a replayed answer (other challenge),
a reflected one (own role inside), a cross-role one, a bit-flipped ciphertext or nonce, `NoAuth` and
`Error` are all refused. -/
theorem c20_keyed_accepts_only_answer {a : Authenticator} {k : Nat} (hk : a.key = some k) (resp : Response) :
    finish a resp = true ↔
      a.error = false ∧ ∃ n, resp = .encryption n (.seal k n (a.peerRole ++ a.challenge)) :=
  finish_keyed hk resp

/-- Key-less endpoints (configured behaviour, "same key" is vacuous): ANY peer that presents the expected
protocol number and role in a `NoAuth` request and then sends `NoAuth` is accepted; nothing else is. -/
theorem c20_keyless (cfg : Config) (hk : cfg.key = none) (chal : Bytes) (req : Request) (n : Nat)
    (hp : req.protocol = cfg.protocol) (hr : req.role = cfg.peerRole) (hm : req.mode = .noAuth) :
    let a1 := (makeRequest (.new cfg) chal).1
    (makeResponse a1 req n).2 = .noAuth ∧
    ∀ resp, finish (makeResponse a1 req n).1 resp = true ↔ resp = .noAuth := by
  obtain ⟨p, m, r, k⟩ := cfg
  obtain ⟨rp, rr, rm⟩ := req
  simp only at hk hp hr hm
  subst hk hp hr hm
  refine ⟨by simp [makeRequest, makeResponse, Authenticator.new], ?_⟩
  intro resp
  cases resp <;> simp [makeRequest, makeResponse, Authenticator.new, finish]

def cA (proto : Nat) : Config := { protocol := proto, myRole := roleServer, peerRole := roleWorker, key := some 7 }
def cB (proto : Nat) : Config := { protocol := proto, myRole := roleWorker, peerRole := roleServer, key := some 7 }
def chA : Bytes := List.replicate 16 1
def chB : Bytes := List.replicate 16 2

/-- both sessions accepted, both hold key 7, with the given protocol numbers -/
def bothAccepted (pA pB : Nat) (s : State) : Bool :=
  match s.sessions 0, s.sessions 1 with
  | some a, some b =>
    a.result == some true && b.result == some true && a.auth.key == some 7 && b.auth.key == some 7 &&
    a.auth.protocol == pA && b.auth.protocol == pB
  | _, _ => false

/-- the honest run of two matching endpoints as a trace of the unbounded system -/
def honestTrace : List Action :=
  let a := makeRequest (.new (cA 0)) chA
  let b := makeRequest (.new (cB 0)) chB
  [ .start 0 (cA 0) chA, .start 1 (cB 0) chB,
    .deliverRequest 0 b.2 11, .deliverRequest 1 a.2 12,
    .deliverResponse 0 (makeResponse b.1 a.2 12).2, .deliverResponse 1 (makeResponse a.1 b.2 11).2 ]

theorem reachable_of_run {adv : List Nat} (tr : List Action) {p : State → Bool}
    (h : (run adv .init tr).any p = true) : ∃ s, Reachable adv s ∧ p s = true := by
  obtain ⟨s, hs, hp⟩ := (Option.any_eq_true _ _).mp h
  exact ⟨s, ⟨tr, hs⟩, hp⟩

/-- The hypotheses of `c20_auth` are satisfiable: a reachable state (adversary knows no key) in which two
keyed sessions have accepted. -/
theorem c20_nonvacuous : ∃ s, Reachable [] s ∧ bothAccepted 0 0 s = true :=
  reachable_of_run honestTrace (by decide +kernel)

example : run2 (cA 0) (cB 0) chA chB 11 12 = (true, true) :=
  c20_complete _ _ _ _ _ _ rfl rfl rfl rfl rfl rfl

example : run2 (cA 0) { cB 0 with key := some 8 } chA chB 11 12 = (false, false) :=
  c20_mismatch _ _ _ _ _ _ (.inl (by decide))

/-! ## Finding: the protocol number is not covered by the seal

Outside C20's quantifier (it needs TWO substitutions): an active adversary who rewrites the `protocol`
field of BOTH requests makes two endpoints with DIFFERENT protocol numbers (same key, complementary roles)
accept each other.  Only the responder's `my_role` and the challenge are inside the seal. -/
def protoAttackTrace : List Action :=
  let a := makeRequest (.new (cA 0)) chA
  let b := makeRequest (.new (cB 1)) chB
  let a2b := { a.2 with protocol := 1 }   -- m1 rewritten 0 → 1
  let b2a := { b.2 with protocol := 0 }   -- m2 rewritten 1 → 0
  [ .start 0 (cA 0) chA, .start 1 (cB 1) chB,
    .deliverRequest 0 b2a 11, .deliverRequest 1 a2b 12,
    .deliverResponse 0 (makeResponse b.1 a2b 12).2, .deliverResponse 1 (makeResponse a.1 b2a 11).2 ]

/-- Reachable (adversary knows no key): session 0 runs protocol 0, session 1 runs protocol 1, both hold
the same key, both ACCEPT. -/
theorem c20_protocol_not_sealed : ∃ s, Reachable [] s ∧ bothAccepted 0 1 s = true :=
  reachable_of_run protoAttackTrace (by decide +kernel)

end HqModel.C20
