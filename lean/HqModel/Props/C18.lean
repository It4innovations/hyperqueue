import HqModel.Lemmas.AutoAllocTrace
import HqModel.Lemmas.AutoAllocWorkers
/-!
# C18 — allocation lifecycle is monotone; worker accounting exact
Model: `HqModel.AutoAlloc` (M6). The environment (batch system, worker notifications in any order, scheduler
answer, clock, hash orders) is universally quantified in every statement.
-/
namespace HqModel.C18
open HqModel.AutoAlloc

/-- **The model feeds the automaton.** For EVERY state, event and environment input: an allocation `a` of queue
`x` either disappears with its queue (`removeQueue x`), or its new state is the automaton run from its old state on
some inputs `ins`, each of which the event is allowed to cause for THIS allocation: a connect / loss input only if
the event is that worker's connect / loss naming `a`, an external status or status error only in a refresh. Ticks,
pause/resume, job submits and events about other allocations feed nothing. -/
theorem c18_workers_fed (s : State) (e : Ev) (x : Nat) (q : Queue) (a : Nat) (al : Alloc)
    (hq : s.getQueue x = some q) (ha : q.findAlloc a = some al) :
    ((∃ f, e = .removeQueue x f) ∧ (step s e).st.getQueue x = none) ∨
    ∃ q' al' ins, (step s e).st.getQueue x = some q' ∧ q'.findAlloc a = some al' ∧ al'.target = al.target ∧
      al'.st = allocRun s.consts al.target al.st ins ∧ ∀ i ∈ ins, Allowed e a i := by
  rcases step_queue s e x q hq with h | ⟨_, hres⟩ | ⟨q', hq', ht⟩
  · exact .inl h
  · exact .inr ⟨_, al, [], hres, ha, rfl, rfl, by intro i hi; cases hi⟩
  · obtain ⟨al', ins, h1, h2, h3, h4⟩ := ht.allocFed a al ha
    exact .inr ⟨q', al', ins, hq', h1, h2, h3, h4⟩

/-- … and a worker event naming a known allocation reaches exactly that allocation, once. -/
theorem c18_workers_event (s : State) (a x : Nat) (r : SyncReason) (q : Queue) (al : Alloc)
    (hx : a2qLookup a s.a2q = some x) (hq : s.getQueue x = some q) (ha : q.findAlloc a = some al) :
    ∃ q', (s.workerEvent a r).st.getQueue x = some q' ∧
      q'.findAlloc a = some { al with st := allocStep s.consts al.target al.st (.sync r) } := by
  have hid := State.getQueue_id s x q hq
  rcases Queue.sync_cases s.consts q a r with ⟨hn, _⟩ | ⟨x0, hx0, h⟩
  · rw [ha] at hn; cases hn
  · refine ⟨q.feed s.consts a (.sync r) (Queue.limAfter q.lim (syncState x0.target x0.st r).fin), ?_, ?_⟩
    · simp only [State.workerEvent, hx, hq, h]
      rw [State.getQueue_setQueue, hq]
      exact if_pos hid.symm
    · rw [Queue.findAlloc_feed, ha]
      simp [feedMap, findAlloc_id q a al ha]

/-- **Monotone lifecycle.** For EVERY state `s` (reachable or not), every event `e` with any environment inputs,
every queue `x` and allocation `a` of it: after the step either the queue was removed (and then `e` is exactly a
`removeQueue x`), or the allocation is still there with the same size, its rank (Queued 0 < Running 1 < Finished*
2) has not decreased, and if it was finished (normally or unexpectedly) it is literally unchanged (absorbing). -/
theorem c18_monotone (s : State) (e : Ev) (x : Nat) (q : Queue) (a : Nat) (al : Alloc)
    (hq : s.getQueue x = some q) (ha : q.findAlloc a = some al) :
    ((∃ f, e = .removeQueue x f) ∧ (step s e).st.getQueue x = none) ∨
    ∃ q' al', (step s e).st.getQueue x = some q' ∧ q'.findAlloc a = some al' ∧
      al'.target = al.target ∧ al.st.rank ≤ al'.st.rank ∧ (al.st.isFinished = true → al' = al) := by
  -- the allocation was fed automaton inputs: ranks only grow, finished states absorb
  rcases c18_workers_fed s e x q a al hq ha with h | ⟨q', al', ins, hq', h1, h2, h3, _⟩
  · exact .inl h
  · refine .inr ⟨q', al', hq', h1, h2, h3 ▸ allocRun_rank _ _ _ _, fun hf => ?_⟩
    have hst : al'.st = al.st := h3.trans (allocRun_finished _ _ _ _ hf)
    have hid : al'.id = al.id := (findAlloc_id q' a al' h1).trans (findAlloc_id q a al ha).symm
    cases al; cases al'
    simp only [Alloc.mk.injEq]
    exact ⟨hid, h2, hst⟩

/-- Non-vacuity of `c18_monotone`: an allocation that walks Queued → Running → Finished and then ignores a
contradictory external status and a late connect. -/
example :
    let s0 := init ⟨10, 20, 0⟩ 1
    let s1 := (step s0 (.addQueue ⟨2, 1, none⟩ (Limiter.new [0] 2 3) none)).st
    let s2 := (step s1 (.tick 0 [1] (.ok [1] []) [.ok 7])).st
    let s3 := (step s2 (.workerConnected 4 7)).st
    let s4 := (step s3 (.workerLost 4 7 false)).st
    let s5 := (step s4 (.refresh [(1, .statuses [(7, .queued)])])).st
    let s6 := (step s5 (.workerConnected 5 7)).st
    [s2, s3, s4, s5, s6].map (fun s => (s.getQueue 1).bind fun q => (q.findAlloc 7).map (·.st.rank))
      = [some 0, some 1, some 2, some 2, some 2] ∧ s6 = s4 :=
  ⟨rfl, rfl⟩

/-- **Unknown allocation.** A worker connect / loss that names an allocation which is not in the
`allocation_to_queue` index changes nothing: the state is identical and nothing but the "schedule" flag is
returned (no event, no call). -/
theorem c18_unknown (s : State) (w a : Nat) (crashed : Bool) (h : a2qLookup a s.a2q = none) :
    step s (.workerConnected w a) = ⟨s, [.sched true], none⟩ ∧
    step s (.workerLost w a crashed) = ⟨s, [.sched true], none⟩ := by
  simp [step, State.workerEvent, h]

/-- **Queue removal.** If `removeQueue x force` is accepted (the queue exists; it has no running allocation or
`force`) and does not hit the index assertion, then
* `remove_allocation` is called exactly for the active (queued or running) allocations of the queue, once per
  allocation (the list of calls IS the list of active allocations), and for nothing else;
* the queue is gone, the `AllocationQueueRemoved` event is emitted;
* every `allocation_to_queue` entry of its allocations is gone, so later worker events about them are
  `c18_unknown` (state unchanged). -/
theorem c18_remove_queue (s : State) (x : Nat) (force : Bool) (q : Queue)
    (hq : s.getQueue x = some q)
    (hacc : (q.allocs.any (·.st.isRunning) && !force) = false)
    (hnp : (step s (.removeQueue x force)).panic = none) :
    let r := step s (.removeQueue x force)
    r.outs = ((q.allocs.filter (·.st.isActive)).map fun al => Out.rm x al.id) ++ [.evQRemoved x, .resp .ok, .sched false] ∧
    r.st.getQueue x = none ∧
    (∀ al ∈ q.allocs, a2qLookup al.id r.st.a2q = none) ∧
    (∀ al ∈ q.allocs, ∀ w crashed,
      step r.st (.workerConnected w al.id) = ⟨r.st, [.sched true], none⟩ ∧
      step r.st (.workerLost w al.id crashed) = ⟨r.st, [.sched true], none⟩) := by
  cases hm : State.removeA2qAll (q.allocs.map (·.id)) s.a2q with
  | none =>
    simp only [step, State.removeQueue, hq, hacc, hm] at hnp
    cases hnp
  | some m =>
    have hs : step s (.removeQueue x force) = ⟨{ s with queues := s.queues.filter (·.id != x), a2q := m },
        ((q.allocs.filter (·.st.isActive)).map fun al => Out.rm x al.id) ++ [.evQRemoved x, .resp .ok, .sched false],
        none⟩ := by
      simp only [step, State.removeQueue, hq, hacc, hm]
      rfl
    have hgone : ∀ al ∈ q.allocs, a2qLookup al.id m = none := fun al hal =>
      removeA2qAll_lookup _ _ _ hm al.id (.inl (List.mem_map.mpr ⟨al, hal, rfl⟩))
    rw [hs]
    exact ⟨rfl, (State.getQueue_filter s x x).trans (if_pos rfl), hgone,
      fun al hal w crashed => c18_unknown _ w al.id crashed (hgone al hal)⟩

/-- A refused removal (unknown queue, or running allocations without `force`) has no effect at all. -/
theorem c18_remove_queue_refused (s : State) (x : Nat) (force : Bool)
    (h : s.getQueue x = none ∨ ∃ q, s.getQueue x = some q ∧ (q.allocs.any (·.st.isRunning) && !force) = true) :
    (step s (.removeQueue x force)).st = s ∧ (step s (.removeQueue x force)).panic = none ∧
    ∀ y a, Out.rm y a ∉ (step s (.removeQueue x force)).outs := by
  rcases h with h | ⟨q, hq, hr⟩
  · simp [step, State.removeQueue, h]
  · simp [step, State.removeQueue, hq, hr]

/-- In every reachable state the allocation ids inside a queue are pairwise distinct, so "once per active
allocation" in `c18_remove_queue` is once per allocation *id*. -/
theorem c18_ids_unique (c : Consts) (n : Nat) (s : State) (h : Reach (init c n) s) (x : Nat) (q : Queue)
    (hq : s.getQueue x = some q) : (q.allocs.map (·.id)).Nodup := by
  induction h generalizing x q with
  | init => simp [init, State.getQueue] at hq
  | @step s0 e _ _ ih =>
    cases hpre : s0.getQueue x with
    | none =>
      obtain ⟨p, lim, qid, _, _, rfl, _⟩ := step_new_queue s0 e x q hpre hq
      exact List.nodup_nil
    | some q0 =>
      rcases step_queue s0 e x q0 hpre with ⟨_, hnone⟩ | ⟨_, hres⟩ | ⟨q2, hq2, ht⟩
      · rw [hnone] at hq; cases hq
      · rw [hres] at hq; cases hq
        exact ih x q0 hpre
      · rw [hq2] at hq; cases hq
        exact ht.idsNodup (ih x q0 hpre)

/-- Non-vacuity of `c18_remove_queue`: a queue with one running, one queued and one finished allocation. -/
example :
    let s0 := init ⟨10, 20, 0⟩ 1
    let s1 := (step s0 (.addQueue ⟨3, 1, none⟩ (Limiter.new [0] 2 3) none)).st
    let s2 := (step s1 (.tick 0 [1] (.ok [3] []) [.ok 7, .ok 8, .ok 9])).st
    let s3 := (step s2 (.workerConnected 4 7)).st
    let s4 := (step s3 (.refresh [(1, .statuses [(9, .failed)])])).st
    (step s4 (.removeQueue 1 false)).outs = [.resp .hasRunning, .sched false] ∧
    (step s4 (.removeQueue 1 true)).outs = [.rm 1 7, .rm 1 8, .evQRemoved 1, .resp .ok, .sched false] ∧
    (step s4 (.removeQueue 1 true)).st.a2q = [] :=
  ⟨rfl, rfl, rfl⟩

/-- **Ledger of one step** (no assumption on ids): for EVERY state, event and environment input, and every
(queue `x`, allocation `a`): the number of `AllocationFinished(x, a)` events the step emits is exactly the change
of "allocation `a` of queue `x` is in a finished state" (0 or 1), and every `AllocationStarted(x, a)` it emits is
paid for by the allocation leaving Queued — unless the step is the accepted removal of a queue (which forgets its
allocations without announcing anything). -/
theorem c18_announce_step (s : State) (e : Ev)
    (hrm : ∀ x f, e = .removeQueue x f → (step s e).st.queues = s.queues) (x a : Nat) :
    s.fin x a + cntF x a (step s e).outs = (step s e).st.fin x a ∧
    s.past x a + cntS x a (step s e).outs ≤ (step s e).st.past x a :=
  (step_SLedger s e hrm x a).1

/-- **Exactly-once announcement.** Along every run from the empty autoallocator (any events, any environment;
queue ids come from the id counter, i.e. the journal-restore path with explicit ids is not used), for every queue
id `x` and allocation id `a`, in the sequence `O` of all outputs of the run (the outputs of a final panicking step
included):
* `AllocationStarted(x, a)` occurs at most once, `AllocationFinished(x, a)` at most once;
* if the allocation still exists, `AllocationFinished(x, a)` has occurred exactly once iff its state is finished
  (normally or unexpectedly);
* no `AllocationStarted(x, a)` comes after an `AllocationFinished(x, a)`. -/
theorem c18_announce (c : Consts) (n : Nat) (evs : List Ev) (hne : NoExplicitIds evs) (x a : Nat) :
    cntS x a (run (init c n) evs).2.1 ≤ 1 ∧ cntF x a (run (init c n) evs).2.1 ≤ 1 ∧
    (∀ q al, (run (init c n) evs).1.getQueue x = some q → q.findAlloc a = some al →
      (cntF x a (run (init c n) evs).2.1 = 1 ↔ al.st.isFinished = true)) ∧
    (∀ O1 O2, (run (init c n) evs).2.1 = O1 ++ Out.evFinished x a :: O2 → Out.evStarted x a ∉ O2) := by
  have h := TraceInv.ofRun (init c n) [] evs (TraceInv.initial c n) hne
  simp only [List.nil_append] at h
  have bounds : cntS x a (run (init c n) evs).2.1 ≤ 1 ∧ cntF x a (run (init c n) evs).2.1 ≤ 1 := by
    cases hq : (run (init c n) evs).1.getQueue x with
    | none => have := h.gone x a hq; omega
    | some q =>
      have := h.present x a q hq
      have := State.fin_le_past (run (init c n) evs).1 x a
      omega
  refine ⟨bounds.1, bounds.2, ?_, h.order x a⟩
  intro q al hq ha
  have hp := (h.present x a q hq).1
  rw [hp]
  simp only [State.fin, hq, Queue.fin, ha]
  cases al.st.isFinished <;> simp

/-- Non-vacuity of `c18_announce`: a run in which one allocation is started and finished by its workers, one is
finished by a status-error streak, one by an external failure, and a queue is removed. -/
example :
    let evs : List Ev :=
      [.addQueue ⟨3, 1, none⟩ (Limiter.new [0] 5 5) none,
       .tick 0 [1] (.ok [3] []) [.ok 7, .ok 8, .ok 9],
       .workerConnected 4 7, .workerConnected 4 7, .workerLost 4 7 true, .workerLost 4 7 true,
       .refresh [(1, .callErr [8, 9])], .refresh [(1, .statuses [(8, .error), (9, .failed)])],
       .refresh [(1, .statuses [(8, .error), (8, .error)])],
       .workerConnected 5 9, .removeQueue 1 false, .workerConnected 6 7]
    NoExplicitIds evs ∧
    ((run (init ⟨1, 20, 0⟩ 1) evs).2.1.filter fun o => match o with | .evStarted .. => true | .evFinished .. => true | _ => false) =
      [.evStarted 1 7, .evFinished 1 7, .evFinished 1 8, .evFinished 1 9] := by
  constructor
  · intro e he p l q h
    subst h
    simp at he
  · rfl

/-- **Connected workers are exact.** For one allocation of size `t`, seen as the automaton `allocRun` fed with ALL
its inputs in any order (connects / losses from any workers incl. duplicates and loss-before-connect, external
statuses incl. contradictory ones, status errors): if the input `first` makes it leave Queued and after the further
inputs `post` it is Running with connected set `cn` and disconnected set `d`, then
* `w ∈ cn` iff the last worker event for `w` since the allocation left Queued is a connect;
* `d` has no duplicates and contains exactly the workers with a loss event while Running — so its length is the
  number of DISTINCT workers lost. -/
theorem c18_workers (c : Consts) (t e0 : Nat) (first : AIn) (post : List AIn) (cn : List Nat) (d : List (Nat × Bool))
    (e : Nat) (h : allocRun c t (.queued e0) (first :: post) = .running cn d e)
    (hleft : (allocStep c t (.queued e0) first).isQueued = false) :
    (∀ w, w ∈ cn ↔ lastEv w (first :: post) = some true) ∧
    (d.map (·.1)).Nodup ∧ (∀ w, w ∈ d.map (·.1) ↔ ∃ cr, AIn.sync (.lost w cr) ∈ post) := by
  rw [allocRun_cons] at h
  rcases allocStep_queued c t e0 first with ⟨e1, h1, _⟩ | ⟨c0, h1, hc0, _⟩ | ⟨f, h1⟩
  · rw [h1] at hleft; simp [AState.isQueued] at hleft
  · rw [h1] at h
    obtain ⟨hc, hd, hn⟩ := allocRun_running c t post c0 [] 0 cn d e h
    refine ⟨fun w => ?_, hn (by simp), by intro w; rw [hd w]; simp⟩
    rw [hc w, hc0 w]
    simp only [lastEv]
    cases lastEv w post <;> simp
  · rw [h1, allocRun_finished _ _ _ _ (by simp [AState.isFinished])] at h
    cases h

/-- **Normal finish exactly at the target.** An input turns a not-yet-finished allocation into `Finished` (the
normal end) iff the allocation is Running, the input is the loss of a worker `w`, and with `w` the number of
distinct workers lost while Running (`(insertD w cr d).length`, see `c18_workers` / `keys_insertD` /
`nodup_insertD`) equals the size `t` it was submitted with. In particular a Queued allocation never finishes
normally, and neither external statuses nor status errors produce a normal finish. -/
theorem c18_workers_finish (c : Consts) (t : Nat) (st : AState) (i : AIn) (d' : List (Nat × Bool))
    (hnf : st.isFinished = false) :
    allocStep c t st i = .finished d' ↔
      ∃ cn d e w cr, st = .running cn d e ∧ i = .sync (.lost w cr) ∧ d' = insertD w cr d ∧
        (insertD w cr d).length = t := by
  constructor
  · intro h
    cases st with
    | queued e0 =>
      rcases allocStep_queued c t e0 i with ⟨e1, h1, _⟩ | ⟨c0, h1, _⟩ | ⟨f, h1⟩ <;>
        (rw [h1] at h; cases h)
    | running cn d e =>
      cases i with
      | err =>
        simp only [allocStep, errState] at h
        split at h <;> cases h
      | sync r =>
        cases r with
        | conn w => cases h
        | lost w cr =>
          simp only [allocStep, syncState] at h
          by_cases hl : (insertD w cr d).length = t
          · simp only [hl, if_true, AState.finished.injEq] at h
            exact ⟨cn, d, e, w, cr, rfl, rfl, h.symm, hl⟩
          · simp [hl] at h
        | ext x => cases x <;> cases h
    | finished d0 => simp [AState.isFinished] at hnf
    | finishedUnexp c0 d0 f => simp [AState.isFinished] at hnf
  · rintro ⟨cn, d, e, w, cr, rfl, rfl, rfl, hl⟩
    simp [allocStep, syncState, hl]

/-- the disconnected set after a loss: duplicate-free, the old workers plus the lost one -/
theorem c18_workers_lost_set (w : Nat) (cr : Bool) (d : List (Nat × Bool)) (h : (d.map (·.1)).Nodup) :
    ((insertD w cr d).map (·.1)).Nodup ∧ ∀ w', w' ∈ (insertD w cr d).map (·.1) ↔ w' = w ∨ w' ∈ d.map (·.1) :=
  ⟨nodup_insertD w cr d h, keys_insertD w cr d⟩

/-- Non-vacuity of `c18_workers`: loss before connect, duplicate connect, a worker that reconnects, an extra
worker beyond the target; the allocation of size 2 finishes at the second DISTINCT loss. -/
example :
    let ins : List AIn :=
      [.sync (.lost 9 true), .sync (.conn 1), .sync (.conn 1), .sync (.conn 2), .sync (.conn 3), .sync (.lost 1 false),
       .sync (.conn 1), .sync (.lost 1 true), .sync (.ext .queued), .err]
    allocRun ⟨10, 20, 0⟩ 2 (.queued 0) ins = .running [2, 3] [(1, true)] 1 ∧
    allocRun ⟨10, 20, 0⟩ 2 (.queued 0) (ins ++ [.sync (.lost 3 false)]) = .finished [(1, true), (3, false)] :=
  ⟨rfl, rfl⟩

end HqModel.C18
