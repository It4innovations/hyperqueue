import HqModel.Lemmas.WorkerSteps
import HqModel.Lemmas.WorkerSignal
import HqModel.Lemmas.WorkerWF2
/-!
Worker-side clauses of C01, C02, C04, C06, C08, C09 over the worker model M2 (`HqModel.Worker`, tied to
`crates/tako/src/internal/worker/{reactor,state,rpc,task,task_comm}.rs` by the correspondence of component
`worker`). Every theorem quantifies over ALL operation sequences (compute / retract / cancel / task end /
time-limit expiry / retract-check tick / new request class / stop, with every allocator answer and every hash
order that passes the validity checks of the model); nothing is bounded.

The resource allocator is abstract (see `Worker/Model.lean`): the theorems hold for every allocator whose
`try_allocate` never returns a handle that is still live (a run in which an answer violates this law ends in
`Stop.badChoice`, i.e. is not a run `= .ok …`).

`Reach s` = `s` is reachable from the initial worker state by an operation sequence that satisfies the
*server contract* (`Worker.contract`): ids in RetractTasks / CancelTasks arbitrary, ComputeTasks ids pairwise
different and not held by the worker, request classes / variants registered, NewResourceRequest ids consecutive.
`ReachAny s` = reachable by any operation sequence.
-/
namespace HqModel.WorkerSide
open HqModel.Worker

def Reach (s : State) : Prop :=
  ∃ rqs rem ops os, contractRun (init rqs rem) ops = true ∧ run (init rqs rem) ops = .ok (s, os)

def ReachAny (s : State) : Prop :=
  ∃ rqs rem ops os, run (init rqs rem) ops = .ok (s, os)

theorem Reach.wwf {s : State} (h : Reach s) : WWF s := by
  obtain ⟨rqs, rem, ops, os, hc, hr⟩ := h
  exact (run_WWF ops (init_WWF rqs rem) hc).2 s os hr

theorem ReachAny.hinv {s : State} (h : ReachAny s) : HInv s := by
  obtain ⟨rqs, rem, ops, os, hr⟩ := h
  exact run_HInv ops (init_HInv rqs rem) hr

/-- **C08, worker side (full strength).** After the worker processed `CancelTasks ∋ t` — in any state a
correct server can drive it into — neither that step nor any later step launches `t`, whatever happens
afterwards (any operations, also ones outside the contract), until a `ComputeTasks` contains `t` again.
This includes tasks waiting in the prefilled backlog (defect F1, fixed by
`fix: a canceled task in the worker's prefilled backlog was still started`).
The contract on the prefix is needed for one reason only: a `ComputeTasks` that re-sends an id the worker still
holds can make one id *running and waiting at once*; `cancel_task` then only signals the running copy. -/
theorem c08_worker {s0 s1 s2 : State} {ids : List Nat} {o1 : List Out} {post : List Op}
    {os : List (List Out)} {t : Nat}
    (hreach : Reach s0) (hc : step s0 (.cancel ids) = .ok (s1, o1)) (ht : t ∈ ids)
    (hr : run s1 post = .ok (s2, os)) (hm : ∀ op ∈ post, ¬ op.mentions t) :
    ¬ launchedIn o1 t ∧ ∀ o ∈ os, ¬ launchedIn o t := by
  rcases step_minor hc with ⟨_, h⟩ | ⟨_, _, _, h⟩ | ⟨_, hno, _⟩
  · cases h
  · cases h
  have hc : ids.foldl cancelOne (s0, []) = (s1, o1) := Except.ok.inj hc
  have hnb := cancel_noBacklog ids (s0, []) hreach.wwf.disj ht
  rw [hc] at hnb
  exact ⟨fun ⟨o, ho, hl⟩ => hno o ho t hl, (run_quiet post hnb hm hr).2⟩

/-- **C06 `c06_given_back` (full strength, no contract needed).** After the worker answered a `RetractTasks`
with a `RetractResponse ∋ t`, it does not launch `t` until a later `ComputeTasks` contains `t`. -/
theorem c06_given_back {s0 s1 s2 : State} {ids r : List Nat} {o1 : List Out} {post : List Op}
    {os : List (List Out)} {t : Nat}
    (hc : step s0 (.retract ids) = .ok (s1, o1)) (hresp : Out.retractResponse r ∈ o1) (ht : t ∈ r)
    (hr : run s1 post = .ok (s2, os)) (hm : ∀ op ∈ post, ¬ op.mentions t) :
    ∀ o ∈ os, ¬ launchedIn o t := by
  have hc : retract s0 ids = (s1, o1) := Except.ok.inj hc
  have hnb := retract_noBacklog s0 (retract_response_subset s0 (by rw [hc]; exact hresp) ht)
  rw [hc] at hnb
  exact (run_quiet post hnb hm hr).2

/-- **C04 `c04_handover` (full strength).** In every reachable state (any operation sequence):
* the live allocation handles are exactly the handles owned by running tasks, each owned by exactly one (`HInv`);
and for every step from it:
* a launcher call that succeeds leaves the task running with exactly the instance, variant and allocation the
  launcher was given;
* no launcher call ever gets an allocation owned by a running task, except in the step in which that owner ends;
* when a running task ends, either a launcher call of that step succeeds with its allocation (a hand-over: by the
  second clause the launched task then runs with it) and the allocation is not released, or it is released (and then
  no task is started and the handle is no longer live). -/
theorem c04_handover {s : State} (hreach : ReachAny s) :
    HInv s ∧
    ∀ op s' outs, step s op = .ok (s', outs) →
      HInv s' ∧
      (∀ t i rv h, Out.launch t i rv h true ∈ outs →
        ∃ r ∈ s'.running, r.task.id = t ∧ r.task.inst = i ∧ r.rv = rv ∧ r.h = h) ∧
      (∀ t i rv h ok, Out.launch t i rv h ok ∈ outs →
        ∀ r ∈ s.running, r.h = h → ∃ res en, op = .taskEnd r.task.id res en) ∧
      (∀ t res en, op = .taskEnd t res en →
        ∃ r ∈ s.running, r.task.id = t ∧
          (((∃ x i rv, Out.launch x i rv r.h true ∈ outs) ∧ Out.release r.h ∉ outs) ∨
           (Out.release r.h ∈ outs ∧ (∀ x i rv h', Out.launch x i rv h' true ∉ outs) ∧ r.h ∉ s'.live))) := by
  have hi := hreach.hinv
  refine ⟨hi, ?_⟩
  intro op s' outs hs
  refine ⟨step_HInv hi hs, fun t i rv h hm => step_launch_recorded hs hm,
    fun t i rv h ok hm => step_launch_handle hi hs hm, ?_⟩
  rintro t res en rfl
  obtain ⟨r, hr, used, evs, more, hoff, rfl, -, hrel⟩ := taskEnd_spec hs
  refine ⟨r, List.mem_of_find?_eq_some hr, by simpa using List.find?_some hr, ?_⟩
  have tail : ∀ {us : List Update} o, o ∈ evs ++ (if us = [] then [] else [.updates us]) →
      o ∈ evs ∨ ∃ us, o = .updates us :=
    fun o ho => (mem_batch.mp ho).imp id fun h => ⟨_, h.2⟩
  cases used with
  | true =>
    obtain ⟨⟨x, _, hx⟩, hnrel⟩ := hoff.started
    refine Or.inl ⟨⟨x.id, x.inst, r.rv, List.mem_append_left _ hx⟩, fun hmem => ?_⟩
    rcases tail _ hmem with h | ⟨us, h⟩
    · exact hnrel h
    · cases h
  | false =>
    obtain ⟨hmem, hno⟩ := hoff.released
    refine Or.inr ⟨List.mem_append_left _ hmem, fun x i rv h' hmem => ?_, ?_⟩
    · rcases tail _ hmem with h | ⟨us, h⟩
      · exact hno x i rv h' h
      · cases h
    · rw [(hrel rfl).1]
      exact fun hmem => ((hi.2.1.mem_erase_iff).mp hmem).1 rfl

/-- **C01 `c01_timeout` (full strength for the two worker steps it is about; any state).**
(i) When the time limit of running task `t` elapses before its future resolved, the step sends the stop signal
`Timeout` to it — unless a stop signal (`Cancel`) was already sent, in which case nothing more is sent — and the
task stays running with "stop signalled" recorded (`c01_timeout_signalled` below: the flag is faithful, a stop
signal was really sent earlier in the run).
(ii) When `t` then ends with result `Timeouted`, the `TaskUpdate` batch of that step starts with
`Failed t "Time limit reached"` (whatever hand-over / enable updates follow it). -/
theorem c01_timeout {s s' : State} {t : Nat} {outs : List Out} :
    (step s (.timeoutFire t) = .ok (s', outs) →
      ∃ r ∈ s.running, r.task.id = t ∧ r.task.timeLimit ≠ none ∧
        (r.stopSent = false → outs = [.stop t .timeout]) ∧ (r.stopSent = true → outs = []) ∧
        (∃ r' ∈ s'.running, r'.task.id = t) ∧ (∀ r' ∈ s'.running, r'.task.id = t → r'.stopSent = true)) ∧
    (∀ en, step s (.taskEnd t .timeouted en) = .ok (s', outs) →
      ∃ rest, Out.updates (.failed t .timeout :: rest) ∈ outs) := by
  refine ⟨fun hs => ?_, fun en hs => ?_⟩
  · obtain ⟨r, hr, hid, htl, _, rfl, rfl⟩ := timeoutFire_ok hs
    have hr := List.mem_of_find?_eq_some hr
    refine ⟨r, hr, hid, htl, fun h => by rw [h]; rfl, fun h => by rw [h]; rfl,
      ⟨_, List.mem_map_of_mem hr, by rw [if_pos hid]; exact hid⟩, fun r' hr' hid' => ?_⟩
    obtain ⟨x, _, rfl⟩ := List.mem_map.mp hr'
    by_cases hx : x.task.id = t
    · rw [if_pos hx]
    · rw [if_neg hx] at hid'; exact absurd hid' hx
  · obtain ⟨r, _, used, evs, more, _, rfl, _⟩ := taskEnd_spec hs
    exact ⟨more, mem_batch.mpr (Or.inr ⟨by simp [resultUpdates], rfl⟩)⟩

/-- **C01 `c01_timeout`, history form.** In every run from the initial worker state (any operation sequence): when
the time limit of `t` fires, a stop signal for `t` has been sent — in this step, or (when the task was cancelled
before) in an earlier step of the run. -/
theorem c01_timeout_signalled {rqs : List (List Nat)} {rem : Option Nat} {pre : List Op} {s s' : State}
    {os : List (List Out)} {t : Nat} {outs : List Out}
    (hr : run (init rqs rem) pre = .ok (s, os)) (hs : step s (.timeoutFire t) = .ok (s', outs)) :
    ∃ o ∈ os ++ [outs], ∃ k, Out.stop t k ∈ o := by
  obtain ⟨r, hrm, hid, _, hfalse, _, _, _⟩ := (c01_timeout (s := s) (s' := s') (t := t) (outs := outs)).1 hs
  cases hss : r.stopSent with
  | false =>
    exact ⟨outs, by simp, .timeout, by rw [hfalse hss]; simp⟩
  | true =>
    rcases run_stopSent pre hr r hrm hss with ⟨r0, hr0, _⟩ | ⟨o, ho, k, hk⟩
    · simp [init] at hr0
    · exact ⟨o, List.mem_append_left _ ho, k, by rw [← hid]; exact hk⟩

/-- **C02 (ii) `c02_enable` (full strength; any state).** When a running task ends and its allocation is not
reused (no task is started in that step), then — `en` being the allocator's `is_enabled` answers, which the step
accepts only if they cover exactly the blocked set — every blocked request the allocator now admits is
unblocked and an `EnableRequest` for it is in the `TaskUpdate` message of that step; every other blocked request
stays blocked. -/
theorem c02_enable {s s' : State} {t : Nat} {res : TaskResult} {en : List ((Nat × Nat) × Bool)}
    {outs : List Out}
    (hs : step s (.taskEnd t res en) = .ok (s', outs))
    (hno : ∀ x i rv h, Out.launch x i rv h true ∉ outs) :
    (s.blocked ≠ [] → (en.map (·.1)).Perm s.blocked) ∧
    ∀ k ∈ s.blocked,
      ((k, true) ∈ en → k ∉ s'.blocked ∧ ∃ us, Out.updates us ∈ outs ∧ Update.enable k.1 k.2 ∈ us) ∧
      ((k, true) ∉ en → k ∈ s'.blocked) := by
  obtain ⟨r, _, used, evs, more, hoff, rfl, -, hrel⟩ := taskEnd_spec hs
  have hused : used = false := by
    cases used with
    | false => rfl
    | true =>
      obtain ⟨⟨x, _, hx⟩, _⟩ := hoff.started
      exact absurd (List.mem_append_left _ hx) (hno x.id x.inst r.rv r.h)
  have hb := (hrel hused).2.2.1
  refine ⟨fun hne => List.isPerm_iff.mp (hb hne).1, fun k hk => ?_⟩
  obtain ⟨_, hbl, hen⟩ := hb (List.ne_nil_of_mem hk)
  refine ⟨fun hkt => ⟨?_, resultUpdates t res ++ more, ?_, List.mem_append_right _ (hen k hkt)⟩, fun hkf => ?_⟩
  · rw [hbl]
    exact fun hmem => by simpa [hkt] using (List.mem_filter.mp hmem).2
  · exact mem_batch.mpr (Or.inr ⟨List.ne_nil_of_mem (List.mem_append_right _ (hen k hkt)), rfl⟩)
  · rw [hbl]
    exact List.mem_filter.mpr ⟨hk, by simpa using hkf⟩

/-- **C09, worker side (full strength under the explicit server contract).** No message sequence that
satisfies the server contract — interleaved with arbitrary task ends, time-limit expiries and retract-check
ticks, with any allocator answers and hash orders — makes the worker hit one of its panic sites
(`ResourceRqMap::get(..).unwrap()`, variant index, `StableMap::insert` assert, `assert_eq!(rq_id, new_id)`).
Outside the model: `remaining_time()` (`limit - life_time` underflows once the worker outlived its limit), the
`assert!(sender.send(..).is_ok())` of `send_stop` (the launcher keeps the receiver while the task runs) and
`shared_data[shared_index]` (message encoding). -/
theorem c09_worker_no_panic (rqs : List (List Nat)) (rem : Option Nat) (ops : List Op)
    (hc : contractRun (init rqs rem) ops = true) :
    ∀ site, run (init rqs rem) ops ≠ .error (.panic site) :=
  (run_WWF ops (init_WWF rqs rem) hc).1

/-- two request classes (the second with two variants), no worker time limit -/
def exRqs : List (List Nat) := [[0], [0, 10]]

/-- task 1 is started, 2 and 3 wait behind it; 2 is cancelled and 3 retracted while waiting; 4 is refused by the
allocator (soft reject), 5 waits; 1 ends: 5 is handed the allocation; 5 ends: allocation released, class 1
enabled again; a new class is registered. -/
def exOps : List Op :=
  [ .compute [{ task := { id := 1, rq := 0 }, rv := some 0, alloc := some 7 },
              { task := { id := 2, rq := 0 } }, { task := { id := 3, rq := 0 } }],
    .cancel [2, 99],
    .retract [3, 98],
    .compute [{ task := { id := 4, rq := 1 }, rv := some 1, alloc := none },
              { task := { id := 5, rq := 0, timeLimit := some 1000 } }],
    .taskEnd 1 .finished [((1, 1), false)],
    .timeoutFire 5,
    .taskEnd 5 .timeouted [((1, 1), true)],
    .newRq 2 [0],
    .retractCheck [] ]

example : contractRun (init exRqs none) exOps = true := by decide

example : (run (init exRqs none) exOps).toOption.map (·.2) = some
    [ [.launch 1 0 0 7 true, .updates [.running 1 0]],
      [],
      [.retractResponse [3]],
      [.updates [.reject 4 (some 1)]],
      [.launch 5 0 0 7 true, .updates [.finished 1, .runningPrefilled 5 0]],
      [.stop 5 .timeout],
      [.release 7, .updates [.failed 5 .timeout, .enable 1 1]],
      [],
      [] ] := by decide

example : Reach (init exRqs none) := ⟨exRqs, none, [], [], rfl, rfl⟩

/-- The former F1 witness (`corpus/worker/f1_cancel_ignores_backlog.trace`): task 2 is cancelled while it waits
in the backlog; when task 1 ends the allocation is released and task 2 is not launched. -/
example : (run (init [[0]] none)
    [ .compute [{ task := { id := 1 }, rv := some 0, alloc := some 1 }, { task := { id := 2 } }],
      .cancel [2],
      .taskEnd 1 .finished [] ]).toOption.map (·.2) = some
    [ [.launch 1 0 0 1 true, .updates [.running 1 0]], [], [.release 1, .updates [.finished 1]] ] := by
  decide

/-- Why `c08_worker` asks for the contract on the prefix: a server that re-sends an id the worker still holds
(contract violation) can get the id launched after a cancel. -/
example : ∃ os, run (init [[0]] none)
    [ .compute [{ task := { id := 1 }, rv := some 0, alloc := some 1 }],
      .compute [{ task := { id := 1, inst := 1 } }],      -- id 1 is held: outside the contract
      .cancel [1],
      .taskEnd 1 .canceled [] ] = .ok os ∧ launchedIn (os.2.getD 3 []) 1 := by
  refine ⟨_, rfl, ?_⟩
  decide

end HqModel.WorkerSide
