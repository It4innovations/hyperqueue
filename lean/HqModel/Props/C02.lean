import HqModel.Props.SysW
import HqModel.Props.WorkerSide
import HqModel.Props.C13
/-!
# C02 — no task is lost or stuck; the two registries agree

Proved here (M4): for every submit shape the ids attached to the job are exactly the ids handed to the
scheduler (`c02_submit_ids`; this was false before the `fix:` commit d6e3c5a). The registry equality in every
state the composed models reach by a run whose actions satisfy the side conditions (`Sys.RunOk` / `SysW.RunOk`) is
`Sys.sys_registry` / `SysW.sysw_registry`; it and the quiescence clause are
evaluated on every real trace: `c02.registry` after every client
request, `c02.rest` after the fault-free drain of every generated run (every non-terminal task waits for a
dependency or no connected worker can run it; with a capable worker every task is terminal and every closed job
completed). The progress clause is not a theorem: scheduler optimality (HiGHS) and the fair drain are runtime
behaviour.
-/
namespace HqModel.C02
open HqModel.Job

/-- **Same ids for the job and for the scheduler**, for arrays without entries, graphs, and arrays whose
entries cover all ids (what the client produces), after the id filling of `handle_submit`. -/
theorem c02_submit_ids (d : TaskDesc)
    (h : match d with
      | .array ids (some n) => ids.iter.length ≤ n
      | _ => True) : d.jobIds = d.coreIds := by
  cases d with
  | array ids en =>
    cases en with
    | none => rfl
    | some n => simp only [TaskDesc.jobIds, TaskDesc.coreIds]; exact (List.take_of_length_le h).symm
  | graph ts => rfl

/-- the auto-id cases satisfy the hypothesis of `c02_submit_ids` -/
theorem c02_auto_ids_agree (job : Job) (n : Nat) :
    (fillIdsOpen job (.array [] (some n))).jobIds = (fillIdsOpen job (.array [] (some n))).coreIds := by
  have := HqModel.C13.c13_auto_ids job n
  simp only at this
  rw [this.1, this.2]

example : (TaskDesc.array [⟨3, 2, 1⟩] (some 2)).jobIds = [3, 4] := by decide

end HqModel.C02
