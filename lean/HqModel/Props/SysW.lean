import HqModel.Lemmas.SysWRun
import HqModel.Props.Sys
/-!
# The composed system WITH the workers: `Sys` (job layer M4 on the tako core M1) + one worker model M2 per worker + FIFO queues

`HqModel/SysW/Model.lean` is the world of the harness (`harness/src/world.rs`): client requests and scheduling rounds
of `Sys`, `addWorker` / `loseWorker`, explicit deliveries of the head of a server → worker queue (an M2 step) and of a
worker → server queue (a `Sys` `update` / `retracted` action), worker-local events (a task ends, a time limit fires,
a retract-check tick, …). The messages a `Sys` action emits are appended to the queues of their workers; what an M2
step emits is appended to that worker's queue to the server.

The theorems are about ALL runs from the empty state whose world actions satisfy `SysW.OpOk` (decidable, evaluated on
the pre-state of every action): the side conditions of `Sys` that are about INPUTS — a fresh worker record with a new
id, `SubmitOk`, `QueueOkD` / `SolMnOk` for a scheduling round —, "no task id is submitted twice" and "no task refers
to a new worker's id". There is NO condition on what a worker sends: `FinProto` and `UpdProto` (`RejectOk`), the
worker-protocol hypotheses of the `Sys` theorems, are CONSEQUENCES here:

* `sysw_fin_proto` — every `TaskUpdate` batch in a worker → server queue satisfies, when it is delivered,
  `Core.UpdatesOk Sys.UpdOk`: every `finished t` finds `t` unknown to the core, Running, or multi-node with the
  `started` flag (`Sys.FinProto`: because the worker emitted `Running` / `RunningPrefilled` for that launch earlier in
  the same FIFO stream and only a cancel / failure can have intervened), every `reject t rv` of an Assigned task comes
  from its worker with its variant (`Core.RejectOk`) — each judged in the state in which the reactor processes it;
* `sysw_pipeline` — the invariant behind it (`Pipe`): per worker and task, the pending `ComputeTasks` items, what the
  worker holds and the pending events to the server fit the core's view of the task;
* `sysw_sys_run` — the server part of a composed run is a `Sys.run` satisfying `Sys.RunOk`, so the theorems of
  `Props/Sys.lean` apply without a worker-protocol hypothesis: `sysw_registry`, `sysw_started_running`,
  `sysw_cancel_final`, `sysw_max_fails` (and `sysw_outcome_once`, which needs only that it is a `Sys.run`);
* `sysw_no_job_panic`, `sysw_run_no_job_panic` — no world action stops in the job layer: directly from the invariant
  (`step_no_job`, `run_no_job`), not through `Sys.run`.

Proof: `Lemmas/SysW*.lean`.
-/
namespace HqModel.SysW
open HqModel

/-- **the pipeline invariants hold in every reachable state** (only `RunOk`) -/
theorem sysw_inv2 (reserve max : Nat) (ops : List Op) (s : State) (outs : List Out)
    (hok : RunOk (initState reserve max) ops) (h : run (initState reserve max) ops = .ok (s, outs)) : NPP.WInv2 s :=
  run_winv2 ops (winv2_init reserve max) hok h

theorem sysw_inv (reserve max : Nat) (ops : List Op) (s : State) (outs : List Out)
    (hok : RunOk (initState reserve max) ops) (h : run (initState reserve max) ops = .ok (s, outs)) : WInv s :=
  (sysw_inv2 reserve max ops s outs hok h).winv

/-- **`sysw_fin_proto`** — in every reachable state, the `TaskUpdate` batch `us` at the head of the queue of worker
`w` satisfies the side condition `Sys.OpOk (update w us rets)` = `Core.UpdatesOk Sys.UpdOk`: for every update of the
batch, in the state in which the reactor processes it, `Core.UpdProto` (a `reject` of an Assigned task comes from the
worker and with the variant it is assigned to: `Core.RejectOk`) and, for `finished t`, `Sys.FinProto` (the core does not
know `t`, or holds it as Running, or as RunningMultiNode with the `started` flag of the root) -/
theorem sysw_fin_proto (reserve max : Nat) (ops : List Op) (s : State) (outs : List Out)
    (hok : RunOk (initState reserve max) ops) (h : run (initState reserve max) ops = .ok (s, outs))
    (w : Nat) (x : WState) (hf : findW s.workers w = some x) (us : List Core.Update) (rest : List W2S)
    (hq : x.w2s = .updates us :: rest) (rets : List (List TaskId)) :
    Sys.OpOk s.sys (.update w us rets) :=
  (deliver_upd (sysw_inv2 reserve max ops s outs hok h) hf hq rets).1

theorem sysw_fin_proto_head (reserve max : Nat) (ops : List Op) (s : State) (outs : List Out)
    (hok : RunOk (initState reserve max) ops) (h : run (initState reserve max) ops = .ok (s, outs))
    (w : Nat) (x : WState) (hf : findW s.workers w = some x) (u : Core.Update) (us : List Core.Update) (rest : List W2S)
    (hq : x.w2s = .updates (u :: us) :: rest) :
    (∀ t, u = .finished t → Sys.FinProto s.sys.core t) ∧
    (∀ t rv, u = .reject t rv → Core.RejectOk s.sys.core w t rv) := by
  have := sysw_fin_proto reserve max ops s outs hok h w x hf (u :: us) rest hq []
  simp only [Sys.OpOk, Core.UpdatesOk] at this
  obtain ⟨⟨h1, h2⟩, _⟩ := this
  exact ⟨fun t e => by subst e; exact h2, fun t rv e => by subst e; exact h1⟩

/-- the STRONGER form the composition gives: a delivered `finished t` from worker `w` finds the core's view of `t`
from `w` `hot` — `t` unknown, Running ON `w`, or RunningMultiNode with root `w` and the `started` flag (`Sys.FinProto`
also admits Running on another worker; that cannot happen: the core's `assert_worker` in `task_finished` never fires
for a message of a worker model) -/
theorem sysw_fin_view (reserve max : Nat) (ops : List Op) (s : State) (outs : List Out)
    (hok : RunOk (initState reserve max) ops) (h : run (initState reserve max) ops = .ok (s, outs))
    (w : Nat) (x : WState) (hf : findW s.workers w = some x) (t : TaskId) (us : List Core.Update) (rest : List W2S)
    (hq : x.w2s = .updates (.finished t :: us) :: rest) : view s.sys.core w t = .hot := by
  have hi := sysw_inv reserve max ops s outs hok h
  obtain ⟨hx, hxid⟩ := findW_some hf
  have hp : pend t x.w2s = .fin :: pend t (.updates us :: rest) := by
    rw [hq, pend_updates_cons]; simp [evsOfUpd]
  exact (hxid ▸ ((hi.pipe x hx t).head hp).2).head_fin

theorem view_hot_iff (c : Core.State) (w : Nat) (t : TaskId) :
    view c w t = .hot ↔
      (Core.stOf c.tasks t = none ∨ (∃ rv, Core.stOf c.tasks t = some (.running w rv)) ∨
       ∃ l, Core.stOf c.tasks t = some (.runningMN (w :: l)) ∧ mnStarted c w t = true) := by
  cases hs : Core.stOf c.tasks t with
  | none => rw [view_none hs]; simp
  | some st =>
    rw [view_some hs]
    cases st with
    | running x v =>
      by_cases hx : x = w
      · subst hx; simp [viewSt]
      · simp [viewSt, hx]
    | runningMN l =>
      cases l with
      | nil => simp [viewSt]
      | cons x xs =>
        by_cases hx : x = w
        · subst hx
          by_cases hm : mnStarted c x t = true <;> simp [viewSt, hm]
        · simp [viewSt, hx]
    | waiting n => simp [viewSt]
    | finished => simp [viewSt]
    | assigned x v => by_cases hx : x = w <;> simp [viewSt, hx]
    | prefilled x => by_cases hx : x = w <;> simp [viewSt, hx]
    | retracting x => by_cases hx : x = w <;> simp [viewSt, hx]

/-- **the pipeline invariant**: for every worker record `x` and every submitted task `t`, the `ComputeTasks` items for
`t` still in the queue to the worker, what the worker holds of `t`, and the events about `t` still in the queue to the
server are one of the pipelines `PipeOk` allows for the core's view of `t` from that worker — in particular a pending
`finished t` is either preceded (in the queue) by the `running t` of the same launch, or the core's view is `hot` -/
theorem sysw_pipeline (reserve max : Nat) (ops : List Op) (s : State) (outs : List Out)
    (hok : RunOk (initState reserve max) ops) (h : run (initState reserve max) ops = .ok (s, outs))
    (x : WState) (hx : x ∈ s.workers) (t : TaskId) (ht : t ∈ s.submitted) :
    PipeOk (view s.sys.core x.id t) (comps t x.s2w) (pend t x.w2s) x.w (enc t) :=
  ((sysw_inv reserve max ops s outs hok h).pipe x hx t).1 ht

/-- **the server part of a composed run is a run of `Sys` that satisfies `Sys.RunOk`** — all side conditions of the
`Sys` theorems, including `FinProto` / `UpdProto` on every delivered update -/
theorem sysw_sys_run (reserve max : Nat) (ops : List Op) (s : State) (outs : List Out)
    (hok : RunOk (initState reserve max) ops) (h : run (initState reserve max) ops = .ok (s, outs)) :
    Sys.run (Sys.initState reserve max) (sysOps outs) = .ok (s.sys, sysOuts outs) ∧
    Sys.RunOk (Sys.initState reserve max) (sysOps outs) := by
  obtain ⟨a, b⟩ := run_sys_run ops _ _ _ h
  exact ⟨a, b (winv2_init reserve max) hok⟩

/-- **`sysw_registry`** (C02): in every reachable state of the composed system the keys of the core's task map, the
job layer's `sent` list and the non-terminal tasks of the stored jobs are the same set (`Sys.sys_registry`, no
worker-protocol hypothesis) -/
theorem sysw_registry (reserve max : Nat) (ops : List Op) (s : State) (outs : List Out)
    (hok : RunOk (initState reserve max) ops) (h : run (initState reserve max) ops = .ok (s, outs)) :
    (∀ t, t ∈ Core.taskIds s.sys.core.tasks ↔ t ∈ s.sys.job.sent) ∧ (Core.taskIds s.sys.core.tasks).Nodup ∧
    (∀ t ∈ Core.taskIds s.sys.core.tasks, ∃ job st, s.sys.job.getJob t.1 = some job ∧
      Job.lookup job.tasks t.2 = some st ∧ st.terminal = false) ∧
    (∀ job ∈ s.sys.job.jobs, ∀ p ∈ job.tasks,
      p.2.terminal = false ↔ (job.id, p.1) ∈ Core.taskIds s.sys.core.tasks) := by
  obtain ⟨a, b⟩ := sysw_sys_run reserve max ops s outs hok h
  exact Sys.sys_registry reserve max _ _ _ b a

/-- **`sysw_no_job_panic`** (C09 / C01): in every reachable state no world action satisfying the (input) side
conditions stops in the job layer — in particular the delivery of ANY message a worker model sent: every callback the
core makes for it is accepted by `process_task_started`, `process_task_finished` (`set_finished_state`), … -/
theorem sysw_no_job_panic (reserve max : Nat) (ops : List Op) (s : State) (outs : List Out)
    (hok : RunOk (initState reserve max) ops) (h : run (initState reserve max) ops = .ok (s, outs))
    (op : Op) (hop : OpOk s op) (site : String) : step s op ≠ .error (.sys (.job site)) :=
  step_no_job (sysw_inv2 reserve max ops s outs hok h) hop site

theorem sysw_run_no_job_panic (reserve max : Nat) (ops : List Op) (hok : RunOk (initState reserve max) ops)
    (site : String) : run (initState reserve max) ops ≠ .error (.sys (.job site)) :=
  run_no_job (winv2_init reserve max) hok site

/-- **the state coupling** (`Sys.sys_started_running`) in every reachable state of the composed system -/
theorem sysw_started_running (reserve max : Nat) (ops : List Op) (s : State) (outs : List Out)
    (hok : RunOk (initState reserve max) ops) (h : run (initState reserve max) ops = .ok (s, outs))
    (t : TaskId) (task : Core.Task) (ht : s.sys.core.task? t = some task) :
    ∃ job, s.sys.job.getJob t.1 = some job ∧
      (Job.lookup job.tasks t.2 = some .waiting ∨ Job.lookup job.tasks t.2 = some .running) ∧
      ((∃ w v, task.state = .running w v) → Job.lookup job.tasks t.2 = some .running) ∧
      (∀ l x wk r, task.state = .runningMN l → s.sys.core.worker? x = some wk → wk.assign = .mn t r true →
        Job.lookup job.tasks t.2 = some .running) := by
  obtain ⟨a, b⟩ := sysw_sys_run reserve max ops s outs hok h
  exact Sys.sys_started_running reserve max _ _ _ b a t task ht

/-- **`sysw_cancel_final`** (C08): after a client cancel of job `j` no task of `j` is in the core map and all its
tasks are terminal in the job layer — whatever the workers still hold or have in flight -/
theorem sysw_cancel_final (reserve max : Nat) (ops : List Op) (s : State) (outs : List Out)
    (hok : RunOk (initState reserve max) ops) (h : run (initState reserve max) ops = .ok (s, outs))
    (j : Nat) (ids : List TaskId) (s' : State) (o : Out) (hstep : step s (.srv (.cancel j ids)) = .ok (s', o)) :
    (∀ t ∈ Core.taskIds s'.sys.core.tasks, t.1 ≠ j) ∧
    (∀ job', s'.sys.job.getJob j = some job' → ∀ p ∈ job'.tasks, p.2.terminal = true) := by
  obtain ⟨a, b⟩ := sysw_sys_run reserve max ops s outs hok h
  simp only [step, srvAllowed, if_true] at hstep
  obtain ⟨so, _, _, hs⟩ := sysStep_sys hstep
  exact Sys.sys_cancel_final reserve max _ _ _ b a j ids s'.sys so hs

/-- **`sysw_max_fails`** (C14) for the delivery of a worker's message: if the core made an `error` callback for `t`
and the job of `t` exceeds its `max_fails` afterwards, no task of the job is left in the core -/
theorem sysw_max_fails (reserve max : Nat) (ops : List Op) (s : State) (outs : List Out)
    (hok : RunOk (initState reserve max) ops) (h : run (initState reserve max) ops = .ok (s, outs))
    (op : Op) (hop : OpOk s op) (s' : State) (o : Out) (hstep : step s op = .ok (s', o)) (so : Sys.Out)
    (hso : o.sys = some so) (t : TaskId) (consumers : List TaskId) (hcb : Core.Cb.error t consumers ∈ so.core.cbs)
    (job' : Job.Job) (m : Nat) (hj : s'.sys.job.getJob t.1 = some job') (hm : job'.maxFails = some m)
    (hex : job'.cnt.failed > m) :
    (∀ x ∈ Core.taskIds s'.sys.core.tasks, x.1 ≠ t.1) ∧ (∀ p ∈ job'.tasks, p.2.terminal = true) := by
  obtain ⟨a, b⟩ := sysw_sys_run reserve max ops s outs hok h
  rcases step_sys hstep with ⟨_, e, _⟩ | ⟨sop, so', _, e, hs, hk⟩
  · rw [e] at hso; cases hso
  · rw [e] at hso; cases hso
    exact Sys.sys_max_fails reserve max _ _ _ b a sop (hk (sysw_inv2 reserve max ops s outs hok h) hop) s'.sys so hs
      t consumers hcb job' m hj hm hex

/-- **C01 over composed runs with workers**: in the event stream of the job layer no task has two outcomes and every
`finished` is preceded by a `started` (`Sys.sys_outcome_once`) -/
theorem sysw_outcome_once (reserve max : Nat) (ops : List Op) (s : State) (outs : List Out)
    (h : run (initState reserve max) ops = .ok (s, outs)) :
    (∀ t : Job.TaskId, Job.termCount t ((sysOuts outs).map (·.evs)).flatten ≤ 1) ∧
    (∀ t pre post, ((sysOuts outs).map (·.evs)).flatten = pre ++ [Job.Ev.finished t] ++ post →
      ∃ i ws rv, Job.Ev.started t i ws rv ∈ pre) := by
  obtain ⟨a, _⟩ := run_sys_run ops _ _ _ h
  obtain ⟨x, _, z⟩ := Sys.sys_outcome_once reserve max _ _ _ a
  exact ⟨x, z⟩

/-- a worker record that runs a task the core knows is the owner of that task -/
theorem WInv.runner_owner {s : State} (hi : WInv s) {x : WState} (hx : x ∈ s.workers) {t : TaskId} {st : Core.TS}
    (hst : Core.stOf s.sys.core.tasks t = some st) (hr : isRun x.w (enc t)) : Core.owner st = some x.id := by
  have hp := (hi.pipe x hx t).1 (hi.sub t (mem_ids_iff_stOf.mpr (by simp [hst])))
  exact owner_of_view_ne_quiet (fun e => by rw [e] at hp; exact hp.2.2.1 hr) hst

/-! ### C06 on the composed state (partial) -/

/-- **`sysw_c06_single_partial`** — in every reachable state, a task the core still knows is in a running launch on at
most one worker: two worker records that both hold `t` in their `running_tasks` are the same record. (PARTIAL: for a
task the core no longer knows — cancelled, or removed after a reported failure — the invariant `Pipe` puts no constraint
on the pipelines (`hot`), so "at most one worker" is not derived for those; it holds there too — such a task had at
most one owner when it left the map and is never sent again — but needs a stronger invariant: exclusive pipelines also
for unknown tasks.) -/
theorem sysw_c06_single_partial (reserve max : Nat) (ops : List Op) (s : State) (outs : List Out)
    (hok : RunOk (initState reserve max) ops) (h : run (initState reserve max) ops = .ok (s, outs))
    (x1 x2 : WState) (h1 : x1 ∈ s.workers) (h2 : x2 ∈ s.workers) (t : TaskId) (st : Core.TS)
    (hst : Core.stOf s.sys.core.tasks t = some st) (r1 : isRun x1.w (enc t)) (r2 : isRun x2.w (enc t)) : x1 = x2 := by
  have hi := sysw_inv reserve max ops s outs hok h
  have e1 := hi.runner_owner h1 hst r1
  have e2 := hi.runner_owner h2 hst r2
  rw [e1] at e2
  exact (eq_of_id hi.nodup h1 h2 (Option.some.inj e2).symm).symm

/-! ### C08 on the composed state -/

/-- **`sysw_c08_cancel_sent`** — when a client cancel of job `j` is answered, every worker that executes a task `t` of
`j` the core still knew has a `CancelTasks` message naming `t` in its queue from the server (the record is otherwise
unchanged: same id, same worker state). What the worker does when the message arrives is `WorkerSide.c08_worker`
(stop signal to the running copy, removal from every backlog). A task of `j` the core did NOT know any more was
cancelled (or reported) before: its `CancelTasks` was sent by that earlier action. -/
theorem sysw_c08_cancel_sent (reserve max : Nat) (ops : List Op) (s : State) (outs : List Out)
    (hok : RunOk (initState reserve max) ops) (h : run (initState reserve max) ops = .ok (s, outs))
    (j : Nat) (ids : List TaskId) (s' : State) (o : Out) (hstep : step s (.srv (.cancel j ids)) = .ok (s', o))
    (x : WState) (hx : x ∈ s.workers) (t : TaskId) (htj : t.1 = j) (hid : t ∈ ids) (st : Core.TS)
    (hst : Core.stOf s.sys.core.tasks t = some st) (hr : isRun x.w (enc t)) :
    ∃ x' ∈ s'.workers, x'.id = x.id ∧ x'.w = x.w ∧ ∃ l, S2W.cancel l ∈ x'.s2w ∧ t ∈ l := by
  have hi := sysw_inv reserve max ops s outs hok h
  have hfin := sysw_cancel_final reserve max ops s outs hok h j ids s' o hstep
  simp only [step, srvAllowed, if_true] at hstep
  obtain ⟨so, _, _, hs⟩ := sysStep_sys hstep
  have ho : Core.owner st = some x.id := hi.runner_owner hx hst hr
  -- the cancel reached the core
  have hcs : s.sys.core.cancelTasks ids = .ok (s'.sys.core, so.core) := by
    rcases Sys.step_core_step hs with ⟨e, _, _⟩ | ⟨cop, hcop, hcs⟩
    · exact absurd htj (hfin.1 t (by rw [e]; exact mem_ids_iff_stOf.mpr (by simp [hst])))
    · simp only [Sys.coreOp, Option.some.injEq] at hcop
      subst hcop
      simpa only [Core.step] using hcs
  obtain ⟨l, hl, htl⟩ := Core.cancelTasks_sent hcs t hid st x.id hst ho
  -- … and the message was routed
  simp only [sysStep, hs] at hstep
  simp only [Except.ok.injEq, Prod.mk.injEq] at hstep
  obtain ⟨es, _⟩ := hstep
  have ew : s'.workers = routeMsgs s.workers so.core.msgs := by rw [← es]
  refine ⟨route1 x so.core.msgs, ?_, rfl, rfl, l, ?_, htl⟩
  · rw [ew, routeMsgs_eq]; exact List.mem_map_of_mem hx
  · show S2W.cancel l ∈ x.s2w ++ so.core.msgs.filterMap (msgFor x.id)
    refine List.mem_append_right _ (List.mem_filterMap.mpr ⟨_, hl, ?_⟩)
    simp [msgFor]

/-! ### non-vacuity: concrete composed runs (races included) -/

section examples

private def rq1 : Core.Rqv := [{ entries := [⟨0, .amount 5000⟩] }]
private def wkr (id : Nat) : Core.Worker := { id := id, assign := .sn [] [10000] [], total := [10000] }
private def ntk (j : Nat) : Core.NewTask := { id := (1, j), rq := 0, prio := 0, crashLimit := .max 5, deps := [] }

/-- what is left: the job layer's task states, the core's task states, and per worker the lengths of the two queues
and the ids of the running tasks -/
private def sJobs (r : Except Stop (State × List Out)) : Option (List (List (Nat × Job.TState))) :=
  r.toOption.map fun x => x.1.sys.job.jobs.map (·.tasks)
private def sCore (r : Except Stop (State × List Out)) : Option (List (TaskId × Core.TS)) :=
  r.toOption.map fun x => x.1.sys.core.tasks.map (fun t => (t.id, t.state))
private def sWorkers (r : Except Stop (State × List Out)) : Option (List (Nat × Nat × Nat × List Nat)) :=
  r.toOption.map fun x => x.1.workers.map fun y => (y.id, y.s2w.length, y.w2s.length, y.w.running.map (·.task.id))

/-- the life of one task: submitted, placed, `ComputeTasks` delivered (the worker starts it and sends `Running`),
`Running` delivered, the task ends (`Finished` is sent), `Finished` delivered -/
private def opsLife : List Op := [
  .srv (.newRq rq1), .addWorker (wkr 1) [[0]] none,
  .srv (.submit none none (.array [⟨0, 1, 1⟩] none) [ntk 0]),
  .srv (.schedule { now := 10, sn := [{ rq := 0, v := 0, counts := [(1, 1)], taken := [(1, 0)] }] }),
  .deliverS2W 1 [{ rq := 0, alloc := some 7 }],
  .deliverW2S 1 [],
  .wlocal 1 (.taskEnd (enc (1, 0)) .finished []),
  .deliverW2S 1 []]

example : RunOk {} opsLife := by decide +kernel
example : sJobs (run {} opsLife) = some [[(0, .finished)]] ∧ sCore (run {} opsLife) = some [] ∧
    sWorkers (run {} opsLife) = some [(1, 0, 0, [])] := by decide +kernel

/-- **cancel overtakes the worker**: the client cancels while `Running` is still in the queue and the task runs; the
task finishes before `CancelTasks` arrives. `Running` and `Finished` are delivered to a core that no longer knows the
task (`FinProto`: unknown) and are ignored; the job stays `canceled` -/
private def opsCancelRace : List Op := [
  .srv (.newRq rq1), .addWorker (wkr 1) [[0]] none,
  .srv (.submit none none (.array [⟨0, 1, 1⟩] none) [ntk 0]),
  .srv (.schedule { now := 10, sn := [{ rq := 0, v := 0, counts := [(1, 1)], taken := [(1, 0)] }] }),
  .deliverS2W 1 [{ rq := 0, alloc := some 7 }],
  .srv (.cancel 1 [(1, 0)]),
  .wlocal 1 (.taskEnd (enc (1, 0)) .finished []),
  .deliverW2S 1 [], .deliverW2S 1 [], .deliverS2W 1 []]

example : RunOk {} opsCancelRace := by decide +kernel
example : sJobs (run {} opsCancelRace) = some [[(0, .canceled)]] ∧ sCore (run {} opsCancelRace) = some [] ∧
    sWorkers (run {} opsCancelRace) = some [(1, 0, 0, [])] := by decide +kernel

/-- **the retract comes too late**: task (1,1) is prefilled on worker 1, the next round redirects it to worker 2
(Retracting, `RetractTasks` to worker 1); before that message arrives task (1,0) ends on worker 1 and the prefill loop
starts (1,1): the stream of worker 1 is `[Running (1,0)] [Finished (1,0), RunningPrefilled (1,1)] RetractResponse []`.
The core takes (1,1) from Retracting to Running on worker 1 and drops the redirect -/
private def opsRetractRace : List Op := [
  .srv (.newRq rq1), .addWorker (wkr 1) [[0]] none, .addWorker (wkr 2) [[0]] none,
  .srv (.submit none none (.array [⟨0, 3, 1⟩] none) [ntk 0, ntk 1, ntk 2]),
  .srv (.schedule { sn := [{ rq := 0, v := 0, counts := [(1, 1)], taken := [(1, 0)] }], prefillOrders := [(0, [1])] }),
  .srv (.schedule { sn := [{ rq := 0, v := 0, counts := [(2, 2)], taken := [(1, 2), (1, 1)] }] }),
  .deliverS2W 1 [{ rq := 0 }, { rq := 0, alloc := some 1 }],
  .wlocal 1 (.taskEnd (enc (1, 0)) .finished []),
  .deliverS2W 1 [],
  .deliverW2S 1 [], .deliverW2S 1 [], .deliverW2S 1 []]

example : RunOk {} opsRetractRace := by decide +kernel
example : sJobs (run {} opsRetractRace) = some [[(0, .finished), (1, .running), (2, .waiting)]] ∧
    sCore (run {} opsRetractRace) = some [((1, 1), .running 1 0), ((1, 2), .assigned 2 0)] ∧
    sWorkers (run {} opsRetractRace) = some [(1, 0, 0, [enc (1, 1)]), (2, 1, 0, [])] := by decide +kernel

/-- **the worker is lost with three messages in flight** (`Running (1,0)`, `Finished (1,0)` + `RunningPrefilled (1,1)`):
they vanish with the connection; (1,0) goes back to Waiting, (1,1) to its redirect target -/
private def opsLost : List Op :=
  opsRetractRace.take 8 ++ [.loseWorker 1 "lost" true [(1, 0)] [], .srv (.schedule { sn := [] })]

example : RunOk {} opsLost := by decide +kernel
example : sJobs (run {} opsLost) = some [[(0, .waiting), (1, .waiting), (2, .waiting)]] ∧
    sCore (run {} opsLost) = some [((1, 0), .waiting 0), ((1, 1), .assigned 2 0), ((1, 2), .assigned 2 0)] ∧
    sWorkers (run {} opsLost) = some [(2, 2, 0, [])] := by decide +kernel

/-- after the cancel is answered (6 actions) worker 1 still runs the task, `Running` is on its way to the server and
`CancelTasks` on its way to the worker (`sysw_c08_cancel_sent`) -/
example : sWorkers (run {} (opsCancelRace.take 6)) = some [(1, 1, 1, [enc (1, 0)])] := by decide +kernel

private def sysStopOf (r : Except Stop (State × List Out)) : Option Sys.Stop :=
  match r with
  | .error (.sys e) => some e
  | _ => none

/-- the core's ready queues, and per core worker record: id, whether it is back to an EMPTY single-node assignment
with all resources free, and its blocked (request, variant) pairs -/
private def sQueues (r : Except Stop (State × List Out)) : Option (List (List (Int × List TaskId))) :=
  r.toOption.map fun x => x.1.sys.core.queues.map (·.ready)
private def sCoreWorkers (r : Except Stop (State × List Out)) : Option (List (Nat × Bool × List (Nat × Nat))) :=
  r.toOption.map fun x => x.1.sys.core.workers.map fun wk =>
    (wk.id, (match wk.assign with | .sn [] free [] => decide (free = wk.total) | _ => false), wk.blocked)

/-- **Finding F32** (`task_reject` ends in `unreachable!()` for `RunningMultiNode` in the source as received:
`notes/f32.md`): a run, all side conditions true, that reaches that arm — a multi-node task whose root is a worker with
less remaining life time (50 s) than the request's `min_time` (100 s). The worker hard-rejects it (`try_start_task`:
`remaining_time() < min_time` → `RejectRequest`). `task_reject` treats the refusal of a placed, NOT started multi-node
task by its root as a regular transition: the reserved workers are reset (`reset_mn_task_workers`), the task goes back to
`Waiting 0` — same instance id, no client callback — and into the ready queue, and the root stays blocked for
(request 0, variant 0). (How the placement arises although the solver tests the root's life time: the core's record of
worker 1 has no termination time — clock skew / a worker that announces none — while the worker itself has 50 s left.) -/
private def opsMnReject : List Op := [
  .srv (.newRq [{ nNodes := 1, entries := [], minTime := 100 }]), .addWorker (wkr 1) [[100]] (some 50),
  .srv (.submit none none (.array [⟨0, 1, 1⟩] none) [ntk 0]),
  .srv (.schedule { now := 10, mn := [{ rq := 0, sets := [[1]] }] }),
  .deliverS2W 1 [{ rq := 0, alloc := some 7 }],
  .deliverW2S 1 []]

example : RunOk {} opsMnReject := by decide +kernel
/-- before the reject is delivered the task is `RunningMultiNode [1]`, worker 1 is reserved for it (not free) and the
`RejectRequest` is in its queue to the server -/
example : sCore (run {} (opsMnReject.take 5)) = some [((1, 0), .runningMN [1])] ∧
    sWorkers (run {} (opsMnReject.take 5)) = some [(1, 0, 1, [])] := by decide +kernel
example : sCoreWorkers (run {} (opsMnReject.take 5)) = some [(1, false, [])] := by decide +kernel
/-- the run does NOT stop; afterwards the task is `Waiting 0` in the core and in the ready queue of its request, the
job layer still has it `waiting` (no callback was made), worker 1 is free again (empty single-node assignment, all
resources free), blocked for (request 0, variant 0), and nothing is in flight -/
example : sysStopOf (run {} opsMnReject) = none ∧ (run {} opsMnReject).toOption.isSome = true ∧
    sCore (run {} opsMnReject) = some [((1, 0), .waiting 0)] ∧
    sJobs (run {} opsMnReject) = some [[(0, .waiting)]] ∧
    sWorkers (run {} opsMnReject) = some [(1, 0, 0, [])] := by decide +kernel
example : sQueues (run {} opsMnReject) = some [[(0, [(1, 0)])]] := by decide +kernel
example : sCoreWorkers (run {} opsMnReject) = some [(1, true, [(0, 0)])] := by decide +kernel
/-- … and the next round may place it again (here on a second worker that has the time): the composed run goes on -/
example : RunOk {} (opsMnReject ++ [.addWorker (wkr 2) [[100]] none,
      .srv (.schedule { now := 20, mn := [{ rq := 0, sets := [[2]] }] }), .deliverS2W 2 [{ rq := 0, alloc := some 7 }],
      .deliverW2S 2 []]) ∧
    sCore (run {} (opsMnReject ++ [.addWorker (wkr 2) [[100]] none,
      .srv (.schedule { now := 20, mn := [{ rq := 0, sets := [[2]] }] }), .deliverS2W 2 [{ rq := 0, alloc := some 7 }],
      .deliverW2S 2 []])) = some [((1, 0), .runningMN [2])] ∧
    sJobs (run {} (opsMnReject ++ [.addWorker (wkr 2) [[100]] none,
      .srv (.schedule { now := 20, mn := [{ rq := 0, sets := [[2]] }] }), .deliverS2W 2 [{ rq := 0, alloc := some 7 }],
      .deliverW2S 2 []])) = some [[(0, .running)]] := by decide +kernel

/-- the side condition "no task id is submitted twice" is checked: a second submit of the same id violates `OpOk` -/
example : ¬ RunOk {} (opsLife ++ [.srv (.submit (some 1) none (.array [⟨0, 1, 1⟩] none) [ntk 0])]) := by decide +kernel

end examples

end HqModel.SysW
