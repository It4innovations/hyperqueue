import HqModel.Lemmas.JobJournalRestartLives
import HqModel.Props.C06Restart
import HqModel.Props.C07Restart
/-!
# C10 — the emitted-journal theorems across REPEATED restarts

`Props/C10Emit.lean` covers one server life from the empty state. Here the loop is closed: the job-layer state a
restarted server starts with (`Emit.jobStateOf R X`, read off `restore J = .ok (R, X)`; field map in
`Lemmas/JobJournalRestartDefs.lean`) is well-formed and satisfies, together with the journal file, the simulation
invariant `Emit.Inv` again — so every further life writes a journal that keeps the file producible, failure-closed
at every record boundary and free of re-created started job ids, and the restart theorems `c10_restore_refines`,
`c03_restart`, `c06_restart`, `c07_restart` apply at every crash point of every life.

A history is a list of `Emit.Life`s `⟨uid, ops, cut⟩`: the uid of the life's `ServerStart`, the operations of the job
layer, and (if the life ends in a crash) how many records of the life reached the file — ANY number, also a cut
between the records of one operation or before the `ServerStart` itself. `Emit.livesJournal [] lives` is the file;
each life starts from `Emit.nextState file` = the restored state (`nextState [] = {}`: the first life of
`C10Emit.lean`, `c10_lives_first`). Side condition `Emit.livesOk [] lives`: `EmitOk` for every operation of every life,
evaluated on the restored M4 state and `A = meaning (file ++ [ServerStart uid])`. After a restart its conjuncts are
obligations on the other components, as before: `instFresh` (instance id above every recorded one) is what C06's
restart clause gives the core (`c06_restart`: resubmitted with highest recorded + 1); `A.maxWorker < w` is C11 (the
worker-id counter is restored above every recorded id); `A.workers` is empty after `ServerStart`, so only workers
connected in the new life can be lost.
-/
namespace HqModel.C10
open HqModel.Job HqModel.Journal HqModel.Emit

/-- restore never leaves a Running task: every task of every restored job is Waiting or carries an outcome
(for EVERY journal on which restore succeeds) -/
theorem c10_restart_no_running (J : List Record) (R : Restorer) (X : Restored) (e : restore J = .ok (R, X)) :
    ∀ rj ∈ X.jobs, ∀ p ∈ rj.tasks, p.2 = .waiting ∨ p.2.isCompleted = true :=
  restore_clean e

/-- **c10_restart_wf.** The M4 state of the restarted server is well-formed (`StateWF`: unique job ids below the
restored job counter, unique task ids, the five counters = the per-state task counts; that nothing is Running is
`c10_restart_no_running`): what `c13_counters` and `c13_status` are read off — `Job.run_wf`, `Job.status_eq`,
`Job.nWaiting_eq`, stated for every well-formed state — holds of the restored state and after every run from it. -/
theorem c10_restart_wf (J : List Record) (R : Restorer) (X : Restored) (hp : Producible J)
    (e : restore J = .ok (R, X)) : StateWF (jobStateOf R X) :=
  restart_wf hp e

/-- **c10_restart_inv.** For every producible journal `J` whose recorded state is failure-closed, the restored M4 state
and the journal extended by the `ServerStart` of the new life satisfy the emit invariant: every restored job is a job
of `meaning`, with the same open flag, task ids and recorded outcomes. (`DepClosed (meaning J)` is a conjunct of
`Emit.Inv`; it is what `c10_emitted_dep_closed` / `c10_emitted_lives` provide.) -/
theorem c10_restart_inv (J : List Record) (R : Restorer) (X : Restored) (hp : Producible J)
    (hd : HqModel.C03.DepClosed (meaning J)) (e : restore J = .ok (R, X)) (uid : String) :
    Emit.Inv (jobStateOf R X) (meaning (J ++ [.serverStart uid])) :=
  restart_inv hp hd e uid

/-- **c10_emitted_across_restarts** (one restart). `J` any journal file that is producible, failure-closed at every
prefix and without re-created started job ids (e.g. itself emitted); the server restarts from it and executes ANY
operations `ops` whose inputs satisfy `EmitOk` step by step from `(nextState J, meaning (J ++ [ServerStart uid]))`.
Then the whole file has the three properties again, at every record boundary `K`. -/
theorem c10_emitted_across_restarts (J : List Record) (hp : Producible J)
    (hd : ∀ K, K <+: J → HqModel.C03.DepClosed (meaning K)) (hn : NoStartBeforeCreate J)
    (uid : String) (ops : List Op)
    (hok : emitOkFrom (nextState J) (meaning (J ++ [.serverStart uid])) ops = true)
    (K : List Record) (hK : K <+: J ++ .serverStart uid :: journalFrom (nextState J) ops) :
    Producible K ∧ HqModel.C03.DepClosed (meaning K) ∧ NoStartBeforeCreate K :=
  have g := ((GoodJ.mk hp hd hn).life uid ops hok).prefix hK
  ⟨g.prod, g.dep K (List.prefix_refl K), g.fresh⟩

/-- **c10_emitted_lives** (any number of restarts, by induction over the list of lives). For every history of server
lives whose operations satisfy the side condition, every prefix `K` of the journal file — every crash point of every
life — is producible, failure-closed, and creates no job id after one of its tasks started. -/
theorem c10_emitted_lives (lives : List Life) (h : livesOk [] lives = true)
    (K : List Record) (hK : K <+: livesJournal [] lives) :
    Producible K ∧ HqModel.C03.DepClosed (meaning K) ∧ NoStartBeforeCreate K :=
  have g := (GoodJ.lives lives GoodJ.nil h).prefix hK
  ⟨g.prod, g.dep K (List.prefix_refl K), g.fresh⟩

/-- **c10_emitted_lives_restore.** Hence at every crash point of every life, with no assumption on the journal:
restore refines `meaning` (C10), the restored job layer is well-formed, and every task handed back to the core keeps
or has finished each of its original dependencies (C03), gets an instance id above every `TaskStarted` record of the
file (C06) and the crash counter `crashCount K job t` (C07). -/
theorem c10_emitted_lives_restore (lives : List Life) (h : livesOk [] lives = true)
    (K : List Record) (hK : K <+: livesJournal [] lives) :
    RestoreRefines K ∧
    ∃ R X, restore K = .ok (R, X) ∧ StateWF (jobStateOf R X) ∧
      ∀ job t deps i c, (job, t, deps, i, c) ∈ batchPending X.batches →
        (∃ ja ∈ (meaning K).jobs, ∃ a ∈ ja.2.tasks, ja.1 = job ∧ a.id = t ∧ a.st = .waiting ∧
          ∀ d ∈ a.deps, d ∈ deps ∨ ∃ b, ja.2.find d = some b ∧ b.st = .finished) ∧
        (∀ k ws, Record.taskStarted job t k ws ∈ K → k < i) ∧
        c = crashCount K job t := by
  obtain ⟨hp, hd, hn⟩ := c10_emitted_lives lives h K hK
  obtain ⟨R, X, e, h3⟩ := HqModel.C03.c03_restart K hp hd
  obtain ⟨R6, X6, e6, h6⟩ := HqModel.C06.c06_restart K hp hn
  obtain ⟨R7, X7, e7, h7⟩ := HqModel.C07.c07_restart K hp
  rw [e] at e6 e7
  cases e6; cases e7
  exact ⟨c10_restore_refines K hp, R, X, e, restart_wf hp e,
    fun job t deps i c hm => ⟨h3 job t deps i c hm, h6 job t deps i c hm, h7 job t deps i c hm⟩⟩

/-- the first life is the run from the empty state of `C10Emit.lean` -/
theorem c10_lives_first (uid : String) (ops : List Op) :
    livesJournal [] [⟨uid, ops, none⟩] = journalOf uid ops ∧
    (livesOk [] [⟨uid, ops, none⟩] = true ↔ EmitOkRun uid ops) := by
  refine ⟨rfl, ?_⟩
  simp only [livesOk, Bool.and_true, EmitOkRun]
  rfl

/-- life 1: worker 1, a graph job `0 ← 1`, task 0 starts and fails with its dependent 1 — the server crashes after
`TasksAborted [(1,1)]` reached the file and before `TaskFailed 1 0` did (cut = 5 records);
life 2: restored (task 0 without outcome, task 1 aborted), worker 2 (id above the recorded 1), task 0 rerun as instance
1 (above the recorded 0) and finished → job completed; a second, open job with a submit; clean stop of the operations;
life 3: the open job is restored with its waiting task; it runs, fails, the job is closed and completes -/
def sampleLives : List Life :=
  [ ⟨"a", [.workerNew 1, .submit none none (.graph [(0, []), (1, [0])]), .started (1, 0) 0 [1] 0,
           .failed (1, 0) [(1, 1)]], some 5⟩,
    ⟨"b", [.workerNew 2, .started (1, 0) 1 [2] 0, .finished (1, 0), .openJob (some 0),
           .submit (some 2) none (.array [] none)], none⟩,
    ⟨"c", [.workerNew 3, .started (2, 0) 0 [3] 0, .failed (2, 0) [], .close 2], none⟩ ]

theorem sampleLives_ok : livesOk [] sampleLives = true := by decide +kernel

example : livesOk [] sampleLives = true := sampleLives_ok

example : livesJournal [] sampleLives =
    [ .serverStart "a", .workerConnected 1 none, .submit 1 true none (.graph [⟨0, [], true⟩, ⟨1, [0], true⟩]),
      .taskStarted 1 0 0 [1], .tasksAborted [(1, 1)],
      .serverStart "b", .workerConnected 2 none, .taskStarted 1 0 1 [2], .taskFinished 1 0, .jobCompleted 1,
      .jobOpen 2 (some 0), .submit 2 false none (.array [⟨0, 1, 1⟩] none),
      .serverStart "c", .workerConnected 3 none, .taskStarted 2 0 0 [3], .taskFailed 2 0, .jobClose 2,
      .jobCompleted 2 ] := by decide +kernel

/-- the state life 2 starts from: job 1 closed, task 0 Waiting (its run was cut off), task 1 Aborted, counters
0,0,0,0,1, job counter 2, the pending task 0 handed to the core -/
example : (nextState ((livesJournal [] sampleLives).take 5)).jobs.map
      (fun j => (j.id, j.isOpen, j.tasks, j.cnt.running, j.cnt.aborted)) =
    [(1, false, [(0, .waiting), (1, .aborted)], 0, 1)] ∧
    (nextState ((livesJournal [] sampleLives).take 5)).jobCtr = 2 ∧
    (nextState ((livesJournal [] sampleLives).take 5)).sent = [(1, 0)] := by decide +kernel

example : RestoreRefines ((livesJournal [] sampleLives).take 12) :=
  (c10_emitted_lives_restore sampleLives sampleLives_ok _ (List.take_prefix _ _)).1

end HqModel.C10
