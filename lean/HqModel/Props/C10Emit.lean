import HqModel.Lemmas.JobJournalInterleave
import HqModel.Props.C03Restart
/-!
# C10 / C03 (restart) — the hypotheses of the restart theorems hold of the journal the job layer writes

`c10_restore_refines` needs `Producible J`, `c03_restart` needs in addition `DepClosed (meaning J)`: both are facts
about the code that WRITES the journal. Here they are proved for the journal the job-layer model M4
(`HqModel/Job/{Model,Run}.lean`, tied to the real `server/{job,state,tako_events}.rs`, `client/submit.rs` by the
`job` correspondence check) emits, for ALL operation sequences, from the empty server, at EVERY record boundary.

* translation M4 → journal: `Emit.recordsOf`, `Emit.journalOf` (`Lemmas/JobJournal.lean`; which events are persisted
  and as which record: `event/streamer.rs`, `harness/src/journal/rec.rs: from_event`);
* side condition `Emit.EmitOk s A op` (decidable, computable; `s` = M4 pre-state, `A` = `meaning` of the journal written
  so far) on the inputs the job layer does not itself check — see the doc comment of `c10_emitted_producible` below;
* proof: the simulation invariant `Emit.Inv s A` (`Lemmas/JobJournalSim.lean`) is preserved by every operation and
  every record it writes is allowed by `recordOk` (`Emit.step_leads`, `Lemmas/JobJournalStep.lean`).

`journalOf uid ops` is defined for every `ops`: it ends at the first operation on which the job layer panics (the
server is dead then), so no hypothesis "the run does not panic" is needed; for `run {} ops = .ok _` it is the
journal of the whole run.
-/
namespace HqModel.C10
open HqModel.Job HqModel.Journal HqModel.Emit

/-- **c10_emitted_producible.** For every operation sequence `ops` of the job layer whose inputs satisfy the side
condition `EmitOkRun uid ops` — i.e. `EmitOk s A op` for every operation `op` up to the first panic, evaluated on the
M4 state `s` before `op` and on `A = meaning (journal written so far)`:

* `started t inst ws rv` (from the core): the task has no outcome yet in the job layer (no *late* start report),
  `inst` is larger than every instance id recorded for `t`, every worker of `ws` has an id ≤ the largest connected id;
* `failed t consumers` (from the core): no task of the job without recorded outcome outside `consumers` depends on `t`
  or on a member of `consumers` (`consumers` ⊇ the transitive dependents of `t` that have no outcome);
* `workerNew w`: `w` is larger than every worker id seen; `workerLost w _ _`: `w` is connected;
* `submit _ _ d` (from the client): array ranges have a positive step and, when ids and entries are both given,
  there is one entry per id;
* nothing for `openJob`, `close`, `cancel`, `forget`, `finished` (what they need, the job layer enforces itself) —

the journal the job layer writes is `Producible`. -/
theorem c10_emitted_producible (uid : String) (ops : List Op) (h : EmitOkRun uid ops) :
    Producible (journalOf uid ops) :=
  (journalFrom_good ops (Inv.init (meaningStep {} (.serverStart uid)) rfl) h).journal_start.1

/-- **c10_emitted_dep_closed.** Under the same side condition, what the journal records is closed under failure
propagation at EVERY crash point: for every prefix `K` of the emitted journal (every record boundary, also the
boundaries inside the records of one operation — `TasksAborted` is written before the `TaskFailed` that caused it),
no task without recorded outcome depends on a task recorded as failed / canceled / aborted. -/
theorem c10_emitted_dep_closed (uid : String) (ops : List Op) (h : EmitOkRun uid ops)
    (K : List Record) (hK : K <+: journalOf uid ops) : HqModel.C03.DepClosed (meaning K) :=
  (journalFrom_good ops (Inv.init (meaningStep {} (.serverStart uid)) rfl) h).journal_start.2 K hK

/-- every prefix of an emitted journal is producible (the statement of `c10_emitted_producible` at every crash point) -/
theorem c10_emitted_producible_prefix (uid : String) (ops : List Op) (h : EmitOkRun uid ops)
    (K : List Record) (hK : K <+: journalOf uid ops) : Producible K := by
  obtain ⟨M, hM⟩ := hK
  exact c10_prefix K M (hM ▸ c10_emitted_producible uid ops h)

/-- **c10_emitted_restore.** Hence, for the journal of every run of the job layer whose inputs satisfy the side
condition, cut at ANY record boundary `K`: restore does not stop and equals the specification `meaning K` on jobs,
open flags, outcomes, counters, pending tasks with remaining dependencies / next instance id / crash count
(`RestoreRefines`, the conclusion of `c10_restore_refines`), and every task handed back to the core has no recorded
outcome and each of its ORIGINAL dependencies is still among the dependencies it is resubmitted with or is recorded
as finished (the conclusion of `c03_restart`) — without any assumption on the journal. -/
theorem c10_emitted_restore (uid : String) (ops : List Op) (h : EmitOkRun uid ops)
    (K : List Record) (hK : K <+: journalOf uid ops) :
    RestoreRefines K ∧
    ∃ R X, restore K = .ok (R, X) ∧
      ∀ job t deps i c, (job, t, deps, i, c) ∈ batchPending X.batches →
        ∃ ja ∈ (meaning K).jobs, ∃ a ∈ ja.2.tasks, ja.1 = job ∧ a.id = t ∧ a.st = .waiting ∧
          ∀ d ∈ a.deps, d ∈ deps ∨ ∃ b, ja.2.find d = some b ∧ b.st = .finished :=
  ⟨c10_restore_refines K (c10_emitted_producible_prefix uid ops h K hK),
   HqModel.C03.c03_restart K (c10_emitted_producible_prefix uid ops h K hK) (c10_emitted_dep_closed uid ops h K hK)⟩

/-- the step form (what a driver evaluates): one operation from ANY configuration that satisfies the simulation
invariant — e.g. later in a run — writes allowed records, keeps the recorded state failure-closed at every record
boundary, and re-establishes the invariant -/
theorem c10_emitted_step {s s' : State} {A : AState} {op : Op} {evs : List Ev} (hi : Emit.Inv s A)
    (hok : EmitOk s A op) (e : step s op = .ok (s', evs)) :
    producibleFrom A (recordsOf s op evs) = true ∧
    (∀ K, K <+: recordsOf s op evs → HqModel.C03.DepClosed (K.foldl meaningStep A)) ∧
    Emit.Inv s' ((recordsOf s op evs).foldl meaningStep A) :=
  have L := step_leads hi hok e
  ⟨L.1.producible, fun _ hK => L.1.prefix hK, L.2⟩

/-- **c10_emitted_state_agrees.** What the journal means is what the job layer holds: after every run that does not
panic and satisfies the side condition, every job `j` stored in the job layer is either a job of
`meaning (journalOf uid ops)` with the same open flag, the same task ids in the same order and, for every task, recorded
outcome = its terminal state in the job layer (`waiting` for Waiting / Running; a Running task has a recorded instance
id) — or the journal has reported it completed, and then it is closed with every task terminal. Together with
`c10_emitted_restore` (restore = `meaning`): a restart at the end of the run restores every stored job that is not
reported completed as the job layer holds it (Running tasks as Waiting). The converse is not claimed: a closed job
without tasks is never reported completed, and if it was forgotten the restart stores it again. -/
theorem c10_emitted_state_agrees (uid : String) (ops : List Op) (h : EmitOkRun uid ops) {s : State} {evs : List Ev}
    (hr : run {} ops = .ok (s, evs)) (j : Nat) (job : Job) (hj : s.getJob j = some job) :
    match alGet (meaning (journalOf uid ops)).jobs j with
    | some aj => aj.isOpen = job.isOpen ∧ aj.tasks.map (·.id) = job.tasks.map (·.1) ∧
        ∀ a ∈ aj.tasks, ∃ x, lookup job.tasks a.id = some x ∧ a.st = Emit.oc x ∧ (x = .running → a.inst.isSome = true)
    | none => job.isOpen = false ∧ ∀ p ∈ job.tasks, p.2.terminal = true := by
  have hi := run_inv ops (Inv.init (meaningStep {} (.serverStart uid)) rfl) h hr
  have e : meaning (journalOf uid ops) =
      (journalFrom {} ops).foldl meaningStep (meaningStep {} (.serverStart uid)) := rfl
  rw [e]
  have := hi.sim j job hj
  cases hg : alGet ((journalFrom {} ops).foldl meaningStep (meaningStep {} (.serverStart uid))).jobs j with
  | none => rw [hg] at this; exact this
  | some aj => rw [hg] at this; exact ⟨this.isOpen, this.ids, this.st⟩

/-- **c10_emitted_interleaved** (general form of `c10_emitted_producible`, `c10_emitted_dep_closed` and
`c10_emitted_restore`). A real journal also contains records of
other emitters between those of the job layer (`WorkerOverview`, the allocation-queue records of the autoalloc
service, `ServerStop`: `Emit.isOther`), and its `WorkerConnected` records carry the allocation id of the worker, which
the job layer does not know. For every interleaved history `items` (operations of the job layer and records of other
emitters) with `OkRunI uid items` — `EmitOk` for every operation, and every other record is of one of these kinds and
allowed where it is written (`recordOk`: a created queue id is new) — and every journal `J` that equals the emitted
one up to the allocation ids of `WorkerConnected`: every prefix `K` of `J` is producible and failure-closed, restore
of `K` refines `meaning K`, and the conclusion of `c03_restart` holds. -/
theorem c10_emitted_interleaved (uid : String) (items : List Item) (h : OkRunI uid items)
    (J : List Record) (hJ : J.map eraseAlloc = journalOfI uid items) (K : List Record) (hK : K <+: J) :
    Producible K ∧ HqModel.C03.DepClosed (meaning K) ∧ RestoreRefines K ∧
    ∃ R X, restore K = .ok (R, X) ∧
      ∀ job t deps i c, (job, t, deps, i, c) ∈ batchPending X.batches →
        ∃ ja ∈ (meaning K).jobs, ∃ a ∈ ja.2.tasks, ja.1 = job ∧ a.id = t ∧ a.st = .waiting ∧
          ∀ d ∈ a.deps, d ∈ deps ∨ ∃ b, ja.2.find d = some b ∧ b.st = .finished := by
  have g := journalFromI_good items (Inv.init (meaningStep {} (.serverStart uid)) rfl) h
  have hK0 : K.map eraseAlloc <+: journalOfI uid items := by
    obtain ⟨M, rfl⟩ := hK
    rw [← hJ, List.map_append]
    exact List.prefix_append _ _
  have hp : Producible K := by
    obtain ⟨M, hM⟩ := hK0
    have := c10_prefix (K.map eraseAlloc) M (hM ▸ g.journal_start.1)
    unfold Producible at this ⊢
    rw [← producibleFrom_erase]; exact this
  have hd : HqModel.C03.DepClosed (meaning K) := by
    rw [show meaning K = meaning (K.map eraseAlloc) from (foldl_erase K {}).symm]
    exact g.journal_start.2 _ hK0
  exact ⟨hp, hd, c10_restore_refines K hp, HqModel.C03.c03_restart K hp hd⟩

/-! ### The side condition cannot be dropped: concrete runs of M4 for five of its conjuncts (late start, consumers,
instance id, worker lost twice, entries ≠ ids) -/

/-- a late start report (after the outcome): M4 emits `TaskStarted` after `TaskFinished`; the journal is not producible
(and `restore` would put the finished task back to running) -/
theorem c10_emitted_late_start_witness :
    ¬ Producible (journalOf "u" [.workerNew 1, .submit none none (.array [⟨0, 1, 1⟩] none), .started (1, 0) 0 [1] 0,
        .finished (1, 0), .started (1, 0) 1 [1] 0]) := by decide +kernel

/-- an incomplete consumer list: 1 depends on 0, 0 fails with `consumers = []` -/
theorem c10_emitted_consumers_witness :
    ¬ HqModel.C03.DepClosed (meaning (journalOf "u" [.workerNew 1, .submit none none (.graph [(0, []), (1, [0])]),
        .started (1, 0) 0 [1] 0, .failed (1, 0) []])) := by decide +kernel

/-- a repeated instance id -/
theorem c10_emitted_instance_witness :
    ¬ Producible (journalOf "u" [.workerNew 1, .submit none none (.array [⟨0, 1, 1⟩] none), .started (1, 0) 0 [1] 0,
        .workerLost 1 [(1, 0)] "hblost", .workerNew 2, .started (1, 0) 0 [2] 0]) := by decide +kernel

/-- a worker lost twice (M4 only asks that the worker is known) -/
theorem c10_emitted_lost_twice_witness :
    ¬ Producible (journalOf "u" [.workerNew 1, .workerLost 1 [] "idle", .workerLost 1 [] "idle"]) := by decide +kernel

/-- ids and entries that disagree (M4 zips them; `restore` hands the core fewer tasks than the job has) -/
theorem c10_emitted_entries_witness :
    ¬ Producible (journalOf "u" [.submit none none (.array [⟨0, 3, 1⟩] (some 2))]) := by decide +kernel

/-- Observation (about the real code, outside the models' common vocabulary): `journalOf` ends BEFORE an operation on
which the job layer panics. The real `handle_submit` sends the `Submit` event to the journal before `attach_submit`;
an array whose id ranges overlap passes `validate_submit` (it only looks at the tasks the job already has), the
event is persisted, `attach_submit` panics (first conjunct: M4), and `restore` of a journal that contains that record
panics again at the same assertion (second conjunct: M5) — replayed on the real code, see notes/job_journal.md. -/
theorem c10_emitted_poison_submit_witness :
    step {} (.submit none none (.array [⟨0, 2, 1⟩, ⟨1, 2, 1⟩] none)) = .error (.panic "attach_submit.assert_new") ∧
    restore [.serverStart "u", .submit 1 true none (.array [⟨0, 2, 1⟩, ⟨1, 2, 1⟩] none)] =
      .error (.panic .attachDuplicate) := ⟨rfl, rfl⟩

/-- two workers; an open job with a dependency chain `0 ← 1 ← 2` and an independent task; a worker loss with a rerun
under a larger instance id; a second (auto-id, with entries) submit into the open job; a second, closed job that is
canceled; the failure of task 0 with its two transitive dependents; close; a failure that exceeds `max_fails = 1` and
aborts the rest of the job; forget -/
def sampleOps : List Op :=
  [ .workerNew 1, .workerNew 2,
    .openJob (some 1),
    .submit (some 1) (some 1) (.graph [(0, []), (1, [0]), (2, [1]), (3, [])]),
    .started (1, 0) 0 [1] 0,
    .started (1, 3) 0 [2] 0,
    .workerLost 2 [(1, 3)] "hblost",
    .started (1, 3) 1 [1] 0,
    .finished (1, 3),
    .submit (some 1) none (.array [] (some 2)),
    .submit none none (.array [⟨0, 3, 1⟩] none),
    .failed (1, 0) [(1, 1), (1, 2)],
    .cancel 2,
    .close 1,
    .started (1, 4) 0 [1] 0,
    .failed (1, 4) [],
    .forget 2 [.canceled],
    .forget 1 [.failed] ]

theorem sampleOps_ok : EmitOkRun "u" sampleOps := by decide +kernel

example : EmitOkRun "u" sampleOps := sampleOps_ok

example : (run {} sampleOps).toOption.isSome = true := by decide +kernel

example : journalOf "u" sampleOps =
    [ .serverStart "u", .workerConnected 1 none, .workerConnected 2 none, .jobOpen 1 (some 1),
      .submit 1 false (some 1) (.graph [⟨0, [], true⟩, ⟨1, [0], true⟩, ⟨2, [1], true⟩, ⟨3, [], true⟩]),
      .taskStarted 1 0 0 [1], .taskStarted 1 3 0 [2], .workerLost 2 .heartbeatLost, .taskStarted 1 3 1 [1],
      .taskFinished 1 3, .submit 1 false none (.array [⟨4, 2, 1⟩] (some 2)),
      .submit 2 true none (.array [⟨0, 3, 1⟩] none),
      .tasksAborted [(1, 1), (1, 2)], .taskFailed 1 0,
      .jobCancel 2, .tasksCanceled [(2, 0), (2, 1), (2, 2)], .jobCompleted 2,
      .jobClose 1, .taskStarted 1 4 0 [1], .taskFailed 1 4, .tasksAborted [(1, 5)], .jobCompleted 1 ] := by decide +kernel

/-- the theorems apply to it: e.g. cut between the abort of the dependents and the failure that caused it -/
example : RestoreRefines ((journalOf "u" sampleOps).take 13) :=
  (c10_emitted_restore "u" sampleOps sampleOps_ok _ (List.take_prefix _ _)).1

/-- a history with an allocation queue, a worker of that allocation and a worker overview -/
def sampleItems : List Item :=
  [.other (.queueCreated 1), .other (.allocQueued 1 7), .op (.workerNew 1), .other (.workerOverview 1),
    .op (.submit none none (.array [⟨0, 2, 1⟩] none)), .op (.started (1, 0) 0 [1] 0), .other (.allocFinished 1 7),
    .op (.workerLost 1 [(1, 0)] "connlost"), .other (.queueRemoved 1), .other .serverStop]

theorem sampleItems_ok : OkRunI "u" sampleItems := by decide +kernel

/-- the general form on that history -/
example : OkRunI "u" [.other (.queueCreated 1), .other (.allocQueued 1 7), .op (.workerNew 1), .other (.workerOverview 1),
    .op (.submit none none (.array [⟨0, 2, 1⟩] none)), .op (.started (1, 0) 0 [1] 0), .other (.allocFinished 1 7),
    .op (.workerLost 1 [(1, 0)] "connlost"), .other (.queueRemoved 1), .other .serverStop] := sampleItems_ok

example : RestoreRefines
    [.serverStart "u", .queueCreated 1, .allocQueued 1 7, .workerConnected 1 (some 7), .workerOverview 1,
     .submit 1 true none (.array [⟨0, 2, 1⟩] none), .taskStarted 1 0 0 [1], .allocFinished 1 7] :=
  (c10_emitted_interleaved "u" sampleItems sampleItems_ok
    [.serverStart "u", .queueCreated 1, .allocQueued 1 7, .workerConnected 1 (some 7), .workerOverview 1,
     .submit 1 true none (.array [⟨0, 2, 1⟩] none), .taskStarted 1 0 0 [1], .allocFinished 1 7,
     .workerLost 1 .connectionLost, .queueRemoved 1, .serverStop]
    (by decide +kernel) _ (by decide +kernel)).2.2.1

end HqModel.C10
