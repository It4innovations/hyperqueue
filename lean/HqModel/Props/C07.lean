import HqModel.Props.C09Rpc
import HqModel.Props.C07Restart
import HqModel.Lemmas.JobSteps
import HqModel.Lemmas.CoreSteps
import HqModel.Lemmas.CoreMsgLoss
import HqModel.Lemmas.CoreMsgWitness
/-!
# C07 — worker loss: running tasks are restarted or failed per crash limit, nothing else

`on_remove_worker` (M1, `HqModel.Core.State.removeWorker`) applies the decision table `crashOutcome` to exactly
the tasks it reported as running (`crashLoop` runs over the `running` list of the `on_worker_lost` callback);
tasks that were only placed (assigned / prefilled / retracting / redirect target) are re-queued by
`lostAssigned` / `lostPrefilled` / `lostRetracting`, which never touch the crash counter. The job layer (M4)
moves exactly the reported tasks from Running to Waiting. Restart clause: component `journal` (`c07.restart`).
-/
namespace HqModel.C07
open HqModel

/-- **The crash-limit decision, stated outright** for every limit, loss reason class and previous count:
the counter grows by one exactly when the loss is a failure (connection / heartbeat lost) and the task may be
restarted at all; the task is failed exactly when it is `never-restart` (any reason) or the loss is a failure
and the new count reaches `MaxCrashes n`; `unlimited` tasks never fail for this reason. -/
theorem c07_crash_decision (l : Core.CrashLimit) (isFailure : Bool) (c : Nat) :
    (Core.crashOutcome l isFailure c).1 = (if isFailure && l ≠ .never then c + 1 else c) ∧
    ((Core.crashOutcome l isFailure c).2 = true ↔
      (l = .never ∨ (isFailure = true ∧ ∃ n, l = .max n ∧ c + 1 ≥ n))) :=
  Core.crashOutcome_spec l isFailure c

theorem c07_unlimited_never_fails (isFailure : Bool) (c : Nat) :
    (Core.crashOutcome .unlimited isFailure c).2 = false := Core.crashOutcome_unlimited isFailure c

theorem c07_stop_is_no_crash (l : Core.CrashLimit) (c : Nat) (hl : l ≠ .never) :
    Core.crashOutcome l false c = (c, false) := Core.crashOutcome_no_failure l c hl

/-- **Job layer**: `process_worker_lost` turns exactly a Running task into a Waiting one (and refuses anything
else), decrementing the running counter by one. -/
theorem c07_job_layer (job job' : Job.Job) (t : Nat) (e : job.setWaiting t = .ok job') :
    Job.lookup job.tasks t = some .running ∧ job'.tasks = Job.setState job.tasks t .waiting ∧
    job'.cnt.running = job.cnt.running - 1 :=
  Job.setWaiting_spec e

/-- non-vacuity: MaxCrashes 2, second failure loss fails the task; a stop does not -/
example : Core.crashOutcome (.max 2) true 1 = (2, true) ∧ Core.crashOutcome (.max 2) false 1 = (1, false) ∧
    Core.crashOutcome (.max 2) true 0 = (1, false) := by decide

/-! ## The crash counter over all runs (M1)

`Lemmas/CoreMsg*.lean` follow every task record through every function of the reactor and the scheduler: the crash
counter is written by `crashLoop` only. -/

/-- **The crash counter of a task in the map never decreases, and only the loss of a worker BY FAILURE changes it**:
for every reachable state `s`, every operation `op` (any of the eight, any input) and every task that is in the map
before and after (`id ∉ op.newIds`: the operation does not submit that id). -/
theorem c07_crash_counter_step (pre : List Core.Op) (op : Core.Op) (s s' : Core.State) (out out' : Core.Out)
    (hpre : Core.run {} pre = .ok (s, out)) (hstep : Core.step s op = .ok (s', out'))
    (id : Core.TaskId) (hid : id ∉ op.newIds) (t t' : Core.Task)
    (ht : s.task? id = some t) (ht' : s'.task? id = some t') :
    t.crashes ≤ t'.crashes ∧
    ((∀ w reason order rets, op ≠ .removeWorker w reason true order rets) → t'.crashes = t.crashes) := by
  obtain ⟨_, h2, h3⟩ := Core.step_crashes (Core.run_nodup hpre) hstep hid ht ht'
  refine ⟨h2, fun hop => h3 ?_⟩
  intro hf
  cases op <;> simp only [Core.Op.isFailureLoss] at hf
  subst hf
  exact hop _ _ _ _ rfl

/-- **… along every run** in which the id is not submitted again. -/
theorem c07_crash_counter_mono (pre ops : List Core.Op) (s s' : Core.State) (out out' : Core.Out)
    (hpre : Core.run {} pre = .ok (s, out)) (hrun : Core.run s ops = .ok (s', out'))
    (id : Core.TaskId) (hid : id ∉ Core.allNewIds ops) (t t' : Core.Task)
    (ht : s.task? id = some t) (ht' : s'.task? id = some t') : t.crashes ≤ t'.crashes :=
  (Core.run_task_mono (Core.run_nodup hpre) hrun hid ht ht').2

/-- **Only a task that was running on the lost worker is charged a crash**: in every reachable state (side
conditions `OpOk2` on the run that reached it), when `on_remove_worker w` changes the crash counter of a task, then
the loss is a failure, the counter grew, the task is named in the `running` list of the `workerLost` callback of
this operation, and before the operation the task was Running on `w` (or RunningMultiNode with root `w`). Tasks
that were merely Assigned / Prefilled / Retracting there, redirect targets, and tasks of other workers keep
their counter. (The counter grows by exactly one, `Core.removeWorker_crash`: the `running` list names no task twice,
`Core.lossPart1_running`.) -/
theorem c07_crash_only_running_on_lost (pre : List Core.Op) (s s' : Core.State) (out out' : Core.Out)
    (w : Nat) (reason : String) (f : Bool) (order : List Core.TaskId) (rets : List (List Core.TaskId))
    (hok : Core.RunOk Core.OpOk2 {} pre) (hpre : Core.run {} pre = .ok (s, out))
    (hstep : Core.step s (.removeWorker w reason f order rets) = .ok (s', out'))
    (id : Core.TaskId) (t t' : Core.Task) (ht : s.task? id = some t) (ht' : s'.task? id = some t')
    (hne : t'.crashes ≠ t.crashes) :
    f = true ∧ t.crashes < t'.crashes ∧
    (∃ running, Core.Cb.workerLost w running reason ∈ out'.cbs ∧ id ∈ running) ∧
    ((∃ v, t.state = .running w v) ∨ (∃ others, t.state = .runningMN (w :: others))) :=
  have h := Core.removeWorker_crash (Core.run_inv hok hpre) hstep ht ht' hne
  ⟨h.1, by rw [h.2.1]; exact Nat.lt_succ_self _, h.2.2⟩

/-- non-vacuity: `Core.crashOps` satisfies all side conditions; task (1,0) is Running on worker 1 with counter 0,
the worker is lost by failure: counter 1, instance id 1, Waiting; stopping the idle worker 2 changes nothing -/
example : Core.RunOk Core.OpOk2 {} Core.crashOps ∧
    ((Core.run {} Core.crashOps).toOption.map fun r => r.1.tasks.map fun t => (t.id, t.state, t.inst, t.crashes)) =
      some [((1, 0), .waiting 0, 1, 1)] :=
  ⟨Core.RunOk.mono (fun _ _ h => h.1.ok2) _ _ Core.crashOps_ok.1, Core.crashOps_ok.2.1⟩

end HqModel.C07
