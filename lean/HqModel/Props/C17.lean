import HqModel.Props.C17Query
import HqModel.Lemmas.AutoAllocLimits
import HqModel.Lemmas.AutoAllocSubmit
/-!
# C17 — automatic allocation respects its limits and submits only on demand
Model: `HqModel.AutoAlloc` (M6). The environment (batch system, scheduler answer, clock, hash orders) is
universally quantified in every statement. In particular the scheduler's answer to the worker query is an arbitrary
input here; what the query answers for waiting multi-node requests is the subject of `Props/C17Query.lean` (model M10).
-/
namespace HqModel.C17
open HqModel.AutoAlloc

/-- The invariant is inductive for every single step from *any* state satisfying it (not only reachable ones),
including the state left behind by a step that panics. -/
theorem c17_limits_step (s : State) (e : Ev) (h : Inv s) : Inv (step s e).st := by
  rcases step_frame s e with
    hT | ⟨_, ⟨k, qk, _, hk, hst⟩ | ⟨p, lim, qid, _, new, hst, hnew⟩ | ⟨k, f, qk, m, _, _, hst⟩⟩
  · intro q' hq'
    obtain ⟨q, hq, ht⟩ := hT.mem q' hq'
    exact ht.qinv (h q hq)
  · rw [hst]
    exact State.setQueue_Inv s _ h (QInv_congr _ _ rfl rfl (h qk (State.getQueue_mem _ _ _ hk)))
  · rw [hst]
    intro q' hq'
    rcases List.mem_append.mp hq' with hq' | hq'
    · exact h q' hq'
    · rcases hnew with rfl | ⟨rfl, _⟩
      · cases hq'
      · rw [List.mem_singleton.mp hq']
        refine ⟨?_, ?_, ?_⟩ <;> simp [Queue.queuedCount, Queue.activeWorkers]
  · rw [hst]
    exact fun q' hq' => h q' (List.mem_filter.mp hq').1

/-- **Limits (inductive invariant).** In every state reachable from the empty autoallocator by ANY sequence of
events — any queue parameters, any submission results, any external statuses, any worker connects/losses, any
query answers, any clock — every queue has at most `backlog` queued allocations, its queued+running allocations
request at most `max_worker_count` workers, and every allocation requests between 1 and `max_workers_per_alloc`
workers. -/
theorem c17_limits (c : Consts) (n : Nat) (s : State) (h : Reach (init c n) s) : Inv s := by
  induction h with
  | init => intro q hq; simp [init] at hq
  | step e _ _ ih => exact c17_limits_step _ e ih

/-- Non-vacuity: a concrete reachable state with a queued and a running allocation at the limits
(backlog 2, 3 workers per allocation, at most 4 workers: the second allocation is cut to 1 worker). -/
example :
    let s0 := init ⟨10, 20, 0⟩ 1
    let s1 := (step s0 (.addQueue ⟨2, 3, some 4⟩ (Limiter.new [0, 1000] 2 3) none)).st
    let s2 := (step s1 (.tick 0 [1] (.ok [9] []) [.ok 5, .ok 6])).st
    let s3 := (step s2 (.workerConnected 1 5)).st
    (s3.queues.map fun q => (q.queuedCount, q.activeWorkers, q.allocs.map (·.target))) = [(1, 4, [3, 1])] :=
  rfl

/-- **Silence.** `submit_allocation(x, n)` is called only by a scheduling tick, and only if — in the state before
the tick — queue `x` exists, is Active, has not reached a failure limit, the back-off delay since its last attempt
has elapsed (`now - last ≥ delays[level]`), it has space (`has_space_for_submit`), the scheduler answered, the answer
`resp` that `perform_submits` pairs with `x` is non-empty, and `n` is one of the sizes the permit computed from the
limits allows (`Queue.permit_spec`: `1 ≤ n ≤ max_workers_per_alloc`, at most `backlog - queued` calls, total at most
`max_worker_count - active`). `order` is the iteration order of the queue map (duplicate-free). -/
theorem c17_silent (s : State) (e : Ev) (x n : Nat) (h : Out.submit x n ∈ (step s e).outs) :
    ∃ now order query results, e = .tick now order query results ∧
      (order.Nodup →
        ∃ qu sn mn responses resp p,
          s.getQueue x = some qu ∧ qu.active = true ∧ qu.lim.limitsReached = false ∧ qu.lim.elapsed now = true ∧
          qu.hasSpace = true ∧ query = .ok sn mn ∧ mergeMn mn (sn.map fun k => ⟨k, 0, 0⟩) = .ok responses ∧
          (resp, x) ∈ responses.zip (s.pauseAll.activeIn order) ∧ resp.isEmpty = false ∧
          qu.permit resp = .ok p ∧ n ∈ p) := by
  obtain ⟨now, order, query, results, rfl⟩ := step_submit s e x n h
  refine ⟨now, order, query, results, rfl, fun hnd => ?_⟩
  change Out.submit x n ∈ (s.tick now order query results).outs at h
  rcases State.tick_path s now order query results with
    ⟨_, h0⟩ | ⟨outs, p, hq, h0, _⟩ | ⟨sn, mn, responses, rfl, hmerge, h0⟩ <;> rw [h0] at h
  · cases List.mem_singleton.mp h
  · exact absurd h (hq.2 x n)
  · -- the call comes from the loop over the queues, from `queue_try_submit` of a queue the loop has not touched yet
    have hsub : Out.submit x n ∈ (s.tickLoop now order results responses).outs := by
      rcases tickDone_cases (s.tickLoop now order results responses) with ⟨p, _, h1⟩ | ⟨_, tail, ht, h1⟩ <;>
        rw [h1] at h
      · exact h
      · exact (List.mem_append.mp h).resolve_right (ht.2 x n)
    obtain ⟨runs, ho, hr, _⟩ := s.tickLoop_runs now order results responses hnd
    rw [ho] at hsub
    rcases List.mem_append.mp hsub with h0 | hrun
    · cases List.mem_singleton.mp h0
    · obtain ⟨⟨r, qu, res⟩, ht, hts⟩ := List.mem_flatMap.mp hrun
      obtain ⟨rfl, hne, hact, hst, p, hp, hn⟩ := Queue.trySubmit_submit _ _ _ _ _ _ hts
      obtain ⟨hmem, hq⟩ := hr _ ht
      obtain ⟨hl, hel⟩ := (Limiter.status_ok_iff _ _).mp hst
      cases p with
      | nil => cases hn
      | cons k rest =>
        exact ⟨qu, sn, mn, responses, r, _, State.pauseAll_active s _ qu hq hact, hact, hl, hel,
          Queue.permit_hasSpace qu r k rest hp, rfl, hmerge, hmem, hne, hp, hn⟩

/-- Non-vacuity of `c17_silent`: a tick that does call, and the same tick 1 ms too early that does not. -/
example :
    let s0 := init ⟨10, 20, 0⟩ 1
    let s1 := (step s0 (.addQueue ⟨1, 2, none⟩ (Limiter.new [0, 1000] 5 3) none)).st
    let s2 := (step s1 (.tick 0 [1] (.ok [2] []) [.fail])).st
    (step s2 (.tick 999 [1] (.ok [2] []) [.ok 7])).outs = [.query 1, .bad "unused-submit-results", .tickRes .ok] ∧
    (step s2 (.tick 1000 [1] (.ok [2] []) [.ok 7])).outs = [.query 1, .submit 1 2, .evQueued 1 7 2, .tickRes .ok] :=
  ⟨rfl, rfl⟩

/-- **Pause at the limits.** At the end of every tick (that does not panic) every queue whose consecutive
submission failures reached `max_submission_fails` or whose consecutive allocation failures reached
`max_allocation_fails` is Paused. -/
theorem c17_pause (s : State) (now : Nat) (order : List Nat) (query : Query) (results : List SubRes)
    (hnp : (step s (.tick now order query results)).panic = none) :
    ∀ q ∈ (step s (.tick now order query results)).st.queues, q.lim.limitsReached = true → q.active = false := by
  change (s.tick now order query results).panic = none at hnp
  change ∀ q ∈ (s.tick now order query results).st.queues, _
  rcases State.tick_path s now order query results with
    ⟨hna, h⟩ | ⟨outs, p, _, h, _⟩ | ⟨sn, mn, responses, _, _, h⟩ <;> rw [h] at hnp ⊢
  · intro q hq _
    simp only [State.hasActiveQueues, List.any_eq_false] at hna
    simpa using hna q hq
  · exact State.pauseAll_spec s
  · rcases tickDone_cases (s.tickLoop now order results responses) with ⟨p, _, h1⟩ | ⟨_, tail, _, h1⟩ <;>
      rw [h1] at hnp ⊢
    · cases hnp
    · exact State.pauseAll_spec _

/-- **… and stays silent until resumed.** A paused queue stays paused under every event except `resume` of this
queue (so, by `c17_silent`, nothing is submitted for it). -/
theorem c17_paused_stays (s : State) (e : Ev) (x : Nat) (q q' : Queue)
    (hq : s.getQueue x = some q) (hp : q.active = false) (hne : e ≠ .resume x)
    (hq' : (step s e).st.getQueue x = some q') : q'.active = false := by
  rcases step_queue s e x q hq with ⟨_, h⟩ | ⟨h, _⟩ | ⟨q2, h, ht⟩
  · rw [h] at hq'; cases hq'
  · exact absurd h hne
  · rw [h] at hq'; cases hq'
    exact ht.paused hp

/-- Non-vacuity of `c17_pause` / `c17_paused_stays`: two failed submissions with `max_submission_fails = 2`. -/
example :
    let s0 := init ⟨10, 20, 0⟩ 1
    let s1 := (step s0 (.addQueue ⟨1, 1, none⟩ (Limiter.new [0] 2 3) none)).st
    let s2 := (step s1 (.tick 0 [1] (.ok [1] []) [.fail])).st
    let s3 := (step s2 (.tick 1 [1] (.ok [1] []) [.err])).st
    let s4 := (step s3 (.tick 2 [1] (.ok [1] []) [.ok 9])).st
    (s2.queues.map (·.active), s3.queues.map (·.active), s4.queues.map (·.active),
      (step s3 (.tick 2 [1] (.ok [1] []) [.ok 9])).outs) = ([true], [false], [false], [.tickRes .skipped]) :=
  rfl

/-- **Resume is live** (code after the fix `cdd9fd1`: `resume()` clears both failure counters — bits 0 and 1 of
the probed `resumeMask`). After `resume x` — whether the queue was paused by the user or by the safety limits — the
next tick at which the scheduler's answer paired with `x` is non-empty (demand), the limits leave room (the permit
computed from backlog / max_worker_count / queued allocations is non-empty: `n :: rest`) and the back-off delay has
elapsed calls `submit_allocation(x, n)`, unless the autoalloc task panics in this tick.
Side conditions: both limits are positive (a limit 0 means "never submit"); `order` is duplicate-free. -/
theorem c17_resume_live (s : State) (x : Nat) (q : Queue) (now : Nat) (order : List Nat)
    (sn : List Nat) (mn : List (Nat × Nat × Nat)) (results : List SubRes) (responses : List QResp) (resp : QResp)
    (n : Nat) (rest : List Nat)
    (hmask : s.consts.resumeMask.testBit 0 = true ∧ s.consts.resumeMask.testBit 1 = true)
    (hq : s.getQueue x = some q)
    (hpos : 0 < q.lim.maf ∧ 0 < q.lim.msf)
    (hnd : order.Nodup)
    (hmerge : mergeMn mn (sn.map fun k => ⟨k, 0, 0⟩) = .ok responses)
    (hresp : (resp, x) ∈ responses.zip ((step s (.resume x)).st.pauseAll.activeIn order))
    (hdemand : resp.isEmpty = false)
    (hroom : ({ q with active := true, lim := q.lim.onResume s.consts.resumeMask } : Queue).permit resp = .ok (n :: rest))
    (hel : (q.lim.onResume s.consts.resumeMask).elapsed now = true)
    (hnp : (step (step s (.resume x)).st (.tick now order (.ok sn mn) results)).panic = none) :
    Out.submit x n ∈ (step (step s (.resume x)).st (.tick now order (.ok sn mn) results)).outs := by
  -- the resumed queue `q1`: active, below both limits, so untouched by the pausing pass and due
  have hid := State.getQueue_id s x q hq
  generalize hq1 : ({ q with active := true, lim := q.lim.onResume s.consts.resumeMask } : Queue) = q1 at hroom
  have hs1 : (step s (.resume x)).st = s.setQueue q1 := by
    simp only [step, State.resume, hq, hq1]
  rw [hs1] at hresp hnp ⊢
  have hx1 : x = q1.id := by rw [← hq1]; exact hid.symm
  have hg1 : (s.setQueue q1).getQueue x = some q1 := by
    rw [State.getQueue_setQueue, if_pos hx1, hq]; rfl
  have hact1 : q1.active = true := by rw [← hq1]
  have hlim1 : q1.lim.limitsReached = false := by
    rw [← hq1]
    simp only [Limiter.limitsReached, Limiter.onResume, hmask.1, hmask.2, if_true, Bool.or_eq_false_iff,
      decide_eq_false_iff_not]
    omega
  have hst1 : q1.lim.status now = .ok := (Limiter.status_ok_iff _ _).mpr ⟨hlim1, by rw [← hq1]; exact hel⟩
  have hg2 : (s.setQueue q1).pauseAll.getQueue x = some q1 := by
    rw [State.getQueue_pauseAll, hg1, Option.map_some]
    rcases q1.tryPause_cases with h | ⟨h, _⟩
    · rw [h]
    · rw [hlim1] at h; cases h
  have h1 : (s.setQueue q1).hasActiveQueues = true :=
    List.any_eq_true.mpr ⟨q1, State.getQueue_mem _ _ _ hg1, hact1⟩
  have hmain : step (s.setQueue q1) (.tick now order (.ok sn mn) results) = _ :=
    State.tick_main (s.setQueue q1) now order sn mn results responses x q1 h1 (List.of_mem_zip hresp).2 hg2
      (Queue.permit_hasSpace q1 resp n rest hroom) hmerge
  rw [hmain] at hnp ⊢
  obtain ⟨runs, ho, _, hall⟩ := (s.setQueue q1).tickLoop_runs now order results responses hnd
  rcases tickDone_cases ((s.setQueue q1).tickLoop now order results responses) with
    ⟨p, _, h1⟩ | ⟨hp, tail, _, h1⟩ <;> rw [h1] at hnp ⊢
  · cases hnp
  · -- the loop did not panic, so it ran `queue_try_submit` on `q1`, which calls for the head of the permit
    obtain ⟨res, hr⟩ := hall hp resp x q1 hresp hg2
    obtain ⟨more, hm, _, _, h4⟩ := Queue.submitLoop_outs _ _ _
      (Queue.trySubmit_run q1 resp now res n rest hdemand hact1 hst1 hroom).symm
    rw [ho]
    refine List.mem_append_left _ (List.mem_append_right _ (List.mem_flatMap.mpr ⟨_, hr, ?_⟩))
    rw [hm, hx1]
    exact h4 n rest rfl

/-- **The permit does not depend on the hash order of the allocations** (which is why that order is not an input
of the model): permuting the stored allocations of a queue leaves `compute_submission_permit` unchanged. -/
theorem c17_permit_order_independent (q q' : Queue) (r : QResp) (hp : q'.params = q.params)
    (h : q'.allocs.Perm q.allocs) : q'.permit r = q.permit r := by
  have hq : q'.queuedTargets.Perm q.queuedTargets := (h.filter _).map _
  have hc : q'.queuedCount = q.queuedCount := (h.filter _).length_eq
  have ha : q'.activeWorkers = q.activeWorkers := ((h.filter _).map _).sum_nat
  unfold Queue.permit
  simp only [hp, hc, ha, discount_eq, hq.countP_eq, hq.sum_nat]

/-- **F13 (the code before `cdd9fd1`, `resumeMask = 0`): resume liveness is FALSE.** The queue was paused by
`max_submission_fails`; `resume` flips the state only; the next tick (demand 1, room, back-off long elapsed)
pauses it again before anything is submitted. (Replayed on the real code:
`corpus/autoalloc/f13_resume_submission_fails.trace`.) -/
theorem c17_resume_live_false_before_fix :
    (∀ x n, Out.submit x n ∉ f13Run 0) ∧ f13Run 0 = [.tickRes .ok] := by
  have h : f13Run 0 = [.tickRes .ok] := rfl
  refine ⟨?_, h⟩
  intro x n hx
  rw [h] at hx
  simp at hx

/-- Non-vacuity of `c17_resume_live` (fixed code, mask 3): the same run submits. -/
example : f13Run 3 = [.query 1, .submit 1 1, .evQueued 1 1 1, .tickRes .ok] := rfl

end HqModel.C17
