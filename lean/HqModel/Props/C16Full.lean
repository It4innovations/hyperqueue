import HqModel.Props.C16
import HqModel.Lemmas.Alloc2NoStop
import HqModel.Lemmas.Alloc2Scatter
/-!
# C16 — `try_allocate` never stops, `all`, `scatter`: every policy, every free state

(`c16_claim_nostop_partial`, `c16_all_partial`, `c16_scatter_partial` of `C16.lean` are the restricted statements.)

Model: `HqModel.Alloc` (M3).
-/
namespace HqModel.C16
open HqModel.Alloc

/-- **c16_tight_loop.** The `loop` of `claim_compact_from_groups` (the `tight` / `tight!` claim) neither panics nor
hangs: for a positive amount, groups whose stored free fractions are below one unit (`GVals`), and a set `S` of
distinct existing groups that contains the amount (`ScatterOk`: enough free whole indices in `S`, and for a fractional
part a spare whole index or a matching fraction in `S`), `claim_compact_from_groups(amount, pool, Some(S))` returns
(`NoStop`: the only error allowed is `Stop.badChoice`).

No `max_by_key(..).unwrap()` on an empty set, no `pop().unwrap()` on an empty vector, no `units -= size` underflow,
and termination by the explicit measure `nz amounts` = number of non-zero entries of the local `amounts` vector (the
model's fuel `#groups + 2` is never exhausted, i.e. `Stop.hang` is unreachable). -/
theorem c16_tight_loop {amount : Nat} {gs : List Group} {S : List Nat} {pick : Option Nat} (hpos : 0 < amount)
    (hvals : GVals gs) (hS : ∀ p ∈ S, p < gs.length) (hnd : S.Nodup)
    (hok : ScatterOk gs S (amount / FPU) (amount % FPU)) : NoStop (claimTight amount gs (some S) pick) :=
  claimTight_nostop hpos hvals hS hnd hok

/-- **c16_claim_nostop (full).** In every reachable state (side condition `NoSingletonGroups`, as for `c04_concise`)
`try_allocate` never stops — no failing `pop().unwrap()` / `max_by_key().unwrap()` / `group_solver(..).unwrap()` /
`assert!` / `unreachable!` / index / subtraction, and no non-termination, in the admission test (including the two
solver calls of the strict path), in the claims (`scatter` round robin, `compact` inside the solver's group set,
`tight` loop, `all`) and in `free_resources.remove` — for EVERY policy on EVERY kind of resource and all choices
(solver answers, hash-order picks) the model accepts. Remaining hypotheses, all enforced upstream of the allocator:

* `hvalid` — the resource ids of the request are distinct (`ResourceRequest::validate`);
* `hcap` — no entry addresses a resource the worker does not have (`is_capable_to_run_request`);
* `hpos` — a `tight` / `tight!` entry asks for a positive amount (`validate`: amounts are non-zero). Necessary: the
  example below shows the zero-amount `tight` panic of the real code;
* `hw` — the coupling items address existing groups (`ResourceDescriptor::validate`), otherwise `vars[r][g]` in
  `group_solver` is out of bounds. -/
theorem c16_claim_nostop {d : Descriptor} {s₀ s : State} (hinit : State.init d = some s₀)
    (hns : NoSingletonGroups s₀) (hreach : Reach s₀ s) (h : Nat) (rq : Request) (ch : Choices)
    (hvalid : (rq.map (·.rid)).Nodup)
    (hcap : ∀ e ∈ rq, s.pools[e.rid]? ≠ some .empty)
    (hpos : ∀ e ∈ rq, (e.policy = .tight ∨ e.policy = .forceTight) → 0 < e.amount)
    (hw : (mkLp s.concise (coupledEntries s.pools rq) s.weights).weightOob = false) :
    NoStop (tryAllocate s h rq ch) := by
  have hinv := reach_inv2 hinit hns hreach
  obtain ⟨-, hU⟩ := init_inv2 hinit hns
  exact tryAllocate_nostop_full hinv hU (init_facts hinit) (reach_static hinit hreach) h rq ch hvalid hcap
    (fun e he => hpos e (coupled_info he).1) hw

/-- **c16_enabled_nostop.** `is_enabled` (the admission test alone, strict path included) never stops in a reachable
state; only `hw` is needed. -/
theorem c16_enabled_nostop {d : Descriptor} {s₀ s : State} (hinit : State.init d = some s₀)
    (hns : NoSingletonGroups s₀) (hreach : Reach s₀ s) (rq : Request) (ch : Choices)
    (hw : (mkLp s.concise (coupledEntries s.pools rq) s.weights).weightOob = false) :
    NoStop (isEnabled s rq ch) :=
  isEnabled_nostop_full (reach_inv2 hinit hns hreach) (init_facts hinit) (reach_static hinit hreach) rq ch hw

/-- **c16_all (full), at the pool.** Reachable state, grouped resource, entry with policy `all` that passed its
admission test (`amount_max_alloc == full_size`): the claim returns, up to order, exactly what `all` returns on the
pool as `ResourceAllocator::new` created it (`gs₀`) — every index of every group, each as a whole index, with its
group — the amount is the full size = number of granted indices, and no free whole index is left. -/
theorem c16_all_claim {d : Descriptor} {s₀ s : State} (hinit : State.init d = some s₀) (hns : NoSingletonGroups s₀)
    (hreach : Reach s₀ s) {e : Entry} {full : Nat} {gs : List Group} (hp : s.pools[e.rid]? = some (.groups full gs))
    (hpol : e.policy = .all) (hadm : entryHasResources s.pools s.concise e = true) {pick : Option Nat} {p' : Pool}
    {ra : RAlloc} (h : (Pool.groups full gs).claim e pick = .ok (p', ra)) :
    ∃ sizes, s₀.pools[e.rid]? = some (Pool.new (.groups sizes)) ∧ full = sizes.sum * FPU ∧
      ra.rid = e.rid ∧ ra.amount = full ∧ ra.indices.length = sizes.sum ∧ WholeOnly ra.indices ∧
      ra.indices.Perm (claimAllAux 0 (groupsFrom 0 sizes)).2 ∧
      (ra.indices.map (·.index)).Perm (List.range sizes.sum) ∧
      ∀ g ∈ p'.groupsOf, g.free = [] := by
  have hinv := reach_inv2 hinit hns hreach
  obtain ⟨gs₀, c, hctx⟩ := gctx hinv (init_facts hinit) (reach_static hinit hreach) hp
  obtain ⟨sizes, hfull, hgs₀⟩ := init_groups hinit hctx.pool₀
  have heq : c.maxAlloc = full := by
    unfold entryHasResources at hadm
    rw [hp] at hadm
    simpa [hctx.conc, hpol, Pool.fullSize] using hadm
  simp only [Pool.claim, hpol, Except.ok.injEq, Prod.mk.injEq] at h
  obtain ⟨rfl, rfl⟩ := h
  obtain ⟨h1, h2, h3⟩ := claimAllAux_spec 0 gs
  have hperm : (claimAllAux 0 gs).2.Perm (claimAllAux 0 gs₀).2 :=
    claimAllAux_perm 0 gs gs₀ hctx.len.symm (fun i g g₀ hg hg₀ => hctx.all_free heq hg hg₀)
  obtain ⟨-, h2₀, h3₀⟩ := claimAllAux_spec 0 gs₀
  have hlen : (claimAllAux 0 gs).2.length = sizes.sum := by
    rw [hperm.length_eq, h3₀, hgs₀, groupsFrom_total]
  refine ⟨sizes, ?_, hfull, rfl, rfl, hlen, claimAllAux_whole 0 gs, ?_, ?_, h1⟩
  · rw [hctx.pool₀, hgs₀, hfull]; rfl
  · rw [← hgs₀]; exact hperm
  · have := (hperm.map (·.index)).trans h2₀
    rw [hgs₀] at this
    have hr := groupsFrom_flatten 0 sizes
    rw [← List.range_eq_range'] at hr
    exact this.trans hr

/-- **c16_all (full), at the operation.** A successful `try_allocate` in a reachable state, request with distinct
resource ids, entry `e` with policy `all` on a grouped resource: the allocation contains a resource allocation for
`e.rid` that holds every index `0 … n-1` of the resource (`n` = sum of the group sizes of the descriptor item), each
whole and with its group, `amount = full_size = n` units. -/
theorem c16_all {d : Descriptor} {s₀ s s' : State} (hinit : State.init d = some s₀) (hns : NoSingletonGroups s₀)
    (hreach : Reach s₀ s) {h : Nat} {rq : Request} {ch : Choices} {al : Allocation}
    (hstep : tryAllocate s h rq ch = .ok (some al, s')) (hvalid : (rq.map (·.rid)).Nodup) {e : Entry} (he : e ∈ rq)
    (hpol : e.policy = .all) {full : Nat} {gs : List Group} (hp : s.pools[e.rid]? = some (.groups full gs)) :
    ∃ sizes, s₀.pools[e.rid]? = some (Pool.new (.groups sizes)) ∧ full = sizes.sum * FPU ∧
      ∃ ra ∈ al, ra.rid = e.rid ∧ ra.amount = full ∧ ra.indices.length = sizes.sum ∧ WholeOnly ra.indices ∧
        ra.indices.Perm (claimAllAux 0 (groupsFrom 0 sizes)).2 ∧
        (ra.indices.map (·.index)).Perm (List.range sizes.sum) := by
  obtain ⟨hadm, p', ra, hc, hra⟩ := tryAllocate_plain_claim hstep hvalid he hp
    (by simp [hpol, Policy.relevantForCoupling])
  obtain ⟨sizes, h1, h2, h3, h4, h5, h6, h7, h8, -⟩ := c16_all_claim hinit hns hreach hp hpol hadm hc
  exact ⟨sizes, h1, h2, ra, hra, h3, h4, h5, h6, h7, h8⟩

/-- **c16_scatter (full), at the pool.** For ANY free state of a grouped resource, `scatter` takes its whole indices
by water-filling over the groups in index order: there are a level `k` (completed rounds) and a cut position `j` such
that group `p` contributes `lvl f k j p = min(f p, k) + [p < j ∧ k < f p]` whole indices, where `f p` is the number of
free whole indices of group `p` before the claim — empty and exhausted groups are skipped, a group never gives two
indices more than a group that still has one. The contributions add up to the requested whole units. (`wcount acc p`
= number of whole entries of group `p` in the returned vector; the fractional entry, if any, is not counted.) -/
theorem c16_scatter_claim {amount : Nat} {gs gs' : List Group} {pick : Option Nat} {acc : List AIdx}
    (h : claimScatter amount gs none pick = .ok (gs', acc)) :
    ∃ k j, j ≤ gs.length ∧ (∀ p, wcount acc p = lvl (freeLen gs) k j p) ∧
      sumL (freeLen gs) k j gs.length = amount / FPU :=
  claimScatter_level h

/-- **c16_scatter_unique.** The closed form of `c16_scatter_claim` is a function of the free state and the amount:
any two (level, cut) pairs with the same total give the same contribution for every group. -/
theorem c16_scatter_unique {f : Nat → Nat} {n k j k' j' : Nat} (hf0 : ∀ p, n ≤ p → f p = 0)
    (hs : sumL f k j n = sumL f k' j' n) : ∀ p, lvl f k j p = lvl f k' j' p := by
  have key : ∀ {k j k' j' : Nat}, (k < k' ∨ (k = k' ∧ j ≤ j')) → sumL f k j n = sumL f k' j' n →
      ∀ p, lvl f k j p = lvl f k' j' p := by
    intro k j k' j' hord hs p
    rcases Nat.lt_or_ge p n with hp | hp
    · have hpt := (sum_pointwise ((List.range n).map (lvl f k j)) ((List.range n).map (lvl f k' j')) (by simp)
        (fun i x y hx hy => by
          simp only [List.getElem?_map] at hx hy
          cases hr : (List.range n)[i]? with
          | none => simp [hr] at hx
          | some q =>
            simp only [hr, Option.map_some, Option.some.injEq] at hx hy
            subst hx hy
            exact lvl_mono hord q)).2 hs
      have e1 : ((List.range n).map (lvl f k j))[p]? = some (lvl f k j p) := by simp [hp]
      rw [hpt] at e1
      simpa [hp] using e1.symm
    · have := hf0 p hp
      simp [lvl, this]
  intro p
  rcases Nat.lt_trichotomy k k' with h | h | h
  · exact key (.inl h) hs p
  · rcases Nat.le_total j j' with h' | h'
    · exact key (.inr ⟨h, h'⟩) hs p
    · exact (key (.inr ⟨h.symm, h'⟩) hs.symm p).symm
  · exact (key (.inl h) hs.symm p).symm

/-- **c16_scatter_groups.** Consequence = the formula the harness monitor `c16.scatter` evaluates on every grant:
the number of groups a `scatter` grant takes whole indices from is `min(requested whole units, groups with a free
whole index)` — as many groups as possible. -/
theorem c16_scatter_groups {amount : Nat} {gs gs' : List Group} {pick : Option Nat} {acc : List AIdx}
    (h : claimScatter amount gs none pick = .ok (gs', acc)) :
    ((List.range gs.length).filter (fun p => decide (0 < wcount acc p))).length =
      min (amount / FPU) ((List.range gs.length).filter (fun p => decide (0 < freeLen gs p))).length :=
  claimScatter_groups_used h

/-- **c16_scatter (full), at the operation.** A successful `try_allocate` (any state), request with distinct resource
ids, entry `e` with policy `scatter` on a grouped resource: the allocation contains a resource allocation for `e.rid`
whose whole indices are distributed over the groups by the closed form above, hence over
`min(units, non-empty groups)` groups. -/
theorem c16_scatter {s s' : State} {h : Nat} {rq : Request} {ch : Choices} {al : Allocation}
    (hstep : tryAllocate s h rq ch = .ok (some al, s')) (hvalid : (rq.map (·.rid)).Nodup) {e : Entry} (he : e ∈ rq)
    (hpol : e.policy = .scatter) {full : Nat} {gs : List Group} (hp : s.pools[e.rid]? = some (.groups full gs)) :
    ∃ ra ∈ al, ra.rid = e.rid ∧ ra.amount = e.amount ∧
      (∃ k j, j ≤ gs.length ∧ (∀ p, wcount ra.indices p = lvl (freeLen gs) k j p) ∧
        sumL (freeLen gs) k j gs.length = e.amount / FPU) ∧
      ((List.range gs.length).filter (fun p => decide (0 < wcount ra.indices p))).length =
        min (e.amount / FPU) ((List.range gs.length).filter (fun p => decide (0 < freeLen gs p))).length := by
  obtain ⟨-, p', ra, hc, hra⟩ := tryAllocate_plain_claim hstep hvalid he hp
    (by simp [hpol, Policy.relevantForCoupling])
  simp only [Pool.claim, hpol] at hc
  split at hc
  · cases hc
  · rename_i gs' acc hcs
    simp only [Except.ok.injEq, Prod.mk.injEq] at hc
    obtain ⟨-, rfl⟩ := hc
    exact ⟨_, hra, rfl, rfl, claimScatter_level hcs, claimScatter_groups_used hcs⟩

theorem noSingleton_of_all {s : State}
    (h : s.pools.all (fun p => !(p.tag == 2 && p.ngroups == 1)) = true) : NoSingletonGroups s :=
  .of_all h

/-- one grouped resource, 3 groups of 2 cpus -/
def exD : Descriptor := { items := [(0, .groups [2, 2, 2])], couplings := [] }

def exT₀ : State := (State.init exD).get (by decide)

theorem exT₀_init : State.init exD = some exT₀ := by simp [exT₀]

/-- `3.5 tight` inside the solver's set {0, 1}: the loop runs twice (group 1 is drained, then group 0 serves 1.5) -/
def exOp₁ : Op := .alloc 0 [⟨0, .tight, 35000⟩] ⟨[some ⟨-40960000, [[0, 1]]⟩], []⟩

def exT₁ : State := (runOps exT₀ [exOp₁]).get (by decide)

theorem exT₁_reach : Reach exT₀ exT₁ := reach_of_runOps Reach.init (Option.some_get _).symm

/-- the strict request `1.5 tight!` in that state: three solver calls (current state, empty worker, claim) -/
def exRq₂ : Request := [⟨0, .forceTight, 15000⟩]

def exCh₂ : Choices := ⟨[some ⟨-20480000, [[2]]⟩, some ⟨-20480000, [[0]]⟩, some ⟨-20480000, [[2]]⟩], []⟩

/-- the first grant of the example: group 1 whole, one index of group 0 whole, half of the other one (last) -/
example : exT₁.live = [(0, [⟨0, 35000, [⟨3, 1, 0⟩, ⟨2, 1, 0⟩, ⟨1, 0, 0⟩, ⟨0, 0, 5000⟩]⟩])] := by decide

/-- `c16_claim_nostop`: the hypotheses hold for the reachable state `exT₁` and the strict request, and the operation
does grant (through the strict admission path and the tight claim) -/
example : State.init exD = some exT₀ ∧ NoSingletonGroups exT₀ ∧ Reach exT₀ exT₁ ∧
    (exRq₂.map (·.rid)).Nodup ∧ (∀ e ∈ exRq₂, exT₁.pools[e.rid]? ≠ some .empty) ∧
    (∀ e ∈ exRq₂, (e.policy = .tight ∨ e.policy = .forceTight) → 0 < e.amount) ∧
    (mkLp exT₁.concise (coupledEntries exT₁.pools exRq₂) exT₁.weights).weightOob = false ∧
    (∃ s₂, tryAllocate exT₁ 1 exRq₂ exCh₂ = .ok (some [⟨0, 15000, [⟨5, 2, 0⟩, ⟨4, 2, 5000⟩]⟩], s₂)) :=
  ⟨exT₀_init, noSingleton_of_all (by decide), exT₁_reach, by decide, by decide, by decide, by decide, ⟨_, rfl⟩⟩

/-- `hpos` cannot be dropped: a zero-amount `tight` on a grouped resource passes the admission test, the solver
answers with the empty group set, and `max_by_key(..).unwrap()` panics (the model predicts the panic of the real
code; `AllocationRequest::validate` excludes the request) -/
example : tryAllocate exT₀ 0 [⟨0, .tight, 0⟩] ⟨[some ⟨0, [[]]⟩], []⟩ = .error (.panic .unwrap) := rfl

/-- `c16_tight_loop`: its hypotheses on the groups of `exT₀` and the set {0, 1}, amount 3.5 -/
example : GVals [⟨[1, 0], []⟩, ⟨[3, 2], []⟩, ⟨[5, 4], []⟩] ∧
    ScatterOk [⟨[1, 0], []⟩, ⟨[3, 2], []⟩, ⟨[5, 4], []⟩] [0, 1] (35000 / FPU) (35000 % FPU) := by
  refine ⟨?_, by decide, .inr (.inl (by decide))⟩
  intro p g hg kv hkv
  have : g.fracs = [] := by
    match p, hg with
    | 0, hg => simp at hg; subst hg; rfl
    | 1, hg => simp at hg; subst hg; rfl
    | 2, hg => simp at hg; subst hg; rfl
    | k + 3, hg => simp at hg
  rw [this] at hkv
  cases hkv

/-- `c16_all`: all six cpus are granted on the fresh worker; after `exOp₁` the admission test of `all` fails -/
example : (∃ s₁, tryAllocate exT₀ 0 [⟨0, .all, 0⟩] ⟨[], []⟩ =
      .ok (some [⟨0, 60000, [⟨0, 0, 0⟩, ⟨1, 0, 0⟩, ⟨2, 1, 0⟩, ⟨3, 1, 0⟩, ⟨4, 2, 0⟩, ⟨5, 2, 0⟩]⟩], s₁)) ∧
    entryHasResources exT₁.pools exT₁.concise ⟨0, .all, 0⟩ = false :=
  ⟨⟨_, rfl⟩, by decide⟩

/-- `c16_scatter`, general case: free whole indices per group `[0, 2, 3]` (group 0 empty: skipped), `4 scatter`
⇒ two rounds: level `k = 2`, cut `j = 0`, contributions `[0, 2, 2]`; 2 = min(4, 2) groups used -/
def exGs2 : List Group := [⟨[], []⟩, ⟨[3, 2], []⟩, ⟨[6, 5, 4], []⟩]

example : ∃ gs' acc, claimScatter 40000 exGs2 none none = .ok (gs', acc) ∧
    acc.map (·.group) = [1, 1, 2, 2] ∧
    (∀ p < 3, wcount acc p = lvl (freeLen exGs2) 2 0 p) ∧ sumL (freeLen exGs2) 2 0 3 = 4 :=
  ⟨_, _, rfl, by decide, by decide, by decide⟩

end HqModel.C16
