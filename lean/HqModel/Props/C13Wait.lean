import HqModel.Lemmas.JobCompleted
/-!
# C13, last clause — a client that submits with wait/progress always receives the completion report

`hq submit --wait` sends `Submit` with stream options: the server registers a live listener for the job's events
while it processes the submit (after fix 6bae9eb: BEFORE it awaits the journal flush; before the fix the listener
was registered after the await and a job that completed meanwhile was never reported — defect F5). A listener
registered at that point receives exactly the events emitted by the submit and by everything after it. The
theorem: no completion report of the job can lie BEFORE that point, so the listener misses none; together with
`c13_completed_once` (the report exists exactly when the job ends closed with all tasks terminal, and at most once)
the waiting client receives the job's completion report whenever there is one.

That the real registration point is the submit (no operation of another connection, worker or scheduler in
between) is a fact about `client_rpc_loop` / `start_streaming`; it is checked on every run by the correspondence on
simulated cluster runs with a slow journal flush (`hqv job gen --wait`, out-tag `wait`, monitor `c13.wait`).
-/
namespace HqModel.C13
open HqModel.Job

theorem submit_not_completed {s s' : State} {jobId mf : Option Nat} {desc : TaskDesc} {evs e : List Ev}
    {resp : SubmitResp} {core : List TaskId} (hc : Comp s.jobs s.jobCtr evs)
    (h : s.submit jobId mf desc = .ok (s', e, resp, core)) (j : Nat) (closed : Bool) (hj : Ev.submit j closed ∈ e) :
    completed j evs = 0 := by
  rcases submit_cases h with ⟨-, rfl, -⟩ | ⟨j0, job, _, -, hjob, hopen, -, -, -, -, rfl, -⟩ | ⟨_, -, -, -, -, rfl, -⟩
  · cases hj
  · cases List.mem_singleton.mp hj
    rw [hc.cnt j job hjob, isTerminated_of_open hopen]
    rfl
  · cases List.mem_singleton.mp hj
    exact hc.fresh _ (Nat.le_refl _)

/-- **c13_wait.** For every run `ops1` from the empty server state (no panic, no submit that creates a new job
without tasks: `NoEmptySubmit`), every accepted submit processed next
(into a new job or into an open job; `Ev.submit j _` is its event) and every continuation `ops2`: none of the
`jobCompleted j` events of the whole run lies before the submit — the listener registered while the submit is
processed receives every completion report of the job (`(e2 ++ e3).count = (e1 ++ e2 ++ e3).count`). -/
theorem c13_wait (ops1 ops2 : List Op) (jobId mf : Option Nat) (desc : TaskDesc)
    (hne : NoEmptySubmit ops1 = true) (s3 : State) (evs : List Ev)
    (h : run {} (ops1 ++ [.submit jobId mf desc] ++ ops2) = .ok (s3, evs)) :
    ∃ s1 e1 s2 e2 e3, run {} ops1 = .ok (s1, e1) ∧ step s1 (.submit jobId mf desc) = .ok (s2, e2) ∧
      run s2 ops2 = .ok (s3, e3) ∧ evs = e1 ++ e2 ++ e3 ∧
      ∀ j closed, Ev.submit j closed ∈ e2 →
        e1.count (Ev.jobCompleted j) = 0 ∧
        (e2 ++ e3).count (Ev.jobCompleted j) = evs.count (Ev.jobCompleted j) := by
  rw [List.append_assoc] at h
  obtain ⟨s1, e1, e23, h1, h23, he⟩ := run_append ops1 _ h
  obtain ⟨s2, e2, e3, h2, h3, he2⟩ := run_append [.submit jobId mf desc] ops2 h23
  have hstep : step s1 (.submit jobId mf desc) = .ok (s2, e2) := by
    obtain ⟨_, _, _, hs, hr, rfl⟩ := run_cons_eq_ok h2
    cases hr
    rwa [List.append_nil]
  refine ⟨s1, e1, s2, e2, e3, h1, hstep, h3, by rw [he, he2, List.append_assoc], ?_⟩
  intro j closed hj
  have hc := run_comp hne h1
  have h0 : e1.count (Ev.jobCompleted j) = 0 := by
    obtain ⟨⟨resp, core⟩, hsub⟩ := map_eq_ok hstep
    exact submit_not_completed hc hsub j closed hj
  refine ⟨h0, ?_⟩
  rw [he, he2]
  simp only [List.count_append, h0, Nat.zero_add]

/-- non-vacuity: job 1 is submitted (closed, one task), runs and finishes: the only completion report comes after
the submit -/
example :
    (run {} ([.workerNew 1] ++ [.submit none none (.array [⟨0, 1, 1⟩] none)] ++
        [.started (1, 0) 0 [1] 0, .finished (1, 0)])).toOption.map
      (fun r => (r.2.count (Ev.jobCompleted 1), r.2.getLast?)) = some (1, some (Ev.jobCompleted 1)) := by decide +kernel

end HqModel.C13
