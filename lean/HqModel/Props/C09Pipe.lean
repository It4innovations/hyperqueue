import HqModel.Lemmas.SysWNoPanic
import HqModel.Props.C09Compose
/-!
# C09 — no reachable panic, COMPOSED: the worker protocol `UpdNP` is a THEOREM of the composition

`Props/C09Compose.lean` (`sysw_never_stops_partial`) proves that a run of `SysW` (job layer M4 × core M1 × one
worker model M2 per worker + FIFO queues) never stops with a panic of the job layer or of the core UNDER the lifted
hypothesis `OpNPc`; for the delivery of a `TaskUpdate` batch that hypothesis contains the worker protocol
`Core.UpdatesOk Core.UpdNP` — what the `assert!` / `unreachable!` of the core's update handlers demand of a message of
worker `w`, judged in the state in which the reactor processes it. This file removes it, up to `RunIdx`:

`Core.UpdNP c w u ↔ Core.UpdNPw c w u ∧ Core.UpdRunIdx c w u` (`Core.updNP_iff`), and

* **`sysw_upd_npw`** — for every run `run (initState r m) ops = .ok (s, outs)` with `RunOk (initState r m) ops` (NO
  other hypothesis: neither `RunNPc` nor anything about what workers send) and every worker record `x` whose queue
  starts with `.updates us`: `Core.UpdatesOk Core.UpdNPw s.sys.core x.id us rets` — every update of the batch, in the
  state in which the reactor processes it: the worker record exists in the core; `Running t rv`: `t` unknown /
  Assigned to `x.id` WITH VARIANT `rv` / Prefilled on / Retracting from `x.id` / multi-node root `x.id` — never Waiting /
  Running / Finished (`task_running.unreachable`, `.assert_worker`, `.assert_variant`, `.assert_root`); `Finished t`:
  unknown / Running on `x.id` / multi-node root `x.id`; `Failed t`: unknown / held by `x.id`; `Reject t`: unknown /
  Assigned / Prefilled on `x.id` / Retracting / multi-node — never Waiting / Running / Finished
  (`task_reject.unreachable`).
* `UpdRunIdx` (a `Running` about a Prefilled / Retracting task names a variant that exists and uses only resource
  slots the worker has) is NOT derivable — M2 does not model resource vectors — and stays a hypothesis.
* **`sysw_never_stops_pipe`**, **`sysw_run_never_stops_pipe`** — `sysw_never_stops_partial` /
  `sysw_run_never_stops_partial` with the hypothesis weakened to `OpNPc2` / `RunNPc2`: for `deliverW2S` of a batch only
  `UpdatesOk UpdRunIdx`, `RetsOk rets` and the F27 exclusion `UpdatesOk NoF27` remain; all other actions unchanged.

How: `PipeOk` of the pipeline invariant `WInv` allows ANYTHING in a `hot` view, and `hot` lumps "the core forgot the
task" (every message is ignored) together with "Running on this worker" (a second `run`, or a `rej`, panics). The
strengthened invariant `NPP.WInv2 = WInv ∧ NPP.XInv` (`Lemmas/SysWPipeX.lean`, `sysw_inv2`) adds that the core knows every
worker that has a record (`sysw_worker_known`) and, per worker record and task, the second pipeline predicate `NPP.PX`
(`sysw_pipeline2`: what holds while the core has the task Running on that worker, and of a `run` the core has not
processed yet). It is inductive for all six world actions (`step_inv`, together with `WInv`): worker steps by the exact
trace of the message loop for one task id (`Lemmas/SysWWorkerLoop.lean`, `SysWWorkerStep.lean`), server actions by ONE
relation per pair, `Fgn` or `Ownd e` (`Lemmas/SysWViews.lean`: a task Running on `w` afterwards was Running on `w` before
and nothing was sent to `w` for it; only `task_running` creates a Running state, from Assigned / Prefilled / Retracting AT
THE REPORTER), the worker records by `step_worker_keep` (no core function except `on_remove_worker` drops one).

No clause of `UpdNPw` is FALSE of the composed model: M2 sends `Running` once per launch, with the variant of the
item (assigned) or of the triggering task (prefill loop), and rejects only tasks it has not started — no witness, no
finding about M2 here.
-/
namespace HqModel.SysW
open HqModel

/-- the core knows every worker that has a record (its messages are never delivered for an unknown worker:
`get_worker` cannot fail in `task_reject` / `request_enabled`) -/
theorem sysw_worker_known (reserve max : Nat) (ops : List Op) (s : State) (outs : List Out)
    (hok : RunOk (initState reserve max) ops) (h : run (initState reserve max) ops = .ok (s, outs))
    (x : WState) (hx : x ∈ s.workers) : (s.sys.core.worker? x.id).isSome = true :=
  (sysw_inv2 reserve max ops s outs hok h).xinv.known x hx

/-- **the extra pipeline invariant, exposed**: for a worker record `x` and a task `t`,
(1) if the core has `t` Running on `x.id`: no `ComputeTasks` item for `t` is on its way to the worker, the pending
events about `t` contain neither a `run` nor a `rej`, and `t` is in no backlog of the worker;
(2) if the pending events start with `run rv'` and the core has not processed it yet (view `asg rv` / `pre`): the rest
is calm, `t` is in no backlog, and `rv' = rv` when the task is Assigned with `rv`. -/
theorem sysw_pipeline2 (reserve max : Nat) (ops : List Op) (s : State) (outs : List Out)
    (hok : RunOk (initState reserve max) ops) (h : run (initState reserve max) ops = .ok (s, outs))
    (x : WState) (hx : x ∈ s.workers) (t : TaskId) :
    ((∃ rv, Core.stOf s.sys.core.tasks t = some (.running x.id rv)) →
      comps t x.s2w = [] ∧ NPP.Calm (pend t x.w2s) ∧ NPP.NB x.w (enc t)) ∧
    (∀ rv' rest, pend t x.w2s = .run rv' :: rest →
      (view s.sys.core x.id t = .pre ∨ ∃ rv, view s.sys.core x.id t = .asg rv) →
      NPP.Calm rest ∧ NPP.NB x.w (enc t) ∧ ∀ rv, view s.sys.core x.id t = .asg rv → rv' = rv) :=
  let p := (sysw_inv2 reserve max ops s outs hok h).xinv.pipe x hx t
  ⟨p.run, p.head⟩

/-- **`sysw_upd_npw`** (C09, worker protocol from the composition) — for every run of `SysW` from the empty state
whose actions satisfy the input-only side conditions `RunOk`, every `TaskUpdate` batch `us` at the head of the queue of
a worker `w` satisfies `Core.UpdatesOk Core.UpdNPw` when it is delivered: every update, in the state in which the
reactor processes it, satisfies `UpdNP` up to its `RunIdx` conjuncts. -/
theorem sysw_upd_npw (reserve max : Nat) (ops : List Op) (s : State) (outs : List Out)
    (hok : RunOk (initState reserve max) ops) (h : run (initState reserve max) ops = .ok (s, outs))
    (w : Nat) (x : WState) (us : List Core.Update) (rest : List W2S) (rets : List (List TaskId))
    (hf : findW s.workers w = some x) (hq : x.w2s = .updates us :: rest) :
    Core.UpdatesOk Core.UpdNPw s.sys.core w us rets :=
  (deliver_upd (sysw_inv2 reserve max ops s outs hok h) hf hq rets).2

theorem sysw_upd_npw_rec (reserve max : Nat) (ops : List Op) (s : State) (outs : List Out)
    (hok : RunOk (initState reserve max) ops) (h : run (initState reserve max) ops = .ok (s, outs))
    (x : WState) (hx : x ∈ s.workers) (us : List Core.Update) (rest : List W2S) (rets : List (List TaskId))
    (hq : x.w2s = .updates us :: rest) : Core.UpdatesOk Core.UpdNPw s.sys.core x.id us rets :=
  sysw_upd_npw reserve max ops s outs hok h x.id x us rest rets
    (findW_of_mem (sysw_inv2 reserve max ops s outs hok h).winv.nodup hx) hq

theorem sysw_upd_npw_head (reserve max : Nat) (ops : List Op) (s : State) (outs : List Out)
    (hok : RunOk (initState reserve max) ops) (h : run (initState reserve max) ops = .ok (s, outs))
    (w : Nat) (x : WState) (u : Core.Update) (us : List Core.Update) (rest : List W2S)
    (hf : findW s.workers w = some x) (hq : x.w2s = .updates (u :: us) :: rest) : Core.UpdNPw s.sys.core w u :=
  (sysw_upd_npw reserve max ops s outs hok h w x (u :: us) rest [] hf hq).1

/-- **the full worker protocol `UpdNP`** of a delivered batch, from its `RunIdx` part alone -/
theorem sysw_upd_np (reserve max : Nat) (ops : List Op) (s : State) (outs : List Out)
    (hok : RunOk (initState reserve max) ops) (h : run (initState reserve max) ops = .ok (s, outs))
    (w : Nat) (x : WState) (us : List Core.Update) (rest : List W2S) (rets : List (List TaskId))
    (hf : findW s.workers w = some x) (hq : x.w2s = .updates us :: rest)
    (hidx : Core.UpdatesOk Core.UpdRunIdx s.sys.core w us rets) : Core.UpdatesOk Core.UpdNP s.sys.core w us rets :=
  (Core.updatesOk_updNP_iff _ _ _ _).mpr ⟨sysw_upd_npw reserve max ops s outs hok h w x us rest rets hf hq, hidx⟩

/-- the weakened hypothesis implies `RunNPc` along every run (the converse is `NPP.runNPc2_of_runNPc`) -/
theorem sysw_runNPc_of_runNPc2 (reserve max : Nat) (ops : List Op) (hok : RunOk (initState reserve max) ops)
    (hnp : RunNPc2 (initState reserve max) ops) : RunNPc (initState reserve max) ops :=
  NPP.runNPc_of_runNPc2 ops (winv2_init reserve max) hok hnp

/-- **the progress invariant of the core holds in every reachable state of `SysW`** under the weakened hypothesis -/
theorem sysw_core_good_pipe (reserve max : Nat) (ops : List Op) (s : State) (outs : List Out)
    (hok : RunOk (initState reserve max) ops) (hnp : RunNPc2 (initState reserve max) ops)
    (h : run (initState reserve max) ops = .ok (s, outs)) :
    ∃ U, Core.CoreGood U s.sys.core ∧ Job.StateWF s.sys.job ∧ ∀ x ∈ U, Sys.NPX.Known s.sys.job x :=
  sysw_core_good reserve max ops s outs hok (sysw_runNPc_of_runNPc2 reserve max ops hok hnp) h

/-- **`sysw_never_stops_pipe`** (C09, composed with the workers), per step — `sysw_never_stops_partial` with
the hypothesis WEAKENED to `OpNPc2` / `RunNPc2`: in every reachable state of `SysW` (a run from `initState reserve max`
whose actions satisfy `RunOk` and `RunNPc2`), a world action satisfying `OpOk s op ∧ OpNPc2 s op` never stops with
`.sys (.job _)`, and never with `.sys (.core site)` for a site of the code.

For the delivery of the `TaskUpdate` batch `us` at the head of worker `w`'s queue, `OpNPc2` is
`UpdatesOk UpdRunIdx c w us rets ∧ RetsOk rets ∧ UpdatesOk NoF27 c w us rets` — the worker protocol
`UpdatesOk UpdNP` of `OpNPc` is reduced to its `RunIdx` part (the rest, `UpdNPw`, is `sysw_upd_npw`). For every other
action `OpNPc2 = OpNPc`: fresh / known worker id, `RetsOk`, `NewTasksOk`, duplicate-free cancel list, `SolOk`.
Still PARTIAL in that sense only (those are input conditions of the composition, F27 is a known finding). -/
theorem sysw_never_stops_pipe (reserve max : Nat) (ops : List Op) (s : State) (outs : List Out)
    (hok : RunOk (initState reserve max) ops) (hnp : RunNPc2 (initState reserve max) ops)
    (h : run (initState reserve max) ops = .ok (s, outs)) (op : Op) (hop : OpOk s op) (hopnp : OpNPc2 s op) :
    (∀ site, step s op ≠ .error (.sys (.job site))) ∧
    ∀ site, step s op = .error (.sys (.core site)) → site.startsWith "!" = true :=
  sysw_never_stops_partial reserve max ops s outs hok (sysw_runNPc_of_runNPc2 reserve max ops hok hnp) h op hop
    (NPP.opNPc_of_opNPc2 (sysw_inv2 reserve max ops s outs hok h) hopnp)

/-- **`sysw_run_never_stops_pipe`**, run form — a run of `SysW` from `initState reserve max` whose actions satisfy
`RunOk ∧ RunNPc2` never stops with `.sys (.job _)` and never with `.sys (.core site)` for a non-`!` site. -/
theorem sysw_run_never_stops_pipe (reserve max : Nat) (ops : List Op)
    (hok : RunOk (initState reserve max) ops) (hnp : RunNPc2 (initState reserve max) ops) :
    (∀ site, run (initState reserve max) ops ≠ .error (.sys (.job site))) ∧
    ∀ site, run (initState reserve max) ops = .error (.sys (.core site)) → site.startsWith "!" = true :=
  sysw_run_never_stops_partial reserve max ops hok (sysw_runNPc_of_runNPc2 reserve max ops hok hnp)

/-! ### non-vacuity -/

section examples

private def stopOf {α : Type} : Except Stop α → Bool
  | .error _ => true
  | .ok _ => false

private def rq1 : Core.Rqv := [{ entries := [⟨0, .amount 5000⟩] }]
private def wkr (id : Nat) : Core.Worker := { id := id, assign := .sn [] [10000] [], total := [10000] }
private def ntk (j : Nat) : Core.NewTask := { id := (1, j), rq := 0, prio := 0, crashLimit := .max 5, deps := [] }

/-- the witnesses of `Props/C09Compose.lean`: the life of one task through the queues -/
private def opsLife : List Op := [
  .srv (.newRq rq1), .addWorker (wkr 1) [[0]] none,
  .srv (.submit none none (.array [⟨0, 1, 1⟩] none) [ntk 0]),
  .srv (.schedule { now := 10, sn := [{ rq := 0, v := 0, counts := [(1, 1)], taken := [(1, 0)] }] }),
  .deliverS2W 1 [{ rq := 0, alloc := some 7 }],
  .deliverW2S 1 [],
  .wlocal 1 (.taskEnd (enc (1, 0)) .finished []),
  .deliverW2S 1 []]

/-- cancel overtakes the worker: `Running`, `Finished` delivered to a core that forgot the task -/
private def opsCancelRace : List Op := [
  .srv (.newRq rq1), .addWorker (wkr 1) [[0]] none,
  .srv (.submit none none (.array [⟨0, 1, 1⟩] none) [ntk 0]),
  .srv (.schedule { now := 10, sn := [{ rq := 0, v := 0, counts := [(1, 1)], taken := [(1, 0)] }] }),
  .deliverS2W 1 [{ rq := 0, alloc := some 7 }],
  .srv (.cancel 1 [(1, 0)]),
  .wlocal 1 (.taskEnd (enc (1, 0)) .finished []),
  .deliverW2S 1 [], .deliverW2S 1 [], .deliverS2W 1 []]

/-- the retract comes too late: `RunningPrefilled` for a Retracting task (the `RunIdx` hypothesis is used here) -/
private def opsRetractRace : List Op := [
  .srv (.newRq rq1), .addWorker (wkr 1) [[0]] none, .addWorker (wkr 2) [[0]] none,
  .srv (.submit none none (.array [⟨0, 3, 1⟩] none) [ntk 0, ntk 1, ntk 2]),
  .srv (.schedule { sn := [{ rq := 0, v := 0, counts := [(1, 1)], taken := [(1, 0)] }], prefillOrders := [(0, [1])] }),
  .srv (.schedule { sn := [{ rq := 0, v := 0, counts := [(2, 2)], taken := [(1, 2), (1, 1)] }] }),
  .deliverS2W 1 [{ rq := 0 }, { rq := 0, alloc := some 1 }],
  .wlocal 1 (.taskEnd (enc (1, 0)) .finished []),
  .deliverS2W 1 [],
  .deliverW2S 1 [], .deliverW2S 1 [], .deliverW2S 1 []]

/-- the worker is lost with three messages in flight -/
private def opsLost : List Op :=
  opsRetractRace.take 8 ++ [.loseWorker 1 "lost" true [(1, 0)] [], .srv (.schedule { sn := [] })]

private theorem stopOf_ok {α : Type} {r : Except Stop α} (h : r.isOk = true) : stopOf r = false := by
  cases r with
  | ok _ => rfl
  | error _ => cases h

/-- from the witnesses of `Props/C09Compose.lean` (the same four lists): `RunNPc` implies `RunNPc2` -/
example : RunOk {} opsLife ∧ RunNPc2 {} opsLife ∧ stopOf (run {} opsLife) = false :=
  ⟨witness_life.1, NPP.runNPc2_of_runNPc _ witness_life.2.1, stopOf_ok witness_life.2.2⟩
example : RunOk {} opsCancelRace ∧ RunNPc2 {} opsCancelRace ∧ stopOf (run {} opsCancelRace) = false :=
  ⟨witness_cancelRace.1, NPP.runNPc2_of_runNPc _ witness_cancelRace.2.1, stopOf_ok witness_cancelRace.2.2⟩
example : RunOk {} opsRetractRace ∧ RunNPc2 {} opsRetractRace ∧ stopOf (run {} opsRetractRace) = false :=
  ⟨witness_retractRace.1, NPP.runNPc2_of_runNPc _ witness_retractRace.2.1, stopOf_ok witness_retractRace.2.2⟩
example : RunOk {} opsLost ∧ RunNPc2 {} opsLost ∧ stopOf (run {} opsLost) = false :=
  ⟨witness_lost.1, NPP.runNPc2_of_runNPc _ witness_lost.2.1, stopOf_ok witness_lost.2.2⟩

/-- `UpdNPw` is decidable by kernel reduction, and true of the batch `[Finished, RunningPrefilled]` at the head of
worker 1's queue in the retract race (state after 10 actions) — as `sysw_upd_npw` says -/
example :
    (match run {} (opsRetractRace.take 10) with
     | .ok (s, _) =>
       (match findW s.workers 1 with
        | some x =>
          (match x.w2s with
           | .updates us :: _ => decide (us.length = 2 ∧ Core.UpdatesOk Core.UpdNPw s.sys.core 1 us [])
           | _ => false)
        | none => false)
     | .error _ => false) = true := by decide +kernel

/-- `UpdNPw` is not vacuous: a `Running` about a task that is already Running on the reporter violates it (this is
what the composition excludes) -/
example :
    (match run {} (opsLife.take 6) with
     | .ok (s, _) => decide (¬ Core.UpdNPw s.sys.core 1 (.running (1, 0) 0) ∧ ¬ Core.UpdNPw s.sys.core 1 (.reject (1, 0) none)
         ∧ Core.UpdNPw s.sys.core 1 (.finished (1, 0)) ∧ ¬ Core.UpdNPw s.sys.core 2 (.finished (1, 0)))
     | .error _ => false) = true := by decide +kernel

end examples

end HqModel.SysW
