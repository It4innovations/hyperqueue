import HqModel.Props.SysW
import HqModel.Lemmas.JobSteps
/-!
# C14 — max-fails: exceeding the limit aborts the rest of the job for good

`process_task_failed` (M4) is the decision point; the core feeds the returned list to `on_cancel_tasks`
(M1, modelled in `HqModel.Core.State.taskFailed`, tied by the correspondence). That aborted tasks never run
afterwards is C08/C01 (`c01_terminal_is_final`, `c01_core_forgets`). Composed: `Sys.sys_max_fails` /
`SysW.sysw_max_fails` — after a failure that leaves the job above its limit no task of the job is in the core's map.
-/
namespace HqModel.C14
open HqModel.Job

/-- **Exactly at the limit.** For every state, failing task and dependent list: `process_task_failed` hands the
core the list of ALL not yet terminal tasks of the job iff the job has a limit and the number of failed tasks
(after this failure) exceeds it; otherwise it hands back nothing (no abort for this reason). -/
theorem c14_decision (s s' : State) (t : TaskId) (cons ret : List TaskId) (evs : List Ev)
    (h : s.taskFailed t cons = .ok (s', evs, ret)) :
    ∃ job job1 ev1 job2 ev2, s.getJob t.1 = some job ∧ job.abortTasks cons = .ok (job1, ev1) ∧
      job1.setFailed t.2 = .ok (job2, ev2) ∧
      ((∃ m, job2.maxFails = some m ∧ job2.cnt.failed > m ∧
          ret = job2.nonFinishedTaskIds.map (fun x => (job2.id, x))) ∨
       ((∀ m, job2.maxFails = some m → ¬ job2.cnt.failed > m) ∧ ret = [])) :=
  taskFailed_ret h

/-- **Everything not terminal is aborted**: a successful `abort_tasks` over the job's non-terminal tasks
leaves every task of the job terminal. -/
theorem c14_abort_all (job job' : Job) (evs : List Ev)
    (h : job.abortTasks (job.nonFinishedTaskIds.map fun x => (job.id, x)) = .ok (job', evs)) :
    ∀ p ∈ job'.tasks, p.2.terminal = true := by
  -- a task that is not terminal is one of the ids
  have hmem : ∀ p ∈ job.tasks, p.2.terminal ≠ true →
      (job.id, p.1) ∈ job.nonFinishedTaskIds.map fun x => (job.id, x) := fun p hp ht =>
    List.mem_map.mpr ⟨p.1, List.mem_map.mpr ⟨p, List.mem_filter.mpr ⟨hp, by simpa using ht⟩, rfl⟩, rfl⟩
  intro p hp
  rcases abortTasks_eq_ok h with ⟨h0, rfl, -⟩ | ⟨-, job1, hm, rfl, -⟩
  · exact Decidable.byContradiction fun ht => by have := hmem p hp ht; rw [h0] at this; cases this
  · rcases markAll_all (by decide) _ _ _ hm p hp with h | h
    · exact h
    · exact Decidable.byContradiction fun ht => h.2 (hmem p h.1 ht)

/-- non-vacuity: limit 0, task 0 fails while task 1 waits: task 1 is handed back for cancelling -/
example :
    ((State.taskFailed (⟨[(⟨1, [(0, .running), (1, .waiting)], ⟨1, 0, 0, 0, 0⟩, false, some 0⟩ : Job)],
        2, [], []⟩ : State) (1, 0) []).toOption.map (·.2.2)) = some [(1, 1)] := by
  decide

end HqModel.C14
