import HqModel.Lemmas.JobJournalCrash
import HqModel.Props.C10Emit
/-!
# C07, restart clause — the crash counter a task is resubmitted with = the crashes the journal records

Corollary of `C10.c10_restore_refines` (restore hands every pending task back with the crash counter recorded in
`meaning J`) and of `Emit.CrashInv.fold` (`Lemmas/JobJournalCrash.lean`: that counter equals `crashCount J job t`, an
explicit count over the records of `J`).

`Emit.crashCount J job t` (`Emit.trackStep`): walk over `J` keeping, for the task, the workers of its current run (root
first) and a counter; `TaskStarted job t _ ws` starts a run on `ws` (a later start replaces it); `TaskFinished /
TaskFailed job t` or a `TasksCanceled / TasksAborted` containing `(job, t)` ends it; `WorkerLost w reason` while the
task runs with ROOT `w` ends the run and, if `reason` is a failure (connection / heartbeat lost), adds one; the loss
of a non-root worker, of a worker the task does not run on, or a loss with another reason (stopped, idle timeout,
time limit) adds nothing. A record that creates `job` (`JobOpen`, closed `Submit`) starts the count at 0 — this only
matters for journals that create the id of a completed job again (see `C06Restart.lean`); no hypothesis beyond
`Producible` is needed.
-/
namespace HqModel.C07
open HqModel.Journal HqModel.Emit

/-- **c07_restart.** For every producible journal `J`, restore succeeds and every task `(job, t, deps, i, c)` it hands
back to the core carries exactly the crash counter `c = crashCount J job t`: the number of `WorkerLost w reason`
records of `J` with a failure reason written while the task was recorded running with root worker `w`. -/
theorem c07_restart (J : List Record) (hp : Producible J) :
    ∃ R X, restore J = .ok (R, X) ∧
      ∀ job t deps i c, (job, t, deps, i, c) ∈ batchPending X.batches → c = crashCount J job t := by
  obtain ⟨R, X, hr, href⟩ := HqModel.C10.c10_restore_refines J hp
  refine ⟨R, X, hr, ?_⟩
  intro job t deps i c hm
  rw [href.pending] at hm
  obtain ⟨aj, a, haj, ha, hid, -, -, hc⟩ := pending_task hm
  have hinv := CrashInv.fold job t J (A := {}) (tr := (none, 0)) hp (fun aj ho => by simp [alGet] at ho)
  rw [hc]
  exact ((hinv aj haj).1 a ha hid).2

/-- **c07_restart_emitted.** The same for the journal the job layer (M4) writes, cut at any record boundary `K`, under
the side condition `EmitOkRun` only (`C10.c10_emitted_producible_prefix`). -/
theorem c07_restart_emitted (uid : String) (ops : List HqModel.Job.Op) (h : EmitOkRun uid ops)
    (K : List Record) (hK : K <+: journalOf uid ops) :
    ∃ R X, restore K = .ok (R, X) ∧
      ∀ job t deps i c, (job, t, deps, i, c) ∈ batchPending X.batches → c = crashCount K job t :=
  c07_restart K (HqModel.C10.c10_emitted_producible_prefix uid ops h K hK)

/-- how one record changes the crash counter of a task in `meaning` (the step lemma behind `c07_restart`): for every
task `a` with id `t` of job `job`, before and after a record that is allowed where it is written, `a.run` / `a.crashes`
follow `trackStep` -/
theorem c07_crashes_step (A : AState) (r : Record) (hok : recordOk A r = true) (job t : Nat)
    (tr : Option (List Nat) × Nat) (h : CrashInv t (alGet A.jobs job) tr) :
    CrashInv t (alGet (meaningStep A r).jobs job) (trackStep job t tr r) :=
  h.step r hok

/-- start on worker 1, heartbeat loss of 1 (a crash), restart on worker 2, worker 2 stopped (no crash): count 1 -/
def restartSample : List Record :=
  [.serverStart "u", .workerConnected 1 none, .workerConnected 2 none,
   .submit 1 true none (.array [⟨0, 2, 1⟩] none),
   .taskStarted 1 0 0 [1], .workerLost 1 .heartbeatLost, .taskStarted 1 0 1 [2], .workerLost 2 .stopped]

example : crashCount restartSample 1 0 = 1 ∧ crashCount restartSample 1 1 = 0 := by decide +kernel

example : Producible restartSample := by decide +kernel

example : ∃ R X, restore restartSample = .ok (R, X) ∧ batchPending X.batches = [(1, 0, [], 2, 1), (1, 1, [], 0, 0)] :=
  ⟨_, _, rfl, rfl⟩

/-- a multi-node task on `[2, 3]`: the loss of the non-root worker 3 is no crash (F17), the connection loss of the
root 2 is one; a loss after the run ended is none -/
example : crashCount
    [.serverStart "u", .workerConnected 1 none, .workerConnected 2 none, .workerConnected 3 none,
     .submit 1 true none (.array [⟨0, 1, 1⟩] none),
     .taskStarted 1 0 0 [2, 3], .workerLost 3 .heartbeatLost, .workerLost 2 .connectionLost,
     .taskStarted 1 0 1 [1], .taskFailed 1 0, .workerLost 1 .connectionLost] 1 0 = 1 := by decide +kernel

end HqModel.C07
