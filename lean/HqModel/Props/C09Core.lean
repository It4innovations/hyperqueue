import HqModel.Lemmas.CoreNoPanicStep
import HqModel.Lemmas.CoreNoPanicWitness
/-!
# C09 — no reachable panic: the tako server core (model M1), PROGRESS

Every `unwrap` / `assert!` / `unreachable!` / index of the reactor and of the scheduler mapping is an explicit
outcome `.error (.panic "<site>")` of `Core.step` (`panic "…"` occurs 79 times in `Core/*.lean` under 66 site names,
the `!`-sites apart); a site whose name starts with `!` is the refusal of an invalid RECORDED input (`!bad-choice …`:
solver answer, hash-order pick; 6 names), not a panic of the code. The other theorems about M1 are of the preservation
kind ("if the step succeeds the invariant holds afterwards"); here:

* `c09_core_step_no_panic` — in every state that satisfies the invariant `CoreGood U s`, every operation that
  satisfies its side conditions and submits fresh, distinct task ids does not panic: `step s op` is a value or a
  `!…` refusal;
* `c09_core_inv_step` / `c09_core_inv_reachable` — the invariant is inductive / holds in every reachable state;
* `c09_core_run_no_panic` — no run from the empty core whose operations satisfy the side conditions, and that submits
  no task id twice, ends in a panic of the code;
* `c09_core_f27_witness` — the one exclusion (`NoF27`, the known finding F27) cannot be dropped.

**Invariant.** `CoreGood U s = InvF s ∧ QInv U none [] s ∧ NpInv U [] s`: the structural invariant (both
directions of the worker ↔ task checks), the queue / dependency-count invariant, and `NpInv`
(`Lemmas/CoreNoPanicDefs.lean`): worker ids unique, free vector as long as total; one queue per request, every `rq` in
range, every held (worker, variant) exists and names only resource slots of that worker; RunningMultiNode lists
non-empty and duplicate-free, single-node states only for single-node requests; consumers are tasks of the map,
dependency registration in both directions; and the queue ↔ state correspondence (ready lists sorted, entries
non-empty and ascending, a queued id is a task of that request and priority that is `Waiting 0` / Retracting without
redirect, the prefill sets are exactly the Prefilled tasks).

**Side conditions** (all decidable, evaluated on the pre-state): `NpOk2 s op = OpOk2q s op ∧ OpNP s op ∧ OpExcl s op`.
`OpOk2q` = the conditions of the preservation theorems WITHOUT `QueueOkD`, `RqvOk`, `NoSaturation` (fresh worker
record, `RejectOk`, multi-node placements for multi-node requests). `OpNP` = input conditions of progress: the
worker id is new; the lost worker is known; `on_new_tasks` is non-empty, names existing requests, no dependency twice;
cancel lists name a task once (also those returned by the client's `on_task_error`); the worker protocol `UpdNP` for
every update of a message (judged in the state in which the reactor processes it); `SolOk` for the recorded solution
(entries for existing single-node (request, variant)s, not more placements than the queue offers, multi-node sets of
distinct free workers). `OpExcl` = `NoF27`. Necessity witnesses (`decide`) for `NoF27` and for most conjuncts of `OpNP`
(none for the worker id of `newWorker`, `RetsOk` of `removeWorker`, `RunIdx` and the Failed / Reject cases of `UpdNP`,
the multi-node part of `SolOk`): `Lemmas/CoreNoPanicWitness.lean`.
Neither `NoSaturation` (F29) nor `RqvOk` is needed: the saturating arithmetic never panics.
-/
namespace HqModel.Core

/-- a run followed by a step that stops, stops -/
theorem run_append_stop {op : Op} {e : Stop} : ∀ (pre : List Op) {s s1 : State} {o1 : Out},
    run s pre = .ok (s1, o1) → step s1 op = .error e → run s (pre ++ [op]) = .error e
  | [], s, s1, o1, h1, h2 => by
    cases h1
    simp only [List.nil_append, run, h2]
  | x :: pre, s, s1, o1, h1, h2 => by
    simp only [run] at h1
    split at h1
    · cases h1
    · rename_i sa oa hx
      split at h1
      · cases h1
      · rename_i hr
        cases h1
        simp only [List.cons_append, run, hx, run_append_stop pre hr h2]

end HqModel.Core

namespace HqModel.C09

open HqModel.Core

/-- **C09, one step of the core**: from the invariant, the side conditions of the operation and the freshness of the
task ids it submits, `step s op` is never a panic of the code (`NoCorePanic`: for every `site`,
`step s op = .error (.panic site)` implies that `site` starts with `!`, i.e. is a refusal of an invalid recorded
input). `U` = ghost list of all task ids submitted so far. -/
theorem c09_core_step_no_panic {U : List TaskId} {s : State} {op : Op} (hg : CoreGood U s) (hok : OpOk2q s op)
    (hnp : OpNP s op) (hex : OpExcl s op) (hfresh : ∀ x ∈ op.newIds, x ∉ U) (hnd : op.newIds.Nodup) :
    ∀ site, step s op = .error (.panic site) → site.startsWith "!" = true :=
  step_np hg hok hnp hex hfresh hnd

/-- the operations that have no `!…` outcome never stop at all -/
theorem c09_core_step_ok {U : List TaskId} {s : State} {op : Op} (hg : CoreGood U s) (hok : OpOk2q s op)
    (hnp : OpNP s op) (hex : OpExcl s op) (hfresh : ∀ x ∈ op.newIds, x ∉ U) (hnd : op.newIds.Nodup)
    (hop : (∀ sol, op ≠ .schedule sol) ∧ ∀ w r f o rets, op ≠ .removeWorker w r f o rets) :
    ∃ r, step s op = .ok r :=
  (step_ok_or_np hg hok hnp hex hfresh hnd).resolve_right fun h =>
    h.1.elim (fun ⟨sol, e⟩ => hop.1 sol e) (fun ⟨w, r, f, o, rets, e⟩ => hop.2 w r f o rets e)

/-- **the invariant is inductive** -/
theorem c09_core_inv_step {U : List TaskId} {s s' : State} {op : Op} {out : Out} (hg : CoreGood U s)
    (hok : OpOk2q s op) (hnp : OpNP s op) (hex : OpExcl s op) (hfresh : ∀ x ∈ op.newIds, x ∉ U)
    (hnd : op.newIds.Nodup) (h : step s op = .ok (s', out)) : CoreGood (U ++ op.newIds) s' :=
  coreGood_step hg hok hnp hex hfresh hnd h

/-- **the invariant holds in every reachable state** -/
theorem c09_core_inv_reachable {ops : List Op} {s : State} {out : Out} (hok : RunOk NpOk2 {} ops)
    (hr : NoIdReuse ops) (h : run {} ops = .ok (s, out)) : CoreGood (allNewIds ops) s :=
  coreGood_run hok hr h

/-- **C09, all runs of the core**: a run from the empty core whose operations satisfy the side conditions (each
judged in the state it is applied to) and that submits no task id twice never ends in a panic of the code: if it
stops, the site is a `!…` refusal of an invalid recorded input. -/
theorem c09_core_run_no_panic {ops : List Op} (hok : RunOk NpOk2 {} ops) (hr : NoIdReuse ops) :
    ∀ site, run {} ops = .error (.panic site) → site.startsWith "!" = true :=
  fun site h => (NP.run_gen (G := CoreGood) (C := NpOk2)
    (E := fun e => ∀ site, e = .panic site → site.startsWith "!" = true)
    (fun _ _ _ _ hg hc hf hn hs site e => c09_core_step_no_panic hg hc.1 hc.2.1 hc.2.2 hf hn site (e ▸ hs))
    (fun _ _ _ _ _ hg hc hf hn hs => coreGood_step hg hc.1 hc.2.1 hc.2.2 hf hn hs)
    ops {} [] coreGood_init (by simpa [NoIdReuse] using hr) hok) _ h site rfl

/-- the same under the project's full side conditions `OpOk5` (which add `RqvOk` and `NoSaturation`) -/
theorem c09_core_run_no_panic' {ops : List Op} (hok : RunOk NpOk {} ops) (hr : NoIdReuse ops) :
    ∀ site, run {} ops = .error (.panic site) → site.startsWith "!" = true :=
  c09_core_run_no_panic (RunOk.mono (fun _ _ h => ⟨h.1.ok2q, h.2.1, h.2.2⟩) ops _ hok) hr

/-- in particular: for every operation of such a run, applied to the state the run has reached -/
theorem c09_core_run_step_no_panic {pre : List Op} {op : Op} {s : State} {out : Out}
    (hok : RunOk NpOk2 {} (pre ++ [op])) (hr : NoIdReuse (pre ++ [op])) (h : run {} pre = .ok (s, out)) :
    ∀ site, step s op = .error (.panic site) → site.startsWith "!" = true := by
  intro site hs
  exact c09_core_run_no_panic hok hr site (run_append_stop pre h hs)

/-- **`task_reject` of a RunningMultiNode task does not panic — WITHOUT the tail hypotheses** of
`c09_mn_reject_no_panic` (`hq`: the request has a queue; `hpf`: `add_ready_task` disposes no prefill set): in a state
that satisfies `CoreGood` the common tail of `task_reject` (`add_ready_task`, `process_retracted`) cannot panic —
`NpIdx` gives the queue index, `NpQ` + `TWI` say that every disposed prefill id is a Prefilled task listed by its worker.
(No claim about the output: a disposed prefill set produces retract messages.) -/
theorem c09_mn_reject_no_panic' {U : List TaskId} {s : State} (hg : CoreGood U s) (w : Nat) (id : TaskId)
    (rv : Option Nat) (task : Task) (ws : List Nat) (ht : s.task? id = some task) (hs : task.state = .runningMN ws)
    (hw : (s.worker? w).isSome = true) : ∃ r, s.taskReject w id rv = .ok r := by
  obtain ⟨hi, hq, hn⟩ := hg
  refine NPR.taskReject_ok (NPR.Bd.of hi hq hn) ?_ ?_
  · unfold UpdNP
    refine ⟨hw, ?_⟩
    simp only [ht, hs]
  · intro t w' rv' ht' hs'
    rw [ht] at ht'; cases ht'
    rw [hs] at hs'; cases hs'

/-- … in every reachable state -/
theorem c09_mn_reject_no_panic_reachable' {ops : List Op} {s : State} {out : Out} (hok : RunOk NpOk2 {} ops)
    (hr : NoIdReuse ops) (hrun : run {} ops = .ok (s, out)) (w : Nat) (id : TaskId) (rv : Option Nat) (task : Task)
    (ws : List Nat) (ht : s.task? id = some task) (hs : task.state = .runningMN ws)
    (hw : (s.worker? w).isSome = true) : ∃ r, s.taskReject w id rv = .ok r :=
  c09_mn_reject_no_panic' (coreGood_run hok hr hrun) w id rv task ws ht hs hw

/-! ### non-vacuity and witnesses (all `decide`) -/

/-- the hypotheses are satisfiable on non-trivial runs (placements, prefill + retract + redirect, worker loss with a
redirect, dependencies; a run with a reject: `Lemmas/CoreNoPanicWitness.lean`): every side condition holds on every
operation and nothing stops -/
example : RunOk NpOk {} resendOps ∧ NoIdReuse resendOps ∧ runStop resendOps = none := resendOps_npOk
example : RunOk NpOk {} lossOps ∧ NoIdReuse lossOps ∧ runStop lossOps = none := lossOps_npOk
example : RunOk NpOk {} depOps ∧ NoIdReuse depOps ∧ runStop depOps = none := depOps_npOk

/-- and `NpOk` implies the hypotheses of the run theorem -/
example : RunOk NpOk2 {} lossOps :=
  RunOk.mono (fun _ _ h => ⟨h.1.ok2q, h.2.1, h.2.2⟩) _ _ lossOps_npOk.1

/-- **F27 — the exclusion `NoF27` cannot be dropped**: on `f27Ops` every side condition holds on every operation;
on the final update (`RunningPrefilled` for a task whose retraction is under way, from a worker that meanwhile got a
multi-node task) every condition except `NoF27` holds, and the step ends in `insert_sn_task.unreachable`. -/
theorem c09_core_f27_witness :
    RunOk NpOk {} f27Ops ∧ NoIdReuse (f27Ops ++ [f27Op]) ∧ runStop f27Ops = none ∧
    NpOk0 (endState f27Ops) f27Op ∧ ¬ OpExcl (endState f27Ops) f27Op ∧
    step (endState f27Ops) f27Op = .error (.panic "insert_sn_task.unreachable") := by
  decide +kernel

end HqModel.C09
