import HqModel.Lemmas.SchedExchange
import HqModel.Lemmas.SchedBatchesSpec
import HqModel.Lemmas.CoreOpsSched
/-!
# C15 — priorities: lower-priority tasks never take what a waiting higher one fits

Model: `HqModel.Sched` (instance of one scheduling decision, `batches` = `create_task_batches`, `milp` = the MILP
of `run_scheduling_solver` as data, `Feasible`/`Optimal`, `extract`, `ValidPlacement` = what `create_task_mapping`
can make of a solution, `PriorityRespecting` = the statement of C15 including its documented exception) and
`HqModel.Core.takeFromQueue`/`Queue.takeTasks` = `take_tasks`.

Full strength: the queue order (`c15_queue_order*`, `c15_queue_sorted_reachable`, `prio_embedding_mono`), the batch loop
(`c15_batches_spec`), fragment F1 on its own (`c15_F1_two_resources`), the meaning of the gap (`c15_gap_two_resources`).
PARTIAL: `c15_partial_F`, on the fragment F = F1 ∪ (F2 ∩ CpuOnly). Outside F the statement is FALSE for the code as it is —
the encoding of priorities by cuts/gaps/blockers is an approximation, known finding F7 —: `c15_counterexample*`, four
instances with the solutions the real scheduler returns (corpus/sched/f7_w1 … f7_w4 traces).
-/
namespace HqModel.C15
open HqModel.Sched
open HqModel.Core (TaskId takeFromQueue Queue Queue.takeTasks readyAdd)

/-- Within one request class tasks are taken in descending priority, then ascending id: for EVERY sorted queue
content, count and fuel a successful `take_tasks` returns exactly the first `count` tasks of the queue order,
leaves exactly the rest, and the queue order is "descending priority, then ascending id". -/
theorem c15_queue_order (ready ready' : List (Int × List TaskId)) (count fuel : Nat) (res : List TaskId)
    (hs : QueueSorted ready) (h : takeFromQueue fuel ready count [] = .ok (ready', res)) :
    res = ((flat ready).take count).map (·.2) ∧ flat ready' = (flat ready).drop count ∧
      (flat ready).Pairwise Before := by
  obtain ⟨h1, h2, _⟩ := takeFromQueue_spec h
  exact ⟨by simpa using h1, h2, flat_sorted hs⟩

/-- the same for `TaskQueue::take_tasks` as the core model calls it (no prefill; the prefill set is empty in every
instance of C15's quantifier because proactive filling is off): the observed ids are accepted only if they are
the first `count` of the queue order -/
theorem c15_queue_order_takeTasks (q q' : Queue) (count : Nat) (taken : List TaskId) (hp : q.prefill = none)
    (h : q.takeTasks count taken = .ok q') :
    taken = ((flat q.ready).take count).map (·.2) ∧ flat q'.ready = (flat q.ready).drop count := by
  rcases Core.takeTasks_cases h with ⟨-, ready', hq, rfl⟩ | ⟨pp, pset, _, _, _, _, _, _, hp', -⟩
  · obtain ⟨h1, h2, -⟩ := takeFromQueue_spec hq
    exact ⟨by simpa using h1, h2⟩
  · rw [hp] at hp'; cases hp'

/-- every queue content reachable by `TaskQueue::add` from the empty queue is sorted -/
theorem c15_queue_sorted_reachable :
    QueueSorted [] ∧ ∀ ready t p, QueueSorted ready → QueueSorted (readyAdd ready t p) :=
  ⟨⟨List.Pairwise.nil, by simp, by simp⟩, fun _ t p h => readyAdd_sorted h t p⟩

/-- `Priority::from_user_priority` is strictly monotone (and order reflecting) from the signed order of the user
priority (i32) to the unsigned order of `Priority` (u64) -/
theorem prio_embedding_mono (x y : BitVec 32) :
    x.slt y = (fromUserPriority x).ult (fromUserPriority y) := by
  rw [BitVec.slt_eq_decide, BitVec.ult_eq_decide]
  have hx := fromUserPriority_value x
  have hy := fromUserPriority_value y
  rw [decide_eq_decide]
  omega

/-- `create_task_batches` meets its closed-form specification `BatchesSpec`, for every instance with non-empty levels and at
most 32 priority levels (so that `prune_progressive` is the identity). Proved by a loop invariant over `stepLevel`. -/
theorem c15_batches_spec (inst : Instance) (hne : ∀ q ∈ inst.queues, ∀ e ∈ q, e.2 ≠ [])
    (hlv : inst.prios.length ≤ 32) : BatchesSpec inst (batches inst) :=
  batches_spec hne hlv

/-- PARTIAL (fragment F = F1 ∪ (F2 ∩ CpuOnly)): for every well-formed instance (request classes over two resource
kinds, heterogeneous workers) with
* at most one request class that has ready tasks (any cluster, idle or busy, any priorities, any resource needs), or
* one worker (idle or busy), at most two request classes with ready tasks, default class weights, at most 32
  priority levels (C15 asks for up to 8) — and `CpuOnly`: the classes with ready tasks ask for cpus only (explicit
  hypothesis; the exchange argument needs that a gap holds less than one task of the higher class in EVERY resource
  the objective counts, which fails with a second kind: `c15_counterexample_two_resources`),
every optimal solution of the modelled MILP and every placement `create_task_mapping` can produce from it
respects the priorities. Missing: all instances outside F — see `c15_counterexample*` for why the full statement
cannot be proved for the present encoding. -/
theorem c15_partial_F (inst : Instance) (hwf : inst.WF)
    (hF : inst.inF1 = true ∨ (inst.inF2 = true ∧ inst.CpuOnly)) (x : Sched.Assign)
    (hopt : Optimal (milp inst) x) (pl : Placement) (hv : ValidPlacement inst x pl) :
    PriorityRespecting inst pl := by
  rcases hF with hF | ⟨hF, hco⟩
  · exact priorityRespecting_of_inF1 hwf hF hv
  · have hlv : inst.prios.length ≤ 32 := by
      simp only [Instance.inF2, Bool.and_eq_true, decide_eq_true_eq] at hF
      exact hF.2
    exact priorityRespecting_of_inF2 hwf hF hco (batches_spec hwf.levelsNonempty hlv) hopt hv

/-- F1 on its own, FULL for its fragment: if at most one request class has ready tasks, EVERY solution (optimal or
not) and every placement the mapping can make of it respects the priorities — whatever the classes ask for of the
two resource kinds, whatever the workers have, idle or busy. (The queue order decides, not the MILP.) -/
theorem c15_F1_two_resources (inst : Instance) (hwf : inst.WF) (hF : inst.inF1 = true) (x : Sched.Assign)
    (pl : Placement) (hv : ValidPlacement inst x pl) : PriorityRespecting inst pl :=
  priorityRespecting_of_inF1 hwf hF hv

/-- what the gap of `GapCache::get_gap` means with two resource kinds, for every instance, pair of classes and worker
(busy or idle): with `n` = the number of tasks of the higher class the worker can hold at all,
* the gap tasks of the lower class fit in BOTH kinds beside `n` tasks of the higher class, and
* in SOME kind the higher class asks for they take less than one task of the higher class.
With cpu-only classes the second clause is the inequality the F2 exchange rests on (`gap_mul_lt`); with two kinds it
holds in one kind only while the objective adds the shares of both — the mechanism of the witness below. -/
theorem c15_gap_two_resources (inst : Instance) (high low : Nat) (w : Worker) (hpos : 0 < inst.need high) :
    (inst.need low * gap inst high low w +
        inst.need high * fitCount w.total w.total2 (inst.need high) (inst.need2 high) ≤ w.total ∧
      inst.need2 low * gap inst high low w +
        inst.need2 high * fitCount w.total w.total2 (inst.need high) (inst.need2 high) ≤ w.total2) ∧
    (inst.need low * gap inst high low w < inst.need high ∨
      (inst.need2 high ≠ 0 ∧ inst.need2 low * gap inst high low w < inst.need2 high)) :=
  ⟨gap_fits inst high low w, gap_lt_some_kind inst high low w hpos⟩

/-! ### the property fails outside F (known finding F7) -/

/-- one worker with 5 cpus, three request classes (1, 3, 2 cpus), tasks (priority, cpus) =
(0,1) (2,1) (2,3) (0,3) (0,2) (1,1) (1,3) -/
def witness1 : Instance where
  workers := [{ id := 1, total := 50000, free := 50000 }]
  classes := [{ need := 10000 }, { need := 30000 }, { need := 20000 }]
  queues := [[(2, [(1, 2)]), (1, [(1, 6)]), (0, [(1, 1)])],
             [(2, [(1, 3)]), (1, [(1, 7)]), (0, [(1, 4)])],
             [(0, [(1, 5)])]]

/-- the solution HiGHS returns on the real scheduler for `witness1` -/
def witness1Sol : Assign :=
  assignOf [(.P 1 0, 3), (.P 1 1, 0), (.P 1 2, 1), (.B 0 1, 1), (.B 0 2, 0), (.B 1 1, 1)]

/-- the placement of the real scheduler: the three 1-cpu tasks and the 2-cpu task; the priority-2 3-cpu task
1.3 stays ready although it fits beside the priority-2 task 1.2 -/
def witness1Placement : Placement := [((1, 1), 1), ((1, 2), 1), ((1, 5), 1), ((1, 6), 1)]

/-- C15 does not hold for all instances: an instance outside F (one worker, three classes), an optimal solution
of its MILP — optimal among ALL feasible integer points — and the placement it yields, which is not
`PriorityRespecting`. -/
theorem c15_counterexample :
    witness1.WF ∧ witness1.inF1 = false ∧ witness1.inF2 = false ∧
    Optimal (milp witness1) witness1Sol ∧ ValidPlacement witness1 witness1Sol witness1Placement ∧
    ¬ PriorityRespecting witness1 witness1Placement :=
  ⟨by decide +kernel, by decide +kernel, by decide +kernel,
   optimal_of_box (ub := boxBound witness1) (by decide +kernel), by decide +kernel, by decide +kernel⟩

/-- workers with 5 and 1 cpus, two request classes (1, 2 cpus), tasks (priority, cpus) =
(0,1) (1,1) (1,1) (1,2) (1,2) (0,1) (0,2) -/
def witness2 : Instance where
  workers := [{ id := 1, total := 50000, free := 50000 }, { id := 2, total := 10000, free := 10000 }]
  classes := [{ need := 10000 }, { need := 20000 }]
  queues := [[(1, [(1, 2), (1, 3)]), (0, [(1, 1), (1, 6)])],
             [(1, [(1, 4), (1, 5)]), (0, [(1, 7)])]]

def witness2Sol : Assign :=
  assignOf [(.P 1 0, 3), (.P 1 1, 1), (.P 2 0, 1), (.B 0 2, 1), (.B 1 2, 1)]

/-- the two priority-0 1-cpu tasks 1.1 and 1.6 occupy the room of the waiting priority-1 2-cpu task 1.5 -/
def witness2Placement : Placement := [((1, 1), 1), ((1, 2), 1), ((1, 4), 1), ((1, 6), 1), ((1, 3), 2)]

/-- a second witness: two unequal workers, two classes -/
theorem c15_counterexample_two_workers :
    witness2.WF ∧ witness2.inF1 = false ∧ witness2.inF2 = false ∧
    Optimal (milp witness2) witness2Sol ∧ ValidPlacement witness2 witness2Sol witness2Placement ∧
    ¬ PriorityRespecting witness2 witness2Placement :=
  ⟨by decide +kernel, by decide +kernel, by decide +kernel,
   optimal_of_box (ub := boxBound witness2) (by decide +kernel), by decide +kernel, by decide +kernel⟩

/-- one worker with 5 cpus, two request classes: 3 cpus with weight 1 and 1 cpu with weight 10; tasks
(priority, cpus) = (2,1) (1,3) (0,1) (0,1) (0,1) (0,1) -/
def witness3 : Instance where
  workers := [{ id := 1, total := 50000, free := 50000 }]
  classes := [{ need := 30000 }, { need := 10000, weight := 100000 }]
  queues := [[(1, [(1, 2)])], [(2, [(1, 1)]), (0, [(1, 3), (1, 4), (1, 5), (1, 6)])]]

def witness3Sol : Sched.Assign := assignOf [(.P 1 0, 0), (.P 1 1, 3), (.B 0 1, 1), (.B 1 1, 1)]

/-- the priority-1 3-cpu task 1.2 stays ready although it fits beside the priority-2 task 1.1 -/
def witness3Placement : Placement := [((1, 1), 1), ((1, 3), 1), ((1, 4), 1)]

/-- a third witness: one worker and two classes, but unequal class weights — the heavier
low-priority class outweighs the waiting higher-priority task. The default-weight condition of F2 is necessary. -/
theorem c15_counterexample_weights :
    witness3.WF ∧ witness3.inF1 = false ∧ witness3.inF2 = false ∧
    (witness3.workers.length = 1 ∧ witness3.readyClasses.length = 2) ∧
    BatchesSpec witness3 (batches witness3) ∧
    Optimal (milp witness3) witness3Sol ∧ ValidPlacement witness3 witness3Sol witness3Placement ∧
    ¬ PriorityRespecting witness3 witness3Placement :=
  ⟨by decide +kernel, by decide +kernel, by decide +kernel, by decide +kernel,
   batchesSpec_of_B (by decide +kernel),
   optimal_of_box (ub := boxBound witness3) (by decide +kernel), by decide +kernel, by decide +kernel⟩

/-- one worker with 7 cpus and 4 gpus (idle), two request classes with the default weight: 3 cpus, and 1 cpu + 2 gpus
(class 2 is the harness' filler class, no ready tasks); tasks (priority, class) = (3, 1cpu+2gpus) (2, 3cpus) (2, 3cpus)
(1, 1cpu+2gpus) (1, 1cpu+2gpus) -/
def witness4 : Instance where
  workers := [{ id := 1, total := 70000, free := 70000, total2 := 40000, free2 := 40000 }]
  classes := [{ need := 30000 }, { need := 10000, need2 := 20000 }, { need := 10000 }]
  queues := [[(2, [(1, 1), (1, 2)])], [(3, [(1, 3)]), (1, [(1, 4), (1, 5)])], []]

/-- the solution HiGHS returns on the real scheduler for `witness4` -/
def witness4Sol : Sched.Assign := assignOf [(.P 1 0, 1), (.P 1 1, 2), (.B 0 2, 1), (.B 1 1, 0)]

/-- the priority-2 3-cpu task 1.2 stays ready although it fits beside the tasks 1.3 (priority 3) and 1.1 (priority 2);
the priority-1 task 1.4 runs instead: the gap next to two 3-cpu tasks (1 cpu, 4 gpus) holds one task of the other
class, and that task weighs 1/7 + 2/4 > 3/7 -/
def witness4Placement : Placement := [((1, 1), 1), ((1, 3), 1), ((1, 4), 1)]

/-- a fourth witness: the SHAPE of F2 (one worker, two request classes with ready tasks, default
weights, three priority levels) but one class also asks for the second resource kind. The solution is optimal among
ALL integer points, the batches meet their specification, and the placement is not `PriorityRespecting`. So `CpuOnly`
in `c15_partial_F` is necessary; it is what the real scheduler returns (corpus/sched/f7_w4_…). -/
theorem c15_counterexample_two_resources :
    witness4.WF ∧ witness4.inF1 = false ∧ witness4.inF2 = true ∧ ¬ witness4.CpuOnly ∧
    BatchesSpec witness4 (batches witness4) ∧
    Optimal (milp witness4) witness4Sol ∧ ValidPlacement witness4 witness4Sol witness4Placement ∧
    ¬ PriorityRespecting witness4 witness4Placement :=
  ⟨by decide +kernel, by decide +kernel, by decide +kernel, by decide +kernel,
   batchesSpec_of_B (by decide +kernel),
   optimal_of_box (ub := boxBound witness4) (by decide +kernel), by decide +kernel, by decide +kernel⟩

/-! ### the hypotheses are satisfiable -/

/-- a sorted queue with two levels: taking two tasks pops the priority-5 task and the smaller id of priority 1 -/
example : takeFromQueue 5 [(5, [(1, 9)]), (1, [(1, 2), (1, 4)])] 2 [] = .ok ([(1, [(1, 4)])], [(1, 9), (1, 2)]) := by
  rfl

example : QueueSorted [(5, [(1, 9)]), (1, [(1, 2), (1, 4)])] :=
  ⟨by decide +kernel, by decide +kernel, by decide +kernel⟩

/-- a non-trivial instance inside F1 (two unequal workers, one busy; one class with three priority levels) with an
optimal solution and a valid placement -/
def inF : Instance where
  workers := [{ id := 1, total := 30000, free := 10000, assigned := [0] }, { id := 2, total := 20000, free := 20000 }]
  classes := [{ need := 20000 }, { need := 10000 }]
  queues := [[], [(7, [(1, 1)]), (0, [(1, 2), (2, 0)]), (-3, [(1, 5)])]]

example : inF.WF ∧ inF.inF1 = true ∧
    Optimal (milp inF) (assignOf [(.P 1 1, 1), (.P 2 1, 2)]) ∧
    ValidPlacement inF (assignOf [(.P 1 1, 1), (.P 2 1, 2)]) [((1, 1), 2), ((1, 2), 1), ((2, 0), 2)] :=
  ⟨by decide +kernel, by decide +kernel,
   optimal_of_box (ub := boxBound inF) (by decide +kernel), by decide +kernel⟩

/-- a non-trivial instance inside F2 (one busy worker: 7 cpus, a 2-cpu task running; classes of 3 cpus and 1 cpu
with interleaved priorities, so cuts, a reached limit and blocker variables exist) with an optimal solution and a
valid placement -/
def inF2ex : Instance where
  workers := [{ id := 1, total := 70000, free := 50000, assigned := [2] }]
  classes := [{ need := 30000 }, { need := 10000 }, { need := 20000 }]
  queues := [[(5, [(1, 1)]), (1, [(1, 2)])], [(3, [(2, 1)]), (0, [(2, 2), (2, 3)])], []]

example : inF2ex.WF ∧ inF2ex.inF1 = false ∧ inF2ex.inF2 = true ∧
    Optimal (milp inF2ex) (assignOf [(.P 1 0, 1), (.P 1 1, 1), (.B 0 1, 0), (.B 1 1, 0)]) ∧
    ValidPlacement inF2ex (assignOf [(.P 1 0, 1), (.P 1 1, 1), (.B 0 1, 0), (.B 1 1, 0)])
      [((1, 1), 1), ((2, 1), 1)] :=
  ⟨by decide +kernel, by decide +kernel, by decide +kernel,
   optimal_of_box (ub := boxBound inF2ex) (by decide +kernel), by decide +kernel⟩

/-- the hypotheses of the F2 part are satisfiable with a second resource kind around: one worker with 7 cpus and 2 gpus
that runs a task of 2 cpus + 1 gpu; the classes with ready tasks (3 cpus, 1 cpu) ask for cpus only -/
def inF2gpu : Instance where
  workers := [{ id := 1, total := 70000, free := 50000, assigned := [2], total2 := 20000, free2 := 10000 }]
  classes := [{ need := 30000 }, { need := 10000 }, { need := 20000, need2 := 10000 }]
  queues := [[(5, [(1, 1)]), (1, [(1, 2)])], [(3, [(2, 1)]), (0, [(2, 2), (2, 3)])], []]

example : inF2gpu.WF ∧ inF2gpu.inF1 = false ∧ inF2gpu.inF2 = true ∧ inF2gpu.CpuOnly ∧
    Optimal (milp inF2gpu) (assignOf [(.P 1 0, 1), (.P 1 1, 1), (.B 0 1, 0), (.B 1 1, 0)]) ∧
    ValidPlacement inF2gpu (assignOf [(.P 1 0, 1), (.P 1 1, 1), (.B 0 1, 0), (.B 1 1, 0)])
      [((1, 1), 1), ((2, 1), 1)] :=
  ⟨by decide +kernel, by decide +kernel, by decide +kernel, by decide +kernel,
   optimal_of_box (ub := boxBound inF2gpu) (by decide +kernel), by decide +kernel⟩

/-- a non-trivial instance inside F1 with two resource kinds: workers with (4 cpus, 2 gpus; a 2-cpu task running) and
(3 cpus, no gpus); the one class with ready tasks asks for 1 cpu + 1 gpu, so only the first worker can run it -/
def inF1gpu : Instance where
  workers := [{ id := 1, total := 40000, free := 20000, assigned := [0], total2 := 20000, free2 := 20000 },
              { id := 2, total := 30000, free := 30000 }]
  classes := [{ need := 20000 }, { need := 10000, need2 := 10000 }]
  queues := [[], [(7, [(1, 1)]), (0, [(1, 2), (2, 0)]), (-3, [(1, 5)])]]

example : inF1gpu.WF ∧ inF1gpu.inF1 = true ∧ ¬ inF1gpu.CpuOnly ∧
    Optimal (milp inF1gpu) (assignOf [(.P 1 1, 2)]) ∧
    ValidPlacement inF1gpu (assignOf [(.P 1 1, 2)]) [((1, 1), 1), ((1, 2), 1)] :=
  ⟨by decide +kernel, by decide +kernel, by decide +kernel,
   optimal_of_box (ub := boxBound inF1gpu) (by decide +kernel), by decide +kernel⟩

end HqModel.C15
