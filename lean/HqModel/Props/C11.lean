import HqModel.Lemmas.JournalC11
/-!
C11 — identifiers are never reused across restarts (model M5 Journal; restore.rs / bootstrap.rs / state.rs /
core.rs / autoalloc/state.rs).
-/
namespace HqModel.C11
open HqModel.Journal

/-- **c11_fresh.** For EVERY journal `J` (no well-formedness assumed) on which `load_event_file` succeeds: the first job
id `State::new_job_id` issues after the restart is greater than every job id a `Submit` of a new job or a `JobOpen` in
`J` mentions; the first worker id `Core::new_worker_id` issues is greater than every id in a `WorkerConnected`; the
first queue id `AutoAllocState::create_id` issues is greater than every id in an `AllocationQueueCreated`; and the
restored server uid is the uid of the last `ServerStart` (jobs completed, workers lost, queues removed still count).
The seeding arithmetic (`+1` in restore.rs, post- or pre-increment of the three counters) is the literal one. -/
theorem c11_fresh (J : List Record) (R : Restorer) (h : restorerFold J = .ok R) :
    (∀ j ∈ createdJobs J, j < (issueJob (counters R)).1) ∧
    (∀ w ∈ createdWorkers J, w < (issueWorker (counters R)).1) ∧
    (∀ q ∈ createdQueues J, q < (issueQueue (counters R)).1) ∧
    R.uid = lastUid J := by
  obtain ⟨h1, h2, h3, h4⟩ := restorerFold_marks h
  exact ⟨fun j hj => Nat.lt_succ_of_le (h1 j hj), fun w hw => Nat.lt_succ_of_le (Nat.le_succ_of_le (h2 w hw)),
    fun q hq => Nat.lt_succ_of_le (h3 q hq), h4⟩

/-- **c11_iterate.** Across any number of restarts with a crash after any record (`History`: each life of the server
starts from the counters and uid restored from the journal written so far, writes `ServerStart` and then records whose
new ids come from `new_job_id` / `new_worker_id` / `create_id`): no job id, worker id or queue id is ever issued twice
(`Journal.history_noReuse`: they strictly increase along the journal) and every `ServerStart` carries the same,
non-empty uid. -/
theorem c11_iterate (J : List Record) (h : History J) :
    (createdJobs J).Nodup ∧ (createdWorkers J).Nodup ∧ (createdQueues J).Nodup ∧
    (∀ u ∈ startUids J, ∀ v ∈ startUids J, u = v) ∧ (∀ u ∈ startUids J, u ≠ "") := by
  obtain ⟨h1, h2, h3, h4, h5⟩ := history_noReuse h
  exact ⟨h1.imp (fun h => Nat.ne_of_lt h), h2.imp (fun h => Nat.ne_of_lt h), h3.imp (fun h => Nat.ne_of_lt h), h4, h5⟩

/-- `c11_iterate` in the form "the statement of `c11_fresh` is preserved by what a restarted server appends":
every id created in the appended part is greater than every id created before. -/
theorem c11_iterate_step (J : List Record) (R : Restorer) (h : restorerFold J = .ok R) (gen : String)
    (acts : List Act) (n : Nat) :
    let K := (Record.serverStart (startUid R.uid gen) :: runEpoch (counters R) acts).take n
    (∀ a ∈ createdJobs J, ∀ b ∈ createdJobs K, a < b) ∧
    (∀ a ∈ createdWorkers J, ∀ b ∈ createdWorkers K, a < b) ∧
    (∀ a ∈ createdQueues J, ∀ b ∈ createdQueues K, a < b) := by
  intro K
  obtain ⟨m1, m2, m3, _⟩ := restorerFold_marks h
  obtain ⟨h1, h2, h3, _⟩ := runEpoch_ids acts (counters R)
  exact ⟨lt_of_mark_above (K := .serverStart _ :: runEpoch _ _) n m1 h1,
    lt_of_mark_above (K := .serverStart _ :: runEpoch _ _) n m2 (h2.mono (Nat.le_succ _)),
    lt_of_mark_above (K := .serverStart _ :: runEpoch _ _) n m3 h3⟩

/-! The hypotheses are satisfiable by non-trivial journals. -/

def sampleJournal : List Record :=
  [.serverStart "abc123", .workerConnected 1 none, .submit 1 true none (.array [⟨0, 2, 1⟩] none),
   .jobOpen 2 none, .queueCreated 1, .taskStarted 1 0 0 [1], .taskFinished 1 0, .workerLost 1 .connectionLost,
   .queueRemoved 1, .workerConnected 2 none]

example : ∃ R, restorerFold sampleJournal = .ok R ∧ counters R = ⟨3, 3, 2⟩ ∧ R.uid = "abc123" := by
  exact ⟨_, rfl, rfl, rfl⟩

example : History ([.serverStart "u1", .submit 1 true none (.graph []), .workerConnected 1 none] ++
    [.serverStart "u1", .jobOpen 2 none, .workerConnected 3 none]) :=
  History.restart
    (History.first "u1" (by decide) [.submitNew none (.graph []), .connectWorker none] 3)
    (R := { jobs := [(1, ⟨none, [.graph []], [], false⟩)], maxJob := 1, maxWorker := 1, uid := "u1" })
    rfl "zzz" (by decide) [.openJob none, .connectWorker none] 3

/-- Observation recorded with C11/C12 (not a violation by the letter of either): pruning removes the records of
completed jobs and lost workers and with them their high-water marks, so an id the *pruned* journal no longer mentions
is issued again after prune + restart (here: job 1 and worker 1 are gone; the next job id is 1 again, the next
worker id 2 although a worker 2 had existed). -/
theorem c11_prune_lowers_marks :
    let J : List Record := [.serverStart "u", .workerConnected 1 none, .workerConnected 2 none,
      .submit 1 true none (.array [⟨0, 1, 1⟩] none), .taskStarted 1 0 0 [1], .taskFinished 1 0, .jobCompleted 1,
      .workerLost 1 .stopped, .workerLost 2 .stopped]
    ∃ R, restorerFold (prune [] [] J) = .ok R ∧ (issueJob (counters R)).1 = 1 ∧ (issueWorker (counters R)).1 = 2 := by
  exact ⟨_, rfl, rfl, rfl⟩

end HqModel.C11
