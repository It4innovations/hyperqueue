import HqModel.Sched.Priority
/-!
M7 Sched, part 5: a closed-form specification of what `create_task_batches` computes (no loop): sizes and limit
flags from the task counts, every cut sits at a priority level of its queue and names exactly the other classes
that hold tasks of higher priority, and for every level that needs a cut there is one (possibly merged with the
cut of an earlier level of the same class: same blockers, smaller size).

`BatchesSpec inst bs` is decidable; the driver evaluates it on `batches inst` for every generated instance
(`out spec`), `Lemmas/SchedExchange.lean` uses it as the interface between the loop and the exchange argument.
-/
namespace HqModel.Sched

/-- number of ready tasks of class `c` with priority strictly above `p` -/
def above (inst : Instance) (c : Nat) (p : Int) : Nat :=
  (inst.tasks.filter fun t => t.cls = c && decide (p < t.prio)).length

/-- number of ready tasks of class `c` -/
def total (inst : Instance) (c : Nat) : Nat := (inst.tasks.filter fun t => t.cls = c).length

/-- the blockers of a cut of class `c` at priority level `p`: the other ready classes with tasks above `p`, with
their count — or `none` when that count exceeds their limit -/
def blockersAt (inst : Instance) (c : Nat) (p : Int) : List (Nat × Option Nat) :=
  (inst.readyClasses.filter fun c' => c' != c && above inst c' p > 0).map fun c' =>
    (c', if above inst c' p > inst.limitOf c' then none else some (above inst c' p))

structure BatchesSpec (inst : Instance) (bs : List Batch) : Prop where
  /-- the batches are the ready classes that some worker can run, in class order -/
  classes : bs.map (·.rq) = inst.readyClasses.filter fun c => inst.limitOf c > 0
  limit : ∀ b ∈ bs, b.limit = inst.limitOf b.rq
  sizeReached : ∀ b ∈ bs, b.reached = true → b.size = b.limit ∧ b.limit < total inst b.rq
  sizeAll : ∀ b ∈ bs, b.reached = false → b.size = total inst b.rq ∧ b.size ≤ b.limit
  /-- every cut is the cut of a level of its queue -/
  cutSound : ∀ b ∈ bs, ∀ cut ∈ b.cuts, ∃ t ∈ inst.tasks, t.cls = b.rq ∧
      cut.size = above inst b.rq t.prio ∧ cut.size ≤ b.limit ∧ cut.blockers = blockersAt inst b.rq t.prio
  /-- every level that is reached before the limit and has blockers is covered by a cut -/
  cutExists : ∀ b ∈ bs, ∀ t ∈ inst.tasks, t.cls = b.rq → above inst b.rq t.prio ≤ b.limit →
      blockersAt inst b.rq t.prio ≠ [] →
      ∃ cut ∈ b.cuts, cut.size ≤ above inst b.rq t.prio ∧ cut.blockers = blockersAt inst b.rq t.prio
  cutsSorted : ∀ b ∈ bs, b.cuts.Pairwise fun c1 c2 => c1.size ≤ c2.size

/-- the decidable form evaluated by the driver -/
def batchesSpecB (inst : Instance) (bs : List Batch) : Bool :=
  decide (bs.map (·.rq) = inst.readyClasses.filter fun c => inst.limitOf c > 0) &&
  bs.all (fun b =>
    decide (b.limit = inst.limitOf b.rq) &&
    (if b.reached then decide (b.size = b.limit ∧ b.limit < total inst b.rq)
     else decide (b.size = total inst b.rq ∧ b.size ≤ b.limit)) &&
    b.cuts.all (fun cut => inst.tasks.any fun t =>
      decide (t.cls = b.rq) && decide (cut.size = above inst b.rq t.prio) && decide (cut.size ≤ b.limit) &&
      decide (cut.blockers = blockersAt inst b.rq t.prio)) &&
    inst.tasks.all (fun t =>
      !(decide (t.cls = b.rq)) || !(decide (above inst b.rq t.prio ≤ b.limit)) || (blockersAt inst b.rq t.prio).isEmpty ||
      b.cuts.any fun cut => decide (cut.size ≤ above inst b.rq t.prio) &&
        decide (cut.blockers = blockersAt inst b.rq t.prio)) &&
    decide (b.cuts.Pairwise fun c1 c2 => c1.size ≤ c2.size))

end HqModel.Sched
