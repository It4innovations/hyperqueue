/-!
`Priority::from_user_priority` (`internal/common/priority.rs`) on bit vectors:
`Priority((user_priority.0 as u64 ^ 0x8000_0000) << 32)` — the `as u64` of an `i32` sign-extends.
Queues and batches compare `Priority` values (u64); the instance of the scheduling model carries the user
priorities (i32, as `Int`). `prio_embedding_mono` (Props/C15.lean, on Lemmas/SchedQueueOrder.lean) shows that both orders agree.
-/
namespace HqModel.Sched

def fromUserPriority (x : BitVec 32) : BitVec 64 := ((x.signExtend 64) ^^^ 0x80000000#64) <<< 32

end HqModel.Sched
