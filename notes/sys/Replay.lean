import HqModel.Lemmas.SysPair
import Driver.CoreMain
/-!
PROTOTYPE of the link check of the composed model (notes/sys.md, section 8). Not part of the build.

  hqv job  gen --seed S --shard 0/1 --cases N --tier T > job.trace
  hqv core gen --seed S --shard 0/1 --cases N --tier T > core.trace      (same arguments: same runs)
  python3 notes/sys/merge.py job.trace core.trace > sys.trace            (one `S …` line per world action)
  edit the path in the `#eval` at the end of this file, then
  cd lean && lake build HqModel.Lemmas.SysPair Driver.CoreMain && lake env lean ../notes/sys/Replay.lean

Per action it evaluates `decide (OpOk s op)`, runs `Sys.step`, compares the delivered callbacks with the job view's
`op cb.*` lines of the same `act` (the `X …` suffix of the merged line; `?` = more sub-operations follow) and checks the
registry equality of `sys_registry` on the new state. Expected last line: all counters except cases/steps are 0.
-/
open HqModel HqModel.Sys

namespace Replay

def parseOptNat (s : String) : Option (Option Nat) := if s = "-" then some none else s.toNat?.map some

def parseRanges (s : String) : Option Job.IntArray :=
  if s = "-" then some [] else
  (s.splitOn ";").mapM fun r =>
    match r.splitOn ":" with
    | [a, b, c] => do
      let x ← a.toNat?; let y ← b.toNat?; let z ← c.toNat?
      pure ({ start := x, count := y, step := z } : Job.IntRange)
    | _ => none

def parseGraph (s : String) : Option (List (Nat × List Nat)) :=
  (s.splitOn ";").mapM fun item =>
    match item.splitOn ":" with
    | [a, b] => do
      let t ← a.toNat?
      let deps ← if b = "" then some [] else (b.splitOn ".").mapM String.toNat?
      pure (t, deps)
    | _ => none

def parseStatus : String → Option Job.Status
  | "waiting" => some .waiting | "running" => some .running | "finished" => some .finished
  | "failed" => some .failed | "canceled" => some .canceled | "aborted" => some .aborted
  | "opened" => some .opened | _ => none

def parseNts (s : String) : Option (List Core.NewTask) :=
  if s = "-" then some [] else (s.splitOn ",").mapM CoreDriver.parseNewTask

/-- one world action from the merged trace -/
def parseOp (s : State) (toks : List String) : Option Op :=
  match toks with
  | ["open", mf] => do pure (.openJob (← parseOptNat mf))
  | ["submit", job, mf, "array", a, b, nts] => do
    pure (.submit (← parseOptNat job) (← parseOptNat mf) (.array (← parseRanges a) (← parseOptNat b)) (← parseNts nts))
  | ["submit", job, mf, "graph", g, nts] => do
    pure (.submit (← parseOptNat job) (← parseOptNat mf) (.graph (← parseGraph g)) (← parseNts nts))
  | ["close", j] => do pure (.close (← j.toNat?))
  | ["cancel", j, ids] => do pure (.cancel (← j.toNat?) (← CoreDriver.parseTidsSep "," ids))
  | ["forget", j, sts] => do
    let allowed ← if sts = "-" then some [] else (sts.splitOn ",").mapM parseStatus
    pure (.forget (← j.toNat?) allowed)
  | "core" :: rets :: sub => do
    let rets ← CoreDriver.parseRets rets
    let (cop, _) ← CoreDriver.subOp s.core rets sub
    match cop with
    | .newWorker w => pure (.newWorker w)
    | .removeWorker w reason f order rets => pure (.removeWorker w reason f order rets)
    | .newRq rqv => pure (.newRq rqv)
    | .update w us rets => pure (.update w us rets)
    | .retracted w ids => pure (.retracted w ids)
    | .schedule sol => pure (.schedule sol)
    | _ => none
  | _ => none

def showTid (t : TaskId) : String := s!"{t.1}.{t.2}"
def showCb : Core.Cb → String
  | .started t _ _ _ => s!"started:{showTid t}"
  | .finished t => s!"finished:{showTid t}"
  | .error t _ => s!"error:{showTid t}"
  | .workerNew w => s!"wnew:{w}"
  | .workerLost w _ _ => s!"wlost:{w}"

structure Stats where
  steps : Nat := 0
  stops : Nat := 0
  badOk : Nat := 0
  cbMismatch : Nat := 0
  badParse : Nat := 0
  regMismatch : Nat := 0
  cases : Nat := 0

def tidLt (a b : TaskId) : Bool := a.1 < b.1 || (a.1 == b.1 && a.2 < b.2)

partial def loop (h : IO.FS.Stream) (s : State) (dead : Bool) (st : Stats) (pendingCbs : List String) : IO Stats := do
  let line ← h.getLine
  if line.isEmpty then return st
  let toks := (line.trimAscii.toString.splitOn " ").filter (· ≠ "")
  match toks with
  | "C" :: _ :: params =>
    let get (key : String) (d : Nat) : Nat :=
      match params.findSome? (fun t => CoreDriver.dropPrefix (key ++ "=") t) with
      | some v => v.toNat?.getD d
      | none => d
    loop h (initState (get "reserve" 1) (get "max" 1)) false { st with cases := st.cases + 1 } []
  | ["E"] => loop h s dead st []
  | "S" :: rest =>
    if dead then loop h s dead st [] else
    -- split off the expected callbacks
    let body := rest.takeWhile (· ≠ "X")
    let exp := (rest.dropWhile (· ≠ "X")).drop 1 |>.headD "-"
    match parseOp s body with
    | none =>
      IO.println s!"BADPARSE {line.trimAscii}"
      loop h s true { st with badParse := st.badParse + 1 } []
    | some op =>
      let ok := decide (OpOk s op)
      let st := if ok then st else { st with badOk := st.badOk + 1 }
      if !ok then IO.println s!"OPOK-FALSE case-line: {line.trimAscii.toString.take 200}"
      match step s op with
      | .error e =>
        IO.println s!"STOP {repr e} at: {line.trimAscii.toString.take 300}"
        loop h s true { st with steps := st.steps + 1, stops := st.stops + 1 } []
      | .ok (s', o) =>
        let cbs := pendingCbs ++ o.core.cbs.map showCb
        let (mism, pend) :=
          if exp = "?" then (false, cbs)
          else
            let got := if cbs.isEmpty then "-" else ",".intercalate cbs
            (got ≠ exp, [])
        if mism then IO.println s!"CB-MISMATCH got={cbs} exp={exp} at: {line.trimAscii.toString.take 200}"
        -- registry equality (theorem sys_registry): evaluate on the state
        let ids := (s'.core.tasks.map (·.id))
        let reg := ids.all s'.job.sent.contains && s'.job.sent.all ids.contains
        if !reg then IO.println s!"REGISTRY-MISMATCH at: {line.trimAscii.toString.take 200}"
        let st := { st with steps := st.steps + 1, cbMismatch := st.cbMismatch + (if mism then 1 else 0),
                            regMismatch := st.regMismatch + (if reg then 0 else 1) }
        loop h s' false st pend
  | _ => loop h s dead st pendingCbs

def runFile (path : String) : IO Unit := do
  let h ← IO.FS.Handle.mk path .read
  let st ← loop (IO.FS.Stream.ofHandle h) {} false {} []
  IO.println s!"cases={st.cases} steps={st.steps} stops={st.stops} opok-false={st.badOk} cb-mismatch={st.cbMismatch} registry-mismatch={st.regMismatch} bad-parse={st.badParse}"

end Replay

#eval Replay.runFile "/tmp/sysw/replay/sys3.trace"
